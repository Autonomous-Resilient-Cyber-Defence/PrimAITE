/-
C16 — the local command path: the credentials supplied WITH a local command / a local login are the credential check, every time.

`Terminal.send_local_command`, `Terminal.login`, `Node.local_login` and the action `node-send-local-command` all go through
`UserSessionManager._login(local=True)`, whose result is the only credential check a local command gets.  In the code (and in the
model, `localLogin`) `_login` authenticates BEFORE it looks at the current local session, so "that user is already logged in" never
replaces the password check (seeded change C16-d moved the "already logged in" case in front of `authenticate_user`).

* `C16_local_command_refused_without_credentials`, `C16_local_login_refused_without_credentials`: in EVERY state — whoever is logged
  in locally, whatever happened before — a local command / login whose (user, password) is not the current password of an existing,
  enabled account of that node (node ON, both managers RUNNING) changes NOTHING on any node.
* `C16_local_command_executes_iff`: the carried command is executed iff the node is ON, the credentials are valid and the terminal
  is RUNNING.
* three situations spelt out as corollaries: while that user is logged in locally (`…_while_logged_in`), after the account
  was disabled (`…_after_disable`, and `C16_disabled_stays_disabled`: over every operation sequence without `enable_user` for that
  account), after its password changed (`…_after_password_change`).
* `C16_local_command_needs_credentials_run`: the run-level form.
-/
import PrimaiteModel.Props.C16
namespace Primaite.Session

/-! ### translator tie -/

/-- **C16, the local command path as written.** `send_local_command` hands the credentials of THIS request to
`_process_local_login`, executes only `if local_connection`; `_process_local_login` = `local_login` then `if connection_uuid` (a
connection is created only from a successful login); `Node.local_login`, `UserSessionManager.local_login` and `Terminal.login`
delegate without a check of their own; inside `_login`, `authenticate_user` is called and `if not user: return None` comes BEFORE the
first read of `self.local_session` (model: `localLogin` tests `loginOk` first; the class of seeded change C16-d), and `_login` returns
nothing but `None` or `session_id`. -/
theorem C16_gen_local_path :
    Gen.Session.localCommandHandler =
      ["command: str = request[2]['command']",
       "local_connection = self._process_local_login(username=request[0], password=request[1])",
       "if local_connection: outcome = local_connection.execute(command); if outcome: return RequestResponse(status='success', data={'reason': outcome})"] ∧
    Gen.Session.processLocalLogin =
      ["connection_uuid = self.parent.user_session_manager.local_login(username=username, password=password)",
       "if connection_uuid: return self._create_local_connection(connection_uuid=connection_uuid, session_id='Local_Connection') else: return None"] ∧
    Gen.Session.nodeLocalLogin = ["return self.user_session_manager.local_login(username, password)"] ∧
    Gen.Session.usmLocalLogin = ["return self._login(username=username, password=password, local=True)"] ∧
    Gen.Session.terminalLogin =
      ["if self.operating_state != ServiceOperatingState.RUNNING: return None",
       "if ip_address: return self._send_remote_login(username=username, password=password, ip_address=ip_address) else: return self._process_local_login(username=username, password=password)"] ∧
    Gen.Session.loginAuthenticatesBeforeLookingAtTheLocalSession = true ∧
    Gen.Session.loginReturnValues = ["None", "session_id"] :=
  ⟨rfl, rfl, rfl, rfl, rfl, rfl, rfl⟩

/-! ### refused without the current credentials, in every state -/

theorem localLogin_refused {n : Net} {y : Nat} {u p : String} {b : Node} (hb : n.node y = some b) (h : ¬ AuthOK b u p) :
    localLogin n y u p = (n, none) := by
  have hok : b.loginOk u p = false := by
    cases hk : b.loginOk u p with
    | false => rfl
    | true => exact (h ((loginOk_iff _ _ _).mp hk)).elim
  simp [localLogin, hb, hok]

/-- **C16, local command (refusal).** In every state: a local terminal command whose credentials are not the current password of an
existing, enabled account of the node (or whose node / managers are not up) changes nothing anywhere — no session, no connection, no
effect of the carried command — whether or not that user (or anybody) is logged in locally at that moment.  (The request is still
answered "success": the handler says so whatever happened; `C16_local_command_executes_iff` is about the effect.) -/
theorem C16_local_command_refused_without_credentials (n : Net) (y : Nat) (u p : String) (c : Cmd) (b : Node)
    (hb : n.node y = some b) (h : ¬ AuthOK b u p) : (step n (.req y (.localCmd u p c))).1 = n := by
  simp only [step, execCmd, opLocalCmdK, hb]
  split
  · rfl
  · rw [localLogin_refused hb h]

/-- **C16, local login (refusal).** The same for `Node.local_login`: answer failure, nothing changes. -/
theorem C16_local_login_refused_without_credentials (n : Net) (y : Nat) (u p : String) (b : Node)
    (hb : n.node y = some b) (h : ¬ AuthOK b u p) : step n (.localLogin y u p) = (n, .failure) := by
  simp only [step, opLocalLogin, hb, localLogin_refused hb h]
  rfl

/-- **C16, local command (both directions).** The command carried by a local terminal command is executed — the operation is
`Carried` — iff the node is ON, the credentials supplied with THIS command pass `_login` (existing enabled account, current password,
both managers RUNNING) and the terminal is RUNNING. -/
theorem C16_local_command_executes_iff (n : Net) (y : Nat) (u p : String) (c : Cmd) (b : Node) (hb : n.node y = some b) :
    Carried n (.req y (.localCmd u p c)) ↔ (b.isOn = true ∧ AuthOK b u p ∧ b.term.running = true) := by
  constructor
  · intro h
    cases h with
    | remote x z c' a' b' cn hop => cases hop
    | «local» y' u' p' c' nd id hop hnd hon hok hrun hid heq =>
      cases hop
      rw [hb] at hnd; cases hnd
      exact ⟨hon, (loginOk_iff _ _ _).mp hok, hrun⟩
  · rintro ⟨hon, hauth, hrun⟩
    have hok := (loginOk_iff _ _ _).mpr hauth
    obtain ⟨id, hid⟩ : ∃ id, (localLogin n y u p).2 = some id := by
      simp [localLogin, hb, hok]
    refine Carried.local y u p c b id rfl hb hon hok hrun hid ?_
    simp only [step, execCmd, opLocalCmdK, hb, hon, hid, hrun, Bool.not_true, Bool.false_eq_true, if_false, if_true]

/-! ### the three situations -/

theorem not_authOK_of_password {b : Node} {u p : String} {w : User} (hw : b.findUser u = some w) (hp : w.password ≠ p) :
    ¬ AuthOK b u p := by
  rintro ⟨_, _, _, w', hw', _, hp'⟩
  rw [hw] at hw'; cases hw'; exact hp hp'

theorem not_authOK_of_disabled {b : Node} {u p : String} {w : User} (hw : b.findUser u = some w) (hd : w.disabled = true) :
    ¬ AuthOK b u p := by
  rintro ⟨_, _, _, w', hw', hd', _⟩
  rw [hw] at hw'; cases hw'; rw [hd] at hd'; cases hd'

theorem C16_local_command_refused_wrong_password (n : Net) (y : Nat) (u p : String) (c : Cmd) (b : Node) (w : User)
    (hb : n.node y = some b) (hw : b.findUser u = some w) (hp : w.password ≠ p) :
    (step n (.req y (.localCmd u p c))).1 = n ∧ step n (.localLogin y u p) = (n, .failure) :=
  ⟨C16_local_command_refused_without_credentials n y u p c b hb (not_authOK_of_password hw hp),
   C16_local_login_refused_without_credentials n y u p b hb (not_authOK_of_password hw hp)⟩

/-- … while that very user is logged in locally: a wrong password is refused, and the local session is the identical record. -/
theorem C16_local_command_refused_while_logged_in (n : Net) (y : Nat) (u p : String) (c : Cmd) (b : Node) (w : User) (l : LSession)
    (hb : n.node y = some b) (_hl : b.loc = some l) (_hu : l.user = u) (hw : b.findUser u = some w) (hp : w.password ≠ p) :
    (step n (.req y (.localCmd u p c))).1 = n ∧ step n (.localLogin y u p) = (n, .failure) :=
  C16_local_command_refused_wrong_password n y u p c b w hb hw hp

/-- … for a disabled account, whatever password is supplied and whoever is logged in. -/
theorem C16_local_command_refused_when_disabled (n : Net) (y : Nat) (u p : String) (c : Cmd) (b : Node) (w : User)
    (hb : n.node y = some b) (hw : b.findUser u = some w) (hd : w.disabled = true) :
    (step n (.req y (.localCmd u p c))).1 = n ∧ step n (.localLogin y u p) = (n, .failure) :=
  ⟨C16_local_command_refused_without_credentials n y u p c b hb (not_authOK_of_disabled hw hd),
   C16_local_login_refused_without_credentials n y u p b hb (not_authOK_of_disabled hw hd)⟩

theorem find_updUser (l : List User) (u : String) (f : User → User) (hf : ∀ v, (f v).name = v.name) :
    (updUser l u f).find? (fun w => w.name == u) = (l.find? (fun w => w.name == u)).map f := by
  induction l with
  | nil => rfl
  | cons v t ih =>
    unfold updUser
    by_cases hv : (v.name == u) = true
    · simp [hv, hf]
    · simp only [hv, Bool.false_eq_true, if_false, List.find?_cons, ih]

theorem find_updUser_other (l : List User) (u u' : String) (f : User → User) (hn : ∀ v, (f v).name = v.name) (hne : u' ≠ u) :
    (updUser l u' f).find? (fun w => w.name == u) = l.find? (fun w => w.name == u) := by
  induction l with
  | nil => rfl
  | cons v t ih =>
    unfold updUser
    by_cases hv : (v.name == u') = true
    · have hvu : (v.name == u) = false := by
        have : v.name = u' := by simpa using hv
        simp [this, hne]
      simp [hv, hn, hvu]
    · simp only [hv, Bool.false_eq_true, if_false, List.find?_cons, ih]

/-- … right after a successful `disable_user` (sent directly; through a terminal it is the carried request of its own): the next
local command / login for that account is refused with any password. -/
theorem C16_local_command_refused_after_disable (n : Net) (y : Nat) (u p : String) (c : Cmd)
    (h : (step n (.req y (.disableUser u))).2 = .success) :
    (step (step n (.req y (.disableUser u))).1 (.req y (.localCmd u p c))).1 = (step n (.req y (.disableUser u))).1 ∧
    step (step n (.req y (.disableUser u))).1 (.localLogin y u p) = ((step n (.req y (.disableUser u))).1, .failure) := by
  have hs : ∀ m, step m (.req y (.disableUser u)) = opDisableUser m y u := fun _ => rfl
  rw [hs] at h ⊢
  rcases opDisableUser_cases n y u with ⟨_, h0⟩ | ⟨nd, w, hnd, _, _, hw, _, _, h0, _⟩
  · exact (h0 h).elim
  rw [h0]
  have hb : (n.upd y (Node.setDisabled u)).node y = some (nd.setDisabled u) := by simp [hnd]
  have hw' : (nd.setDisabled u).findUser u = some { w with disabled := true } := by
    unfold Node.findUser at hw ⊢
    show (updUser nd.users u (fun v => { v with disabled := true })).find? _ = _
    rw [find_updUser nd.users u (fun v => { v with disabled := true }) (fun _ => rfl), hw]; rfl
  exact C16_local_command_refused_when_disabled _ y u p c _ _ hb hw' rfl

/-- … right after a successful password change: the OLD password no longer runs a local command (the user's local session was
ended by the change; a fresh login needs the new password). -/
theorem C16_local_command_refused_after_password_change (n : Net) (y : Nat) (u old new : String) (c : Cmd) (hne : new ≠ old)
    (h : (step n (.req y (.changePassword u old new))).2 = .success) :
    (step (step n (.req y (.changePassword u old new))).1 (.req y (.localCmd u old c))).1 = (step n (.req y (.changePassword u old new))).1 ∧
    step (step n (.req y (.changePassword u old new))).1 (.localLogin y u old) = ((step n (.req y (.changePassword u old new))).1, .failure) := by
  have hs : ∀ m, step m (.req y (.changePassword u old new)) = opChangePassword m y u old new := fun _ => rfl
  rw [hs] at h ⊢
  rcases opChangePassword_cases n y u old new with ⟨_, h0⟩ | ⟨nd, w, hnd, _, _, hw, _, h0, _⟩
  · exact (h0 h).elim
  · rw [h0]
    have hb0 : (n.upd y (Node.setPassword u new)).node y = some (nd.setPassword u new) := by simp [hnd]
    obtain ⟨b, hb, hshr⟩ := (shr_logoutUser (n.upd y (Node.setPassword u new)) y u).node y _ hb0
    have hw' : b.findUser u = some { w with password := new } := by
      unfold Node.findUser
      rw [hshr.users]
      show (updUser nd.users u (fun v => { v with password := new })).find? _ = _
      unfold Node.findUser at hw
      rw [find_updUser nd.users u (fun v => { v with password := new }) (fun _ => rfl), hw]; rfl
    exact C16_local_command_refused_wrong_password _ y u old c b _ hb hw' hne

/-! ### what happens to one account of one node -/

/-- node `j`: if it is node `y`, the account `u` is still there and its entry is related to the old one by `S` -/
def KeepAcct (y : Nat) (u : String) (S : User → User → Prop) : Nat → Node → Node → Prop := fun j a b =>
  j = y → ∀ w, a.findUser u = some w → ∃ w', b.findUser u = some w' ∧ S w w'

section KeepAcct
variable {S : User → User → Prop} (hr : ∀ w, S w w) (y : Nat) (u : String)
include hr

theorem keepAcct_same (j : Nat) (a b : Node) (h : b.users = a.users) : KeepAcct y u S j a b :=
  fun _ w hw => ⟨w, by unfold Node.findUser at hw ⊢; rw [h]; exact hw, hr w⟩

theorem keepAcct_frame (ht : ∀ a b c, S a b → S b c → S a c) : Frame (KeepAcct y u S) :=
  { refl := fun _ _ _ w hw => ⟨w, hw, hr w⟩,
    trans := fun _ _ _ _ h1 h2 hj w hw => by
      obtain ⟨w1, hw1, hs1⟩ := h1 hj w hw
      obtain ⟨w2, hw2, hs2⟩ := h2 hj w1 hw1
      exact ⟨w2, hw2, ht _ _ _ hs1 hs2⟩,
    shr := fun j a b h => keepAcct_same hr y u j a b h.users,
    data := fun j a b h => keepAcct_same hr y u j a b (data_users h) }

theorem keepAcct_addUser (j : Nat) (a : Node) (w0 : User) : KeepAcct y u S j a (a.addUser w0) :=
  fun _ w hw => ⟨w, by unfold Node.findUser at hw ⊢; show (a.users ++ [w0]).find? _ = _; rw [List.find?_append, hw]; rfl, hr w⟩

theorem keepAcct_upd (u' : String) (f : User → User) (hn : ∀ v, (f v).name = v.name) (j : Nat)
    (hS : j = y → u' = u → ∀ v, S v (f v)) (a a' : Node) (ha' : a'.users = updUser a.users u' f) : KeepAcct y u S j a a' := by
  intro hj w hw
  unfold Node.findUser at hw ⊢
  rw [ha']
  by_cases huu : u' = u
  · subst huu
    exact ⟨f w, by rw [find_updUser _ _ _ hn, hw]; rfl, hS hj rfl w⟩
  · exact ⟨w, by rw [find_updUser_other _ _ _ _ hn huu]; exact hw, hr w⟩

/-- One operation and the entry of account `u` on node `y`: `disable_user` may set its `disabled`, only a `change_password` for `u`
(at any nesting depth) may write its password, only `enable_user y u` may clear its `disabled`; nothing else touches it. -/
theorem step_keepAcct (ht : ∀ a b c, S a b → S b c → S a c) (n : Net) (op : Op) (hDis : ∀ v, S v { v with disabled := true })
    (hPw : op.noChpw u = false → ∀ v p, S v { v with password := p })
    (hEn : op = .enableUser y u → ∀ v, S v { v with disabled := false }) : Net.Rel (KeepAcct y u S) n (step n op).1 := by
  have F := keepAcct_frame hr y u ht
  have same : ∀ j (a b : Node), b.users = a.users → KeepAcct y u S j a b := keepAcct_same hr y u
  cases op with
  | req x c =>
    exact F.execWith (keepAcct_addUser hr y u) (fun j a _ => same j a _ rfl) (fun j a _ _ => same j a _ rfl)
      (fun n x v => F.toPre.disableUser n x v
        (fun a => keepAcct_upd hr y u v (fun w => { w with disabled := true }) (fun _ => rfl) x (fun _ _ => hDis) a _ rfl))
      c (fun v hv j a p =>
        keepAcct_upd hr y u v (fun w => { w with password := p }) (fun _ => rfl) j (fun _ he w => hPw (he ▸ hv) w p) a _ rfl)
      (fun _ n x v p => F.toPre.localLogin n x v p (fun a _ => same x a _ rfl)) (fun _ j a _ => same j a _ rfl)
      (fun _ j a _ => same j a _ rfl) n x
  | localLogin y' v p => rw [step, opLocalLogin_fst]; exact F.toPre.localLogin n y' v p (fun a _ => same y' a _ rfl)
  | _ =>
    exact F.plain (keepAcct_addUser hr y u) n _ (fun y' u' he a => keepAcct_upd hr y u u' (fun w => { w with disabled := false })
      (fun _ => rfl) y' (fun hj hu => hEn (by rw [he, hj, hu])) a _ rfl) nofun nofun

omit hr in
theorem run_keepAcct {φ : User → Prop} (hφ : ∀ w w', S w w' → φ w → φ w') (ops : List Op)
    (hstep : ∀ n, ∀ op ∈ ops, Net.Rel (KeepAcct y u S) n (step n op).1) (n : Net)
    (h : ∀ b, n.node y = some b → ∃ w, b.findUser u = some w ∧ φ w) :
    ∀ b, (run n ops).node y = some b → ∃ w, b.findUser u = some w ∧ φ w := by
  induction ops generalizing n with
  | nil => exact h
  | cons op ops ih =>
    refine ih (fun m o ho => hstep m o (List.mem_cons_of_mem _ ho)) _ (fun b hb => ?_)
    obtain ⟨a, ha, hab⟩ := Net.Rel.back (hstep n op (List.mem_cons_self ..)) hb
    obtain ⟨w, hw, hq⟩ := h a ha
    obtain ⟨w', hw', hs⟩ := hab rfl w hw
    exact ⟨w', hw', hφ w w' hs hq⟩

end KeepAcct

/-! ### run level -/

/-- the account `u` of node `y` exists and is disabled -/
def DisabledAt (y : Nat) (u : String) (n : Net) : Prop := ∀ b, n.node y = some b → ∃ w, b.findUser u = some w ∧ w.disabled = true

/-- **C16, disabled stays disabled.** Over every operation sequence that contains no `enable_user` for that very account (the only
writer of `disabled = False`, Python API only), a disabled account stays disabled — so by
`C16_local_command_refused_when_disabled` no local command / login for it is accepted at any later time, whatever password is
supplied and whoever is logged in locally (and by `C16_remote_login_ok_iff` / `C16_usm_login_ok_iff` no remote login either). -/
theorem C16_disabled_stays_disabled (ops : List Op) (n : Net) (y : Nat) (u : String) (hno : Op.enableUser y u ∉ ops)
    (h : DisabledAt y u n) : DisabledAt y u (run n ops) :=
  run_keepAcct (S := fun w w' => w.disabled = true → w'.disabled = true) y u (fun _ _ hs hd => hs hd) ops
    (fun n op hop => step_keepAcct (fun _ hd => hd) y u (fun _ _ _ h1 h2 hd => h2 (h1 hd)) n op (fun _ _ => rfl) (fun _ _ _ hd => hd)
      (fun he => (hno (he ▸ hop)).elim)) n h

/-- **C16, local commands (run level).** For every operation sequence `ops` from any state: in the state reached, a local command
for account `u` is executed only if the credentials supplied with that command are, in THAT state, the current password of an
existing enabled account (node ON, both managers and the terminal RUNNING) — otherwise nothing changes. -/
theorem C16_local_command_needs_credentials_run (ops : List Op) (n : Net) (y : Nat) (u p : String) (c : Cmd) (b : Node)
    (hb : (run n ops).node y = some b) :
    (Carried (run n ops) (.req y (.localCmd u p c)) → AuthOK b u p) ∧
    (¬ AuthOK b u p → (step (run n ops) (.req y (.localCmd u p c))).1 = run n ops) :=
  ⟨fun h => ((C16_local_command_executes_iff _ y u p c b hb).mp h).2.1,
   C16_local_command_refused_without_credentials _ y u p c b hb⟩

/-! ### non-vacuity: the situations of seeded change C16-d on the model -/

def llogin1 : Op := .localLogin 1 "admin" "admin"
def lcmd1 (p : String) (k : Nat) : Op := .req 1 (.localCmd "admin" p (.file k))

-- logged in locally as admin; a local command / login with a wrong password does nothing, with the right one it runs
example : ((run demoNet [llogin1, lcmd1 "nope" 1]).node 1).map (·.files) = some [] := by decide
example : (step (run demoNet [llogin1]) (.localLogin 1 "admin" "nope")).2 = .failure := by decide
example : ((run demoNet [llogin1, lcmd1 "admin" 1]).node 1).map (·.files) = some [1] := by decide
-- … after the account was disabled (a second administrator exists), also with the right password and while still logged in
example : ((run demoNet [.req 1 (.addUser "adm2" "pw2" true), llogin1, .req 1 (.disableUser "admin"), lcmd1 "admin" 1]).node 1).map
    (fun b => (b.files, b.loc.isSome)) = some ([], true) := by decide
-- … after a password change: old password refused, new one accepted
example : ((run demoNet [llogin1, chpw1, lcmd1 "admin" 1, lcmd1 "pw1" 2]).node 1).map (·.files) = some [2] := by decide
-- hypotheses of C16_disabled_stays_disabled
example : ((run demoNet [.req 1 (.addUser "adm2" "pw2" true), .req 1 (.disableUser "adm2")]).node 1).map
    (fun b => (b.findUser "adm2").map (·.disabled)) = some (some true) := by decide

end Primaite.Session
