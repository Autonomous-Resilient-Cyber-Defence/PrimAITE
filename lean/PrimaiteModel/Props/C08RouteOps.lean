/-
C08, part 7 — route look-ups are a FUNCTION of the table as it is now: the history of earlier look-ups, of the order in which
routes and default routes arrived, does not matter; a new default route, a replaced default route and a new route take effect
at the very next look-up.  (The class of defect "a memo of look-ups that goes stale".)  The model side is true by
construction — `findBestRoute` is a pure function and the driver's `rt-find` leaves the table alone —; the tie to the code is
the Gen obligation `findBestRouteIsFunctionOfTable` (the method reads only `self.routes` / `self.default_route`, writes
nothing, the class has no other field or writer) and R-route's interleaved histories.
-/
import PrimaiteModel.Props.C08
import PrimaiteModel.Gen.Forward
namespace Primaite.Route

/-- what the API of `RouteTable` offers, as the driver executes it. -/
inductive TblOp
  | add (r : Route)
  | default (nh : Ip)
  | find (dst : Ip)
deriving DecidableEq, Repr

/-- a history: the final table and the answers of its look-ups, in order. -/
def runTbl : Table → List TblOp → Table × List Result
  | t, [] => (t, [])
  | t, .add r :: ops => runTbl (addRoute t r) ops
  | t, .default nh :: ops => runTbl (setDefault t nh) ops
  | t, .find dst :: ops => let x := runTbl t ops; (x.1, findBestRoute t dst :: x.2)

def TblOp.isFind : TblOp → Bool
  | .find _ => true
  | _ => false

/-- look-ups leave no trace: deleting any look-ups from a history changes neither the final table … -/
theorem C08_lookups_leave_no_trace (t : Table) (ops : List TblOp) :
    (runTbl t ops).1 = (runTbl t (ops.filter (fun o => !o.isFind))).1 := by
  induction ops generalizing t with
  | nil => rfl
  | cons o os ih =>
    -- a write is kept by the filter and done on both sides; a look-up is dropped and adds nothing to the first component
    cases o <;> exact ih _

/-- … nor, therefore, the answer of any later look-up: two histories with the same writes (in the same order) and ANY look-ups
in between give the same answer for every destination afterwards. -/
theorem C08_lookup_history_free (t : Table) (ops ops' : List TblOp)
    (h : ops.filter (fun o => !o.isFind) = ops'.filter (fun o => !o.isFind)) (dst : Ip) :
    findBestRoute (runTbl t ops).1 dst = findBestRoute (runTbl t ops').1 dst := by
  rw [C08_lookups_leave_no_trace t ops, C08_lookups_leave_no_trace t ops', h]

/-- a default route — the first one or a replacement — is the answer of the very next look-up of every destination no entry
covers, whatever was looked up (and answered "no route" or by the old default) before. -/
theorem C08_default_takes_effect (t : Table) (nh dst : Ip) (hv : ValidMasks t.routes)
    (hno : ∀ r ∈ t.routes, ∀ p, ¬ Covers dst r p) : findBestRoute (setDefault t nh) dst = .default nh :=
  (C08_default_iff (setDefault t nh) dst nh).2 ⟨hv, hno, rfl⟩

/-- a new route takes effect at the very next look-up: a destination it covers is answered by an entry at least as specific
(never again by the default route or "no route"). -/
theorem C08_new_route_takes_effect (t : Table) (r : Route) (dst : Ip) (p : Nat) (hv : ValidMasks (t.routes ++ [r]))
    (hc : Covers dst r p) :
    ∃ i r' p', findBestRoute (addRoute t r) dst = .route i r' ∧ Covers dst r' p' ∧ p ≤ p' := by
  have hmem : r ∈ (addRoute t r).routes := by simp [addRoute]
  obtain ⟨i, r', h⟩ := C08_route_when_covered (addRoute t r) dst hv ⟨r, hmem, p, hc⟩
  obtain ⟨_, p', hp'⟩ := C08_best_matches (addRoute t r) dst i r' h
  exact ⟨i, r', p', h, hp', C08_best_longest (addRoute t r) dst i r' p' h hp' r hmem p hc⟩

/-- Gen obligation: in the source, `find_best_route` reads only `self.routes` / `self.default_route`, writes nothing, calls no
method of the table and is not decorated; `RouteTable` has no other field and no other writer than `add_route` (append) and
`set_default_route_next_hop_ip_address` (assign). -/
theorem C08_gen_route_function : Gen.Forward.findBestRouteIsFunctionOfTable = true := by decide

/-! non-vacuity -/
example : (runTbl {} [.find 0x0A010909#32, .default 0x09090909#32, .find 0x0A010909#32, .default 0x09090908#32,
    .find 0x0A010909#32, .add exR0, .find 0x0A010909#32]).2 =
    [.noRoute, .default 0x09090909#32, .default 0x09090908#32, .route 0 exR0] := by decide

end Primaite.Route
