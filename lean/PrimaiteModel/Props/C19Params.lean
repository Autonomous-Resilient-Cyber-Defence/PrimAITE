/-
C19 — "only from its configured start nodes and only with actions it is configured to use":
the PARAMETERS of every action a threat-actor agent returns come from its configuration.

The models (Model/AgentsTap.lean) carry the values: the node an action runs on, scan targets, credentials, ACL
fields; the remaining parameters are functions of the configuration listed in `Kind.spec` (key, source expression,
value — one table, pinned against the extractor by `C19_gen_action_params`).  The theorems are invariants over whole runs
from the constructor (any draws, any responses, any length); TAP001's, `C19_tap1_params_from_config`, is in C19Nodes.lean,
where its invariant goes through the methods together with the host invariant.  Before them the two theorems about `pick`
(`_select_start_node` / `_select_target_ip`); after them the order of TAP003's ACL rules and four Gen obligations (settings
dicts, `current_host`, the two select methods, the writers of `actions_concluded`).
-/
import PrimaiteModel.Props.C19Run
namespace Primaite.Agents

/-- **The selected start node (target address) is a configured one**: an element of the configured list, or — only when
that list is empty — the configured default. -/
theorem C19_select_from_config (xs : List Val) (d : Val) (k : Nat) (v : Val) (h : pick xs d k = some v) :
    (xs = [] ∧ v = d) ∨ v ∈ xs := by
  unfold pick at h
  split at h
  · rename_i he
    left
    cases h
    exact ⟨by simpa using he, rfl⟩
  · right
    exact List.mem_of_getElem? h

/-- … and the selection never fails for an index `random.choice` can draw. -/
theorem C19_select_total (xs : List Val) (d : Val) (k : Nat) (hk : xs = [] ∨ k < xs.length) : (pick xs d k).isSome = true := by
  unfold pick
  split
  · rfl
  · rename_i he
    rcases hk with hk | hk
    · simp [hk] at he
    · simp [hk]

namespace Tap1

/-- `v` is the agent's start node or the configured C2 server. -/
def NodeOK (c : Cfg) (n : Val) (v : Val) : Prop := v = n ∨ v = c.c2Server

/-- A scan target that names a network address names entry `i` of `PROPAGATE.network_addresses` with its value. -/
def TgtOK (c : Cfg) : Option Target → Prop
  | some (.addr i v) => c.addrs[i]? = some v
  | _ => True

def ActOK (c : Cfg) (n : Val) (a : Act) : Prop := (a.kind = .doNothing ∨ NodeOK c n a.node) ∧ TgtOK c a.tgt

/-- The parameter invariant: `starting_node` and `target_ip` keep the values selected in `setup_agent`; `current_host`,
the remembered `chosen_action` and `next_scan_target` hold configured values only. -/
def PInv (c : Cfg) (n ip : Val) (s : St) : Prop :=
  s.startNode = n ∧ s.targetIp = ip ∧ NodeOK c n s.host ∧ ActOK c n s.chosen ∧ TgtOK c (some s.nextTarget)

theorem P_of_fields (c : Cfg) (n ip : Val) (s s' : St) (h : PInv c n ip s) (e1 : s'.startNode = s.startNode)
    (e2 : s'.targetIp = s.targetIp) (e3 : NodeOK c n s'.host) (e4 : ActOK c n s'.chosen)
    (e5 : TgtOK c (some s'.nextTarget)) : PInv c n ip s' :=
  ⟨by rw [e1]; exact h.1, by rw [e2]; exact h.2.1, e3, e4, e5⟩

section
variable {c : Cfg} {n ip : Val} {s : St}
theorem PInv.startNode (h : PInv c n ip s) : s.startNode = n := h.1
theorem PInv.targetIp (h : PInv c n ip s) : s.targetIp = ip := h.2.1
theorem PInv.hostOK (h : PInv c n ip s) : NodeOK c n s.host := h.2.2.1
theorem PInv.chosenOK (h : PInv c n ip s) : ActOK c n s.chosen := h.2.2.2.1
theorem PInv.tgtOK (h : PInv c n ip s) : TgtOK c (some s.nextTarget) := h.2.2.2.2
end

theorem actOK_nothing (c : Cfg) (n : Val) : ActOK c n Act.nothing := ⟨Or.inl rfl, trivial⟩

/-! The invariant reads `starting_node`, `target_ip`, `current_host`, `chosen_action` and `next_scan_target` only, so a
state that differs from `s` in other fields satisfies it by `h` itself.  `P_nothing`, `P_onHost`, `P_onStart` are
assignments to `chosen_action` (and `current_host`) the methods make; the walk through the methods is in C19Nodes.lean
(`RInv`), together with the host invariant. -/

theorem P_nothing (c : Cfg) (n ip : Val) (s : St) (h : PInv c n ip s) : PInv c n ip { s with chosen := Act.nothing } :=
  ⟨h.startNode, h.targetIp, h.hostOK, actOK_nothing c n, h.tgtOK⟩

/-- an action of any kind on `current_host`, without a scan target -/
theorem P_onHost (c : Cfg) (n ip : Val) (s : St) (h : PInv c n ip s) (k : Kind) :
    PInv c n ip { s with chosen := { kind := k, node := s.host } } :=
  ⟨h.startNode, h.targetIp, h.hostOK, ⟨Or.inr h.hostOK, trivial⟩, h.tgtOK⟩

/-- `current_host := starting_node`, then an action on it -/
theorem P_onStart (c : Cfg) (n ip : Val) (s : St) (h : PInv c n ip s) (k : Kind) :
    PInv c n ip { s with host := s.startNode, chosen := { kind := k, node := s.startNode } } :=
  ⟨h.startNode, h.targetIp, Or.inl h.startNode, ⟨Or.inr (Or.inl h.startNode), trivial⟩, h.tgtOK⟩

theorem init_picks (c : Cfg) (d0 : Int) (k1 k2 : Nat) (s0 : St) (h0 : init c d0 k1 k2 = some s0) :
    pick c.startingNodes c.defaultStartingNode k1 = some s0.startNode ∧
    pick c.targetIps c.defaultTargetIp k2 = some s0.targetIp ∧
    PInv c s0.startNode s0.targetIp s0 := by
  obtain ⟨⟨_, hn, hs, ht⟩, rfl⟩ := init_some c d0 k1 k2 s0 h0
  obtain ⟨v1, e1⟩ := Option.isSome_iff_exists.1 hs
  obtain ⟨v2, e2⟩ := Option.isSome_iff_exists.1 ht
  have ha : c.addrs[0]? = some (c.addrs.headD "") := by
    unfold Cfg.nAddr at hn
    cases hl : c.addrs with
    | nil => rw [hl] at hn; cases hn
    | cons a r => rfl
  exact ⟨by rw [e1]; rfl, by rw [e2]; rfl, rfl, rfl, Or.inl rfl, actOK_nothing c _, ha⟩

/-- The first parameter of every action is the node it runs on (`node_name` / `source_node` = `Act.node`). -/
theorem render_node (c : Cfg) (s : St) (a : Act) (h : a.kind ≠ .doNothing) :
    ∃ key rest, (a.render c s).2 = (key, PVal.str a.node) :: rest ∧ (key = "node_name" ∨ key = "source_node") := by
  unfold Act.render
  -- one row of `Kind.spec` per kind: the scans call the node `source_node`, the others `node_name`
  cases hk : a.kind with
  | doNothing => exact absurd hk h
  | pingScan | portScan | reconScan => exact ⟨_, _, rfl, Or.inr rfl⟩
  | _ => exact ⟨_, _, rfl, Or.inl rfl⟩

end Tap1

namespace Tap3

/-- `v` is a user name or password of the configured starting knowledge, or a user name / new password of a configured
account change. -/
def Known (c : Cfg) (v : Val) : Prop :=
  (∃ e ∈ c.creds0, v = e.2.user ∨ v = e.2.pw) ∨ (∃ a ∈ c.accountChanges, v = a.user ∨ v = a.newPw)

/-- `v` is an `ip_address` of the configured starting knowledge. -/
def KnownIp (c : Cfg) (v : Val) : Prop := ∃ e ∈ c.creds0, e.2.ip = some v

def CredOK (c : Cfg) (cr : Cred) : Prop := Known c cr.user ∧ Known c cr.pw ∧ ∀ ip, cr.ip = some ip → KnownIp c ip

/-- What the settings allow an action to carry (`n` = the selected start node). -/
def ActOK (c : Cfg) (n : Val) (a : Act) : Prop :=
  match a.kind with
  | .doNothing => True
  | .changePwLocal => a.node = n ∧ Known c a.pw ∧ ∃ x ∈ c.accountChanges, a.user = x.user ∧ a.newPw = x.newPw
  | .remoteLogin => a.node = n ∧ Known c a.user ∧ Known c a.pw ∧ KnownIp c a.ip
  | .remoteChangePw =>
    a.node = n ∧ KnownIp c a.ip ∧ Known c a.pw ∧ ∃ x ∈ c.accountChanges, a.user = x.user ∧ a.newPw = x.newPw
  | .remoteAcl => a.node = n ∧ KnownIp c a.ip ∧ ∃ x ∈ c.acls, a.acl = x.fields ∧ a.host = x.router

def PInv (c : Cfg) (n : Val) (s : St) : Prop :=
  s.startNode = n ∧ (∀ e ∈ s.creds, CredOK c e.2) ∧ ActOK c n s.chosen ∧ (∀ h ∈ s.hist, ActOK c n h.act) ∧
  (∀ a ∈ s.acctQueue, a ∈ c.accountChanges) ∧ (∀ a, s.nextAcct = some a → a ∈ c.accountChanges)

theorem actOK_nothing (c : Cfg) (n : Val) : ActOK c n Act.nothing := trivial

theorem creds_get_mem (cr : Creds) (h : Val) (x : Cred) (hg : cr.get h = some x) : ∃ e ∈ cr, e.2 = x := by
  unfold Creds.get at hg
  cases hf : cr.find? (·.1 == h) with
  | none => rw [hf] at hg; cases hg
  | some e =>
    rw [hf] at hg
    simp only [Option.map_some, Option.some.injEq] at hg
    exact ⟨e, List.mem_of_find?_eq_some hf, hg⟩

theorem creds_set_ok (P : Cred → Prop) (cr : Creds) (h : Val) (v : Cred) (hall : ∀ e ∈ cr, P e.2) (hv : P v) :
    ∀ e ∈ cr.set h v, P e.2 := by
  unfold Creds.set
  split
  · intro e he
    rw [List.mem_map] at he
    obtain ⟨e0, he0, heq⟩ := he
    split at heq
    · rw [← heq]; exact hv
    · rw [← heq]; exact hall e0 he0
  · intro e he
    rcases List.mem_append.1 he with he | he
    · exact hall e he
    · simp only [List.mem_singleton] at he
      rw [he]; exact hv

theorem creds0_ok (c : Cfg) : ∀ e ∈ c.creds0, CredOK c e.2 := by
  intro e he
  exact ⟨Or.inl ⟨e, he, Or.inl rfl⟩, Or.inl ⟨e, he, Or.inr rfl⟩, fun ip hip => ⟨e, he, hip⟩⟩

theorem known_user (c : Cfg) (x : AcctChange) (hx : x ∈ c.accountChanges) : Known c x.user := Or.inr ⟨x, hx, Or.inl rfl⟩
theorem known_newPw (c : Cfg) (x : AcctChange) (hx : x ∈ c.accountChanges) : Known c x.newPw := Or.inr ⟨x, hx, Or.inr rfl⟩

theorem PInv.credOK {c : Cfg} {n : Val} {s : St} (h : PInv c n s) {x : Val} {cr : Cred} (hg : s.creds.get x = some cr) :
    CredOK c cr := by
  obtain ⟨e, he, hee⟩ := creds_get_mem _ _ _ hg
  rw [← hee]; exact h.2.1 e he

/-! The invariant through the methods: a state that differs from `s` in fields the invariant does not read satisfies it
by `h` itself. -/

theorem Q_nothing (c : Cfg) (n : Val) (s : St) (h : PInv c n s) : PInv c n { s with chosen := Act.nothing } :=
  ⟨h.1, h.2.1, actOK_nothing c n, h.2.2.2.1, h.2.2.2.2.1, h.2.2.2.2.2⟩

theorem Q_progress (c : Cfg) (n : Val) (s : St) (h : PInv c n s) : PInv c n (progress s) := by
  refine ite_pres ?_ (ite_pres h ?_)
  · cases Stage.ofVal? (s.cur.val + 1) <;> exact h
  · cases Stage.ofVal? (s.nxt.val + 1) <;> exact h

theorem Q_failStage (c : Cfg) (n : Val) (s : St) (h : PInv c n s) : PInv c n (failStage c s) := ite_pres h h

theorem Q_handleLogin (c : Cfg) (n : Val) (s : St) (h : PInv c n s) : PInv c n (handleLogin s) := by
  unfold handleLogin
  cases s.hist.getLast? with
  | none => exact h
  | some x => exact ite_pres (ite_pres h h) h

/-- The credentials `_handle_change_password_response` stores are read back from the agent's own last action, which the
invariant says was a configured account change. -/
theorem Q_handleChangePw (c : Cfg) (n : Val) (s : St) (h : PInv c n s) : PInv c n (handleChangePw c s) := by
  unfold handleChangePw
  cases hx : s.hist.getLast? with
  | none => exact h
  | some x =>
    have hax := h.2.2.2.1 x (List.mem_of_getLast? hx)
    dsimp only
    cases s.chgPwTarget with
    | none => exact h
    | some tgt =>
      unfold ActOK at hax
      refine ite_pres_of (fun hk => ?_) fun _ => ite_pres_of (fun hk => ?_) fun _ => h
      · rw [show x.act.kind = .remoteChangePw from hk.1] at hax
        obtain ⟨_, hip, _, y, hy, hu, hp⟩ := hax
        refine ⟨h.1, ?_, h.2.2.1, h.2.2.2.1, h.2.2.2.2.1, h.2.2.2.2.2⟩
        apply creds_set_ok (CredOK c) _ _ _ h.2.1
        exact ⟨by rw [hu]; exact known_user c y hy, by rw [hp]; exact known_newPw c y hy,
          fun ip hh => by cases hh; exact hip⟩
      · rw [show x.act.kind = .changePwLocal from hk.1] at hax
        obtain ⟨_, _, y, hy, hu, hp⟩ := hax
        refine ⟨h.1, ?_, h.2.2.1, h.2.2.2.1, h.2.2.2.2.1, h.2.2.2.2.2⟩
        apply creds_set_ok (CredOK c) _ _ _ h.2.1
        refine ⟨by rw [hu]; exact known_user c y hy, by rw [hp]; exact known_newPw c y hy, fun ip hh => ?_⟩
        -- the address kept is the one already known for that host
        cases hg : s.creds.get x.act.node with
        | none => rw [hg] at hh; cases hh
        | some old => rw [hg] at hh; exact (h.credOK hg).2.2 ip hh

theorem Q_preGuard (c : Cfg) (n : Val) (s : St) (h : PInv c n s) : PInv c n (preGuardHandlers c s) :=
  Q_handleChangePw c n _ (Q_handleLogin c n s h)

theorem manipPick_mem {l : List AcctChange} {s : St} (hq : ∀ x ∈ s.acctQueue, x ∈ l) (hn : ∀ x, s.nextAcct = some x → x ∈ l)
    {a : AcctChange} {q1 : List AcctChange} (hp : manipPick s = some (a, q1)) : a ∈ l ∧ ∀ x ∈ q1, x ∈ l := by
  unfold manipPick at hp
  split at hp
  · rename_i x q hx
    cases hp
    exact ⟨hn _ hx, hq⟩
  · rename_i x r _ hr
    cases hp
    rw [hr] at hq
    exact ⟨hq _ List.mem_cons_self, fun y hy => hq _ (List.mem_cons_of_mem _ hy)⟩
  · cases hp

theorem popAcct_mem {l q : List AcctChange} (hq : ∀ x ∈ q, x ∈ l) :
    (∀ a, (popAcct q).1 = some a → a ∈ l) ∧ ∀ x ∈ (popAcct q).2, x ∈ l := by
  cases q with
  | nil => exact ⟨(fun a ha => by cases ha), (fun x hx => by cases hx)⟩
  | cons y r =>
    refine ⟨fun a ha => ?_, fun x hx => hq x (List.mem_cons_of_mem _ hx)⟩
    simp only [popAcct, Option.some.injEq] at ha
    rw [← ha]; exact hq y List.mem_cons_self

theorem Q_manipBegin (c : Cfg) (n : Val) (s : St) (h : PInv c n s) : PInv c n (manipBegin s) := ite_pres h h

theorem Q_manipAct (c : Cfg) (n : Val) (s : St) (h : PInv c n s) : PInv c n (manipAct c s) := by
  unfold manipAct
  rcases hp : manipPick s with _ | ⟨a, q1⟩
  · exact h
  · obtain ⟨ha, hq1⟩ := manipPick_mem h.2.2.2.2.1 h.2.2.2.2.2 hp
    obtain ⟨hpop1, hpop2⟩ := popAcct_mem hq1
    dsimp only
    refine ite_pres ?_ ?_
    · cases hg : s.creds.get s.startNode with
      | none => exact h
      | some cr => exact ⟨h.1, h.2.1, ⟨h.1, (h.credOK hg).2.1, a, ha, rfl, rfl⟩, h.2.2.2.1, hpop2, hpop1⟩
    · cases hg : s.creds.get a.host with
      | none => exact h
      | some cr =>
        dsimp only [Option.bind_some]
        cases hb : cr.ip with
        | none => exact h
        | some ip =>
          have hcr := h.credOK hg
          have hip : KnownIp c ip := hcr.2.2 ip hb
          exact ite_pres
            ⟨h.1, h.2.1, ⟨h.1, hcr.1, hcr.2.1, hip⟩, h.2.2.2.1, hq1, fun x hx => by cases hx; exact ha⟩
            ⟨h.1, h.2.1, ⟨h.1, hip, hcr.2.1, a, ha, rfl, rfl⟩, h.2.2.2.1, hpop2, hpop1⟩

theorem Q_manipFinish (c : Cfg) (n : Val) (s : St) (h : PInv c n s) : PInv c n (manipFinish s) :=
  ite_pres (Q_progress c n s h) h

theorem Q_manipulation (c : Cfg) (i : In) (n : Val) (s : St) (h : PInv c n s) : PInv c n (manipulation c i s) :=
  ite_pres h
    (ite_pres (Q_manipFinish c n _ (Q_manipAct c n _ (Q_manipBegin c n s h))) (Q_failStage c n _ (Q_nothing c n s h)))

theorem Q_exploitAct (c : Cfg) (n : Val) (a : Acl) (cr : Cred) (ip : Val) (s : St) (h : PInv c n s)
    (ha : a ∈ c.acls) (hcr : CredOK c cr) (hip : KnownIp c ip) : PInv c n (exploitAct a cr ip s) :=
  ite_pres
    ⟨h.1, h.2.1, ⟨h.1, hcr.1, hcr.2.1, hip⟩, h.2.2.2.1, h.2.2.2.2.1, h.2.2.2.2.2⟩
    ⟨h.1, h.2.1, ⟨h.1, hip, a, ha, rfl, rfl⟩, h.2.2.2.1, h.2.2.2.2.1, h.2.2.2.2.2⟩

theorem Q_exploitFinish (c : Cfg) (n : Val) (s : St) (h : PInv c n s) : PInv c n (exploitFinish s) :=
  ite_pres (Q_progress c n _ h) h

theorem Q_exploitBody (c : Cfg) (n : Val) (s : St) (h : PInv c n s) : PInv c n (exploitBody c s) := by
  refine ite_pres (Q_progress c n _ (Q_nothing c n s h)) ?_
  cases hacl : c.acls[s.curAcl]? with
  | none => exact h
  | some a =>
    dsimp only
    cases hg : s.creds.get a.router with
    | none => exact h
    | some cr =>
      dsimp only [Option.bind_some]
      cases hb : cr.ip with
      | none => exact h
      | some ip =>
        exact Q_exploitFinish c n _ (Q_exploitAct c n a cr ip _ h (List.mem_of_getElem? hacl) (h.credOK hg)
          ((h.credOK hg).2.2 ip hb))

theorem Q_exploit (c : Cfg) (i : In) (n : Val) (s : St) (h : PInv c n s) : PInv c n (exploit c i s) :=
  ite_pres h (ite_pres (Q_failStage c n _ (Q_nothing c n s h)) (Q_exploitBody c n (exploitEnter s) (ite_pres h h)))

theorem Q_access (c : Cfg) (i : In) (n : Val) (s : St) (h : PInv c n s) : PInv c n (access c i s) :=
  ite_pres h (ite_pres (Q_nothing c n _ (Q_progress c n s h)) (Q_failStage c n _ (Q_nothing c n s h)))

theorem Q_planning (c : Cfg) (i : In) (n : Val) (s : St) (h : PInv c n s) : PInv c n (planning c i s) :=
  ite_pres h
    (ite_pres (Q_progress c n _ (ite_pres h ⟨h.1, creds0_ok c, h.2.2.1, h.2.2.2.1, h.2.2.2.2.1, h.2.2.2.2.2⟩))
      (Q_failStage c n _ (Q_nothing c n s h)))

theorem Q_reconnaissance (c : Cfg) (n : Val) (s : St) (h : PInv c n s) : PInv c n (reconnaissance s) :=
  ite_pres h (Q_progress c n _ (Q_nothing c n s h))

theorem Q_tapStart (c : Cfg) (n : Val) (s : St) (h : PInv c n s) : PInv c n (tapStart s) := by
  refine ite_pres h ?_
  cases Stage.ofVal? (Stage.reconnaissance.val + 1) with
  | none => exact h
  | some _ => exact Q_nothing c n s h

theorem Q_bodies (c : Cfg) (i : In) (n : Val) (s : St) (h : PInv c n s) : PInv c n (bodies c i s) :=
  Q_tapStart c n _ (Q_reconnaissance c n _ (Q_planning c i n _ (Q_access c i n _ (Q_manipulation c i n _
    (Q_exploit c i n s h)))))

theorem Q_outcomeHandler (c : Cfg) (n : Val) (s : St) (h : PInv c n s) : PInv c n (outcomeHandler c s) :=
  ite_pres (ite_pres (Q_nothing c n s h) (ite_pres (Q_nothing c n s h) (Q_nothing c n s h))) h

theorem Q_setNext (c : Cfg) (b d : Int) (n : Val) (s : St) (h : PInv c n s) : PInv c n (setNext c s b d) := ite_pres h h

theorem Q_returnHandler (c : Cfg) (x : Hist) (n : Val) (s : St) (h : PInv c n s) : PInv c n (returnHandler c x s) :=
  ite_pres h h

theorem Q_reasonCheck (c : Cfg) (x : Hist) (n : Val) (s : St) (h : PInv c n s) : PInv c n (reasonCheck x s) := ite_pres h h

theorem PInv.chosenOK {c : Cfg} {n : Val} {s : St} (h : PInv c n s) : ActOK c n s.chosen := h.2.2.1

/-- The action a tick returns is appended to the history, where `_handle_change_password_response` will read it back. -/
theorem Q_step (c : Cfg) (t : Int) (i : In) (n : Val) (s : St) (h : PInv c n s) :
    PInv c n (step c s t i).1 ∧ ∀ a, (step c s t i).2 = .act a → ActOK c n a :=
  step_inv c (Q_preGuard c n) (fun s b d => Q_setNext c b d n s) (Q_outcomeHandler c n) (fun x => Q_returnHandler c x n)
    (fun x => Q_reasonCheck c x n) (fun i => Q_bodies c i n) (fun _ _ h => h) (fun _ h => h) (fun _ h => h)
    (fun _ _ _ h ha => ⟨h.1, h.2.1, h.2.2.1,
      fun x hx => (List.mem_append.1 hx).elim (h.2.2.2.1 x) fun hx => List.mem_singleton.1 hx ▸ ha,
      h.2.2.2.2.1, h.2.2.2.2.2⟩)
    (fun _ => PInv.chosenOK) (actOK_nothing c n) s t i h

theorem init_pick (c : Cfg) (d0 : Int) (k : Nat) (s0 : St) (h0 : init c d0 k = some s0) :
    pick c.startingNodes c.defaultStartingNode k = some s0.startNode ∧ PInv c s0.startNode s0 := by
  obtain ⟨hv, rfl⟩ := init_some c d0 k s0 h0
  obtain ⟨v1, e1⟩ := Option.isSome_iff_exists.1 hv.2.1
  exact ⟨by rw [e1]; rfl, rfl, nofun, actOK_nothing c _, nofun, fun x hx => hx, nofun⟩

/-- **Only from its configured start node, only with configured credentials, accounts and ACL rules (TAP003, run
level).**  In every run from the constructor — any settings, any start-node draw, any schedule and trial draws, any
responses, any length — the selected start node is an element of `starting_nodes` (or `default_starting_node` when that
list is empty), and every action the agent returns other than do-nothing (`ActOK`)

* carries that node as `node_name`;
* logs in with a user name, password and `remote_ip` that are configured starting knowledge or — user name / password —
  were set by one of the agent's own configured account changes;
* changes a password only with the `username` / `new_password` of one configured `account_changes` entry, giving a known
  current password;
* adds an ACL rule only with exactly the nine fields of one configured `malicious_acls` entry, addressed to a known
  `ip_address`. -/
theorem C19_tap3_params_from_config (c : Cfg) (d0 : Int) (k : Nat) (s0 : St) (ins : List In) (h0 : init c d0 k = some s0) :
    ((c.startingNodes = [] ∧ s0.startNode = c.defaultStartingNode) ∨ s0.startNode ∈ c.startingNodes) ∧
    ∀ t a, (t, Out.act a) ∈ runOut c s0 0 ins → ActOK c s0.startNode a := by
  obtain ⟨h1, hp⟩ := init_pick c d0 k s0 h0
  refine ⟨C19_select_from_config _ _ _ _ h1, fun t a hm => ?_⟩
  exact iter_forall_mem (runOut c) (fun _ _ => rfl) (fun _ _ _ _ => rfl)
    (PInv c _) (fun x => ∀ a, x.2 = .act a → ActOK c _ a) (fun s t i h => Q_step c t i _ s h)
    ins s0 0 hp (t, .act a) hm a rfl

/-- **ACL rules are the configured entries, in order.**  When `_exploit` adds a rule (logged in to the router of entry
`_current_acl`), the command carries exactly the fields of `malicious_acls[_current_acl]`, and `_current_acl` moves to
the next entry (back to 0 after the last: the pass is complete and the chain progresses). -/
theorem C19_tap3_acl_in_order (c : Cfg) (s : St) (a : Acl) (cr : Cred) (ip : Val)
    (ha : c.acls[s.curAcl]? = some a) (hg : s.creds.get a.router = some cr) (hi : cr.ip = some ip)
    (hs : s.session = some a.router) :
    (exploitBody c s).chosen.kind = .remoteAcl ∧ (exploitBody c s).chosen.acl = a.fields ∧
    (exploitBody c s).chosen.ip = ip ∧ (exploitBody c s).chosen.node = s.startNode ∧
    (exploitBody c s).curAcl = (if s.curAcl + 1 = c.acls.length then 0 else s.curAcl + 1) := by
  have hb : (s.creds.get a.router).bind (·.ip) = some ip := by rw [hg]; exact hi
  have pf : ∀ x : St, (progress x).chosen = x.chosen ∧ (progress x).curAcl = x.curAcl := by
    intro x
    refine ite_pres (P := fun y : St => y.chosen = x.chosen ∧ y.curAcl = x.curAcl) ?_
      (ite_pres (P := fun y : St => y.chosen = x.chosen ∧ y.curAcl = x.curAcl) ⟨rfl, rfl⟩ ?_)
    · cases Stage.ofVal? (x.cur.val + 1) <;> exact ⟨rfl, rfl⟩
    · cases Stage.ofVal? (x.nxt.val + 1) <;> exact ⟨rfl, rfl⟩
  have hne : c.acls.isEmpty = false := by
    cases hl : c.acls with
    | nil => rw [hl] at ha; simp at ha
    | cons _ _ => rfl
  unfold exploitBody
  simp only [hne, Bool.false_eq_true, if_false, ha, hg, Option.bind_some, hi]
  unfold exploitAct
  simp only [hs, ne_eq, not_true_eq_false, if_false]
  unfold exploitFinish
  simp only []
  by_cases he : s.curAcl + 1 = c.acls.length
  · rw [if_pos he, if_pos he]
    rw [(pf _).1, (pf _).2]
    exact ⟨rfl, rfl, rfl, rfl, rfl⟩
  · rw [if_neg he, if_neg he]
    exact ⟨rfl, rfl, rfl, rfl, rfl⟩

end Tap3

/-- Non-vacuity (TAP003): the agent of `exCfg` issues the configured ACL rule with the address known for its router. -/
example : ∃ s0, Tap3.init Tap3.exCfg 0 0 = some s0 ∧
    ((Tap3.runOut Tap3.exCfg s0 0 (List.replicate 12 Tap3.exIn)).filterMap fun x =>
      match x.2 with
      | .act a => if a.kind = .remoteAcl then some (a.node, a.ip, a.acl) else none
      | .raised => none)
      = [("pc", "10.0.9.1", ["DENY", "tcp", "10.0.0.0", "0.0.0.255", "ALL", "ALL", "NONE", "80", "1"])] := by
  refine ⟨_, rfl, ?_⟩; decide +kernel

/-- Non-vacuity (TAP001): start node drawn from `starting_nodes`, target from `target_ips`; DOWNLOAD … C2 run on the start
node, PAYLOAD on the C2 server. -/
example :
    let c : Tap1.Cfg := { Tap1.exCfg with startingNodes := ["pc-a", "pc-b"], targetIps := ["t0", "t1"], c2Server := "c2" }
    ∃ s0, Tap1.init c 0 1 0 = some s0 ∧ s0.startNode = "pc-b" ∧ s0.targetIp = "t0" ∧
      ((Tap1.runOut c s0 0 (List.replicate 16 Tap1.exIn)).filterMap fun x =>
        match x.2 with
        | .act a => if a.kind = .doNothing then none else some a.node
        | .raised => none)
        = ["pc-b", "pc-b", "pc-b", "pc-b", "pc-b", "pc-b", "pc-b", "pc-b", "pc-b", "c2", "c2", "c2"] := by
  refine ⟨_, rfl, rfl, rfl, ?_⟩; decide +kernel

/-- The dict literals the parameter expressions of TAP001 read from (`c2_settings`, `payload_settings`,
`network_knowledge` in `setup_agent` and in `_network_knowledge_reset`) are the pinned ones. -/
theorem C19_gen_settings_dicts :
    Gen.Agents.tap1C2Settings = Tap1.c2Settings ∧ Gen.Agents.tap1PayloadSettings = Tap1.payloadSettings ∧
    Gen.Agents.tap1NetworkKnowledge = Tap1.networkKnowledge ∧
    Gen.Agents.tap1NetworkKnowledgeReset = Tap1.networkKnowledge := ⟨rfl, rfl, rfl, rfl⟩

/-- Where `current_host` and `chosen_application` are assigned, and from what (`Tap1.Kind.app`; the model sets
`host := startNode` in exactly these stage methods and `host := c2Server` in `_payload`). -/
theorem C19_gen_current_host :
    Gen.Agents.tap1ChosenApplication = Tap1.chosenApplication ∧ Gen.Agents.tap1CurrentHost = Tap1.currentHost ∧
    Gen.Agents.tap3CurrentHost = Tap3.currentHost := ⟨rfl, rfl, rfl⟩

/-- `_select_start_node` / `_select_target_ip` have the shape `Agents.pick` models: default when the list is falsy,
otherwise `random.choice` of the list. -/
theorem C19_gen_select :
    Gen.Agents.selectStartNode = selectStartNode ∧ Gen.Agents.selectTargetIp = selectTargetIp := ⟨rfl, rfl⟩

/-- **`actions_concluded` is written nowhere else** (source level): the only assignment to an attribute of that name in
any method under game/agent is `self.actions_concluded = True` in `AbstractTAP._tap_outcome_handler` — the writer the
models have (`outcomeHandler`; `C19_tap{1,3}_concluded_run` for what follows from it over a run). -/
theorem C19_gen_concluded_writers : Gen.Agents.concludedWriters = concludedWriters := rfl

end Primaite.Agents
