/-
C08, part 2 — forwarding (model: `Model/Forward.lean`): what the model shares with the regenerated source (`Gen/Forward.lean`,
`Gen/Filter.lean`), TTL, ARP look-ups, a host's next hop, a router's next hop, switches, and who accepts a frame at each hop
(hosts, routers, firewall verdicts).
-/
import PrimaiteModel.Model.Forward
import PrimaiteModel.Model.Filter
import PrimaiteModel.Gen.Forward
import PrimaiteModel.Gen.Filter
import PrimaiteModel.Lemmas.ForwardEff
import PrimaiteModel.Lemmas.ForwardNode
namespace Primaite.Forward
open Primaite.Route (findBestRoute)

/-- The update test, the initial loop variables and the fallback of `find_best_route` as regenerated from the source are
the ones of the model. -/
theorem C08_gen_route_loop :
    (∀ p l m lo, Gen.Forward.better p l m lo = Route.betterCond p l m lo) ∧
    Gen.Forward.initLongest = ({} : Route.Acc).longest ∧ ({} : Route.Acc).lowest = none ∧ ({} : Route.Acc).best = none ∧
    Gen.Forward.defaultOnlyWithoutBest = true := by
  refine ⟨?_, rfl, rfl, rfl, rfl⟩
  intro p l m lo
  have h : decide (p = l) = (p == l) := by
    by_cases hpl : p = l <;> simp [hpl]
  cases lo <;> simp [Gen.Forward.better, Route.betterCond, Gen.Forward.ltInf, Route.ltLowest, h]

/-- TTL constants and the decrement / test / forward order of every `receive_frame` and routing hop, and the broadcast
guard of `process_frame`, as regenerated from the source, are the ones the model uses. -/
theorem C08_gen_ttl :
    Gen.Forward.defaultTtl = initTtl ∧ Gen.Forward.decrementBy = 1 ∧
    Gen.Forward.rxDropBelow = [("NIC", 1), ("RouterInterface", 1), ("SwitchPort", 1)] ∧
    Gen.Forward.hopDropBelow = [("process_frame", 1), ("route_frame", 1)] ∧
    Gen.Forward.processDropsBroadcast = true := ⟨rfl, rfl, rfl, rfl, rfl⟩

/-- The acceptance tests of host NICs (with the destination-IP test of the repaired code) and the order of guards in
`Router.receive_frame`, as regenerated from the source, are the ones the model implements (`hostAccepts`, `routerRecv`). -/
theorem C08_gen_accept :
    Gen.Forward.nicUnicastNeedsNodeIp = true ∧
    Gen.Forward.routerReceiveOrder = ["on", "acl", "deny-return", "learn", "software-if-own-else-process"] := ⟨rfl, rfl⟩

/-- The wireless access point's `receive_frame` has the shape and the acceptance test of a router interface (so the model
treats it as one), and the host's outbound-interface resolution carries the repair of F-57 (`resolveOut`, host branch:
`if dst == g then none`). -/
theorem C08_gen_wireless_and_gateway :
    Gen.Forward.wapDropBelow = 1 ∧ Gen.Forward.wapAcceptsLikeRouterInterface = true ∧
    Gen.Forward.airTransmitToOtherEnabled = true ∧ Gen.Forward.gatewayNotViaGateway = true := by decide

/-- The firewall's arrival-port dispatch, the calls of each entry point in source order, "verdict first" and the missing
operating-state test, as regenerated from firewall.py by C06's extractor, are what `routerRecv` implements for `fw = some _`
(ports 1 / 2 / 3 of the source are interfaces 0 / 1 / 2 of the model: `ingressList`). -/
theorem C08_gen_firewall :
    Gen.Filter.portDispatch = [(1, "extIn"), (2, "intOut"), (3, "dmzOut")] ∧
    Gen.Filter.entryCalls = [("extIn", ["learn", "session", "entry:dmzIn", "entry:intIn"]), ("extOut", ["process"]),
      ("intIn", ["process"]), ("intOut", ["learn", "session", "entry:dmzIn", "entry:extOut"]), ("dmzIn", ["process"]),
      ("dmzOut", ["learn", "session", "lookup", "lookup", "entry:extOut", "entry:intIn"])] ∧
    Gen.Filter.verdictFirst = true ∧
    Gen.Filter.powerGuard = [("router", true), ("firewall", false), ("switch", false), ("host", false)] ∧
    ingressList 0 = some 0 ∧ ingressList 1 = some 3 ∧ ingressList 2 = some 5 ∧ ingressList 3 = none :=
  ⟨rfl, rfl, rfl, rfl, rfl, rfl, rfl, rfl⟩

/-- potential of a frame: times it was accepted for processing so far + what its TTL still allows. -/
def pot (f : Frame) : Int := (f.fwd : Int) + max 0 f.ttl

/-- `f'` is a later state of the frame object `f`: same identity, addresses and payload, potential not increased. -/
def Thr (f f' : Frame) : Prop :=
  pot f' ≤ pot f ∧ f'.id = f.id ∧ f'.srcIp = f.srcIp ∧ f'.dstIp = f.dstIp ∧ f'.pl = f.pl

theorem Thr.refl (f : Frame) : Thr f f := ⟨Int.le_refl _, rfl, rfl, rfl, rfl⟩

theorem Thr.trans {a b c : Frame} (h1 : Thr a b) (h2 : Thr b c) : Thr a c :=
  ⟨Int.le_trans h2.1 h1.1, h2.2.1.trans h1.2.1, h2.2.2.1.trans h1.2.2.1, h2.2.2.2.1.trans h1.2.2.2.1,
    h2.2.2.2.2.trans h1.2.2.2.2⟩

theorem thr_dec (f : Frame) : Thr f f.dec := by
  refine ⟨?_, rfl, rfl, rfl, rfl⟩
  unfold pot Frame.dec
  simp only
  split <;> omega

theorem thr_stamp (f : Frame) (a b : Mac) : Thr f (f.stamp a b) := ⟨Int.le_refl _, rfl, rfl, rfl, rfl⟩

structure ThrAt (fuel : Nat) : Prop where
  send : ∀ st n i f, Thr f (sendFrame fuel st n i f).2
  recv : ∀ st n i f, Thr f (ifaceRecv fuel st n i f).2
  sw : ∀ st n i f, Thr f (switchRecv fuel st n i f).2
  flood : ∀ st n i f ports, Thr f (floodPorts fuel st n i f ports).2
  host : ∀ st n i f, Thr f (hostRecv fuel st n i f).2
  router : ∀ st n i f, Thr f (routerRecv fuel st n i f).2
  process : ∀ st n i f, Thr f (routerProcess fuel st n i f).2

theorem FEff.thr {f g : Frame} (h : FEff f g) : Thr f g := by
  induction h with
  | refl => exact Thr.refl f
  | dec _ ih => exact ih.trans (thr_dec _)
  | stamp a b _ ih => exact ih.trans (thr_stamp _ a b)

theorem thrAt (fuel : Nat) : ThrAt fuel where
  send st n i f := ((eAt fuel).send st n i f).2 .refl |>.thr
  recv st n i f := ((eAt fuel).recv st n i f).2 .refl |>.thr
  sw st n i f := ((eAt fuel).sw st n i f).2 .refl |>.thr
  flood st n i f ports := ((eAt fuel).flood st n i f ports).2 .refl |>.thr
  host st n i f := ((eAt fuel).host st n i f).2 .refl |>.thr
  router st n i f := ((eAt fuel).router st n i f).2 .refl |>.thr
  process st n i f := ((eAt fuel).process st n i f).2 .refl |>.thr

/-- `decrement_ttl` lowers the TTL by exactly one, and the frame counts as accepted for processing exactly when the
test `ttl < 1` that follows every decrement fails. -/
theorem C08_ttl_strict (f : Frame) :
    f.dec.ttl = f.ttl - 1 ∧ (f.dec.fwd = f.fwd + 1 ↔ ¬ f.dec.ttl < 1) ∧ (f.dec.fwd = f.fwd ↔ f.dec.ttl < 1) := by
  unfold Frame.dec
  refine ⟨rfl, ?_, ?_⟩ <;> simp only <;> split <;> omega

/-- A frame whose TTL is exhausted by the decrement is dropped by the receiving interface (host NIC, router interface
or switch port) before ANY processing: the only trace is the log entry; no table is touched, nothing is sent. -/
theorem C08_exhausted_dropped_on_receive (fuel : Nat) (st : St) (n i : Nat) (f : Frame) (nd : Node) (ifc : Iface)
    (hn : st.node? n = some nd) (hi : st.iface? n i = some ifc) (ht : f.ttl ≤ 1) :
    ifaceRecv (fuel + 1) st n i f = (st.emit (.rx n i f.id f.ttl), f.dec) := by
  have hd : f.dec.ttl < 1 := by unfold Frame.dec; simp only; omega
  simp only [ifaceRecv, hn, hi, hd, if_true]

/-- Whatever happens to a frame object handed to an interface — every nested delivery, every branch of every flood,
every router hop, at any nesting depth — it stays the same object (identity, IP addresses, payload) and its potential
`accepted-so-far + max 0 ttl` never increases. -/
theorem C08_ttl_potential (fuel : Nat) (st : St) (n i : Nat) (f : Frame) :
    Thr f (sendFrame fuel st n i f).2 := (thrAt fuel).send st n i f

/-- Forwarding of one frame ends: the number of times a frame object is accepted for processing (receives that pass
the TTL test + router hops that pass it), summed over ALL branches of all floods it takes part in, is at most its TTL. -/
theorem C08_hops_le_ttl (fuel : Nat) (st : St) (n i : Nat) (f : Frame) (h0 : f.fwd = 0) :
    ((sendFrame fuel st n i f).2.fwd : Int) ≤ max 0 f.ttl := by
  have h := (C08_ttl_potential fuel st n i f).1
  unfold pot at h
  rw [h0] at h
  have : (0 : Int) ≤ max 0 (sendFrame fuel st n i f).2.ttl := Int.le_max_left _ _
  omega

/-- the same bound for a frame as the session manager builds it (TTL 64): one flood shares one frame object, so the
total over all its branches is bounded by the initial TTL. -/
theorem C08_flood_total_le_ttl (fuel : Nat) (st : St) (n i : Nat) (f : Frame) (h0 : f.fwd = 0) (ht : f.ttl = initTtl) :
    (sendFrame fuel st n i f).2.fwd ≤ 64 := by
  have h := C08_hops_le_ttl fuel st n i f h0
  rw [ht] at h
  unfold initTtl at h
  omega

/-- the same statements for a frame entering at a receiving interface and for the router's forwarding step. -/
theorem C08_ttl_potential_recv (fuel : Nat) (st : St) (n i : Nat) (f : Frame) :
    Thr f (ifaceRecv fuel st n i f).2 ∧ Thr f (routerProcess fuel st n i f).2 ∧
      ∀ ports, Thr f (floodPorts fuel st n i f ports).2 :=
  ⟨(thrAt fuel).recv st n i f, (thrAt fuel).process st n i f, (thrAt fuel).flood st n i f⟩

example : ∃ f : Frame, f.fwd = 0 ∧ f.ttl = initTtl :=
  ⟨{ id := 0, srcMac := 1, dstMac := 2, srcIp := 0, dstIp := 1, ttl := 64, pl := .echoReq 7 }, rfl, rfl⟩

/-- rank of the two flags `is_reattempt`, `is_default_gateway_attempt` / `is_default_route_attempt`. -/
def flagRank (re gw : Bool) : Nat := (if re then 0 else 2) + (if gw then 0 else 1)

/-- every self-call of `HostARP._get_arp_cache_mac_address / _network_interface` strictly lowers the rank. -/
theorem C08_arp_host_rank (nd : Node) (ip t : Ip) (re gw re' gw' : Bool)
    (h : hostArpNext nd ip re gw = .go t re' gw') : flagRank re' gw' < flagRank re gw := by
  unfold hostArpNext at h
  cases re <;> cases gw <;> cases hg : nd.gateway <;> simp [hg] at h <;>
    (try split at h) <;> (try simp at h) <;> (try (obtain ⟨_, rfl, rfl⟩ := h)) <;> simp [flagRank]

/-- every self-call of `RouterARP._get_arp_cache_mac_address / _network_interface` strictly lowers the rank. -/
theorem C08_arp_router_rank (nd : Node) (ip t : Ip) (re gw re' gw' b : Bool)
    (h : routerArpNext nd ip re gw b = .go t re' gw') : flagRank re' gw' < flagRank re gw := by
  unfold routerArpNext at h
  cases re <;> cases gw <;> simp at h <;> (repeat' split at h) <;> (try simp at h) <;>
    (try (obtain ⟨_, rfl, rfl⟩ := h)) <;> simp [flagRank]

/-- so one look-up reads the cache at most three times and sends at most two ARP requests. -/
theorem C08_arp_depth_le_3 (re gw : Bool) : flagRank re gw ≤ 3 := by
  cases re <;> cases gw <;> simp [flagRank]

/-- the frame the session manager builds. -/
def mkFrame (st : St) (oif : Iface) (dmac : Mac) (dst : Ip) (pl : Pl) : Frame :=
  { id := st.nextId, srcMac := oif.mac, dstMac := dmac, srcIp := oif.ip, dstIp := dst, ttl := initTtl, pl := pl }

/-- Destination inside the subnet of an enabled NIC and resolved in the ARP cache: `resolve_outbound_transmission_details`
answers with the destination's own cached MAC and the interface the entry names, without sending anything. -/
theorem C08_host_resolves_direct (fuel : Nat) (st : St) (n k : Nat) (nd : Node) (dst : Ip) (e : ArpEntry)
    (hn : st.node? n = some nd) (_hk : nd.kind = .host)
    (hon : firstEnabledIn nd.ifaces dst 0 = some k) (he : nd.arpGet dst = some e) :
    resolveDetails (fuel + 2) st n dst = (st, some e.mac, some e.ifc) := by
  simp only [resolveDetails, hn, hon, arpMac, arpIfc, he]

/-- … so the frame goes DIRECTLY to the destination's cached MAC. -/
theorem C08_host_next_hop_direct (fuel : Nat) (st : St) (n k : Nat) (nd : Node) (dst : Ip) (pl : Pl) (e : ArpEntry)
    (hn : st.node? n = some nd) (hk : nd.kind = .host)
    (hon : firstEnabledIn nd.ifaces dst 0 = some k) (he : nd.arpGet dst = some e) :
    sendIcmp (fuel + 3) st n dst pl =
      match st.iface? n e.ifc with
      | none => st
      | some oif => (sendFrame (fuel + 2) { st with nextId := st.nextId + 1 } n e.ifc (mkFrame st oif e.mac dst pl)).1 := by
  simp only [sendIcmp, C08_host_resolves_direct fuel st n k nd dst e hn hk hon he, mkFrame]
  rfl

/-- Destination outside every enabled NIC's subnet, gateway configured and resolved: the answer is the GATEWAY's cached
MAC (and the interface of that entry). -/
theorem C08_host_resolves_gateway (fuel : Nat) (st : St) (n : Nat) (nd : Node) (dst g : Ip) (e : ArpEntry)
    (hn : st.node? n = some nd) (hk : nd.kind = .host)
    (hoff : firstEnabledIn nd.ifaces dst 0 = none) (hg : nd.gateway = some g) (he : nd.arpGet g = some e)
    (hen : nd.ifaces.any (·.enabled) = true) :
    resolveDetails (fuel + 2) st n dst = (st, some e.mac, some e.ifc) := by
  simp only [resolveDetails, hn, hoff, hk, hg, arpMac, arpIfc, he, hen, if_true]

/-- … so the frame keeps the destination IP address but is sent to the gateway's MAC. -/
theorem C08_host_next_hop_gateway (fuel : Nat) (st : St) (n : Nat) (nd : Node) (dst g : Ip) (pl : Pl) (e : ArpEntry)
    (hn : st.node? n = some nd) (hk : nd.kind = .host)
    (hoff : firstEnabledIn nd.ifaces dst 0 = none) (hg : nd.gateway = some g) (he : nd.arpGet g = some e)
    (hen : nd.ifaces.any (·.enabled) = true) :
    sendIcmp (fuel + 3) st n dst pl =
      match st.iface? n e.ifc with
      | none => st
      | some oif => (sendFrame (fuel + 2) { st with nextId := st.nextId + 1 } n e.ifc (mkFrame st oif e.mac dst pl)).1 := by
  simp only [sendIcmp, C08_host_resolves_gateway fuel st n nd dst g e hn hk hoff hg he hen, mkFrame]
  rfl

/-- Destination outside every enabled NIC's subnet and no default gateway: nothing is transmitted and nothing changes. -/
theorem C08_host_next_hop_none (fuel : Nat) (st : St) (n : Nat) (nd : Node) (dst : Ip) (pl : Pl)
    (hn : st.node? n = some nd) (hk : nd.kind = .host)
    (hoff : firstEnabledIn nd.ifaces dst 0 = none) (hg : nd.gateway = none) :
    sendIcmp (fuel + 2) st n dst pl = st := by
  simp only [sendIcmp, resolveDetails, hn, hoff, hk, hg]

/-- and `ping` does not even try: without a gateway an off-link destination resolves no outbound interface. -/
theorem C08_host_no_route_no_interface (fuel : Nat) (st : St) (n : Nat) (nd : Node) (dst : Ip)
    (hn : st.node? n = some nd) (hk : nd.kind = .host)
    (hoff : firstEnabledIn nd.ifaces dst 0 = none) (hg : nd.gateway = none) :
    resolveOut (fuel + 1) st n dst = (st, none) := by
  simp only [resolveOut, hn, hoff, hk, hg]

/-- `resolve_outbound_network_interface` for the host's OWN DEFAULT GATEWAY answers at once, whatever the fuel, without
touching the state and without any nested look-up: an enabled interface on the gateway's network, else nothing.  Before the
repair the second case asked ARP for the gateway's interface, ARP sent a request for the gateway, which came back here —
without end (multi-homed host whose gateway-side NIC is disabled, gateway outside the host's subnets). -/
theorem C08_gateway_resolved_without_recursion (st : St) (n : Nat) (nd : Node) (g : Ip)
    (hn : st.node? n = some nd) (hk : nd.kind = .host) (hg : nd.gateway = some g) :
    ∀ fuel, resolveOut (fuel + 1) st n g = (st, firstEnabledIn nd.ifaces g 0) := by
  intro fuel
  cases hfe : firstEnabledIn nd.ifaces g 0 with
  | some i => simp only [resolveOut, hn, hfe]
  | none => simp only [resolveOut, hn, hfe, hk, hg, beq_self_eq_true, if_true]

/-- … so an ARP request for the default gateway from a host that has no enabled interface on the gateway's network sends
nothing and changes nothing, at any fuel: the cycle `send_arp_request → resolve_outbound_network_interface →
get_default_gateway_network_interface → get_arp_cache_network_interface → send_arp_request` of the call graph is cut. -/
theorem C08_gateway_request_cut (st : St) (n : Nat) (nd : Node) (g t : Ip)
    (hn : st.node? n = some nd) (hk : nd.kind = .host) (hg : nd.gateway = some g)
    (hoff : firstEnabledIn nd.ifaces g 0 = none) (ht : t = g ∨ firstIn nd.ifaces t 0 = none) :
    ∀ fuel, sendArpReq (fuel + 2) st n t = st := by
  intro fuel
  have hr := C08_gateway_resolved_without_recursion st n nd g hn hk hg fuel
  rw [hoff] at hr
  by_cases hc : (nd.arpGet t).isSome = true
  · simp only [sendArpReq, hn, hc, if_true]
  · have hc' : (nd.arpGet t).isSome = false := by simpa using hc
    rcases ht with rfl | ht
    · cases hfi : firstIn nd.ifaces t 0 with
      | some i => simp only [sendArpReq, hn, hc', hfi, Option.isSome_some, if_true, hr, Bool.false_eq_true, if_false]
      | none => simp only [sendArpReq, hn, hc', hfi, Option.isSome_none, hg, hr, Bool.false_eq_true, if_false]
    · simp only [sendArpReq, hn, hc', ht, Option.isSome_none, hg, hr, Bool.false_eq_true, if_false]

/-- A router that holds a unicast frame for an off-link destination (no cache entry, no interface subnet contains it)
forwards it to the cached MAC of the next hop `find_best_route` answers with (a route's or the default route's), out of the
interface that entry names, with the TTL lowered by one, source MAC rewritten, IP addresses untouched. -/
theorem router_forwards_off_link (fuel : Nat) (st : St) (n i : Nat) (f : Frame) (nd : Node) (nh : Ip) (e : ArpEntry) (oif : Iface)
    (hn : st.node? n = some nd) (hk : nd.kind = .router) (hb : (f.dstMac == bcastMac) = false)
    (hmiss : nd.arpGet f.dstIp = none) (hoff : firstIn nd.ifaces f.dstIp 0 = none)
    (hnh : (findBestRoute nd.routes f.dstIp).nextHop? = some nh) (hnr : findBestRoute nd.routes f.dstIp ≠ .raised)
    (he : nd.arpGet nh = some e) (hif : st.iface? n e.ifc = some oif) (hen : oif.enabled = true)
    (hnot : oif.inNet f.dstIp = false) (httl : ¬ f.dec.ttl < 1) :
    routerProcess (fuel + 3) st n i f =
      sendFrame (fuel + 2) (st.emit (.hop n f.id f.ttl)) n e.ifc (f.dec.stamp oif.mac e.mac) := by
  have hreq : ∀ k, sendArpReq (k + 1) st n nh = st := by
    intro k; simp only [sendArpReq, hn, he, Option.isSome_some, if_true]
  cases hbest : findBestRoute nd.routes f.dstIp with
  | raised => exact absurd hbest hnr
  | noRoute => rw [hbest] at hnh; cases hnh
  | route idx r | default nh' =>
    rw [hbest] at hnh
    obtain rfl := Option.some.inj hnh
    simp only [routerProcess, hb, Bool.false_eq_true, if_false, arpIfc, arpMac, hn, hmiss, hk, hoff, arpNext, routerArpNext,
      hbest, hreq, he, hif, hen, hnot, httl, Route.Result.nextHop?, beq_self_eq_true, if_true, Bool.not_false, Bool.not_true,
      Option.isSome_none, Bool.and_false]

/-- The route taken is THE ROUTE `find_best_route` RETURNS (hence, by `C08_best_longest / _cheapest / _first_among_equals`, the
longest-prefix, cheapest, earliest entry). -/
theorem C08_router_uses_best_route (fuel : Nat) (st : St) (n i : Nat) (f : Frame) (nd : Node) (r : Route.Route)
    (idx : Nat) (e : ArpEntry) (oif : Iface)
    (hn : st.node? n = some nd) (hk : nd.kind = .router) (hb : (f.dstMac == bcastMac) = false)
    (hmiss : nd.arpGet f.dstIp = none) (hoff : firstIn nd.ifaces f.dstIp 0 = none)
    (hbest : findBestRoute nd.routes f.dstIp = .route idx r)
    (he : nd.arpGet r.nextHop = some e) (hif : st.iface? n e.ifc = some oif) (hen : oif.enabled = true)
    (hnot : oif.inNet f.dstIp = false) (httl : ¬ f.dec.ttl < 1) :
    routerProcess (fuel + 3) st n i f =
      sendFrame (fuel + 2) (st.emit (.hop n f.id f.ttl)) n e.ifc (f.dec.stamp oif.mac e.mac) :=
  router_forwards_off_link fuel st n i f nd r.nextHop e oif hn hk hb hmiss hoff (by rw [hbest]; rfl)
    (by rw [hbest]; exact Route.Result.noConfusion) he hif hen hnot httl

/-- … and along the default route exactly when `find_best_route` answers with it (last resort, `C08_default_iff`). -/
theorem C08_router_uses_default_route (fuel : Nat) (st : St) (n i : Nat) (f : Frame) (nd : Node) (nh : Ip)
    (e : ArpEntry) (oif : Iface)
    (hn : st.node? n = some nd) (hk : nd.kind = .router) (hb : (f.dstMac == bcastMac) = false)
    (hmiss : nd.arpGet f.dstIp = none) (hoff : firstIn nd.ifaces f.dstIp 0 = none)
    (hbest : findBestRoute nd.routes f.dstIp = .default nh)
    (he : nd.arpGet nh = some e) (hif : st.iface? n e.ifc = some oif) (hen : oif.enabled = true)
    (hnot : oif.inNet f.dstIp = false) (httl : ¬ f.dec.ttl < 1) :
    routerProcess (fuel + 3) st n i f =
      sendFrame (fuel + 2) (st.emit (.hop n f.id f.ttl)) n e.ifc (f.dec.stamp oif.mac e.mac) :=
  router_forwards_off_link fuel st n i f nd nh e oif hn hk hb hmiss hoff (by rw [hbest]; rfl)
    (by rw [hbest]; exact Route.Result.noConfusion) he hif hen hnot httl

/-- … and drops it, touching nothing, when there is neither a matching route nor a default route. -/
theorem C08_router_no_route_drops (fuel : Nat) (st : St) (n i : Nat) (f : Frame) (nd : Node)
    (hn : st.node? n = some nd) (hk : nd.kind = .router) (hb : (f.dstMac == bcastMac) = false)
    (hmiss : nd.arpGet f.dstIp = none) (hoff : firstIn nd.ifaces f.dstIp 0 = none)
    (hbest : findBestRoute nd.routes f.dstIp = .noRoute) :
    routerProcess (fuel + 2) st n i f = (st, f) := by
  simp only [routerProcess, hb, Bool.false_eq_true, if_false, arpIfc, arpMac, hn, hmiss, hk, hoff, arpNext, routerArpNext,
    hbest, beq_self_eq_true, if_true, Bool.not_false, Option.isSome_none, Bool.and_false]

/-- with the repaired `process_frame`, a layer-2 broadcast that is not for one of the router's own addresses is never
forwarded and triggers no ARP traffic (this is what ends the mutual ARP recursion of finding F-33). -/
theorem C08_router_never_forwards_broadcast (fuel : Nat) (st : St) (n i : Nat) (f : Frame) (hb : f.dstMac = bcastMac) :
    routerProcess (fuel + 1) st n i f = (st, f) := by
  simp only [routerProcess, hb, beq_self_eq_true, if_true]

/-- A switch that knows the destination MAC (after learning the source) sends a unicast frame out of exactly that port. -/
theorem C08_switch_known_unicast (fuel : Nat) (st : St) (n i p : Nat) (f : Frame) (nd : Node)
    (hn : (st.modNode n (fun nd => nd.learnMac f.srcMac i)).node? n = some nd)
    (hp : nd.macPort f.dstMac = some p) (hu : (f.dstMac != bcastMac) = true) :
    switchRecv (fuel + 1) st n i f = sendFrame fuel (st.modNode n (fun nd => nd.learnMac f.srcMac i)) n p f := by
  simp only [switchRecv, hn, hp, hu, if_true]

/-- Unknown destination MAC (or a broadcast): the ONE frame object is offered to every port in port order; the flood loop
skips disabled ports and the ingress port. -/
theorem C08_switch_unknown_floods (fuel : Nat) (st : St) (n i : Nat) (f : Frame) (nd : Node)
    (hn : (st.modNode n (fun nd => nd.learnMac f.srcMac i)).node? n = some nd)
    (hp : nd.macPort f.dstMac = none) :
    switchRecv (fuel + 1) st n i f =
      floodPorts fuel (st.modNode n (fun nd => nd.learnMac f.srcMac i)) n i f (List.range nd.ifaces.length) := by
  simp only [switchRecv, hn, hp]

/-- the flood never goes back out of the ingress port and never out of a disabled port. -/
theorem C08_flood_skips (fuel : Nat) (st : St) (n i p : Nat) (f : Frame) (ps : List Nat) (pif : Iface)
    (hp : st.iface? n p = some pif) (hskip : (pif.enabled && p != i) = false) :
    floodPorts (fuel + 1) st n i f (p :: ps) = floodPorts (fuel + 1) st n i f ps := by
  simp only [floodPorts, List.foldl_cons, hp, hskip, Bool.false_eq_true, if_false]

/-- (repaired `NIC.receive_frame`) a host NIC passes a unicast frame up only if it is for the NIC's MAC address AND for an
IP address of this host; a broadcast only for the NIC's own or its subnet's broadcast address. -/
theorem C08_host_accepts_only_own_address (nd : Node) (ifc : Iface) (f : Frame) (h : hostAccepts nd ifc f = true) :
    (f.dstMac = bcastMac ∧ (f.dstIp = ifc.ip ∨ f.dstIp = ifc.bcastAddr)) ∨
    (f.dstMac ≠ bcastMac ∧ f.dstMac = ifc.mac ∧ ∃ own ∈ nd.ifaces, own.ip = f.dstIp) := by
  unfold hostAccepts at h
  by_cases hb : f.dstMac = bcastMac
  · left
    simp only [hb, beq_self_eq_true, if_true, Bool.or_eq_true, beq_iff_eq] at h
    exact ⟨hb, h⟩
  · right
    have hne : (f.dstMac == bcastMac) = false := by simpa using hb
    simp only [hne, Bool.false_eq_true, if_false, Bool.and_eq_true, beq_iff_eq] at h
    refine ⟨hb, h.1, ?_⟩
    cases hw : ifaceWithIp nd.ifaces f.dstIp with
    | none => rw [hw] at h; simp at h
    | some own =>
      unfold ifaceWithIp at hw
      exact ⟨own, List.mem_of_find?_eq_some hw, by simpa using List.find?_some hw⟩

/-- what lets a frame that is not for an own address through a router (powered on, first verdict permits) or a firewall
(first verdict of the arrival port's list permits, arrival port external or internal, the second list chosen by the
destination permits). -/
def transitOk (nd : Node) (i : Nat) (pl : Pl) (dst : Ip) : Bool :=
  match nd.fw with
  | none => nd.on && !aclDenies nd i pl
  | some acl =>
    !aclDenies nd i pl &&
      (if i == 2 then
        -- arrival on the DMZ port (`_process_dmz_outbound_frame`), warm: the destination's cache entry names the outbound port,
        -- the list of that port (external outbound / internal inbound) permits
        match nd.arpGet dst with
        | some e => (match dmzSecondList e.ifc with | some l => fwPermits acl l pl | none => false)
        | none => false
      else fwPermits acl (secondList nd i dst) pl)

/-- a router / firewall passes a frame up to its own software only for one of its own addresses
(`check_send_frame_to_session_manager`); everything else that the verdicts permit goes to `process_frame`, after the
source pair was learned. -/
theorem C08_router_transit (fuel : Nat) (st : St) (n i : Nat) (f : Frame) (nd : Node) (ifc : Iface)
    (hn : st.node? n = some nd) (hi : st.iface? n i = some ifc) (hok : transitOk nd i f.pl f.dstIp = true)
    (hnot : ifaceWithIp nd.ifaces f.dstIp = none) (hdmz : nd.fw.isSome → i = 2 → f.dstMac ≠ bcastMac ∧ 1 ≤ fuel) :
    routerRecv (fuel + 1) st n i f =
      routerProcess fuel (st.modNode n (fun nd => nd.addArp f.srcIp f.srcMac i)) n i f := by
  unfold transitOk at hok
  cases hfw : nd.fw with
  | none =>
    simp only [hfw, Bool.and_eq_true, Bool.not_eq_true'] at hok
    simp only [routerRecv, hn, hi, hfw, hok.1, hok.2, Option.isNone_none, Bool.not_true, Bool.and_false, Bool.false_eq_true,
      if_false, hnot]
  | some acl =>
    simp only [hfw, Bool.and_eq_true, Bool.not_eq_true'] at hok
    by_cases h2 : (i == 2) = true
    · -- the DMZ port: the cache hit answers the first look-up without touching the state
      obtain ⟨hb, hf1⟩ := hdmz (by rw [hfw]; rfl) (by simpa using h2)
      obtain ⟨k, rfl⟩ : ∃ k, fuel = k + 1 := ⟨fuel - 1, by omega⟩
      simp only [h2, if_true] at hok
      have hbm : (f.dstMac == bcastMac) = false := by simpa using hb
      cases hget : nd.arpGet f.dstIp with
      | none => rw [hget] at hok; simp at hok
      | some e =>
        rw [hget] at hok
        simp only at hok
        cases hl : dmzSecondList e.ifc with
        | none => rw [hl] at hok; simp at hok
        | some l =>
          rw [hl] at hok
          have hperm : fwPermits acl l f.pl = true := by simpa using hok.2
          have hnode := node?_modNode_self hn (fun nd => nd.addArp f.srcIp f.srcMac i)
          -- the destination is cached in the node as it is AFTER the source pair was learned, too
          have hget' := arpGet_addArp_some nd f.srcIp f.dstIp f.srcMac i e hget
          simp only [routerRecv, hn, hi, hfw, hok.1, h2, hbm, Option.isNone_some, Bool.false_and, Bool.false_eq_true, if_false,
            hnot, if_true, arpIfc, hnode, hget', hl, Option.bind_some, hperm]
    · have h2' : (i == 2) = false := by simpa using h2
      simp only [h2', Bool.false_eq_true, if_false] at hok
      simp only [routerRecv, hn, hi, hfw, hok.1, hok.2, h2', Option.isNone_some, Bool.false_and, Bool.false_eq_true, if_false,
        hnot, if_true]

/-- the plain-router reading: powered on, the default ACL (ARP exempt, ICMP permitted, the service only with a rule). -/
theorem C08_router_software_only_own_address (fuel : Nat) (st : St) (n i : Nat) (f : Frame) (nd : Node) (ifc : Iface)
    (hn : st.node? n = some nd) (hi : st.iface? n i = some ifc) (hfw : nd.fw = none) (hon : nd.on = true)
    (hacl : ((f.pl == .dataReq || f.pl == .dataRep) && !nd.flag) = false) (happ : appDenied nd.serves f.pl = false)
    (hnot : ifaceWithIp nd.ifaces f.dstIp = none) :
    routerRecv (fuel + 1) st n i f =
      routerProcess fuel (st.modNode n (fun nd => nd.addArp f.srcIp f.srcMac i)) n i f :=
  C08_router_transit fuel st n i f nd ifc hn hi (by simp [transitOk, aclDenies, hfw, hon, hacl, happ]) hnot
    (by intro h; rw [hfw] at h; cases h)

/-- a router or firewall whose first verdict denies the frame's class drops it before anything else happens (no ARP
learning, no hand-over to software, no forwarding): "exchanges that every device on the path permits" is a real
precondition.  On a firewall this includes ARP (no exemption). -/
theorem C08_first_verdict_denies_first (fuel : Nat) (st : St) (n i : Nat) (f : Frame)
    (hden : ∀ nd, st.node? n = some nd → aclDenies nd i f.pl = true) :
    routerRecv (fuel + 1) st n i f = (st, f) := by
  simp only [routerRecv]
  split
  · rename_i nd ifc hn hi
    simp [hden nd hn]
  · rfl

theorem C08_router_acl_denies_first (fuel : Nat) (st : St) (n i : Nat) (f : Frame) (nd : Node) (_ifc : Iface)
    (hn : st.node? n = some nd) (hfw : nd.fw = none)
    (hpl : f.pl = .dataReq ∨ f.pl = .dataRep) (hflag : nd.flag = false) :
    routerRecv (fuel + 1) st n i f = (st, f) := by
  apply C08_first_verdict_denies_first
  intro nd' hn'
  rw [hn] at hn'
  have : nd' = nd := by simpa using hn'.symm
  subst this
  rcases hpl with h | h <;> simp [aclDenies, hfw, h, hflag]

/-- a firewall's second verdict (the list chosen by the destination) denies: the source pair was learned, nothing else. -/
theorem C08_firewall_second_verdict_drops (fuel : Nat) (st : St) (n i : Nat) (f : Frame) (nd : Node) (ifc : Iface)
    (acl : List (Nat × Nat)) (hn : st.node? n = some nd) (hi : st.iface? n i = some ifc) (hfw : nd.fw = some acl)
    (h1 : aclDenies nd i f.pl = false) (hi2 : (i == 2) = false)
    (h2 : fwPermits acl (secondList nd i f.dstIp) f.pl = false) (hnot : ifaceWithIp nd.ifaces f.dstIp = none) :
    routerRecv (fuel + 1) st n i f = (st.modNode n (fun nd => nd.addArp f.srcIp f.srcMac i), f) := by
  simp only [routerRecv, hn, hi, hfw, h1, h2, hi2, Option.isNone_some, Bool.false_and, Bool.false_eq_true, if_false, hnot]

/-- the port / rule-list tables of the firewall are those of C06's element model (`Model/Filter.lean`, itself tied to
the source by `Gen/Filter.lean`): arrival port ↦ entry point ↦ rule list. -/
def listOfAclId : Filter.AclId → Option Nat
  | .extIn => some 0 | .extOut => some 1 | .intIn => some 2 | .intOut => some 3 | .dmzIn => some 4 | .dmzOut => some 5
  | .router => none

theorem C08_firewall_tables_match_filter :
    (∀ i, ingressList i = (Filter.portEntry i).bind (fun e => listOfAclId (Filter.entryAcl e))) ∧
    Filter.entryCalls .extIn = [.learn, .session, .entry .dmzIn, .entry .intIn] ∧
    Filter.entryCalls .intOut = [.learn, .session, .entry .dmzIn, .entry .extOut] ∧
    Filter.entryCalls .dmzOut = [.learn, .session, .lookup, .lookup, .entry .extOut, .entry .intIn] ∧
    (∀ nd dst, secondList nd 0 dst = if inDmzNet nd dst then 4 else 2) ∧
    (∀ nd dst, secondList nd 1 dst = if inDmzNet nd dst then 4 else 1) ∧
    dmzSecondList Filter.extPort = some 1 ∧ dmzSecondList Filter.intPort = some 2 ∧ dmzSecondList Filter.dmzPort = none ∧
    Filter.powerGuard .firewall = false ∧ Filter.powerGuard .router = true := by
  refine ⟨?_, rfl, rfl, rfl, fun _ _ => rfl, fun _ _ => rfl, rfl, rfl, rfl, rfl, rfl⟩
  intro i
  unfold ingressList Filter.portEntry Filter.extPort Filter.intPort Filter.dmzPort
  by_cases h0 : i = 0
  · subst h0; rfl
  · by_cases h1 : i = 1
    · subst h1; rfl
    · by_cases h2 : i = 2
      · subst h2; rfl
      · simp [h0, h1, h2]

def ipA : Ip := 0xC0A80102#32
def ipB : Ip := 0xC0A80103#32
def ipGw : Ip := 0xC0A80101#32
def ipFar : Ip := 0x08080808#32
def exA : Node :=
  { kind := .host, gateway := some ipGw,
    ifaces := [{ mac := 1, ip := ipA, plen := 24, enabled := true, peer := some (1, 0) }],
    arp := [{ ip := ipB, mac := 2, ifc := 0 }, { ip := ipGw, mac := 2, ifc := 0 }] }
def exB : Node :=
  { kind := .host, ifaces := [{ mac := 2, ip := ipB, plen := 24, enabled := true, peer := some (0, 0) }] }
/-- host A — host B on one link; A also has a default gateway. -/
def exSt : St := { nodes := [exA, exB] }

example : exSt.node? 0 = some exA ∧ exA.kind = .host ∧ firstEnabledIn exA.ifaces ipB 0 = some 0 ∧
    exA.arpGet ipB = some { ip := ipB, mac := 2, ifc := 0 } := by decide
example : firstEnabledIn exA.ifaces ipFar 0 = none ∧ exA.gateway = some ipGw ∧
    exA.arpGet ipGw = some { ip := ipGw, mac := 2, ifc := 0 } ∧ exA.ifaces.any (·.enabled) = true := by decide
example : firstEnabledIn exB.ifaces ipFar 0 = none ∧ exB.gateway = none := by decide
/-- the model really delivers: A pings B once over a cold cache of B, the reply comes back, result `True`. -/
example : (ping 40 exSt 0 ipB 1).2 = true := by decide +kernel
/-- … and an exhausted frame is dropped at B's NIC: with TTL 1 the request is logged but never reaches software. -/
example : (ifaceRecv 5 exSt 1 0 { id := 9, srcMac := 1, dstMac := 2, srcIp := ipA, dstIp := ipB, ttl := 1, pl := .echoReq 3 }).1.log =
    [.rx 1 0 9 1] := by decide +kernel
def exRoute : Route.Route := { addr := 0xAC100000#32, mask := 0xFFFF0000#32, nextHop := 0x0A000002#32, metric := 0 }
def exR : Node :=
  { kind := .router,
    ifaces := [{ mac := 10, ip := ipGw, plen := 24, enabled := true }, { mac := 11, ip := 0x0A000001#32, plen := 30, enabled := true }],
    routes := { routes := [exRoute], default := some 0x0A000002#32 },
    arp := [{ ip := 0x0A000002#32, mac := 20, ifc := 1 }] }
/-- hypotheses of `C08_router_uses_best_route` (destination 172.16.0.5) hold for a concrete router, and so do those of
`C08_router_uses_default_route` (destination 8.8.8.8). -/
example : exR.arpGet 0xAC100005#32 = none ∧ firstIn exR.ifaces 0xAC100005#32 0 = none ∧
    findBestRoute exR.routes 0xAC100005#32 = .route 0 exRoute ∧
    exR.arpGet exRoute.nextHop = some { ip := 0x0A000002#32, mac := 20, ifc := 1 } ∧
    (exR.ifaces[1]?.map (fun o => o.enabled && !o.inNet 0xAC100005#32)) = some true ∧
    findBestRoute exR.routes ipFar = .default 0x0A000002#32 ∧
    findBestRoute { exR.routes with default := none } ipFar = .noRoute := by decide
/-- hypotheses of `C08_gateway_request_cut`: a dual-homed host whose NIC towards the gateway is disabled, the other up. -/
def exDual : Node :=
  { kind := .host, gateway := some ipGw,
    ifaces := [{ mac := 1, ip := ipA, plen := 24, enabled := false, peer := some (1, 0) },
               { mac := 3, ip := 0xC0A80205#32, plen := 24, enabled := true, peer := some (1, 1) }] }
example : exDual.kind = .host ∧ exDual.gateway = some ipGw ∧ firstEnabledIn exDual.ifaces ipGw 0 = none ∧
    firstIn exDual.ifaces ipFar 0 = none ∧ exDual.ifaces.any (·.enabled) = true := by decide
example : hostArpNext exA ipFar false false = .go ipFar true false ∧ hostArpNext exA ipFar true false = .go ipGw true true := by
  decide

end Primaite.Forward
