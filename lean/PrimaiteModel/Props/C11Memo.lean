/-
C11 — a mask entry is a function of (tree, truth of every rule on the path FOR THIS REQUEST'S OPTIONS) and of nothing else.

Class closed here (seeded C11-g): mask computation that shares guard verdicts between the entries of one mask.  One rule OBJECT
often serves every child of a component (the `folder` edge of a file system, the `file` edge of a folder) and reads the child's
NAME from the request options; a verdict remembered per edge then belongs to whichever sibling came first in the action map.

* `C11_memo_sound_of_option_free`  : a per-edge memo computes the right mask for EVERY tree / action map, PROVIDED every rule
                                     ignores its options;
* `C11_memo_counterexample`        : with a name-reading rule (two files of one folder, one deleted) it does not;
* `C11_gen_option_free_rules` / `C11_gen_option_reading_rules` : which of the code's rules (the regenerated translation of
                                     every `RequestPermissionValidator.__call__`, Gen/RequestValidators.lean) are which.
-/
import PrimaiteModel.Model.Mask
import PrimaiteModel.Model.RequestGuards
import PrimaiteModel.Gen.RequestValidators
import PrimaiteModel.Gen.RequestSchema
import PrimaiteModel.Props.C11
namespace Primaite.Request
open Primaite.Mask

/-- **General form of the class**: a mask computed with ANY state threaded through its loop — a cache, something kept from the
previous step's mask (`s0` arbitrary) — is the mask, for every action map, as soon as there is an invariant of the state under
which each verdict is the stateless one and which every evaluation keeps.  (The converse is what the counterexample below and the
sibling-divergence rig are for: where no such invariant exists some map and state show the difference.) -/
theorem C11_stateful_mask_eq_of_transparent {α σ} (valid : α → Bool) (validSt : σ → α → Bool × σ) (Inv : σ → Prop)
    (h : ∀ s a, Inv s → (validSt s a).1 = valid a ∧ Inv (validSt s a).2) (s0 : σ) (h0 : Inv s0) (amap : List (Nat × α)) :
    (actionMaskSt validSt s0 amap).1 = actionMask valid amap ∧ Inv (actionMaskSt validSt s0 amap).2 := by
  unfold actionMaskSt actionMask
  suffices hh : ∀ (l : List (Nat × α)) (st : Option (List Bool)) (s : σ), Inv s →
      (l.foldl (putBitSt validSt) (st, s)).1 = l.foldl (putBit valid) st ∧ Inv (l.foldl (putBitSt validSt) (st, s)).2 from
    hh amap _ s0 h0
  intro l
  induction l with
  | nil => intro st s hs; exact ⟨rfl, hs⟩
  | cons e t ih =>
    intro st s hs
    obtain ⟨h1, h2⟩ := h s e.2 hs
    simp only [List.foldl_cons, putBitSt]
    have := ih (putBit (fun _ => (validSt s e.2).1) st e) (validSt s e.2).2 h2
    refine ⟨?_, this.2⟩
    rw [this.1]
    congr 1
    cases st with
    | none => rfl
    | some l => simp only [putBit, h1]

/-- … consequently also ACROSS masks: two masks computed one after the other with the state handed on are both the mask of
their own valuation, provided the invariant also survives whatever happens to the state between them (`between`) -/
theorem C11_stateful_mask_across_steps {α σ} (valid valid' : α → Bool) (validSt validSt' : σ → α → Bool × σ) (Inv Inv' : σ → Prop)
    (h : ∀ s a, Inv s → (validSt s a).1 = valid a ∧ Inv (validSt s a).2)
    (h' : ∀ s a, Inv' s → (validSt' s a).1 = valid' a ∧ Inv' (validSt' s a).2)
    (between : σ → σ) (hb : ∀ s, Inv s → Inv' (between s)) (s0 : σ) (h0 : Inv s0) (amap : List (Nat × α)) :
    (actionMaskSt validSt s0 amap).1 = actionMask valid amap ∧
    (actionMaskSt validSt' (between (actionMaskSt validSt s0 amap).2) amap).1 = actionMask valid' amap := by
  obtain ⟨e1, i1⟩ := C11_stateful_mask_eq_of_transparent valid validSt Inv h s0 h0 amap
  exact ⟨e1, (C11_stateful_mask_eq_of_transparent valid' validSt' Inv' h' _ (hb _ i1) amap).1⟩

/-- a memo KEPT from the previous step without clearing it (`between = id`) breaks the invariant as soon as a rule's truth
changed: the service was running when the first mask was computed and has stopped since -/
theorem C11_memo_kept_across_steps_counterexample :
    let tree : Kids := [("stop", 0, .leaf 0)]
    let running : Env := fun _ _ => true
    let stopped : Env := fun _ _ => false
    let m1 := actionMaskSt (fun m a => checkValidMemoK running tree a m) [] [(0, ["stop"])]
    m1.1 = some [true] ∧
    (actionMaskSt (fun m a => checkValidMemoK stopped tree a m) m1.2 [(0, ["stop"])]).1 = some [true] ∧
    actionMask (fun a => checkValidK stopped tree a) [(0, ["stop"])] = some [false] := by decide +kernel

def OptionFree (env : Env) : Prop := ∀ v a a', env v a = env v a'

def MemoOK (env : Env) (m : Memo) : Prop := ∀ v b, memoGet m v = some b → ∀ a, env v a = b

theorem MemoOK.nil (env : Env) : MemoOK env [] := by
  intro v b h; simp [memoGet] at h

theorem MemoOK.cons {env : Env} {m : Memo} (hf : OptionFree env) (hm : MemoOK env m) (v : VId) (a : List Key) :
    MemoOK env ((v, env v a) :: m) := by
  intro v' b h a'
  simp only [memoGet] at h
  by_cases hv : v' = v
  · subst hv
    simp only [if_true] at h
    cases h
    exact hf v' a' a
  · simp only [hv, if_false] at h
    exact hm v' b h a'

theorem checkValidMemoK_sound (env : Env) (hf : OptionFree env) (p : List Key) :
    ∀ (kids : Kids) (m : Memo), MemoOK env m →
      (checkValidMemoK env kids p m).1 = checkValidK env kids p ∧ MemoOK env (checkValidMemoK env kids p m).2 := by
  intro kids m hm
  -- the branches of `checkValidMemoK`: request exhausted; key missing; verdict remembered (true at a leaf, true at a manager,
  -- false); verdict evaluated and remembered (true at a leaf, true at a manager, false)
  fun_induction checkValidMemoK env kids p m with
  | case1 kids m => exact ⟨rfl, hm⟩
  | case2 kids k rest m hl => exact ⟨by simp [checkValidK, hl], hm⟩
  | case3 kids k rest m v h hl hg => exact ⟨by simp [checkValidK, hl, hm v true hg rest], hm⟩
  | case4 kids k rest m v kids' hl hg ih => simpa [checkValidK, hl, hm v true hg rest] using ih hm
  | case5 kids k rest m v sub hl b hg hb => exact ⟨by simp [checkValidK, hl, hm v b hg rest, hb], hm⟩
  | case6 kids k rest m v hg he h hl => exact ⟨by simp [checkValidK, hl, he], he ▸ MemoOK.cons hf hm v rest⟩
  | case7 kids k rest m v hg he kids' hl ih => simpa [checkValidK, hl, he] using ih (he ▸ MemoOK.cons hf hm v rest)
  | case8 kids k rest m v sub hl hg he =>
    rw [Bool.not_eq_true] at he
    exact ⟨by simp [checkValidK, hl, he], he ▸ MemoOK.cons hf hm v rest⟩

/-- the per-edge memo is one instance of a state threaded through the mask loop -/
theorem actionMaskMemo_eq_stateful {α} (env : Env) (kids : Kids) (form : α → List Key) (amap : List (Nat × α)) :
    actionMaskMemo env kids form amap = (actionMaskSt (fun m a => checkValidMemoK env kids (form a) m) [] amap).1 := rfl

/-- **Sharing verdicts between the entries of one mask is sound exactly under option-freeness** (this direction: for every tree,
every `form_request`, every action map in any listing order — the memoised mask IS the mask). -/
theorem C11_memo_sound_of_option_free {α} (env : Env) (hf : OptionFree env) (kids : Kids) (form : α → List Key)
    (amap : List (Nat × α)) :
    actionMaskMemo env kids form amap = actionMask (fun a => checkValidK env kids (form a)) amap :=
  (C11_stateful_mask_eq_of_transparent (fun a => checkValidK env kids (form a))
    (fun m a => checkValidMemoK env kids (form a) m) (MemoOK env)
    (fun m a hm => checkValidMemoK_sound env hf (form a) kids m hm) [] (MemoOK.nil env) amap).1

/-! #### … and why it is NOT sound for the code's file-system rules: two files of one folder, `a.txt` deleted -/

/-- `folder docs` → `file` edge (rule 0, reads the file's name: "exists and is not deleted") → per-file managers with `scan` -/
def sibTree : Kids := [("file", 0, .node [("a.txt", 1, .node [("scan", 2, .leaf 0)]), ("b.txt", 3, .node [("scan", 4, .leaf 1)])])]
/-- `a.txt` has been deleted, `b.txt` has not; every other rule holds -/
def sibEnv : Env := fun v opts => if v = 0 then opts.head? == some "b.txt" else true
def sibMap : List (Nat × List Key) := [(0, ["file", "a.txt", "scan"]), (1, ["file", "b.txt", "scan"])]

theorem C11_memo_counterexample :
    actionMask (fun a => checkValidK sibEnv sibTree a) sibMap = some [false, true] ∧
    actionMaskMemo sibEnv sibTree id sibMap = some [false, false] ∧
    dispatchK sibEnv sibTree ["file", "b.txt", "scan"] 0 = .reached 1 [] ∧
    -- listed the other way round, the memo OFFERS the action on the deleted file
    actionMaskMemo sibEnv sibTree id [(0, ["file", "b.txt", "scan"]), (1, ["file", "a.txt", "scan"])] = some [true, true] ∧
    dispatchK sibEnv sibTree ["file", "a.txt", "scan"] 0 = .failure 0 0 := by decide +kernel

/-- non-vacuity of the soundness theorem: an option-free valuation with a false rule, on the same tree and map -/
example : OptionFree (fun v _ => v != 3) := fun _ _ _ => rfl
example : actionMaskMemo (fun v _ => v != 3) sibTree id sibMap = some [true, false] := by decide +kernel

/-- each entry of the mask depends on NOTHING but its own action: two well-numbered maps that agree on number `i` give bit `i`
the same value, whatever else they contain and in whatever order (read off `actionMask_eq`) -/
theorem C11_mask_entry_depends_only_on_its_action {α} (valid : α → Bool) (amap amap' : List (Nat × α))
    (h : WellNumbered amap) (h' : WellNumbered amap') (i : Nat) (hi : i < amap.length) (hi' : i < amap'.length)
    (same : actionOf amap i = actionOf amap' i) :
    ∃ r r', actionMask valid amap = some r ∧ actionMask valid amap' = some r' ∧ r[i]? = r'[i]? :=
  ⟨_, _, actionMask_eq valid h, actionMask_eq valid h', by simp [hi, hi', same]⟩

end Primaite.Request

namespace Primaite.Request
open Primaite.Guards Primaite.Schema Primaite.Gen.RequestValidators

def readsOptions : VAtom → Bool
  | .folderExists | .folderNotDeleted | .fsFileExists | .folderFileExists | .fileNotDeleted => true
  | _ => false

/-- the rules on node / NIC / service / application / group edges never look at the options: their verdict may be shared -/
theorem C11_gen_option_free_rules (a : VAtom) (h : readsOptions a = false) (self : VSelf) (r r' : List Key) (c : Context) :
    eval a self r c = eval a self r' c := by
  cases a <;> first | rfl | (simp [readsOptions] at h)

def sibFolder : FolderS := ⟨"docs", false, [⟨"b.txt", false⟩], [⟨"a.txt", true⟩]⟩
def sibSelf : VSelf := { file_system := ⟨[sibFolder], [⟨"old", true, [], []⟩]⟩, folder := sibFolder }

/-- every file-system rule gives DIFFERENT verdicts to two siblings in different conditions — on the translated code -/
theorem C11_gen_option_reading_rules :
    eval .folderExists sibSelf ["docs"] none ≠ eval .folderExists sibSelf ["old"] none ∧
    eval .folderNotDeleted sibSelf ["docs"] none ≠ eval .folderNotDeleted sibSelf ["old"] none ∧
    eval .fsFileExists sibSelf ["docs", "b.txt"] none ≠ eval .fsFileExists sibSelf ["docs", "a.txt"] none ∧
    eval .folderFileExists sibSelf ["b.txt"] none ≠ eval .folderFileExists sibSelf ["a.txt"] none ∧
    eval .fileNotDeleted sibSelf ["b.txt"] none ≠ eval .fileNotDeleted sibSelf ["a.txt"] none := by decide +kernel

end Primaite.Request

namespace Primaite.Request
open Primaite.Schema Primaite.Gen.RequestSchema

/-- every edge (manager, key; `*` = every key of a dynamic manager) whose validator contains a rule that reads the options -/
def optionReadingEdges : List (String × Key) :=
  mgrs.flatMap (fun mm => match mm.2 with
    | .static edges => (edges.filter (fun e => e.2.1.any readsOptions)).map (fun e => (mm.1, e.1))
    | .dynamic _ _ v => if v.any readsOptions then [(mm.1, "*")] else [])

/-- The edges on which ONE rule object judges several siblings by name are exactly the five file-system edges: a file system's
`folder` and `file` edges, a folder's `file` edge, and `delete file` / `delete folder`.  No dynamic manager (services, applications,
NICs, nodes: one edge and one rule object PER child) carries such a rule.  These are the edges the sibling-divergence family of
the rig aims two siblings at; a new name-reading rule elsewhere breaks this theorem and tells where the family has to grow. -/
theorem C11_gen_option_reading_edges :
    optionReadingEdges = [("FileSystem", "folder"), ("FileSystem", "file"), ("Folder", "file"),
                          ("FileSystem._delete_manager", "file"), ("FileSystem._delete_manager", "folder")] := by decide +kernel

end Primaite.Request
