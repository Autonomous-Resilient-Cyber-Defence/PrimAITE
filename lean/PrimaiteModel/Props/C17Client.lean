/-
C17 — the CLIENT side.  `DatabaseClient.receive`, the re-attempt halves of `_connect` / `_query`, the guards of
`DatabaseClientConnection.query` / `.disconnect`, `_disconnect`, `get_new_connection`, `query`, `check_connection`, `execute`
are translated from applications/database_client.py on every run (Gen/DatabaseClientTr.lean); the model's `getNewConnection`,
`rawQuery`, `handleQuery`, `clientDisconnect` and `nativeQuery` decide what the translated code decides (`check_connection`,
`execute` and the guard of `.disconnect` are translated only); "a query is sent only over a connection id the server issued to
THIS client" is proved for the client's public API (handles and the native connection) along every run.
-/
import PrimaiteModel.Props.C17
import PrimaiteModel.Gen.DatabaseClientTr
namespace Primaite.Database
open Primaite.Gen

/-- The answer handler creates a connection object exactly for a `connect_response` whose `response` is True (= status 200),
while the application can act; `get_new_connection` then returns that connection, and nothing otherwise. -/
theorem C17_tr_client_connect_decision (canAct : Bool) (a : Nat × Option Nat) :
    DatabaseClientTr.getNewConnection canAct true (DatabaseClientTr.connectReattempt (DatabaseClientTr.recv canAct (connectAnswer a)))
      = if canAct && a.1 == 200 then a.2 else none := by
  unfold DatabaseClientTr.getNewConnection DatabaseClientTr.connectReattempt DatabaseClientTr.recv connectAnswer
  cases canAct <;> cases (a.1 == 200) <;> cases a.2 <;> simp

/-- A query returns True exactly when the answer that arrives is a 200 carrying the query's own uuid. -/
theorem C17_tr_client_query_decision (canAct : Bool) (a : Nat × Option Nat) :
    DatabaseClientTr.queryReattempt (DatabaseClientTr.recv canAct (sqlAnswer a)) = (canAct && a.1 == 200) := by
  unfold DatabaseClientTr.queryReattempt DatabaseClientTr.recv sqlAnswer
  cases canAct <;> cases (a.1 == 200) <;> simp

/-- no answer, or an answer the client does not recognise: nothing is created, no success recorded -/
theorem C17_tr_client_ignores (canAct : Bool) (a : Ans) (h : a.isDict = false ∨ a.type = none ∨ a.type = some .other) :
    DatabaseClientTr.recv canAct a = {} := by
  unfold DatabaseClientTr.recv
  rcases h with h | h | h <;> cases canAct <;> simp [h]

/-- what the model's `get_new_connection` decides = the translated decision on the answer the client application sees -/
theorem C17_tr_client_get_new_connection (st : State) (i : Nat) (c : Client) (hc : st.client? i = some c) :
    (st.getNewConnection i).2.2.isSome =
      (match (st.send i (.connect c.serverPw)).2.2 with
       | some a => (DatabaseClientTr.getNewConnection c.canAct true
                      (DatabaseClientTr.connectReattempt (DatabaseClientTr.recv c.canAct (connectAnswer a)))).isSome
       | none => false) := by
  unfold State.getNewConnection
  simp only [hc, C17_tr_client_connect_decision]
  generalize st.send i (.connect c.serverPw) = r
  obtain ⟨st1, status, seen⟩ := r
  by_cases hca : c.canAct = true
  · simp only [hca, Bool.not_true, Bool.false_eq_true, if_false, Bool.true_and]
    cases seen with
    | none => rfl
    | some a =>
      obtain ⟨code, oid⟩ := a
      by_cases h200 : code = 200
      · subst h200
        cases oid <;> rfl
      · have h' : (code == 200) = false := by simpa using h200
        simp only [h', Bool.false_eq_true, if_false, Option.isSome_none]
        split
        · rename_i heq; simp only [Option.some.injEq, Prod.mk.injEq] at heq; exact absurd heq.1 h200
        · rfl
  · have hca' : c.canAct = false := by simpa using hca
    simp only [hca', Bool.not_false, if_true, Bool.false_and, Bool.false_eq_true, if_false, Option.isSome_none]
    cases seen <;> rfl

/-- the model's `_query` result = the translated decision on the answer that is seen (the model's `send` already hides an
answer from a client application that cannot act) -/
theorem C17_tr_client_raw_query (st : State) (i : Nat) (cid : Option Nat) (q : Sql) :
    (st.rawQuery i cid q).2.2 =
      (match (st.send i (.sql cid q)).2.2 with
       | some a => DatabaseClientTr.queryReattempt (DatabaseClientTr.recv true (sqlAnswer a))
       | none => false) := by
  unfold State.rawQuery
  simp only [C17_tr_client_query_decision]
  generalize st.send i (.sql cid q) = r
  obtain ⟨st1, status, seen⟩ := r
  cases seen with
  | none => rfl
  | some a =>
    obtain ⟨code, oid⟩ := a
    by_cases h200 : code = 200
    · subst h200; rfl
    · have h' : (code == 200) = false := by simpa using h200
      simp only [h', Bool.true_and]
      split
      · rename_i heq; simp only [Option.some.injEq, Prod.mk.injEq] at heq; exact absurd heq.1 h200
      · rfl

/-- a handle sends iff the translated guard says so - and then it sends ITS OWN connection id from ITS OWN host -/
theorem C17_tr_client_handle_query (st : State) (h : Nat) (hd : Handle) (q : Sql) (hh : st.handles[h]? = some hd) :
    st.handleQuery h q =
      if DatabaseClientTr.handleQuerySends hd.active (st.clientInstalled hd.host) then st.rawQuery hd.host (some hd.id) q
      else (st, none, false) := by
  unfold State.handleQuery DatabaseClientTr.handleQuerySends
  simp [hh]

/-- `_disconnect` sends the disconnect payload (and pops the connection) iff the translated guards say so -/
theorem C17_tr_client_disconnect (st : State) (i id : Nat) (c : Client) (hc : st.client? i = some c) :
    ((st.clientDisconnect i id).2.2 = true ↔
      DatabaseClientTr.disconnectSends c.canAct c.conns.length (c.conns.contains id) = true) := by
  unfold State.clientDisconnect DatabaseClientTr.disconnectSends
  simp only [hc]
  by_cases hca : c.canAct = true
  · by_cases hin : c.conns.contains id = true
    · have hne : (c.conns.length == 0) = false := by
        cases hl : c.conns with
        | nil => rw [hl] at hin; simp at hin
        | cons x xs => simp
      simp only [hca, hin, hne, Bool.not_true, Bool.false_eq_true, if_false]
    · have hin' : c.conns.contains id = false := by simpa using hin
      simp only [hca, hin', Bool.not_true, Bool.not_false, Bool.false_eq_true, if_false, if_true]
      split <;> simp
  · have hca' : c.canAct = false := by simpa using hca
    simp [hca']

/-- `DatabaseClient.query` (native connection) -/
theorem C17_tr_client_native_query (st : State) (i : Nat) (q : Sql) (c : Client) (hc : st.client? i = some c) :
    (st.nativeQuery i q).2.2 =
      DatabaseClientTr.nativeQuery c.canAct c.native.isSome
        (match c.native with | some h => (st.handleQuery h q).2.2 | none => false) := by
  unfold State.nativeQuery DatabaseClientTr.nativeQuery
  simp only [hc]
  cases c.canAct <;> cases c.native <;> simp

/-- Every handle (`DatabaseClientConnection` object) carries an id the server has issued, and whenever that id is live in the
server's table, the connection belongs to the handle's own host. -/
def State.HandlesOwn (st : State) : Prop :=
  st.srv.WF ∧ ∀ h ∈ st.handles, h.id < st.srv.nextId ∧ ∀ c ∈ st.srv.conns, c.id = h.id → c.owner = h.host

theorem own_of_eq {st st' : State} (h1 : st'.srv = st.srv) (h2 : st'.handles = st.handles) (h : st.HandlesOwn) : st'.HandlesOwn := by
  unfold State.HandlesOwn at h ⊢; rw [h1, h2]; exact h

theorem own_apply (st : State) (e : SrvEv) (h : st.HandlesOwn) : ({ st with srv := e.apply st.srv } : State).HandlesOwn := by
  refine ⟨apply_WF st.srv e h.1, ?_⟩
  intro hd hm
  have h0 := h.2 hd hm
  refine ⟨Nat.lt_of_lt_of_le h0.1 (apply_nextId_mono st.srv e), ?_⟩
  intro c hc hid
  rcases C17_table_grows_only_by_authorised_connect st.srv e c hc with hold | ⟨hnew, _⟩
  · exact h0.2 c hold hid
  · omega

theorem own_keeps (A : SrvEv → Prop) : Keeps A State.HandlesOwn where
  srv st e _ h := own_apply st e h
  frame _ _ h hs hh _ := own_of_eq hs hh h
  newHandle st i pw id h hs heq := by
    -- the answer (200, id) was given by the server in this exchange: id is the fresh id, issued to `i`
    obtain ⟨hid, hconns, hnext⟩ := receive_connect_ok st.srv i pw id (send_seen st i _ _ heq)
    rw [← send_seen_srv st i _ _ heq] at hconns hnext
    refine ⟨hs.1, ?_⟩
    intro hd hm
    rcases List.mem_append.mp hm with hm | hm
    · exact hs.2 hd hm
    · simp only [List.mem_singleton] at hm
      subst hm
      dsimp only
      refine ⟨?_, ?_⟩
      · rw [hid, hnext]; exact Nat.lt_succ_self _
      · intro cc hcc hcid
        rw [hconns] at hcc
        rcases List.mem_append.mp hcc with hcc | hcc
        · have := h.1.1 cc hcc; rw [hcid, hid] at this; exact absurd this (Nat.lt_irrefl _)
        · simp only [List.mem_singleton] at hcc; subst hcc; rfl
  mapHandles st f hf h := by
    refine ⟨h.1, ?_⟩
    intro hd hm
    obtain ⟨x, hx, rfl⟩ := List.mem_map.mp hm
    have := h.2 x hx
    rw [(hf x).1, (hf x).2]; exact this

theorem own_srv_event (st : State) (s' : Server) (e : SrvEv) (hs : s' = e.apply st.srv) (h : st.HandlesOwn) :
    ({ st with srv := s' } : State).HandlesOwn := by subst hs; exact own_apply st e h

theorem own_step (st : State) (op : Op) (h : st.HandlesOwn) : (step st op).1.HandlesOwn :=
  step_keeps (own_keeps _) (fun _ _ _ h hs hh => own_of_eq hs hh h) st h

/-- **Client side, every run.**  From a state in which every handle carries an id issued to its own host (e.g. the initial
state: no handles), along EVERY operation sequence - connects by any client, red applications, uninstalls, re-installs of the
service, power cycles ... - every `DatabaseClientConnection` ever created carries an id that the server issued, and whenever
that id is live in the server's table it is a connection of the handle's OWN host. -/
theorem C17_client_handles_own_run (st : State) (ops : List Op) (h : st.HandlesOwn) : (run st ops).HandlesOwn :=
  run_invariant (C := fun _ => True) (fun st op _ => own_step st op) st ops (fun _ _ => trivial) h

/-- **A query is sent only over a connection id the server issued to THIS client** (the client's public API: a handle's
`query`, hence also the native connection's): what a handle sends is the payload `sql` with ITS OWN id from ITS OWN host, and
if the server runs it (the id is live), the server's table says that connection was opened by that very host. -/
theorem C17_client_queries_own_connection (st : State) (ops : List Op) (h : st.HandlesOwn) (k : Nat) (hd : Handle) (q : Sql)
    (hk : (run st ops).handles[k]? = some hd) :
    (run st ops).handleQuery k q =
      (if hd.active && (run st ops).clientInstalled hd.host then (run st ops).rawQuery hd.host (some hd.id) q
       else (run st ops, none, false)) ∧
    hd.id < (run st ops).srv.nextId ∧
    ∀ c ∈ (run st ops).srv.conns, c.id = hd.id → c.owner = hd.host := by
  have hinv := C17_client_handles_own_run st ops h
  have hm : hd ∈ (run st ops).handles := List.mem_of_getElem? hk
  refine ⟨?_, (hinv.2 hd hm).1, (hinv.2 hd hm).2⟩
  unfold State.handleQuery
  simp [hk]

example : ({ clients := [{}, {}] } : State).HandlesOwn := by
  refine ⟨⟨?_, List.nodup_nil⟩, ?_⟩
  · intro c hc; cases hc
  · intro h hh; cases hh
example : (run ({ clients := [{}, {}] } : State) [.connect 0, .connect 1, .hDisconnect 0, .connect 1]).handles.map (fun h => (h.id, h.host))
    = [(0, 0), (1, 1), (2, 1)] := by decide

end Primaite.Database
