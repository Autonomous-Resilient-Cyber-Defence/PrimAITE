/-
C12 — power states gate everything a node does, with the configured timing.
Property theorems only; the model is `Model/Power.lean`, the regenerated tables are `Gen/Power.lean`.
-/
import PrimaiteModel.Model.Power
import PrimaiteModel.Gen.Power
import PrimaiteModel.Lemmas.ListFacts
namespace Primaite.Power

/-- ON→SHUTTING_DOWN→OFF→BOOTING→ON, with ON→OFF / OFF→ON only when the respective duration is 0 (`<= 0` in the code). -/
def edge (up down : Int) : PState → PState → Bool
  | .on, .shuttingDown => decide (0 < down)
  | .shuttingDown, .off => true
  | .off, .booting => decide (0 < up)
  | .booting, .on => true
  | .on, .off => decide (down ≤ 0)
  | .off, .on => decide (up ≤ 0)
  | _, _ => false

/-- every assignment recorded in the ghost history (newest first) follows an edge from the value before it;
`s0` is the state before the first recorded assignment. -/
def legalHist (up down : Int) (s0 : PState) : List PState → Bool
  | [] => true
  | s :: older => edge up down (older.headD s0) s && legalHist up down s0 older

/-- the current state is the last assigned one, and all assignments were legal moves -/
def HistOk (s0 : PState) (n : Node) : Prop :=
  n.st = n.hist.headD s0 ∧ legalHist n.upDur n.downDur s0 n.hist = true

theorem edge_on (u d : Int) (s : PState) : edge u d s .on = true ↔ s = .booting ∨ (s = .off ∧ u ≤ 0) := by
  cases s <;> simp [edge]

theorem edge_off (u d : Int) (s : PState) : edge u d s .off = true ↔ s = .shuttingDown ∨ (s = .on ∧ d ≤ 0) := by
  cases s <;> simp [edge]

theorem setSt_histOk {s0 : PState} {n : Node} (s : PState) (h : HistOk s0 n)
    (he : edge n.upDur n.downDur n.st s = true) : HistOk s0 (setSt n s) := by
  obtain ⟨h1, h2⟩ := h
  refine ⟨rfl, ?_⟩
  simp only [setSt, legalHist, Bool.and_eq_true]
  exact ⟨by rw [← h1]; exact he, h2⟩

def SamePower (n n' : Node) : Prop :=
  n'.st = n.st ∧ n'.hist = n.hist ∧ n'.upDur = n.upDur ∧ n'.downDur = n.downDur

theorem histOk_of_same {s0 : PState} {n n' : Node} (hs : SamePower n n') (h : HistOk s0 n) : HistOk s0 n' := by
  obtain ⟨a, b, c, d⟩ := hs
  unfold HistOk at *
  rw [a, b, c, d]; exact h

def SameDur (n n' : Node) : Prop := n'.upDur = n.upDur ∧ n'.downDur = n.downDur

theorem powerOn_cases (n : Node) :
    (n.upDur ≤ 0 ∧ powerOn n = (enableNics (startUpActions (setSt n .on)), true)) ∨
    (0 < n.upDur ∧ n.st = .off ∧ powerOn n = ({ setSt n .booting with upCd := n.upDur }, true)) ∨
    (0 < n.upDur ∧ n.st ≠ .off ∧ powerOn n = (n, false)) := by
  unfold powerOn
  by_cases hu : n.upDur ≤ 0
  · exact Or.inl ⟨hu, if_pos hu⟩
  · rw [if_neg hu]
    by_cases hoff : n.st = .off
    · exact Or.inr (Or.inl ⟨by omega, hoff, if_pos hoff⟩)
    · exact Or.inr (Or.inr ⟨by omega, hoff, if_neg hoff⟩)

theorem powerOff_cases (n : Node) :
    (n.downDur ≤ 0 ∧ n.resetting = false ∧ powerOff n = (setSt (shutDownActions (disableNics n)) .off, true)) ∨
    (n.downDur ≤ 0 ∧ n.resetting = true ∧
      powerOff n = ((powerOn { setSt (shutDownActions (disableNics n)) .off with resetting := false }).1, true)) ∨
    (0 < n.downDur ∧ n.st = .on ∧ powerOff n = ({ setSt (disableNics n) .shuttingDown with downCd := n.downDur }, true)) ∨
    (0 < n.downDur ∧ n.st ≠ .on ∧ powerOff n = (n, false)) := by
  unfold powerOff
  by_cases hd : n.downDur ≤ 0
  · rw [if_pos hd]
    cases hr : n.resetting
    · exact Or.inl ⟨hd, rfl, if_neg (by rw [show (setSt (shutDownActions (disableNics n)) .off).resetting = false from hr]; decide)⟩
    · exact Or.inr (Or.inl ⟨hd, rfl, if_pos (show (setSt (shutDownActions (disableNics n)) .off).resetting = true from hr)⟩)
  · rw [if_neg hd]
    by_cases hst : n.st = .on
    · exact Or.inr (Or.inr (Or.inl ⟨by omega, hst, if_pos hst⟩))
    · exact Or.inr (Or.inr (Or.inr ⟨by omega, hst, if_neg hst⟩))

theorem powerOn_st (n : Node) :
    (powerOn n).1.st = if n.upDur ≤ 0 then .on else if n.st = .off then .booting else n.st := by
  unfold powerOn
  split
  · rfl
  · split <;> rfl

theorem powerOn_instant (n : Node) (h : n.upDur ≤ 0) : (powerOn n).1 = enableNics (startUpActions (setSt n .on)) := by
  unfold powerOn; rw [if_pos h]

theorem tickSoftware_notOn (n : Node) (h : n.st ≠ .on) : tickSoftware n = n := by
  unfold tickSoftware; rw [if_neg h]

theorem tickSoftware_only (n : Node) :
    tickSoftware n = { n with scanCd := (tickSoftware n).scanCd, redCd := (tickSoftware n).redCd,
                              svcs := (tickSoftware n).svcs, apps := (tickSoftware n).apps } := by
  unfold tickSoftware; split <;> rfl

theorem cdStep_pos {c : Int} (h : 0 < c) : cdStep c = c - 1 := if_pos h

theorem tickUp_idle (n : Node) (h : n.st = .booting → 0 < n.upCd) : tickUp n = { n with upCd := cdStep n.upCd } := by
  unfold tickUp cdStep
  split
  · rfl
  · rename_i hc; rw [if_neg (fun hb => hc (h hb))]

theorem tickDown_idle (n : Node) (h : n.st = .shuttingDown → 0 < n.downCd) :
    tickDown n = { n with downCd := cdStep n.downCd } := by
  unfold tickDown cdStep
  split
  · rfl
  · rename_i hc; rw [if_neg (fun hb => hc (h hb))]

theorem tick_no_fire (n : Node) (hu : n.st = .booting → 0 < n.upCd) (hd : n.st = .shuttingDown → 0 < n.downCd) :
    tick n = tickSoftware { n with upCd := cdStep n.upCd, downCd := cdStep n.downCd } := by
  unfold tick
  rw [tickUp_idle n hu, tickDown_idle { n with upCd := cdStep n.upCd } hd]

theorem tick_idle (n : Node) (hst : n.st ≠ .on) (hu : n.st = .booting → 0 < n.upCd)
    (hd : n.st = .shuttingDown → 0 < n.downCd) :
    tick n = { n with upCd := cdStep n.upCd, downCd := cdStep n.downCd } := by
  rw [tick_no_fire n hu hd]
  exact tickSoftware_notOn _ hst

/-- the tick that finds a BOOTING node with countdown `<= 0`: the first block turns it ON and brings everything up, the
second finds an ON node and steps its countdown, the software block already runs -/
theorem tick_booting_fire (n : Node) (hst : n.st = .booting) (hc : n.upCd ≤ 0) :
    tick n = tickSoftware { startUpActions (enableNics (setSt n .on)) with downCd := cdStep n.downCd } := by
  have h1 : tickUp n = startUpActions (enableNics (setSt n .on)) := by
    unfold tickUp; rw [if_neg (by omega), if_pos hst]
  unfold tick
  rw [h1, tickDown_idle _ (fun h => by cases h)]
  rfl

theorem tick_booting_zero (n : Node) (hst : n.st = .booting) (hc : n.upCd ≤ 0) :
    (tick n).st = .on ∧ (tick n).hist = .on :: n.hist := by
  rw [tick_booting_fire n hst hc, tickSoftware_only]
  exact ⟨rfl, rfl⟩

/-- the tick that finds a SHUTTING_DOWN node with countdown `<= 0`: the second block turns it OFF and runs the shut-down
actions; if a reset is pending the node is started again within the same block (and the software block runs if that
start was instant) -/
theorem tick_shutting_fire (n : Node) (hst : n.st = .shuttingDown) (hc : n.downCd ≤ 0) :
    tick n = if n.resetting = true then
        tickSoftware (powerOn { shutDownActions (setSt { n with upCd := cdStep n.upCd } .off) with resetting := false }).1
      else shutDownActions (setSt { n with upCd := cdStep n.upCd } .off) := by
  have h2 : tickDown { n with upCd := cdStep n.upCd } =
      if n.resetting = true then
        (powerOn { shutDownActions (setSt { n with upCd := cdStep n.upCd } .off) with resetting := false }).1
      else shutDownActions (setSt { n with upCd := cdStep n.upCd } .off) := by
    unfold tickDown
    rw [if_neg (show ¬ n.downCd > 0 by omega), if_pos hst]
    rfl
  unfold tick
  rw [tickUp_idle n (fun h => by rw [hst] at h; cases h), h2]
  by_cases hr : n.resetting = true
  · rw [if_pos hr, if_pos hr]
  · rw [if_neg hr, if_neg hr]
    exact tickSoftware_notOn _ (by show PState.off ≠ .on; decide)

theorem tick_cases (n : Node) :
    (n.st = .booting ∧
      tick n = tickSoftware { startUpActions (enableNics (setSt n .on)) with downCd := cdStep n.downCd }) ∨
    (n.st = .shuttingDown ∧
      tick n = if n.resetting = true then
          tickSoftware (powerOn { shutDownActions (setSt { n with upCd := cdStep n.upCd } .off) with resetting := false }).1
        else shutDownActions (setSt { n with upCd := cdStep n.upCd } .off)) ∨
    tick n = tickSoftware { n with upCd := cdStep n.upCd, downCd := cdStep n.downCd } := by
  by_cases hb : n.st = .booting ∧ n.upCd ≤ 0
  · exact Or.inl ⟨hb.1, tick_booting_fire n hb.1 hb.2⟩
  by_cases hs : n.st = .shuttingDown ∧ n.downCd ≤ 0
  · exact Or.inr (Or.inl ⟨hs.1, tick_shutting_fire n hs.1 hs.2⟩)
  · exact Or.inr (Or.inr (tick_no_fire n (fun h => Int.not_le.mp fun hc => hb ⟨h, hc⟩)
      (fun h => Int.not_le.mp fun hc => hs ⟨h, hc⟩)))

/-- `power_on` keeps the history legal from OFF, and also when called directly in any state in which it does nothing or
makes the legal move BOOTING→ON -/
theorem powerOn_histOk_of {s0 : PState} (n : Node) (h : HistOk s0 n)
    (hok : 0 < n.upDur ∨ n.st = .off ∨ n.st = .booting) : HistOk s0 (powerOn n).1 := by
  rcases powerOn_cases n with ⟨hu, e⟩ | ⟨hu, hoff, e⟩ | ⟨_, _, e⟩ <;> rw [e]
  · refine histOk_of_same ⟨rfl, rfl, rfl, rfl⟩ (setSt_histOk .on h ((edge_on ..).mpr ?_))
    rcases hok with hp | hoff | hb
    · omega
    · exact Or.inr ⟨hoff, hu⟩
    · exact Or.inl hb
  · exact histOk_of_same ⟨rfl, rfl, rfl, rfl⟩ (setSt_histOk .booting h (by simp [hoff, edge]; omega))
  · exact h

theorem powerOn_histOk {s0 : PState} (n : Node) (h : HistOk s0 n) (hst : n.st = .off) :
    HistOk s0 (powerOn n).1 := powerOn_histOk_of n h (Or.inr (Or.inl hst))

theorem powerOn_dur (n : Node) : SameDur n (powerOn n).1 := by
  rcases powerOn_cases n with ⟨_, e⟩ | ⟨_, _, e⟩ | ⟨_, _, e⟩ <;> rw [e] <;> exact ⟨rfl, rfl⟩

/-- likewise `power_off`: from ON, and when called directly where it does nothing or makes the legal move
SHUTTING_DOWN→OFF -/
theorem powerOff_histOk_of {s0 : PState} (n : Node) (h : HistOk s0 n)
    (hok : 0 < n.downDur ∨ n.st = .on ∨ n.st = .shuttingDown) : HistOk s0 (powerOff n).1 := by
  have h1 : n.downDur ≤ 0 → HistOk s0 (setSt (shutDownActions (disableNics n)) .off) := fun hd =>
    setSt_histOk _ (histOk_of_same ⟨rfl, rfl, rfl, rfl⟩ h) (by
      refine (edge_off n.upDur n.downDur n.st).mpr ?_
      rcases hok with hp | hon | hsd
      · omega
      · exact Or.inr ⟨hon, hd⟩
      · exact Or.inl hsd)
  rcases powerOff_cases n with ⟨hd, _, e⟩ | ⟨hd, _, e⟩ | ⟨hd, hst, e⟩ | ⟨_, _, e⟩ <;> rw [e]
  · exact h1 hd
  · exact powerOn_histOk _ (histOk_of_same ⟨rfl, rfl, rfl, rfl⟩ (h1 hd)) rfl
  · refine histOk_of_same ⟨rfl, rfl, rfl, rfl⟩ (setSt_histOk _ (histOk_of_same ⟨rfl, rfl, rfl, rfl⟩ h) ?_)
    show edge n.upDur n.downDur n.st .shuttingDown = true
    simp [hst, edge]; omega
  · exact h

theorem powerOff_histOk {s0 : PState} (n : Node) (h : HistOk s0 n) (hst : n.st = .on) :
    HistOk s0 (powerOff n).1 := powerOff_histOk_of n h (Or.inr (Or.inl hst))

theorem powerOff_dur (n : Node) : SameDur n (powerOff n).1 := by
  rcases powerOff_cases n with ⟨_, _, e⟩ | ⟨_, _, e⟩ | ⟨_, _, e⟩ | ⟨_, _, e⟩ <;> rw [e]
  · exact ⟨rfl, rfl⟩
  · exact powerOn_dur _
  · exact ⟨rfl, rfl⟩
  · exact ⟨rfl, rfl⟩

theorem reset_histOk {s0 : PState} (n : Node) (h : HistOk s0 n) (hst : n.st = .on) :
    HistOk s0 (reset n).1 :=
  powerOff_histOk { n with resetting := true } (histOk_of_same ⟨rfl, rfl, rfl, rfl⟩ h) hst

theorem tickSoftware_same (n : Node) : SamePower n (tickSoftware n) := by
  unfold tickSoftware; split <;> exact ⟨rfl, rfl, rfl, rfl⟩

theorem tick_histOk {s0 : PState} (n : Node) (h : HistOk s0 n) : HistOk s0 (tick n) := by
  rcases tick_cases n with ⟨hst, e⟩ | ⟨hst, e⟩ | e <;> rw [e]
  · exact histOk_of_same (tickSoftware_same _)
      (histOk_of_same ⟨rfl, rfl, rfl, rfl⟩ (setSt_histOk .on h (by rw [hst]; rfl)))
  · have h1 : HistOk s0 (shutDownActions (setSt { n with upCd := cdStep n.upCd } .off)) :=
      histOk_of_same ⟨rfl, rfl, rfl, rfl⟩ (setSt_histOk .off h (by rw [hst]; rfl))
    split
    · exact histOk_of_same (tickSoftware_same _) (powerOn_histOk _ (histOk_of_same ⟨rfl, rfl, rfl, rfl⟩ h1) rfl)
    · exact h1
  · exact histOk_of_same (tickSoftware_same _) (histOk_of_same ⟨rfl, rfl, rfl, rfl⟩ h)

/-- every node-level route carries the node-is-on validator, except `startup`, which carries node-is-off -/
def allGuarded (tbl : List Route) : Bool :=
  tbl.all (fun r => if r.key == "startup" then r.guard == .nodeOff else r.guard == .nodeOn)

theorem find_guard {tbl : List Route} (hg : allGuarded tbl = true) {key : String} {r : Route}
    (hf : tbl.find? (fun r => r.key == key) = some r) :
    r.guard = if key = "startup" then .nodeOff else .nodeOn := by
  have hm := List.mem_of_find?_eq_some hf
  have hk : r.key = key := by simpa using List.find?_some hf
  have := List.all_eq_true.mp hg r hm
  subst hk
  by_cases hs : r.key = "startup" <;> simp_all

/-- the one state in which the validator of a guarded table lets `key` through -/
def servedIn (key : String) : PState := if key = "startup" then .off else .on

theorem request_guarded {tbl : List Route} (hg : allGuarded tbl = true) (n : Node) (key : String) (sub : Sub) :
    request tbl n key sub =
      if (tbl.find? (fun r => r.key == key)).isSome then
        if n.st = servedIn key then handle n key sub else (n, .failure)
      else (n, .unreachable) := by
  unfold request servedIn
  cases hf : tbl.find? (fun r => r.key == key) with
  | none => rfl
  | some r =>
    show (if guardOk r.guard n = true then _ else _) = _
    rw [find_guard hg hf]
    by_cases hs : key = "startup" <;> simp [hs, guardOk]

def ApiCall.isPower : ApiCall → Bool
  | .powerOn => true | .powerOff => true | .reset => true | _ => false

theorem modifyNic_only (n : Node) (i : Nat) (f : Nic → Nic) :
    modifyNic n i f = { n with nics := (modifyNic n i f).nics } := by
  unfold modifyNic; split <;> rfl

theorem modifySvc_only (n : Node) (i : Nat) (f : Service → Service) :
    modifySvc n i f = { n with svcs := (modifySvc n i f).svcs } := by
  unfold modifySvc; split <;> rfl

theorem modifyApp_only (n : Node) (i : Nat) (f : App → App) :
    modifyApp n i f = { n with apps := (modifyApp n i f).apps } := by
  unfold modifyApp; split <;> rfl

theorem apiCall_same (n : Node) (c : ApiCall) (hc : c.isPower = false) : SamePower n (apiCall n c) := by
  cases c with
  | powerOn => cases hc
  | powerOff => cases hc
  | reset => cases hc
  | nicEnable i => show SamePower n (modifyNic n i _); rw [modifyNic_only]; exact ⟨rfl, rfl, rfl, rfl⟩
  | nicDisable i => show SamePower n (modifyNic n i _); rw [modifyNic_only]; exact ⟨rfl, rfl, rfl, rfl⟩
  | connectLink i => show SamePower n (modifyNic n i _); rw [modifyNic_only]; exact ⟨rfl, rfl, rfl, rfl⟩
  | svc i v => show SamePower n (modifySvc n i _); rw [modifySvc_only]; exact ⟨rfl, rfl, rfl, rfl⟩
  | _ => show SamePower n (modifyApp n _ _); rw [modifyApp_only]; exact ⟨rfl, rfl, rfl, rfl⟩

/-! A request below the node level is a guarded call of the API: it changes nothing (no such component, or the
component's own validator refuses) or does what the direct call does. So whatever every direct call preserves, every
request preserves. -/

theorem svcRequest_fst (n : Node) (i : Nat) (v : SvcVerb) :
    (svcRequest n i v).1 = n ∨ (svcRequest n i v).1 = apiCall n (.svc i v) := by
  show _ ∨ _ = modifySvc n i _
  unfold svcRequest modifySvc
  cases n.svcs[i]? with
  | none => exact Or.inl rfl
  | some s =>
    dsimp only
    split
    · exact Or.inr rfl
    · exact Or.inl rfl

theorem appRequest_fst (n : Node) (i : Nat) :
    (appRequest n i).1 = n ∨ (appRequest n i).1 = apiCall n (.appClose i) := by
  show _ ∨ _ = modifyApp n i _
  unfold appRequest modifyApp
  cases n.apps[i]? with
  | none => exact Or.inl rfl
  | some a =>
    dsimp only
    split
    · exact Or.inr rfl
    · exact Or.inl rfl

theorem nicRequest_fst (n : Node) (i : Nat) (v : NicVerb) :
    (nicRequest n i v).1 = n ∨ (nicRequest n i v).1 = apiCall n (.nicEnable i) ∨
      (nicRequest n i v).1 = apiCall n (.nicDisable i) := by
  show _ ∨ _ = modifyNic n i _ ∨ _ = modifyNic n i _
  unfold nicRequest modifyNic
  cases n.nics[i]? with
  | none => exact Or.inl rfl
  | some c =>
    cases v <;> dsimp only <;> split
    · exact Or.inr (Or.inl rfl)
    · exact Or.inl rfl
    · exact Or.inr (Or.inr rfl)
    · exact Or.inl rfl

/-- What the handler of a key other than the three power requests can return: the node as it is, the node with a scan
clock set, or the node after a direct call that is not a power call. Every fact about those handlers is an instance. -/
theorem handle_other_elim {motive : Node → Prop} (n : Node) (key : String) (sub : Sub)
    (h1 : key ≠ "shutdown") (h2 : key ≠ "startup") (h3 : key ≠ "reset")
    (same : motive n) (scan : ∀ a b, motive { n with scanCd := a, redCd := b })
    (api : ∀ c : ApiCall, c.isPower = false → motive (apiCall n c)) : motive (handle n key sub).1 := by
  unfold handle
  rw [if_neg h1, if_neg h2, if_neg h3]
  by_cases h4 : key = "logon" ∨ key = "logoff"
  · rw [if_pos h4]; exact same
  rw [if_neg h4]
  by_cases h5 : key = "scan"
  · rw [if_pos h5]; exact scan n.scanCd n.scanDur
  rw [if_neg h5]
  cases sub with
  | svc i v =>
    dsimp only; split
    · rcases svcRequest_fst n i v with e | e <;> rw [e]
      · exact same
      · exact api _ rfl
    · exact same
  | app i =>
    dsimp only; split
    · rcases appRequest_fst n i with e | e <;> rw [e]
      · exact same
      · exact api _ rfl
    · exact same
  | nic i v =>
    dsimp only; split
    · rcases nicRequest_fst n i v with e | e | e <;> rw [e]
      · exact same
      · exact api _ rfl
      · exact api _ rfl
    · exact same
  | osScan => dsimp only; split; exact scan _ n.redCd; exact same
  | «opaque» r => exact same

theorem handle_other_same (n : Node) (key : String) (sub : Sub)
    (h1 : key ≠ "shutdown") (h2 : key ≠ "startup") (h3 : key ≠ "reset") :
    SamePower n (handle n key sub).1 :=
  handle_other_elim n key sub h1 h2 h3 ⟨rfl, rfl, rfl, rfl⟩ (fun _ _ => ⟨rfl, rfl, rfl, rfl⟩) (apiCall_same n)

theorem handle_startup (n : Node) (sub : Sub) :
    handle n "startup" sub = ((powerOn n).1, Resp.fromBool (powerOn n).2) := by
  unfold handle; rw [if_neg (by decide), if_pos rfl]

theorem handle_shutdown (n : Node) (sub : Sub) :
    handle n "shutdown" sub = ((powerOff n).1, Resp.fromBool (powerOff n).2) := by
  unfold handle; rw [if_pos rfl]

theorem handle_reset (n : Node) (sub : Sub) :
    handle n "reset" sub = ((reset n).1, Resp.fromBool (reset n).2) := by
  unfold handle; rw [if_neg (by decide), if_neg (by decide), if_pos rfl]

theorem handle_elim {motive : Node → Prop} (n : Node) (key : String) (sub : Sub)
    (on : motive (powerOn n).1) (off : motive (powerOff n).1) (rst : motive (reset n).1)
    (other : key ≠ "shutdown" → key ≠ "startup" → key ≠ "reset" → motive (handle n key sub).1) :
    motive (handle n key sub).1 := by
  by_cases h1 : key = "shutdown"
  · subst h1; rw [handle_shutdown]; exact off
  by_cases h2 : key = "startup"
  · subst h2; rw [handle_startup]; exact on
  by_cases h3 : key = "reset"
  · subst h3; rw [handle_reset]; exact rst
  exact other h1 h2 h3

/-- a node-level request under a guarded table by outcome, for a property of the node afterwards: the validators let
`power_on` through from OFF only and everything else from ON only -/
theorem request_elim {motive : Node → Prop} {tbl : List Route} (hg : allGuarded tbl = true) (n : Node) (key : String)
    (sub : Sub) (same : motive n) (on : n.st = .off → motive (powerOn n).1) (off : n.st = .on → motive (powerOff n).1)
    (rst : n.st = .on → motive (reset n).1)
    (other : n.st = .on → SamePower n (handle n key sub).1 → motive (handle n key sub).1) :
    motive (request tbl n key sub).1 := by
  rw [request_guarded hg]
  split
  · split
    · rename_i hs
      by_cases h2 : key = "startup"
      · subst h2; rw [handle_startup]; exact on hs
      have hst : n.st = .on := hs.trans (if_neg h2)
      by_cases h1 : key = "shutdown"
      · subst h1; rw [handle_shutdown]; exact off hst
      by_cases h3 : key = "reset"
      · subst h3; rw [handle_reset]; exact rst hst
      exact other hst (handle_other_same n key sub h1 h2 h3)
    · exact same
  · exact same

theorem request_handle_elim {motive : Node → Prop} (tbl : List Route) (n : Node) (key : String) (sub : Sub)
    (same : motive n) (handler : motive (handle n key sub).1) : motive (request tbl n key sub).1 := by
  unfold request
  split
  · exact same
  · split
    · exact handler
    · exact same

theorem request_histOk {tbl : List Route} (hg : allGuarded tbl = true) {s0 : PState} (n : Node) (key : String)
    (sub : Sub) (h : HistOk s0 n) : HistOk s0 (request tbl n key sub).1 :=
  request_elim hg n key sub h (powerOn_histOk n h) (powerOff_histOk n h) (reset_histOk n h)
    (fun _ hs => histOk_of_same hs h)

theorem step_elim {motive : Node → Prop} (tbl : List Route) (n : Node) (op : Op)
    (req : ∀ key sub, motive (request tbl n key sub).1) (tk : motive (tick n)) (same : motive n) :
    motive (step tbl n op).1 := by
  cases op with
  | request key sub => exact req key sub
  | tick => exact tk
  | frameIn i => exact same
  | frameOut i => exact same

theorem run_induction {tbl : List Route} {P : Node → Prop} (hstep : ∀ n op, P n → P (step tbl n op).1) (n : Node)
    (ops : List Op) (h : P n) : P (run tbl n ops) := by
  induction ops generalizing n with
  | nil => exact h
  | cons op ops ih => exact ih _ (hstep n op h)

theorem step_histOk {tbl : List Route} (hg : allGuarded tbl = true) {s0 : PState} (n : Node) (op : Op)
    (h : HistOk s0 n) : HistOk s0 (step tbl n op).1 :=
  step_elim tbl n op (fun key sub => request_histOk hg n key sub h) (tick_histOk n h) h

/-- **legal_moves.** Under a guarded route table, whatever sequence of node-level requests, ticks and frames a node
sees, every single assignment to its `operating_state` (not just the state seen between operations) follows an edge
of ON→SHUTTING_DOWN→OFF→BOOTING→ON, the shortcuts ON→OFF / OFF→ON being taken only when the respective duration is
`<= 0`. -/
theorem C12_legal_moves {tbl : List Route} (hg : allGuarded tbl = true) (n : Node) (ops : List Op)
    (h0 : n.hist = []) :
    (run tbl n ops).st = (run tbl n ops).hist.headD n.st ∧
      legalHist (run tbl n ops).upDur (run tbl n ops).downDur n.st (run tbl n ops).hist = true :=
  run_induction (P := HistOk n.st) (fun m op => step_histOk hg m op) n ops ⟨by simp [h0], by simp [h0, legalHist]⟩

def NicsOff (n : Node) : Prop := ∀ c ∈ n.nics, c.enabled = false

/-- the invariant of the property statement -/
def NicInv (n : Node) : Prop := n.st ≠ .on → NicsOff n

theorem disableNics_off (n : Node) : NicsOff (disableNics n) :=
  List.forall_mem_map.mpr (fun _ _ => rfl)

theorem isOn_false {n : Node} (h : n.st ≠ .on) : n.isOn = false := by
  simp [Node.isOn, h]

theorem nicEnable_false (c : Nic) : Nic.enable false c = c := by
  unfold Nic.enable; split <;> simp

theorem powerOn_nicInv (n : Node) (h : NicInv n) : NicInv (powerOn n).1 := by
  rcases powerOn_cases n with ⟨_, e⟩ | ⟨_, hoff, e⟩ | ⟨_, _, e⟩ <;> rw [e]
  · intro hne; exact absurd rfl hne
  · exact fun _ => h (by rw [hoff]; decide)
  · exact h

theorem powerOff_nicInv (n : Node) (h : NicInv n) : NicInv (powerOff n).1 := by
  have hoff : NicsOff (setSt (shutDownActions (disableNics n)) .off) := disableNics_off n
  rcases powerOff_cases n with ⟨_, _, e⟩ | ⟨_, _, e⟩ | ⟨_, _, e⟩ | ⟨_, _, e⟩ <;> rw [e]
  · exact fun _ => hoff
  · exact powerOn_nicInv _ (fun _ => hoff)
  · exact fun _ => disableNics_off n
  · exact h

theorem reset_nicInv (n : Node) (h : NicInv n) : NicInv (reset n).1 :=
  powerOff_nicInv { n with resetting := true } h

theorem tick_nicInv (n : Node) (h : NicInv n) : NicInv (tick n) := by
  rcases tick_cases n with ⟨_, e⟩ | ⟨hst, e⟩ | e <;> rw [e]
  · intro hne
    rw [tickSoftware_only] at hne
    exact absurd rfl hne
  · have hoff : NicsOff (shutDownActions (setSt { n with upCd := cdStep n.upCd } .off)) := h (by rw [hst]; decide)
    split
    · rw [tickSoftware_only]
      exact powerOn_nicInv _ (fun _ => hoff)
    · exact fun _ => hoff
  · rw [tickSoftware_only]
    exact h

theorem nicInv_of_same {n n' : Node} (h1 : n'.st = n.st) (h2 : n'.nics = n.nics) (h : NicInv n) : NicInv n' := by
  unfold NicInv NicsOff at *; rw [h1, h2]; exact h

theorem modifyNic_nicInv (n : Node) (i : Nat) (f : Nic → Nic)
    (hf : ∀ c, n.st ≠ .on → c.enabled = false → (f c).enabled = false) (h : NicInv n) : NicInv (modifyNic n i f) := by
  unfold modifyNic
  split
  · rename_i c hc
    intro hne
    exact forall_mem_set (h hne) (hf c hne (h hne c (List.mem_of_getElem? hc)))
  · exact h

theorem connectLink_false (c : Nic) (h : c.enabled = false) : (Nic.connectLink false c).enabled = false := by
  unfold Nic.connectLink
  split
  · exact h
  · rw [nicEnable_false]; exact h

theorem apiCall_nicInv (n : Node) (c : ApiCall) (h : NicInv n) : NicInv (apiCall n c) := by
  cases c with
  | powerOn => exact powerOn_nicInv n h
  | powerOff => exact powerOff_nicInv n h
  | reset => exact reset_nicInv n h
  | nicEnable i =>
    apply modifyNic_nicInv n i _ _ h
    intro c hne hc
    rw [isOn_false hne, nicEnable_false]; exact hc
  | nicDisable i => exact modifyNic_nicInv n i _ (fun _ _ _ => rfl) h
  | connectLink i =>
    apply modifyNic_nicInv n i _ _ h
    intro c hne hc
    rw [isOn_false hne]; exact connectLink_false c hc
  | svc i v => show NicInv (modifySvc n i _); rw [modifySvc_only]; exact nicInv_of_same rfl rfl h
  | _ => show NicInv (modifyApp n _ _); rw [modifyApp_only]; exact nicInv_of_same rfl rfl h

theorem handle_nicInv (n : Node) (key : String) (sub : Sub) (h : NicInv n) : NicInv (handle n key sub).1 :=
  handle_elim n key sub (powerOn_nicInv n h) (powerOff_nicInv n h) (reset_nicInv n h) fun h1 h2 h3 =>
    handle_other_elim n key sub h1 h2 h3 h (fun _ _ => nicInv_of_same rfl rfl h) (fun c _ => apiCall_nicInv n c h)

theorem request_nicInv (tbl : List Route) (n : Node) (key : String) (sub : Sub) (h : NicInv n) :
    NicInv (request tbl n key sub).1 :=
  request_handle_elim tbl n key sub h (handle_nicInv n key sub h)

theorem step_nicInv (tbl : List Route) (n : Node) (op : Op) (h : NicInv n) : NicInv (step tbl n op).1 :=
  step_elim tbl n op (fun key sub => request_nicInv tbl n key sub h) (tick_nicInv n h) h

/-- **not_on_nics_disabled.** For *every* route table (this needs no validator at all: `enable()` itself tests the
node) and every sequence of requests, ticks and frames: a node that is not ON has no enabled interface. -/
theorem C12_not_on_nics_disabled (tbl : List Route) (n : Node) (ops : List Op) (h : NicInv n) :
    NicInv (run tbl n ops) :=
  run_induction (step_nicInv tbl) n ops h

theorem nicPasses_of_nicsOff {n : Node} (h : NicsOff n) (i : Nat) : nicPasses n i = false := by
  unfold nicPasses
  cases hc : n.nics[i]? with
  | none => rfl
  | some c => exact h c (List.mem_of_getElem? hc)

/-- corollary: a node that is not ON neither accepts nor emits a frame, whatever happened before -/
theorem C12_not_on_no_traffic (tbl : List Route) (n : Node) (ops : List Op) (h : NicInv n) (i : Nat)
    (hne : (run tbl n ops).st ≠ .on) :
    (step tbl (run tbl n ops) (.frameIn i)).2 = .frame false ∧
    (step tbl (run tbl n ops) (.frameOut i)).2 = .frame false := by
  have := nicPasses_of_nicsOff (C12_not_on_nics_disabled tbl n ops h hne) i
  simp only [step, this, and_self]

/-- a ping between two directly linked nodes succeeds only if both ends are ON -/
theorem C12_ping_needs_both_on (a b : Node) (hb : NicInv b) (h : pingOk a b = true) :
    a.st = .on ∧ b.st = .on := by
  simp only [pingOk, Bool.and_eq_true, Node.isOn, beq_iff_eq] at h
  obtain ⟨⟨ha, _⟩, hpb⟩ := h
  refine ⟨ha, ?_⟩
  by_cases hbon : b.st = .on
  · exact hbon
  · rw [nicPasses_of_nicsOff (hb hbon) 0] at hpb; cases hpb

theorem request_refused {tbl : List Route} (hg : allGuarded tbl = true) (n : Node) (key : String) (sub : Sub)
    (hs : key = "startup" → n.st ≠ .off) (ho : key ≠ "startup" → n.st ≠ .on) :
    request tbl n key sub = (n, if (tbl.find? (fun r => r.key == key)).isSome then .failure else .unreachable) := by
  have : n.st ≠ servedIn key := by unfold servedIn; split <;> simp [*]
  rw [request_guarded hg, if_neg this]
  split <;> rfl

/-- **refused_unless_startup.** Under a guarded table a node that is not ON answers `failure` to every node-level
request whose key exists and is not `startup`, and nothing changes (keys that do not exist are `unreachable`). -/
theorem C12_refused_unless_startup {tbl : List Route} (hg : allGuarded tbl = true) (n : Node) (hne : n.st ≠ .on)
    (key : String) (sub : Sub) (hk : key ≠ "startup") :
    request tbl n key sub = (n, if (tbl.find? (fun r => r.key == key)).isSome then .failure else .unreachable) :=
  request_refused hg n key sub (fun h => absurd h hk) (fun _ => hne)

/-- `startup` itself is refused unless the node is OFF (so it cannot cut a shutdown or a boot short) -/
theorem C12_startup_only_from_off {tbl : List Route} (hg : allGuarded tbl = true) (n : Node) (hne : n.st ≠ .off)
    (sub : Sub) :
    request tbl n "startup" sub =
      (n, if (tbl.find? (fun r => r.key == "startup")).isSome then .failure else .unreachable) :=
  request_refused hg n "startup" sub (fun _ => hne) (fun h => absurd rfl h)

/-- a refused or unreachable request changes nothing: in a transitional state no request has any effect -/
theorem C12_transitional_requests_inert {tbl : List Route} (hg : allGuarded tbl = true) (n : Node)
    (h : n.st = .booting ∨ n.st = .shuttingDown) (key : String) (sub : Sub) :
    (request tbl n key sub).1 = n := by
  have hne : n.st ≠ .off ∧ n.st ≠ .on := by rcases h with h | h <;> rw [h] <;> decide
  rw [request_refused hg n key sub (fun _ => hne.1) (fun _ => hne.2)]

def Frozen (n n' : Node) : Prop :=
  n'.st = n.st ∧ n'.hist = n.hist ∧ n'.nics = n.nics ∧ n'.svcs = n.svcs ∧ n'.apps = n.apps ∧
  n'.resetting = n.resetting ∧ n'.upDur = n.upDur ∧ n'.downDur = n.downDur

theorem Frozen.st {n n' : Node} (h : Frozen n n') : n'.st = n.st := h.1
theorem Frozen.hist {n n' : Node} (h : Frozen n n') : n'.hist = n.hist := h.2.1
theorem Frozen.resetting {n n' : Node} (h : Frozen n n') : n'.resetting = n.resetting := h.2.2.2.2.2.1
theorem Frozen.upDur {n n' : Node} (h : Frozen n n') : n'.upDur = n.upDur := h.2.2.2.2.2.2.1

def AllUp (n : Node) : Prop :=
  (∀ c ∈ n.nics, c.linked = true → c.enabled = true) ∧ (∀ s ∈ n.svcs, s.st ≠ .stopped) ∧ (∀ a ∈ n.apps, a.st ≠ .closed)

theorem nicEnable_linked (on : Bool) (c : Nic) : (Nic.enable on c).linked = c.linked := by
  unfold Nic.enable
  split
  · rfl
  · split
    · rfl
    · split <;> rfl

theorem nicEnable_true (c : Nic) (hl : c.linked = true) : (Nic.enable true c).enabled = true := by
  unfold Nic.enable
  by_cases he : c.enabled = true
  · simp [he]
  · simp [he, hl]

theorem start_not_stopped (s : Service) : (s.start true).1.st ≠ .stopped := by
  unfold Service.start nodeAllows
  by_cases h : s.st = .stopped <;> simp [h]

theorem run_not_closed (a : App) : (a.run true).st ≠ .closed := by
  unfold App.run nodeAllows
  by_cases h : a.st = .closed <;> simp [h]

/-- `AllUp` of the lists the start-up statements produce when they see the node ON -/
theorem allUp_lists {on on' : Bool} (hon : on = true) (hon' : on' = true) (nics : List Nic) (svcs : List Service)
    (apps : List App) :
    (∀ c ∈ nics.map (Nic.enable on), c.linked = true → c.enabled = true) ∧
    (∀ s ∈ svcs.map (fun s => (s.start on').1), s.st ≠ .stopped) ∧ (∀ a ∈ apps.map (App.run on'), a.st ≠ .closed) := by
  subst hon hon'
  refine ⟨List.forall_mem_map.mpr (fun c _ hl => ?_), List.forall_mem_map.mpr (fun s _ => start_not_stopped s),
    List.forall_mem_map.mpr (fun a _ => run_not_closed a)⟩
  exact nicEnable_true c (by rw [← nicEnable_linked true c]; exact hl)

/-- the three statements executed wherever the code assigns ON (in either order) bring everything up -/
theorem allUp_on (n : Node) :
    AllUp (enableNics (startUpActions (setSt n .on))) ∧ AllUp (startUpActions (enableNics (setSt n .on))) :=
  ⟨allUp_lists rfl rfl n.nics n.svcs n.apps, allUp_lists rfl rfl n.nics n.svcs n.apps⟩

theorem svcTick_not_stopped (s : Service) (h : s.st ≠ .stopped) : s.tick.st ≠ .stopped := by
  unfold Service.tick
  split
  · dsimp only; split <;> simp
  · exact h

theorem appTick_not_closed (a : App) (h : a.st ≠ .closed) : a.tick.st ≠ .closed := by
  unfold App.tick
  split
  · split
    · simp
    · exact h
  · exact h

theorem tickSoftware_allUp (n : Node) (h : AllUp n) : AllUp (tickSoftware n) := by
  unfold tickSoftware
  split
  · exact ⟨h.1, List.forall_mem_map.mpr (fun s hs => svcTick_not_stopped s (h.2.1 s hs)),
      List.forall_mem_map.mpr (fun a ha => appTick_not_closed a (h.2.2 a ha))⟩
  · exact h

/-- where a start leads: BOOTING when the start-up takes time, ON at once otherwise -/
def startTarget (n : Node) : PState := if n.upDur ≤ 0 then .on else .booting

/-- `x` is a node that `power_on` has just started from OFF (`n` before the call, `h0` its history): at the start target, the
boot countdown armed if the start-up takes time, everything up if it is ON already -/
def StartedFrom (n : Node) (h0 : List PState) (x : Node) : Prop :=
  x.st = startTarget n ∧ x.hist = startTarget n :: h0 ∧ (0 < n.upDur → x.upCd = n.upDur) ∧ (x.st = .on → AllUp x)

theorem powerOn_from_off (n : Node) (hst : n.st = .off) :
    (powerOn n).2 = true ∧ StartedFrom n n.hist (powerOn n).1 ∧
    (powerOn n).1.upDur = n.upDur ∧ (powerOn n).1.downDur = n.downDur ∧ (powerOn n).1.resetting = n.resetting := by
  unfold StartedFrom startTarget
  rcases powerOn_cases n with ⟨hu, e⟩ | ⟨hu, _, e⟩ | ⟨_, hne, _⟩
  · rw [e, if_pos hu]
    exact ⟨rfl, ⟨rfl, rfl, fun h => absurd hu (by omega), fun _ => (allUp_on n).1⟩, rfl, rfl, rfl⟩
  · rw [e, if_neg (by omega)]
    exact ⟨rfl, ⟨rfl, rfl, fun _ => rfl, fun h => by cases h⟩, rfl, rfl, rfl⟩
  · exact absurd hst hne

/-- the software block of the tick in which the start happened (it runs if the start was instant) keeps all of this -/
theorem StartedFrom.tickSoftware {n x : Node} {h0 : List PState} (h : StartedFrom n h0 x) :
    StartedFrom n h0 (tickSoftware x) := by
  obtain ⟨h1, h2, h3, h4⟩ := h
  obtain ⟨s1, s2, _⟩ := tickSoftware_same x
  refine ⟨s1.trans h1, s2.trans h2, fun hu => ?_, fun hon => tickSoftware_allUp x (h4 (s1 ▸ hon))⟩
  rw [tickSoftware_only]; exact h3 hu

theorem step_refused {tbl : List Route} (hg : allGuarded tbl = true) (n : Node) (hne : n.st ≠ .on) (op : Op)
    (hop : op ≠ .tick) (hns : n.st = .off → ∀ sub, op ≠ .request "startup" sub) : (step tbl n op).1 = n := by
  cases op with
  | tick => exact absurd rfl hop
  | frameIn i => rfl
  | frameOut i => rfl
  | request key sub =>
    show (request tbl n key sub).1 = n
    rw [request_refused hg n key sub (fun hk hoff => hns hoff sub (by rw [hk])) (fun _ => hne)]

theorem ticksIn_cons_of_ne_tick {op : Op} (h : op ≠ .tick) (ops : List Op) : ticksIn (op :: ops) = ticksIn ops := by
  cases op with
  | tick => exact absurd rfl h
  | request _ _ => rfl
  | frameIn _ => rfl
  | frameOut _ => rfl

/-- a countdown that covers `k + 1` ticks is running, and one step leaves it covering `k` -/
theorem cdStep_covers {c : Int} {k : Nat} (h : ((k + 1 : Nat) : Int) ≤ c) :
    0 < c ∧ (k : Int) ≤ cdStep c ∧ cdStep c - k = c - ((k + 1 : Nat) : Int) := by
  rw [cdStep_pos (by omega)]
  omega

/-- **nothing happens while nothing can.** A node that is not ON — OFF with no start-up request among the operations,
or BOOTING / SHUTTING_DOWN with the countdown of that state covering the ticks — comes out of any sequence of requests,
ticks and frames as it went in, the two countdowns aside: requests are refused and a tick only steps the countdowns. -/
theorem run_idle {tbl : List Route} (hg : allGuarded tbl = true) (n : Node) (hne : n.st ≠ .on) (ops : List Op)
    (hoff : n.st = .off → ∀ op ∈ ops, ∀ sub, op ≠ .request "startup" sub)
    (hu : n.st = .booting → (ticksIn ops : Int) ≤ n.upCd) (hd : n.st = .shuttingDown → (ticksIn ops : Int) ≤ n.downCd) :
    ∃ a b, run tbl n ops = { n with upCd := a, downCd := b } ∧
      (n.st = .booting → a = n.upCd - ticksIn ops) ∧ (n.st = .shuttingDown → b = n.downCd - ticksIn ops) := by
  induction ops generalizing n with
  | nil => exact ⟨n.upCd, n.downCd, rfl, fun _ => by simp [ticksIn], fun _ => by simp [ticksIn]⟩
  | cons op ops ih =>
    have hoff' : n.st = .off → ∀ o ∈ ops, ∀ sub, o ≠ .request "startup" sub :=
      fun h o ho => hoff h o (List.mem_cons_of_mem _ ho)
    by_cases hop : op = .tick
    · -- `ticksIn (.tick :: ops)` is `ticksIn ops + 1` by definition
      subst hop
      obtain ⟨a, b, e, ha, hb⟩ := ih { n with upCd := cdStep n.upCd, downCd := cdStep n.downCd } hne hoff'
        (fun h => (cdStep_covers (hu h)).2.1) (fun h => (cdStep_covers (hd h)).2.1)
      refine ⟨a, b, ?_, fun h => (ha h).trans (cdStep_covers (hu h)).2.2, fun h => (hb h).trans (cdStep_covers (hd h)).2.2⟩
      show run tbl (tick n) ops = _
      rw [tick_idle n hne (fun h => (cdStep_covers (hu h)).1) (fun h => (cdStep_covers (hd h)).1), e]
    · have e : run tbl n (op :: ops) = run tbl n ops := by
        show run tbl (step tbl n op).1 ops = _
        rw [step_refused hg n hne op hop (fun h sub => hoff h op List.mem_cons_self sub)]
      rw [e, ticksIn_cons_of_ne_tick hop]
      rw [ticksIn_cons_of_ne_tick hop] at hu hd
      exact ih n hne hoff' hu hd

/-- **boot_timing (held).** A BOOTING node with countdown `c` is still BOOTING after any sequence of operations that
contains at most `c` ticks — whatever requests and frames are interleaved — and nothing but the countdowns changed. -/
theorem C12_boot_held {tbl : List Route} (hg : allGuarded tbl = true) (n : Node) (hst : n.st = .booting)
    (ops : List Op) (hle : (ticksIn ops : Int) ≤ n.upCd) :
    Frozen n (run tbl n ops) ∧ (run tbl n ops).upCd = n.upCd - ticksIn ops := by
  obtain ⟨a, b, e, ha, _⟩ := run_idle hg n (by rw [hst]; decide) ops (fun h => by rw [hst] at h; cases h)
    (fun _ => hle) (fun h => by rw [hst] at h; cases h)
  rw [e]
  exact ⟨⟨rfl, rfl, rfl, rfl, rfl, rfl, rfl, rfl⟩, ha hst⟩

/-- **shutdown_timing (held).** Same for SHUTTING_DOWN. -/
theorem C12_shutdown_held {tbl : List Route} (hg : allGuarded tbl = true) (n : Node) (hst : n.st = .shuttingDown)
    (ops : List Op) (hle : (ticksIn ops : Int) ≤ n.downCd) :
    Frozen n (run tbl n ops) ∧ (run tbl n ops).downCd = n.downCd - ticksIn ops := by
  obtain ⟨a, b, e, _, hb⟩ := run_idle hg n (by rw [hst]; decide) ops (fun h => by rw [hst] at h; cases h)
    (fun h => by rw [hst] at h; cases h) (fun _ => hle)
  rw [e]
  exact ⟨⟨rfl, rfl, rfl, rfl, rfl, rfl, rfl, rfl⟩, hb hst⟩

theorem request_accepted {tbl : List Route} (hg : allGuarded tbl = true) (n : Node) (key : String) (sub : Sub)
    (hin : (tbl.find? (fun r => r.key == key)).isSome = true) (hok : n.st = servedIn key) :
    request tbl n key sub = handle n key sub := by
  rw [request_guarded hg, if_pos hin, if_pos hok]

theorem request_startup {tbl : List Route} (hg : allGuarded tbl = true) (n : Node) (sub : Sub)
    (hin : (tbl.find? (fun r => r.key == "startup")).isSome = true) (hst : n.st = .off) :
    request tbl n "startup" sub = ((powerOn n).1, Resp.fromBool (powerOn n).2) := by
  rw [request_accepted hg n "startup" sub hin hst, handle_startup]

theorem request_shutdown {tbl : List Route} (hg : allGuarded tbl = true) (n : Node) (sub : Sub)
    (hin : (tbl.find? (fun r => r.key == "shutdown")).isSome = true) (hst : n.st = .on) :
    request tbl n "shutdown" sub = ((powerOff n).1, Resp.fromBool (powerOff n).2) := by
  rw [request_accepted hg n "shutdown" sub hin hst, handle_shutdown]

theorem request_reset {tbl : List Route} (hg : allGuarded tbl = true) (n : Node) (sub : Sub)
    (hin : (tbl.find? (fun r => r.key == "reset")).isSome = true) (hst : n.st = .on) :
    request tbl n "reset" sub = ((reset n).1, Resp.fromBool (reset n).2) := by
  rw [request_accepted hg n "reset" sub hin hst, handle_reset]

theorem powerOff_timed (n : Node) (hst : n.st = .on) (hd : 0 < n.downDur) :
    (powerOff n).1.st = .shuttingDown ∧ (powerOff n).1.downCd = n.downDur ∧ (powerOff n).1.hist = .shuttingDown :: n.hist ∧
    (powerOff n).1.resetting = n.resetting ∧ (powerOff n).1.upDur = n.upDur ∧ (powerOff n).1.downDur = n.downDur ∧
    (powerOff n).2 = true := by
  unfold powerOff
  rw [if_neg (by omega), if_pos hst]
  exact ⟨rfl, rfl, rfl, rfl, rfl, rfl, rfl⟩

/-- `x` is the node right after `power_off` — at once, or at the end of SHUTTING_DOWN — has assigned OFF to `n` (`h0` the
history before that assignment): durations as they were, the flag clear; OFF if no reset was pending, else started again
within the same operation -/
def AfterOff (n : Node) (h0 : List PState) (x : Node) : Prop :=
  x.upDur = n.upDur ∧ x.downDur = n.downDur ∧ x.resetting = false ∧
  (n.resetting = false → x.st = .off ∧ x.hist = .off :: h0) ∧
  (n.resetting = true → StartedFrom n (.off :: h0) x)

theorem AfterOff.of_same {n n' : Node} {h0 : List PState} {x : Node} (hu : n'.upDur = n.upDur)
    (hd : n'.downDur = n.downDur) (hr : n'.resetting = n.resetting) (h : AfterOff n' h0 x) : AfterOff n h0 x := by
  unfold AfterOff StartedFrom startTarget at *
  rw [hu, hd, hr] at h
  exact h

theorem powerOff_instant (n : Node) (hd : n.downDur ≤ 0) : (powerOff n).2 = true ∧ AfterOff n n.hist (powerOff n).1 := by
  rcases powerOff_cases n with ⟨_, hr, e⟩ | ⟨_, hr, e⟩ | ⟨h, _, _⟩ | ⟨h, _, _⟩
  · rw [e]
    refine ⟨rfl, rfl, rfl, hr, fun _ => ⟨rfl, rfl⟩, fun h => ?_⟩
    rw [hr] at h; cases h
  · rw [e]
    obtain ⟨_, hs, hu', hd', hr'⟩ :=
      powerOn_from_off { setSt (shutDownActions (disableNics n)) .off with resetting := false } rfl
    refine ⟨rfl, hu', hd', hr', fun h => ?_, fun _ => hs⟩
    rw [hr] at h; cases h
  · exact absurd hd (by omega)
  · exact absurd hd (by omega)

def NoRunning (n : Node) : Prop := (∀ s ∈ n.svcs, s.st ≠ .running) ∧ (∀ a ∈ n.apps, a.st ≠ .running)

/-- the invariant of the property statement -/
def OffInv (n : Node) : Prop := n.st = .off → NoRunning n

theorem stop_not_running (s : Service) : s.stop.1.st ≠ .running := by
  unfold Service.stop
  split
  · simp
  · rename_i h; intro hr; exact h (Or.inl hr)

theorem close_not_running (a : App) : a.close.1.st ≠ .running := by
  unfold App.close
  split
  · simp
  · assumption

theorem powerOn_not_off (n : Node) : (powerOn n).1.st ≠ .off := by
  rcases powerOn_cases n with ⟨_, e⟩ | ⟨_, _, e⟩ | ⟨_, hne, e⟩ <;> rw [e]
  · exact fun h => by cases h
  · exact fun h => by cases h
  · exact hne

/-! The OFF invariants — `OffInv` here, its validator-free strengthening `OffInvS` in `C12Deep` — have one shape: once OFF,
every service satisfies some `P` that `stop()` establishes, and no application is RUNNING. The power functions and a tick
preserve any invariant of that shape, because OFF is only ever entered through the shut-down actions. -/

theorem shutDownActions_offP {P : Service → Prop} (hstop : ∀ s : Service, P s.stop.1) (n : Node) :
    (∀ s ∈ (shutDownActions n).svcs, P s) ∧ (∀ a ∈ (shutDownActions n).apps, a.st ≠ .running) :=
  ⟨List.forall_mem_map.mpr (fun s _ => hstop s), List.forall_mem_map.mpr (fun a _ => close_not_running a)⟩

theorem powerOff_offP {P : Service → Prop} (hstop : ∀ s : Service, P s.stop.1) (n : Node)
    (h : n.st = .off → (∀ s ∈ n.svcs, P s) ∧ (∀ a ∈ n.apps, a.st ≠ .running)) :
    (powerOff n).1.st = .off → (∀ s ∈ (powerOff n).1.svcs, P s) ∧ (∀ a ∈ (powerOff n).1.apps, a.st ≠ .running) := by
  rcases powerOff_cases n with ⟨_, _, e⟩ | ⟨_, _, e⟩ | ⟨_, _, e⟩ | ⟨_, _, e⟩ <;> rw [e]
  · exact fun _ => shutDownActions_offP hstop (disableNics n)
  · exact fun hoff => absurd hoff (powerOn_not_off _)
  · intro hoff; cases hoff
  · exact h

theorem tick_offP {P : Service → Prop} (hstop : ∀ s : Service, P s.stop.1) (n : Node)
    (h : n.st = .off → (∀ s ∈ n.svcs, P s) ∧ (∀ a ∈ n.apps, a.st ≠ .running)) :
    (tick n).st = .off → (∀ s ∈ (tick n).svcs, P s) ∧ (∀ a ∈ (tick n).apps, a.st ≠ .running) := by
  rcases tick_cases n with ⟨_, e⟩ | ⟨_, e⟩ | e <;> rw [e]
  · intro hoff; rw [tickSoftware_only] at hoff; cases hoff
  · split
    · intro hoff; rw [tickSoftware_only] at hoff; exact absurd hoff (powerOn_not_off _)
    · exact fun _ => shutDownActions_offP hstop _
  · -- neither transition fires: OFF afterwards means OFF before, and the software block does not run
    intro hoff
    rw [tickSoftware_only] at hoff
    rw [tickSoftware_notOn _ (by rw [show n.st = .off from hoff]; decide)]
    exact h hoff

theorem powerOn_offInv (n : Node) : OffInv (powerOn n).1 := fun hoff => absurd hoff (powerOn_not_off n)

theorem powerOff_offInv (n : Node) (h : OffInv n) : OffInv (powerOff n).1 := powerOff_offP stop_not_running n h

theorem tick_offInv (n : Node) (h : OffInv n) : OffInv (tick n) := tick_offP stop_not_running n h

theorem request_offInv {tbl : List Route} (hg : allGuarded tbl = true) (n : Node) (key : String) (sub : Sub)
    (h : OffInv n) : OffInv (request tbl n key sub).1 :=
  request_elim hg n key sub h (fun _ => powerOn_offInv n) (fun _ => powerOff_offInv n h)
    (fun _ => powerOff_offInv { n with resetting := true } h)
    (fun hst hs hoff => by rw [hs.1, hst] at hoff; cases hoff)

/-- **off_nothing_running.** Under a guarded table, along every sequence of requests, ticks and frames: whenever the
node is OFF, no service is RUNNING and no application is RUNNING. (The guard matters: `Service.resume` does not test the
node; it is the node-is-on validator of the `service` route that keeps a paused service from being resumed on an OFF node.) -/
theorem C12_off_nothing_running {tbl : List Route} (hg : allGuarded tbl = true) (n : Node) (ops : List Op)
    (h : OffInv n) : OffInv (run tbl n ops) :=
  run_induction (fun m op hm => step_elim tbl m op (fun key sub => request_offInv hg m key sub hm) (tick_offInv m hm) hm)
    n ops h

/-- **software_idle_when_not_on.** On a node that is not ON: `start()` and `run()` do nothing, and
`_can_perform_action` (the first test of `send`/`receive`, see `C12_gen_software_guards`) is false for every service
and application, whatever their own state. -/
theorem C12_software_idle_when_not_on (n : Node) (hne : n.st ≠ .on) (s : Service) (a : App) :
    s.start n.isOn = (s, false) ∧ a.run n.isOn = a ∧ s.canPerform n.isOn = false ∧ a.canPerform n.isOn = false := by
  rw [isOn_false hne]
  exact ⟨rfl, rfl, rfl, rfl⟩

/-- software time stands still while the node is not ON (restart / install countdowns are suspended) -/
theorem C12_software_suspended_when_not_on (n : Node) (hne : (tickDown (tickUp n)).st ≠ .on) :
    (tick n).svcs = (tickDown (tickUp n)).svcs ∧ (tick n).apps = (tickDown (tickUp n)).apps := by
  unfold tick; rw [tickSoftware_notOn _ hne]; exact ⟨rfl, rfl⟩

theorem powerOff_allUp (n : Node) (hon : (powerOff n).1.st = .on) (hh : (powerOff n).1.hist ≠ n.hist) :
    AllUp (powerOff n).1 := by
  rcases powerOff_cases n with ⟨_, _, e⟩ | ⟨_, _, e⟩ | ⟨_, _, e⟩ | ⟨_, _, e⟩ <;> rw [e] at hon hh ⊢
  · cases hon
  · exact (powerOn_from_off { setSt (shutDownActions (disableNics n)) .off with resetting := false } rfl).2.1.2.2.2 hon
  · cases hon
  · exact absurd rfl hh

theorem tick_allUp (n : Node) (hon : (tick n).st = .on) (hh : (tick n).hist ≠ n.hist) : AllUp (tick n) := by
  rcases tick_cases n with ⟨_, e⟩ | ⟨_, e⟩ | e <;> rw [e] at hon hh ⊢
  · exact tickSoftware_allUp _ (allUp_on n).2
  · -- only a pending reset with an instant start-up leaves the node ON
    by_cases hr : n.resetting = true
    · rw [if_pos hr] at hon ⊢
      exact (powerOn_from_off _ rfl).2.1.tickSoftware.2.2.2 hon
    · rw [if_neg hr] at hon; cases hon
  · rw [tickSoftware_only] at hh
    exact absurd rfl hh

/-- **leaving BOOTING.** After operations with exactly as many ticks as the countdown, the next tick turns the node ON:
one assignment, the reset flag as it was, everything up. -/
theorem booting_exit {tbl : List Route} (hg : allGuarded tbl = true) (n : Node) (hst : n.st = .booting)
    (C : List Op) (hC : (ticksIn C : Int) = n.upCd) :
    (tick (run tbl n C)).st = .on ∧ (tick (run tbl n C)).hist = .on :: n.hist ∧
      (tick (run tbl n C)).resetting = n.resetting ∧ AllUp (tick (run tbl n C)) := by
  obtain ⟨a, b, e, ha, _⟩ := run_idle hg n (by rw [hst]; decide) C (fun h => by rw [hst] at h; cases h)
    (fun _ => by omega) (fun h => by rw [hst] at h; cases h)
  rw [e, tick_booting_fire { n with upCd := a, downCd := b } hst (by show a ≤ 0; have := ha hst; omega)]
  refine ⟨?_, ?_, ?_, tickSoftware_allUp _ (allUp_on _).2⟩ <;> rw [tickSoftware_only] <;> rfl

/-- **leaving SHUTTING_DOWN.** After operations with exactly as many ticks as the countdown, the next tick assigns OFF;
with a reset pending it goes on to the start target within the same tick, clears the flag and arms the boot countdown. -/
theorem shutting_exit {tbl : List Route} (hg : allGuarded tbl = true) (n : Node) (hst : n.st = .shuttingDown)
    (A : List Op) (hA : (ticksIn A : Int) = n.downCd) : AfterOff n n.hist (tick (run tbl n A)) := by
  obtain ⟨a, b, e, _, hb⟩ := run_idle hg n (by rw [hst]; decide) A (fun h => by rw [hst] at h; cases h)
    (fun h => by rw [hst] at h; cases h) (fun _ => by omega)
  rw [e, tick_shutting_fire { n with upCd := a, downCd := b } hst (by show b ≤ 0; have := hb hst; omega)]
  by_cases hr : n.resetting = true
  · rw [if_pos hr]
    obtain ⟨_, hs, hu', hd', hr'⟩ :=
      powerOn_from_off { shutDownActions (setSt { n with upCd := cdStep a, downCd := b } .off) with resetting := false } rfl
    refine ⟨?_, ?_, ?_, fun h => ?_, fun _ => hs.tickSoftware⟩
    · rw [tickSoftware_only]; exact hu'
    · rw [tickSoftware_only]; exact hd'
    · rw [tickSoftware_only]; exact hr'
    · rw [hr] at h; cases h
  · rw [if_neg hr]
    exact ⟨rfl, rfl, Bool.eq_false_iff.mpr hr, fun _ => ⟨rfl, rfl⟩, fun h => absurd h hr⟩

/-- the start-up phase of a started node — started by a request or by the automatic restart of a reset alike -/
theorem started_timing {tbl : List Route} (hg : allGuarded tbl = true) {n x : Node} {h0 : List PState}
    (h : StartedFrom n h0 x) :
    (n.upDur ≤ 0 → x.st = .on ∧ x.hist = .on :: h0) ∧
    (0 < n.upDur →
      (∀ ops, (ticksIn ops : Int) ≤ n.upDur → (run tbl x ops).st = .booting ∧ (run tbl x ops).resetting = x.resetting) ∧
      (∀ C, (ticksIn C : Int) = n.upDur →
        (tick (run tbl x C)).st = .on ∧ (tick (run tbl x C)).hist = .on :: .booting :: h0 ∧
        (tick (run tbl x C)).resetting = x.resetting ∧ AllUp (tick (run tbl x C)))) := by
  obtain ⟨hs, hh, hcd, _⟩ := h
  unfold startTarget at hs hh
  refine ⟨fun hu => ?_, fun hu => ?_⟩
  · rw [if_pos hu] at hs hh
    exact ⟨hs, hh⟩
  · rw [if_neg (by omega)] at hs hh
    refine ⟨fun ops hle => ?_, fun C hC => ?_⟩
    · have hf := (C12_boot_held hg x hs ops (by rw [hcd hu]; exact hle)).1
      exact ⟨hf.st.trans hs, hf.resetting⟩
    · have := booting_exit hg x hs C (by rw [hcd hu]; exact hC)
      rw [hh] at this
      exact this

/-- the shut-down phase after `power_off` on an ON node; `reset` is the case `{ n with resetting := true }` -/
theorem powerOff_timing {tbl : List Route} (hg : allGuarded tbl = true) (n : Node) (hst : n.st = .on) :
    (powerOff n).2 = true ∧
    (n.downDur ≤ 0 → AfterOff n n.hist (powerOff n).1) ∧
    (0 < n.downDur →
      (∀ ops, (ticksIn ops : Int) ≤ n.downDur →
        (run tbl (powerOff n).1 ops).st = .shuttingDown ∧ (run tbl (powerOff n).1 ops).resetting = n.resetting) ∧
      (∀ A, (ticksIn A : Int) = n.downDur →
        AfterOff n (.shuttingDown :: n.hist) (tick (run tbl (powerOff n).1 A)))) := by
  by_cases hd : n.downDur ≤ 0
  · exact ⟨(powerOff_instant n hd).1, fun _ => (powerOff_instant n hd).2, fun h => absurd h (by omega)⟩
  · obtain ⟨q1, q2, q3, q4, q5, q6, q7⟩ := powerOff_timed n hst (by omega)
    refine ⟨q7, fun h => absurd h hd, fun _ => ⟨fun ops hle => ?_, fun A hA => ?_⟩⟩
    · have hf := (C12_shutdown_held hg _ q1 ops (by rw [q2]; exact hle)).1
      exact ⟨hf.st.trans q1, hf.resetting.trans q4⟩
    · have := shutting_exit hg _ q1 A (by rw [q2]; exact hA)
      rw [q3] at this
      exact this.of_same q5 q6 q4

/-- **boot_timing / instant.** `startup` on an OFF node answers success. With `start_up_duration = d > 0` the node is
BOOTING for every continuation containing at most `d` ticks (requests and frames in between change nothing), and the
`(d+1)`-th tick — the documented `range(d + 1)` — turns it ON. With `d <= 0` it is ON at once. -/
theorem C12_boot_timing {tbl : List Route} (hg : allGuarded tbl = true) (n : Node) (hst : n.st = .off) (sub : Sub)
    (hin : (tbl.find? (fun r => r.key == "startup")).isSome = true) :
    (request tbl n "startup" sub).2 = .success ∧
    (n.upDur ≤ 0 → (request tbl n "startup" sub).1.st = .on) ∧
    (0 < n.upDur →
      (request tbl n "startup" sub).1.st = .booting ∧
      (∀ ops, (ticksIn ops : Int) ≤ n.upDur → (run tbl (request tbl n "startup" sub).1 ops).st = .booting) ∧
      (∀ ops, (ticksIn ops : Int) = n.upDur →
        (step tbl (run tbl (request tbl n "startup" sub).1 ops) .tick).1.st = .on)) := by
  rw [request_startup hg n sub hin hst]
  obtain ⟨ok, hs, _⟩ := powerOn_from_off n hst
  obtain ⟨inst, timed⟩ := started_timing hg hs
  exact ⟨congrArg Resp.fromBool ok, fun hu => (inst hu).1,
    fun hu => ⟨((timed hu).1 [] (Int.le_of_lt hu)).1, fun ops hle => ((timed hu).1 ops hle).1,
      fun ops heq => ((timed hu).2 ops heq).1⟩⟩

/-- **shutdown_timing / instant.** `shutdown` on an ON node answers success. With `shut_down_duration = d > 0` the node
is SHUTTING_DOWN for every continuation containing at most `d` ticks and the `(d+1)`-th tick turns it OFF
(no reset pending). With `d <= 0` it is OFF at once. -/
theorem C12_shutdown_timing {tbl : List Route} (hg : allGuarded tbl = true) (n : Node) (hst : n.st = .on) (sub : Sub)
    (hr : n.resetting = false) (hin : (tbl.find? (fun r => r.key == "shutdown")).isSome = true) :
    (request tbl n "shutdown" sub).2 = .success ∧
    (n.downDur ≤ 0 → (request tbl n "shutdown" sub).1.st = .off) ∧
    (0 < n.downDur →
      (request tbl n "shutdown" sub).1.st = .shuttingDown ∧
      (∀ ops, (ticksIn ops : Int) ≤ n.downDur → (run tbl (request tbl n "shutdown" sub).1 ops).st = .shuttingDown) ∧
      (∀ ops, (ticksIn ops : Int) = n.downDur →
        (step tbl (run tbl (request tbl n "shutdown" sub).1 ops) .tick).1.st = .off)) := by
  rw [request_shutdown hg n sub hin hst]
  obtain ⟨ok, inst, timed⟩ := powerOff_timing hg n hst
  exact ⟨congrArg Resp.fromBool ok, fun hd => ((inst hd).2.2.2.1 hr).1,
    fun hd => ⟨((timed hd).1 [] (Int.le_of_lt hd)).1, fun ops hle => ((timed hd).1 ops hle).1,
      fun ops heq => (((timed hd).2 ops heq).2.2.2.1 hr).1⟩⟩

/-- **reset_is_off_then_on.** `reset` on an ON node answers success and is a shutdown followed by an automatic start:
* `shut_down_duration <= 0`: within the request the node is assigned OFF and then its start target (BOOTING, or ON when
  `start_up_duration <= 0`), the pending-reset flag is cleared and the boot countdown is armed;
* `shut_down_duration = d > 0`: the node is SHUTTING_DOWN with the flag set for every continuation containing at most `d`
  ticks; the `(d+1)`-th tick assigns OFF and then the start target, clears the flag and arms the boot countdown.
In both cases `C12_boot_held` / `tick_booting_zero` then give the boot timing. -/
theorem C12_reset_is_off_then_on {tbl : List Route} (hg : allGuarded tbl = true) (n : Node) (hst : n.st = .on) (sub : Sub)
    (hin : (tbl.find? (fun r => r.key == "reset")).isSome = true) :
    (request tbl n "reset" sub).2 = .success ∧
    (n.downDur ≤ 0 →
      (request tbl n "reset" sub).1.st = startTarget n ∧
      (request tbl n "reset" sub).1.hist = startTarget n :: .off :: n.hist ∧
      (request tbl n "reset" sub).1.resetting = false ∧
      (0 < n.upDur → (request tbl n "reset" sub).1.upCd = n.upDur)) ∧
    (0 < n.downDur →
      (request tbl n "reset" sub).1.st = .shuttingDown ∧ (request tbl n "reset" sub).1.resetting = true ∧
      (∀ ops, (ticksIn ops : Int) ≤ n.downDur →
        (run tbl (request tbl n "reset" sub).1 ops).st = .shuttingDown ∧
        (run tbl (request tbl n "reset" sub).1 ops).resetting = true) ∧
      (∀ ops, (ticksIn ops : Int) = n.downDur →
        let m := (step tbl (run tbl (request tbl n "reset" sub).1 ops) .tick).1
        m.st = startTarget n ∧ m.hist = startTarget n :: .off :: .shuttingDown :: n.hist ∧ m.resetting = false ∧
        (0 < n.upDur → m.upCd = n.upDur))) := by
  rw [request_reset hg n sub hin hst]
  obtain ⟨_, inst, timed⟩ := powerOff_timing hg { n with resetting := true } hst
  refine ⟨rfl, fun hd => ?_, fun hd => ?_⟩
  · obtain ⟨r1, r2, r4, _⟩ := (inst hd).2.2.2.2 rfl
    exact ⟨r1, r2, (inst hd).2.2.1, r4⟩
  · obtain ⟨held, exit⟩ := timed hd
    refine ⟨(held [] (Int.le_of_lt hd)).1, (held [] (Int.le_of_lt hd)).2, held, fun ops heq => ?_⟩
    obtain ⟨_, _, z3, _, z⟩ := exit ops heq
    obtain ⟨z1, z2, z4, _⟩ := z rfl
    exact ⟨z1, z2, z3, z4⟩

/-- **back_on.** Whenever an operation assigns `operating_state` and leaves the node ON — a start-up request with
duration 0, the tick that ends BOOTING, the tick or request that completes a reset with `start_up_duration = 0` —
every linked interface is enabled, no service is left STOPPED and no application is left CLOSED. -/
theorem C12_back_on {tbl : List Route} (hg : allGuarded tbl = true) (n : Node) (op : Op)
    (hon : (step tbl n op).1.st = .on) (hh : (step tbl n op).1.hist ≠ n.hist) : AllUp (step tbl n op).1 := by
  refine step_elim (motive := fun m => m.st = .on → m.hist ≠ n.hist → AllUp m) tbl n op (fun key sub => ?_)
    (tick_allUp n) (fun _ hh => absurd rfl hh) hon hh
  exact request_elim (motive := fun m => m.st = .on → m.hist ≠ n.hist → AllUp m) hg n key sub (fun _ hh => absurd rfl hh)
    (fun hoff hon _ => (powerOn_from_off n hoff).2.1.2.2.2 hon) (fun _ => powerOff_allUp n) (fun _ => powerOff_allUp { n with resetting := true })
    (fun _ hs _ hh => absurd hs.2.1 hh)

/-- power events never touch a DISABLED service: it stays DISABLED through shutdown and start-up -/
theorem C12_disabled_stays_disabled (s : Service) (h : s.st = .disabled) (nodeOn : Bool) :
    s.stop.1.st = .disabled ∧ (s.start nodeOn).1.st = .disabled ∧ s.tick.st = .disabled := by
  refine ⟨?_, ?_, ?_⟩
  · unfold Service.stop; simp [h]
  · unfold Service.start; cases nodeOn <;> simp [h, nodeAllows]
  · unfold Service.tick; simp [h]

/-! ### non-vacuity: concrete nodes meeting the hypotheses, and the documented timing on them -/

def exOn : Node :=
  { st := .on, upDur := 2, downDur := 3, nics := [⟨true, true, .ipWired⟩, ⟨false, false, .wired⟩],
    svcs := [⟨.running, 0, 5⟩, ⟨.paused, 0, 5⟩, ⟨.disabled, 0, 5⟩, ⟨.restarting, 1, 5⟩], apps := [⟨.running, 0, 2⟩, ⟨.installing, 1, 2⟩] }
def exOff : Node :=
  { st := .off, upDur := 2, downDur := 3, nics := [⟨false, true, .ipWired⟩, ⟨false, false, .wired⟩],
    svcs := [⟨.stopped, 0, 5⟩, ⟨.disabled, 0, 5⟩], apps := [⟨.closed, 0, 2⟩] }
def shutdownOp : Op := .request "shutdown" (.opaque .success)
def startupOp : Op := .request "startup" (.opaque .success)
def resetOp : Op := .request "reset" (.opaque .success)

example : allGuarded baseRoutes = true := by decide +kernel
example : NicInv exOn ∧ NicInv exOff := by unfold NicInv NicsOff; decide +kernel
example : OffInv exOn ∧ OffInv exOff := by unfold OffInv NoRunning; decide +kernel
example : exOn.hist = [] ∧ exOff.st = .off ∧ 0 < exOff.upDur ∧ exOn.st = .on ∧ 0 < exOn.downDur ∧ exOn.resetting = false := by decide +kernel
example : (baseRoutes.find? (fun r => r.key == "startup")).isSome = true := by decide +kernel
/-- `range(d + 1)`: start-up duration 2 → BOOTING after the request and after ticks 1 and 2, ON after tick 3 -/
example : ((run baseRoutes exOff [startupOp]).st, (run baseRoutes exOff [startupOp, .tick, .tick]).st,
    (run baseRoutes exOff [startupOp, .tick, .tick, .tick]).st) = (.booting, .booting, .on) := by decide +kernel
/-- shut-down duration 3 → SHUTTING_DOWN through tick 3, OFF after tick 4; interfaces disabled from the request on;
services keep their state until OFF is reached -/
example : ((run baseRoutes exOn [shutdownOp, .tick, .tick, .tick]).st, (run baseRoutes exOn [shutdownOp, .tick, .tick, .tick, .tick]).st,
    (run baseRoutes exOn [shutdownOp]).nics.map (·.enabled),
    (run baseRoutes exOn [shutdownOp, .tick]).svcs.map (·.st),
    (run baseRoutes exOn [shutdownOp, .tick, .tick, .tick, .tick]).svcs.map (·.st)) =
    (.shuttingDown, .off, [false, false], [.running, .paused, .disabled, .restarting],
     [.stopped, .stopped, .disabled, .restarting]) := by decide +kernel
/-- reset = 4 ticks down, then (same tick) OFF→BOOTING, 3 more ticks up; the whole micro-trace -/
example : (run baseRoutes exOn [resetOp, .tick, .tick, .tick, .tick, .tick, .tick, .tick]).hist =
    [.on, .booting, .off, .shuttingDown] := by decide +kernel
/-- back ON: linked interface up, RUNNING/PAUSED→STOPPED→RUNNING, DISABLED stays, the unlinked interface stays down;
the software clock resumes in the tick that reaches ON (the pending install completes) -/
example : let n := run baseRoutes exOn [resetOp, .tick, .tick, .tick, .tick, .tick, .tick, .tick]
    (n.nics.map (·.enabled), n.svcs.map (·.st), n.apps.map (·.st)) =
    ([true, false], [.running, .running, .disabled, .restarting], [.running, .running]) := by decide +kernel
/-- requests in a transitional state are refused; a misspelt key is unreachable -/
example : ((step baseRoutes (run baseRoutes exOff [startupOp]) startupOp).2,
    (step baseRoutes (run baseRoutes exOff [startupOp]) (.request "service" (.svc 0 .start))).2,
    (step baseRoutes (run baseRoutes exOff [startupOp]) (.request "power_on" (.opaque .success))).2) =
    (.resp .failure, .resp .failure, .resp .unreachable) := by decide +kernel

/-! ### the unrepaired code: F-14, F-20, F-21 as counterexamples (kept so that the defects stay documented) -/

/-- `Node.power_off` as it was before the two `fix:` commits: the instant branch neither disabled the interfaces nor
looked at `is_resetting` -/
def powerOffOld (n : Node) : Node × Bool :=
  if n.downDur ≤ 0 then (setSt (shutDownActions n) .off, true)
  else if n.st = .on then ({ setSt (disableNics n) .shuttingDown with downCd := n.downDur }, true)
  else (n, false)

def exInstant : Node := { exOn with upDur := 0, downDur := 0 }

/-- F-14: with `shut_down_duration = 0` the old `power_off` produced an OFF node with an enabled interface -/
theorem C12_F14_counterexample : NicInv exInstant ∧ ¬ NicInv (powerOffOld exInstant).1 := by
  unfold NicInv NicsOff; decide

/-- the repaired function does not -/
example : NicInv (powerOff exInstant).1 := powerOff_nicInv _ (by unfold NicInv NicsOff; decide)

theorem tick_off (n : Node) (h : n.st = .off) : (tick n).st = .off ∧ (tick n).resetting = n.resetting := by
  rw [tick_idle n (by rw [h]; decide) (fun hb => by rw [h] at hb; cases hb) (fun hs => by rw [h] at hs; cases hs)]
  exact ⟨h, rfl⟩

def ticks : Nat → Node → Node
  | 0, n => n
  | k + 1, n => ticks k (tick n)

theorem ticks_off (k : Nat) (n : Node) (h : n.st = .off) :
    (ticks k n).st = .off ∧ (ticks k n).resetting = n.resetting := by
  induction k generalizing n with
  | zero => exact ⟨h, rfl⟩
  | succ k ih =>
    have := ih (tick n) (tick_off n h).1
    exact ⟨this.1, this.2.trans (tick_off n h).2⟩

/-- F-20: with `shut_down_duration = 0` the old `reset` left the node OFF with `is_resetting` set, and no number of
ticks ever started it again -/
theorem C12_F20_counterexample :
    let n := (powerOffOld { exInstant with resetting := true }).1
    n.st = .off ∧ n.resetting = true ∧ ∀ k, (ticks k n).st = .off ∧ (ticks k n).resetting = true := by
  refine ⟨by decide, by decide, fun k => ?_⟩
  exact ticks_off k _ (by decide)

/-- the repaired one passes OFF and is ON again within the request -/
example : (reset exInstant).1.st = .on ∧ (reset exInstant).1.hist = [.on, .off] ∧ (reset exInstant).1.resetting = false := by
  decide

/-- F-21: the route tables of routers and firewalls as they were (no validator on the ACL routes) -/
def oldRouterRoutes : List Route := baseRoutes ++ [⟨"acl", .none⟩]
def oldFirewallRoutes : List Route := oldRouterRoutes ++ [⟨"internal", .none⟩, ⟨"dmz", .none⟩, ⟨"external", .none⟩]

theorem C12_F21_counterexample :
    allGuarded oldRouterRoutes = false ∧ allGuarded oldFirewallRoutes = false ∧
    request oldRouterRoutes exOff "acl" (.opaque .success) = (exOff, .success) ∧
    request oldFirewallRoutes exOff "dmz" (.opaque .success) = (exOff, .success) := by decide +kernel

end Primaite.Power

/-! ### tie to the regenerated tables (Gen/Power.lean is rewritten from the source on every run) -/
namespace Primaite.Power
open Primaite.Gen.Power

/-- the node classes the property names (plus `host-node` and `printer`): every instantiable class below `Node` that
declares a discriminator (see `C12_gen_class_inventory`), each with its regenerated node-level route table -/
theorem C12_gen_classes :
    classTables.map (·.1) =
      ["host-node", "computer", "printer", "server", "router", "switch", "firewall", "wireless-router"] := rfl

/-- **the regenerated table obligation**: in every node class every node-level route carries the node-is-on
validator, except `startup`, which carries node-is-off. (F-21: on the unrepaired tree the `acl` route of routers and the
`internal`/`dmz`/`external` routes of firewalls carry none, and this does not check.) -/
theorem C12_gen_routes_guarded : classTables.all (fun c => allGuarded c.2) = true := by decide +kernel

/-- every class has the three power routes and the keys of a table are distinct (so `find?` = dict lookup) -/
theorem C12_gen_routes_wellformed :
    classTables.all (fun c =>
      ["shutdown", "startup", "reset", "service", "application", "network_interface"].all (fun k => (c.2.map (·.key)).contains k)
      && decide ((c.2.map (·.key)).Nodup)) = true := by decide +kernel

/-- **the two node validators, by meaning.** The extractor translates `_NodeIsOnValidator.__call__` and
`_NodeIsOffValidator.__call__` (comparisons with enum members, `in`, `not`, `and`/`or`, `super().__call__`) into predicates
over the power state; they are exactly the model's `guardOk`: node-is-on holds in ON only, node-is-off in OFF only — in
particular NOT in BOOTING or SHUTTING_DOWN (seeded C05-d turns node-is-off into `not node-is-on`; any respelling with the
same meaning passes). -/
theorem C12_gen_validators (s : PState) :
    nodeIsOnPred s = guardOk .nodeOn { st := s } ∧ nodeIsOffPred s = guardOk .nodeOff { st := s } := by
  cases s <;> decide

/-- enum values and schema defaults the docs quote -/
theorem C12_gen_constants :
    stateValues = [("ON", 1), ("OFF", 2), ("BOOTING", 3), ("SHUTTING_DOWN", 4)] ∧
    defaultUpDur = 3 ∧ defaultDownDur = 3 ∧ defaultUpCd = 0 ∧ defaultDownCd = 0 ∧ defaultResetting = false :=
  ⟨rfl, rfl, rfl, rfl, rfl, rfl⟩

/- The four power methods are tied to the model BY MEANING, not by a table here: their bodies are translated statement by
statement (`Gen/PowerProg.lean`) and proved equal to `powerOn` / `powerOff` / `reset` / `tickDown ∘ tickUp` / the actions for
every node — `Props/C12Prog.lean`, `C12_gen_power_on_sem` etc. -/

/-- interfaces: every receive/send entry point starts with the `enabled` test (that `enable()` refuses when the node is not
ON is proved of the translated bodies: `C12_gen_interface_enable_sem` in Props/C12Prog.lean) -/
theorem C12_gen_interfaces :
    nicEntryGuarded.all (·.2) = true ∧ nicEntryGuarded.length = 8 := by decide

/-- software: `_can_perform_action` tests the node, and `start`/`run`/`send`/`receive` begin with it -/
theorem C12_gen_software_guards :
    canPerformActionTestsNodeOn = true ∧ serviceStartGuarded = true ∧ applicationRunGuarded = true ∧
    softwareSendGuarded = true ∧ softwareReceiveGuarded = true := by decide

/-- so every theorem above that assumes `allGuarded tbl` applies to the regenerated table of every node class -/
theorem C12_all_classes_guarded (cls : String) (tbl : List Route) (hc : (cls, tbl) ∈ classTables) :
    allGuarded tbl = true :=
  List.all_eq_true.mp C12_gen_routes_guarded (cls, tbl) hc

/-- hence, for every node class of the code: refused unless start-up -/
theorem C12_refused_unless_startup_all_classes (cls : String) (tbl : List Route) (hc : (cls, tbl) ∈ classTables)
    (n : Node) (hne : n.st ≠ .on) (key : String) (sub : Sub) (hk : key ≠ "startup") :
    request tbl n key sub = (n, if (tbl.find? (fun r => r.key == key)).isSome then .failure else .unreachable) :=
  C12_refused_unless_startup (C12_all_classes_guarded cls tbl hc) n hne key sub hk

/-! ### routes registered at RUN TIME (an application installed during the episode, a service installed by the software
manager, an interface connected later) hang under a node-level edge that carries the node-is-on validator -/

/-- the regenerated list of every `add_request` that runs after construction: each goes into a manager that
`Node._init_request_manager` wires under the node's own manager by an edge with the node-is-on validator, never into the node's
own manager (the extractor refuses that), and that edge is no `startup` -/
theorem C12_gen_runtime_routes_guarded :
    runtimeRouteSites.all (fun s => s.2.2.2 == .nodeOn && s.2.2.1 != "startup") = true ∧
    runtimeRouteSites.any (fun s => s.1 == "Node._init_request_manager._install_application") = true ∧
    runtimeRouteSites.any (fun s => s.1 == "SoftwareManager.install" && s.2.2.1 == "application") = true ∧
    -- the edge named is the edge of the class tables, in every node class
    runtimeRouteSites.all (fun s => classTables.all (fun c => c.2.contains ⟨s.2.2.1, .nodeOn⟩)) = true := by decide +kernel

/-- **hence whatever was registered at run time, and whatever is sent below it (`sub` is arbitrary: any application name, any
verb, any arguments), a node that is not ON refuses it and nothing changes** — for every node class of the code -/
theorem C12_runtime_routes_refused (cls : String) (tbl : List Route) (hc : (cls, tbl) ∈ classTables)
    (s : String × String × String × Guard) (hs : s ∈ runtimeRouteSites) (n : Node) (hne : n.st ≠ .on) (sub : Sub) :
    request tbl n s.2.2.1 sub = (n, .failure) := by
  have hall := List.all_eq_true.mp C12_gen_runtime_routes_guarded.1 s hs
  have hk : s.2.2.1 ≠ "startup" := by
    intro h; simp [h] at hall
  have hin : tbl.contains ⟨s.2.2.1, .nodeOn⟩ = true :=
    List.all_eq_true.mp (List.all_eq_true.mp C12_gen_runtime_routes_guarded.2.2.2 s hs) (cls, tbl) hc
  have hmem : (⟨s.2.2.1, .nodeOn⟩ : Route) ∈ tbl := by simpa using hin
  have hsome : (tbl.find? (fun r => r.key == s.2.2.1)).isSome = true := by
    rw [List.find?_isSome]; exact ⟨_, hmem, by simp⟩
  rw [C12_refused_unless_startup_all_classes cls tbl hc n hne s.2.2.1 sub hk, hsome]; rfl

end Primaite.Power
