/-
Property C15: the methods of `FileSystem`, its request handlers and validators, translated.

`FileSystem.get_file`, `FileSystem.create_folder`, `FileSystem.create_file`, `FileSystem.pre_timestep` and
`FileSystem.setup_for_episode` are translated statement by statement from the source (Gen/FileSystemMethods.lean, extractor
harness/extract/fsxlate.py) — `create_file` CALLS the translated `create_folder`, `get_file` and `Folder.add_file`.  This file proves
them equal to the model's functions (which the structural theorems `C15_inv_*`, `C15_create_existing_*`, `C15_counters_*` speak
about), so the clause "an action that creates a file or folder which already exists is refused or is a no-op rather than an error
or a duplicate" and "the counters start every tick at zero" are about the code as it is written.  The same is done for the
uuid-keyed API, `copy_file`, `move_file`, `apply_timestep`, `__init__`, `access_file`, the handler closures, the validators and
`describe_state`; `C15_gen_step_from_translated` assembles the model's `step` from the translated pieces along the request tree.
-/
import PrimaiteModel.Model.FileSystemLoader
import PrimaiteModel.Props.C15Api
import PrimaiteModel.Props.C15Health
import PrimaiteModel.Lemmas.FileSystemDisjoint
import PrimaiteModel.Gen.FileSystemMethods
namespace Primaite.FileSystem
open Gen.FileSystemMethods

theorem dictSet_dictSet_same {α} (key : α → Nat) (l : List α) (x y : α) (h : key y = key x) :
    dictSet key (dictSet key l x) y = dictSet key l y := by
  unfold dictSet
  rw [h]
  cases hany : l.any (fun z => key z == key x) with
  | true =>
    have h2 : (l.map (fun z => if key z == key x then x else z)).any (fun z => key z == key x) = true := by
      simp only [List.any_eq_true, List.mem_map] at hany ⊢
      obtain ⟨z, hz, hk⟩ := hany
      exact ⟨x, ⟨z, hz, by simp [hk]⟩, by simp⟩
    simp only [↓reduceIte, h2, List.map_map]
    apply List.map_congr_left
    intro z _
    by_cases hk : key z = key x <;> simp [hk]
  | false =>
    -- `x` went to the end, where `y` replaces it: nothing before it carries the key
    have hno : ∀ z ∈ l, key z ≠ key x := by simpa using hany
    have h3 : l.map (fun z => if key z = key x then y else z) = l :=
      (List.map_congr_left fun z hz => by simp [hno z hz]).trans (List.map_id l)
    simp [h3]

/-- When the stored folder objects with the uuid of `g` are `g` itself (under `Inv`: `folder_eq_of_id`), two mutations that agree
on `g` agree. -/
theorem updFolder_congr_of {s : State} {g : Folder}
    (hu : ∀ g0, g0 ∈ s.folders ∨ g0 ∈ s.deletedFolders → g0.id = g.id → g0 = g) (t t' : Folder → Folder) (ht : t g = t' g) :
    updFolder s g.id t = updFolder s g.id t' := by
  unfold updFolder
  have e : ∀ l : List Folder, (∀ y ∈ l, y ∈ s.folders ∨ y ∈ s.deletedFolders) →
      l.map (fun y => if y.id == g.id then t y else y) = l.map (fun y => if y.id == g.id then t' y else y) := by
    intro l hl
    apply List.map_congr_left
    intro y hy
    by_cases hk : y.id = g.id
    · rw [hu y (hl y hy) hk]; simp [ht]
    · simp [hk]
  rw [e s.folders (fun _ hy => Or.inl hy), e s.deletedFolders (fun _ hy => Or.inr hy)]

/-- Mutating the object of another uuid leaves the live folder `g` the one object of its uuid, and found by that uuid. -/
theorem updFolder_other {s : State} (h : Inv s) {g : Folder} (hg : g ∈ s.folders) {i : Nat} (hi : g.id ≠ i) (t : Folder → Folder)
    (ht : ∀ y, (t y).id = y.id) :
    (∀ g0, g0 ∈ (updFolder s i t).folders ∨ g0 ∈ (updFolder s i t).deletedFolders → g0.id = g.id → g0 = g) ∧
    (findFolderById (updFolder s i t) g.id).getD g = g := by
  have hu : ∀ g0, g0 ∈ (updFolder s i t).folders ∨ g0 ∈ (updFolder s i t).deletedFolders → g0.id = g.id → g0 = g := by
    intro g0 hg0 hid
    obtain ⟨y, hy, rfl⟩ := mem_updFolder rfl rfl hg0
    by_cases hk : y.id = i
    · rw [if_pos (by simpa using hk), ht, hk] at hid
      exact absurd hid.symm hi
    · rw [if_neg (by simpa using hk)] at hid ⊢
      exact folder_eq_of_id h hg hy hid
  refine ⟨hu, ?_⟩
  cases hq : findFolderById (updFolder s i t) g.id with
  | none => rfl
  | some g0 => exact hu g0 (List.mem_append.mp (List.mem_of_find?_eq_some hq)) (by simpa using List.find?_some hq)

/-- `FileSystem.get_file` as translated: the folder lookup and the file lookup both with the caller's `include_deleted`; with the
default (`False`) it is the model's `getFile`. -/
theorem C15_gen_get_file (s : State) (F x : Name) (incl : Bool) :
    fsGetFile s F x incl = (getFolder s F incl).bind (fun g => g.getFile x incl) ∧ fsGetFile s F x false = getFile s F x := by
  unfold fsGetFile getFile
  constructor
  · cases getFolder s F incl <;> rfl
  · cases getFolder s F false <;> rfl

/-- **The closure `_file_action`** (route `["file", F, x, …]`), read from the source: it looks the file up with the TRANSLATED `get_file` on
`request[0]`, `request[1]` (live only — the model's `getFile`), consumes exactly two options and hands the rest to THAT file's own request
manager; the model's step for `fsFileVerb` is that composition (the `none` branch is the route's `_file_exists` validator, which refuses
before the closure would raise on `None`). -/
theorem C15_gen_file_action (s : State) (F x : Name) (v : Verb) :
    hFileActionConsumed = 2 ∧ hFileActionTarget s F x = getFile s F x ∧
    step s (.fsFileVerb F x v) =
      (match getFolder s F with
       | none => (s, .failure)
       | some g =>
         match hFileActionTarget s F x with
         | none => (s, .failure)
         | some f =>
           match f.verb v with
           | none => (s, .unreachable)
           | some (f', b) =>
             (updFolder s g.id (fun g => { g with files := g.files.map (fun y => if y.id == f.id then f' else y) }), ofBool b)) := by
  have h2 := (C15_gen_get_file s F x false).2
  refine ⟨rfl, ?_, ?_⟩
  · unfold hFileActionTarget; exact h2
  · unfold hFileActionTarget
    rw [h2]
    show fsFileVerb s F x v = _
    unfold fsFileVerb getFile
    cases getFolder s F <;> rfl

/-- **`FileSystem.create_folder` as translated from the source is the model's `createFolder`**, state and returned folder, for every
state and name: an existing live folder is re-stored under its own uuid (no second entry, no new route, no new uuid), a missing one
is created with a fresh uuid and its route; the default restore duration, when set, lands on the STORED object (the assignment comes
after the store in the source: one object). -/
theorem C15_gen_create_folder (s : State) (n : Name) : fsCreateFolder s n = createFolder s n := by
  unfold fsCreateFolder createFolder
  cases hg : getFolder s n false with
  | some g =>
    cases s.defaultRestore with
    | none => simp
    | some d =>
      simp only
      rw [dictSet_dictSet_same Folder.id s.folders g { g with restoreDuration := d } rfl]
  | none =>
    cases s.defaultRestore with
    | none => simp
    | some d =>
      simp only
      rw [dictSet_dictSet_same Folder.id s.folders { id := s.next, name := n } { id := s.next, name := n, restoreDuration := d } rfl]

/-- Creating a folder that exists is a no-op on the structure — stated for the TRANSLATED method: same live and deleted folders up to
the duration field of that one folder, same routes, no uuid consumed. -/
theorem C15_translated_create_existing_folder {s : State} (h : Inv s) {n : Name} {g : Folder} (hg : getFolder s n = some g) :
    (fsCreateFolder s n).1.deletedFolders = s.deletedFolders ∧ (fsCreateFolder s n).1.folderRoutes = s.folderRoutes ∧
    (fsCreateFolder s n).1.next = s.next ∧ (fsCreateFolder s n).1.numCreations = s.numCreations ∧
    (fsCreateFolder s n).1.folders.map Folder.id = s.folders.map Folder.id ∧
    (fsCreateFolder s n).1.folders.map Folder.name = s.folders.map Folder.name ∧
    (fsCreateFolder s n).1.folders.map Folder.files = s.folders.map Folder.files ∧
    (fsCreateFolder s n).1.folders.map Folder.deletedFiles = s.folders.map Folder.deletedFiles := by
  obtain ⟨hgm, rfl⟩ := getFolder_live hg
  -- the structural part is `C15_create_existing_folder_noop`, read field by field
  have hcore : (createFolder s g.name).1.folders.map Folder.core = s.folders.map Folder.core :=
    congrArg Prod.fst (C15_create_existing_folder_noop h hgm).2.1
  have key : ∀ {β : Type} (p : Nat × Name × Bool × List File × List File → β),
      (createFolder s g.name).1.folders.map (p ∘ Folder.core) = s.folders.map (p ∘ Folder.core) := by
    intro β p
    rw [← List.map_map, ← List.map_map, hcore]
  rw [C15_gen_create_folder]
  refine ⟨?_, ?_, ?_, ?_, key (·.1), key (·.2.1), key (·.2.2.2.1), key (·.2.2.2.2)⟩ <;>
    rw [createFolder_eq, hg]

/-- The second half of the translated `create_file` (from the folder on), exactly as the translation has it in each of its branches
(`fsCreateFile_shape` below). -/
def createFileTail (s1 : State) (g : Folder) (x : Name) (force : Bool) : State × Option File :=
  match fsGetFile s1 g.name x false with
  | some file =>
    match folderAddFile g file force with
    | none => (s1, none)
    | some _ =>
      ({ updFolder s1 g.id (fun g' => (folderAddFile g' file force).getD g') with numCreations := s1.numCreations + 1 }, some file)
  | none =>
    match folderAddFile g ({ id := s1.next, name := x } : File) force with
    | none => ({ s1 with next := s1.next + 1 }, none)
    | some _ =>
      ({ updFolder { s1 with next := s1.next + 1 } g.id (fun g' => (folderAddFile g' { id := s1.next, name := x } force).getD g') with
          numCreations := s1.numCreations + 1 }, some ({ id := s1.next, name := x } : File))

/-- The translated `create_file` is: choose the folder (found, made by the translated `create_folder`, or root) — the model's
`createFileTarget` — then the tail. -/
theorem fsCreateFile_shape (s : State) (x F : Name) (force : Bool) :
    fsCreateFile s x F force =
      match createFileTarget s F with
      | (s1, none) => (s1, none)
      | (s1, some g) => createFileTail s1 g x force := by
  unfold fsCreateFile createFileTail createFileTarget
  rw [C15_gen_create_folder]
  by_cases hF : F = ""
  · subst hF
    simp only [bne_self_eq_false, Bool.false_eq_true, if_false, ne_eq, not_true_eq_false]
    cases getFolder s "root" false <;> rfl
  · have hne : (F != "") = true := by simpa using hF
    simp only [hne, if_true, ne_eq, hF, not_false_eq_true]
    cases getFolder s F false <;> rfl

theorem createFileTail_eq {s1 : State} (h1 : Inv s1) {g : Folder} (hg : g ∈ s1.folders) (x : Name) (force : Bool) :
    createFileTail s1 g x force =
    (if (g.getFile x).isSome && !force then (s1, none)
     else ((createFileIn s1 g x).1, some (match g.getFile x with | some f => f | none => { id := s1.next, name := x }))) := by
  unfold createFileTail
  have hgf : fsGetFile s1 g.name x false = g.getFile x := by
    rw [(C15_gen_get_file s1 g.name x false).2]
    unfold getFile
    rw [getFolder_of_live h1 hg]
  have hb : FolderBelow s1.next g := (h1.folder g (Or.inl hg)).2.1
  have hu : ∀ g0, g0 ∈ s1.folders ∨ g0 ∈ s1.deletedFolders → g0.id = g.id → g0 = g := fun g0 h0 hid => folder_eq_of_id h1 hg h0 hid
  rw [hgf]
  unfold createFileIn
  cases hf : g.getFile x with
  | some f =>
    have := (C15_gen_add_file g f force).trans (addFileApi_existing hf force)
    cases force with
    | false => simp [this]
    | true =>
      simp only [this]
      rw [updFolder_congr_of (s := s1) hu (fun g' => (folderAddFile g' f true).getD g') (fun g => g.addFile f) (by simp [this])]
      simp
  | none =>
    have := (C15_gen_add_file g { id := s1.next, name := x } force).trans
      (addFileApi_new (f := { id := s1.next, name := x }) hf (fun y hy => Nat.ne_of_lt (hb y (Or.inl hy))) force)
    simp only [this]
    rw [updFolder_congr_of (s := { s1 with next := s1.next + 1 }) hu
      (fun g' => (folderAddFile g' { id := s1.next, name := x } force).getD g') (fun g => g.addFile { id := s1.next, name := x }) (by simp [this])]
    simp [updFolder]

/-- **`FileSystem.create_file` as translated from the source — calling the translated `create_folder`, `get_file` and
`Folder.add_file` — is the model's direct call `apiCreateFile`**: same state afterwards (also at a raise), it raises exactly where
the model says `raised` (an unforced duplicate; no live root for an empty folder name), and otherwise returns the file the model
stores: the existing live file of that name (forced: re-added under its own uuid, no second file), or a new one with a fresh uuid.
For every state satisfying `Inv` (every reachable state: `C15_any_inv_reachable`), every name and flag. -/
theorem C15_gen_create_file {s : State} (h : Inv s) (F x : Name) (force : Bool) :
    (fsCreateFile s x F force).1 = (apiCreateFile s F x force).1 ∧
    ((fsCreateFile s x F force).2 = none ↔ (apiCreateFile s F x force).2 = .raised) := by
  rw [fsCreateFile_shape]
  unfold apiCreateFile
  have hI := (change_createFileTarget h F).inv h
  have hm := createFileTarget_mem s F
  rcases hT : createFileTarget s F with ⟨s1, _ | g⟩
  · simp
  · rw [hT] at hI hm
    simp only [createFileTail_eq hI (hm g rfl) x force]
    cases hc : ((g.getFile x).isSome && !force) <;> simp [createFileIn_out]

/-- The request handler `_create_file_action` refuses an unforced duplicate before calling `create_file`; past that refusal the
request's state IS the translated `create_file`'s, and the translated method does not raise unless there is no live root (excluded by
`Inv`). So: the `node-file-create` action on an existing file is refused (unforced) or re-adds the same object (forced) — no error, no
second file — as a statement about the translated code. -/
theorem C15_gen_create_file_request {s : State} (h : Inv s) (F x : Name) (force : Bool) :
    createFile s F x force =
      if !force && (fsGetFile s (if F = "" then "root" else F) x false).isSome then (s, .failure)
      else ((fsCreateFile s x F force).1, if (fsCreateFile s x F force).2 = none then .raised else .success) := by
  rw [(C15_gen_get_file s _ x false).2, (C15_gen_create_file h F x force).1]
  unfold createFile
  by_cases hc : (!force && (getFile s (if F = "" then "root" else F) x).isSome) = true
  · simp [hc]
  · simp only [hc, Bool.false_eq_true, if_false]
    have hiff := (C15_gen_create_file h F x force).2
    unfold apiCreateFile at hiff ⊢
    rcases hT : createFileTarget s F with ⟨s1, _ | g⟩
    · rw [hT] at hiff
      simp only at hiff ⊢
      simp [hiff.mpr trivial]
    · rw [hT] at hiff
      simp only at hiff ⊢
      -- the handler's guard is the same lookup as the one inside create_file
      have hsame : ((g.getFile x).isSome && !force) = false := by
        rw [createFileTarget_getFile hT]
        cases force
        · simpa using hc
        · simp
      rw [hsame] at hiff ⊢
      simp only [Bool.false_eq_true, if_false, createFileIn_out] at hiff ⊢
      have : ¬ (fsCreateFile s x F force).2 = none := fun hn => by simpa using hiff.mp hn
      simp only [this, if_false]
      exact Prod.ext rfl (createFileIn_out s1 g x)

theorem fsGetFolderById_false (s : State) (i : Nat) : fsGetFolderById s i false = s.folders.find? (fun g => g.id == i) := rfl
theorem folderGetFileById_false (g : Folder) (i : Nat) : folderGetFileById g i false = g.files.find? (fun f => f.id == i) := rfl

/-- `dict.get(uuid)` lookups as translated: live dictionary only by default; with `include_deleted` the deleted dictionary first. -/
theorem C15_gen_by_id_lookups (s : State) (g : Folder) (i : Nat) :
    folderGetFileById g i false = g.files.find? (fun f => f.id == i) ∧
    folderGetFileById g i true = (g.deletedFiles.find? (fun f => f.id == i)).or (g.files.find? (fun f => f.id == i)) ∧
    fsGetFolderById s i false = s.folders.find? (fun g => g.id == i) ∧
    fsGetFolderById s i true = (s.deletedFolders.find? (fun g => g.id == i)).or (s.folders.find? (fun g => g.id == i)) := by
  unfold folderGetFileById fsGetFolderById
  refine ⟨rfl, ?_, rfl, ?_⟩
  · cases g.deletedFiles.find? (fun f => f.id == i) <;> simp
  · cases s.deletedFolders.find? (fun g => g.id == i) <;> simp

/-- `Folder.remove_all_files` (the loop that flags every live file and stores it among the deleted ones, then `files = {}`) and
`Folder.remove_file_by_id` as translated are the model's: the latter raises exactly for a uuid that is not live in the folder. -/
theorem C15_gen_remove_all_and_by_id (g : Folder) (j : Nat) :
    folderRemoveAllFiles g = g.removeAllFiles ∧
    folderRemoveFileById g j =
      (match g.files.find? (fun f => f.id == j) with
       | none => (g, false)
       | some f => (g.removeFile f, true)) := by
  refine ⟨rfl, ?_⟩
  unfold folderRemoveFileById
  rw [folderGetFileById_false]
  cases g.files.find? (fun f => f.id == j) <;> rfl

/-- `delete_file_by_id` / `delete_folder_by_id` as translated — calling the translated `delete_file` / `delete_folder` with the NAMES
of what the uuids denote — are the model's API operations: the first never raises, the second raises exactly for a uuid that is not
a live folder's. -/
theorem C15_gen_delete_by_id (s : State) (i j : Nat) :
    (fsDeleteFileById s i j).1 = (apiDeleteFileById s i j).1 ∧ (fsDeleteFileById s i j).2 = true ∧
    (fsDeleteFolderById s i).1 = (apiDeleteFolderById s i).1 ∧
    ((fsDeleteFolderById s i).2 = false ↔ (apiDeleteFolderById s i).2 = .raised) := by
  unfold fsDeleteFileById fsDeleteFolderById apiDeleteFileById apiDeleteFolderById
  simp only [fsGetFolderById_false, folderGetFileById_false]
  cases s.folders.find? (fun g => g.id == i) with
  | none => exact ⟨rfl, rfl, rfl, by simp⟩
  | some g =>
    dsimp only
    refine ⟨?_, ?_, (C15_gen_restore_delete_folder s g.name).2.2.1, by simp⟩
    · cases g.files.find? (fun f => f.id == j) with
      | none => rfl
      | some f => exact (C15_gen_fs_delete_restore_file s g.name f.name).1
    · cases g.files.find? (fun f => f.id == j) <;> rfl

theorem folderAddFile_forced (g : Folder) (f : File) : folderAddFile g f true = some (g.addFileForced f) := by
  rw [C15_gen_add_file]; unfold Folder.addFileApi; simp

/-- **`FileSystem.copy_file` as translated is the model's `apiCopyFile`** (state; it never raises): nothing happens without a live
source; otherwise the copy gets a FRESH uuid, the destination folder is found or made by the translated `create_folder`, the
creation is counted, and the forced `add_file` (translated) replaces a live namesake instead of standing beside it. -/
theorem C15_gen_copy_file (s : State) (F x G : Name) :
    (fsCopyFile s F x G).1 = (apiCopyFile s F x G).1 ∧ (fsCopyFile s F x G).2 = true := by
  unfold fsCopyFile apiCopyFile getOrCreateFolder
  rw [(C15_gen_get_file s F x false).2]
  cases getFile s F x with
  | none => exact ⟨rfl, rfl⟩
  | some f =>
    cases getFolder s G false with
    | some g => simp [folderAddFile_forced, updFolder]
    | none => simp [folderAddFile_forced, updFolder, C15_gen_create_folder]

/-- The part of the translated `move_file` after the destination folder is known, exactly as the translation has it in both branches
(`fsMoveFile_shape`). After `src_folder.files.pop(...)` mutated an object of the file system, the translator reads every
folder variable again from the state (a variable denotes the object of that uuid). -/
def moveTail (s1 : State) (src? : Option Folder) (dst : Folder) (file : File) : State × Bool :=
  if (dst.getFile file.name false).isSome then (s1, true)
  else
    match src? with
    | none => (s1, false)
    | some src =>
      if !(src.files.any (fun y => y.id == file.id)) then (s1, false) else
        let s := updFolder s1 src.id (fun g => { g with files := dictPop File.id g.files file.id })
        let dst' := (findFolderById s dst.id).getD dst
        let s := { s with numDeletions := s.numDeletions + 1 }
        match folderAddFile dst' file false with
        | none => (s, false)
        | some _ =>
          let s := updFolder s dst'.id (fun g => (folderAddFile g file false).getD g)
          let s := { s with numCreations := s.numCreations + 1 }
          (s, true)

/-- The translated `move_file` is: look the file up, find or make the destination (the model's `getOrCreateFolder`, through the
translated `create_folder`), then the tail. -/
theorem fsMoveFile_shape (s : State) (F x G : Name) :
    fsMoveFile s F x G =
      match fsGetFile s F x false with
      | some file => moveTail (getOrCreateFolder s G).1 (getFolder s F false) (getOrCreateFolder s G).2 file
      | none => (s, true) := by
  unfold fsMoveFile moveTail getOrCreateFolder
  rw [C15_gen_create_folder]
  cases fsGetFile s F x false <;> cases getFolder s G false <;> rfl

/-- The tail against the model: source and destination live folders of a state with `Inv`, the file live in the source, and — when
the move happens — its uuid not already in the destination (`MoveFresh`). -/
theorem moveTail_eq {s1 : State} (h1 : Inv s1) {src dst : Folder} {f : File} (hs : src ∈ s1.folders) (hd : dst ∈ s1.folders)
    (hf : f ∈ src.files)
    (hfresh : dst.getFile f.name = none → ∀ a, a ∈ dst.files ∨ a ∈ dst.deletedFiles → a.id ≠ f.id) :
    moveTail s1 (some src) dst f =
      if (dst.getFile f.name).isSome then (s1, true) else
        ({ updFolder (updFolder s1 src.id (fun g => { g with files := dictPop File.id g.files f.id })) dst.id (fun g => g.addFile f) with
            numDeletions := s1.numDeletions + 1, numCreations := s1.numCreations + 1 }, true) := by
  unfold moveTail
  by_cases hc : (dst.getFile f.name).isSome = true
  · simp [hc]
  · have hnone : dst.getFile f.name = none := Option.not_isSome_iff_eq_none.mp hc
    have hany : src.files.any (fun y => y.id == f.id) = true := List.any_eq_true.mpr ⟨f, hf, by simp⟩
    have hne : dst.id ≠ src.id := id_ne_of_getFile_none h1 hs hd hf hnone
    -- in the state after the pop, the object with the destination's uuid is still `dst`
    obtain ⟨hu2, hdst'⟩ := updFolder_other h1 hd hne (fun g => { g with files := dictPop File.id g.files f.id }) (fun _ => rfl)
    have hadd : folderAddFile dst f false = some (dst.addFile f) :=
      (C15_gen_add_file dst f false).trans (addFileApi_new hnone (fun y hy => hfresh hnone y (Or.inl hy)) false)
    simp only [hc, hany, Bool.not_true, Bool.false_eq_true, if_false, hdst', hadd]
    rw [updFolder_congr_of
      (s := { updFolder s1 src.id (fun g => { g with files := dictPop File.id g.files f.id }) with numDeletions :=
        (updFolder s1 src.id (fun g => { g with files := dictPop File.id g.files f.id })).numDeletions + 1 })
      hu2 (fun g => (folderAddFile g f false).getD g) (fun g => g.addFile f) (by simp [hadd])]
    simp [updFolder]

/-- **`FileSystem.move_file` as translated from the source is the model's `apiMoveFile`** (state; it does not raise), for every state
with `Inv` and every move whose file is not already in the destination under its uuid (`MoveFresh`; in the implementation a `File`
object sits in one folder only — `XDisj`, proved for every reachable state in Props/C15Disjoint.lean): no live source file → nothing; a
live namesake in the destination (this includes a move within one folder) → nothing but the possibly created destination folder;
otherwise the file leaves `src.files` altogether (not left among its deleted files), enters `dst.files` under the same uuid, one
deletion and one creation are counted. -/
theorem C15_gen_move_file {s : State} (h : Inv s) (F x G : Name) (hfresh : MoveFresh s F x G) :
    (fsMoveFile s F x G).1 = (apiMoveFile s F x G).1 ∧ (fsMoveFile s F x G).2 = true := by
  rw [fsMoveFile_shape, (C15_gen_get_file s F x false).2]
  unfold apiMoveFile getFile
  unfold MoveFresh getFile at hfresh
  cases hsrc : getFolder s F false with
  | none => exact ⟨rfl, rfl⟩
  | some src =>
    obtain ⟨hsm, _⟩ := getFolder_live hsrc
    simp only [hsrc] at hfresh ⊢
    cases hfx : src.getFile x false with
    | none => exact ⟨rfl, rfl⟩
    | some f =>
      obtain ⟨hfm, _⟩ := getFile_live hfx
      obtain ⟨hI, hm, _, _⟩ := getOrCreateFolder_spec h G
      simp only
      rw [moveTail_eq hI (mem_getOrCreateFolder_of_live h hsm G) hm hfm (hfresh f hfx)]
      by_cases hc : ((getOrCreateFolder s G).2.getFile f.name).isSome = true <;> simp [hc, updFolder]

/-- In every state with `Inv` and `XDisj` (every state reachable by requests, ticks and API calls: `C15_any_inv_reachable_full`, Props/C15Disjoint.lean) the translated
`move_file` is the model's, without side condition. -/
theorem C15_gen_move_file_of_xdisj {s : State} (h : Inv s) (hx : XDisj s) (F x G : Name) :
    (fsMoveFile s F x G).1 = (apiMoveFile s F x G).1 ∧ (fsMoveFile s F x G).2 = true :=
  C15_gen_move_file h F x G (moveFresh_of_xdisj h hx F x G)

/-- `FileSystem.pre_timestep` and `FileSystem.setup_for_episode` as translated ARE the model's `preTick` / `setupForEpisode`: both
counters are set to zero, nothing else of the structure moves (the calls passed down to folders and files are checked to be
structurally inert by the extractor: they only reset `_scanned_this_step` / `num_access`). -/
theorem C15_gen_counter_resets (s : State) :
    fsPreTimestep s = (step s .preTick).1 ∧ fsSetupForEpisode s = setupForEpisode s ∧
    (fsPreTimestep s).numCreations = 0 ∧ (fsPreTimestep s).numDeletions = 0 ∧
    (fsPreTimestep s).folders = s.folders ∧ (fsPreTimestep s).deletedFolders = s.deletedFolders := by
  refine ⟨rfl, rfl, rfl, rfl, rfl, rfl⟩

/-- A reset that zeroes only one of the two counters (or adds instead of assigning) is not the model's: concrete state. -/
example : ({ init with numCreations := 2, numDeletions := 1 } : State) ≠ (step { init with numCreations := 2, numDeletions := 1 } .preTick).1 := by
  decide

/-- **`Folder.apply_timestep` and `FileSystem.apply_timestep` as translated are the model's tick**, for every health of every folder:
a folder's tick is `_restoring_timestep` (the scan and reveal steps and the files' own ticks are checked to be structurally inert by
the extractor), and the file system ticks exactly its LIVE folders — a deleted folder's countdown stands still. -/
theorem C15_gen_apply_timestep (s : State) (r : FolderRec) :
    (folderApplyTimestep r).g = r.g.restoringTimestep ∧ fsApplyTimestep s = (step s .tick).1 ∧
    (fsApplyTimestep s).deletedFolders = s.deletedFolders := by
  refine ⟨(C15_gen_restoring_timestep r).1, ?_, rfl⟩
  unfold fsApplyTimestep step
  simp only
  congr 1
  apply List.map_congr_left
  intro g _
  exact (C15_gen_restoring_timestep { g := g }).1

/-- The file system before `__init__` runs its own statements: the pydantic defaults (empty dictionaries, counters 0 —
`C15_gen_constants` —, no default durations), no uuid handed out yet. -/
def blank : State :=
  { folders := [], deletedFolders := [], folderRoutes := [], numCreations := 0, numDeletions := 0, next := 0, defaultRestore := none }

/-- **`FileSystem.__init__` as translated yields the model's `init`**: a file system constructed without folders gets `root` from the
translated `create_folder` (first uuid, route registered); one constructed WITH folders is left alone. `FileSystem.access_file` as
translated answers whether the live file exists and changes nothing structural. -/
theorem C15_gen_init_and_access (s : State) (F x : Name) :
    fsInitMethod blank = init ∧ (s.folders ≠ [] → fsInitMethod s = s) ∧
    fsAccessFile s F x = (s, (getFile s F x).isSome) := by
  refine ⟨rfl, ?_, ?_⟩
  · intro h
    unfold fsInitMethod
    cases hf : s.folders with
    | nil => exact absurd hf h
    | cons a l => simp
  · unfold fsAccessFile getFile
    cases getFolder s F false with
    | none => rfl
    | some g => dsimp only; cases g.getFile x false <;> rfl

/-- **The three handler closures of `FileSystem._init_request_manager` as translated — calling the translated `create_file`,
`create_folder`, `get_file`, `access_file` — are the model's `createFile`, `createFolder` + `success`, `access`**, state and answer, for
every state with `Inv` and all options: in particular the refusal of an unforced duplicate (`not request[2] and
self.get_file(folder_name=request[0] or 'root', …)`) is the model's guard, and a create request on an existing file is `failure`
(unforced) or `success` with the same single live file (forced) — never `raised`. -/
theorem C15_gen_handlers {s : State} (h : Inv s) (F x : Name) (force : Bool) :
    hCreateFileAction s F x force = createFile s F x force ∧
    hCreateFolderAction s F = ((createFolder s F).1, .success) ∧
    hAccessFileAction s F x = access s F x := by
  refine ⟨?_, ?_, ?_⟩
  · rw [C15_gen_create_file_request h]
    unfold hCreateFileAction
    have hsame : (if F != "" then F else "root") = (if F = "" then "root" else F) := by
      by_cases hF : F = "" <;> simp [hF]
    rw [hsame]
    -- by cases on the two Booleans, so that the proof does not depend on how the source orders the operands of its `and`
    cases force <;> cases hq : (fsGetFile s (if F = "" then "root" else F) x false).isSome <;>
      simp only [Bool.not_true, Bool.not_false, Bool.and_true, Bool.and_false, Bool.false_eq_true,
        if_true, if_false] <;>
      first
        | rfl
        | (rcases hq2 : fsCreateFile s x F false with ⟨s', _ | f⟩ <;> simp)
        | (rcases hq2 : fsCreateFile s x F true with ⟨s', _ | f⟩ <;> simp)
  · unfold hCreateFolderAction
    rw [C15_gen_create_folder]
  · unfold hAccessFileAction access
    rw [(C15_gen_get_file s F x false).2, (C15_gen_init_and_access s F x).2.2]
    cases hq : getFile s F x <;> simp [ofBool]

/-- **The five validators as translated are the model's guards**: `_FolderExistsValidator + _FolderNotDeletedValidator` = `folderGuard`,
`_FileExistsValidator` (file system) = the live lookup, `_FileExistsValidator + _FileNotDeletedValidator` (folder) = `fileGuard`; each
insists on as many options as it reads. -/
theorem C15_gen_validators (s : State) (g : Folder) (F x : Name) :
    (vFolderExists s F && vFolderNotDeleted s F) = folderGuard s F ∧
    vFileExists s F x = (getFile s F x).isSome ∧
    (vFolderFileExists g x && vFolderFileNotDeleted g x) = g.fileGuard x ∧
    validatorArity = [("FileSystem._FolderExistsValidator", 1), ("FileSystem._FolderNotDeletedValidator", 1),
      ("FileSystem._FileExistsValidator", 2), ("Folder._FileExistsValidator", 1), ("Folder._FileNotDeletedValidator", 1)] := by
  refine ⟨rfl, ?_, ?_, rfl⟩
  · unfold vFileExists; rw [(C15_gen_get_file s F x false).2]
  · unfold vFolderFileExists vFolderFileNotDeleted Folder.fileGuard
    cases g.getFile x false <;> simp

/-- **Every operation of the model's `step` that is a file-system-level request or a tick is the translated code, assembled as the
request tree says**. The `route…` functions are GENERATED from the `add_request` calls of `FileSystem._init_request_manager`: the
validator attributes resolved through their bindings to the translated validators, the lambda's method / the handler closure to the
translated one (which key leads to which sub-manager is the regenerated `requestTable`): `delete file` = `_FileExistsValidator` then `delete_file`; `delete folder` = `_FolderExistsValidator` then
`delete_folder`; `restore file / folder` = the methods, unguarded; `create file / folder`, `access` = the handler closures;
`pre_timestep`, `apply_timestep` = the methods. The `folder` route's guard is the two folder validators. For every state with `Inv`
(the handlers need it) and all names. -/
theorem C15_gen_step_from_translated {s : State} (h : Inv s) (F x : Name) (force : Bool) :
    step s (.deleteFile F x) = routeDeleteFile s F x ∧
    step s (.deleteFolder F) = routeDeleteFolder s F ∧
    step s (.restoreFile F x) = routeRestoreFile s F x ∧
    step s (.restoreFolder F) = routeRestoreFolder s F ∧
    step s (.createFile F x force) = routeCreateFile s F x force ∧
    step s (.createFolder F) = routeCreateFolder s F ∧
    step s (.access F x) = routeRmAccess s F x ∧
    (step s .preTick).1 = fsPreTimestep s ∧ (step s .tick).1 = fsApplyTimestep s ∧
    (∀ k, viaFolder s F k = if !(routeRmFolderGuard s F) then (s, .failure) else viaFolder s F k) ∧
    routeRmFileGuard s F x = (getFile s F x).isSome := by
  unfold routeDeleteFile routeDeleteFolder routeRestoreFile routeRestoreFolder routeCreateFile routeCreateFolder routeRmAccess
    routeRmFolderGuard routeRmFileGuard
  obtain ⟨hc, hcf, ha⟩ := C15_gen_handlers h F x force
  obtain ⟨hdf1, hdf2, hrf1, hrf2⟩ := C15_gen_fs_delete_restore_file s F x
  obtain ⟨hrd1, hrd2, hdd1, hdd2⟩ := C15_gen_restore_delete_folder s F
  have hout := delete_restore_out s F x
  have ob : ∀ (a : State × Bool) (b : State × Out), a.1 = b.1 → (a.2 = true ↔ b.2 = .success) → (b.2 = .success ∨ b.2 = .failure) →
      fromBool a = b := by
    intro a b h1 h2 h3
    unfold fromBool ofBool
    apply Prod.ext
    · exact h1
    · cases ha2 : a.2 with
      | true => simp only [if_true]; exact (h2.mp ha2).symm
      | false =>
        simp only [Bool.false_eq_true, if_false]
        rcases h3 with h3 | h3
        · rw [h2.mpr h3] at ha2; exact Bool.noConfusion ha2
        · exact h3.symm
  refine ⟨?_, ?_, ?_, ?_, hc.symm, hcf.symm, ha.symm, (C15_gen_counter_resets s).1.symm, (C15_gen_apply_timestep s { g := { id := 0, name := "" } }).2.1.symm, ?_,
    (C15_gen_validators s { id := 0, name := "" } F x).2.1⟩
  · show deleteFile s F x = _
    rw [(C15_gen_validators s { id := 0, name := "" } F x).2.1]
    cases hq : getFile s F x with
    | none => simp [deleteFile, hq]
    | some f =>
      simp only [Option.isSome_some, Bool.not_true, Bool.false_eq_true, if_false]
      exact (ob _ _ hdf1 hdf2 hout.1).symm
  · show deleteFolder s F = _
    unfold vFolderExists
    cases hg : getFolder s F false with
    | none => simp [deleteFolder, hg]
    | some g =>
      simp only [Option.isSome_some, Bool.not_true, Bool.false_eq_true, if_false]
      exact (ob _ _ hdd1 hdd2 hout.2.1).symm
  · exact (ob _ _ hrf1 hrf2 hout.2.2.1).symm
  · exact (ob _ _ hrd1 hrd2 hout.2.2.2).symm
  · intro k
    rw [(C15_gen_validators s { id := 0, name := "" } F x).1]
    unfold viaFolder
    by_cases hgd : folderGuard s F = true <;> simp [hgd]

/-- The two routes of `Folder._init_request_manager`, generated the same way: `["folder",F,"delete",x]` is the model's continuation
(`remove_file_by_name`, translated, then `from_bool`), and the guard of `["folder",F,"file",x,…]` is the model's `fileGuard`. -/
theorem C15_gen_folder_routes (g : Folder) (x : Name) :
    some (folderRouteDelete g x) = (let (g', b) := g.removeFileByName x; some (g', ofBool b)) ∧
    folderRouteFileGuard g x = g.fileGuard x ∧
    (∀ v, (!folderRouteFileGuard g x) = true → g.fileRequest x v = (g, .failure)) := by
  refine ⟨?_, (C15_gen_validators init g "" x).2.2.1, ?_⟩
  · unfold folderRouteDelete
    rw [(C15_gen_lookups init g { id := 0, name := "" } x false).2.2.1]
  · intro v hv
    have hg : folderRouteFileGuard g x = g.fileGuard x := (C15_gen_validators init g "" x).2.2.1
    rw [hg] at hv
    unfold Folder.fileRequest
    simp [hv]

/-- **`describe_state` of `FileSystem` and of `Folder` as translated are the model's `describe`**: one `folders` entry per live folder
keyed by its name and holding that folder's own report, one `deleted_folders` entry per deleted folder, the two counters as stored;
in a folder's report `files` / `deleted_files` keyed by file name from the live / deleted dictionary respectively. With
`C15_describe_exact` (which is about `describe`): the reported state lists exactly the live and the deleted items — a statement about
the translated code. -/
theorem C15_gen_describe_state (s : State) (g : Folder) :
    folderDescribeState g = g.describe ∧ fsDescribeState s = describe s := by
  refine ⟨rfl, ?_⟩
  unfold fsDescribeState describe
  rfl

/-- The translated `create_file` on concrete states: a new file in a new folder (folder and file get fresh uuids, one creation
counted), the same again forced (same uuid returned, still ONE live file), unforced (raises, state unchanged). -/
example :
    let r1 := fsCreateFile init "a" "fa" false
    let r2 := fsCreateFile r1.1 "a" "fa" true
    let r3 := fsCreateFile r2.1 "a" "fa" false
    r1.2 = some { id := 2, name := "a" } ∧ r1.1.numCreations = 1 ∧
    r2.2 = some { id := 2, name := "a" } ∧ r2.1.numCreations = 2 ∧
    (r2.1.folders.map (fun g => (g.name, g.files.map File.id))) = [("root", []), ("fa", [2])] ∧
    r3.2 = none ∧ r3.1 = r2.1 := by
  decide

end Primaite.FileSystem
