/-
C20 — the `office-lan` node set: `OfficeLANAdder.add_nodes_to_net` (an imperative loop with three counters) builds, for EVERY
number of computers, exactly the structure the documentation describes. Model: `Model/Config.lean` (`officeBuild`,
`officeDeclared`). F-32a / F-32b (both repaired) were defects of exactly this loop.
-/
import PrimaiteModel.Model.Config
import PrimaiteModel.Gen.Config
namespace Primaite.Config

theorem portOf_le (i : Nat) : 1 ≤ portOf i ∧ portOf i ≤ 23 := by
  unfold portOf pcsPerSwitch; omega

theorem numSwitches_multi (n : Nat) (h : 24 ≤ n) : numSwitches n > 1 := by
  unfold numSwitches pcsPerSwitch
  split <;> omega

theorem numSwitches_le (n : Nat) : numSwitches n ≤ n / 23 + 1 := by
  unfold numSwitches pcsPerSwitch
  split <;> omega

theorem numSwitches_eq_edgeOf (n : Nat) (h : 1 ≤ n) : numSwitches n = edgeOf n := by
  unfold numSwitches edgeOf pcsPerSwitch
  split <;> omega

theorem opensSwitch_iff (i : Nat) : opensSwitch i = true ↔ 1 < i ∧ (i - 1) % 23 = 0 := by
  unfold opensSwitch pcsPerSwitch
  rw [Bool.and_eq_true, decide_eq_true_iff, decide_eq_true_iff]

theorem next_of_full (i : Nat) (hi : 2 ≤ i) (h : portOf (i - 1) = pcsPerSwitch) :
    opensSwitch i = true ∧ edgeOf i = edgeOf (i - 1) + 1 ∧ portOf i = 1 := by
  rw [opensSwitch_iff]
  simp only [portOf, edgeOf, pcsPerSwitch] at h ⊢
  omega

theorem next_of_notFull (i : Nat) (hi : 2 ≤ i) (h : portOf (i - 1) ≠ pcsPerSwitch) :
    opensSwitch i = false ∧ edgeOf i = edgeOf (i - 1) ∧ portOf i = portOf (i - 1) + 1 := by
  rw [Bool.eq_false_iff, Ne, opensSwitch_iff]
  simp only [portOf, edgeOf, pcsPerSwitch] at h ⊢
  omega

theorem firstPc_of_edge (k : Nat) (hk : 2 ≤ k) : opensSwitch (23 * (k - 1) + 1) = true ∧ edgeOf (23 * (k - 1) + 1) = k := by
  rw [opensSwitch_iff]
  simp only [edgeOf, pcsPerSwitch]
  omega

theorem officeStep_stay (c : OfficeCfg) (multi hasRouter : Bool) (st : OSt) (i : Nat) (h : st.switchPort ≠ pcsPerSwitch) :
    officeStep c multi hasRouter st i =
      .ok { st with
            switchPort := st.switchPort + 1,
            nodes := st.nodes ++ [{ kind := .pc, name := pcName c.lanName i, octet := some (i + c.ipStart - 1), gateway := hasRouter }],
            links := st.links ++ [oLink (edgeName c.lanName st.switchN) (st.switchPort + 1) (pcName c.lanName i) 1
                                    (c.bandwidth.getD defaultBandwidth)] } := by
  simp only [officeStep, if_neg h]

theorem officeStep_open (c : OfficeCfg) (hasRouter : Bool) (st : OSt) (i : Nat) (h : st.switchPort = pcsPerSwitch) :
    officeStep c true hasRouter st i =
      .ok { switchN := st.switchN + 1, switchPort := 1, corePort := st.corePort + 1,
            nodes := st.nodes ++ [{ kind := .edge, name := edgeName c.lanName (st.switchN + 1) }]
              ++ [{ kind := .pc, name := pcName c.lanName i, octet := some (i + c.ipStart - 1), gateway := hasRouter }],
            links := st.links
              ++ [oLink (coreName c.lanName) (st.corePort + 1) (edgeName c.lanName (st.switchN + 1)) uplinkPort (c.bandwidth.getD defaultBandwidth)]
              ++ [oLink (edgeName c.lanName (st.switchN + 1)) 1 (pcName c.lanName i) 1 (c.bandwidth.getD defaultBandwidth)] } := by
  simp only [officeStep, if_pos h, if_true, Nat.zero_add]

/-- the loop state after `j` computers have been added, given the nodes and links made so far: the current edge switch, its
last used port (0 before the first computer) and the last used port of the core switch -/
def stAfter (multi : Bool) (j : Nat) (nodes : List ONode) (links : List LinkInv) : OSt :=
  { switchN := edgeOf j, switchPort := if j = 0 then 0 else portOf j, corePort := if multi then edgeOf j else 1,
    nodes := nodes, links := links }

theorem officeStep_spec (c : OfficeCfg) (multi hasRouter : Bool) (n : Nat) (hmulti : multi = decide (numSwitches n > 1))
    (i : Nat) (hi : 1 ≤ i ∧ i ≤ n) (nodes : List ONode) (links : List LinkInv) :
    officeStep c multi hasRouter (stAfter multi (i - 1) nodes links) i =
      .ok (stAfter multi i (nodes ++ declaredPcNodes c hasRouter i) (links ++ declaredPcLinks c i)) := by
  have hi0 : ¬ i = 0 := by omega
  by_cases h1 : i = 1
  · subst h1
    rw [officeStep_stay _ _ _ _ _ (show (0 : Nat) ≠ pcsPerSwitch by decide)]
    cases multi <;> rfl
  · have hj : ¬ (i - 1 = 0) := by omega
    by_cases hfull : portOf (i - 1) = pcsPerSwitch
    · obtain ⟨ho, he, hp⟩ := next_of_full i (by omega) hfull
      -- a full switch before computer `i ≤ n` means at least 24 computers, hence a core switch
      have hm : multi = true := by
        rw [hmulti, decide_eq_true_eq]
        apply numSwitches_multi
        simp only [portOf, pcsPerSwitch] at hfull
        omega
      subst hm
      rw [officeStep_open _ _ _ _ (by simpa [stAfter, hj] using hfull)]
      simp only [stAfter, declaredPcNodes, declaredPcLinks, ho, he, hp, hi0, hj, if_true, if_false, List.append_assoc]
    · obtain ⟨ho, he, hp⟩ := next_of_notFull i (by omega) hfull
      rw [officeStep_stay _ _ _ _ _ (by simpa [stAfter, hj] using hfull)]
      simp only [stAfter, declaredPcNodes, declaredPcLinks, ho, he, hp, hi0, hj, Bool.false_eq_true, if_false, List.nil_append]

theorem officeLoop_spec (c : OfficeCfg) (multi hasRouter : Bool) (n : Nat) (hmulti : multi = decide (numSwitches n > 1)) :
    ∀ (k s : Nat) (nodes : List ONode) (links : List LinkInv), 1 ≤ s → s + k ≤ n + 1 →
      officeLoop c multi hasRouter (stAfter multi (s - 1) nodes links) (List.range' s k) =
        .ok (stAfter multi (s - 1 + k) (nodes ++ (List.range' s k).flatMap (declaredPcNodes c hasRouter))
          (links ++ (List.range' s k).flatMap (declaredPcLinks c))) := by
  intro k
  induction k with
  | zero => intro s nodes links _ _; simp [officeLoop]
  | succ k ih =>
    intro s nodes links hs hle
    have := ih (s + 1) (nodes ++ declaredPcNodes c hasRouter s) (links ++ declaredPcLinks c s) (by omega) (by omega)
    rw [Nat.add_sub_cancel, show s + k = s - 1 + (k + 1) by omega] at this
    rw [List.range'_succ]
    simp only [officeLoop, officeStep_spec c multi hasRouter n hmulti s ⟨hs, by omega⟩, this, List.flatMap_cons, List.append_assoc]

/-- what the configuration schema and the adder's own guard ask of an `office-lan` entry -/
def OfficeValid (c : OfficeCfg) : Prop := c.ipStart + c.numPcs < officeIpLimit ∧ numSwitches c.numPcs < c.ipStart

instance (c : OfficeCfg) : Decidable (OfficeValid c) := by unfold OfficeValid; infer_instance

/-- **office-lan: build = declared**, for EVERY number of computers, subnet, address block, with and without router, any
bandwidth: the adder's loop creates exactly the documented nodes (in creation order) with the documented addresses, and exactly
the documented links — and never reaches the `else` branch that names a router which may not exist. -/
theorem C20_office_build_eq_declared (c : OfficeCfg) (hv : OfficeValid c) : officeBuild c = .ok (officeDeclared c) := by
  obtain ⟨h1, h2⟩ := hv
  unfold officeBuild
  have g1 : ¬ (c.ipStart + c.numPcs ≥ officeIpLimit) := by omega
  have g2 : ¬ (c.ipStart ≤ numSwitches c.numPcs) := by omega
  simp only [g1, g2, if_false]
  have hloop := officeLoop_spec c (decide (numSwitches c.numPcs > 1)) (c.includeRouter.getD true) c.numPcs rfl c.numPcs 1
  have h0 : ∀ multi nodes links, ({ switchN := 1, switchPort := 0, corePort := 1, nodes := nodes, links := links } : OSt)
      = stAfter multi (1 - 1) nodes links := by intro multi nodes links; cases multi <;> rfl
  rw [h0, hloop _ _ (by omega) (by omega)]
  unfold officeDeclared
  cases hm : decide (numSwitches c.numPcs > 1) <;> cases hr : c.includeRouter.getD true <;>
    simp [stAfter]

/-- an entry the schema or the adder refuses is refused (never half-built) -/
theorem C20_office_invalid_refused (c : OfficeCfg) (hv : ¬ OfficeValid c) :
    officeBuild c = .error .ipRange ∨ officeBuild c = .error .ipStartSmall := by
  unfold OfficeValid at hv
  unfold officeBuild
  by_cases g1 : c.ipStart + c.numPcs ≥ officeIpLimit
  · left; simp [g1]
  · right
    have g2 : c.ipStart ≤ numSwitches c.numPcs := by omega
    simp [g1, g2]

theorem mem_flatMap_rangeOne {α} (f : Nat → List α) (n i : Nat) (hi : 1 ≤ i ∧ i ≤ n) (x : α) (hx : x ∈ f i) :
    x ∈ (List.range' 1 n).flatMap f := by
  rw [List.mem_flatMap]
  exact ⟨i, by rw [List.mem_range'_1]; omega, hx⟩

/-- **every computer is wired** to its edge switch: computer `i` sits on port `((i-1) mod 23) + 1 ≤ 23` of edge switch
`⌊(i-1)/23⌋ + 1`, with the configured bandwidth; port 24 is never used for a computer. -/
theorem C20_office_pc_wired (c : OfficeCfg) (hv : OfficeValid c) (i : Nat) (hi : 1 ≤ i ∧ i ≤ c.numPcs) :
    ∃ inv, officeBuild c = .ok inv ∧
      oLink (edgeName c.lanName (edgeOf i)) (portOf i) (pcName c.lanName i) 1 (c.bandwidth.getD defaultBandwidth) ∈ inv.links ∧
      1 ≤ portOf i ∧ portOf i < uplinkPort ∧ edgeOf i ≤ numSwitches c.numPcs := by
  refine ⟨_, C20_office_build_eq_declared c hv, ?_, (portOf_le i).1, by have := (portOf_le i).2; unfold uplinkPort; omega, ?_⟩
  · simp only [officeDeclared, List.mem_append]
    right
    exact mem_flatMap_rangeOne _ _ i hi _ (by simp [declaredPcLinks])
  · have hn : 1 ≤ c.numPcs := by omega
    rw [numSwitches_eq_edgeOf _ hn]
    have := Nat.div_le_div_right (c := 23) (show i - 1 ≤ c.numPcs - 1 by omega)
    simp only [edgeOf, pcsPerSwitch]
    omega

/-- **every computer exists with its address**: `pc_<i>_<lan>` has 192.168.<subnet_base>.(start + i − 1) and the router as
gateway iff there is a router. -/
theorem C20_office_pc_addressed (c : OfficeCfg) (hv : OfficeValid c) (i : Nat) (hi : 1 ≤ i ∧ i ≤ c.numPcs) :
    ∃ inv, officeBuild c = .ok inv ∧
      ({ kind := .pc, name := pcName c.lanName i, octet := some (i + c.ipStart - 1), gateway := c.includeRouter.getD true } : ONode)
        ∈ inv.nodes := by
  refine ⟨_, C20_office_build_eq_declared c hv, ?_⟩
  simp only [officeDeclared, List.mem_append]
  right
  exact mem_flatMap_rangeOne _ _ i hi _ (by simp [declaredPcNodes])

/-- **addresses are distinct and inside the subnet**: different computers get different fourth octets, every one of them in
2..253 — so none is the router's `.1`, none the network or broadcast address. -/
theorem C20_office_addresses (c : OfficeCfg) (hv : OfficeValid c) (i j : Nat) (hi : 1 ≤ i ∧ i ≤ c.numPcs) (hj : 1 ≤ j ∧ j ≤ c.numPcs) :
    (i ≠ j → i + c.ipStart - 1 ≠ j + c.ipStart - 1) ∧ 2 ≤ i + c.ipStart - 1 ∧ i + c.ipStart - 1 ≤ 253 := by
  obtain ⟨h1, h2⟩ := hv
  unfold officeIpLimit at h1
  have hm : 1 ≤ numSwitches c.numPcs := by
    rw [numSwitches_eq_edgeOf _ (by omega)]; simp only [edgeOf, pcsPerSwitch]; omega
  refine ⟨by omega, by omega, by omega⟩

/-- **edge switches hang off the core switch** when more than one is needed: edge switch `k` (2 ≤ k ≤ number of switches) is
linked from port `k` of the core switch to its own port 24; edge switch 1 from port 1. -/
theorem C20_office_edge_uplinks (c : OfficeCfg) (hv : OfficeValid c) (hmulti : numSwitches c.numPcs > 1) (k : Nat)
    (hk : 1 ≤ k ∧ k ≤ numSwitches c.numPcs) :
    ∃ inv, officeBuild c = .ok inv ∧
      oLink (coreName c.lanName) k (edgeName c.lanName k) uplinkPort (c.bandwidth.getD defaultBandwidth) ∈ inv.links ∧
      ({ kind := .core, name := coreName c.lanName } : ONode) ∈ inv.nodes ∧
      ({ kind := .edge, name := edgeName c.lanName k } : ONode) ∈ inv.nodes := by
  have hn : 1 ≤ c.numPcs := by
    unfold numSwitches pcsPerSwitch at hmulti; split at hmulti <;> omega
  refine ⟨_, C20_office_build_eq_declared c hv, ?_, by simp [officeDeclared, hmulti], ?_⟩
  -- edge switch 1 and its uplink are there from the start; edge switch `k ≥ 2` and its uplink come with its first computer,
  -- which is among the `numPcs`
  all_goals
    by_cases h1 : k = 1
    · subst h1
      simp [officeDeclared, hmulti]
    · obtain ⟨ho, he⟩ := firstPc_of_edge k (by omega)
      have hle := hk.2
      rw [numSwitches_eq_edgeOf _ hn, edgeOf, pcsPerSwitch] at hle
      simp only [officeDeclared, List.mem_append]
      right
      exact mem_flatMap_rangeOne _ _ (23 * (k - 1) + 1) (by omega) _ (by simp [declaredPcLinks, declaredPcNodes, ho, he])

/-- **the router is wired to the LAN** (F-32b): with a router, its port 1 is linked to port 24 of the core switch when there is
one, else to port 24 of the only edge switch; without a router there is no router node (F-32a: and the build still succeeds). -/
theorem C20_office_router (c : OfficeCfg) (hv : OfficeValid c) :
    ∃ inv, officeBuild c = .ok inv ∧
      (c.includeRouter.getD true = true →
        ({ kind := .router, name := routerName c.lanName, octet := some 1 } : ONode) ∈ inv.nodes ∧
        oLink (routerName c.lanName) 1
          (if numSwitches c.numPcs > 1 then coreName c.lanName else edgeName c.lanName 1) uplinkPort
          (c.bandwidth.getD defaultBandwidth) ∈ inv.links) ∧
      (c.includeRouter.getD true = false → ∀ nd ∈ inv.nodes, nd.kind ≠ .router) := by
  refine ⟨_, C20_office_build_eq_declared c hv, ?_, ?_⟩
  · intro hr
    by_cases hm : numSwitches c.numPcs > 1 <;> simp [officeDeclared, hr, hm]
  · intro hr nd hnd
    simp only [officeDeclared, hr, List.mem_append, List.mem_flatMap] at hnd
    rcases hnd with ((hnd | hnd) | hnd) | ⟨i, _, hnd⟩
    · split at hnd
      · simp only [List.mem_singleton] at hnd; subst hnd; simp
      · simp at hnd
    · simp at hnd
    · simp only [List.mem_singleton] at hnd; subst hnd; simp
    · unfold declaredPcNodes at hnd
      simp only [List.mem_append, List.mem_singleton] at hnd
      rcases hnd with hnd | hnd
      · split at hnd
        · simp only [List.mem_singleton] at hnd; subst hnd; simp
        · simp at hnd
      · subst hnd; simp

/-- **no port is used twice**: two different computers never share an edge-switch port, and the core switch has a free port for
every edge switch below its own uplink port 24 (at most 11 edge switches fit into the address block). -/
theorem C20_office_ports_distinct (c : OfficeCfg) (hv : OfficeValid c) (i j : Nat) (_hi : 1 ≤ i ∧ i ≤ c.numPcs)
    (_hj : 1 ≤ j ∧ j ≤ c.numPcs) (hne : i ≠ j) :
    (edgeOf i, portOf i) ≠ (edgeOf j, portOf j) ∧ numSwitches c.numPcs < uplinkPort := by
  obtain ⟨h1, _⟩ := hv
  unfold officeIpLimit at h1
  constructor
  · intro h
    simp only [Prod.mk.injEq] at h
    unfold edgeOf portOf pcsPerSwitch at h
    omega
  · have := numSwitches_le c.numPcs
    unfold uplinkPort
    omega

instance : DecidableEq (Except OErr OfficeInv) := fun a b =>
  match a, b with
  | .ok x, .ok y => if h : x = y then isTrue (by rw [h]) else isFalse (by intro e; cases e; exact h rfl)
  | .error x, .error y => if h : x = y then isTrue (by rw [h]) else isFalse (by intro e; cases e; exact h rfl)
  | .ok _, .error _ => isFalse (by intro e; cases e)
  | .error _, .ok _ => isFalse (by intro e; cases e)

def exOffice (n : Nat) (router : Option Bool) : OfficeCfg :=
  { lanName := "A", subnetBase := 5, ipStart := 10, numPcs := n, includeRouter := router, bandwidth := some 150 }

example : OfficeValid (exOffice 47 none) := by decide
example : officeBuild (exOffice 47 none) = .ok (officeDeclared (exOffice 47 none)) :=
  C20_office_build_eq_declared _ (by decide)
/-- 47 computers: three edge switches, a core switch, a router: 47 + 3 + 1 + 1 nodes, 47 + 3 + 1 links -/
example : (officeBuild (exOffice 47 none)).toOption.map (fun v => (v.nodes.length, v.links.length)) = some (52, 51) := by
  rw [C20_office_build_eq_declared _ (by decide)]; decide
/-- 23 computers fit on one switch (no core switch); the 24th opens a second switch and brings the core switch -/
example : (officeBuild (exOffice 23 (some false))).toOption.map (fun v => (v.nodes.length, v.links.length)) = some (24, 23) := by
  decide
example : (officeBuild (exOffice 24 (some false))).toOption.map (fun v => (v.nodes.length, v.links.length)) = some (27, 26) := by
  decide
/-- no computers at all: one edge switch and the router, linked -/
example : (officeBuild (exOffice 0 none)).toOption.map (fun v => (v.nodes.map (·.name), v.links.length)) =
    some (["router_A", "switch_edge_1_A"], 1) := by decide
example : officeBuild { exOffice 250 none with ipStart := 10 } = .error .ipRange := by decide
example : officeBuild { exOffice 47 none with ipStart := 3 } = .error .ipStartSmall := by decide

/-- F-32b (repaired): with a core switch the declared structure has the `router ↔ core:24` link, so a loop that forgets it does
not build what is declared (the rig's corpus witness `office_lan_core_switch.json` is such an entry, with 30 computers). -/
example : (officeDeclared (exOffice 47 none)).links.filter (fun l => l.a = "router_A") =
    [oLink "router_A" 1 "switch_core_A" 24 150] := by decide

/-- non-vacuity of `C20_office_edge_uplinks`: 47 computers need three edge switches -/
example : numSwitches (exOffice 47 none).numPcs > 1 := by decide

/-- the constants and the wiring calls of `OfficeLANAdder.add_nodes_to_net` / `num_of_switches_required` / the schema's
validator are the ones the model uses: 23 computers per switch, 24-port switches, every uplink on port 24, router port 1,
gateway `.1`, the hostname and address templates, the two guards, the defaults, and the six `network.connect` calls with
their endpoints in order. -/
theorem C20_gen_office_constants :
    Gen.Config.officePcsPerSwitch = pcsPerSwitch ∧ Gen.Config.officeSwitchPorts = [uplinkPort, uplinkPort, uplinkPort] ∧
    Gen.Config.officeMaxInterfaceDefault = uplinkPort ∧ Gen.Config.officeIpLimit = officeIpLimit ∧
    Gen.Config.officeIpRangeTest = "self.pcs_ip_block_start + self.num_pcs >= 254" ∧
    Gen.Config.officeStartGuard = "config.pcs_ip_block_start <= num_of_switches" ∧
    Gen.Config.officeNewSwitchTest = "switch_port == effective_network_interface" ∧
    Gen.Config.officeDefaults = ("True", "100") ∧
    Gen.Config.officeTemplates = ["switch_core_{config.lan_name}", "192.168.{config.subnet_base}.1", "router_{config.lan_name}",
      "switch_edge_{switch_n}_{config.lan_name}", "switch_edge_{switch_n}_{config.lan_name}", "pc_{i}_{config.lan_name}",
      "192.168.{config.subnet_base}.{i + config.pcs_ip_block_start - 1}"] ∧
    Gen.Config.officeConnects = [
      "router.network_interface[1], core_switch.network_interface[24], bandwidth=config.bandwidth",
      "core_switch.network_interface[core_switch_port], switch.network_interface[24], bandwidth=config.bandwidth",
      "router.network_interface[1], switch.network_interface[24], bandwidth=config.bandwidth",
      "core_switch.network_interface[core_switch_port], switch.network_interface[24], bandwidth=config.bandwidth",
      "router.network_interface[1], switch.network_interface[24], bandwidth=config.bandwidth",
      "switch.network_interface[switch_port], pc.network_interface[1], bandwidth=config.bandwidth"] ∧
    Gen.Config.officeSwitchCountFormula = "full_switches + (1 if extra_pcs > 0 else 0)" :=
  ⟨rfl, rfl, rfl, rfl, rfl, rfl, rfl, rfl, rfl, rfl, rfl⟩

end Primaite.Config
