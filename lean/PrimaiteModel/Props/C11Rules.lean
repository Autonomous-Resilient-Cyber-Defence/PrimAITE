/-
C11 — the mask bit, spelled out with the MEANING of the permission rules as read from the source.

`Props/C11.lean` proves mask = reaches-handler for an abstract valuation of the validators.  Here the valuation is the one induced
by the regenerated translation of every `RequestPermissionValidator.__call__` (Gen/RequestValidators.lean, proved equal to the
declarative specification `Guards.holds` in Props/C05Guards.lean), evaluated with the falsy context `{}` that `action_mask`
passes: bit `i` is set exactly when the target of action number `i` exists and EVERY rule along its path — host is on, service is
running / stopped / paused / disabled, application is running, interface is enabled / disabled, folder exists and is not deleted,
file exists and is not deleted — holds on the component that rule is bound to, FOR THE OPTIONS OF THAT REQUEST.
-/
import PrimaiteModel.Props.C11
import PrimaiteModel.Props.C05Guards
namespace Primaite.Request
open Primaite.Mask Primaite.Guards Primaite.Schema

/-- **The property's first sentence on the model, with the rules' meaning from the source.**  For every request tree, every
assignment of rule lists (`vn`) and bound components (`bind`) to the edges, every `form_request`, every well-numbered action map
in any listing order: the mask has one bit per action number and bit `i` = "the path of action `i` exists ∧ every rule of every
validator on it holds (specification) for the options that validator is given". -/
theorem C11_mask_bit_iff_rules_hold {α} (vn : VId → Validator) (bind : VId → VSelf) (kids : Kids) (form : α → List Key)
    (amap : List (Nat × α)) (h : WellNumbered amap) :
    ∃ r, actionMask (fun a => checkValidK (envOf vn bind none) kids (form a)) amap = some r ∧ r.length = amap.length ∧
      ∀ i, i < amap.length → ∃ a, actionOf amap i = some a ∧
        r[i]? = some (pathExistsK kids (form a) &&
          (validatorsOnK kids (form a)).all (fun va => holdsAll (vn va.1) (bind va.1) va.2 none)) := by
  obtain ⟨r, hr, hl, hb⟩ := C11_mask_by_action_number (fun a => checkValidK (envOf vn bind none) kids (form a)) amap h
  refine ⟨r, hr, hl, ?_⟩
  intro i hi
  obtain ⟨a, ha, hv⟩ := hb i hi
  refine ⟨a, ha, ?_⟩
  rw [hv, C11_mask_iff_reaches_K (envOf vn bind none) kids (form a) 0, C05_reaches_iff_rules_hold]

/-- a masked-out action: its target is missing or some rule on its path is false — and that rule can be named -/
theorem C11_masked_out_names_a_false_rule (vn : VId → Validator) (bind : VId → VSelf) (kids : Kids) (p : List Key)
    (h : checkValidK (envOf vn bind none) kids p = false) :
    pathExistsK kids p = false ∨
      ∃ v args a, (v, args) ∈ validatorsOnK kids p ∧ a ∈ vn v ∧ holds a (bind v) args none = false := by
  rw [C11_mask_iff_reaches_K (envOf vn bind none) kids p 0, C05_reaches_iff_rules_hold] at h
  cases hp : pathExistsK kids p with
  | false => exact Or.inl rfl
  | true =>
    right
    rw [hp, Bool.true_and, List.all_eq_false] at h
    obtain ⟨va, hva, hf⟩ := h
    obtain ⟨a, ha, hfa⟩ := List.all_eq_false.mp (Bool.eq_false_iff.mpr hf)
    exact ⟨va.1, va.2, a, hva, ha, by simpa using hfa⟩

/-! #### non-vacuity: the route of `node-file-scan` with the code's rule lists, two files of one folder in different conditions -/

/-- `node pc` (0: node is on) → `file_system` (1) → `folder` (2: exists + not deleted, by NAME) → `docs` (3) → `file` (4: exists +
not deleted, by NAME) → `a.txt` / `b.txt` (5, 6) → `scan` (7, 8) -/
def exRoute : Kids :=
  [("pc", 0, .node [("file_system", 1, .node [("folder", 2, .node [("docs", 3, .node [("file", 4, .node
    [("a.txt", 5, .node [("scan", 7, .leaf 0)]), ("b.txt", 6, .node [("scan", 8, .leaf 1)])])])])])])]
def exVn : VId → Validator
  | 0 => [.nodeIsOn] | 2 => [.folderExists, .folderNotDeleted] | 4 => [.folderFileExists, .fileNotDeleted] | _ => []
/-- `a.txt` has been deleted (it sits in `deleted_files` with the flag set), `b.txt` has not -/
def exDocs : FolderS := ⟨"docs", false, [⟨"b.txt", false⟩], [⟨"a.txt", true⟩]⟩
def exBind : VId → VSelf := fun _ => { file_system := ⟨[exDocs], []⟩, folder := exDocs }
def exMap : List (Nat × List Key) :=
  [(1, ["pc", "file_system", "folder", "docs", "file", "b.txt", "scan"]), (0, ["pc", "file_system", "folder", "docs", "file", "a.txt", "scan"])]

example : actionMask (fun a => checkValidK (envOf exVn exBind none) exRoute a) exMap = some [false, true] := by decide +kernel
/-- the same host shutting down: every entry behind the host's rule is masked out -/
example : actionMask (fun a => checkValidK (envOf exVn (fun _ => { exBind 0 with node := ⟨"SHUTTING_DOWN"⟩ }) none) exRoute a) exMap
    = some [false, false] := by decide +kernel

end Primaite.Request

namespace Primaite.Request
open Primaite.Guards Primaite.Schema
open Primaite.Gen.RequestSchema (schema)
open Primaite.Gen.ActionTemplates (templates)

/-- If the parameters of an action (any regenerated template, any component class it can address) name PRESENT components and the
mask still marks it unavailable, then one of THAT ACTION'S documented guards (`expectedGuards`, the contract table) is false —
its specification, on the component its validator is bound to, for the options of this request.  (The other reason for a 0 bit,
"its target does not exist", is the negation of `present`.) -/
theorem C11_present_action_masked_only_by_its_own_guard (vn : VId → Validator) (bind : VId → VSelf)
    (inv : Inv) (kids : Kids) (hinst : Inst schema vn rootMgr inv kids) (t : Template) (ht : t ∈ templates) (c : String)
    (hc : c ∈ addressable schema t) (ρ : String → Key)
    (hpres : present schema (pickNode schema c) rootMgr inv t.segs ρ = true)
    (h : checkValidK (envOf vn bind none) kids (instantiate ρ t.segs) = false) :
    ∃ args a v, a ∈ (if t.fallback then [] else expectedGuards t.action) ∧ a ∈ vn v ∧ holds a (bind v) args none = false := by
  rw [C11_mask_iff_reaches_K (envOf vn bind none) kids (instantiate ρ t.segs) 0] at h
  rcases (Outcome.isReached_eq_false_iff _).mp h with ⟨d', hd⟩ | ⟨d', v, hd⟩
  · exact absurd hd (C05_regenerated_action_never_unreachable vn inv kids hinst t ht c hc ρ hpres _ 0 d')
  · obtain ⟨args, a, h1, h2, h3⟩ := C05_action_refusal_is_false_expected_guard vn bind none inv kids hinst t ht c hc ρ hpres 0 d' v hd
    exact ⟨args, a, v, h1, h2, h3⟩

end Primaite.Request
