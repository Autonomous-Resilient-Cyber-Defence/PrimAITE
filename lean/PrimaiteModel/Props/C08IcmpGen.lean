/-
C08 — ICMP: `ICMP.ping`, `ICMP._send_icmp_echo_request`, `ICMP._process_icmp_echo_request` and `RouterICMP._process_icmp_echo_request`
(behind the enabled-own-address guard of `RouterICMP.receive`) are TRANSLATED (Gen/ForwardIcmp.lean: `ping`, `sendEcho`,
`hostProcessEcho`, `routerProcessEcho`) into small programs; the interpreters below give every instruction the one model primitive it
stands for (`resolveOut`, `sendIcmp`, `replyCount`, `isLoopback`, the node's `on` flag and interface list).

Abstractions of the interpreter (stated, not hidden):
* the identifier: `ICMPPacket(identifier=None)` draws a random one when the first packet is built; the model RESERVES a fresh one at
  `initSeq` (`st.nextId`, which no earlier ping used) and `mkRequest` uses it when the identifier is still None;
* `popCounter` (the counter of a finished ping is removed from `request_replies`) has no effect in the model: identifiers are fresh,
  a finished ping's counter is never read again;
* `whileSend` runs the body at most `pings` times, each time after the test `sequence < pings`; every activation raises `sequence`
  (by one, or to `pings`), so this is the `while` loop (`foldl_stepW_pingStep`: from any start the sequence stands at `pings` when the
  fold ends; `whileSend_exits`: the test is false afterwards, stated for a start that has its identifier).
-/
import PrimaiteModel.Gen.ForwardIcmp
import PrimaiteModel.Props.C08FuelMono
namespace Primaite.Forward
open Primaite.Gen.ForwardIcmp (Cmp PProg SProg EProg)
namespace GI
export Primaite.Gen.ForwardIcmp (sendEcho hostProcessEcho routerProcessEcho)
/-- the translated `ICMP.ping` -/
abbrev pingProg : PProg := Primaite.Gen.ForwardIcmp.ping
end GI

/-- **Loopback ping.**  A powered-on node pinging any address of 127.0.0.0/8: NOTHING is sent — the whole state (every node, the
log, the identifier counter, the out-of-fuel mark) is exactly what it was — and the answer is "some interface of the node is
enabled".  For every state, node, count and fuel. -/
theorem C08_ping_loopback (fuel : Nat) (st : St) (n : Nat) (nd : Node) (target : Ip) (pings : Nat)
    (hn : st.node? n = some nd) (hon : nd.on = true) (hlo : isLoopback target = true) :
    ping fuel st n target pings = (st, nd.ifaces.any (·.enabled)) := by
  simp only [ping, hn, hon, hlo, Bool.not_true, Bool.false_eq_true, if_false, if_true]

/-- … a powered-off node (its services are stopped: `_can_perform_action`) gets `False`, also for a loopback address. -/
theorem C08_ping_loopback_off (fuel : Nat) (st : St) (n : Nat) (nd : Node) (target : Ip) (pings : Nat)
    (hn : st.node? n = some nd) (hoff : nd.on = false) :
    ping fuel st n target pings = (st, false) := by
  simp only [ping, hn, hoff, Bool.not_false, if_true]

/-- … and whatever the node is, a loopback ping leaves the state untouched: in particular it never runs out of fuel
(termination is unaffected), with ANY fuel, even 0. -/
theorem C08_ping_loopback_state (fuel : Nat) (st : St) (n : Nat) (target : Ip) (pings : Nat) (hlo : isLoopback target = true) :
    (ping fuel st n target pings).1 = st := by
  unfold ping
  split
  · rfl
  · -- `split` settles the loopback test from `hlo`
    split
    · rfl
    · rfl

theorem C08_ping_loopback_terminates (fuel : Nat) (st : St) (n : Nat) (target : Ip) (pings : Nat) (hlo : isLoopback target = true)
    (hok : st.oof = false) : (ping fuel st n target pings).1.oof = false := by
  rw [C08_ping_loopback_state fuel st n target pings hlo]; exact hok

/-- 127.0.0.1, 127.10.11.12, 127.255.255.255 are loopback; 126.255.255.255, 128.0.0.0, 192.168.1.2 are not. -/
example : isLoopback 0x7F000001#32 = true ∧ isLoopback 0x7F0A0B0C#32 = true ∧ isLoopback 0x7FFFFFFF#32 = true ∧
    isLoopback 0x7EFFFFFF#32 = false ∧ isLoopback 0x80000000#32 = false ∧ isLoopback 0xC0A80102#32 = false := by decide

/-- interpreter of the translated `_send_icmp_echo_request`; locals: `nic` (the resolved interface), `pkt` (the identifier of the
packet built); `fresh`: what a None identifier becomes.  Result: the state, and the returned (sequence, identifier). -/
def runS (fuel n : Nat) (target : Ip) (pings fresh : Nat) : SProg → St → Nat → Option Nat → Option Nat → Option Nat → St × Nat × Option Nat
  | .resolveNic k, st, seq, id, _, pkt => let r := resolveOut fuel st n target; runS fuel n target pings fresh k r.1 seq id r.2 pkt
  | .ifNoNic a b, st, seq, id, nic, pkt =>
    if nic.isNone then runS fuel n target pings fresh a st seq id nic pkt else runS fuel n target pings fresh b st seq id nic pkt
  | .retPingsNone, st, _, _, _, _ => (st, pings, none)
  | .incSeq k, st, seq, id, nic, pkt => runS fuel n target pings fresh k st (seq + 1) id nic pkt
  | .mkRequest k, st, seq, id, nic, _ => runS fuel n target pings fresh k st seq id nic (some (id.getD fresh))
  | .handOver k, st, seq, id, nic, pkt =>
    match pkt with
    | some p => runS fuel n target pings fresh k (sendIcmp fuel st n target (.echoReq p)) seq id nic pkt
    | none => runS fuel n target pings fresh k st seq id nic pkt
  | .retSeqIdent, st, seq, _, _, pkt => (st, seq, pkt)

/-- **Gen obligation**: one activation of the translated `_send_icmp_echo_request` is one step of the model's loop (`pingStep`, the
body of the fold in `ping`): resolve the outbound interface; none → nothing is sent, the sequence jumps to `pings` and the identifier is
lost; else ONE echo request with the (kept or fresh) identifier is handed to the session manager for `target`, sequence + 1. -/
theorem C08_gen_icmp_send_echo (fuel n : Nat) (target : Ip) (pings fresh : Nat) (st : St) (seq : Nat) (id : Option Nat) :
    runS fuel n target pings fresh GI.sendEcho st seq id none none =
      ((pingStep fuel n target (id.getD fresh) (st, true)).1,
        if (pingStep fuel n target (id.getD fresh) (st, true)).2 then seq + 1 else pings,
        if (pingStep fuel n target (id.getD fresh) (st, true)).2 then some (id.getD fresh) else none) := by
  simp only [Gen.ForwardIcmp.sendEcho, runS, pingStep, Bool.not_true, Bool.false_eq_true, if_false]
  cases (resolveOut fuel st n target).2 <;> simp

/-- `passed = request_replies <op> pings` (`request_replies` may be None) -/
def cmpOp (p : Nat) : Cmp → Option Nat → Bool
  | .eq, c => c == some p
  | .ne, c => c != some p
  | .ge, some k => decide (p ≤ k)
  | .le, some k => decide (k ≤ p)
  | .gt, some k => decide (p < k)
  | .lt, some k => decide (k < p)
  | _, none => false

/-- the `while` test and one activation of the translated `_send_icmp_echo_request` -/
def stepW (fuel n : Nat) (target : Ip) (pings fresh : Nat) (a : St × Nat × Option Nat) : St × Nat × Option Nat :=
  if a.2.1 < pings then runS fuel n target pings fresh GI.sendEcho a.1 a.2.1 a.2.2 none none else a

/-- interpreter of the translated `ICMP.ping`; locals: `seq`, `id` (sequence, identifier), `fresh` (the identifier reserved for this
ping), `rep` (`request_replies`), `passed`. -/
def runP (fuel n : Nat) (target : Ip) (pings : Nat) : PProg → St → Nat → Option Nat → Nat → Option Nat → Bool → St × Bool
  | .guardCanPerform k, st, seq, id, fresh, rep, passed =>
    match st.node? n with
    | none => (st, false)
    | some nd => if !nd.on then (st, false) else runP fuel n target pings k st seq id fresh rep passed
  | .ifLoopback r k, st, seq, id, fresh, rep, passed =>
    if isLoopback target then runP fuel n target pings r st seq id fresh rep passed else runP fuel n target pings k st seq id fresh rep passed
  | .retConst b, st, _, _, _, _, _ => (st, b)
  | .retAnyEnabled, st, _, _, _, _, _ => (st, ((st.node? n).map (fun nd => nd.ifaces.any (·.enabled))).getD false)
  | .retAllEnabled, st, _, _, _, _, _ => (st, ((st.node? n).map (fun nd => nd.ifaces.all (·.enabled))).getD false)
  | .initSeq k, st, _, _, _, rep, passed => runP fuel n target pings k { st with nextId := st.nextId + 1 } 0 none st.nextId rep passed
  | .whileSend k, st, seq, id, fresh, rep, passed =>
    let r := (List.range pings).foldl (fun a _ => stepW fuel n target pings fresh a) (st, seq, id)
    runP fuel n target pings k r.1 r.2.1 r.2.2 fresh rep passed
  | .readReplies k, st, seq, id, fresh, _, passed =>
    runP fuel n target pings k st seq id fresh
      (match st.node? n, id with
       | some nd, some i => replyCount nd.replies i
       | _, _ => none) passed
  | .setPassed op k, st, seq, id, fresh, rep, _ => runP fuel n target pings k st seq id fresh rep (cmpOp pings op rep)
  | .popCounter k, st, seq, id, fresh, rep, passed => runP fuel n target pings k st seq id fresh rep passed
  | .retPassed, st, _, _, _, _, passed => (st, passed)

/-- one activation of the `while` body is one step of the model's fold; the model's flag is carried by the other two loop variables:
once it is false the sequence stands at `pings` and the identifier is lost.  `id`: the identifier so far, `None` before the first
packet and then standing for the reserved one. -/
theorem stepW_pingStep (fuel n : Nat) (target : Ip) (pings ident fresh seq : Nat) (hlt : seq < pings) (s : St × Bool)
    (id : Option Nat) (hid : id.getD fresh = ident) :
    stepW fuel n target pings fresh (s.1, if s.2 then seq else pings, if s.2 then id else none) =
      ((pingStep fuel n target ident s).1, if (pingStep fuel n target ident s).2 then seq + 1 else pings,
        if (pingStep fuel n target ident s).2 then some ident else none) := by
  obtain ⟨st, b⟩ := s
  cases b
  · simp [stepW, pingStep]
  · simp only [stepW, hlt, if_true, ← hid]
    exact C08_gen_icmp_send_echo fuel n target pings fresh st seq id

/-- the bounded loop of the interpreter and the fold of the model walk in step: same state; the identifier survives exactly when the
model's flag does; and the sequence ends at `pings` (the `while` test is false). -/
theorem foldl_stepW_pingStep (fuel n : Nat) (target : Ip) (pings ident fresh : Nat) (l : List Nat) :
    ∀ (s : St × Bool) (seq : Nat) (id : Option Nat), id.getD fresh = ident → (l = [] → id = some ident) → seq + l.length = pings →
      l.foldl (fun a _ => stepW fuel n target pings fresh a) (s.1, if s.2 then seq else pings, if s.2 then id else none) =
        ((l.foldl (fun a _ => pingStep fuel n target ident a) s).1, pings,
          if (l.foldl (fun a _ => pingStep fuel n target ident a) s).2 then some ident else none) := by
  induction l with
  | nil =>
    intro ⟨st, b⟩ seq id _ hid h
    subst h
    rw [hid rfl]
    cases b <;> rfl
  | cons x xs ih =>
    intro s seq id hid _ h
    have hlen : seq + 1 + xs.length = pings := by
      simp only [List.length_cons] at h
      omega
    rw [List.foldl_cons, List.foldl_cons, stepW_pingStep fuel n target pings ident fresh seq (by omega) s id hid]
    exact ih _ (seq + 1) (some ident) rfl (fun _ => rfl) hlen

/-- the bounded loop IS the `while` loop: when it ends, `sequence < pings` is false. -/
theorem whileSend_exits (fuel n : Nat) (target : Ip) (pings ident fresh : Nat) (st : St) :
    ¬ ((List.range pings).foldl (fun a _ => stepW fuel n target pings fresh a) (st, 0, some ident)).2.1 < pings := by
  have h : (List.range pings).foldl (fun a _ => stepW fuel n target pings fresh a) (st, 0, some ident) = _ :=
    foldl_stepW_pingStep fuel n target pings ident fresh (List.range pings) (st, true) 0 (some ident) rfl (fun _ => rfl) (by simp)
  rw [h]
  exact Nat.lt_irrefl _

/-- **Gen obligation**: the model's `ping` IS the translated `ICMP.ping` — the can-perform guard, the loopback early case
(`any` interface enabled, nothing sent), then `pings` activations of the translated `_send_icmp_echo_request` with one identifier,
stopping at the first unresolvable interface, and success iff the reply counter of that identifier EQUALS `pings`.  For every state,
node, target (loopback or not), fuel, and count ≥ 1 (any count for a loopback target: with `pings = 0` and another target the source
raises ZeroDivisionError out of its statistics line — outside the model). -/
theorem C08_gen_icmp_ping (fuel : Nat) (st : St) (n : Nat) (target : Ip) (pings : Nat)
    (hpos : 0 < pings ∨ isLoopback target = true) :
    ping fuel st n target pings = runP fuel n target pings GI.pingProg st 0 none 0 none false := by
  rw [ping_eq]
  simp only [GI.pingProg, Gen.ForwardIcmp.ping, runP]
  cases st.node? n with
  | none => rfl
  | some nd =>
    simp only
    cases nd.on with
    | false => simp
    | true =>
      cases hlo : isLoopback target with
      | true => simp
      | false =>
        simp only [Bool.not_true, Bool.false_eq_true, if_false]
        have hne : List.range pings = [] → none = some st.nextId := fun h => by
          rw [hlo, List.range_eq_nil.1 h] at hpos
          simp at hpos
        have h : (List.range pings).foldl (fun a _ => stepW fuel n target pings st.nextId a)
            ({ st with nextId := st.nextId + 1 }, 0, none) = _ :=
          foldl_stepW_pingStep fuel n target pings st.nextId st.nextId (List.range pings) ({ st with nextId := st.nextId + 1 }, true) 0 none rfl hne
            (by simp)
        rw [h]
        generalize (List.range pings).foldl (fun a _ => pingStep fuel n target st.nextId a)
          ({ st with nextId := st.nextId + 1 }, true) = m
        cases m.2 <;> cases m.1.node? n <;> simp [cmpOp]

/-- interpreter of the translated `_process_icmp_echo_request`; `ifc`: the arrival interface, `own`: the interface that carries the
frame's destination address (router); locals: `nic`, `pkt`. -/
def runE (fuel n : Nat) (f : Frame) (ifc own : Iface) : EProg → St → Option Nat → Option Pl → St
  | .ifDstNotArrivalIp k, st, nic, pkt => if f.dstIp != ifc.ip then st else runE fuel n f ifc own k st nic pkt
  | .ifArrivalDisabled k, st, nic, pkt => if !ifc.enabled then st else runE fuel n f ifc own k st nic pkt
  | .ifOwnDisabled k, st, nic, pkt => if !own.enabled then st else runE fuel n f ifc own k st nic pkt
  | .resolveSrc k, st, _, pkt => let r := resolveOut fuel st n f.srcIp; runE fuel n f ifc own k r.1 r.2 pkt
  | .ifNoNic k, st, nic, pkt => match nic with | none => st | some _ => runE fuel n f ifc own k st nic pkt
  | .mkReply k, st, nic, _ =>
    runE fuel n f ifc own k st nic (match f.pl with | .echoReq ident => some (.echoRep ident) | _ => none)
  | .handOverSrc k, st, nic, pkt =>
    match pkt with
    | some p => runE fuel n f ifc own k (sendIcmp fuel st n f.srcIp p) nic pkt
    | none => runE fuel n f ifc own k st nic pkt
  | .done, st, _, _ => st

/-- **Gen obligation (hosts)**: what `hostRecv` does with an echo request that reached the software (source learned when the node is
on, the hand-over logged) IS the translated `ICMP._process_icmp_echo_request`: nothing unless the frame is addressed to the ARRIVAL
interface's address; resolve the way back to the frame's SOURCE address; no interface → nothing; else an echo reply with the SAME
identifier handed to the session manager for the source address.  Every state, frame, fuel. -/
theorem C08_gen_icmp_process_echo_host (fuel : Nat) (st : St) (n i : Nat) (f : Frame) (nd : Node) (ifc : Iface) (ident : Nat)
    (hn : st.node? n = some nd) (hi : st.iface? n i = some ifc) (hp : f.pl = .echoReq ident) :
    hostRecv (fuel + 1) st n i f =
      (runE fuel n f ifc ifc GI.hostProcessEcho
        ((if nd.on then st.modNode n (fun nd => nd.addArp f.srcIp f.srcMac i) else st).emit (.sw n f.id f.dstIp (f.dstMac == bcastMac)))
        none none, f) := by
  rw [hostRecv]
  simp only [hn, hi, hp, portClosed, Bool.false_eq_true, if_false, Gen.ForwardIcmp.hostProcessEcho, runE]
  split
  · rfl
  · split <;> rename_i h <;> simp only [h]

/-- **Gen obligation (routers, firewalls)**: what `routerRecv` does with a permitted echo request for one of its own addresses IS
the translated `RouterICMP.receive` guard + `RouterICMP._process_icmp_echo_request`: nothing when the interface carrying the address
is disabled; NO test of the arrival interface (a router answers for any of its enabled addresses); then as on a host. -/
theorem C08_gen_icmp_process_echo_router (fuel : Nat) (st : St) (n i : Nat) (f : Frame) (nd : Node) (ifc own : Iface) (ident : Nat)
    (hn : st.node? n = some nd) (hi : st.iface? n i = some ifc) (hp : f.pl = .echoReq ident)
    (hon : (nd.fw.isNone && !nd.on) = false) (hacl : aclDenies nd i (.echoReq ident) = false)
    (hown : ifaceWithIp nd.ifaces f.dstIp = some own) :
    routerRecv (fuel + 1) st n i f =
      (runE fuel n f ifc own GI.routerProcessEcho
        ((st.modNode n (fun nd => nd.addArp f.srcIp f.srcMac i)).emit (.sw n f.id f.dstIp (f.dstMac == bcastMac))) none none, f) := by
  rw [routerRecv]
  simp only [hn, hi, hp, hon, hacl, hown, Bool.false_eq_true, if_false, Gen.ForwardIcmp.routerProcessEcho, runE]
  have e1 : (Pl.echoReq ident == Pl.dataReq) = false := by simp
  have e2 : (Pl.echoReq ident == Pl.dataRep) = false := by simp
  simp only [Pl.isApp, e1, e2, Bool.or_self, Bool.false_eq_true, if_false]
  split
  · rfl
  · split <;> rename_i h <;> simp only [h]

/-- Gen obligation: `RouterICMP` overrides `_process_icmp_echo_request` and `receive` only: a router pings with `ICMP.ping` /
`_send_icmp_echo_request` and counts replies with `ICMP._process_icmp_echo_reply`, as the model's single `ping` assumes. -/
theorem C08_gen_icmp_router_overrides : Gen.ForwardIcmp.routerIcmpOverrides = ["_process_icmp_echo_request", "receive"] := rfl

/-- "loopback always answers True": another program; on a node whose only interface is disabled it answers True, the translated
source (and the model) False. -/
def loopTrueProg : PProg := .guardCanPerform (.ifLoopback (.retConst true) .retPassed)

theorem C08_icmp_loopback_countermodel :
    (runP 0 0 0x7F000001#32 4 loopTrueProg { nodes := [{ kind := .host, ifaces := [{ mac := 1, ip := 0xC0A80102#32, plen := 24, enabled := false }] }] }
      0 none 0 none false).2 = true ∧
    (ping 0 { nodes := [{ kind := .host, ifaces := [{ mac := 1, ip := 0xC0A80102#32, plen := 24, enabled := false }] }] } 0 0x7F000001#32 4).2 = false ∧
    (ping 0 { nodes := [{ kind := .host, ifaces := [{ mac := 1, ip := 0xC0A80102#32, plen := 24, enabled := true }] }] } 0 0x7F000001#32 4).2 = true := by
  refine ⟨by decide +kernel, by decide +kernel, by decide +kernel⟩

end Primaite.Forward
