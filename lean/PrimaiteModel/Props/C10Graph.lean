/-
C10 — semantic tie of the two graph functions (src/primaite/game/science.py).

`FT` and `FC` (`Gen.RewardGraph.fn_topological_sort`, `fn_graph_has_cycle`) are the bodies of `topological_sort` and `graph_has_cycle`,
translated statement by statement on every run (harness/extract/reward_graph.py) into the language of
Model/RewardGraphLang.lean.  Proved here, for EVERY graph (any node type, any key / neighbour order, dangling and repeated
neighbours) and EVERY unfolding depth: interpreting the translated bodies gives exactly `topoSortF` / `hasCycleF` of
Model/RewardGraph.lean — the functions about which `C10_has_cycle_sound_complete`, `C10_topo_deps_first`, `C10_topo_nodup`,
`C10_graph_order_irrelevant`, `C10_cyclic_rejected`, `C10_acyclic_accepted` … are stated.  A rewrite of either function that
changes what it computes refutes these theorems; one that keeps the meaning and the statement structure keeps them.
-/
import PrimaiteModel.Model.RewardGraphLang
import PrimaiteModel.Gen.RewardGraph
import PrimaiteModel.Lemmas.RewardGraphTop
namespace Primaite.RewardGraph.Lang
open Primaite.RewardGraph

variable {α : Type} [DecidableEq α]

abbrev FT : Fn := Primaite.Gen.RewardGraph.fn_topological_sort
abbrev FC : Fn := Primaite.Gen.RewardGraph.fn_graph_has_cycle

/-- the containers of `topological_sort`: `visited`, `stack` -/
def tcs (st : List α × List α) : Conts α := [("c0", (true, st.1)), ("c1", (false, st.2))]

theorem topo_loop (g : Graph α) (call : Call α) (f : List α × List α → α → List α × List α)
    (h : ∀ st n, call (tcs st) n = .ok (tcs (f st n), .none)) (loc : List (String × α)) :
    ∀ (ms : List α) (st : List α × List α),
      loopS (fun w cs' => exec g call (.callS "v0") (("v0", w) :: loc) cs') ms (tcs st) = .ok (tcs (ms.foldl f st), none) := by
  intro ms
  induction ms with
  | nil => intro st; simp [loopS]
  | cons m ms ih =>
    intro st
    simp only [loopS, exec, List.lookup, beq_self_eq_true, h, List.foldl_cons]
    exact ih _

theorem topo_inner (g : Graph α) : ∀ (d : Nat) (st : List α × List α) (n : α),
    runInner g FT d (tcs st) n = .ok (tcs (tdfs g d st n), .none) := by
  intro d
  induction d with
  | zero => intro st n; simp [runInner, tdfs]
  | succ d ih =>
    intro st n
    obtain ⟨vis, stk⟩ := st
    have hl := topo_loop g (runInner g FT d) (tdfs g d) ih [("p", n)] (nbrs g n) (n :: vis, stk)
    simp only [runInner]
    -- the translated body is unfolded only where it is executed; the recursive calls stay abstract (`call`, known by `ih`)
    generalize runInner g FT d = call at hl ⊢
    simp only [tcs] at hl
    by_cases hv : n ∈ vis
    · simp [FT, Primaite.Gen.RewardGraph.fn_topological_sort, exec, evalCond, tcs, tdfs, hv, List.lookup]
    · simp [FT, Primaite.Gen.RewardGraph.fn_topological_sort, exec, evalCond, tcs, tdfs, hv, List.lookup, put] at hl ⊢
      simp [hl, List.lookup, put]

/-- interpreting the translated `topological_sort` on ANY graph, recursion unfolded to ANY depth `d`, returns the model's
`topoSortF g d` (the list `stack`): the interpretation and the model agree step by step, not only at the end -/
theorem C10_gen_topological_sort_depth (g : Graph α) (d : Nat) :
    runFn g FT d = .ok (.list (topoSortF g d)) := by
  have hl := topo_loop g (runInner g FT d) (tdfs g d) (topo_inner g d) [] (keys g) ([], [])
  simp only [runFn]
  generalize runInner g FT d = call at hl ⊢
  simp only [tcs] at hl
  simp [FT, Primaite.Gen.RewardGraph.fn_topological_sort, exec, put, List.lookup] at hl ⊢
  simp [hl, List.lookup, topoSortF]

omit [DecidableEq α] in
theorem loopE_cur_sub (f : CSt α → α → Bool × CSt α) (hf : ∀ st n, ∀ x ∈ st.2, x ∈ (f st n).2.2) :
    ∀ (ms : List α) (st : CSt α), ∀ x ∈ st.2, x ∈ (loopE f st ms).2.2 := by
  intro ms
  induction ms with
  | nil => intro st x hx; exact hx
  | cons m ms ih =>
    intro st x hx
    simp only [loopE]
    split
    · exact hf st m x hx
    · exact ih _ x (hf st m x hx)

/-- the containers of `graph_has_cycle`: `visited`, `currently_visiting` -/
def ccs (st : CSt α) : Conts α := [("c0", (true, st.1)), ("c1", (true, st.2))]

/-- nothing leaves `currently_visiting` except the node a call itself put there -/
theorem cdfs_cur_sub (g : Graph α) : ∀ (d : Nat) (st : CSt α) (n : α), ∀ x ∈ st.2, x ∈ (cdfs g d st n).2.2 := by
  intro d
  induction d with
  | zero => intro st n x hx; exact hx
  | succ d ih =>
    intro st n x hx
    obtain ⟨vis, cur⟩ := st
    simp only [cdfs]
    split
    · exact hx
    · rename_i hnc
      split
      · exact hx
      · have h1 := loopE_cur_sub (cdfs g d) ih (nbrs g n) (n :: vis, n :: cur) x (List.mem_cons_of_mem _ hx)
        split
        · exact h1
        · have hne : x ≠ n := fun h => hnc (h ▸ hx)
          exact (List.mem_erase_of_ne hne).mpr h1

theorem cyc_loop (g : Graph α) (call : Call α) (f : CSt α → α → Bool × CSt α) (r : CSt α → α → RVal α)
    (h : ∀ st n, call (ccs st) n = .ok (ccs (f st n).2, r st n)) (hr : ∀ st n, (r st n).truthy = (f st n).1)
    (loc : List (String × α)) :
    ∀ (ms : List α) (st : CSt α),
      loopS (fun w cs' => exec g call (.ite (.call "v0") (.retBool true) .pass) (("v0", w) :: loc) cs') ms (ccs st)
        = .ok (ccs (loopE f st ms).2, if (loopE f st ms).1 then some (.bool true) else none) := by
  intro ms
  induction ms with
  | nil => intro st; simp [loopS, loopE]
  | cons m ms ih =>
    intro st
    have hhead : exec g call (.ite (.call "v0") (.retBool true) .pass) (("v0", m) :: loc) (ccs st) =
        if (f st m).1 then .ok (ccs (f st m).2, some (.bool true)) else .ok (ccs (f st m).2, none) := by
      simp [exec, evalCond, List.lookup, h, hr]
    simp only [loopS, loopE, hhead]
    by_cases hb : (f st m).1 = true
    · simp only [hb, if_true]
    · simp only [hb]
      exact ih _

/-- the value a call returns at unfolding depth `d` when the model answers `b` (`None` at depth 0, where the model answers `false`) -/
def rv : Nat → Bool → RVal α
  | 0, _ => .none
  | _ + 1, b => .bool b

theorem rv_truthy (g : Graph α) (d : Nat) (st : CSt α) (m : α) :
    (rv d (cdfs g d st m).1 : RVal α).truthy = (cdfs g d st m).1 := by
  cases d <;> rfl

theorem cyc_inner (g : Graph α) : ∀ (d : Nat) (st : CSt α) (n : α),
    runInner g FC d (ccs st) n = .ok (ccs (cdfs g d st n).2, rv d (cdfs g d st n).1) := by
  intro d
  induction d with
  | zero => intro st n; simp [runInner, cdfs, rv]
  | succ d ih =>
    intro st n
    obtain ⟨vis, cur⟩ := st
    have hl := cyc_loop g (runInner g FC d) (cdfs g d) (fun st m => rv d (cdfs g d st m).1) ih (rv_truthy g d) [("p", n)]
      (nbrs g n) (n :: vis, n :: cur)
    simp only [runInner]
    generalize runInner g FC d = call at hl ⊢
    by_cases hc : n ∈ cur
    · simp [FC, Primaite.Gen.RewardGraph.fn_graph_has_cycle, exec, evalCond, ccs, cdfs, hc, List.lookup, rv]
    · by_cases hv : n ∈ vis
      · simp [FC, Primaite.Gen.RewardGraph.fn_graph_has_cycle, exec, evalCond, ccs, cdfs, hc, hv, List.lookup, rv]
      · have hin : n ∈ (loopE (cdfs g d) (n :: vis, n :: cur) (nbrs g n)).2.2 :=
          loopE_cur_sub (cdfs g d) (cdfs_cur_sub g d) _ _ n (List.mem_cons_self ..)
        simp only [ccs] at hl
        simp [FC, Primaite.Gen.RewardGraph.fn_graph_has_cycle, exec, evalCond, ccs, cdfs, hc, hv, List.lookup, put, rv] at hl ⊢
        simp only [hl]
        by_cases hb : (loopE (cdfs g d) (n :: vis, n :: cur) (nbrs g n)).1 = true
        · simp [hb]
        · simp [hb, hin, List.lookup, put]

/-- interpreting the translated `graph_has_cycle` on ANY graph, recursion unfolded to ANY depth `d`, returns the model's
`hasCycleF g d` -/
theorem C10_gen_graph_has_cycle_depth (g : Graph α) (d : Nat) :
    runFn g FC d = .ok (.bool (hasCycleF g d)) := by
  have hl := cyc_loop g (runInner g FC d) (cdfs g d) (fun st m => rv d (cdfs g d st m).1) (cyc_inner g d) (rv_truthy g d) []
    (keys g) ([], [])
  simp only [runFn]
  generalize runInner g FC d = call at hl ⊢
  simp only [ccs] at hl
  simp [FC, Primaite.Gen.RewardGraph.fn_graph_has_cycle, exec, put] at hl ⊢
  simp only [hl, hasCycleF]
  by_cases hb : (loopE (cdfs g d) ([], []) (keys g)).1 = true
  · simp [hb]
  · simp [hb]

/-- **`topological_sort` as translated from the source IS the model's `topoSort`**: for every graph (any node type, key order,
neighbour order, dangling / repeated neighbours), interpreting the translated body with the model's fuel returns the list
`topoSort g` — about which `C10_topo_deps_first`, `C10_topo_nodup`, `C10_graph_order_irrelevant` are proved. -/
theorem C10_gen_topological_sort (g : Graph α) :
    runFn g Primaite.Gen.RewardGraph.fn_topological_sort (fuelFor g) = .ok (.list (topoSort g)) :=
  C10_gen_topological_sort_depth g (fuelFor g)

/-- **`graph_has_cycle` as translated from the source IS the model's `hasCycle`** (for every graph) — the function of
`C10_has_cycle_sound_complete` (`= true ↔ ∃ u, Path g u u`), `C10_cyclic_rejected`, `C10_acyclic_accepted`. In particular the
translated body never raises: `currently_visiting.remove(node)` always finds `node` (`cdfs_cur_sub`). -/
theorem C10_gen_graph_has_cycle (g : Graph α) :
    runFn g Primaite.Gen.RewardGraph.fn_graph_has_cycle (fuelFor g) = .ok (.bool (hasCycle g)) :=
  C10_gen_graph_has_cycle_depth g (fuelFor g)

/-- **the unfolding bound is immaterial**: at EVERY depth `d ≥ fuelFor g` (number of entries of the node universe + 1; so also for
Python's own recursion, whenever the graph fits its recursion limit) the translated `graph_has_cycle` returns a truth value that is
`True` exactly on the graphs with a cycle, and on every other graph the translated `topological_sort` returns a dependencies-first
list containing every key. (At depth exhaustion the interpreter's call "does nothing and returns `None`" — this theorem shows no
conclusion depends on that convention.) -/
theorem C10_gen_graph_functions_correct_any_depth (g : Graph α) (d : Nat) (hd : fuelFor g ≤ d) :
    (runFn g Primaite.Gen.RewardGraph.fn_graph_has_cycle d = .ok (.bool true) ↔ ∃ u, Path g u u) ∧
    (∃ b, runFn g Primaite.Gen.RewardGraph.fn_graph_has_cycle d = .ok (.bool b)) ∧
    ((¬ ∃ u, Path g u u) → ∃ l, runFn g Primaite.Gen.RewardGraph.fn_topological_sort d = .ok (.list l) ∧ DepsFirst g l ∧
      ∀ k ∈ keys g, k ∈ l) := by
  have hmu : mu g [] < d := Nat.lt_of_lt_of_le (mu_lt_fuelFor g) hd
  rw [C10_gen_graph_has_cycle_depth, C10_gen_topological_sort_depth]
  refine ⟨?_, ⟨_, rfl⟩, fun h => ?_⟩
  · rw [← not_acyclic_iff, ← hasCycle_iff g d hmu]
    constructor
    · intro h; injection h with h; injection h
    · intro h; rw [h]
  · have hac : Acyclic g := fun u hp => h ⟨u, hp⟩
    obtain ⟨hdf, hk⟩ := topoSort_depsFirst g hac d hmu
    exact ⟨_, rfl, hdf, hk⟩

/-- consequently: the translated `graph_has_cycle` answers `True` exactly on the graphs with a cycle, and on every other graph the
translated `topological_sort` returns a dependencies-first order (statement of the property, on the translated code) -/
theorem C10_gen_graph_functions_correct (g : Graph α) :
    (runFn g Primaite.Gen.RewardGraph.fn_graph_has_cycle (fuelFor g) = .ok (.bool true) ↔ ∃ u, Path g u u) ∧
    ((¬ ∃ u, Path g u u) → ∃ l, runFn g Primaite.Gen.RewardGraph.fn_topological_sort (fuelFor g) = .ok (.list l) ∧ DepsFirst g l ∧
      ∀ k ∈ keys g, k ∈ l) :=
  have h := C10_gen_graph_functions_correct_any_depth g (fuelFor g) (Nat.le_refl _)
  ⟨h.1, h.2.2⟩

/-! Non-vacuity: the interpreter really runs the translated bodies (a diamond with its top first; a 2-cycle), and a body that is NOT
`topological_sort` (pre-order: `stack.append` before the neighbours) is told apart on the same diamond. -/
def asList : Except Err (RVal α) → Option (List α) | .ok (.list l) => some l | _ => none
def asBool : Except Err (RVal α) → Option Bool | .ok (.bool b) => some b | _ => none
def asErr : Except Err (RVal α) → Option Err | .error e => some e | _ => none
def exDiamond : Graph String := [("top", ["left", "right"]), ("left", ["bottom"]), ("right", ["bottom"]), ("bottom", [])]
example : asList (runFn exDiamond Primaite.Gen.RewardGraph.fn_topological_sort (fuelFor exDiamond))
    = some ["bottom", "left", "right", "top"] := by decide +kernel
example : asBool (runFn exDiamond Primaite.Gen.RewardGraph.fn_graph_has_cycle (fuelFor exDiamond)) = some false := by decide +kernel
example : asBool (runFn ([("a", ["b"]), ("b", ["a"])] : Graph String) Primaite.Gen.RewardGraph.fn_graph_has_cycle 3) = some true := by decide +kernel
example : asList (runFn exDiamond
    { param := "p",
      inner := .seq (.ite (.isIn "p" "c0") .retNone .pass) (.seq (.add "c0" "p") (.seq (.append "c1" "p") (.forNbrs "v0" "p" (.callS "v0")))),
      outer := .seq (.newSet "c0") (.seq (.newList "c1") (.seq (.forKeys "v0" (.callS "v0")) (.retCont "c1"))) } (fuelFor exDiamond))
    = some ["top", "left", "bottom", "right"] := by decide +kernel
/-- `remove` of an absent element raises, as in Python -/
example : asErr (runFn ([("a", [])] : Graph String)
    { param := "p", inner := .remove "c0" "p", outer := .seq (.newSet "c0") (.forKeys "v0" (.callS "v0")) } 2) = some .keyError := by decide +kernel

end Primaite.RewardGraph.Lang
