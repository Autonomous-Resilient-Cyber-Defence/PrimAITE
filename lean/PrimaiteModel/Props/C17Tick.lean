/-
C17 — the TICK path and the life-cycle methods of the database service, translated statement by statement from
DatabaseService / Service / Software (Gen/DatabaseTickTr.lean, harness/extract/database_tick_tr.py), are EQUAL to the model.

* `C17_tr_tick_svc`     : `DatabaseService.apply_timestep` (→ Service → Software → `_update_fix_status` → `restore_backup`) = `Server.tickSvc`
* `C17_tr_lifecycle`    : every service request handler, under its validator, = `Server.request`
* `C17_tr_start_stop`   : `Service.start` / `Service.stop` = `svcStart` / `svcStop` (what power-on / power-off run)
* `C17_tr_tick_ftpc`, `C17_tr_ftpc_admin` : the FTP client's `apply_timestep`, `restart` and `fix` = `Server.tickFtpc` / `Server.admin`
* consequences stated on the TRANSLATED code: at a timestep other than 1 the tick leaves the backup host alone; a FIXING countdown
  with ≥ 2 to go only counts down, and with ≤ 1 to go the health becomes GOOD and the backup is fetched in that very tick (so a fix
  of duration d completes at the max(d,1)-th tick).
-/
import PrimaiteModel.Props.C17Recv
import PrimaiteModel.Gen.DatabaseTickTr
namespace Primaite.Database
open Primaite.Gen

attribute [local simp] TickW.of TickW.setCd TickW.setRcd TickW.setHealth TickW.setOp TickW.afterRestore TickW.afterBackup optCmp optTruthy

/-- generic fix step of `Software` on the model's numbers -/
theorem tick_sw_update_fix (s : Server) (b : Backup) (cd : Nat) (rcd : Int) (t : Nat) (pq pr big k : Bool) :
    DatabaseTickTr.Software_update_fix_status { s := s, b := b, cd := some (cd : Int), rcd := rcd } t pq pr big k =
      if cd ≤ 1 then { s := { s with health := .good, fixCd := 0 }, b := b, cd := none, rcd := rcd }
      else { s := { s with fixCd := cd - 1 }, b := b, cd := some ((cd : Int) - 1), rcd := rcd } := by
  unfold DatabaseTickTr.Software_update_fix_status
  by_cases h : cd ≤ 1
  · have h' : (cd : Int) - 1 ≤ 0 := by omega
    simp [h, h']
  · have h' : ¬ ((cd : Int) - 1 ≤ 0) := by omega
    have h2 : ((cd : Int) - 1).toNat = cd - 1 := by omega
    simp [h, h', h2]

/-- `Software.apply_timestep` (with the database service's `_update_fix_status`) = the model's `tickFix` -/
theorem tick_sw_apply (s : Server) (b : Backup) (t : Nat) (pq pr big k : Bool) :
    (DatabaseTickTr.Software_apply_timestep (TickW.of s b) t pq pr big k).s = s.tickFix b pq pr k ∧
    (DatabaseTickTr.Software_apply_timestep (TickW.of s b) t pq pr big k).b = b ∧
    (DatabaseTickTr.Software_apply_timestep (TickW.of s b) t pq pr big k).rcd = (s.restartCd : Int) := by
  unfold DatabaseTickTr.Software_apply_timestep DatabaseTickTr.SimComponent_apply_timestep
    DatabaseTickTr.DatabaseService_update_fix_status Server.tickFix
  by_cases hf : s.health = .fixing
  · have := tick_sw_update_fix s b s.fixCd (s.restartCd : Int) t pq pr big k
    simp only [TickW.of] at this ⊢
    by_cases h : s.fixCd ≤ 1
    · simp [hf, this, h, C17_tr_restore]
    · -- (the countdown left is ≥ 1: `is None`, `not …` and `== None` all say "not over yet")
      simp [hf, this, h]
  · simp [hf]

theorem backupDatabase_countdowns (s : Server) (b : Backup) (pq big : Bool) :
    (backupDatabase s b pq big).1.restartCd = s.restartCd ∧ (backupDatabase s b pq big).1.fixCd = s.fixCd := by
  have h := backupDatabase_srv s b pq big
  exact ⟨by rw [h], by rw [h]⟩

theorem tickFix_restartCd (s : Server) (b : Backup) (pq pr k : Bool) : (s.tickFix b pq pr k).restartCd = s.restartCd := by
  unfold Server.tickFix
  (repeat' split) <;> first | rfl | rw [restoreBackup_eq]

/-- `Service.apply_timestep` = fix step, then restart step -/
theorem tick_svc_apply (s : Server) (b : Backup) (t : Nat) (pq pr big k : Bool) :
    (DatabaseTickTr.Service_apply_timestep (TickW.of s b) t pq pr big k).s = (s.tickFix b pq pr k).tickRestart ∧
    (DatabaseTickTr.Service_apply_timestep (TickW.of s b) t pq pr big k).b = b := by
  obtain ⟨h1, h2, h3⟩ := tick_sw_apply s b t pq pr big k
  have h4 := tickFix_restartCd s b pq pr k
  unfold DatabaseTickTr.Service_apply_timestep Server.tickRestart
  generalize DatabaseTickTr.Software_apply_timestep (TickW.of s b) t pq pr big k = w at h1 h2 h3
  generalize s.tickFix b pq pr k = s' at h1 h4
  obtain ⟨ws, wb, wcd, wrcd⟩ := w
  simp only at h1 h2 h3
  rw [← h4] at h3
  subst h1 h2 h3
  by_cases ho : ws.op = .restarting
  · by_cases hz : ws.restartCd = 0
    · simp [ho, hz]
    · have h6 : ((ws.restartCd : Int) - 1).toNat = ws.restartCd - 1 := by omega
      simp [ho, hz, h6]
  · simp [ho]

/-- **The database service's own tick.** For EVERY server state (any life-cycle state, health, countdowns), backup host, timestep
and path / saturation inputs: the translated `DatabaseService.apply_timestep` leaves exactly the server and backup host the
model's `tickSvc` computes. -/
theorem C17_tr_tick_svc (s : Server) (b : Backup) (t : Nat) (pq pr big k : Bool) (hi : s.installed = true) :
    ((DatabaseTickTr.applyTimestep (TickW.of s b) t pq pr big k).s, (DatabaseTickTr.applyTimestep (TickW.of s b) t pq pr big k).b)
      = s.tickSvc b t pq pr big k := by
  unfold DatabaseTickTr.applyTimestep DatabaseTickTr.DatabaseService_apply_timestep Server.tickSvc
  by_cases ht : t = 1
  · subst ht
    have hb := backupDatabase_countdowns s b pq big
    have hw : (TickW.of s b).afterBackup (DatabaseTr.backupDatabase (TickW.of s b).s (TickW.of s b).b pq big)
        = TickW.of (backupDatabase s b pq big).1 (backupDatabase s b pq big).2.1 := by
      simp [C17_tr_backup, hb.1, hb.2]
    have h := tick_svc_apply (backupDatabase s b pq big).1 (backupDatabase s b pq big).2.1 1 pq pr big k
    simp only [hi, hw]
    simpa using h
  · have h := tick_svc_apply s b t pq pr big k
    have ht' : ¬ ((t : Int) = 1) := by omega
    simp only [hi]
    simpa [ht, ht'] using h

/-- the method a service request runs (`compromise` / `scan` are not life-cycle methods of service.py's state machine) -/
def trHandler : SvcReq → Option (TickW → Nat → Bool → Bool → Bool → Bool → TickW × Bool)
  | .stop => some DatabaseTickTr.stop | .start => some DatabaseTickTr.start | .pause => some DatabaseTickTr.pause
  | .resume => some DatabaseTickTr.resume | .restart => some DatabaseTickTr.restart | .disable => some DatabaseTickTr.disable
  | .enable => some DatabaseTickTr.enable | .fix => some DatabaseTickTr.fix | .compromise => none | .scan => none

/-- **Every life-cycle request = validator, then the translated method.** For every server on a powered-on node, every request
whose validator (the regenerated table of `C17_gen_lifecycle`) lets it through: the model's `Server.request` leaves exactly the
server the TRANSLATED `Service.stop/start/pause/resume/restart/disable/enable` / `Software.fix` leaves, and answers what the
method returns (so e.g. `restart` loads the countdown with `restart_duration`, `fix` with `fixing_duration`, and `fix` is
accepted from COMPROMISED and GOOD only). -/
theorem C17_tr_lifecycle (s : Server) (b : Backup) (r : SvcReq) (t : Nat) (pq pr big k : Bool)
    (hon : s.node.isOn = true) (hi : s.installed = true) (hv : ∀ st, modelValidator r = some st → s.op = st)
    (f : TickW → Nat → Bool → Bool → Bool → Bool → TickW × Bool) (hf : trHandler r = some f) :
    s.request r = ((f (TickW.of s b) t pq pr big k).1.s, some (f (TickW.of s b) t pq pr big k).2) := by
  unfold Server.request
  cases r <;> simp only [trHandler, Option.some.injEq, reduceCtorEq] at hf <;> subst hf <;>
    simp only [modelValidator, Option.some.injEq, forall_eq', reduceCtorEq, false_implies, implies_true] at hv <;>
    simp [hon, hi, hv, DatabaseTickTr.stop, DatabaseTickTr.Service_stop, DatabaseTickTr.start, DatabaseTickTr.Service_start,
      DatabaseTickTr.pause, DatabaseTickTr.Service_pause, DatabaseTickTr.resume, DatabaseTickTr.Service_resume,
      DatabaseTickTr.restart, DatabaseTickTr.Service_restart, DatabaseTickTr.disable, DatabaseTickTr.Service_disable,
      DatabaseTickTr.enable, DatabaseTickTr.Service_enable, DatabaseTickTr.fix, DatabaseTickTr.Software_fix] <;>
    (try (split <;> simp_all))

/-- `Service.start` / `Service.stop` as the node's start-up / shut-down actions run them (no validator): exactly the model's
`svcStart` / `svcStop`, nothing else of the server touched. -/
theorem C17_tr_start_stop (s : Server) (b : Backup) (t : Nat) (pq pr big k : Bool) :
    (DatabaseTickTr.start (TickW.of s b) t pq pr big k).1.s
        = { s with op := (svcStart s.node.isOn s.op s.health).1, health := (svcStart s.node.isOn s.op s.health).2.1 } ∧
    (DatabaseTickTr.start (TickW.of s b) t pq pr big k).2 = (svcStart s.node.isOn s.op s.health).2.2 ∧
    (DatabaseTickTr.stop (TickW.of s b) t pq pr big k).1.s = { s with op := (svcStop s.op).1 } ∧
    (DatabaseTickTr.stop (TickW.of s b) t pq pr big k).2 = (svcStop s.op).2 := by
  rw [← and_assoc]
  constructor
  · unfold DatabaseTickTr.start DatabaseTickTr.Service_start svcStart
    by_cases hn : s.node.isOn = true
    · by_cases ho : s.op = .stopped
      · by_cases hh : s.health = .unused <;> simp [hn, ho, hh]
      · simp [hn, ho]
    · simp [hn]
  · unfold DatabaseTickTr.stop DatabaseTickTr.Service_stop svcStop
    by_cases ho : s.op = .running ∨ s.op = .paused
    · rcases ho with ho | ho <;> simp [ho]
    · have h1 : s.op ≠ .running := fun h => ho (Or.inl h)
      have h2 : s.op ≠ .paused := fun h => ho (Or.inr h)
      simp [h1, h2]

/-- On the translated code: at any timestep other than 1 the tick does not touch the backup host (the automatic backup is taken at
timestep 1 and at no other), whatever the state. -/
theorem C17_tr_backup_only_at_timestep_1 (s : Server) (b : Backup) (t : Nat) (pq pr big k : Bool) (ht : t ≠ 1) :
    (DatabaseTickTr.applyTimestep (TickW.of s b) t pq pr big k).b = b := by
  unfold DatabaseTickTr.applyTimestep DatabaseTickTr.DatabaseService_apply_timestep
  have ht' : ¬ ((t : Int) = 1) := by omega
  have h := tick_svc_apply s b t pq pr big k
  simpa [ht'] using h.2

/-- On the translated code: a fix with n ≥ 2 ticks to go only counts down — health stays FIXING, no backup is fetched (file and
downloads/ untouched); with ≤ 1 to go, the health becomes GOOD in this tick and the restore runs in THIS tick on that state. -/
theorem C17_tr_fix_countdown (s : Server) (b : Backup) (t : Nat) (pq pr big k : Bool) (hi : s.installed = true) (ht : t ≠ 1)
    (hf : s.health = .fixing) :
    (DatabaseTickTr.applyTimestep (TickW.of s b) t pq pr big k).s =
      if s.fixCd ≤ 1 then ((restoreBackup { s with health := .good, fixCd := 0 } b pq pr k).1).tickRestart
      else ({ s with fixCd := s.fixCd - 1 } : Server).tickRestart := by
  have h := congrArg Prod.fst (C17_tr_tick_svc s b t pq pr big k hi)
  simp only at h
  rw [h]
  unfold Server.tickSvc Server.tickFix
  by_cases h1 : s.fixCd ≤ 1 <;> simp [hi, ht, hf, h1]

/-- non-vacuity: a COMPROMISED service with a corrupt file and a healthy backup; `fix` (duration 2), two ticks: FIXING with 1 to
go after the first, GOOD and the file restored after the second. -/
example :
    let s0 : Server := { health := .compromised, file := some .corrupt }
    let b0 : Backup := { stored := some .good }
    let s1 := (DatabaseTickTr.fix (TickW.of s0 b0) 0 true true true true).1.s
    let s2 := (DatabaseTickTr.applyTimestep (TickW.of s1 b0) 5 true true true true).s
    let s3 := (DatabaseTickTr.applyTimestep (TickW.of s2 b0) 6 true true true true).s
    (s1.health, s1.fixCd) = (.fixing, 2) ∧ (s2.health, s2.fixCd, s2.file) = (.fixing, 1, some .corrupt) ∧
    (s3.health, s3.file) = (.good, some .good) := by decide

/-- non-vacuity: `restart` (duration 5) → RESTARTING; RUNNING again at the sixth tick, not at the fifth. -/
example :
    let s1 := (DatabaseTickTr.restart (TickW.of {} {}) 0 true true true true).1.s
    let tick := fun (s : Server) => (DatabaseTickTr.applyTimestep (TickW.of s {}) 7 true true true true).s
    s1.op = .restarting ∧ (tick (tick (tick (tick (tick s1))))).op = .restarting ∧
    (tick (tick (tick (tick (tick (tick s1)))))).op = .running := by decide

/-- the FTP client of the database host seen as a service record (the model keeps it in four fields of `Server`) -/
def ftpcAsServer (s : Server) (f : SvcState) : Server :=
  { node := s.node, op := f, restartCd := s.ftpcRestartCd, restartDur := ftpcRestartDur,
    health := match s.ftpcFix with | some _ => .fixing | none => if s.ftpcComp then .compromised else .good,
    fixCd := s.ftpcFix.getD 0, fixDur := ftpcFixDur }

def ftpcBack (s : Server) (r : Server) : Server :=
  { s with ftpc := some r.op, ftpcFix := if r.health = .fixing then some r.fixCd else none, ftpcRestartCd := r.restartCd }

/-- **The FTP client's tick.** `FTPClient.apply_timestep` as Python dispatches it (Service → Software → the GENERIC
`_update_fix_status`, no restore), translated, = the model's `tickFtpc`: for every state of the client (life-cycle state, fix
countdown or none, restart countdown). -/
theorem C17_tr_tick_ftpc (s : Server) (b : Backup) (f : SvcState) (hf : s.ftpc = some f) (t : Nat) (pq pr big k : Bool) :
    s.tickFtpc = ftpcBack s (DatabaseTickTr.ftpcApplyTimestep (TickW.of (ftpcAsServer s f) b) t pq pr big k).s := by
  unfold Server.tickFtpc DatabaseTickTr.ftpcApplyTimestep DatabaseTickTr.Ftpc_Service_apply_timestep
    DatabaseTickTr.Ftpc_Software_apply_timestep DatabaseTickTr.Ftpc_SimComponent_apply_timestep
    DatabaseTickTr.Ftpc_Software_update_fix_status ftpcBack ftpcAsServer
  rw [hf]
  -- the code's `int` countdowns against the model's `Nat` ones
  have h2 : ((s.ftpcRestartCd : Int) - 1).toNat = s.ftpcRestartCd - 1 := by omega
  -- the fix countdown (none / ends now / goes on) and the restart countdown (not restarting / ends now / goes on) are independent
  cases hx : s.ftpcFix with
  | none =>
    by_cases hr : f = .restarting <;> by_cases hz : s.ftpcRestartCd = 0 <;> cases hc : s.ftpcComp <;> simp [hr, hz, h2]
  | some n =>
    have g1 : ((n : Int) - 1 ≤ 0) ↔ n ≤ 1 := by omega
    have g2 : ((n : Int) - 1).toNat = n - 1 := by omega
    by_cases hn : n ≤ 1 <;> by_cases hr : f = .restarting <;> by_cases hz : s.ftpcRestartCd = 0 <;> simp [hr, hz, hn, g1, g2, h2]

/-- `['service','ftp-client','restart' | 'fix']` on a powered-on host with the client RUNNING (the validator): the model's
`Server.admin` = the translated `Service.restart` / `Software.fix` on the client's record — `restart` loads the countdown with the
restart duration; `fix` is accepted from GOOD / COMPROMISED (countdown := fixing duration, health FIXING) and refused while FIXING. -/
theorem C17_tr_ftpc_admin (s : Server) (b : Backup) (t : Nat) (pq pr big k : Bool)
    (hon : s.node.isOn = true) (hf : s.ftpc = some .running) :
    s.admin (.ftpc .restart) = (ftpcBack s (DatabaseTickTr.ftpcRestart (TickW.of (ftpcAsServer s .running) b) t pq pr big k).1.s,
                                some (DatabaseTickTr.ftpcRestart (TickW.of (ftpcAsServer s .running) b) t pq pr big k).2) ∧
    (s.admin (.ftpc .fix)).2 = some (DatabaseTickTr.ftpcFix (TickW.of (ftpcAsServer s .running) b) t pq pr big k).2 ∧
    (s.admin (.ftpc .fix)).1 =
      if (DatabaseTickTr.ftpcFix (TickW.of (ftpcAsServer s .running) b) t pq pr big k).2
      then { ftpcBack s (DatabaseTickTr.ftpcFix (TickW.of (ftpcAsServer s .running) b) t pq pr big k).1.s with ftpcComp := false }
      else s := by
  unfold Server.admin DatabaseTickTr.ftpcRestart DatabaseTickTr.Ftpc_Service_restart DatabaseTickTr.ftpcFix
    DatabaseTickTr.Ftpc_Software_fix ftpcBack ftpcAsServer
  cases s.ftpcFix <;> cases s.ftpcComp <;> simp [hon, hf, ftpcRestartDur, ftpcFixDur]

/-- non-vacuity: the FTP client, `fix` (2): a `restart` is accepted while it is FIXING; 1 to go after one tick, over after two. -/
example :
    let s0 : Server := {}
    let s1 := (s0.admin (.ftpc .fix)).1
    let s2 := (s1.admin (.ftpc .restart)).1
    let tick := fun (s : Server) => ftpcBack s (DatabaseTickTr.ftpcApplyTimestep (TickW.of (ftpcAsServer s (s.ftpc.getD .stopped)) {}) 3 true true true true).s
    s1.ftpcFix = some 2 ∧ s1.ftpc = some .running ∧ (s1.admin (.ftpc .restart)).2 = some true ∧
    (tick s1).ftpcFix = some 1 ∧ (tick (tick s1)).ftpcFix = none := by decide

end Primaite.Database
