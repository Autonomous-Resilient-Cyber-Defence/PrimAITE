/-
C06, second sentence of the property made explicit: *a frame that a router or firewall has decided to deny is never
forwarded by it nor handed to its own software* — for BOTH verdicts a firewall takes, and for the decision
`check_send_frame_to_session_manager` that sits between them.

* `C06_gen_toSession`: the source expression of `Router.check_send_frame_to_session_manager` (translated by the extractor
  from Python's own parse tree, so operator precedence is Python's) equals the model's `toSessionDecision` for every
  valuation of the three facts it reads; `C06_gen_entry_shape`: the branch structure of the six firewall entry points.
* `C06_firewall_closed_form`: what a firewall does with ANY frame on ANY attacker- or protected-facing port, as one
  expression: first verdict → (learn) → session manager XOR (look-ups →) second entry point → second verdict → `process_frame`.
* `C06_firewall_first_deny_nothing`, `C06_firewall_second_deny_nothing`: after a DENY at either stage the rest of the handler is
  `done` — the only things that ever ran are the verdict(s), the ARP learning between them and (DMZ-outbound) the look-ups.
* `C06_toSession_only_own`, `C06_firewall_transit_reaches_second_verdict`, `C06_firewall_transit_denied_inert`: a frame that is
  not addressed to one of the device's own interface addresses is never handed to its software; it always meets the
  second list (this is what the operator-precedence slip of seeded change C06-c broke).
* `C06_verdict_history_free`, `C06_router_deny_after_history`: the verdict is that of the list as configured, whatever the
  list has judged before (what the verdict memo of seeded change C06-e broke); `C06_gen_is_permitted_pure` ties it to the source.
* `C06_FullDmzDeniedSilent` / `C06_dmz_denied_silent_partial` / `C06_dmz_denied_silent_counterexample`: from the DMZ the
  look-ups run BEFORE the second verdict, so a frame the second list denies can still make the firewall emit (F-C06-dmz-lookup).
-/
import PrimaiteModel.Model.FilterClass
import PrimaiteModel.Props.C06
import PrimaiteModel.Gen.Filter
import PrimaiteModel.Props.C07Frame
namespace Primaite.Filter
open Primaite Primaite.Acl Primaite.Cut

variable {W : Type}

/-- the list after it has judged the packets `hist`, in that order (only hit counters move) -/
def afterHistory (a : Acl) (hist : List Packet) : Acl := hist.foldl (fun a q => (isPermitted a q).2.2) a

/-- **`denied` is a function of (rule list, frame), not of what the element has judged before.**  Whatever packets a list has
judged — permitted traffic to a third host on the same protocol and ports, probes, floods, in any order — its verdict and the
deciding rule for packet `p` are those of the list as configured.  This is why the cut theorems may quantify over arbitrary
prior traffic (the initial state of every rule list is "any counters"); a verdict cache keyed by less than the whole packet
(seeded change C06-e: protocol, source, ports — no destination) is exactly what it excludes. -/
theorem C06_verdict_history_free (a : Acl) (hist : List Packet) (p : Packet) :
    (isPermitted (afterHistory a hist) p).1 = (isPermitted a p).1 ∧
    (isPermitted (afterHistory a hist) p).2.1 = (isPermitted a p).2.1 := by
  induction hist generalizing a with
  | nil => exact ⟨rfl, rfl⟩
  | cons q rest ih =>
    have h1 := ih (isPermitted a q).2.2
    have h2 := C07_verdict_stable a p q
    simp only at h2
    exact ⟨h1.1.trans h2.1, h1.2.trans h2.2⟩

/-- non-vacuity: A→C permitted (dst-specific PERMIT above), then A→B with the same protocol, source and ports is still denied -/
example : let acl : Acl := { rules := [some { anyPattern with action := .permit, dstIp := some 0x0A000215#32 },
                                        some { anyPattern with dstIp := some 0x0A000214#32 }] ++ List.replicate 22 none, implicit := .permit }
    let toC : Packet := { proto := .tcp, srcIp := 0x0A00010A#32, dstIp := 0x0A000215#32, ports := some (5432, 5432) }
    let toB : Packet := { proto := .tcp, srcIp := 0x0A00010A#32, dstIp := 0x0A000214#32, ports := some (5432, 5432) }
    (isPermitted acl toC).1 = true ∧ (isPermitted (afterHistory acl [toC, toC]) toB).1 = false := by decide

/-- **the code's `AccessControlList.is_permitted` reads the object and the frame, nothing else**: C07's translation of the method
(regenerated on every C06 run as well) equals the model function; a memo, a session table or any other state would have to
appear in the translated method and break this -/
theorem C06_gen_is_permitted_pure (a : AclObj) (f : Primaite.Gen.AclMatch.FrameView) :
    Primaite.Gen.AclState.isPermitted a f = a.isPermitted (toPacket f) := C07_gen_is_permitted a f

def evalB (env : String → Bool) : Gen.Filter.BExpr → Bool
  | .atom n => env n
  | .const b => b
  | .and a b => evalB env a && evalB env b
  | .or a b => evalB env a || evalB env b
  | .not a => !evalB env a

def toSessionEnv (own icmp isOpen : Bool) : String → Bool :=
  fun n => if n = "own" then own else if n = "icmp" then icmp else if n = "open" then isOpen else false

/-- **The translated source expression is the model's decision, for every valuation.** -/
theorem C06_gen_toSession (own icmp isOpen : Bool) :
    evalB (toSessionEnv own icmp isOpen) Gen.Filter.toSessionExpr = toSessionDecision own icmp isOpen := by
  cases own <;> cases icmp <;> cases isOpen <;> decide

/-- what the tie excludes: with `frame.icmp or own and open` (Python reads it `icmp or (own and open)`) a transit ICMP frame
would be handed to the device's own software -/
example : evalB (toSessionEnv false true false) (.or (.atom "icmp") (.and (.atom "own") (.atom "open"))) = true ∧
    toSessionDecision false true false = false := by decide

/-- branch structure of the six entry points: first-stage ones are `learn; if toSession then session else <second stage only>`
(the session manager and the second stage exclude each other; the object handed on is the frame that was judged),
second-stage ones are `process_frame` alone -/
theorem C06_gen_entry_shape :
    Gen.Filter.entryShape =
      [("extIn", "learn;if-toSession-then-session-else-second"), ("extOut", "process"), ("intIn", "process"),
       ("intOut", "learn;if-toSession-then-session-else-second"), ("dmzIn", "process"),
       ("dmzOut", "learn;if-toSession-then-session-else-second")] := rfl

/-- the DMZ-outbound entry point drops a layer-2 broadcast (not for the firewall itself) BEFORE it resolves an outbound
interface: no ARP request is sent on behalf of a broadcast (C08's repair, modelled in `fwNext`) -/
theorem C06_gen_dmz_broadcast_drop : Gen.Filter.dmzOutDropsBroadcast = dmzOutDropsBroadcast := rfl

/-- a frame handed to the device's own software is addressed to one of its interface addresses -/
theorem C06_toSession_only_own (openPorts : Node W → List Nat) (s : Node W) (f : Frame)
    (h : stdToSession openPorts s f = true) : isOwnIp s f.pkt.dstIp = true := by
  simp only [stdToSession, toSessionDecision, Bool.and_eq_true] at h
  exact h.1

/-- `Router.receive_frame` for every frame: OFF → nothing; exempt (genuine ARP) → no verdict; otherwise the verdict, and on
DENY nothing but the counter. -/
theorem C06_router_closed_form (soft : Soft W) (s : Node W) (p : Nat) (f : Frame) (hk : s.kind = .router) :
    nodeLayer soft s p f =
      if s.on = false then .done s else
      match subjectToAcl f with
      | none => .done s
      | some false => permitted soft s p f
      | some true =>
        if (isPermitted (s.acls .router) f.pkt).1 = false then .done (s.setAcl .router (isPermitted (s.acls .router) f.pkt).2.2)
        else permitted soft (s.setAcl .router (isPermitted (s.acls .router) f.pkt).2.2) p f := by
  simp only [nodeLayer_router soft hk, routerRxWith]
  cases hon : s.on
  · simp
  · simp only [Bool.not_true, Bool.false_eq_true, if_false]
    cases hs : subjectToAcl f with
    | none => rfl
    | some b =>
      cases b
      · rfl
      · simp only
        cases hv : (isPermitted (s.acls .router) f.pkt).1 <;> simp

/-- **router DENY ⇒ nothing**: a frame that is subject to the list and denied leaves the router with at most that list's counter
bumped (untouched when it is OFF); software never called. -/
theorem C06_router_denied_nothing (soft : Soft W) (s : Node W) (p : Nat) (f : Frame) (hk : s.kind = .router)
    (hsub : subjectToAcl f = some true) (hdeny : (isPermitted (s.acls .router) f.pkt).1 = false) :
    ∃ s', nodeLayer soft s p f = .done s' ∧ s'.sw = s.sw ∧ s'.ifaces = s.ifaces ∧ s'.on = s.on := by
  cases hon : s.on
  · exact ⟨s, by simp [C06_router_closed_form soft s p f hk, hon], rfl, rfl, hon⟩
  · exact ⟨_, C06_router_deny_inert soft s p f hk hon hsub hdeny, rfl, rfl, hon⟩

/-- `C06_verdict_history_free` through a router: in whatever order it judged other frames, a frame its configured list denies is
dropped -/
theorem C06_router_deny_after_history (soft : Soft W) (s : Node W) (p : Nat) (f : Frame) (hist : List Packet)
    (hk : s.kind = .router) (hsub : subjectToAcl f = some true) (hdeny : (isPermitted (s.acls .router) f.pkt).1 = false) :
    ∃ s', nodeLayer soft (s.setAcl .router (afterHistory (s.acls .router) hist)) p f = .done s' ∧ s'.sw = s.sw ∧
      s'.ifaces = s.ifaces ∧ s'.on = s.on := by
  have hd : (isPermitted ((s.setAcl .router (afterHistory (s.acls .router) hist)).acls .router) f.pkt).1 = false := by
    simp only [Node.setAcl, if_true]
    rw [(C06_verdict_history_free _ hist f.pkt).1]; exact hdeny
  exact C06_router_denied_nothing soft _ p f hk hsub hd

/-- the firewall's state after a first-stage PERMIT: that list's counter bumped, the sender learned -/
def fwS2 (soft : Soft W) (s : Node W) (p : Nat) (f : Frame) (e : FwEntry) : Node W :=
  { s.setAcl (entryAcl e) (isPermitted (s.acls (entryAcl e)) f.pkt).2.2 with
    sw := soft.learn (s.setAcl (entryAcl e) (isPermitted (s.acls (entryAcl e)) f.pkt).2.2) p f }

/-- what runs between the `toSession` test and the choice of the second entry point: the ARP / route look-ups of the
DMZ-outbound entry point (not for a layer-2 broadcast: it is dropped there, `secondEntry` = none), nothing elsewhere -/
def fwPre (soft : Soft W) (e : FwEntry) (p : Nat) (f : Frame) (s2 : Node W) : Script W :=
  match e with
  | .dmzOut => if f.dstMac == bcastMac then .done s2 else soft.dmzLookup s2 p f
  | _ => .done s2

/-- the second stage: the entry point the code selects, its verdict, and `process_frame` only on PERMIT -/
def fwSecond (soft : Soft W) (e : FwEntry) (p : Nat) (f : Frame) (s3 : Node W) : Script W :=
  match secondEntry soft e s3 f with
  | none => .done s3
  | some e2 =>
    if (isPermitted (s3.acls (entryAcl e2)) f.pkt).1 = false
    then .done (s3.setAcl (entryAcl e2) (isPermitted (s3.acls (entryAcl e2)) f.pkt).2.2)
    else soft.process (s3.setAcl (entryAcl e2) (isPermitted (s3.acls (entryAcl e2)) f.pkt).2.2) p f

theorem fwFinal_eq (soft : Soft W) (e2 : FwEntry) (s3 : Node W) (p : Nat) (f : Frame) :
    fwFinal soft e2 s3 p f =
      if (isPermitted (s3.acls (entryAcl e2)) f.pkt).1 = false
      then .done (s3.setAcl (entryAcl e2) (isPermitted (s3.acls (entryAcl e2)) f.pkt).2.2)
      else soft.process (s3.setAcl (entryAcl e2) (isPermitted (s3.acls (entryAcl e2)) f.pkt).2.2) p f := by
  simp only [fwFinal]
  cases (isPermitted (s3.acls (entryAcl e2)) f.pkt).1 <;> simp

theorem portEntry_first (p : Nat) (e : FwEntry) (h : portEntry p = some e) : e = .extIn ∨ e = .intOut ∨ e = .dmzOut := by
  rcases portEntry_cases p e h with h | h | h
  · exact Or.inl h.1
  · exact Or.inr (Or.inl h.1)
  · exact Or.inr (Or.inr h.1)

/-- the second stage of the three first-stage entry points: (look-ups, then) the selected entry point's verdict -/
theorem fwNext_eq (soft : Soft W) (e : FwEntry) (p : Nat) (f : Frame) (he : e = .extIn ∨ e = .intOut ∨ e = .dmzOut) :
    fwNext soft e p f = fun s2 => (fwPre soft e p f s2).bind (fwSecond soft e p f) := by
  funext s2
  rw [fwNext_second]
  have hpre : fwPre soft e p f s2 =
      (match e with
        | .dmzOut => if f.dstMac == bcastMac then .done s2 else soft.dmzLookup s2 p f
        | _ => .done s2 : Script W) := by
    rcases he with he | he | he <;> subst he <;> rfl
  rw [hpre]
  congr 1
  funext s3
  unfold fwSecond
  cases secondEntry soft e s3 f with
  | none => rfl
  | some e2 => exact fwFinal_eq soft e2 s3 p f

/-- **`Firewall.receive_frame`, for every frame, as one expression.**  First verdict; on DENY nothing else.  On PERMIT the
ARP learning, then EITHER the session manager (exactly when `check_send_frame_to_session_manager` says so) OR the second
stage: (DMZ-outbound: the look-ups, then) the entry point selected as in the code, ITS verdict, and `process_frame` only
if that verdict is PERMIT too.  There is no other path on which the firewall's software sees the frame. -/
theorem C06_firewall_closed_form (soft : Soft W) (s : Node W) (p : Nat) (f : Frame) (e : FwEntry)
    (hk : s.kind = .firewall) (hp : portEntry p = some e) :
    nodeLayer soft s p f =
      if (isPermitted (s.acls (entryAcl e)) f.pkt).1 = false
      then .done (s.setAcl (entryAcl e) (isPermitted (s.acls (entryAcl e)) f.pkt).2.2)
      else
        if soft.toSession (fwS2 soft s p f e) f
        then soft.session (fwS2 soft s p f e) p f
        else (fwPre soft e p f (fwS2 soft s p f e)).bind
            (fwSecond soft e p f) := by
  simp only [nodeLayer_firewall soft hk, fwRx, hp, fwNext_eq soft e p f (portEntry_first p e hp), fwFirst, fwS2]
  cases hv : (isPermitted (s.acls (entryAcl e)) f.pkt).1
  · simp
  · simp only [Bool.not_true, Bool.false_eq_true, Bool.true_eq_false, if_false]
    rfl

/-- **first-stage DENY ⇒ nothing**: state = old state with that list's counter bumped; software never called. -/
theorem C06_firewall_first_deny_nothing (soft : Soft W) (s : Node W) (p : Nat) (f : Frame) (e : FwEntry)
    (hk : s.kind = .firewall) (hp : portEntry p = some e) (hdeny : (isPermitted (s.acls (entryAcl e)) f.pkt).1 = false) :
    ∃ s', nodeLayer soft s p f = .done s' ∧ s'.sw = s.sw ∧ s'.ifaces = s.ifaces ∧ s'.on = s.on :=
  ⟨_, C06_firewall_first_deny_inert soft s p f e hk hp hdeny, rfl, rfl, rfl⟩

/-- **second-stage DENY ⇒ nothing more**: in whatever state `s3` the second stage is entered (after the look-ups and any
re-entrant traffic they caused), if the list of the entry point the code selects denies the frame, the rest of the handler
is `done`: no `process_frame`, no session manager, nothing emitted; software state, interfaces and power untouched. -/
theorem C06_firewall_second_deny_nothing (soft : Soft W) (e : FwEntry) (p : Nat) (f : Frame) (s3 : Node W)
    (hdeny : ∀ e2, secondEntry soft e s3 f = some e2 → (isPermitted (s3.acls (entryAcl e2)) f.pkt).1 = false) :
    ∃ s4, fwSecond soft e p f s3 = .done s4 ∧ s4.sw = s3.sw ∧ s4.ifaces = s3.ifaces ∧ s4.on = s3.on := by
  unfold fwSecond
  cases h : secondEntry soft e s3 f with
  | none => exact ⟨s3, rfl, rfl, rfl, rfl⟩
  | some e2 =>
    exact ⟨s3.setAcl (entryAcl e2) (isPermitted (s3.acls (entryAcl e2)) f.pkt).2.2, by simp [hdeny e2 h], rfl, rfl, rfl⟩

/-- a software layer whose `toSession` is the code's decision -/
def StdSession (soft : Soft W) (openPorts : Node W → List Nat) : Prop := ∀ s f, soft.toSession s f = stdToSession openPorts s f

theorem isOwnIp_setAcl_sw (s : Node W) (a : AclId) (x : Acl) (w : W) (ip : Ip) :
    isOwnIp ({ s.setAcl a x with sw := w } : Node W) ip = isOwnIp s ip := rfl

/-- **A transit frame always meets the second list.**  With the code's `check_send_frame_to_session_manager`, a frame whose
destination is not one of the firewall's own interface addresses — whatever its protocol, ICMP included — is never handed
to the session manager: after a first-stage PERMIT the handler is exactly (look-ups, then) the second stage. -/
theorem C06_firewall_transit_reaches_second_verdict (soft : Soft W) (openPorts : Node W → List Nat) (hstd : StdSession soft openPorts)
    (s : Node W) (p : Nat) (f : Frame) (e : FwEntry) (hk : s.kind = .firewall) (hp : portEntry p = some e)
    (hperm : (isPermitted (s.acls (entryAcl e)) f.pkt).1 = true) (htransit : isOwnIp s f.pkt.dstIp = false) :
    nodeLayer soft s p f =
      (fwPre soft e p f (fwS2 soft s p f e)).bind
        (fwSecond soft e p f) := by
  rw [C06_firewall_closed_form soft s p f e hk hp]
  have hts : soft.toSession (fwS2 soft s p f e) f = false := by
    rw [hstd]
    have : isOwnIp (fwS2 soft s p f e) f.pkt.dstIp = false := htransit
    simp only [stdToSession, this, toSessionDecision, Bool.false_and]
  simp [hperm, hts]

/-- **The scenario of seeded change C06-c, as a theorem about the code's decision**: a transit frame (any protocol) arriving
from the external or internal zone, permitted by the first list and denied by the list of the second entry point, is inert
apart from the two counters and the ARP learning: the firewall's software never sees it and nothing is emitted. -/
theorem C06_firewall_transit_denied_inert (soft : Soft W) (openPorts : Node W → List Nat) (hstd : StdSession soft openPorts)
    (s : Node W) (p : Nat) (f : Frame) (e : FwEntry) (hk : s.kind = .firewall) (hp : portEntry p = some e)
    (he : e = .extIn ∨ e = .intOut)
    (hperm : (isPermitted (s.acls (entryAcl e)) f.pkt).1 = true) (htransit : isOwnIp s f.pkt.dstIp = false)
    (hdeny : ∀ e2, secondEntry soft e (fwS2 soft s p f e) f = some e2 →
      (isPermitted ((fwS2 soft s p f e).acls (entryAcl e2)) f.pkt).1 = false) :
    ∃ s4, nodeLayer soft s p f = .done s4 ∧ s4.ifaces = s.ifaces ∧ s4.on = s.on ∧ s4.sw = (fwS2 soft s p f e).sw := by
  rw [C06_firewall_transit_reaches_second_verdict soft openPorts hstd s p f e hk hp hperm htransit]
  have hpre : fwPre soft e p f (fwS2 soft s p f e) = .done (fwS2 soft s p f e) := by
    rcases he with he | he <;> subst he <;> rfl
  rw [hpre]
  simp only [Act.bind]
  obtain ⟨s4, h4, hsw, hif, hon⟩ := C06_firewall_second_deny_nothing soft e p f _ hdeny
  exact ⟨s4, h4, hif, hon, hsw⟩

def Silent (a : Script W) : Prop := Emits (fun _ _ _ => False) a

/-- The statement one would like: a frame from the DMZ that the first list permits, that is not for the firewall itself, and
that the list of WHATEVER second entry point is selected denies (in every state with the same lists), makes the firewall
emit nothing. -/
def C06_FullDmzDeniedSilent : Prop :=
  ∀ (soft : Soft Unit) (s : Node Unit) (f : Frame), s.kind = .firewall →
    (isPermitted (s.acls .dmzOut) f.pkt).1 = true → soft.toSession (fwS2 soft s dmzPort f .dmzOut) f = false →
    (∀ s3 e2, s3.acls = (fwS2 soft s dmzPort f .dmzOut).acls → secondEntry soft .dmzOut s3 f = some e2 →
      (isPermitted (s3.acls (entryAcl e2)) f.pkt).1 = false) →
    Silent (nodeLayer soft s dmzPort f)

theorem silent_bind_pres (P : Node W → Prop) : ∀ (a : Script W) (k : Node W → Script W), Silent a → Pres P a →
    (∀ s, P s → Silent (k s)) → Silent (a.bind k) := by
  intro a
  induction a with
  | done s => intro k _ hp hk; cases hp with | done h => exact hk s h
  | send s q g k' ih =>
    intro k ha _ _
    cases ha with
    | send hq _ => exact absurd hq id

/-- What the code gives: it holds whenever the look-ups themselves emit nothing (and leave the lists alone) — the
destination or the route's next hop is already in the ARP cache, or on-link for one of the firewall's interfaces, or there
is no route — and for every layer-2 broadcast (dropped before the look-ups). -/
theorem C06_dmz_denied_silent_partial (soft : Soft W) (s : Node W) (f : Frame) (hk : s.kind = .firewall)
    (hperm : (isPermitted (s.acls .dmzOut) f.pkt).1 = true) (hts : soft.toSession (fwS2 soft s dmzPort f .dmzOut) f = false)
    (hdeny : ∀ s3 e2, s3.acls = (fwS2 soft s dmzPort f .dmzOut).acls → secondEntry soft .dmzOut s3 f = some e2 →
      (isPermitted (s3.acls (entryAcl e2)) f.pkt).1 = false)
    (hquiet : f.dstMac = bcastMac ∨
      (Silent (soft.dmzLookup (fwS2 soft s dmzPort f .dmzOut) dmzPort f) ∧
       Pres (fun s3 => s3.acls = (fwS2 soft s dmzPort f .dmzOut).acls) (soft.dmzLookup (fwS2 soft s dmzPort f .dmzOut) dmzPort f))) :
    Silent (nodeLayer soft s dmzPort f) := by
  rw [C06_firewall_closed_form soft s dmzPort f .dmzOut hk rfl]
  have hp : ((isPermitted (s.acls (entryAcl .dmzOut)) f.pkt).1 = false) = False := by
    have : entryAcl .dmzOut = AclId.dmzOut := rfl
    rw [this, hperm]; simp
  simp only [hp, if_false, hts, Bool.false_eq_true]
  have hk2 : ∀ s3, s3.acls = (fwS2 soft s dmzPort f .dmzOut).acls → Silent (fwSecond soft .dmzOut dmzPort f s3) := by
    intro s3 h3
    obtain ⟨s4, h4, _⟩ := C06_firewall_second_deny_nothing soft .dmzOut dmzPort f s3 (hdeny s3 · h3)
    rw [h4]; exact Emits.done
  simp only [fwPre]
  split
  · exact hk2 _ rfl
  · rename_i hb
    rcases hquiet with h | ⟨h1, h2⟩
    · exact absurd (by simp [h]) hb
    · exact silent_bind_pres _ _ _ h1 h2 hk2

section examples

/-- external-inbound list permits everything, internal-inbound list denies everything -/
def exFwAcls : AclId → Acl
  | .intIn => exDenyAllAcl
  | _ => { rules := List.replicate 24 none, implicit := .permit }

def exFw : Node Unit :=
  { kind := .firewall, on := true,
    ifaces := [{ enabled := true, mac := 1, ip := 0x0A000101#32, mask := 0xFFFFFF00#32 },
               { enabled := true, mac := 2, ip := 0x0A000201#32, mask := 0xFFFFFF00#32 },
               { enabled := true, mac := 3, ip := 0x0A000301#32, mask := 0xFFFFFF00#32 }],
    acls := exFwAcls, sw := () }

/-- transit ping from the external zone to an internal host -/
def exTransitPing : Frame :=
  { srcMac := 5, dstMac := 1, pkt := { proto := .icmp, srcIp := 0x0A00010A#32, dstIp := 0x0A000214#32, ports := none },
    ttl := 63, arp := false, tag := 0 }

def exStdSoft : Soft Unit := { exEchoSoft with toSession := stdToSession (fun _ => [219]) }

/-- with the code's decision the transit ping is denied by the second list and nothing happens (although the echoing
software would answer and forward any frame it is given) … -/
example : ∃ s4, nodeLayer exStdSoft exFw 0 exTransitPing = .done s4 := by
  obtain ⟨s4, h, _⟩ := C06_firewall_transit_denied_inert exStdSoft (fun _ => [219]) (fun _ _ => rfl) exFw 0 exTransitPing .extIn
    rfl rfl (Or.inl rfl) (by decide) (by decide) (by
      intro e2 h2
      have : e2 = .intIn := by
        have : secondEntry exStdSoft .extIn (fwS2 exStdSoft exFw 0 exTransitPing .extIn) exTransitPing = some .intIn := by decide
        rw [this] at h2; injection h2 with h2; exact h2.symm
      subst this
      decide)
  exact ⟨s4, h⟩

/-- … whereas a decision that hands every ICMP frame to the session manager (seeded change C06-c) lets the same software
answer: the second list is never asked -/
example : nodeLayer { exEchoSoft with toSession := fun s f => f.pkt.proto == .icmp || (isOwnIp s f.pkt.dstIp && dstPortOpen [219] f) }
    exFw 0 exTransitPing ≠ .done (fwS2 exEchoSoft exFw 0 exTransitPing .extIn) := by
  simp [nodeLayer, exFw, fwRx, portEntry, extPort, fwFirst, exTransitPing, exEchoSoft, isPermitted, exFwAcls, entryAcl, firstMatch]

/-- software whose look-up sends an ARP request for the next hop out of the internal port (what
`RouterARP._get_arp_cache_network_interface` does for a destination behind a route when the cache is cold) -/
def exLookupSoft : Soft Unit :=
  { exEchoSoft with toSession := fun _ _ => false,
                    dmzLookup := fun s _ f => .send s intPort { f with arp := true, arpReq := true } (fun s' => .done s'),
                    dmzOutNic := fun _ _ => some intPort }

/-- a frame from a DMZ host to a host behind an internal router -/
def exDmzFrame : Frame :=
  { srcMac := 5, dstMac := 3, pkt := { proto := .icmp, srcIp := 0x0A00030A#32, dstIp := 0x0A000814#32, ports := none },
    ttl := 63, arp := false, tag := 0 }

/-- **F-C06-dmz-lookup** (recorded as an observation: host B is unchanged; reproduced on the running code by R-net, witness
corpus/C06/net-dmz-lookup-arp.json): the DMZ-outbound look-ups run BEFORE the second verdict, so the internal-inbound list
denies the frame, yet the firewall has already put an ARP request on the internal port. -/
theorem C06_dmz_denied_silent_counterexample : ¬ C06_FullDmzDeniedSilent := by
  intro h
  have hs := h exLookupSoft exFw exDmzFrame rfl (by decide) rfl (by
    intro s3 e2 h3 h2
    have he : e2 = .intIn := by
      simp [secondEntry, exLookupSoft, exDmzFrame, bcastMac, intPort, extPort] at h2
      exact h2.symm
    subst he
    rw [h3]
    decide)
  have hn : nodeLayer exLookupSoft exFw dmzPort exDmzFrame =
      .send (fwS2 exLookupSoft exFw dmzPort exDmzFrame .dmzOut) intPort { exDmzFrame with arp := true, arpReq := true }
        (fun s' => fwSecond exLookupSoft .dmzOut dmzPort exDmzFrame s') := by
    rw [C06_firewall_closed_form exLookupSoft exFw dmzPort exDmzFrame .dmzOut rfl rfl]
    have hv : (isPermitted (exFw.acls (entryAcl .dmzOut)) exDmzFrame.pkt).1 = true := by decide
    have hb : (exDmzFrame.dstMac == bcastMac) = false := by decide
    simp only [hv, Bool.true_eq_false, if_false, fwPre, hb, Bool.false_eq_true]
    rfl
  rw [hn] at hs
  cases hs with
  | send hq _ => exact hq

/-- non-vacuity of the partial statement: the same firewall and frame with software whose look-ups are quiet -/
example : Silent (nodeLayer { exLookupSoft with dmzLookup := fun s _ _ => .done s } exFw dmzPort exDmzFrame) := by
  apply C06_dmz_denied_silent_partial _ exFw exDmzFrame rfl (by decide) rfl
  · intro s3 e2 h3 h2
    have he : e2 = .intIn := by
      simp [secondEntry, exLookupSoft, exDmzFrame, bcastMac, intPort, extPort] at h2
      exact h2.symm
    subst he
    rw [h3]
    decide
  · exact Or.inr ⟨Emits.done, Pres.done rfl⟩

end examples

end Primaite.Filter
