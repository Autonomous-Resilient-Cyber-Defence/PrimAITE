/-
C02 — construction side: the objects built from a scenario's observation_space section, the order of events inside the
constructors, flattening, and the space an environment declares episode by episode.
Model: `Model/ObsConfig.lean`; source tables: `Gen/ObsCfgTables.lean` (regenerated on every run).
-/
import PrimaiteModel.Props.C02
import PrimaiteModel.Model.ObsConfig
import PrimaiteModel.Gen.ObsCfgTables
namespace Primaite.Obs
open Primaite.Gen

/-! ### translator tie: ORDER of events inside every `__init__`

An event is `(kind, attribute, detail)`: `assign` / `set` (the attribute receives a value), `pad` / `trunc` (a `while` loop appends
to / pops from the list), `default` (a statement that builds `default_observation`; detail = attributes it reads), `alias`
(`self.x = self.default_observation`).  The obligation: once a `default` statement has READ an attribute, nothing writes that
attribute any more — so `default_observation`, `space` (evaluated later) and `observe` all see the same, final, padded lists. -/

abbrev InitEvent := String × String × List String

def writesAttr (e : InitEvent) (a : String) : Bool :=
  (e.1 == "pad" || e.1 == "trunc" || e.1 == "assign" || e.1 == "set") && e.2.1 == a

/-- no attribute read by a `default` statement is written by a later statement -/
def initOrderOk : List InitEvent → Bool
  | [] => true
  | e :: rest =>
    (if e.1 == "default" then e.2.2.all (fun a => rest.all (fun e' => !(writesAttr e' a))) else true) && initOrderOk rest

def padTruncOf (evs : List InitEvent) : List InitEvent := evs.filter (fun e => e.1 == "pad" || e.1 == "trunc")

/-- every list the model pads is padded THEN truncated to its `num_*` in the source, and every default is built afterwards -/
theorem C02_gen_init_order :
    initOrderOk ObsCfgTables.FileObservation_initEvents = true ∧ initOrderOk ObsCfgTables.FolderObservation_initEvents = true ∧
    initOrderOk ObsCfgTables.NICObservation_initEvents = true ∧ initOrderOk ObsCfgTables.PortObservation_initEvents = true ∧
    initOrderOk ObsCfgTables.LinkObservation_initEvents = true ∧ initOrderOk ObsCfgTables.LinksObservation_initEvents = true ∧
    initOrderOk ObsCfgTables.ACLObservation_initEvents = true ∧ initOrderOk ObsCfgTables.ServiceObservation_initEvents = true ∧
    initOrderOk ObsCfgTables.ApplicationObservation_initEvents = true ∧ initOrderOk ObsCfgTables.HostObservation_initEvents = true ∧
    initOrderOk ObsCfgTables.RouterObservation_initEvents = true ∧ initOrderOk ObsCfgTables.FirewallObservation_initEvents = true ∧
    initOrderOk ObsCfgTables.NodesObservation_initEvents = true ∧ initOrderOk ObsCfgTables.NestedObservation_initEvents = true ∧
    padTruncOf ObsCfgTables.HostObservation_initEvents =
      [("pad", "services", ["num_services"]), ("trunc", "services", ["num_services"]),
       ("pad", "applications", ["num_applications"]), ("trunc", "applications", ["num_applications"]),
       ("pad", "folders", ["num_folders"]), ("trunc", "folders", ["num_folders"]),
       ("pad", "nics", ["num_nics"]), ("trunc", "nics", ["num_nics"])] ∧
    padTruncOf ObsCfgTables.FolderObservation_initEvents = [("pad", "files", ["num_files"]), ("trunc", "files", ["num_files"])] ∧
    padTruncOf ObsCfgTables.RouterObservation_initEvents = [("pad", "ports", ["num_ports"]), ("trunc", "ports", ["num_ports"])] := by
  and_intros <;> rfl

/-- a reordered constructor (defaults built before the lists are final) is rejected by the checker -/
example : initOrderOk [("assign", "ports", ["ports"]), ("default", "", ["acl"]), ("default", "", ["ports"]),
                       ("pad", "ports", ["num_ports"]), ("trunc", "ports", ["num_ports"])] = false := by decide

/-- `observe` never writes THROUGH `default_observation` or `cached_obs` (no subscript store / update / pop on them or on a local
alias), and the three node classes copy the default (`{**self.default_observation}`) before the not-ON branch is returned -/
theorem C02_gen_observe_writes :
    ObsCfgTables.FileObservation_observeWrites = (false, false, "n/a") ∧ ObsCfgTables.FolderObservation_observeWrites = (false, false, "n/a") ∧
    ObsCfgTables.NICObservation_observeWrites = (false, false, "n/a") ∧ ObsCfgTables.PortObservation_observeWrites = (false, false, "n/a") ∧
    ObsCfgTables.LinkObservation_observeWrites = (false, false, "n/a") ∧ ObsCfgTables.LinksObservation_observeWrites = (false, false, "n/a") ∧
    ObsCfgTables.ACLObservation_observeWrites = (false, false, "n/a") ∧ ObsCfgTables.ServiceObservation_observeWrites = (false, false, "n/a") ∧
    ObsCfgTables.ApplicationObservation_observeWrites = (false, false, "n/a") ∧
    ObsCfgTables.HostObservation_observeWrites = (false, false, "copy") ∧ ObsCfgTables.RouterObservation_observeWrites = (false, false, "copy") ∧
    ObsCfgTables.FirewallObservation_observeWrites = (false, false, "copy") ∧
    ObsCfgTables.NodesObservation_observeWrites = (false, false, "n/a") ∧ ObsCfgTables.NestedObservation_observeWrites = (false, false, "n/a") := by
  and_intros <;> rfl

/-- `PrimaiteGymEnv`: `observation_space`, `action_space` and `_get_obs` are computed from the CURRENT agent on every access (the
agent is re-fetched from the current game, which `reset` rebuilds from the scheduler's configuration of the new episode); nothing
named `*space*` is stored on the environment; `_get_obs` flattens against the space of the same observation manager that
`observation_space` flattens. -/
theorem C02_gen_env_space_shape :
    ObsCfgTables.envAgentBody = ["return self.game.rl_agents[self._agent_name]"] ∧ ObsCfgTables.envAgentBodyDecorators = ["property"] ∧
    ObsCfgTables.envObservationSpaceBody =
      ["if self.agent.flatten_obs:", "return gymnasium.spaces.flatten_space(self.agent.observation_manager.space)", "else:",
       "return self.agent.observation_manager.space"] ∧
    ObsCfgTables.envObservationSpaceBodyDecorators = ["property"] ∧
    ObsCfgTables.envActionSpaceBody = ["return self.agent.action_manager.space"] ∧ ObsCfgTables.envActionSpaceBodyDecorators = ["property"] ∧
    ObsCfgTables.envGetObsBody =
      ["if self.agent.flatten_obs:", "unflat_space = self.agent.observation_manager.space",
       "unflat_obs = self.agent.observation_manager.current_observation", "return gymnasium.spaces.flatten(unflat_space, unflat_obs)", "else:",
       "return self.agent.observation_manager.current_observation"] ∧
    ObsCfgTables.envStoredSpaceAttrs = [] ∧
    ObsCfgTables.envResetRebuildsGame =
      ["self.game: PrimaiteGame = PrimaiteGame.from_config(cfg=self.episode_scheduler(self.episode_counter))"] := by
  and_intros <;> rfl

/-- the flatten guard (F-C02-2 repaired): `ProxyAgent.model_post_init` first builds the managers, then raises ValueError when
`flatten_obs` is set and `_has_empty_dict(space)` — a Dict without entries anywhere inside, the negation of `Space.flattenable` -/
theorem C02_gen_flatten_guard :
    ObsCfgTables.proxyAgentFlattenGuard = ["self.flatten_obs and _has_empty_dict(self.observation_manager.space)"] ∧
    ObsCfgTables.proxyAgentFlattenGuardRaises = ["Raise:ValueError"] ∧ ObsCfgTables.proxyAgentGuardAfterManagersBuilt = true ∧
    ObsCfgTables.hasEmptyDictBody =
      ["if isinstance(space, spaces.Dict):",
       "return len(space.spaces) == 0 or any((_has_empty_dict(sub) for sub in space.spaces.values()))", "return False"] := by
  and_intros <;> rfl

/-- does a construction path of an ACL observation run a de-duplication of the four lists?  A DIRECT `ACLObservation(...)` runs
`__init__` only; `ACLObservation.from_config(...)` runs `from_config` and then `__init__`. -/
def pathDedups (dedupIn : List String) (kind : String) : Bool :=
  if kind == "direct" then dedupIn.contains "__init__" else dedupIn.contains "__init__" || dedupIn.contains "from_config"

/-- **every construction site of an ACL observation goes through the de-duplication** (the six direct constructions in
`FirewallObservation.__init__`, the `from_config` call of `RouterObservation.from_config`), because it lives in `__init__` — which is
what the model does: `FirewallObs.acl` and `RouterCfg.build` both build through `AclObs.fromConfig` (= `__init__`, `dedupFirst`).
Moving the statement into `from_config` (seeded C02-e) leaves the firewall's six observations without it: this obligation fails. -/
theorem C02_gen_acl_construction_paths :
    ObsCfgTables.aclConstructionSites.all (fun s => pathDedups ObsCfgTables.aclDedupIn s.2.1) = true ∧
    ObsCfgTables.aclConstructionSites =
      [("FirewallObservation.__init__", "direct", 6), ("RouterObservation.from_config", "from_config", 1)] ∧
    ObsCfgTables.aclDedupIn = ["__init__"] := by
  and_intros <;> rfl

example : pathDedups ["from_config"] "direct" = false ∧ pathDedups ["from_config"] "from_config" = true := by decide

/-! ### objects built from a scenario's words satisfy the invariant the in-space theorems need -/

theorem allSome_cons_some {α β} {f : α → Option β} {x : α} {xs : List α} {ys : List β} (h : allSome f (x :: xs) = some ys) :
    ∃ y ys', f x = some y ∧ allSome f xs = some ys' ∧ ys = y :: ys' := by
  unfold allSome at h
  split at h
  · next y ys' hy hys => exact ⟨y, ys', hy, hys, (Option.some.inj h).symm⟩
  · cases h

theorem allSome_mem {α β} (f : α → Option β) :
    ∀ (xs : List α) (ys : List β), allSome f xs = some ys → ∀ y ∈ ys, ∃ x ∈ xs, f x = some y
  | [], _, h, y, hy => by cases h; cases hy
  | x :: xs, _, h, y, hy => by
    obtain ⟨y0, ys0, hx, hxs, rfl⟩ := allSome_cons_some h
    rcases List.mem_cons.mp hy with rfl | hy
    · exact ⟨x, List.mem_cons_self, hx⟩
    · obtain ⟨x', hx', hf⟩ := allSome_mem f xs ys0 hxs y hy
      exact ⟨x', List.mem_cons_of_mem _ hx', hf⟩

theorem allSome_length {α β} (f : α → Option β) : ∀ (xs : List α) (ys : List β), allSome f xs = some ys → ys.length = xs.length
  | [], _, h => by cases h; rfl
  | x :: xs, _, h => by
    obtain ⟨y0, ys0, _, hxs, rfl⟩ := allSome_cons_some h
    exact congrArg (· + 1) (allSome_length f xs ys0 hxs)

/-- a `monitored_traffic` dictionary has distinct protocol keys (it is a Python dict) -/
def TrafficOk (t : Option Traffic) : Prop := ((trafficOf t).map Prod.fst).Nodup
def HostCfg.TrafficOk (h : HostCfg) : Prop := Obs.TrafficOk (fld noDefault h.traffic) ∧ ∀ n ∈ h.nics, Obs.TrafficOk (fld noDefault n.traffic)
def NodesCfg.TrafficOk (c : NodesCfg) : Prop := Obs.TrafficOk (fld noDefault c.traffic) ∧ ∀ h ∈ c.hosts, h.TrafficOk

theorem trafficOk_inherit {a b : Option Traffic} (ha : TrafficOk a) (hb : TrafficOk b) : TrafficOk (inherit a b) := by
  cases a with
  | none => simpa [inherit] using hb
  | some v => simpa [inherit] using ha

theorem HostCfg.build_some {thr : ThrCfg} {c : NodesCfg} {h : HostCfg} {o : HostObs} (hb : h.build thr c = some o) :
    ∃ ns na nf nfi nn, (h.eff thr c).numServices = some ns ∧ (h.eff thr c).numApps = some na ∧
      (h.eff thr c).numFolders = some nf ∧ (h.eff thr c).numFiles = some nfi ∧ (h.eff thr c).numNics = some nn ∧
      o = h.obs (h.eff thr c) ns na nf nfi nn := by
  unfold HostCfg.build at hb
  split at hb
  · next ns na nf nfi nn h1 h2 h3 h4 h5 => exact ⟨ns, na, nf, nfi, nn, h1, h2, h3, h4, h5, (Option.some.inj hb).symm⟩
  · cases hb

/-- **every host observation built from a configuration satisfies `HostObs.Ok`** (fresh folder caches hold 0 = NONE, every
interface's traffic table has distinct protocol keys), whatever counts, lists, flags and thresholds the scenario gives -/
theorem C02_host_build_ok (thr : ThrCfg) (c : NodesCfg) (h : HostCfg) (o : HostObs) (hc : TrafficOk (fld noDefault c.traffic))
    (hh : h.TrafficOk) (hb : h.build thr c = some o) : o.Ok := by
  have ht : TrafficOk (h.eff thr c).traffic := trafficOk_inherit hh.1 hc
  have h0 : (0 : Nat) ∈ ObsEnums.FileSystemItemHealthStatus.values := by decide
  obtain ⟨ns, na, nf, nfi, nn, -, -, -, -, -, rfl⟩ := HostCfg.build_some hb
  exact ⟨forall_mem_padTo h0 (List.forall_mem_map.mpr fun _ _ => h0),
    forall_mem_padTo ht (List.forall_mem_append.mpr
      ⟨List.forall_mem_map.mpr fun nc hnc => hh.2 nc hnc, List.forall_mem_map.mpr fun _ _ => ht⟩)⟩

/-- the slot lists of a built host have exactly the effective `num_*` entries (so `space`, `default_observation` and `observe`
enumerate the same keys 1 … num) -/
theorem C02_host_build_slot_lengths (thr : ThrCfg) (c : NodesCfg) (h : HostCfg) (o : HostObs) (hb : h.build thr c = some o) :
    some o.services.length = (h.eff thr c).numServices ∧ some o.apps.length = (h.eff thr c).numApps ∧
    some o.folders.length = (h.eff thr c).numFolders ∧ some o.nics.length = (h.eff thr c).numNics ∧
    ∀ f ∈ o.folders, some f.files.length = (h.eff thr c).numFiles := by
  obtain ⟨ns, na, nf, nfi, nn, h1, h2, h3, h4, h5, rfl⟩ := HostCfg.build_some hb
  rw [h1, h2, h3, h4, h5]
  exact ⟨congrArg some (padTo_len ..), congrArg some (padTo_len ..), congrArg some (padTo_len ..), congrArg some (padTo_len ..),
    forall_mem_padTo (congrArg some List.length_replicate)
      (List.forall_mem_map.mpr fun _ _ => congrArg some (padTo_len ..))⟩

/-- every router built from a configuration carries an ACL observation whose id tables have no repeated entry -/
theorem C02_router_build_cfgOk (c : NodesCfg) (r : RouterCfg) (o : RouterObs) (hb : r.build c = some o) : o.acl.CfgOk := by
  unfold RouterCfg.build at hb
  split at hb
  · cases hb
    exact C02_acl_fromConfig_cfgOk ..
  · cases hb

theorem C02_router_build_ports (c : NodesCfg) (r : RouterCfg) (o : RouterObs) (hb : r.build c = some o) :
    some o.ports.length = (r.eff c).numPorts := by
  unfold RouterCfg.build at hb
  split at hb
  · next np _ _ _ _ _ h1 _ _ _ _ _ =>
    cases hb
    exact h1 ▸ congrArg some (padTo_len ..)
  · cases hb

theorem NodesCfg.build_some {thr : ThrCfg} {c : NodesCfg} {o : NodesObs} (hb : c.build thr = some o) :
    allSome (HostCfg.build thr c) c.hosts = some o.hosts ∧ allSome (RouterCfg.build c) c.routers = some o.routers ∧
    allSome (FirewallCfg.build c) c.firewalls = some o.firewalls := by
  unfold NodesCfg.build at hb
  split at hb
  · split at hb
    · next h1 h2 h3 => cases hb; exact ⟨h1, h2, h3⟩
    · cases hb
  · cases hb

theorem C02_nodes_build_ok (thr : ThrCfg) (c : NodesCfg) (o : NodesObs) (hw : c.TrafficOk) (hb : c.build thr = some o) : o.Ok := by
  intro host hmem
  obtain ⟨hc, hmem', hb'⟩ := allSome_mem _ _ _ (NodesCfg.build_some hb).1 host hmem
  exact C02_host_build_ok thr c hc host hw.1 (hw.2 hc hmem') hb'

/-- everything `NodesObservation.from_config` builds satisfies the construction invariant of the ACL-carrying parts -/
theorem C02_nodes_build_cfgOk (thr : ThrCfg) (c : NodesCfg) (o : NodesObs) (hb : c.build thr = some o) : o.CfgOk := by
  intro r hmem
  obtain ⟨rc, _, hb'⟩ := allSome_mem _ _ _ (NodesCfg.build_some hb).2.1 r hmem
  exact C02_router_build_cfgOk c rc r hb'

mutual
/-- what a scenario may say: protocol keys of every `monitored_traffic` distinct, labels of a `custom` space distinct (both are
Python dictionaries / YAML mappings) -/
def RawObs.Wf : RawObs → Prop
  | .nodes c => c.TrafficOk
  | .nested cs => (cs.map Prod.fst).Nodup ∧ RawObs.WfL cs
  | _ => True
def RawObs.WfL : List (String × RawObs) → Prop
  | [] => True
  | c :: cs => c.2.Wf ∧ RawObs.WfL cs
end

theorem RawObs.buildL_cons_some {thr : ThrCfg} {c : String × RawObs} {cs : List (String × RawObs)} {os : List (String × Obs)}
    (h : RawObs.buildL thr (c :: cs) = some os) :
    ∃ o os', c.2.build thr = some o ∧ RawObs.buildL thr cs = some os' ∧ os = (c.1, o) :: os' := by
  unfold RawObs.buildL at h
  split at h
  · next o os' h1 h2 => exact ⟨o, os', h1, h2, (Option.some.inj h).symm⟩
  · cases h

theorem buildL_labels (thr : ThrCfg) : ∀ (cs : List (String × RawObs)) (os : List (String × Obs)),
    RawObs.buildL thr cs = some os → os.map Prod.fst = cs.map Prod.fst
  | [], _, h => Option.some.inj h ▸ rfl
  | c :: cs, _, h => by
    obtain ⟨o, os', _, h2, rfl⟩ := RawObs.buildL_cons_some h
    exact congrArg (c.1 :: ·) (buildL_labels thr cs os' h2)

mutual
/-- **every observation object an agent gets from its scenario section satisfies `Obs.Ok`** — arbitrarily nested -/
theorem C02_raw_build_ok (thr : ThrCfg) : ∀ (r : RawObs) (o : Obs), r.Wf → r.build thr = some o → o.Ok
  | .null, _, _, hb => Option.some.inj hb ▸ trivial
  | .links _, _, _, hb => Option.some.inj hb ▸ trivial
  | .nodes c, _, hw, hb => by
    obtain ⟨n, hn, rfl⟩ := Option.map_eq_some_iff.mp hb
    exact C02_nodes_build_ok thr c n hw hn
  | .nested cs, _, hw, hb => by
    obtain ⟨os, hos, rfl⟩ := Option.map_eq_some_iff.mp hb
    exact ⟨buildL_labels thr cs os hos ▸ hw.1, C02_raw_buildL_ok thr cs os hw.2 hos⟩
theorem C02_raw_buildL_ok (thr : ThrCfg) : ∀ (cs : List (String × RawObs)) (os : List (String × Obs)),
    RawObs.WfL cs → RawObs.buildL thr cs = some os → Obs.OkL os
  | [], _, _, hb => Option.some.inj hb ▸ trivial
  | c :: cs, _, hw, hb => by
    obtain ⟨o, os', h1, h2, rfl⟩ := RawObs.buildL_cons_some hb
    exact ⟨C02_raw_build_ok thr c.2 o hw.1 h1, C02_raw_buildL_ok thr cs os' hw.2 h2⟩
end

mutual
theorem C02_raw_build_cfgOk (thr : ThrCfg) : ∀ (r : RawObs) (o : Obs), r.build thr = some o → o.CfgOk
  | .null, _, hb => Option.some.inj hb ▸ trivial
  | .links _, _, hb => Option.some.inj hb ▸ trivial
  | .nodes c, _, hb => by
    obtain ⟨n, hn, rfl⟩ := Option.map_eq_some_iff.mp hb
    exact C02_nodes_build_cfgOk thr c n hn
  | .nested cs, _, hb => by
    obtain ⟨os, hos, rfl⟩ := Option.map_eq_some_iff.mp hb
    exact C02_raw_buildL_cfgOk thr cs os hos
theorem C02_raw_buildL_cfgOk (thr : ThrCfg) : ∀ (cs : List (String × RawObs)) (os : List (String × Obs)),
    RawObs.buildL thr cs = some os → Obs.CfgOkL os
  | [], _, hb => Option.some.inj hb ▸ trivial
  | c :: cs, _, hb => by
    obtain ⟨o, os', h1, h2, rfl⟩ := RawObs.buildL_cons_some hb
    exact ⟨C02_raw_build_cfgOk thr c.2 o h1, C02_raw_buildL_cfgOk thr cs os' h2⟩
end

/-- the default observation of everything built from a scenario is a member of the declared space -/
theorem C02_built_default_in_space (thr : ThrCfg) (r : RawObs) (o : Obs) (hw : r.Wf) (hb : r.build thr = some o) :
    contains o.space o.default = true :=
  C02_default_in_space o (C02_raw_build_ok thr r o hw hb)

/-- **C02 from the scenario's words**: for the object built from ANY accepted observation_space section, every observation reported
along any sequence of well-formed states is a member of the one space declared by that object -/
theorem C02_built_run_in_space (thr : ThrCfg) (r : RawObs) (o : Obs) (hw : r.Wf) (hb : r.build thr = some o)
    (sts : List SimState) (h : ∀ st ∈ sts, WfState st) : ∀ v ∈ o.run sts, contains o.space v = true :=
  C02_run_in_space sts o (C02_raw_build_ok thr r o hw hb) (C02_raw_build_cfgOk thr r o hb) h

/-! ### gymnasium `flatten`: length and range are functions of the space only -/

theorem oneHot_spec (n i : Nat) : (oneHot n i).length = n ∧ ∀ b ∈ oneHot n i, b ≤ 1 := by
  refine ⟨by simp [oneHot], ?_⟩
  intro b hb
  simp only [oneHot, List.mem_map] at hb
  obtain ⟨j, _, rfl⟩ := hb
  split <;> omega

/-- the statement without any hypothesis on the space -/
def C02_FullFlatten : Prop :=
  ∀ (s : Space) (v : Val), contains s v = true → ∃ x, flatten s v = some x ∧ x.length = flatDim s ∧ ∀ b ∈ x, b ≤ 1

mutual
/-- **a member of a space without empty sub-dictionaries flattens, without raising, to a 0/1 vector whose length is `flatDim space`**
— the length never depends on the observation, only on the space (so it equals `flatten_space(space).shape[0]` in every step).
`flattenable` excludes exactly the spaces gymnasium refuses; PrimAITE rejects a flattened agent with such a space when it is
built (F-C02-2, `EpisodeCfg.accepts`), so at environment level the hypothesis is discharged by acceptance. -/
theorem C02_flatten_length_partial : ∀ (s : Space) (v : Val), s.flattenable = true → contains s v = true →
    ∃ x, flatten s v = some x ∧ x.length = flatDim s ∧ ∀ b ∈ x, b ≤ 1
  | .discrete n, .int i, _, _ => ⟨oneHot n i, by simp [flatten], by simp [flatDim, (oneHot_spec n i).1], (oneHot_spec n i).2⟩
  | .dict ss, .dict vs, hf, h => by
    simp only [contains, Bool.and_eq_true] at h
    simp only [Space.flattenable, Bool.and_eq_true, Bool.not_eq_true'] at hf
    obtain ⟨x, hx, hl, hb⟩ := C02_flattenL_length ss vs hf.2 h.2
    exact ⟨x, by simp [flatten, hf.1, hx], by simp [flatDim, hl], hb⟩
  | .discrete _, .dict _, _, h => nomatch h
  | .discrete _, .raised, _, h => nomatch h
  | .dict _, .int _, _, h => nomatch h
  | .dict _, .raised, _, h => nomatch h
theorem C02_flattenL_length : ∀ (ss : List (Key × Space)) (vs : List (Key × Val)), flattenableL ss = true → containsAll ss vs = true →
    ∃ x, flattenL ss vs = some x ∧ x.length = flatDimL ss ∧ ∀ b ∈ x, b ≤ 1
  | [], _, _, _ => ⟨[], by simp [flattenL], by simp [flatDimL], by simp⟩
  | p :: rest, vs, hf, h => by
    simp only [containsAll, Bool.and_eq_true] at h
    simp only [flattenableL, Bool.and_eq_true] at hf
    cases hl : lookupK p.1 vs with
    | none => simp [hl] at h
    | some v =>
      simp only [hl] at h
      obtain ⟨a, ha, hla, hba⟩ := C02_flatten_length_partial p.2 v hf.1 h.1
      obtain ⟨b, hb, hlb, hbb⟩ := C02_flattenL_length rest vs hf.2 h.2
      exact ⟨a ++ b, by simp [flattenL, hl, ha, hb], by simp [flatDimL, hla, hlb], List.forall_mem_append.mpr ⟨hba, hbb⟩⟩
end

/-- gymnasium's limit (what F-C02-2 was about): an observation space with an empty sub-dictionary (`num_rules: 0`, a monitored protocol without ports, no link references,
a nodes component without nodes) has members, and gymnasium cannot flatten them -/
theorem C02_flatten_counterexample : ¬ C02_FullFlatten := by
  intro h
  obtain ⟨x, hx, _⟩ := h (.dict [(.s "ACL", .dict [])]) (.dict [(.s "ACL", .dict [])]) (by decide)
  simp [flatten, flattenL, lookupK] at hx

example : (Space.dict [(.s "a", .discrete 3), (.s "b", .dict [(.n 1, .discrete 2)])]).flattenable = true ∧
    flatten (.dict [(.s "a", .discrete 3), (.s "b", .dict [(.n 1, .discrete 2)])]) (.dict [(.s "b", .dict [(.n 1, .int 1)]), (.s "a", .int 0)]) =
      some [1, 0, 0, 0, 1] := by decide

/-! ### the environment: every observation handed out is in the space declared for ITS episode -/

/-- within an episode the declared space never changes (observing only moves the objects' memory) -/
theorem C02_env_space_within_episode (e : EpisodeCfg) (o : Obs) (st : SimState) :
    e.space (o.next st) = e.space o := by
  simp [EpisodeCfg.space, C02_space_const]

theorem EpisodeCfg.getObs_next (e : EpisodeCfg) (o : Obs) (st : SimState) : e.getObs (o.next st) = e.getObs o := by
  funext v
  unfold EpisodeCfg.getObs
  rw [C02_space_const]

theorem EpisodeCfg.run_eq_map (e : EpisodeCfg) : ∀ (sts : List SimState) (o : Obs), e.run o sts = (o.run sts).map (e.getObs o)
  | [], _ => rfl
  | st :: rest, o => by
    rw [EpisodeCfg.run, Obs.run, List.map_cons, EpisodeCfg.run_eq_map e rest, e.getObs_next]

theorem env_getObs_in_space (e : EpisodeCfg) (o : Obs) (v : Val) (hacc : e.accepts o = true)
    (h : contains o.space v = true) : (e.space o).has (e.getObs o v) = true := by
  unfold EpisodeCfg.space EpisodeCfg.getObs
  cases hf : e.flat with
  | false => simpa [ApiSpace.has] using h
  | true =>
    have hfl : o.space.flattenable = true := by simpa [EpisodeCfg.accepts, hf] using hacc
    obtain ⟨x, hx, hl, hb⟩ := C02_flatten_length_partial o.space v hfl h
    simp only [hx, hfl, if_true, ApiSpace.has, Bool.and_eq_true, beq_iff_eq, List.all_eq_true, decide_eq_true_eq]
    exact ⟨hl, hb⟩

/-- nested or flattened, every observation of an episode is a member of the space `observation_space` declares during that episode
(read after its reset or at any later moment of it), for any object satisfying the construction invariants that the flatten guard
accepts -/
theorem C02_env_obs_in_declared_space (e : EpisodeCfg) : ∀ (sts : List SimState) (o : Obs), o.Ok → o.CfgOk →
    e.accepts o = true → (∀ st ∈ sts, WfState st) → ∀ a ∈ e.run o sts, (e.space o).has a = true := by
  intro sts o ok c hacc h a ha
  rw [EpisodeCfg.run_eq_map] at ha
  obtain ⟨v, hv, rfl⟩ := List.mem_map.mp ha
  exact env_getObs_in_space e o v hacc (C02_run_in_space sts o ok c h v hv)

/-- what `buildV` adds to `build`: the constructors' threshold validation passed on every constructed component -/
theorem buildV_some (thr : ThrCfg) (r : RawObs) (o : Obs) (h : r.buildV thr = some o) :
    r.build thr = some o ∧ r.ctorThrValid thr = true := by
  unfold RawObs.buildV at h
  split at h
  · next hr =>
    split at h
    · next hv => cases h; exact ⟨hr, hv⟩
    · cases h
  · cases h

theorem EpisodeCfg.build_some {e : EpisodeCfg} {o : Obs} (hb : e.build = some o) :
    e.raw.buildV e.thr = some o ∧ e.accepts o = true := by
  unfold EpisodeCfg.build at hb
  split at hb
  · next hv =>
    split at hb
    · next hacc => cases hb; exact ⟨hv, hacc⟩
    · cases hb
  · cases hb

/-- **C02 at environment level, from the episode's configuration alone** (full: F-6 and F-C02-2 are repaired): whatever an
ACCEPTED configuration says (`EpisodeCfg.build` = observation schemas, constructors and the flatten guard of `ProxyAgent`), nested or
flattened, every observation handed out during the episode is a member of the space declared during that episode.  The only
hypotheses left: dictionary keys of the scenario are distinct (`Wf`, true of YAML mappings) and the states are well-formed. -/
theorem C02_env_episode_in_declared_space (e : EpisodeCfg) (o : Obs) (hw : e.raw.Wf) (hb : e.build = some o)
    (sts : List SimState) (h : ∀ st ∈ sts, WfState st) : ∀ a ∈ e.run o sts, (e.space o).has a = true := by
  obtain ⟨hv, hacc⟩ := EpisodeCfg.build_some hb
  have hr := (buildV_some e.thr e.raw o hv).1
  exact C02_env_obs_in_declared_space e sts o (C02_raw_build_ok e.thr e.raw o hw hr) (C02_raw_build_cfgOk e.thr e.raw o hr) hacc h

/-- a flattened agent's configuration with an empty sub-dictionary is REJECTED when the agent is built (without the guard it fails later, inside
numpy); the same section with `flatten_obs: false` is accepted -/
theorem C02_flatten_guard_rejects :
    (EpisodeCfg.build { raw := .nested [("LINKS", .links [])], thr := none, flat := true }).isNone = true ∧
    (EpisodeCfg.build { raw := .nested [("LINKS", .links [])], thr := none, flat := false }).isSome = true := by
  decide

/-- **constant scenario ⇒ one space in every episode**: the declared space is determined by the episode's configuration, so a
schedule that hands out the same configuration every time declares the same space every time (and a schedule that does not may
legitimately declare a different one — each observation is then a member of the space of ITS episode, `C02_env_episode_in_declared_space`) -/
theorem C02_env_space_const (sched : Nat → EpisodeCfg) (hconst : ∀ i, sched i = sched 0) (i j : Nat) (oi oj : Obs)
    (hi : (sched i).raw.build (sched i).thr = some oi) (hj : (sched j).raw.build (sched j).thr = some oj) :
    (sched i).space oi = (sched j).space oj := by
  rw [hconst i] at hi ⊢
  rw [hconst j] at hj ⊢
  rw [hi] at hj
  injection hj with hj
  rw [hj]

/-! #### non-vacuity: a scenario section with per-host overrides, lists shorter and longer than their counts, a router with an ACL
sub-configuration; the built object, its default, an observation, its flattening -/

def exNodesCfg : NodesCfg :=
  { hosts := [{ hostname := "pc", services := [{ name := "dns" }, { name := "web" }, { name := "ftp" }], numServices := some (some 2),
                folders := [{ name := "root", files := [{ name := "a.txt" }] }], nics := [{ num := 2, traffic := some (some [("tcp", [80])]) }],
                appScan := some (some false) }],
    routers := [{ hostname := "r1", portIds := some (some [1, 2, 3]), acl := some (some { numRules := some (some 2) }) }],
    numServices := some (some 1), numApps := some (some 1), numFolders := some (some 2), numFiles := some (some 2), numNics := some (some 2),
    includeNmne := some (some true), numAccess := some (some true), svcScan := some false, users := some (some false),
    traffic := some (some [("icmp", [])]),
    numPorts := some (some 2), ips := some (some ["10.0.0.1", "10.0.0.1"]), wcs := some (some []), ports := some (some [80]), protos := some (some ["tcp"]),
    numRules := some (some 4) }

example : (RawObs.nodes exNodesCfg).Wf ∧ (∃ o, (RawObs.nodes exNodesCfg).build none = some o ∧
    contains o.space o.default = true ∧ contains o.space (o.val exState) = true ∧
    o.space.flattenable = true ∧ (∃ x, flatten o.space (o.val exState) = some x ∧ x.length = flatDim o.space)) := by
  have hw : (RawObs.nodes exNodesCfg).Wf :=
    ⟨by unfold TrafficOk; decide, List.forall_mem_singleton.mpr
      ⟨by unfold TrafficOk; decide, List.forall_mem_singleton.mpr (by unfold TrafficOk; decide)⟩⟩
  have key : ∀ o, (RawObs.nodes exNodesCfg).build none = some o → o.space.flattenable = true →
      contains o.space o.default = true ∧ contains o.space (o.val exState) = true ∧ o.space.flattenable = true ∧
      ∃ x, flatten o.space (o.val exState) = some x ∧ x.length = flatDim o.space := by
    intro o hb hf
    have hc := C02_obs_in_space exState exState_wf o (C02_raw_build_ok none _ o hw hb) (C02_raw_build_cfgOk none _ o hb)
    obtain ⟨x, hx, hl, _⟩ := C02_flatten_length_partial _ _ hf hc
    exact ⟨C02_built_default_in_space none _ o hw hb, hc, hf, x, hx, hl⟩
  exact ⟨hw, _, rfl, key _ rfl (by decide +kernel)⟩

end Primaite.Obs
