/-
C09 — "all components of a node that is not on read as the zero/default encoding": one theorem family for EVERY node kind (host,
router, firewall) and EVERY power state other than ON (OFF, BOOTING, SHUTTING_DOWN — the regenerated `NodeOperatingState`), on the
code side (`observe`), through `describe_state()` of any ground truth (whatever ACL rules, port states, sessions, software the
objects hold), and for whole `NodesObservation`s; tied to the source by the shape of each `observe`'s power gate.
-/
import PrimaiteModel.Props.C09
import PrimaiteModel.Gen.ObsCfgTables
namespace Primaite.Obs
open Primaite.Gen
open Primaite.Gen.ObsEnums

/-- **the power gate of every node observation compares with ON** (`is_on = state["operating_state"] == 1`, branch `if not is_on:` →
a copy of the default; every component's `observe` is called only in the ON branch; the host alone then overwrites
`operating_status`) — not with OFF: a test `== OFF` would let BOOTING and SHUTTING_DOWN through (seeded C09-e) -/
theorem C09_gen_on_gate :
    ObsCfgTables.HostObservation_onGate =
      ("S['operating_state'] == 1", "not is_on", "copy-default", true, ["obs['operating_status'] = node_state['operating_state']", "return obs"]) ∧
    ObsCfgTables.RouterObservation_onGate = ("S['operating_state'] == 1", "not is_on", "copy-default", true, ["return obs"]) ∧
    ObsCfgTables.FirewallObservation_onGate = ("S['operating_state'] == 1", "not is_on", "copy-default", true, ["return obs"]) ∧
    NodeOperatingState.T.ON.value = nodeOn := by
  and_intros <;> rfl

/-- the states a node can be in besides ON: OFF, BOOTING, SHUTTING_DOWN (and nothing else) -/
theorem C09_not_on_states :
    NodeOperatingState.values.filter (fun v => decide (v ≠ nodeOn)) =
      [NodeOperatingState.T.OFF.value, NodeOperatingState.T.BOOTING.value, NodeOperatingState.T.SHUTTING_DOWN.value] := by
  decide

/-- a host's not-ON value IS its default observation except for the one leaf `operating_status`, which reports the power code -/
theorem C09_host_off_is_default_but_power (o : HostObs) (op : Nat) :
    ∃ rest, o.default = .dict ((.s "operating_status", .int 0) :: rest) ∧ o.offVal op = .dict ((.s "operating_status", .int op) :: rest) :=
  ⟨_, rfl, rfl⟩

/-- **code side, every node kind, every state other than ON**: the observation is the default encoding — for routers and firewalls
entirely (ACL slots, ports, sessions), for hosts every component leaf, with `operating_status` = the power code -/
theorem C09_not_on_family (st : SimState) (op : Nat) (hne : op ≠ nodeOn) :
    (∀ (o : HostObs) (n : NodeState), o.find st = some n → n.op = op → o.val st = o.offVal op) ∧
    (∀ (o : RouterObs) (h : String) (n : NodeState), o.wh = some h → st.node h = some n → n.op = op → o.val st = o.default) ∧
    (∀ (o : FirewallObs) (n : NodeState), st.node o.wh = some n → n.op = op → o.val st = o.default) := by
  exact ⟨fun o n hf hop => by subst hop; exact (C09_not_on_default o st n hf hne).1,
    fun o h n hw hn hop => C09_not_on_default_router o st h n hw hn (hop ▸ hne),
    fun o n hn hop => C09_not_on_default_firewall o st n hn (hop ▸ hne)⟩

/-- … in particular for each of the three transitional / off states of the regenerated enumeration -/
theorem C09_not_on_each_state (st : SimState) :
    ∀ op ∈ [NodeOperatingState.T.OFF.value, NodeOperatingState.T.BOOTING.value, NodeOperatingState.T.SHUTTING_DOWN.value],
      (∀ (o : RouterObs) (h : String) (n : NodeState), o.wh = some h → st.node h = some n → n.op = op → o.val st = o.default) ∧
      (∀ (o : FirewallObs) (n : NodeState), st.node o.wh = some n → n.op = op → o.val st = o.default) ∧
      (∀ (o : HostObs) (n : NodeState), o.find st = some n → n.op = op → o.val st = o.offVal op) := by
  intro op hop
  rw [← C09_not_on_states] at hop
  obtain ⟨hh, hr, hf⟩ := C09_not_on_family st op (of_decide_eq_true (List.mem_filter.mp hop).2)
  exact ⟨hr, hf, hh⟩

/-! ### through `describe_state()` of ANY ground truth: whatever the objects hold -/

/-- **ground truth, router**: a router object that is not ON reads as the default encoding whatever rules its ACL holds, whatever
state its interfaces are in, whoever is logged in -/
theorem C09_not_on_truth_router (o : RouterObs) (t : Truth) (h : String) (n : NodeT) (hw : o.wh = some h) (hn : t.node h = some n)
    (hop : n.op ≠ 1) : o.val (describe t) = o.default ∧ o.spec t = o.default :=
  ⟨C09_not_on_default_router o (describe t) h _ hw (describe_node_some hn) hop, by simp [RouterObs.spec, hw, hn, hop]⟩

/-- **ground truth, firewall** (its six ACLs, three ports, sessions) -/
theorem C09_not_on_truth_firewall (o : FirewallObs) (t : Truth) (n : NodeT) (hn : t.node o.wh = some n) (hop : n.op ≠ 1) :
    o.val (describe t) = o.default ∧ o.spec t = o.default :=
  ⟨C09_not_on_default_firewall o (describe t) _ (describe_node_some hn) hop, by simp [FirewallObs.spec, hn, hop]⟩

/-- **ground truth, host** (services, applications, folders, files, interfaces, counters, sessions) -/
theorem C09_not_on_truth_host (o : HostObs) (t : Truth) (h : String) (n : NodeT) (hw : o.wh = some h) (hn : t.node h = some n)
    (hop : n.op ≠ 1) : o.val (describe t) = o.offVal n.op ∧ o.spec t = o.offVal n.op := by
  have hd : o.find (describe t) = some (describeNode n).2 := by
    unfold HostObs.find; rw [hw]; exact describe_node_some hn
  exact ⟨(C09_not_on_default o (describe t) _ hd hop).1, by simp [HostObs.spec, hw, hn, hop]⟩

/-- every router and firewall part of a nodes observation whose node is present and not ON is its default (a host part is its
default with the power code: `C09_not_on_family`) -/
theorem C09_nodes_not_on (o : NodesObs) (st : SimState)
    (hr : ∀ r ∈ o.routers, ∃ h n, r.wh = some h ∧ st.node h = some n ∧ n.op ≠ nodeOn)
    (hf : ∀ f ∈ o.firewalls, ∃ n, st.node f.wh = some n ∧ n.op ≠ nodeOn) :
    o.routers.map (fun r => r.val st) = o.routers.map RouterObs.default ∧
    o.firewalls.map (fun f => f.val st) = o.firewalls.map FirewallObs.default := by
  refine ⟨List.map_congr_left (fun r hmem => ?_), List.map_congr_left (fun f hmem => ?_)⟩
  · obtain ⟨h, n, hw, hn, hop⟩ := hr r hmem
    exact C09_not_on_default_router r st h n hw hn hop
  · obtain ⟨n, hn, hop⟩ := hf f hmem
    exact C09_not_on_default_firewall f st n hn hop

/-! #### non-vacuity: a SHUTTING_DOWN router that holds a rule, an enabled port and a session reads as default; the same router ON does not -/

def exRouter : RouterObs :=
  { wh := some "r", ports := [{ wh := some ("r", 1) }], acl := AclObs.fromConfig (some ("r", "acl")) 2 ["10.0.0.1"] [] [80] ["tcp"], users := true }

def exRouterTruth (op : Nat) : Truth :=
  { nodes := [{ hostname := "r", op := op, services := [], apps := [], folders := [], deletedFolders := [],
                nics := [{ num := 1, enabled := true, speed := 100, icmp := none, ports := [], capturing := false, nmneIn := 0, nmneOut := 0 }],
                numCreations := 0, numDeletions := 0, hasUsm := true, localUser := some "admin", remoteSessions := 2,
                acls := [("acl", [some { action := 2, proto := some "tcp", srcIp := some "10.0.0.1", srcWc := none, srcPort := some 80,
                                         dstIp := none, dstWc := none, dstPort := none }, none])] }],
    links := [] }

def probeLocalLogin : Val → Option Nat
  | .dict kvs =>
    match lookupK (.s "users") kvs with
    | some (.dict us) => (match lookupK (.s "local_login") us with | some (.int i) => some i | _ => none)
    | _ => none
  | _ => none

example : exRouter.val (describe (exRouterTruth 4)) = exRouter.default ∧ exRouter.val (describe (exRouterTruth 3)) = exRouter.default ∧
    exRouter.val (describe (exRouterTruth 2)) = exRouter.default ∧ exRouter.val (describe (exRouterTruth 1)) ≠ exRouter.default := by
  refine ⟨(C09_not_on_truth_router exRouter _ "r" _ rfl rfl (by decide)).1, (C09_not_on_truth_router exRouter _ "r" _ rfl rfl (by decide)).1,
          (C09_not_on_truth_router exRouter _ "r" _ rfl rfl (by decide)).1, ?_⟩
  intro h
  have := congrArg probeLocalLogin h
  revert this
  decide

end Primaite.Obs
