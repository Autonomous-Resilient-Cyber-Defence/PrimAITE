/-
Property C15, the callers outside the file-system module (`Gen/FileSystemCallers.lean`, regenerated on every run from
every module of src/primaite outside simulator/file_system).

The theorems of C15 are about the translated methods of FileSystem / Folder / File.  Code elsewhere (DatabaseService
backup / restore, the FTP services, HostNode configuration, the C2 applications, the web server …) reaches a file system
through the Python API.  What is checked here:
  * nobody outside the module writes the dictionaries, the route managers or a `deleted` flag directly
    (`C15_gen_callers_no_direct_dict_write`), so every structural change from outside is a call of a method;
  * every method so called is one that `harness/extract/fsxlate.py` translates (`C15_gen_callers_use_translated_methods`),
    so `Inv` is preserved by it (C15Api);
  * the only outside writers of the per-tick counters are the two statements of the ENCRYPT branch of
    `DatabaseService._process_sql` (`C15_gen_callers_counter_writers`); a new one breaks the build.
-/
import PrimaiteModel.Gen.FileSystemCallers
import PrimaiteModel.Props.C15Create
import PrimaiteModel.Props.C15Disjoint
namespace Primaite.FileSystem
open Gen.FileSystemMethods

/-- `Class.method` for every method of the file-system module that `fsxlate.py` translates (its table `TRANSLATED`). -/
def translatedMutators : List String :=
  ["FileSystem.create_file", "FileSystem.create_folder", "FileSystem.delete_file", "FileSystem.delete_folder",
   "FileSystem.restore_file", "FileSystem.restore_folder", "FileSystem.copy_file", "FileSystem.move_file",
   "FileSystem.delete_file_by_id", "FileSystem.delete_folder_by_id", "FileSystem.get_file", "FileSystem.get_folder",
   "FileSystem.get_folder_by_id", "FileSystem.access_file", "FileSystem.pre_timestep", "FileSystem.apply_timestep",
   "FileSystem.setup_for_episode", "FileSystem.describe_state", "FileSystem.scan", "FileSystem.reveal_to_red",
   "Folder.add_file", "Folder.restore_file", "Folder.remove_file", "Folder.remove_file_by_id", "Folder.remove_file_by_name",
   "Folder.remove_all_files", "Folder.get_file", "Folder.get_file_by_id", "Folder.delete", "Folder.restore",
   "Folder.check_hash", "Folder.apply_timestep", "Folder.describe_state",
   "File.delete", "File.restore", "File.corrupt", "File.repair", "File.scan", "File.check_hash"]

/-- Nothing outside the module writes `files` / `deleted_files` / `folders` / `deleted_folders`, a route manager or a
`deleted` flag of a file-system object. -/
theorem C15_gen_callers_no_direct_dict_write : Gen.FileSystemCallers.directDictWrites = [] := rfl

/-- Every method of a file system / folder / file that outside code calls is a translated one. -/
theorem C15_gen_callers_use_translated_methods :
    ∀ m ∈ Gen.FileSystemCallers.mutatorsUsed, m ∈ translatedMutators := by
  simp only [Gen.FileSystemCallers.mutatorsUsed, List.forall_mem_cons]
  simp only [translatedMutators, mem_cons_ite, List.not_mem_nil, String.reduceEq, ↓reduceIte, and_self, false_implies,
    implies_true]

/-- The only outside writers of the per-tick counters: the two statements of the ENCRYPT branch. -/
theorem C15_gen_callers_counter_writers : Gen.FileSystemCallers.directCounterWrites =
    [ ("simulator/system/services/database/database_service.py", "DatabaseService._process_sql", "self.file_system.num_file_creations += 1"),
      ("simulator/system/services/database/database_service.py", "DatabaseService._process_sql", "self.file_system.num_file_deletions += 1") ] := rfl

theorem C15_gen_callers_nonempty : Gen.FileSystemCallers.callSites ≠ [] := List.cons_ne_nil _ _

/-- The methods outside code calls are exactly these six or fewer: four structural ones (below) and two that the extractor checks to be
structurally inert. A caller that starts using another method (move_file, add_file, a Folder-level mutator …) breaks this until the
theorem below is extended to it. -/
theorem C15_gen_callers_covered :
    ∀ m ∈ Gen.FileSystemCallers.mutatorsUsed,
      m ∈ ["FileSystem.create_file", "FileSystem.create_folder", "FileSystem.delete_file", "FileSystem.copy_file",
           "FileSystem.scan", "FileSystem.reveal_to_red"] := by
  simp only [Gen.FileSystemCallers.mutatorsUsed, List.forall_mem_cons]
  simp only [mem_cons_ite, List.not_mem_nil, String.reduceEq, ↓reduceIte, and_self, false_implies, implies_true]

/-- **Each structural method that outside code calls, AS TRANSLATED FROM THE SOURCE, keeps the invariant** — for every state satisfying
`Inv` and all arguments (also when `create_file` raises: the state at the raise). -/
theorem C15_callers_methods_preserve_inv {s : State} (h : Inv s) (F x G : Name) (force : Bool) :
    Inv (fsCreateFile s x F force).1 ∧ Inv (fsCreateFolder s F).1 ∧ Inv (fsDeleteFile s F x).1 ∧ Inv (fsCopyFile s F x G).1 := by
  refine ⟨?_, ?_, ?_, ?_⟩
  · rw [(C15_gen_create_file h F x force).1]; exact (change_stepApi h (.createFile F x force) (by simp)).inv h
  · rw [C15_gen_create_folder]; exact (change_createFolder h F).inv h
  · rw [(C15_gen_fs_delete_restore_file s F x).1]; exact (change_deleteFile h F x).inv h
  · rw [(C15_gen_copy_file s F x G).1]; exact (change_stepApi h (.copyFile F x G) (by simp)).inv h

/-- A call a service / application makes on a file system (the four structural methods of the inventory). -/
inductive CallerCall
  | createFile (F x : Name) (force : Bool)
  | createFolder (F : Name)
  | deleteFile (F x : Name)
  | copyFile (F x G : Name)
deriving DecidableEq, Repr

/-- Its effect on the structure: the TRANSLATED method (an exception raised by `create_file` is caught or propagates; the state stays). -/
def callerStep (s : State) : CallerCall → State
  | .createFile F x force => (fsCreateFile s x F force).1
  | .createFolder F => (fsCreateFolder s F).1
  | .deleteFile F x => (fsDeleteFile s F x).1
  | .copyFile F x G => (fsCopyFile s F x G).1

/-- **Whatever sequence of such calls a caller makes** (restore_backup = `[deleteFile downloads db, …, deleteFile database db, copyFile
downloads db database]`, FTP store = `[createFile F x false]`, …), from any state satisfying `Inv`: `Inv` afterwards. -/
theorem C15_callers_any_sequence_preserves_inv (cs : List CallerCall) {s : State} (h : Inv s) : Inv (cs.foldl callerStep s) := by
  induction cs generalizing s with
  | nil => exact h
  | cons c cs ih =>
    apply ih
    cases c with
    | createFile F x force => exact (C15_callers_methods_preserve_inv h F x x force).1
    | createFolder F => exact (C15_callers_methods_preserve_inv h F F F false).2.1
    | deleteFile F x => exact (C15_callers_methods_preserve_inv h F x x false).2.2.1
    | copyFile F x G => exact (C15_callers_methods_preserve_inv h F x G false).2.2.2

/-- Non-vacuity: the fresh file system satisfies `Inv`; restore_backup's call sequence on it. -/
example : Inv ([CallerCall.createFile "database" "database.db" false, .createFile "downloads" "database.db" false,
    .deleteFile "database" "database.db", .copyFile "downloads" "database.db" "database"].foldl callerStep (init none)) :=
  C15_callers_any_sequence_preserves_inv _ (C15_any_inv_reachable_full none []).1

end Primaite.FileSystem
