/-
C14 — the timed processes against lifecycle and power.

Which of the timed processes keep counting while the service is STOPPED / PAUSED / DISABLED / RESTARTING, the application
CLOSED, the node SHUTTING_DOWN / OFF / BOOTING, the folder deleted? The code's answer, proved here about the model for every
state (and tied to the source by `C14_gen_tick_bodies`, `C14_gen_inventory` and the rig family `lifecycle-timer`):

  process          counts in a timestep iff                                                  theorem
  fix              node ON after its power phase — in EVERY operating state but INSTALLING   C14_timer_fix
  install          node ON ∧ application INSTALLING                                          C14_timer_install
  folder scan      node ON ∧ folder not deleted                                              C14_timer_folder
  folder restore   node ON ∧ folder not deleted                                              C14_timer_folder
  node scan        node ON                                                                   C14_timer_node_scan

and "exactly the configured duration" for every interleaving of lifecycle / power operations with the countdown:
fix `C14_fix_exact`, folder scan `C14_folder_scan_exact`, folder restore `C14_folder_restore_*`, node scan `C14_node_scan_exact`
(Props/C14.lean: every continuation, lifecycle and power operations included) and installation `C14_install_exact`.

Also here: the reveal-to-red countdown, which shares a block of `apply_timestep` with the whole-node scan, touches nothing else
(`C14_red_scan_independent`); a folder's actual health changes only through the enumerated events
(`C14_folder_actual_only_by_event`); what the file and file-system requests answer (`C14_resp_*`).
-/
import PrimaiteModel.Props.C14
namespace Primaite.Health

/-- **C14 timer table, fix.** A FIXING item with `c` on its countdown, in ANY operating state other than INSTALLING (RUNNING,
STOPPED, PAUSED, DISABLED, RESTARTING, CLOSED alike): a timestep moves the countdown iff the node is ON after its power phase;
then it completes (`c ≤ 1`: GOOD) or decrements. A node that is OFF, BOOTING or SHUTTING_DOWN freezes it. -/
theorem C14_timer_fix (n : Node) (x : Sw) (c : Int) (hf : x.Fixing c) :
    (n.powerPhase.power = .on →
      (c ≤ 1 → (tickEff n x).actual = .good) ∧ (1 < c → (tickEff n x).Fixing (c - 1))) ∧
    (n.powerPhase.power ≠ .on → (tickEff n x).Fixing c) := by
  have h := swEff_fixing n .tick x c hf rfl
  refine ⟨fun hon => h.1 (by simp [effTick, hon]), fun hoff => h.2 (by simp [effTick, hoff])⟩

/-- the operating states a fix counts in: all of them (the hypothesis of `C14_timer_fix` excludes only INSTALLING, where the
completing installation overrides the health anyway) -/
example : ∀ st ∈ [OpSt.running, .stopped, .paused, .disabled, .restarting, .closed],
    ({ exDns with op := st, actual := .fixing, fixCd := some 2 } : Sw).Fixing 2 := by
  intro st hst
  simp only [List.mem_cons, List.mem_nil_iff, or_false] at hst
  rcases hst with rfl | rfl | rfl | rfl | rfl | rfl <;> exact ⟨rfl, rfl, by simp⟩

/-- an application that is being installed with `c` left on its countdown -/
def Sw.Installing (x : Sw) (c : Int) : Prop := x.isApp = true ∧ x.op = .installing ∧ x.auxCd = some c

theorem Sw.Installing.of_rel {y x : Sw} {c : Int} (h : Sw.PowerRel y x) (hi : x.Installing c) : y.Installing c :=
  ⟨h.same.isApp.trans hi.1, h.installing.mpr hi.2.1, h.auxCd.trans hi.2.2⟩

theorem Sw.fixTick_installing (x : Sw) (c : Int) (hi : x.Installing c) : x.fixTick.Installing c := by
  have h := x.fixTick_rest
  exact ⟨h.1.trans hi.1, h.2.1.trans hi.2.1, h.2.2.trans hi.2.2⟩

theorem Sw.tick_installing (x : Sw) (c : Int) (hi : x.Installing c) :
    (c ≤ 1 → x.tick.op = .running ∧ x.tick.actual = .good ∧ x.tick.auxCd = none) ∧ (1 < c → x.tick.Installing (c - 1)) := by
  have h := x.fixTick_installing c hi
  obtain ⟨ha, ho, hc⟩ := h
  unfold Sw.tick Sw.auxTick
  simp only [ha, ho, hc, if_true]
  constructor
  · intro hle
    have : c - 1 ≤ 0 := by omega
    simp only [this, if_true, and_self]
  · intro hlt
    have : ¬ c - 1 ≤ 0 := by omega
    simp only [this, if_false]
    exact ⟨rfl, rfl, rfl⟩

/-- **C14 timer table, installation.** An application INSTALLING with `c` on its countdown: a timestep moves the countdown iff
the node is ON after its power phase; it completes (`c ≤ 1`: RUNNING and GOOD) or decrements. -/
theorem C14_timer_install (n : Node) (x : Sw) (c : Int) (hi : x.Installing c) :
    (n.powerPhase.power = .on →
      (c ≤ 1 → (tickEff n x).op = .running ∧ (tickEff n x).actual = .good) ∧ (1 < c → (tickEff n x).Installing (c - 1))) ∧
    (n.powerPhase.power ≠ .on → (tickEff n x).Installing c) :=
  tickEff_on_off (P := (·.Installing c))
    (T := fun y => (c ≤ 1 → y.op = .running ∧ y.actual = .good) ∧ (1 < c → y.Installing (c - 1))) n x
    (fun _ h => .of_rel h hi) (fun _ h => h)
    (fun y h => ⟨fun hc => ⟨((y.tick_installing c h).1 hc).1, ((y.tick_installing c h).1 hc).2.1⟩, (y.tick_installing c h).2⟩)

/-- …and an application that is NOT installing (CLOSED or RUNNING) has no installation countdown moving: the item tick leaves
`install_countdown` alone. -/
theorem C14_timer_install_idle (x : Sw) (ha : x.isApp = true) (ho : x.op ≠ .installing) : x.tick.auxCd = x.auxCd := by
  have h := x.fixTick_rest
  unfold Sw.tick Sw.auxTick
  simp only [h.1, ha, if_true, h.2.1, ho, if_false, h.2.2]

/-- **C14 timer table, folders.** A folder whose scan (resp. restore) is running: a timestep moves the countdown iff the node
is ON after its power phase AND the folder is not deleted. -/
theorem C14_timer_folder (n : Node) (G : Folder) :
    (1 ≤ G.scanCd → (folderEff n .tick G).scanCd =
      if n.powerPhase.power = .on ∧ G.deleted = false then G.scanCd - 1 else G.scanCd) ∧
    (1 ≤ G.restoreCd → (folderEff n .tick G).restoreCd =
      if n.powerPhase.power = .on ∧ G.deleted = false then G.restoreCd - 1 else G.restoreCd) := by
  constructor
  · intro h
    rw [folderEff_scanCd_running n .tick G h]
    by_cases hon : n.powerPhase.power = .on <;> cases hd : G.deleted <;> simp [folderTicking, hon, hd]
  · intro h
    rw [folderEff_restoreCd_running n .tick G h]
    by_cases hon : n.powerPhase.power = .on <;> cases hd : G.deleted <;> simp [folderTicking, hon, hd]

/-- **C14 timer table, whole-node scan.** The countdown moves in a timestep iff the node is ON after its power phase. -/
theorem C14_timer_node_scan (n : Node) (h : 0 < n.scanCd) :
    (n.apply .tick).scanCd = if n.powerPhase.power = .on then n.scanCd - 1 else n.scanCd := by
  rw [apply_scanCd]
  by_cases hon : n.powerPhase.power = .on <;> simp [hon, h]

theorem Sw.handle_installing (x : Sw) (c : Int) (r : SwReq) (hi : x.Installing c) (hk : r.known true = true)
    (hal : r.allowed x = true) : (x.handle r).1.Installing c := by
  obtain ⟨ha, ho, hc⟩ := hi
  cases r <;> simp only [SwReq.known, Bool.not_true, Bool.false_eq_true] at hk <;>
    simp only [SwReq.allowed, SwReq.guard, ho, decide_eq_true_eq, reduceCtorEq] at hal
  case compromise => exact ⟨ha, ho, hc⟩
  case execute =>
    simp only [Sw.handle, ho, reduceCtorEq, if_false]
    exact ⟨ha, ho, hc⟩

theorem swEff_installing (n : Node) (op : Op) (x : Sw) (c : Int) (hi : x.Installing c) :
    (effTick n op = true →
      (c ≤ 1 → (swEff n op x).op = .running ∧ (swEff n op x).actual = .good) ∧ (1 < c → (swEff n op x).Installing (c - 1))) ∧
    (effTick n op = false → (swEff n op x).Installing c) := by
  by_cases hop : op = .tick
  · subst hop
    have h := C14_timer_install n x c hi
    simp only [effTick, decide_true, Bool.true_and, decide_eq_true_eq, decide_eq_false_iff_not]
    exact ⟨fun hon => h.1 hon, fun hoff => h.2 hoff⟩
  · rw [effTick_of_ne_tick n hop]
    refine ⟨fun h => absurd h Bool.false_ne_true, fun _ => ?_⟩
    refine swEff_cases (motive := fun y => y.Installing c) n op x hop (fun _ => hi) (fun _ _ h => .of_rel h hi) ?_
      (fun _ _ => hi) ?_
    · intro k nm r _ _ hacc
      simp only [Sw.accepts, Bool.and_eq_true, decide_eq_true_eq] at hacc
      obtain ⟨⟨⟨_, hk⟩, hkn⟩, hal⟩ := hacc
      rw [← hk, hi.1] at hkn
      exact x.handle_installing c r hi hkn hal
    · intro _
      unfold Sw.install
      simp only [hi.2.1, reduceCtorEq, and_false, if_false]
      exact hi

/-- **C14 installation timing, part 1 (not early).** From any state in which the `i`-th item is INSTALLING with `c` on its
countdown, for ANY operation sequence (compromise, lifecycle requests, a second `install()`, power loss, reset, …): while fewer
than `max(1,c)` timesteps have reached the node's items it is still INSTALLING with `c` minus that number on the countdown. -/
theorem C14_install_not_early (ops : List Op) : ∀ (n : Node) (i : Nat) (x : Sw) (c : Int),
    n.sws[i]? = some x → x.Installing c → (effTicks n ops : Int) < max 1 c →
    ∃ x', (n.run ops).sws[i]? = some x' ∧ x'.name = x.name ∧ x'.Installing (c - effTicks n ops) := by
  intro n i x c hx hi hk
  refine nodeCounted.not_early (fun n c => ∃ x', n.sws[i]? = some x' ∧ x'.name = x.name ∧ x'.Installing c) (fun _ => True) ?_
    ops n c ⟨x, hx, rfl, hi⟩ (fun _ _ => trivial) hk
  intro n op c ⟨x', h1, h2, h3⟩ _
  have hs := swEff_installing n op x' c h3
  have hn := (swEff_id n op x').1.trans h2
  exact ⟨fun he hc => ⟨_, apply_sws_getElem op h1, hn, (hs.1 he).2 hc⟩, fun he => ⟨_, apply_sws_getElem op h1, hn, hs.2 he⟩⟩

/-- **C14 installation timing (exact).** …and the `max(1,c)`-th timestep that reaches the node's items makes the application
RUNNING and GOOD: an installation takes exactly `max(1, install_duration)` timesteps of a powered-on node, whatever else
happens meanwhile. -/
theorem C14_install_exact (ops : List Op) (n : Node) (i : Nat) (x : Sw) (c : Int)
    (hx : n.sws[i]? = some x) (hi : x.Installing c) :
    ((effTicks n ops : Int) < max 1 c → ∃ x', (n.run ops).sws[i]? = some x' ∧ x'.op = .installing) ∧
    ((effTicks n ops : Int) + 1 = max 1 c → effTick (n.run ops) .tick = true →
      ∃ x', ((n.run ops).apply .tick).sws[i]? = some x' ∧ x'.name = x.name ∧ x'.op = .running ∧ x'.actual = .good) := by
  refine ⟨fun hlt => ?_, fun heq ht => ?_⟩
  · obtain ⟨x', h1, _, h3⟩ := C14_install_not_early ops n i x c hx hi hlt
    exact ⟨x', h1, h3.2.1⟩
  · obtain ⟨x1, h1, h2, h3⟩ := C14_install_not_early ops n i x c hx hi (by omega)
    refine ⟨swEff (n.run ops) .tick x1, ?_, ((swEff_id _ _ _).1).trans h2, ?_⟩
    · exact apply_sws_getElem _ h1
    · exact ((swEff_installing (n.run ops) .tick x1 _ h3).1 ht).1 (by omega)

/-- `Application.install()` on a CLOSED application loads the configured duration -/
theorem C14_install_request (n : Node) (i : Nat) (x : Sw) (hx : n.sws[i]? = some x) (ha : x.isApp = true) (hc : x.op = .closed) :
    ∃ x', (n.apply (.appInstall x.name)).sws[i]? = some x' ∧ x'.name = x.name ∧ x'.Installing x.auxDur := by
  refine ⟨swEff n (.appInstall x.name) x, ?_, (swEff_id _ _ _).1, ?_⟩
  · exact apply_sws_getElem _ hx
  · simp only [swEff, if_true, Sw.install, ha, hc, and_self]
    exact ⟨rfl, rfl, rfl⟩

/-- a fix keeps counting while its service is stopped / paused / disabled (what the seeded change C14-c broke), freezes while
the node is off, and an installation survives a power cycle with its countdown -/
example :
    ([[Op.sw false "dns" .fix, .sw false "dns" .stop, .tick, .tick],
      [.sw false "dns" .fix, .sw false "dns" .pause, .tick, .tick],
      [.sw false "dns" .fix, .sw false "dns" .disable, .tick, .tick],
      [.sw false "dns" .fix, .tick, .sw false "dns" .restart, .tick]].map
        (fun ops => ((exNode.run ops).sws.map (fun x => (x.actual, x.fixCd))).take 1)) =
      [[(.good, none)], [(.good, none)], [(.good, none)], [(.good, none)]] ∧
    ((exNode.run [.appInstall "browser", .tick, .shutdown, .tick, .tick, .startup, .tick]).sws.map
        (fun x => (x.op, x.auxCd))).drop 1 = [(.installing, some 1)] ∧
    ((exNode.run [.appInstall "browser", .tick, .shutdown, .tick, .tick, .startup, .tick, .tick]).sws.map
        (fun x => (x.op, x.actual, x.auxCd))).drop 1 = [(.running, .good, none)] := by decide +kernel

/-- the same node with another value on the reveal-to-red countdown -/
def Node.withRed (n : Node) (r : Int) : Node := { n with redCd := r }

theorem withRed_ite (c : Prop) [Decidable c] (a b : Node) (r : Int) :
    (if c then a else b).withRed r = if c then a.withRed r else b.withRed r := by
  split <;> rfl

/- `withRed` commutes with each phase of the power FSM: pushed into the branches of the definition, the two sides agree field by field
(the tests read fields that `withRed` leaves alone). -/

theorem red_powerOn (n : Node) (r : Int) : (n.withRed r).powerOn = n.powerOn.withRed r := by
  unfold Node.powerOn
  rw [withRed_ite, withRed_ite]
  rfl

theorem red_offNow (n : Node) (r : Int) : (n.withRed r).offNow = n.offNow.withRed r := by
  unfold Node.offNow
  simp only []
  rw [withRed_ite, ← red_powerOn]
  rfl

theorem red_powerOff (n : Node) (r : Int) : (n.withRed r).powerOff = n.powerOff.withRed r := by
  unfold Node.powerOff
  rw [withRed_ite, withRed_ite, ← red_offNow]
  rfl

theorem red_bootPhase (n : Node) (r : Int) : (n.withRed r).bootPhase = n.bootPhase.withRed r := by
  unfold Node.bootPhase
  rw [withRed_ite, withRed_ite]
  rfl

theorem red_shutPhase (n : Node) (r : Int) : (n.withRed r).shutPhase = n.shutPhase.withRed r := by
  unfold Node.shutPhase
  rw [withRed_ite, withRed_ite, ← red_offNow]
  rfl

theorem red_powerPhase (n : Node) (r : Int) : (n.withRed r).powerPhase = n.powerPhase.withRed r := by
  unfold Node.powerPhase; rw [red_bootPhase, red_shutPhase]

theorem red_scanPhase (m : Node) (r : Int) : (m.withRed r).scanPhase = m.scanPhase.withRed r := by
  unfold Node.scanPhase
  simp only []
  rw [withRed_ite, withRed_ite]
  rfl

/-- the health-relevant part of a node: everything but the reveal-to-red countdown -/
def Node.sansRed (n : Node) : Node := { n with redCd := 0 }

theorem sansRed_withRed (n : Node) (r : Int) : (n.withRed r).sansRed = n.sansRed := rfl

theorem redPhase_sansRed (m : Node) : m.redPhase.sansRed = m.sansRed := by
  unfold Node.redPhase; split <;> rfl

theorem itemPhase_sansRed (m : Node) : m.itemPhase.sansRed = m.sansRed.itemPhase := rfl

theorem sansRed_ite (c : Prop) [Decidable c] (a b : Node) : (if c then a else b).sansRed = if c then a.sansRed else b.sansRed := by
  split <;> rfl

theorem sansRed_fields {a b : Node} (h : a.sansRed = b.sansRed) :
    a.sws = b.sws ∧ a.folders = b.folders ∧ a.scanCd = b.scanCd ∧ a.power = b.power :=
  ⟨(congrArg Node.sws h :), (congrArg Node.folders h :), (congrArg Node.scanCd h :), (congrArg Node.power h :)⟩

/-- **C14 (the reveal-to-red countdown never touches health).** Whatever stands on the reveal-to-red countdown — idle, running,
completing in this very timestep together with the whole-node scan — every operation leaves the rest of the node (power FSM,
every software item, folder and file, the node-scan countdown) exactly as it would with any other value on it. -/
theorem C14_red_scan_independent (n : Node) (r : Int) (op : Op) :
    ((n.withRed r).apply op).sansRed = (n.apply op).sansRed := by
  cases op <;> simp only [Node.apply]
  case tick =>
    unfold Node.tick
    simp only []
    rw [red_powerPhase, sansRed_ite, sansRed_ite, red_scanPhase, itemPhase_sansRed, itemPhase_sansRed, redPhase_sansRed,
      redPhase_sansRed, sansRed_withRed]
    rfl
  case shutdown => rw [sansRed_ite, sansRed_ite, red_powerOff]; rfl
  case startup => rw [sansRed_ite, sansRed_ite, red_powerOn]; rfl
  case reset =>
    have h : ({ n.withRed r with resetting := true } : Node).powerOff = ({ n with resetting := true } : Node).powerOff.withRed r :=
      red_powerOff { n with resetting := true } r
    rw [sansRed_ite, sansRed_ite, h]; rfl
  all_goals first | rfl | (rw [sansRed_ite, sansRed_ite]; rfl)

/-- **C14 (the whole-node scan's fan-out is independent of every other countdown).** `C14_node_scan_fans_out` holds for EVERY
node state with the scan countdown at 1 — folder scan / restore countdowns, fix, install and restart countdowns arbitrary — and the
one countdown that shares its `if` block in `apply_timestep`, the reveal-to-red scan, cannot change the result either: the software
list, the folders and files, the power state and the scan countdown after a timestep are the same for every value `r` on it
(in particular for `r = 1`: both scans completing in the same timestep — seeded change C14-d ran only one of the two sweeps). -/
theorem C14_node_scan_fanout_independent (n : Node) (r : Int) :
    ((n.withRed r).apply .tick).sws = (n.apply .tick).sws ∧ ((n.withRed r).apply .tick).folders = (n.apply .tick).folders ∧
    ((n.withRed r).apply .tick).scanCd = (n.apply .tick).scanCd ∧ ((n.withRed r).apply .tick).power = (n.apply .tick).power :=
  sansRed_fields (C14_red_scan_independent n r .tick)

/-- the reveal-to-red countdown itself: loaded with `node_scan_duration` (no `max(…, 1)`: duration 0 never fires), it moves in a
timestep iff the node is ON after its power phase -/
theorem C14_timer_red_scan (n : Node) :
    ((n.apply .redScan).redCd = if n.power = .on then n.scanDur else n.redCd) ∧
    ((n.apply .tick).redCd = if n.powerPhase.power = .on ∧ n.powerPhase.redCd > 0 then n.powerPhase.redCd - 1
      else n.powerPhase.redCd) := by
  constructor
  · simp only [Node.apply]; split <;> rfl
  · simp only [Node.apply, Node.tick]
    by_cases hon : n.powerPhase.power = .on
    · simp only [hon, if_true, true_and, Node.itemPhase, Node.mapFolders, Node.mapSws, Node.redPhase]
      have : n.powerPhase.scanPhase.redCd = n.powerPhase.redCd := by
        unfold Node.scanPhase; (repeat' split) <;> rfl
      rw [this]
      split
      · rfl
      · exact this
    · simp only [hon, if_false, false_and]

/-- both scans requested in the same step with duration 2: they complete in the same timestep, and the whole-node scan still
updates every visible value (kernel-evaluated) -/
def exBoth : Node := { exNode.run [.sw false "dns" .compromise, .osScan, .redScan] with scanDur := 2, scanCd := 2, redCd := 2 }
example :
    (exBoth.run [.tick, .tick]).sws.map (fun x => x.visible) = [.compromised, .unused] ∧
    (exBoth.run [.tick, .tick]).folders.map (fun G => G.files.map (fun f => f.visible)) = [[.corrupt, .none]] ∧
    (exBoth.run [.tick]).scanCd = 1 ∧ (exBoth.run [.tick]).redCd = 1 ∧
    (exBoth.run [.tick, .tick]).scanCd = 0 ∧ (exBoth.run [.tick, .tick]).redCd = 0 := by decide +kernel

/-- The explicit events that can write the actual health of folder `G` in step `op`, with the value they write: the `corrupt`,
`repair`, `restore` requests (folder route or file-system route; a restore request only when no restore is running), and the
timestep in which the folder's timed scan completes (actual := worst health among its live files — the code rewrites the
ACTUAL health there, not only the visible one) or its restore completes (CORRUPT / RESTORING → GOOD). Everything else is `False`.
(The external writer — an ENCRYPT query marking the database folder CORRUPT — is `DOp.folderSet`, `C14_dyn_folder_set`.) -/
def folderActualCause (n : Node) (op : Op) (G : Folder) (new : FsH) : Prop :=
  match op with
  | .folder F .corrupt => n.power = .on ∧ G.name = F ∧ G.deleted = false ∧ new = .corrupt
  | .folder F .repair => n.power = .on ∧ G.name = F ∧ G.deleted = false ∧ new = .good
  | .folder F .restore => n.power = .on ∧ G.name = F ∧ G.deleted = false ∧ G.restoreCd ≤ 0 ∧ new = .restoring
  | .fsRestoreFolder F => n.power = .on ∧ G.name = F ∧ G.restoreCd ≤ 0 ∧ new = .restoring
  | .tick =>
    n.powerPhase.power = .on ∧ G.deleted = false ∧
      ((G.scanCd = 1 ∧ new = worstLive G.files) ∨ (G.restoreCd = 1 ∧ new = .good))
  | _ => False

theorem Folder.mapLiveFile_actual (G : Folder) (f : String) (g : File → File) : (G.mapLiveFile f g).actual = G.actual := rfl
theorem Folder.mapFile_actual (G : Folder) (f : String) (g : File → File) : (G.mapFile f g).actual = G.actual := rfl

/-- **C14 (folder actual health, one step, any state).** A folder's actual health differs after an operation only if the
operation is one of the enumerated writers for that folder, and the new value is the one that writer sets. -/
theorem C14_folder_actual_only_by_event (n : Node) (op : Op) (j : Nat) (G G' : Folder)
    (hG : n.folders[j]? = some G) (hG' : (n.apply op).folders[j]? = some G') (hne : G'.actual ≠ G.actual) :
    folderActualCause n op G G'.actual := by
  obtain rfl := Option.some.inj ((apply_folders_getElem op hG).symm.trans hG')
  cases op <;> simp only [folderEff, folderActualCause] at hne ⊢
  case tick =>
    rw [folderTickEff_actual] at hne ⊢
    obtain ⟨hl, e⟩ := ite_changed rfl hne
    rw [e, Folder.tick_actual] at hne ⊢
    simp only [hl.1, hl.2, true_and] at hne ⊢
    by_cases h2 : G.restoreCd = 1 ∧ ((if G.scanCd = 1 then worstLive G.files else G.actual) = .corrupt ∨
        (if G.scanCd = 1 then worstLive G.files else G.actual) = .restoring)
    · exact Or.inr ⟨h2.1, by rw [if_pos h2]⟩
    · rw [if_neg h2] at hne ⊢
      by_cases h1 : G.scanCd = 1
      · exact Or.inl ⟨h1, by rw [if_pos h1]⟩
      · rw [if_neg h1] at hne; exact absurd rfl hne
  case folder F r =>
    by_cases hon : n.power = .on
    · by_cases hc : G.name = F ∧ G.deleted = false
      · rw [if_pos hon, if_pos hc] at hne ⊢
        cases r <;> simp only [Folder.handle] at hne ⊢
        case scan => exfalso; apply hne; unfold Folder.scan; (repeat' split) <;> rfl
        case checkhash => exact absurd rfl hne
        case repair =>
          refine ⟨hon, hc.1, hc.2, ?_⟩
          unfold Folder.repair; simp only [hc.2, Bool.false_eq_true, if_false]
        case restore =>
          unfold Folder.restore at hne ⊢
          by_cases hr : G.restoreCd ≤ 0
          · rw [if_pos hr]; exact ⟨hon, hc.1, hc.2, hr, rfl⟩
          · rw [if_neg hr] at hne; exact absurd rfl hne
        case corrupt =>
          refine ⟨hon, hc.1, hc.2, ?_⟩
          unfold Folder.corrupt; simp only [hc.2, Bool.false_eq_true, if_false]
      · rw [if_pos hon, if_neg hc] at hne; exact absurd rfl hne
    · rw [if_neg hon] at hne; exact absurd rfl hne
  case fsRestoreFolder F =>
    by_cases hon : n.power = .on
    · by_cases hc : G.name = F
      · rw [if_pos hon, if_pos hc] at hne ⊢
        rcases Folder.restoreIn_cases n.folders G with e | e <;> rw [e] at hne ⊢
        · exact absurd rfl hne
        · unfold Folder.restore at hne ⊢
          by_cases hr : G.restoreCd ≤ 0
          · rw [if_pos hr]; exact ⟨hon, hc, hr, rfl⟩
          · rw [if_neg hr] at hne; exact absurd rfl hne
      · rw [if_pos hon, if_neg hc] at hne; exact absurd rfl hne
    · rw [if_neg hon] at hne; exact absurd rfl hne
  case fsDeleteFolder F => exfalso; apply hne; (repeat' split) <;> rfl
  all_goals first | exact hne rfl | (exfalso; apply hne; (repeat' split) <;> rfl)

/-- **C14 responses (file requests, either route).** `success` iff the node is ON, a live folder and in it a live file have the
addressed names, and the request is not `checkhash` ("not implemented": always `failure`). -/
theorem C14_resp_file (n : Node) (F f : String) (r : ItemReq) :
    n.respond (.file F f r) = .success ↔
      (n.power = .on ∧ (∃ G, n.findLiveFolder F = some G ∧ (findLive f G.files).isSome = true) ∧ r ≠ .checkhash) := by
  simp only [Node.respond]
  by_cases hon : n.power = .on
  · simp only [hon, ne_eq, not_true_eq_false, if_false, true_and]
    cases hG : n.findLiveFolder F with
    | none => simp
    | some G =>
      cases hx : findLive f G.files with
      | none => simp [hx]
      | some x => cases r <;> simp [hx, File.handle, Resp.ofBool]
  · simp [hon]

/-- a file `scan` request answers `success` exactly when it completes a scan of the addressed file (ties the response to
`fileScanCompletes`) -/
theorem C14_resp_file_scan_success (n : Node) (F f : String) (G : Folder) (x : File)
    (hG : n.findLiveFolder F = some G) (hx : findLive f G.files = some x) :
    n.respond (.file F f .scan) = .success ↔ fileScanCompletes n (.file F f .scan) G x = true := by
  have hGp := List.find?_some hG
  have hxp := List.find?_some hx
  simp only [Bool.and_eq_true, decide_eq_true_eq, Bool.not_eq_true'] at hGp hxp
  rw [C14_resp_file]
  simp only [hG, Option.some.injEq, exists_eq_left', hx, Option.isSome_some, ne_eq, reduceCtorEq, not_false_eq_true, and_true,
    fileScanCompletes, hGp.1, hGp.2, hxp.1, hxp.2, decide_true, Bool.not_false, Bool.and_true, decide_eq_true_eq]

/-- deleting a file (folder route or file-system route): `success` iff node ON, live folder, live file of that name -/
theorem C14_resp_delete_file (n : Node) (F f : String) :
    (n.respond (.fsDeleteFile F f) = .success ↔
      (n.power = .on ∧ ∃ G, n.findLiveFolder F = some G ∧ (findLive f G.files).isSome = true)) ∧
    n.respond (.folderDelete F f) = n.respond (.fsDeleteFile F f) := by
  refine ⟨?_, rfl⟩
  simp only [Node.respond]
  by_cases hon : n.power = .on
  · simp only [hon, ne_eq, not_true_eq_false, if_false, true_and]
    cases hG : n.findLiveFolder F with
    | none => simp
    | some G => cases hx : findLive f G.files <;> simp [hx, Resp.ofBool]
  · simp [hon]

/-- deleting a folder: `success` iff node ON, a live folder of that name exists, and it is not `root` -/
theorem C14_resp_delete_folder (n : Node) (F : String) :
    n.respond (.fsDeleteFolder F) = .success ↔ (n.power = .on ∧ (n.findLiveFolder F).isSome = true ∧ F ≠ "root") := by
  simp only [Node.respond, Resp.ofBool]
  by_cases hon : n.power = .on <;> cases (n.findLiveFolder F).isSome <;> by_cases hr : F = "root" <;> simp [hon, hr]

/-- restoring by name through the file system: a file needs a live folder and any file (live or deleted) of that name in it;
a folder needs any folder (live or deleted) of that name -/
theorem C14_resp_restore (n : Node) (F f : String) :
    (n.respond (.fsRestoreFile F f) = .success ↔
      (n.power = .on ∧ ∃ G, n.findLiveFolder F = some G ∧ (findAny f G.files).isSome = true)) ∧
    (n.respond (.fsRestoreFolder F) = .success ↔ (n.power = .on ∧ (n.findFolder F).isSome = true)) := by
  constructor
  · simp only [Node.respond]
    by_cases hon : n.power = .on
    · simp only [hon, ne_eq, not_true_eq_false, if_false, true_and]
      cases hG : n.findLiveFolder F with
      | none => simp
      | some G => cases hx : findAny f G.files <;> simp [hx, Resp.ofBool]
    · simp [hon]
  · simp only [Node.respond, Resp.ofBool]
    by_cases hon : n.power = .on <;> cases (n.findFolder F).isSome <;> simp [hon]

end Primaite.Health
