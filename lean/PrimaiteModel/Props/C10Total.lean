/-
C10, totals — "an agent's episode total is the sum of its step rewards": across resets (a new episode starts from 0), for
agents without reward components, at every point of an episode (a total read mid-episode is the sum so far), for the run with
component exceptions whenever none is raised (`C10_runE_is_run`); the weighted-sum law over an arbitrary commutative ring.
(What IEEE arithmetic keeps of both sums: Props/C10Float.lean.)
Then configurations as written: unregistered or ill-formed components are refused at load, `reset` over a schedule of
configurations, and what `update_reward` leaves in `reward_info`.
-/
import PrimaiteModel.Props.C10
import PrimaiteModel.Lemmas.RewardExc
namespace Primaite.Reward

/-- **`reset` = a fresh load.** `PrimaiteGymEnv.reset` builds a new game from the configuration and runs `update_agents`
once more with `step_counter == 0`; whatever state dictionary it is given, the result is exactly the game `from_config`
returns (or the same refusal): no reward is computed and nothing of any earlier episode is in it. -/
theorem C10_reset_is_fresh_load (σ : List Name → List Name) (hσ : SetLike σ) (cfgs : List AgentCfg) (s0 : SimState) :
    resetEnv σ cfgs s0 = fromConfig σ cfgs := by
  unfold resetEnv
  cases h : fromConfig σ cfgs with
  | error e => rfl
  | ok g =>
    obtain ⟨_, _, rfl, wf⟩ := fromConfig_ok_inv σ hσ cfgs h
    obtain ⟨hk, hfresh⟩ := buildAgents_inv cfgs
    simp only [updateAgents, foldE_step0 _ _ _ hk hfresh,
      List.all_eq_true.mpr fun n hn => decide_eq_true ((wf.orderMem n).mp hn), if_true]

/-- **Totals restart.** After a reset every agent has `total_reward = 0`, `current_reward = 0`, an empty history and the
configured components (memories at their defaults); and after any run of steps of the NEW episode its total is the sum of
the step rewards of that episode alone. -/
theorem C10_total_restarts_after_reset (σ : List Name → List Name) (hσ : SetLike σ) (cfgs : List AgentCfg) (s0 : SimState)
    (g : Game) (hreset : resetEnv σ cfgs s0 = .ok g) :
    (∀ n a, g.agents.lookup n = some a → a.total = 0 ∧ a.current = 0 ∧ a.hist = []) ∧ g.stepCounter = 0 ∧
    ∀ steps : List ((Name → Item) × SimState), ∃ g', run g steps = .ok g' ∧
      ∀ n, n ∈ agentKeys g.agents → ∃ a', g'.agents.lookup n = some a' ∧
        a'.hist.length = steps.length ∧ a'.total = (histRewards a').sum := by
  rw [C10_reset_is_fresh_load σ hσ] at hreset
  obtain ⟨_, hc, hg, _⟩ := fromConfig_ok_inv σ hσ cfgs hreset
  obtain ⟨_, hfresh⟩ := buildAgents_inv cfgs
  refine ⟨?_, by rw [hg], ?_⟩
  · intro n a ha
    rw [hg] at ha
    obtain ⟨h1, h2, h3⟩ := hfresh (n, a) (mem_of_lookup_eq_some ha)
    exact ⟨h2, h1, h3⟩
  · intro steps
    obtain ⟨g', hrun, _, hf⟩ := C10_total_is_sum σ hσ cfgs _ hreset hc steps
    refine ⟨g', hrun, ?_⟩
    intro n hn
    obtain ⟨a', ha', hl, _, ht, _⟩ := hf n hn
    exact ⟨a', ha', hl, ht⟩

/-- non-vacuity: the example configuration of Props/C10.lean resets to a loaded game (order as after `from_config`), whatever
state dictionary `reset` is handed -/
example : (resetEnv id exCfgs (.dict [(.str "network", .none)])).toOption.map (·.order) = some ["g1", "g2", "blue"] := by decide +kernel

/-- At every point of an episode — after the first `k` steps of a longer run — every agent's `total_reward` is the sum of the
rewards of the steps taken so far, and the rest of the run continues from exactly that game (reading the total changes
nothing: it is a field of the game). -/
theorem C10_total_mid_episode (σ : List Name → List Name) (hσ : SetLike σ) (cfgs : List AgentCfg) (g : Game)
    (hload : fromConfig σ cfgs = .ok g) (hc : Closed (buildAgents cfgs))
    (sofar later : List ((Name → Item) × SimState)) :
    ∃ gmid, run g sofar = .ok gmid ∧ run g (sofar ++ later) = run gmid later ∧
      ∀ n, n ∈ agentKeys g.agents → ∃ a, gmid.agents.lookup n = some a ∧
        a.hist.length = sofar.length ∧ a.total = (histRewards a).sum := by
  obtain ⟨gmid, hrun, _, hf⟩ := C10_total_is_sum σ hσ cfgs g hload hc sofar
  refine ⟨gmid, hrun, by rw [run_append, hrun], ?_⟩
  intro n hn
  obtain ⟨a', ha', hl, _, ht, _⟩ := hf n hn
  exact ⟨a', ha', hl, ht⟩

/-- The same for the pipeline with exceptions: whenever a run of steps goes through without a component raising, it is the
run of the total pipeline, so every statement about `run` (totals, same-step values, order irrelevance) holds of it. -/
theorem C10_runE_is_run (g g' : Game) (steps : List ((Name → Item) × SimState)) (h : runE g steps = .ok g') :
    run g steps = .ok g' := by
  induction steps generalizing g with
  | nil => exact h
  | cons st rest ih =>
    obtain ⟨items, s⟩ := st
    simp only [runE] at h
    simp only [run]
    cases h1 : gameStepE g items s with
    | error e => rw [h1] at h; cases h
    | ok g1 =>
      rw [h1] at h
      rw [gameStepE_sound h1]
      exact ih g1 h

/-- An agent configured without reward components (or without a `reward_function` at all) has reward 0 at every step and
total 0 at every point of the episode. -/
theorem C10_no_components_zero (steps : List ((Name → Item) × SimState)) :
    ∀ (g : Game), WF g → ∀ (n : Name) (a : Agent), g.agents.lookup n = some a → a.comps = [] → a.total = 0 → a.current = 0 →
      ∃ g', run g steps = .ok g' ∧ ∃ a', g'.agents.lookup n = some a' ∧ a'.comps = [] ∧ a'.current = 0 ∧ a'.total = 0 := by
  induction steps with
  | nil => intro g _ n a ha hc ht hcur; exact ⟨g, rfl, a, ha, hc, hcur, ht⟩
  | cons st rest ih =>
    obtain ⟨items, s⟩ := st
    intro g wf n a ha hc ht hcur
    obtain ⟨g1, hok, wf1, _, hf⟩ := C10_step g wf items s
    obtain ⟨a1, ha1, hcur1, htot1, hcomps1, _⟩ := hf n a ha
    rw [hc] at hcur1 hcomps1
    simp only [List.map_nil, List.sum_nil] at hcur1 hcomps1
    have ht1 : a1.total = 0 := by rw [htot1, ht, hcur1]; exact Rat.add_zero 0
    obtain ⟨g', hrun, a', ha', h1, h2, h3⟩ := ih g1 wf1 n a1 ha1 hcomps1 ht1 hcur1
    exact ⟨g', by simp only [run, hok]; exact hrun, a', ha', h1, h2, h3⟩

/-- non-vacuity: a loaded game with an agent without components (and one sharing from it) -/
example : ((fromConfig id [{ ref := "idle", comps := [] }, { ref := "b", comps := [(.shared "idle", 1), (.actionPenalty (-1) 0, 1)] }]).toOption.bind
    (fun g => g.agents.lookup "idle")).map (fun a => (a.comps.length, a.total, a.current)) = some (0, 0, 0) := by decide +kernel

/-- **Weighted sum, carrier-polymorphic.** Over ANY commutative ring `V` (Lean core's `Lean.Grind.CommRing`: ℤ, ℚ, any
field, `BitVec`, `ZMod`-like carriers, …) and ANY evaluation of the components, the loop `total = 0; total += w * c`
ends with `Σ wᵢ · cᵢ`, and the components come out with their memories advanced, weights untouched. The statement does not
depend on the carrier the rig happens to use (dyadic rationals) nor on what a component is. -/
theorem C10_weighted_sum_any_commutative_ring {V C : Type} [Lean.Grind.CommRing V] (ev : C → V × C) (comps : List (C × V)) :
    (updateCompsG (· + ·) (· * ·) ev (0 : V) comps).1 = (comps.map (fun cw => cw.2 * (ev cw.1).1)).foldr (· + ·) 0 ∧
    (updateCompsG (· + ·) (· * ·) ev (0 : V) comps).2 = comps.map (fun cw => ((ev cw.1).2, cw.2)) := by
  rw [updateCompsG_eq, C10_weighted_sum_any_arithmetic _ _ _ (by grind) (by grind) (by grind), List.map_map]
  exact ⟨rfl, rfl⟩

/-- the `Rat` model is the instance `V = Rat`, `ev = calcComp s it cur` -/
theorem C10_weighted_sum_instance (s : SimState) (it : Item) (cur : Name → Val) (comps : List (Comp × Val)) :
    (updateComps s it cur 0 comps).1 = (comps.map (fun cw => cw.2 * (calcComp s it cur cw.1).1)).foldr (· + ·) 0 := by
  rw [updateComps_eq_generic]
  exact (C10_weighted_sum_any_commutative_ring (calcComp s it cur) comps).1

/-- non-vacuity: the same loop over `Int` (another commutative ring), three components, weights 2, −1, 0 -/
example : (updateCompsG (· + ·) (· * ·) (fun (c : Int) => (c * c, c + 1)) (0 : Int) [(3, 2), (4, -1), (5, 0)]) =
    (2, [(4, 2), (5, -1), (6, 0)]) := by decide

theorem checkAgent_error {a : AgentCfgRaw} {e : Err} (h : checkAgent a = .error e) :
    e = .keyError ∨ e = .validationError := by
  unfold checkAgent at h
  split at h
  · cases h; exact Or.inl rfl
  · split at h
    · cases h; exact Or.inr rfl
    · cases h

theorem checkAgent_error_of_bad (a : AgentCfgRaw) (h : a.comps.any (fun cw => !cw.1.isKnown) = true) :
    ∃ e, checkAgent a = .error e := by
  obtain ⟨cw, hcw, hk⟩ := List.any_eq_true.mp h
  unfold checkAgent
  split
  · exact ⟨_, rfl⟩
  · split
    · exact ⟨_, rfl⟩
    · -- neither test fires, so `cw` is neither unregistered nor ill-formed: it is known
      rename_i hu hi
      cases hc : cw.1 with
      | known c => rw [hc] at hk; cases hk
      | unknownType t => exact absurd (List.any_eq_true.mpr ⟨cw, hcw, by rw [hc]; rfl⟩) hu
      | invalid => exact absurd (List.any_eq_true.mpr ⟨cw, hcw, by rw [hc]; rfl⟩) hi

theorem checkCfg_error_of_bad {raw : List AgentCfgRaw} (h : ∃ a ∈ raw, a.comps.any (fun cw => !cw.1.isKnown) = true) :
    checkCfg raw = .error .keyError ∨ checkCfg raw = .error .validationError := by
  induction raw with
  | nil => obtain ⟨a, ha, _⟩ := h; cases ha
  | cons a rest ih =>
    obtain ⟨b, hb, hbad⟩ := h
    simp only [checkCfg]
    cases hca : checkAgent a with
    | error e => exact (checkAgent_error hca).imp (fun he => by rw [he]) (fun he => by rw [he])
    | ok c =>
      rcases List.mem_cons.mp hb with rfl | hb'
      · obtain ⟨e, he⟩ := checkAgent_error_of_bad b hbad
        rw [he] at hca; cases hca
      · exact (ih ⟨b, hb', hbad⟩).imp (fun he => by rw [he]) (fun he => by rw [he])

/-- **Unregistered or ill-formed components are refused at load.** If any agent of the configuration declares a reward
component whose `type` is not registered (a misspelt name, a plugin that was not imported) or whose entry violates its schema,
`from_config` raises (`KeyError` / pydantic `ValidationError`) — the game never loads with a component silently dropped. -/
theorem C10_bad_component_rejected (σ : List Name → List Name) (raw : List AgentCfgRaw)
    (h : ∃ a ∈ raw, a.comps.any (fun cw => !cw.1.isKnown) = true) :
    fromConfigRaw σ raw = .error .keyError ∨ fromConfigRaw σ raw = .error .validationError := by
  unfold fromConfigRaw
  exact (checkCfg_error_of_bad h).imp (fun he => by rw [he]) (fun he => by rw [he])

theorem checkAgent_known (c : AgentCfg) :
    checkAgent { ref := c.ref, comps := c.comps.map (fun cw => (CompCfg.known cw.1, cw.2)) } = .ok c := by
  have hsome : ((fun cw : CompCfg × Val => cw.1.toComp?.map (fun c => (c, cw.2))) ∘
      (fun cw : Comp × Val => (CompCfg.known cw.1, cw.2))) = some := rfl
  simp only [checkAgent, List.any_map, List.filterMap_map, hsome, List.filterMap_some]
  have h1 : c.comps.any ((fun cw : CompCfg × Val => cw.1.isUnknown) ∘ (fun cw => (CompCfg.known cw.1, cw.2))) = false :=
    List.any_eq_false.mpr (fun _ _ => Bool.false_ne_true)
  have h2 : c.comps.any ((fun cw : CompCfg × Val => cw.1.isInvalid) ∘ (fun cw => (CompCfg.known cw.1, cw.2))) = false :=
    List.any_eq_false.mpr (fun _ _ => Bool.false_ne_true)
  rw [h1, h2]
  rfl

/-- a configuration whose components are all registered and well-formed loads exactly as its typed form does -/
theorem C10_known_components_load (σ : List Name → List Name) (cfgs : List AgentCfg) :
    fromConfigRaw σ (cfgs.map (fun c => { ref := c.ref, comps := c.comps.map (fun cw => (CompCfg.known cw.1, cw.2)) })) =
      fromConfig σ cfgs := by
  have hall : checkCfg (cfgs.map (fun c => { ref := c.ref, comps := c.comps.map (fun cw => (CompCfg.known cw.1, cw.2)) })) = .ok cfgs := by
    induction cfgs with
    | nil => rfl
    | cons c rest ih => simp only [List.map_cons, checkCfg, checkAgent_known c, ih]
  unfold fromConfigRaw
  rw [hall]

/-- **Episode schedules.** `reset` for episode `ep` of ANY schedule of configurations gives exactly the game `from_config` builds
from that episode's configuration (or its refusal): nothing of the previous episode — its agents, components, memories, totals,
evaluation order — survives, also when the next configuration has other agents or other components. -/
theorem C10_reset_schedule (σ : List Name → List Name) (hσ : SetLike σ) (schedule : Nat → List AgentCfgRaw) (ep : Nat)
    (s0 : SimState) : resetEnvRaw σ schedule ep s0 = fromConfigRaw σ (schedule ep) := by
  unfold resetEnvRaw fromConfigRaw
  cases checkCfg (schedule ep) with
  | error e => rfl
  | ok cfgs => exact C10_reset_is_fresh_load σ hσ cfgs s0

theorem rewardInfoAfter_append (pre post : List (Comp × Val)) : ∀ it : Item,
    rewardInfoAfter it (pre ++ post) = rewardInfoAfter { it with rewardInfo := rewardInfoAfter it pre } post := by
  induction pre with
  | nil => intro it; rfl
  | cons cw rest ih =>
    intro it
    obtain ⟨c, w⟩ := cw
    cases c <;> simp only [List.cons_append, rewardInfoAfter, ih] <;> rfl

/-- **`reward_info`.** What `update_reward` leaves in the newest history item: untouched without a
`GreenAdminDatabaseUnreachablePenalty`; otherwise `{"connection_attempt_status": …}` as written by the LAST such component
(`response.status` if this item is its database-client request, `"n/a"` otherwise). -/
theorem C10_reward_info_written (it : Item) (comps : List (Comp × Val)) :
    ((∀ cw ∈ comps, ∀ n st m, cw.1 ≠ .greenDb n st m) → rewardInfoAfter it comps = it.rewardInfo) ∧
    (∀ pre post n st m w, comps = pre ++ (.greenDb n st m, w) :: post → (∀ cw ∈ post, ∀ n' st' m', cw.1 ≠ .greenDb n' st' m') →
      rewardInfoAfter it comps = greenDbRewardInfo it n) := by
  have hnone : ∀ (l : List (Comp × Val)) (it : Item), (∀ cw ∈ l, ∀ n st m, cw.1 ≠ .greenDb n st m) →
      rewardInfoAfter it l = it.rewardInfo := by
    intro l
    induction l with
    | nil => intro it _; rfl
    | cons cw rest ih =>
      intro it h
      obtain ⟨c, w⟩ := cw
      have hrest := ih it (fun cw hcw => h cw (List.mem_cons_of_mem _ hcw))
      cases c with
      | greenDb n st m => exact absurd rfl (h (.greenDb n st m, w) (List.mem_cons_self ..) n st m)
      | _ => simpa [rewardInfoAfter] using hrest
  refine ⟨hnone comps it, ?_⟩
  intro pre post n st m w hc hpost
  -- what the components before the last `greenDb` wrote is overwritten by it, and `post` writes nothing
  rw [hc, rewardInfoAfter_append]
  simp only [rewardInfoAfter]
  rw [hnone post _ hpost]
  rfl

end Primaite.Reward
