/-
C11 — the step around the mask, tied to the source (Gen/RequestCallers.lean, regenerated).

* `C11_gen_mask_and_step_form_same_request`: the request the mask checks for action number `i` and the request the step executes
  for it are BOTH `ActionManager.form_request(identifier, options)` of the pair `action_map[i]`, and that function is a pure function
  of the pair (registry look-up, `ConfigSchema(**options)`, the action class's `form_request(config)` — every one of those a
  class-level function of `config` alone).  This is what entitles `C11_masked_number_iff_reaches` to use ONE `form`.
* `C11_gen_pretimestep_disjoint_from_rules`: nothing `pre_timestep` assigns (anywhere in the simulator, helpers one level deep) is a
  field a permission rule reads: between the mask a user holds and the agent's action in the next `step`, no rule changes its
  truth because of `pre_timestep`.
-/
import PrimaiteModel.Model.Mask
import PrimaiteModel.Gen.ActionMask
import PrimaiteModel.Gen.RequestCallers
namespace Primaite.Mask
open Primaite.Gen.RequestCallers Primaite.Gen.ActionMask

/-- the request the mask checks for number `i` / the request the step executes for number `i`, as the source computes them:
look the pair up BY KEY, hand identifier and options to the one `form_request` -/
def maskRequest {α ρ} (form : α → ρ) (amap : List (Nat × α)) (i : Nat) : Option ρ := (actionOf amap i).map form
def stepRequest {α ρ} (getAction : Nat → Option α) (formatRequest : α → ρ) (i : Nat) : Option ρ := (getAction i).map formatRequest

theorem C11_gen_mask_and_step_form_same_request :
    -- the mask: `form_request(action[0], action[1])` of the entry it is looking at
    maskFormCalls = ["agent.action_manager.form_request(action_identifier=action[0], action_options=action[1])"] ∧
    -- the step: get_action → format_request → apply_request, the SAME request object recorded with the response
    stepSteps = ["for (_, agent) in self.agents.items()", "obs = agent.observation_manager.current_observation",
                 "action_choice, parameters = agent.get_action(obs, timestep=self.step_counter)",
                 "request = agent.format_request(action_choice, parameters)",
                 "response = self.simulation.apply_request(request)",
                 "agent.process_action_response(timestep=self.step_counter, action=action_choice, parameters=parameters, request=request, response=response, observation=obs)"] ∧
    -- format_request IS form_request of the same manager with the same two arguments
    formatRequestBody = ["return self.action_manager.form_request(action_identifier=action, action_options=options)"] ∧
    -- form_request reads nothing but its two arguments and the class registry
    formRequestBody = ["act_class = AbstractAction._registry[action_identifier]", "config = act_class.ConfigSchema(**action_options)",
                       "return act_class.form_request(config=config)"] ∧
    -- nobody overrides format_request; every action's form_request is a class-level function of `config` alone
    formOverrides = [] ∧
    -- (from Gen/ActionMask) the proxy agent's get_action is `action_map[number]`, by key
    getActionByKey = true ∧ stepLooksUpByNumber = true ∧
    -- hence, on the model: for every map and number the two requests are the same
    (∀ {α ρ : Type} (form : α → ρ) (amap : List (Nat × α)) (i : Nat),
      maskRequest form amap i = stepRequest (actionOf amap) form i) :=
  ⟨rfl, rfl, rfl, rfl, rfl, rfl, rfl, fun _ _ _ => rfl⟩

def ruleField (w : String) : Bool := ruleReads.contains w

/-- **`pre_timestep` writes no field a rule reads** — for every class of the simulator that defines it, helpers included.  The two
helper calls it makes are the reviewed ones.  (The rule fields: operating_state, enabled, folders / deleted_folders, files /
deleted_files, deleted, and the constructor arguments state / allowed_groups.)  What DOES move rule fields between two masks is
`apply_timestep` (countdowns) — before the mask is computed — and other agents acting earlier in the same tick: the rig's
countdown-boundary family and its `others-acted` bookkeeping are about those. -/
theorem C11_gen_pretimestep_disjoint_from_rules :
    (preTimestepWrites.all (fun cw => cw.2.all (fun w => !ruleField w))) = true ∧
    ruleReads = ["allowed_groups", "deleted", "deleted_files", "deleted_folders", "enabled", "files", "folders", "operating_state", "state"] ∧
    (preTimestepCalls.filter (fun cc => !cc.2.isEmpty)) =
      [("Network", ["self.airspace.reset_bandwidth_load"]), ("UserSessionManager", ["self._timeout_session"])] ∧
    preTimestepWrites.length = 14 := ⟨by decide +kernel, rfl, rfl, rfl⟩

end Primaite.Mask

/-! ### a route registered with a component's bound `apply_request` instead of its manager (seeded C11-h)

`check_valid` descends only into routes whose `func` IS a `RequestManager`; a bound method is a leaf for it, while `__call__` invokes
it and so runs the component's own manager.  The two traversals then walk DIFFERENT trees and `C11_mask_iff_reaches` (one tree)
says nothing.  That every dynamic edge leads to the component's manager is the Gen tie of the schema (`RequestSchema` refuses any
other shape at an `add_request` site; `Inst`, kept by every edit in Props/C05Inst) and, on the live tree after run-time creations, the rig's shape
oracle. -/
namespace Primaite.Request

/-- what `__call__` effectively walks: the application `c2-beacon` (installed at run time, still INSTALLING) with its own manager,
rule 1 = "application is RUNNING" on `scan` -/
def execView : Kids := [("application", 0, .node [("c2-beacon", 2, .node [("scan", 1, .leaf 0)])])]
/-- what `check_valid` walks when that route's func is the bound method: a leaf at the application's name -/
def maskView : Kids := [("application", 0, .node [("c2-beacon", 2, .leaf 9)])]
def installingEnv : Env := fun v _ => v != 1

theorem C11_forwarding_route_counterexample :
    checkValidK installingEnv maskView ["application", "c2-beacon", "scan"] = true ∧
    dispatchK installingEnv execView ["application", "c2-beacon", "scan"] 0 = .failure 2 1 ∧
    -- with the route registered as the manager both walk `execView` and agree
    checkValidK installingEnv execView ["application", "c2-beacon", "scan"] = false := by decide +kernel

end Primaite.Request

