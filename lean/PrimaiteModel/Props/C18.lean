/-
C18 — a link never carries more than its bandwidth in a tick; down links carry nothing.

Theorems about `Model/Link.lean`, for every network, every history of ticks and actions, every event tree (arbitrary
nesting of sends inside deliveries, over any mix of links and wireless channels, with interfaces going up and down at any
point, also in the middle of a delivery).
-/
import PrimaiteModel.Model.Link
import PrimaiteModel.Lemmas.LinkTrace
import PrimaiteModel.Gen.Link

namespace Primaite.Link

def Inv (n : Net) : Prop := (∀ l ∈ n.links, l.load ≤ l.bw) ∧ (∀ c ∈ n.chans, c.load ≤ c.cap)

instance (n : Net) : Decidable (Inv n) := by unfold Inv; infer_instance

/-- What must hold of every `send_frame` that returned: the load it left behind is within the capacity, and if the frame
was handed to a receiving interface then both end interfaces were enabled at that moment. -/
def RecOk (r : Rec) : Prop :=
  r.load ≤ r.bw ∧ (r.verdict.crossed = true → r.enS = true ∧ r.enR = true)

theorem inv_iff {n : Net} : Inv n ↔ ∀ w k, loadAt n w k ≤ capAt n w k := by
  constructor
  · intro h w k
    cases w
    · show loadOf n k ≤ bwOf n k
      unfold loadOf bwOf
      cases hk : n.links[k]? with
      | none => exact Nat.le_refl _
      | some l => exact h.1 l (List.mem_of_getElem? hk)
    · show cloadOf n k ≤ capOf n k
      unfold cloadOf capOf
      cases hk : n.chans[k]? with
      | none => exact Nat.le_refl _
      | some ch => exact h.2 ch (List.mem_of_getElem? hk)
  · intro h
    constructor
    · intro l hl
      obtain ⟨k, hk⟩ := List.getElem?_of_mem hl
      have := h false k
      rwa [loadAt, capAt, loadOf_eq n k l hk, bwOf_eq n k l hk] at this
    · intro c hc
      obtain ⟨k, hk⟩ := List.getElem?_of_mem hc
      have := h true k
      rwa [loadAt, capAt, cloadOf_eq n k c hk, capOf_eq n k c hk] at this

@[simp] theorem hearVerdict_loaded (b : Bool) : (hearVerdict b).loaded = false := by cases b <;> rfl

theorem Rec.Shows.le {r : Rec} {n : Net} (hs : r.Shows n) (h : Inv n) : r.load ≤ r.bw := by
  rw [hs.load, hs.bw]
  exact inv_iff.mp h _ _

theorem Same.inv {n n' : Net} (hs : Same n n') (h : Inv n) : Inv n' :=
  inv_iff.mpr fun w k => by rw [hs.load, hs.cap]; exact inv_iff.mp h w k

theorem Reserves.inv {n n' : Net} {r : Rec} (hres : Reserves n n' r.wireless r.k r.size) (ho : r.HandedOver n) (h : Inv n) :
    Inv n' := by
  refine inv_iff.mpr fun w k => ?_
  rw [hres.load, hres.cap]
  have := inv_iff.mp h w k
  split
  · next hwk =>
    obtain ⟨rfl, rfl⟩ := hwk
    have := ho.before
    have := ho.fits
    have := ho.capS
    omega
  · omega

theorem Rec.HandedOver.recOk {r : Rec} {n n' : Net} (ho : r.HandedOver n) (hs : r.Shows n') (h : Inv n') : RecOk r :=
  ⟨hs.le h, fun _ => ⟨ho.enS, ho.enR⟩⟩

theorem Trace.ok {n n' : Net} {rs : List Rec} (t : Trace n n' rs) (h : Inv n) : Inv n' ∧ ∀ r ∈ rs, RecOk r := by
  induction t with
  | silent hs => exact ⟨hs.inv h, List.forall_mem_nil _⟩
  | quiet hc _ hs => exact ⟨h, List.forall_mem_singleton.mpr ⟨hs.le h, fun hx => by rw [hc] at hx; cases hx⟩⟩
  | rejected ho _ hsame hs => exact ⟨hsame.inv h, List.forall_mem_singleton.mpr (ho.recOk hs (hsame.inv h))⟩
  | delivered ho _ hres _ hs ih =>
    obtain ⟨h2, hr⟩ := ih (hres.inv ho h)
    exact ⟨h2, List.forall_mem_append.mpr ⟨hr, List.forall_mem_singleton.mpr (ho.recOk hs h2)⟩⟩
  | append _ _ ih1 ih2 =>
    obtain ⟨h1, r1⟩ := ih1 h
    obtain ⟨h2, r2⟩ := ih2 h1
    exact ⟨h2, List.forall_mem_append.mpr ⟨r1, r2⟩⟩

theorem runEv_ok (n : Net) (e : Ev) (h : Inv n) :
    Inv (runEv n e).1 ∧ ∀ r ∈ (runEv n e).2, RecOk r :=
  (runEv_trace n e).ok h

theorem runEvs_ok (n : Net) (es : List Ev) (h : Inv n) :
    Inv (runEvs n es).1 ∧ ∀ r ∈ (runEvs n es).2, RecOk r :=
  (runEvs_trace n es).ok h

theorem loadAt_tick (n : Net) (w : Bool) (k : Nat) : loadAt (tick n) w k = 0 := by
  cases w
  · show loadOf (tick n) k = 0
    unfold loadOf tick
    simp only [List.getElem?_map]
    cases n.links[k]? <;> rfl
  · show cloadOf (tick n) k = 0
    unfold cloadOf tick
    simp only [List.getElem?_map]
    cases n.chans[k]? <;> rfl

theorem capAt_tick (n : Net) (w : Bool) (k : Nat) : capAt (tick n) w k = capAt n w k := by
  cases w
  · show bwOf (tick n) k = bwOf n k
    unfold bwOf tick
    simp only [List.getElem?_map]
    cases n.links[k]? <;> rfl
  · show capOf (tick n) k = capOf n k
    unfold capOf tick
    simp only [List.getElem?_map]
    cases n.chans[k]? <;> rfl

theorem tick_bw (n : Net) (k : Nat) : bwOf (tick n) k = bwOf n k ∧ capOf (tick n) k = capOf n k :=
  ⟨capAt_tick n false k, capAt_tick n true k⟩

/-- Any network is within capacity right after a tick boundary, whatever happened before (so the hypothesis of
`C18_load_le_bandwidth` is met by every history that starts with a tick, and by a freshly built network). -/
theorem C18_inv_after_tick (n : Net) : Inv (tick n) :=
  inv_iff.mpr fun w k => by rw [loadAt_tick]; exact Nat.zero_le _

/-! ### Capacity changes between actions

`link.bandwidth = v` and `AirSpace.set_frequency_max_capacity_mbps` are plain assignments: they do not look at the load.  Lowering a
capacity below what has already been carried in the tick makes `load ≤ capacity` false *of the state* without any frame having been
sent; everything else keeps it.  `CapSafe` is exactly that side condition (it holds trivially for histories without capacity
changes, and for every raise); what holds with **no** side condition is stated per record (`C18_crossed_only_if_fits`) and per
bound (`C18_admitted_under_every_tick`). -/

theorem inv_setBw (n : Net) (k v : Nat) (h : Inv n) (hv : loadOf n k ≤ v) : Inv (setBw n k v) := by
  unfold setBw
  cases hk : n.links[k]? with
  | none => exact h
  | some l =>
    exact ⟨forall_mem_set h.1 (by simpa [loadOf, hk] using hv), h.2⟩

theorem inv_setCap (n : Net) (c i v : Nat) (h : Inv n) (hv : cloadOf n c ≤ capOf (setCap n c i v) c) :
    Inv (setCap n c i v) := by
  unfold setCap at hv ⊢
  cases hc : n.chans[c]? with
  | none => exact h
  | some ch =>
    obtain ⟨hlt, hget⟩ := List.getElem?_eq_some_iff.mp hc
    simp only [hc] at hv ⊢
    exact ⟨h.1, forall_mem_set h.2 (by simpa [cloadOf, capOf, hc, hlt, hget] using hv)⟩

theorem loadAt_setBw (n : Net) (k v : Nat) (w : Bool) (k' : Nat) : loadAt (setBw n k v) w k' = loadAt n w k' := by
  unfold setBw
  cases hk : n.links[k]? with
  | none => rfl
  | some l =>
    cases w
    · show loadOf _ k' = loadOf n k'
      rw [loadOf_set n k k' l _ hk]
      split
      · next h => rw [h, loadOf_eq n k l hk]
      · rfl
    · rfl

theorem loadAt_setCap (n : Net) (c i v : Nat) (w : Bool) (c' : Nat) : loadAt (setCap n c i v) w c' = loadAt n w c' := by
  unfold setCap
  cases hc : n.chans[c]? with
  | none => rfl
  | some ch =>
    cases w
    · rfl
    · show cloadOf _ c' = cloadOf n c'
      rw [cloadOf_set n c c' ch _ hc]
      split
      · next h => rw [h, cloadOf_eq n c ch hc]
      · rfl

/-- The capacity change `o` (if it is one) leaves the new capacity at or above the load of the moment. -/
def Op.safeAt (n : Net) : Op → Bool
  | .setBw k v => decide (loadOf n k ≤ v)
  | .setCap c i v => decide (cloadOf n c ≤ capOf (Primaite.Link.setCap n c i v) c)
  | _ => true

/-- Every capacity change of the history leaves the new capacity at or above the load of that moment (decidable). -/
def capSafe : Net → List Op → Bool
  | _, [] => true
  | n, o :: os => o.safeAt n && capSafe (step n o).1 os

def CapSafe (n : Net) (ops : List Op) : Prop := capSafe n ops = true

instance (n : Net) (ops : List Op) : Decidable (CapSafe n ops) := by unfold CapSafe; infer_instance

def NoCap (ops : List Op) : Prop := ∀ o ∈ ops, o.isCap = false

theorem capSafe_of_noCap (n : Net) (ops : List Op) (h : NoCap ops) : CapSafe n ops := by
  induction ops generalizing n with
  | nil => rfl
  | cons o os ih =>
    have ho : o.isCap = false := h o (List.mem_cons_self ..)
    refine Bool.and_eq_true_iff.mpr ⟨?_, ih _ fun o' h' => h o' (List.mem_cons_of_mem _ h')⟩
    cases o <;> first | rfl | cases ho

theorem run_ok (n : Net) (ops : List Op) (h : Inv n) (hs : CapSafe n ops) :
    Inv (run n ops).1 ∧ ∀ r ∈ (run n ops).2, RecOk r := by
  induction ops generalizing n with
  | nil => exact ⟨h, List.forall_mem_nil _⟩
  | cons o os ih =>
    obtain ⟨hs1, hs2⟩ : o.safeAt n = true ∧ capSafe (step n o).1 os = true := Bool.and_eq_true_iff.mp hs
    have h1 : Inv (step n o).1 ∧ ∀ r ∈ (step n o).2, RecOk r := by
      cases o with
      | tick => exact ⟨C18_inv_after_tick n, List.forall_mem_nil _⟩
      | act evs => exact runEvs_ok n evs h
      | setBw k v => exact ⟨inv_setBw n k v h (of_decide_eq_true hs1), List.forall_mem_nil _⟩
      | setCap c i v => exact ⟨inv_setCap n c i v h (of_decide_eq_true hs1), List.forall_mem_nil _⟩
    obtain ⟨h2, r2⟩ := ih (step n o).1 h1.1 hs2
    exact ⟨h2, List.forall_mem_append.mpr ⟨h1.2, r2⟩⟩

/-- If the frame was handed to a receiving interface then both end interfaces were enabled at that moment **and the frame fitted**:
the load before it plus its size was within the capacity then in force (wired: the bandwidth; wireless: the capacity of the
sender's frequency name).  And an interface hears a frame that is in the air only if it is enabled at that moment. -/
def RecFit (r : Rec) : Prop :=
  (r.verdict.crossed = true → r.enS = true ∧ r.enR = true ∧ r.loadBefore + r.size ≤ r.capS) ∧
  (r.verdict = .heard → r.enR = true)

theorem Rec.HandedOver.recFit {r : Rec} {n : Net} (ho : r.HandedOver n) : RecFit r :=
  ⟨fun _ => ⟨ho.enS, ho.enR, ho.fits⟩, fun hh => by have := ho.crossed; rw [hh] at this; cases this⟩

theorem Trace.fit {n n' : Net} {rs : List Rec} (t : Trace n n' rs) : ∀ r ∈ rs, RecFit r := by
  induction t with
  | silent => exact List.forall_mem_nil _
  | quiet hc hh => exact List.forall_mem_singleton.mpr ⟨fun hx => (by rw [hc] at hx; cases hx), hh⟩
  | rejected ho => exact List.forall_mem_singleton.mpr ho.recFit
  | delivered ho _ _ _ _ ih => exact List.forall_mem_append.mpr ⟨ih, List.forall_mem_singleton.mpr ho.recFit⟩
  | append _ _ ih1 ih2 => exact List.forall_mem_append.mpr ⟨ih1, ih2⟩

theorem runEv_fit (n : Net) (e : Ev) : ∀ r ∈ (runEv n e).2, RecFit r :=
  (runEv_trace n e).fit

theorem runEvs_fit (n : Net) (es : List Ev) : ∀ r ∈ (runEvs n es).2, RecFit r :=
  (runEvs_trace n es).fit

theorem run_fit (n : Net) (ops : List Op) : ∀ r ∈ (run n ops).2, RecFit r := by
  induction ops generalizing n with
  | nil => exact List.forall_mem_nil _
  | cons o os ih =>
    refine List.forall_mem_append.mpr ⟨?_, ih _⟩
    cases o with
    | act evs => exact runEvs_fit n evs
    | _ => exact List.forall_mem_nil _

/-- **load ≤ bandwidth, always.** From any state within capacity (in particular the state a tick starts in), after any
history of ticks and actions — each action an arbitrary forest of sends nested inside deliveries, on wired links and
wireless channels, with interfaces going up and down anywhere, with deliveries cut short by exceptions anywhere (`lost`) —
every wired link and every wireless channel is within its capacity at the end, and was within its capacity each time a
`send_frame` returned (or was unwound).  The history may change bandwidths and capacities between actions as long as no
change puts a capacity below the load of that moment (`CapSafe`; see `C18_lowering_counterexample` for why that is needed
and `C18_admitted_under_every_tick` for what holds without it). -/
theorem C18_load_le_bandwidth (n : Net) (ops : List Op) (h : Inv n) (hs : CapSafe n ops) :
    (∀ l ∈ (run n ops).1.links, l.load ≤ l.bw) ∧
    (∀ c ∈ (run n ops).1.chans, c.load ≤ c.cap) ∧
    (∀ r ∈ (run n ops).2, r.load ≤ r.bw) := by
  obtain ⟨hi, hr⟩ := run_ok n ops h hs
  exact ⟨hi.1, hi.2, fun r hmem => (hr r hmem).1⟩

/-- The same for histories that never change a capacity (the case of every shipped scenario and of the environment: no code of
the simulator assigns a bandwidth or a frequency capacity after construction — `Gen.Link.capacityWriters`). -/
theorem C18_load_le_bandwidth_noCap (n : Net) (ops : List Op) (h : Inv n) (hn : NoCap ops) :
    (∀ l ∈ (run n ops).1.links, l.load ≤ l.bw) ∧
    (∀ c ∈ (run n ops).1.chans, c.load ≤ c.cap) ∧
    (∀ r ∈ (run n ops).2, r.load ≤ r.bw) :=
  C18_load_le_bandwidth n ops h (capSafe_of_noCap n ops hn)

/-- The state-form of the property without the side condition. -/
def C18_Full_load_any_capacity_change : Prop :=
  ∀ (n : Net) (ops : List Op), Inv n → ∀ l ∈ (run n ops).1.links, l.load ≤ l.bw

/-- It is false, and not because anything was sent: carry 8 over a link of 10, then assign `bandwidth = 5`.  The load (8) is
now above the bandwidth (5) although every frame fitted when it was admitted.  (Not a defect of the accounting: the assignment
is the user's; the property's "data carried ≤ bandwidth" is then read against the bandwidth in force when the data was
admitted — `C18_crossed_only_if_fits`, `C18_admitted_under_every_tick`.) -/
theorem C18_lowering_counterexample : ¬ C18_Full_load_any_capacity_change := fun h =>
  absurd (h { links := [{ bw := 10, load := 0, enA := true, enB := true }], chans := [] }
      [.act [.send 0 true 8 true []], .setBw 0 5] (by decide) { bw := 5, load := 8, enA := true, enB := true } (by decide))
    (by decide +kernel)

/-- a raise is always safe; a lowering to no less than the load is safe -/
example :
    let n : Net := { links := [{ bw := 10, load := 0, enA := true, enB := true }], chans := [] }
    Inv n ∧ CapSafe n [.act [.send 0 true 8 true []], .setBw 0 8, .act [.send 0 true 1 true []], .setBw 0 20,
                        .act [.send 0 true 12 true []]] ∧
    (run n [.act [.send 0 true 8 true []], .setBw 0 8, .act [.send 0 true 1 true []], .setBw 0 20,
            .act [.send 0 true 12 true []]]).2.map (·.verdict) = [.carried, .full, .carried] := by decide +kernel

/-- **Down links carry nothing.** Whenever a frame is handed to a receiving interface of a wired link (verdict `carried`,
`rejected` or `lost`), both end interfaces of the link were enabled at that moment; for a wireless send the sender was enabled.
For every history from every state (no invariant needed; capacity changes and aborted deliveries included). -/
theorem C18_down_carries_nothing (n : Net) (ops : List Op) :
    ∀ r ∈ (run n ops).2, r.verdict.crossed = true → r.enS = true ∧ r.enR = true :=
  fun r hmem hc => ⟨((run_fit n ops r hmem).1 hc).1, ((run_fit n ops r hmem).1 hc).2.1⟩

/-- **A frame crosses only if it fits.** Every frame handed to a receiving interface fitted, at that moment, within the capacity
then in force: `load before + size ≤ capacity`.  For every history from every state: whatever the loads were, whatever capacity
changes happened in between, whether or not the delivery later ended in an exception. -/
theorem C18_crossed_only_if_fits (n : Net) (ops : List Op) :
    ∀ r ∈ (run n ops).2, r.verdict.crossed = true → r.loadBefore + r.size ≤ r.capS :=
  fun r hmem hc => ((run_fit n ops r hmem).1 hc).2.2

/-- **Wireless: only an interface that is enabled at that moment hears the frame** — decided at each turn of the loop of
`AirSpace.transmit`, not when the send starts: for every history from every state. -/
theorem C18_wireless_heard_only_if_enabled (n : Net) (ops : List Op) :
    ∀ r ∈ (run n ops).2, r.verdict = .heard → r.enR = true :=
  fun r hmem hh => (run_fit n ops r hmem).2 hh

/-- One turn of that loop: interface `j` hears the frame sent by `i` iff it is in the frequency's interface list and enabled
**now**, and is not the sender; nothing else changes. -/
theorem C18_wireless_hears_iff_enabled_now (n : Net) (c i j : Nat) (ch : Chan) (hc : n.chans[c]? = some ch) :
    (runEv n (.wrecv c i j)).1 = n ∧
    ∃ r, (runEv n (.wrecv c i j)).2 = [r] ∧ r.rcv = [j] ∧
      (r.verdict = .heard ↔ (ch.mem[j]? = some true ∧ ch.en[j]? = some true ∧ j ≠ i)) := by
  unfold runEv
  simp only [hc, true_and]
  refine ⟨_, rfl, rfl, ?_⟩
  rw [hearVerdict_eq_heard]
  cases ch.mem[j]? <;> cases ch.en[j]? <;> simp [and_assoc]

/-- The record of a wired `send_frame` of size `s` over link `k`, which was `l` when the send began. -/
def wiredRec (k : Nat) (l : Link) (fromA : Bool) (s : Nat) (v : Verdict) (load bw : Nat) : Rec :=
  { wireless := false, k, verdict := v, enS := if fromA then l.enA else l.enB, enR := if fromA then l.enB else l.enA,
    rcv := [], size := s, loadBefore := l.load, load, bw, capS := l.bw }

theorem release_eq_self (n : Net) (k s : Nat) (l : Link) (hl : n.links[k]? = some l) :
    ({ n with links := n.links.set k { l with load := l.load + s - s } } : Net) = n := by
  obtain ⟨hlt, rfl⟩ := List.getElem?_eq_some_iff.mp hl
  rw [Nat.add_sub_cancel]
  exact congrArg (fun ls => ({ n with links := ls } : Net)) (List.set_getElem_self hlt)

theorem runEv_send_refused (n : Net) (k : Nat) (fromA : Bool) (s : Nat) (acc : Bool) (nested : List Ev) (l : Link)
    (hk : n.links[k]? = some l) (h : l.isUp = false ∨ l.bw < l.load + s) :
    ∃ v, v.crossed = false ∧ runEv n (.send k fromA s acc nested) = (n, [wiredRec k l fromA s v l.load l.bw]) := by
  unfold runEv
  simp only [hk, wiredRec]
  cases (if fromA then l.enA else l.enB)
  · exact ⟨.disabled, rfl, rfl⟩
  · cases hup : l.isUp
    · exact ⟨.down, rfl, rfl⟩
    · have hadm : admits l.load s l.bw = false := decide_eq_false (by have := h.resolve_left (by simp [hup]); omega)
      rw [hadm]
      exact ⟨.full, rfl, rfl⟩

theorem runEv_send_admitted (n : Net) (k : Nat) (fromA : Bool) (s : Nat) (acc : Bool) (nested : List Ev) (l : Link)
    (hk : n.links[k]? = some l) (hup : l.isUp = true) (hfit : l.load + s ≤ l.bw) :
    let r := runEvs { n with links := n.links.set k { l with load := l.load + s } } nested
    runEv n (.send k fromA s acc nested) =
      if acc then (r.1, r.2 ++ [wiredRec k l fromA s .carried (loadOf r.1 k) (bwOf r.1 k)])
      else (n, [wiredRec k l fromA s .rejected l.load l.bw]) := by
  have hadm : admits l.load s l.bw = true := decide_eq_true hfit
  unfold runEv
  simp only [hk, wiredRec, l.enS_of_isUp fromA hup, hup, hadm, Bool.not_true, Bool.false_eq_true, if_false, release_eq_self n k s l hk,
    loadOf_eq n k l hk, bwOf_eq n k l hk]

theorem runEv_lost_admitted (n : Net) (k : Nat) (fromA : Bool) (s : Nat) (nested : List Ev) (l : Link)
    (hk : n.links[k]? = some l) (hup : l.isUp = true) (hfit : l.load + s ≤ l.bw) :
    let r := runEvs { n with links := n.links.set k { l with load := l.load + s } } nested
    runEv n (.lost k fromA s nested) = (r.1, r.2 ++ [wiredRec k l fromA s .lost (loadOf r.1 k) (bwOf r.1 k)]) := by
  have hadm : admits l.load s l.bw = true := decide_eq_true hfit
  unfold runEv
  simp only [hk, wiredRec, l.enS_of_isUp fromA hup, hup, hadm, Bool.not_true, Bool.false_eq_true, if_false]

/-- **Overflow is dropped at the sender (wired).** If the frame does not fit, nothing changes anywhere, nothing nested runs,
and the single record says the frame did not cross. -/
theorem C18_overflow_dropped_at_sender (n : Net) (k : Nat) (fromA : Bool) (s : Nat) (acc : Bool) (nested : List Ev)
    (l : Link) (hl : n.links[k]? = some l) (hover : l.bw < l.load + s) :
    (runEv n (.send k fromA s acc nested)).1 = n ∧
    ∃ r, (runEv n (.send k fromA s acc nested)).2 = [r] ∧ r.verdict.crossed = false ∧ r.load = l.load := by
  obtain ⟨v, hv, he⟩ := runEv_send_refused n k fromA s acc nested l hl (.inr hover)
  rw [he]
  exact ⟨rfl, _, rfl, hv, rfl⟩

/-- **Overflow is dropped at the sender (wireless).** The capacity is the one of the sender's frequency name. -/
theorem C18_air_overflow_dropped_at_sender (n : Net) (c i s : Nat) (nested : List Ev)
    (ch : Chan) (hc : n.chans[c]? = some ch) (capI : Nat) (hcap : ch.caps[i]? = some capI) (hover : capI < ch.load + s) :
    (runEv n (.wsend c i s nested)).1 = n ∧
    ∃ r, (runEv n (.wsend c i s nested)).2 = [r] ∧ r.verdict.crossed = false ∧ r.load = ch.load := by
  have hadm : admits ch.load s capI = false := decide_eq_false (by omega)
  unfold runEv
  simp only [hc, hcap, hadm]
  cases hi : ch.en[i]? with
  | none => exact ⟨rfl, _, rfl, rfl, rfl⟩
  | some enS => cases enS <;> exact ⟨rfl, _, rfl, rfl, rfl⟩

/-- **A frame is admitted exactly when it fits** (sender enabled, link up): it is handed to the far interface iff
`load + size ≤ bandwidth`. -/
theorem C18_admitted_iff_fits (n : Net) (k : Nat) (fromA : Bool) (s : Nat) (acc : Bool) (nested : List Ev)
    (l : Link) (hl : n.links[k]? = some l) (hup : l.isUp = true) :
    (∃ r ∈ (runEv n (.send k fromA s acc nested)).2, r.wireless = false ∧ r.k = k ∧ r.verdict.crossed = true ∧
        r.loadBefore = l.load ∧ r.size = s) ↔ l.load + s ≤ l.bw := by
  constructor
  · intro ⟨r, hr, _, _, hc, _, _⟩
    false_or_by_contra
    rename_i hno
    obtain ⟨v, hv, he⟩ := runEv_send_refused n k fromA s acc nested l hl (.inr (by omega))
    rw [he] at hr
    cases List.mem_singleton.mp hr
    exact Bool.false_ne_true (hv.symm.trans hc)
  · intro hfit
    rw [runEv_send_admitted n k fromA s acc nested l hl hup hfit]
    cases acc
    · exact ⟨_, List.mem_singleton.mpr rfl, rfl, rfl, rfl, rfl, rfl⟩
    · exact ⟨_, List.mem_append_right _ (List.mem_singleton.mpr rfl), rfl, rfl, rfl, rfl, rfl⟩

/-- **Loads start every tick at zero**, bandwidths and interface states are untouched. -/
theorem C18_tick_starts_zero (n : Net) :
    (∀ l ∈ (tick n).links, l.load = 0) ∧ (∀ c ∈ (tick n).chans, c.load = 0) ∧
    (tick n).links.map (fun l => (l.bw, l.enA, l.enB)) = n.links.map (fun l => (l.bw, l.enA, l.enB)) ∧
    (tick n).chans.map (fun c => (c.caps, c.en, c.mem)) = n.chans.map (fun c => (c.caps, c.en, c.mem)) :=
  ⟨List.forall_mem_map.mpr fun _ _ => rfl, List.forall_mem_map.mpr fun _ _ => rfl,
    by simp [tick, List.map_map, Function.comp_def], by simp [tick, List.map_map, Function.comp_def]⟩

/-- A disabled end interface: the send changes nothing and nothing nested runs. -/
theorem C18_down_link_unchanged (n : Net) (k : Nat) (fromA : Bool) (s : Nat) (acc : Bool) (nested : List Ev)
    (l : Link) (hl : n.links[k]? = some l) (hdown : l.isUp = false) :
    (runEv n (.send k fromA s acc nested)).1 = n ∧
    ∃ r, (runEv n (.send k fromA s acc nested)).2 = [r] ∧ r.verdict.crossed = false := by
  obtain ⟨v, hv, he⟩ := runEv_send_refused n k fromA s acc nested l hl (.inl hdown)
  rw [he]
  exact ⟨rfl, _, rfl, hv⟩

/-- The admission tests of `Link.can_transmit_frame` and `AirSpace.can_transmit_frame` read from the source are the model's. -/
theorem C18_gen_admit (load size cap : Nat) :
    Gen.Link.admits load size cap = admits load size cap ∧ Gen.Link.airAdmits load size cap = admits load size cap :=
  ⟨rfl, rfl⟩

/-- `Link.is_up` read from the source is the model's. -/
theorem C18_gen_isUp (l : Link) : Gen.Link.isUp l.enA l.enB = l.isUp := rfl

/-- The order of the steps in `Link.transmit_frame` (size read once, load added *before* the delivery, released after a
refusal), in `AirSpace.transmit`, and in the three `send_frame` methods (stamp *before* the admission test) is the model's. -/
theorem C18_gen_orders :
    Gen.Link.transmitOrder = transmitOrder ∧ Gen.Link.airTransmitOrder = airTransmitOrder ∧
    Gen.Link.wiredSendOrder = wiredSendOrder ∧ Gen.Link.switchSendOrder = switchSendOrder ∧
    Gen.Link.wirelessSendOrder = wirelessSendOrder := ⟨rfl, rfl, rfl, rfl, rfl⟩

/-- The remaining structural facts the model relies on: every load is reset by the tick; disabling an interface does *not*
touch the link's load (F-40 repaired; on the unrepaired tree the extractor emits `true` and this obligation fails); a refusing
interface does not involve its node; the airspace keys its load by hz and its capacity by frequency name. -/
theorem C18_gen_flags :
    Gen.Link.tickResetsEveryLoad = true ∧ Gen.Link.disableClearsLoad = false ∧
    Gen.Link.rejectedMeansNodeNotInvolved = true ∧ Gen.Link.bytesPerMbit = 131072 ∧
    Gen.Link.airLoadKey = "frequency_hz" ∧ Gen.Link.airCapacityKey = "name" ∧ Gen.Link.sizeIsWholeBytes = true := ⟨rfl, rfl, rfl, rfl, rfl, rfl, rfl⟩

/-! ### Inventories regenerated from the source: a class, a writer, a handler or a caller that appears (or disappears) breaks an
obligation here, so nothing the model does not follow can be added silently -/

/-- Every class of the `NetworkInterface` hierarchy that defines `send_frame`, `enable` or `disable`, with the order of its steps.
The classes that transmit (`WiredNetworkInterface` and everything inheriting its `send_frame` — NIC, RouterInterface —, `SwitchPort`,
`WirelessNetworkInterface` and its heir `wireless_router.WirelessAccessPoint`) follow the model's orders; `NetworkInterface.send_frame`
only counts traffic (reached through `super()`); the two stub classes under `network_interface/wireless/` never transmit.
`enable` sets the flag only after every precondition and before anything is sent (`hello` comes after `super`), `disable` clears it
and touches no load. -/
def ifaceMethodsModelled : List (String × String × String × List String) := [
  ("IPWiredNetworkInterface", "base.py", "enable", ["super", "hello"]),
  ("IPWirelessNetworkInterface", "airspace.py", "enable", ["super", "hello"]),
  ("NetworkInterface", "base.py", "disable", ["abstract"]),
  ("NetworkInterface", "base.py", "enable", ["abstract"]),
  ("NetworkInterface", "base.py", "send_frame", ["capture"]),
  ("SwitchPort", "switch.py", "send_frame", ["enabled", "admission", "transmit"]),
  ("WiredNetworkInterface", "base.py", "disable", ["noop-if-disabled", "clear", "endpoint_down"]),
  ("WiredNetworkInterface", "base.py", "enable", ["noop-if-enabled", "needs-node", "needs-node-on", "needs-link", "set", "endpoint_up"]),
  ("WiredNetworkInterface", "base.py", "send_frame", ["enabled", "stamp", "admission", "transmit"]),
  ("WirelessAccessPoint", "wireless_access_point.py", "disable", ["stub"]),
  ("WirelessAccessPoint", "wireless_access_point.py", "enable", ["stub"]),
  ("WirelessAccessPoint", "wireless_access_point.py", "send_frame", ["stub"]),
  ("WirelessNIC", "wireless_nic.py", "disable", ["stub"]),
  ("WirelessNIC", "wireless_nic.py", "enable", ["stub"]),
  ("WirelessNIC", "wireless_nic.py", "send_frame", ["stub"]),
  ("WirelessNetworkInterface", "airspace.py", "disable", ["noop-if-disabled", "clear", "leave-airspace"]),
  ("WirelessNetworkInterface", "airspace.py", "enable", ["noop-if-enabled", "needs-node", "needs-node-on", "set", "join-airspace"]),
  ("WirelessNetworkInterface", "airspace.py", "send_frame", ["enabled", "stamp", "admission", "transmit"])
]

theorem C18_gen_iface_inventory : Gen.Link.ifaceMethods = ifaceMethodsModelled := rfl

/-- Every `send_frame` of the hierarchy is one of: the wired order, the switch-port order, the wireless order (stamp — except on a
switch port, which only forwards stamped frames —, admission, transmit, in that order after the `enabled` test), pure bookkeeping,
or a stub that sends nothing. -/
theorem C18_gen_every_send_frame_modelled :
    ∀ e ∈ Gen.Link.ifaceMethods, e.2.2.1 = "send_frame" →
      e.2.2.2 = wiredSendOrder ∨ e.2.2.2 = switchSendOrder ∨ e.2.2.2 = wirelessSendOrder ∨ e.2.2.2 = ["capture"] ∨ e.2.2.2 = ["stub"] := by
  decide +kernel

/-- Nothing in src/primaite assigns a link's `bandwidth` or a frequency's `data_rate_bps`, or calls
`set_frequency_max_capacity_mbps` / `register_frequency`, except `set_frequency_max_capacity_mbps` itself and
`PrimaiteGame.from_config` (before any node exists).  So inside the simulator capacities are constant (`NoCap`); `Op.setBw` /
`Op.setCap` model what a user's script can do between actions. -/
theorem C18_gen_capacity_writers : Gen.Link.capacityWriters = [
  "airspace.py:AirSpace.set_frequency_max_capacity_mbps:self.frequencies[freq].data_rate_bps=",
  "game.py:PrimaiteGame.from_config:set_frequency_max_capacity_mbps()"] := rfl

/-- The functions under simulator/network and simulator/system that contain a `try`.  None of them is on the path
`send_frame → transmit_frame → receive_frame → node → session manager → software.receive` except the two FTP handlers
(`_store_data` wraps file creation; `_retrieve_data` wraps `_send_data`, so an exception raised under a frame the FTP server sends
is caught there: the sends below are `lost`, the delivery above completes — the second example after `C18_lost_stays_accounted`). -/
theorem C18_gen_try_sites : Gen.Link.trySites = [
  "ftp_service.py:FTPServiceABC._retrieve_data",
  "ftp_service.py:FTPServiceABC._store_data",
  "networks.py:_get_example_network",
  "router.py:AccessControlList._init_request_manager",
  "web_browser.py:WebBrowser.get_webpage"] := rfl

/-- The software through which a received payload becomes a request executed on the receiving node (and so can disable or enable
an interface, or power the node off, while the carrying frame is still being delivered): `Terminal.execute` is the only caller of
`apply_request`; it is reached from `Terminal.receive` (remote command over SSH), from a local terminal connection, and from the
C2 beacon's TERMINAL / exfiltration commands.  The rig drives the first and the C2 path (`rcmd`, `c2` operations). -/
theorem C18_gen_remote_executors : Gen.Link.remoteExecutors = [
  "c2_beacon.py:C2Beacon._command_data_exfiltration:execute",
  "c2_beacon.py:C2Beacon._command_terminal:execute",
  "c2_beacon.py:C2Beacon._perform_exfiltration:execute",
  "terminal.py:LocalTerminalConnection.execute:execute",
  "terminal.py:Terminal._init_request_manager:execute",
  "terminal.py:Terminal.execute:apply_request"] := rfl

/-- Every call that can change `enabled` of an interface, and every direct write of the flag. -/
theorem C18_gen_toggle_sites : Gen.Link.toggleSites = [
  "airspace.py:IPWirelessNetworkInterface.enable:super().enable",
  "airspace.py:WirelessNetworkInterface.disable:self.enabled=False",
  "airspace.py:WirelessNetworkInterface.enable:self.enabled=True",
  "base.py:IPWiredNetworkInterface.enable:super().enable",
  "base.py:NetworkInterface._init_request_manager:self.disable",
  "base.py:NetworkInterface._init_request_manager:self.enable",
  "base.py:NetworkInterface.setup_for_episode:self.enable",
  "base.py:Node.apply_timestep:network_interface.enable",
  "base.py:Node.connect_nic:network_interface.enable",
  "base.py:Node.disconnect_nic:network_interface.disable",
  "base.py:Node.power_off:network_interface.disable",
  "base.py:Node.power_on:network_interface.enable",
  "base.py:WiredNetworkInterface.connect_link:self.enable",
  "base.py:WiredNetworkInterface.disable:self.enabled=False",
  "base.py:WiredNetworkInterface.disconnect_link:self.disable",
  "base.py:WiredNetworkInterface.enable:self.enabled=True",
  "container.py:Network.setup_for_episode:network_interface.enable",
  "creation.py:OfficeLANAdder.add_nodes_to_net:enable_port",
  "creation.py:OfficeLANAdder.add_nodes_to_net:switch.network_interface[switch_port].enable",
  "firewall.py:Firewall.configure_dmz_port:self.dmz_port.enable",
  "firewall.py:Firewall.configure_external_port:self.external_port.enable",
  "firewall.py:Firewall.configure_internal_port:self.internal_port.enable",
  "networks.py:arcd_uc2_network:enable_port",
  "networks.py:client_server_routed:enable_port",
  "router.py:Router.disable_port:network_interface.disable",
  "router.py:Router.enable_port:network_interface.enable",
  "router.py:Router.setup_for_episode:enable_port",
  "wireless_router.py:WirelessRouter.configure_router_interface:self.router_interface.disable",
  "wireless_router.py:WirelessRouter.configure_router_interface:self.router_interface.enable",
  "wireless_router.py:WirelessRouter.configure_wireless_access_point:self.wireless_access_point.disable",
  "wireless_router.py:WirelessRouter.configure_wireless_access_point:self.wireless_access_point.enable"] := rfl

/-- **Who writes a load.** The airspace's per-frequency load `bandwidth_load` is written by its declaration, the lazy `= 0.0` in
`can_transmit_frame`, the `+=` in `transmit` and `reset_bandwidth_load` (called by `Network.pre_timestep`) — by nothing else in
src/primaite; a link's `current_load` by its declaration, `transmit_frame` (`+=`, `-=`) and `pre_timestep`.  So no interface
operation (enable, disable, add / remove from the airspace, `clear`, power events, re-configuration) can lower a load inside a
tick: the wireless twin of F-40 cannot come back unnoticed. -/
-- How `can_transmit_frame`, `transmit` and `transmit_frame` write the load is not a matter of text: their bodies are translated
-- statement by statement and proved equal to the model (`Props/C18Body.lean`, `C18_gen_*_body`).
theorem C18_gen_load_writers :
    Gen.Link.airLoadWriters = [
  "airspace.py:AirSpace.<module>:bandwidth_load declared",
  "airspace.py:AirSpace.can_transmit_frame:(body translated)",
  "airspace.py:AirSpace.reset_bandwidth_load:bandwidth_load =",
  "airspace.py:AirSpace.transmit:(body translated)"] ∧
    Gen.Link.linkLoadWriters = [
  "base.py:Link.<module>:current_load declared",
  "base.py:Link.pre_timestep:current_load =",
  "base.py:Link.transmit_frame:(body translated)"] := ⟨rfl, rfl⟩

/-- `AirSpace.add_wireless_interface`, `remove_wireless_interface` and `clear` have exactly the steps the model's `wjoin` /
`wleave` stand for (registry and per-frequency interface lists; the extractor refuses any other statement). -/
theorem C18_gen_air_membership_ops :
    Gen.Link.airMembershipOps = [("add_wireless_interface", ["if-absent", "register", "ensure-list", "append-to-list"]),
      ("clear", ["clear-registry", "clear-lists"]), ("remove_wireless_interface", ["if-present", "unregister", "remove-from-list"])] :=
  rfl

/-- **The size admitted is the size accounted, on every send path** (F-28b's class).  The admission test and the accounting each
evaluate `frame.size_Mbits` (Link: twice in `can_transmit_frame` — one into an unused local —, once at the top of `transmit_frame`;
AirSpace: once each); the frame is stamped before the admission test (`C18_gen_orders`, `C18_gen_every_send_frame_modelled`); between
the two evaluations only `super().send_frame(frame)` and `pcap.capture_outbound(frame)` run (enforced by the extractor), and those
write nothing on the frame and call nothing on it but `model_dump_json()`; nothing but the choice of the receiver precedes the size
read in `transmit_frame`.  A further evaluation, a write, or another call on the frame in that window changes these tables. -/
theorem C18_gen_size_window :
    Gen.Link.sizeEvaluations = [("AirSpace.can_transmit_frame", 1), ("AirSpace.transmit", 1), ("Link.can_transmit_frame", 2), ("Link.transmit_frame", 1)] ∧
    Gen.Link.frameWritesBetweenAdmissionAndAccounting = [] ∧
    Gen.Link.frameCallsBetweenAdmissionAndAccounting = ["PacketCapture.capture_outbound:frame.model_dump_json()"] := ⟨rfl, rfl, rfl⟩

/-- **The reset path of a tick boundary, as the source has it now.** `PrimaiteGame.pre_timestep` → `Simulation.pre_timestep` →
`Network.pre_timestep`, which resets the airspace and calls `pre_timestep` of **every** link — a loop whose body is exactly the one
call, no condition (a link that is down, an interface that is disabled, a frequency nobody is on make no difference) —;
`Link.pre_timestep` assigns `current_load = 0.0` unconditionally; `reset_bandwidth_load` drops every frequency's entry.  That is the
model's `tick`.  Every `Link` is made by `Network.connect`, which registers it in `Network.links` (so the loop reaches it); the only
`airspace=` a wireless node is built with on the `from_config` path is its network's own (`net.airspace`), so `Network.pre_timestep`
resets the airspace every wireless interface of the network transmits on.  A condition in the loop (seeded C18-e: `if link.is_up`),
a new constructor site, another airspace argument: the tables change and this obligation fails. -/
theorem C18_gen_tick_reset_path :
    Gen.Link.tickResetPath = [
      ("PrimaiteGame.pre_timestep", ["self.simulation.pre_timestep(self.step_counter)"]),
      ("Simulation.pre_timestep", ["super", "self.network.pre_timestep(timestep)"]),
      ("Network.pre_timestep", ["super", "self.airspace.reset_bandwidth_load()", "every node: pre_timestep (unconditional)", "every link: pre_timestep (unconditional)"]),
      ("Link.pre_timestep", ["super", "self.current_load = 0.0"]),
      ("AirSpace.reset_bandwidth_load", ["self.bandwidth_load = {}"]),
      ("Network.connect", ["registers the link in self.links"])] ∧
    Gen.Link.linkConstructionSites = ["container.py:Network.connect"] ∧
    Gen.Link.airspaceArgumentSites = ["game.py:PrimaiteGame.from_config:airspace=net.airspace", "wireless_router.py:WirelessRouter.__init__:airspace=self.airspace", "wireless_router.py:WirelessRouter.from_config:airspace=airspace"] := ⟨rfl, rfl, rfl⟩

/-- Link of 10 units, both ends up; request of 6 whose delivery sends a reply of 6 back: the reply is dropped at the
sender (6 + 6 > 10) and the tick ends at 6 ≤ 10. -/
example :
    let n : Net := { links := [{ bw := 10, load := 0, enA := true, enB := true }], chans := [] }
    let r := run n [.act [.send 0 true 6 true [.send 0 false 6 true []]]]
    Inv n ∧ r.1.links = [{ bw := 10, load := 6, enA := true, enB := true }] ∧
    r.2.map (·.verdict) = [.full, .carried] := by decide +kernel

/-- Disabling an end in the middle of a delivery: the load stays, later sends are refused as `down`. -/
example :
    let n : Net := { links := [{ bw := 10, load := 0, enA := true, enB := true }], chans := [] }
    let r := run n [.act [.send 0 true 4 true [.setEn 0 false false, .send 0 false 1 true []]], .act [.send 0 true 1 true []]]
    r.1.links = [{ bw := 10, load := 4, enA := true, enB := false }] ∧
    r.2.map (·.verdict) = [.disabled, .carried, .down] := by decide +kernel

/-- Wireless: three interfaces, the third disabled; a send from 0 is heard by interface 1 (whose reply does not fit), not by 2;
interface 2 is enabled while 1 is processing, so the same loop then reaches it and it hears the frame. -/
example :
    let n : Net := { links := [], chans := [{ caps := [10, 10, 10], load := 0, en := [true, true, false] }] }
    let r := run n [.act [.wsend 0 0 7 [.wrecv 0 0 1, .wsend 0 1 4 [], .wrecv 0 0 2]], .tick,
                    .act [.wsend 0 0 1 [.wrecv 0 0 1, .wsetEn 0 2 true, .wjoin 0 2, .wrecv 0 0 2]], .act [.wsend 0 2 1 [.wrecv 0 2 2]]]
    r.2.map (fun x => (x.verdict, x.rcv, x.load)) =
      [(.heard, [1], 7), (.full, [], 7), (.deaf, [2], 7), (.carried, [], 7),
       (.heard, [1], 1), (.heard, [2], 1), (.carried, [], 1), (.deaf, [2], 2), (.carried, [], 2)] := by decide +kernel

/-- Size of the frame if this record says it was carried over wired link (`w = false`) / wireless channel (`w = true`) `k`:
taken by the far interface, or handed over and then cut short by an exception (`lost`: the frame did cross, and the code keeps
its size on the load). -/
def Rec.carriedBy (r : Rec) (w : Bool) (k : Nat) : Nat :=
  if r.wireless = w ∧ r.k = k ∧ r.verdict.loaded = true then r.size else 0

def carriedOn (w : Bool) (k : Nat) : List Rec → Nat
  | [] => 0
  | r :: rs => r.carriedBy w k + carriedOn w k rs

theorem carriedOn_append (w : Bool) (k : Nat) (a b : List Rec) :
    carriedOn w k (a ++ b) = carriedOn w k a + carriedOn w k b := by
  induction a with
  | nil => simp [carriedOn]
  | cons r rs ih => simp [carriedOn, ih, Nat.add_assoc]

theorem carriedOn_of_not_loaded (w : Bool) (k : Nat) {r : Rec} (h : r.verdict.loaded = false) : carriedOn w k [r] = 0 := by
  simp only [carriedOn, Rec.carriedBy, h, Bool.false_eq_true, and_false, if_false]

theorem carriedOn_of_loaded (w : Bool) (k : Nat) {r : Rec} (h : r.verdict.loaded = true) :
    carriedOn w k [r] = if r.wireless = w ∧ r.k = k then r.size else 0 := by
  simp only [carriedOn, Rec.carriedBy, h, and_true, Nat.add_zero]

theorem Verdict.not_loaded_of_not_crossed {v : Verdict} (h : v.crossed = false) : v.loaded = false := by
  cases v <;> first | rfl | cases h

theorem Trace.accounts {n n' : Net} {rs : List Rec} (t : Trace n n' rs) (w : Bool) (k : Nat) :
    loadAt n' w k = loadAt n w k + carriedOn w k rs := by
  induction t with
  | silent hs => exact hs.load w k
  | quiet hc => rw [carriedOn_of_not_loaded w k (Verdict.not_loaded_of_not_crossed hc)]; rfl
  | rejected _ hl hs => rw [carriedOn_of_not_loaded w k hl]; exact hs.load w k
  | delivered _ hl hres _ _ ih => rw [ih, hres.load, carriedOn_append, carriedOn_of_loaded w k hl]; omega
  | append _ _ ih1 ih2 => rw [ih2, ih1, carriedOn_append, Nat.add_assoc]

/-- Wired: the load of a link grows by exactly the data carried over it — unconditionally (since the repair of F-40 nothing
but the tick lowers a load). -/
theorem runEv_accounts (n : Net) (e : Ev) (k : Nat) :
    loadOf (runEv n e).1 k = loadOf n k + carriedOn false k (runEv n e).2 :=
  (runEv_trace n e).accounts false k

theorem runEvs_accounts (n : Net) (es : List Ev) (k : Nat) :
    loadOf (runEvs n es).1 k = loadOf n k + carriedOn false k (runEvs n es).2 :=
  (runEvs_trace n es).accounts false k

/-- Wireless: the load of a channel is exactly the data sent on it — unconditionally (disabling a wireless interface does
not clear the channel's load). -/
theorem runEv_air_accounts (n : Net) (e : Ev) (c : Nat) :
    cloadOf (runEv n e).1 c = cloadOf n c + carriedOn true c (runEv n e).2 :=
  (runEv_trace n e).accounts true c

theorem runEvs_air_accounts (n : Net) (es : List Ev) (c : Nat) :
    cloadOf (runEvs n es).1 c = cloadOf n c + carriedOn true c (runEvs n es).2 :=
  (runEvs_trace n es).accounts true c

theorem runEv_bw (n : Net) (e : Ev) (k : Nat) :
    bwOf (runEv n e).1 k = bwOf n k ∧ capOf (runEv n e).1 k = capOf n k :=
  ⟨(runEv_trace n e).cap false k, (runEv_trace n e).cap true k⟩

theorem runEvs_bw (n : Net) (es : List Ev) (k : Nat) :
    bwOf (runEvs n es).1 k = bwOf n k ∧ capOf (runEvs n es).1 k = capOf n k :=
  ⟨(runEvs_trace n es).cap false k, (runEvs_trace n es).cap true k⟩

/-- Size of the frame if the record says it stays on the load of link / channel `(w, k)` and was admitted against a capacity
of at most `C`. -/
def Rec.under (r : Rec) (w : Bool) (k C : Nat) : Nat :=
  if r.wireless = w ∧ r.k = k ∧ r.verdict.loaded = true ∧ r.capS ≤ C then r.size else 0

def underOn (w : Bool) (k C : Nat) : List Rec → Nat
  | [] => 0
  | r :: rs => r.under w k C + underOn w k C rs

theorem underOn_append (w : Bool) (k C : Nat) (a b : List Rec) :
    underOn w k C (a ++ b) = underOn w k C a + underOn w k C b := by
  induction a with
  | nil => exact (Nat.zero_add _).symm
  | cons r rs ih => simp only [List.cons_append, underOn, ih, Nat.add_assoc]

theorem Rec.under_le_carriedBy (r : Rec) (w : Bool) (k C : Nat) : r.under w k C ≤ r.carriedBy w k := by
  unfold Rec.under Rec.carriedBy
  by_cases h : r.wireless = w ∧ r.k = k ∧ r.verdict.loaded = true ∧ r.capS ≤ C
  · rw [if_pos h, if_pos ⟨h.1, h.2.1, h.2.2.1⟩]; exact Nat.le_refl _
  · rw [if_neg h]; exact Nat.zero_le _

theorem underOn_le_carriedOn (w : Bool) (k C : Nat) (rs : List Rec) : underOn w k C rs ≤ carriedOn w k rs := by
  induction rs with
  | nil => exact Nat.le_refl _
  | cons r rs ih => exact Nat.add_le_add (r.under_le_carriedBy w k C) ih

theorem underOn_eq_carriedOn (w : Bool) (k C : Nat) (g : List Rec)
    (h : ∀ r ∈ g, r.wireless = w → r.k = k → r.capS ≤ C) : underOn w k C g = carriedOn w k g := by
  induction g with
  | nil => rfl
  | cons r rs ih =>
    have hr := h r (List.mem_cons_self ..)
    simp only [underOn, carriedOn, ih fun r' hr' => h r' (List.mem_cons_of_mem _ hr'), Rec.under, Rec.carriedBy]
    by_cases hc : r.wireless = w ∧ r.k = k ∧ r.verdict.loaded = true
    · rw [if_pos hc, if_pos ⟨hc.1, hc.2.1, hc.2.2, hr hc.1 hc.2.1⟩]
    · rw [if_neg hc, if_neg fun x => hc ⟨x.1, x.2.1, x.2.2.1⟩]

theorem underOn_of_not_loaded (w : Bool) (k C : Nat) {r : Rec} (h : r.verdict.loaded = false) : underOn w k C [r] = 0 := by
  simp only [underOn, Rec.under, h, Bool.false_eq_true, false_and, and_false, if_false]

theorem underOn_of_loaded (w : Bool) (k C : Nat) {r : Rec} (h : r.verdict.loaded = true) :
    underOn w k C [r] = if r.wireless = w ∧ r.k = k ∧ r.capS ≤ C then r.size else 0 := by
  simp only [underOn, Rec.under, h, true_and, Nat.add_zero]

/-- **Per capacity.** For every bound `C` and every `A` that is covered by the load of `(w, k)` and by `C`: `A` plus the data the
trace carries over `(w, k)` in frames admitted against a capacity of at most `C` stays within `C` — each such frame was admitted
on top of a load that already held `A` and everything carried before it. -/
theorem Trace.under {n n' : Net} {rs : List Rec} (t : Trace n n' rs) (w : Bool) (k C : Nat) :
    ∀ A, A ≤ loadAt n w k → A ≤ C → A + underOn w k C rs ≤ C := by
  induction t with
  | silent => exact fun A _ hC => hC
  | quiet hc => intro A _ hC; rw [underOn_of_not_loaded w k C (Verdict.not_loaded_of_not_crossed hc)]; exact hC
  | rejected _ hl => intro A _ hC; rw [underOn_of_not_loaded w k C hl]; exact hC
  | @delivered n n₁ n₂ rs r ho hl hres _ _ ih =>
    intro A hA hC
    rw [underOn_append, underOn_of_loaded w k C hl]
    have hload := hres.load w k
    have hbefore := ho.before
    have hfits := ho.fits
    split
    · next h =>
      -- counted under `C`: it was admitted on top of `A`, so `A` plus its size is covered by the load and by `C`
      rw [if_pos ⟨h.1, h.2.1⟩] at hload
      obtain ⟨rfl, rfl, hlow⟩ := h
      have := ih (A + r.size) (by omega) (by omega)
      omega
    · have := ih A (by omega) hC
      omega
  | @append n n₁ n₂ rs₁ rs₂ t₁ _ ih1 ih2 =>
    intro A hA hC
    have h1 := ih1 A hA hC
    have hacc := t₁.accounts w k
    have hle := underOn_le_carriedOn w k C rs₁
    have := ih2 (A + underOn w k C rs₁) (by omega) h1
    rw [underOn_append]
    omega

theorem Trace.carried_of_tick {n n' : Net} {rs : List Rec} (t : Trace (tick n) n' rs) (w : Bool) (k : Nat) :
    carriedOn w k rs = loadAt n' w k ∧ carriedOn w k rs ≤ capAt n w k := by
  have hacc := t.accounts w k
  rw [loadAt_tick, Nat.zero_add] at hacc
  have hle := inv_iff.mp (t.ok (C18_inv_after_tick n)).1 w k
  rw [t.cap, capAt_tick, hacc] at hle
  exact ⟨hacc.symm, hle⟩

/-- **The data carried by a wired link in a tick is its load, and is within its bandwidth** — for *every* tick, whatever
happens in it: sends nested in deliveries to any depth, interfaces disabled and re-enabled at any point (`Link.endpoint_down` leaves the load
alone; `C18_asWritten_disable_counterexample` shows what clearing it there does). A tick is `tick` followed by any forest. -/
theorem C18_carried_le_bandwidth (n : Net) (evs : List Ev) (k : Nat) :
    carriedOn false k (runEvs (tick n) evs).2 = loadOf (runEvs (tick n) evs).1 k ∧
    carriedOn false k (runEvs (tick n) evs).2 ≤ bwOf n k :=
  (runEvs_trace (tick n) evs).carried_of_tick false k

/-- The property read literally for wired links: whatever happens in a tick, the data carried stays within the bandwidth. -/
def C18_Full_carried : Prop :=
  ∀ (n : Net) (evs : List Ev) (k : Nat), carriedOn false k (runEvs (tick n) evs).2 ≤ bwOf n k

/-- It holds; of `Link.endpoint_down` before the repair of F-40 it is false (`C18_asWritten_disable_counterexample`). -/
theorem C18_Full_carried_holds : C18_Full_carried := fun n evs k => (C18_carried_le_bandwidth n evs k).2

/-- the scenario of F-40, send 8, disable, enable, send 8 on a link of 10: the second send is dropped at the sender as `full` -/
example :
    let n : Net := { links := [{ bw := 10, load := 0, enA := true, enB := true }], chans := [] }
    let r := runEvs (tick n) [.send 0 true 8 true [], .setEn 0 false false, .setEn 0 false true, .send 0 true 8 true []]
    r.2.map (·.verdict) = [.carried, .full] ∧ carriedOn false 0 r.2 = 8 ∧ loadOf r.1 0 = 8 := by decide +kernel

/-- **The data sent on a wireless channel (hz) in a tick is its load, and is within the largest capacity of any frequency name
configured on that hz** (with one name per hz: within *the* capacity of the channel). No side condition. -/
theorem C18_air_carried_le_capacity (n : Net) (evs : List Ev) (c : Nat) :
    carriedOn true c (runEvs (tick n) evs).2 = cloadOf (runEvs (tick n) evs).1 c ∧
    carriedOn true c (runEvs (tick n) evs).2 ≤ capOf n c :=
  (runEvs_trace (tick n) evs).carried_of_tick true c

/-! ### Deliveries cut short by an exception

Apart from the two FTP handlers, no code on the delivery path catches exceptions (`C18_gen_try_sites`), so an exception raised while
a frame is being processed unwinds through every `transmit_frame` / `AirSpace.transmit` below it; none of them releases its reservation.  In the
model such a send is `Ev.lost` / `Ev.wlost` (any send of any tree, with whatever had completed inside it).  All theorems of this
file quantify over trees that contain them; in particular `C18_carried_le_bandwidth` and `C18_carried_le_bandwidth_every_tick`
are the bound for runs with aborted deliveries.  `carriedOn` counts a `lost` frame (it was handed over; the code keeps its size
on the load), so the accounting stays exact: `load = Σ carried + Σ lost`. -/

/-- An exception that unwinds through an admitted wired send leaves the frame's size on the link and the record says `lost`;
the hand-over itself happened with both ends enabled. -/
theorem C18_lost_stays_accounted (n : Net) (k : Nat) (fromA : Bool) (s : Nat) (nested : List Ev) (l : Link)
    (hl : n.links[k]? = some l) (hup : l.isUp = true) (hfit : l.load + s ≤ l.bw) :
    loadOf n k + s ≤ loadOf (runEv n (.lost k fromA s nested)).1 k ∧
    ∃ r ∈ (runEv n (.lost k fromA s nested)).2, r.verdict = .lost ∧ r.size = s ∧ r.k = k ∧ r.wireless = false ∧
      r.enS = true ∧ r.enR = true := by
  rw [runEv_lost_admitted n k fromA s nested l hl hup hfit]
  refine ⟨?_, _, List.mem_append_right _ (List.mem_singleton.mpr rfl), rfl, rfl, rfl, rfl, l.enS_of_isUp fromA hup,
    l.enR_of_isUp fromA hup⟩
  -- what is nested only adds to the reservation
  rw [runEvs_accounts, loadOf_set n k k l _ hl, if_pos rfl, loadOf_eq n k l hl]
  exact Nat.le_add_right _ _

/-- link of 10: a request of 6 whose delivery sends a reply of 3 and then raises; the exception also unwinds through the request.
The load stays at 9 (nothing is released), a later frame of 2 is dropped at the sender, the tick carried 9 ≤ 10. -/
example :
    let n : Net := { links := [{ bw := 10, load := 0, enA := true, enB := true }], chans := [] }
    let r := runEvs (tick n) [.lost 0 true 6 [.send 0 false 3 true []], .send 0 true 2 true [], .send 0 true 1 true []]
    r.2.map (·.verdict) = [.carried, .lost, .full, .carried] ∧ carriedOn false 0 r.2 = 10 ∧ loadOf r.1 0 = 10 := by decide +kernel

/-- the exception is caught half-way up (as `FTPServer._retrieve_data` would): the inner send is lost, the outer one completes -/
example :
    let n : Net := { links := [{ bw := 10, load := 0, enA := true, enB := true }, { bw := 4, load := 0, enA := true, enB := true }],
                     chans := [{ caps := [7, 7], load := 0, en := [true, true] }] }
    let r := runEvs (tick n) [.send 0 true 5 true [.lost 1 true 3 [.wlost 0 0 6 []]], .send 1 true 2 true [], .wsend 0 1 2 []]
    r.2.map (·.verdict) = [.lost, .lost, .carried, .full, .full] ∧
    (loadOf r.1 0, loadOf r.1 1, cloadOf r.1 0) = (5, 3, 6) := by decide +kernel

/-! ### The wireless twin of F-40: a frequency that is emptied and repopulated inside a tick

`remove_wireless_interface` / `add_wireless_interface` (`Ev.wleave` / `Ev.wjoin`; `disable()` / `enable()` = flag + these) handle
interface lists only.  The data transmitted on a frequency in a tick is counted from the records of the sends themselves
(`carriedOn true c`), not from the airspace's counter; it is within the capacity for every forest — interfaces enabled, disabled,
added, removed at any point, also all of them at once. -/

/-- Adding or removing an interface leaves every load alone and sends nothing. -/
theorem C18_air_membership_keeps_load (n : Net) (c i c' : Nat) :
    cloadOf (runEv n (.wleave c i)).1 c' = cloadOf n c' ∧ cloadOf (runEv n (.wjoin c i)).1 c' = cloadOf n c' ∧
    loadOf (runEv n (.wleave c i)).1 c' = loadOf n c' ∧ loadOf (runEv n (.wjoin c i)).1 c' = loadOf n c' := by
  have e1 : (runEv n (.wleave c i)).2 = [] := by unfold runEv; cases n.chans[c]? <;> rfl
  have e2 : (runEv n (.wjoin c i)).2 = [] := by unfold runEv; cases n.chans[c]? <;> rfl
  have h1 := fun w => (runEv_trace n (.wleave c i)).accounts w c'
  have h2 := fun w => (runEv_trace n (.wjoin c i)).accounts w c'
  rw [e1] at h1
  rw [e2] at h2
  exact ⟨h1 true, h2 true, h1 false, h2 false⟩

/-- The property read literally for a wireless channel: whatever happens in a tick, the data transmitted on it (sum over the sends
that were put on the air) stays within the largest capacity configured on the hz. -/
def C18_Full_air_transmitted : Prop :=
  ∀ (n : Net) (evs : List Ev) (c : Nat), carriedOn true c (runEvs (tick n) evs).2 ≤ capOf n c

theorem C18_Full_air_transmitted_holds : C18_Full_air_transmitted := fun n evs c => (C18_air_carried_le_capacity n evs c).2

/-- the only access point of a channel of 10 transmits 8, is disabled and removed (the frequency's list is now empty), comes back,
and a second frame of 8 is refused: the tick transmitted 8 ≤ 10, the load is still 8 -/
example :
    let n : Net := { links := [], chans := [{ caps := [10], load := 0, en := [true] }] }
    let r := runEvs (tick n) [.wsend 0 0 8 [], .wsetEn 0 0 false, .wleave 0 0, .wsetEn 0 0 true, .wjoin 0 0, .wsend 0 0 8 []]
    r.2.map (·.verdict) = [.carried, .full] ∧ carriedOn true 0 r.2 = 8 ∧ cloadOf r.1 0 = 8 := by decide +kernel

/-- an interface that was removed from the airspace without being disabled (`remove_wireless_interface` / `clear()` called on
their own) still transmits, and is deaf -/
example :
    let n : Net := { links := [], chans := [{ caps := [10, 10], load := 0, en := [true, true] }] }
    let r := runEvs (tick n) [.wleave 0 1, .wsend 0 0 3 [.wrecv 0 0 1], .wsend 0 1 3 [.wrecv 0 1 0]]
    r.2.map (·.verdict) = [.deaf, .carried, .heard, .carried] ∧ cloadOf r.1 0 = 6 := by decide +kernel

/-! ### Two frequency names on one hz: capacity per name, load per hz

`AirSpace.can_transmit_frame` tests `bandwidth_load[hz] + size <= capacity(name of the sender)`.  What that guarantees, for every
bound `C`: the data sent in a tick by all interfaces whose own capacity is at most `C` is at most `C` — in particular the
interfaces of one frequency name never send more than that name's capacity.  What it does not guarantee: that the load of the hz
stays within the *smaller* of two capacities registered on it (`C18_air_two_names_counterexample`). -/

/-- Size of the frame if the record is a wireless send on channel `c` that was carried and admitted against a capacity `≤ C`. -/
def Rec.sentUnder (r : Rec) (c C : Nat) : Nat :=
  if r.wireless = true ∧ r.k = c ∧ r.verdict.loaded = true ∧ r.capS ≤ C then r.size else 0

def sentUnder (c C : Nat) : List Rec → Nat
  | [] => 0
  | r :: rs => r.sentUnder c C + sentUnder c C rs

theorem sentUnder_eq (c C : Nat) (rs : List Rec) : sentUnder c C rs = underOn true c C rs := by
  induction rs with
  | nil => rfl
  | cons r rs ih => exact congrArg (r.under true c C + ·) ih

theorem runEv_under (n : Net) (e : Ev) (c C A : Nat) (hA : A ≤ cloadOf n c) (hC : A ≤ C) :
    A + sentUnder c C (runEv n e).2 ≤ C :=
  sentUnder_eq c C _ ▸ (runEv_trace n e).under true c C A hA hC

theorem runEvs_under (n : Net) (es : List Ev) (c C A : Nat) (hA : A ≤ cloadOf n c) (hC : A ≤ C) :
    A + sentUnder c C (runEvs n es).2 ≤ C :=
  sentUnder_eq c C _ ▸ (runEvs_trace n es).under true c C A hA hC

/-- **Wireless, per capacity.** In a tick, the data sent on a channel by all interfaces whose frequency name has a capacity of
at most `C` is at most `C` — whatever the other names registered on the same hz are allowed. With `C` the capacity of one name:
the interfaces of that name never send more than their name's capacity. -/
theorem C18_air_sent_le_own_capacity (n : Net) (evs : List Ev) (c C : Nat) :
    sentUnder c C (runEvs (tick n) evs).2 ≤ C := by
  have := runEvs_under (tick n) evs c C 0 (Nat.zero_le _) (Nat.zero_le _)
  omega

/-- With a single capacity on the hz (one frequency name, or names of equal capacity) every carried send counts, so the theorem
above is the statement "data sent on the channel ≤ the channel's capacity". -/
example :
    let n : Net := { links := [], chans := [{ caps := [10, 10], load := 0, en := [true, true] }] }
    let r := runEvs (tick n) [.wsend 0 0 4 [.wsend 0 1 5 []], .wsend 0 1 2 []]
    sentUnder 0 10 r.2 = carriedOn true 0 r.2 ∧ carriedOn true 0 r.2 = 9 ∧ r.2.map (·.verdict) = [.carried, .carried, .full] := by
  decide +kernel

/-- The statement "the load of a hz never exceeds the capacity of *any* frequency name registered on it". -/
def C18_Full_air_every_name : Prop :=
  ∀ (n : Net) (evs : List Ev) (c : Nat) (ch : Chan), (runEvs (tick n) evs).1.chans[c]? = some ch → ∀ x ∈ ch.caps, ch.load ≤ x

/-- It is false of the code when two names of different capacity share a hz (interface 0: name with capacity 5, interface 1:
name with capacity 10): the second name's traffic takes the shared load to 8 > 5. The code's own documentation says the two
names "share a bandwidth"; which capacity that shared channel has is not defined, so this is recorded as an observation, and
what *is* guaranteed is `C18_air_sent_le_own_capacity` and `C18_air_carried_le_capacity`. -/
theorem C18_air_two_names_counterexample : ¬ C18_Full_air_every_name := fun h =>
  absurd (h { links := [], chans := [{ caps := [5, 10], load := 0, en := [true, true] }] }
      [.wsend 0 1 8 []] 0 { caps := [5, 10], load := 8, en := [true, true] } (by decide) 5 (by decide))
    (by decide +kernel)

/-! ### The same per-capacity bound for wired links (what remains true when a bandwidth is changed in mid-tick)

A record keeps the capacity its admission test used (`capS`: the link's bandwidth at that moment).  For every bound `C`: the frames
carried over a link in a tick that were admitted against a bandwidth of at most `C` add up to at most `C`.  With a constant
bandwidth this is the plain statement; with `link.bandwidth` reassigned between two actions it says exactly what the admission
test still guarantees: the link carries no more than the **largest bandwidth it was given during the tick**. -/

/-- Size of the frame if the record is a wired send on link `k` that stays on the load and was admitted against a bandwidth `≤ C`. -/
def Rec.carriedUnder (r : Rec) (k C : Nat) : Nat :=
  if r.wireless = false ∧ r.k = k ∧ r.verdict.loaded = true ∧ r.capS ≤ C then r.size else 0

def carriedUnder (k C : Nat) : List Rec → Nat
  | [] => 0
  | r :: rs => r.carriedUnder k C + carriedUnder k C rs

theorem carriedUnder_eq (k C : Nat) (rs : List Rec) : carriedUnder k C rs = underOn false k C rs := by
  induction rs with
  | nil => rfl
  | cons r rs ih => exact congrArg (r.under false k C + ·) ih

theorem runEv_wunder (n : Net) (e : Ev) (k C A : Nat) (hA : A ≤ loadOf n k) (hC : A ≤ C) :
    A + carriedUnder k C (runEv n e).2 ≤ C :=
  carriedUnder_eq k C _ ▸ (runEv_trace n e).under false k C A hA hC

theorem runEvs_wunder (n : Net) (es : List Ev) (k C A : Nat) (hA : A ≤ loadOf n k) (hC : A ≤ C) :
    A + carriedUnder k C (runEvs n es).2 ≤ C :=
  carriedUnder_eq k C _ ▸ (runEvs_trace n es).under false k C A hA hC

/-! ### Every tick of every history

`runSeg` runs a history and cuts the trace at the tick boundaries: one list of records per tick (the first list is what happened
before the first `tick` of the history). -/

def runSeg (n : Net) (cur : List Rec) : List Op → Net × List (List Rec)
  | [] => (n, [cur])
  | .tick :: os => let r := runSeg (tick n) [] os; (r.1, cur :: r.2)
  | .act evs :: os => let r := runEvs n evs; runSeg r.1 (cur ++ r.2) os
  | .setBw k v :: os => runSeg (setBw n k v) cur os
  | .setCap c i v :: os => runSeg (setCap n c i v) cur os

/-- `runSeg` is `run` with the trace cut into ticks: same final state, same records in the same order. -/
theorem runSeg_eq_run (n : Net) (cur : List Rec) (ops : List Op) :
    (runSeg n cur ops).1 = (run n ops).1 ∧ (runSeg n cur ops).2.flatten = cur ++ (run n ops).2 := by
  induction ops generalizing n cur with
  | nil => simp [runSeg, run]
  | cons o os ih =>
    cases o <;> simp only [runSeg, run, step, ih, List.flatten_cons, List.nil_append, List.append_assoc, and_self]

/-- What a tick's trace `cur` and the state `n` it has led to have in common **whatever happens** (capacity changes, aborted
deliveries): on every link / channel the data carried so far in the tick is covered by the load, and for every bound `C` the
data admitted against capacities of at most `C` is covered by the load and within `C`. -/
def SegOkG (n : Net) (cur : List Rec) : Prop :=
  (∀ k, carriedOn false k cur ≤ loadOf n k) ∧ (∀ c, carriedOn true c cur ≤ cloadOf n c) ∧
  (∀ c C, sentUnder c C cur ≤ cloadOf n c ∧ sentUnder c C cur ≤ C) ∧
  (∀ k C, carriedUnder k C cur ≤ loadOf n k ∧ carriedUnder k C cur ≤ C)

/-- The same plus: the state is within capacity (needs: no capacity was lowered below a load). -/
def SegOk (n : Net) (cur : List Rec) : Prop := Inv n ∧ SegOkG n cur

/-- `SegOkG` in terms of the two observations; that the data admitted under a bound is covered by the load follows from its being
part of the data carried. -/
theorem segOkG_iff {n : Net} {cur : List Rec} :
    SegOkG n cur ↔ ∀ w k, carriedOn w k cur ≤ loadAt n w k ∧ ∀ C, underOn w k C cur ≤ C := by
  constructor
  · intro ⟨hw, ha, hu, hk⟩ w k
    cases w
    · exact ⟨hw k, fun C => carriedUnder_eq k C cur ▸ (hk k C).2⟩
    · exact ⟨ha k, fun C => sentUnder_eq k C cur ▸ (hu k C).2⟩
  · intro h
    refine ⟨fun k => (h false k).1, fun c => (h true c).1, fun c C => ?_, fun k C => ?_⟩
    · rw [sentUnder_eq]
      exact ⟨Nat.le_trans (underOn_le_carriedOn true c C cur) (h true c).1, (h true c).2 C⟩
    · rw [carriedUnder_eq]
      exact ⟨Nat.le_trans (underOn_le_carriedOn false k C cur) (h false k).1, (h false k).2 C⟩

theorem segOkG_tick (n : Net) : SegOkG (tick n) [] :=
  segOkG_iff.mpr fun _ _ => ⟨Nat.zero_le _, fun _ => Nat.zero_le _⟩

theorem segOk_tick (n : Net) : SegOk (tick n) [] := ⟨C18_inv_after_tick n, segOkG_tick n⟩

theorem segOkG_act (n : Net) (cur : List Rec) (evs : List Ev) (h : SegOkG n cur) :
    SegOkG (runEvs n evs).1 (cur ++ (runEvs n evs).2) := by
  have t := runEvs_trace n evs
  refine segOkG_iff.mpr fun w k => ?_
  obtain ⟨hc, hu⟩ := segOkG_iff.mp h w k
  refine ⟨?_, fun C => ?_⟩
  · rw [carriedOn_append, t.accounts w k]
    omega
  · rw [underOn_append]
    exact t.under w k C _ (Nat.le_trans (underOn_le_carriedOn w k C cur) hc) (hu C)

theorem segOkG_of_load_eq {n n' : Net} {cur : List Rec} (hl : ∀ w k, loadAt n' w k = loadAt n w k) (h : SegOkG n cur) :
    SegOkG n' cur :=
  segOkG_iff.mpr fun w k => by rw [hl]; exact segOkG_iff.mp h w k

theorem segOk_act (n : Net) (cur : List Rec) (evs : List Ev) (h : SegOk n cur) :
    SegOk (runEvs n evs).1 (cur ++ (runEvs n evs).2) :=
  ⟨(runEvs_ok n evs h.1).1, segOkG_act n cur evs h.2⟩

theorem runSeg_forall {P : Net → List Rec → Prop} (htick : ∀ n cur, P n cur → P (tick n) [])
    (hact : ∀ n cur evs, P n cur → P (runEvs n evs).1 (cur ++ (runEvs n evs).2)) (ops : List Op)
    (hbw : ∀ n cur k v, .setBw k v ∈ ops → P n cur → P (setBw n k v) cur)
    (hcap : ∀ n cur c i v, .setCap c i v ∈ ops → P n cur → P (setCap n c i v) cur)
    (n : Net) (cur : List Rec) (h : P n cur) :
    (∃ g, P (runSeg n cur ops).1 g) ∧ ∀ g ∈ (runSeg n cur ops).2, ∃ n', P n' g := by
  induction ops generalizing n cur with
  | nil => exact ⟨⟨cur, h⟩, List.forall_mem_singleton.mpr ⟨n, h⟩⟩
  | cons o os ih =>
    have ih := ih (fun n cur k v hm => hbw n cur k v (List.mem_cons_of_mem _ hm))
      (fun n cur c i v hm => hcap n cur c i v (List.mem_cons_of_mem _ hm))
    cases o with
    | tick =>
      obtain ⟨hlast, hsegs⟩ := ih (tick n) [] (htick n cur h)
      exact ⟨hlast, List.forall_mem_cons.mpr ⟨⟨n, h⟩, hsegs⟩⟩
    | act evs => exact ih _ _ (hact n cur evs h)
    | setBw k v => exact ih _ _ (hbw n cur k v (List.mem_cons_self ..) h)
    | setCap c i v => exact ih _ _ (hcap n cur c i v (List.mem_cons_self ..) h)

theorem runSeg_okG (n : Net) (cur : List Rec) (ops : List Op) (h : SegOkG n cur) :
    ∀ g ∈ (runSeg n cur ops).2, ∃ n', SegOkG n' g :=
  (runSeg_forall (fun n _ _ => segOkG_tick n) segOkG_act ops (fun n _ k v _ h => segOkG_of_load_eq (loadAt_setBw n k v) h)
    (fun n _ c i v _ h => segOkG_of_load_eq (loadAt_setCap n c i v) h) n cur h).2

/-- **Every tick of every episode, whatever happens** — sends nested in deliveries, interfaces toggled anywhere, deliveries cut
short by exceptions, **bandwidths and frequency capacities reassigned between actions** (raised or lowered, in mid-tick or not).
In each tick, for every wired link and every bound `C`: the data carried over the link by frames that were admitted against a
bandwidth of at most `C` is at most `C`; the same for every wireless channel and the capacities of the senders' frequency names.
So a link carries, in a tick, no more than the largest bandwidth it had while it was admitting, and the interfaces of one
frequency name send no more than the largest capacity that name had. -/
theorem C18_admitted_under_every_tick (n : Net) (ops : List Op) :
    ∀ g ∈ (runSeg (tick n) [] ops).2, (∀ k C, carriedUnder k C g ≤ C) ∧ (∀ c C, sentUnder c C g ≤ C) := by
  intro g hg
  obtain ⟨n', _, _, hu, hk⟩ := runSeg_okG (tick n) [] ops (segOkG_tick n) g hg
  exact ⟨fun k C => (hk k C).2, fun c C => (hu c C).2⟩

/-- **Carried ≤ the largest bandwidth in force.** In each tick of any history: if every send on link `k` in that tick was tested
against a bandwidth of at most `B` (in particular: `B` = the bandwidth, when nobody reassigns it), the data carried over `k` in
that tick is at most `B`. -/
theorem C18_carried_le_peak_bandwidth (n : Net) (ops : List Op) :
    ∀ g ∈ (runSeg (tick n) [] ops).2, ∀ k B, (∀ r ∈ g, r.wireless = false → r.k = k → r.capS ≤ B) →
      carriedOn false k g ≤ B := by
  intro g hg k B hB
  rw [← underOn_eq_carriedOn false k B g hB, ← carriedUnder_eq]
  exact ((C18_admitted_under_every_tick n ops g hg).1 k B)

/-- bandwidth 10 lowered to 5 after 8 were carried, raised to 12 later in the same tick: frames admitted against ≤ 10 sum to 8,
against ≤ 12 to 11 (8 + 3), against ≤ 5 to 0; the second tick starts from zero against the bandwidth 12 -/
example :
    let n : Net := { links := [{ bw := 10, load := 0, enA := true, enB := true }], chans := [] }
    let r := runSeg (tick n) [] [.act [.send 0 true 8 true []], .setBw 0 5, .act [.send 0 true 1 true []], .setBw 0 12,
                                 .act [.send 0 true 3 true [], .send 0 true 2 true []], .tick, .act [.send 0 true 12 true []]]
    r.2.map (fun g => (carriedUnder 0 5 g, carriedUnder 0 10 g, carriedUnder 0 12 g, carriedOn false 0 g)) =
      [(0, 8, 11, 11), (0, 0, 12, 12)] ∧
    r.2.map (·.map (·.verdict)) = [[.carried, .full, .carried, .full], [.carried]] := by decide +kernel

theorem runSeg_bw (n : Net) (cur : List Rec) (ops : List Op) (hn : NoCap ops) (k : Nat) :
    bwOf (runSeg n cur ops).1 k = bwOf n k ∧ capOf (runSeg n cur ops).1 k = capOf n k := by
  obtain ⟨_, hc⟩ := (runSeg_forall (P := fun n' _ => ∀ w k, capAt n' w k = capAt n w k)
    (fun m _ hm w k => (capAt_tick m w k).trans (hm w k))
    (fun m _ evs hm w k => ((runEvs_trace m evs).cap w k).trans (hm w k))
    ops (fun _ _ _ _ hmem => nomatch hn _ hmem) (fun _ _ _ _ _ hmem => nomatch hn _ hmem) n cur fun _ _ => rfl).1
  exact ⟨hc false k, hc true k⟩

theorem runSeg_ok (n : Net) (cur : List Rec) (ops : List Op) (hn : NoCap ops) (h : SegOk n cur) :
    ∀ g ∈ (runSeg n cur ops).2, ∃ n', SegOk n' g ∧ ∀ k, bwOf n' k = bwOf n k ∧ capOf n' k = capOf n k :=
  (runSeg_forall (P := fun n' g => SegOk n' g ∧ ∀ k, bwOf n' k = bwOf n k ∧ capOf n' k = capOf n k)
    (fun m _ hm => ⟨segOk_tick m, fun k => ⟨(tick_bw m k).1.trans (hm.2 k).1, (tick_bw m k).2.trans (hm.2 k).2⟩⟩)
    (fun m cur evs hm => ⟨segOk_act m cur evs hm.1,
      fun k => ⟨(runEvs_bw m evs k).1.trans (hm.2 k).1, (runEvs_bw m evs k).2.trans (hm.2 k).2⟩⟩)
    ops (fun _ _ _ _ hmem => nomatch hn _ hmem) (fun _ _ _ _ _ hmem => nomatch hn _ hmem) n cur ⟨h, fun _ => ⟨rfl, rfl⟩⟩).2

/-- **Every tick of every episode** (constant capacities). Start anywhere (any network, any loads), pass a tick boundary, then run
any history of ticks and actions — nested sends, interface toggles, deliveries cut short by exceptions: in *each* tick of that
history, for every wired link the data carried in that tick is within the link's bandwidth, for every wireless channel the data
sent in that tick is within the channel's (largest) capacity, and for every bound `C` the data sent by interfaces whose frequency
name has capacity at most `C` is within `C`.  (Histories that reassign capacities: `C18_admitted_under_every_tick`.) -/
theorem C18_carried_le_bandwidth_every_tick (n : Net) (ops : List Op) (hn : NoCap ops) :
    ∀ g ∈ (runSeg (tick n) [] ops).2,
      (∀ k, carriedOn false k g ≤ bwOf n k) ∧ (∀ c, carriedOn true c g ≤ capOf n c) ∧ (∀ c C, sentUnder c C g ≤ C) := by
  intro g hg
  obtain ⟨n', ⟨hi, hw, ha, hu, _⟩, hb⟩ := runSeg_ok (tick n) [] ops hn (segOk_tick n) g hg
  -- carried ≤ load ≤ capacity in `n'`, whose capacities are those of `n`
  refine ⟨fun k => ?_, fun c => ?_, fun c C => (hu c C).2⟩
  · exact (hb k).1.trans (tick_bw n k).1 ▸ Nat.le_trans (hw k) (inv_iff.mp hi false k)
  · exact (hb c).2.trans (tick_bw n c).2 ▸ Nat.le_trans (ha c) (inv_iff.mp hi true c)

/-- three ticks on a link of 10: 8 carried / second 8 refused; 8 carried after a flap; nothing (far interface left disabled) -/
example :
    let n : Net := { links := [{ bw := 10, load := 7, enA := true, enB := true }], chans := [] }
    let r := runSeg (tick n) [] [.act [.send 0 true 8 true []], .act [.send 0 false 8 true []], .tick,
      .act [.setEn 0 true false, .setEn 0 true true, .send 0 true 8 true [.setEn 0 false false]], .tick, .act [.send 0 true 1 true []]]
    r.2.map (carriedOn false 0) = [8, 8, 0] ∧ r.2.map (·.map (·.verdict)) = [[.carried, .full], [.carried], [.down]] := by
  decide +kernel

theorem run_append_fst (n : Net) (a b : List Op) : (run n (a ++ b)).1 = (run (run n a).1 b).1 := by
  induction a generalizing n with
  | nil => rfl
  | cons o os ih => simp only [List.cons_append, run]; exact ih _

/-- **Every tick starts at zero.** Take any network in any state, run any history (nested sends, interfaces toggled, deliveries cut
short, interfaces added to / removed from the airspace, capacities reassigned), then pass a tick boundary: every wired link and
every wireless channel has load 0 — whether the link is up or down, whether its interfaces are enabled, whether anybody is left on
the frequency — and nothing else has changed (bandwidths, capacities, enabled flags, membership). -/
theorem C18_every_tick_starts_at_zero (n : Net) (ops : List Op) :
    (∀ l ∈ (run n (ops ++ [.tick])).1.links, l.load = 0) ∧ (∀ c ∈ (run n (ops ++ [.tick])).1.chans, c.load = 0) ∧
    (∀ k, loadOf (run n (ops ++ [.tick])).1 k = 0 ∧ cloadOf (run n (ops ++ [.tick])).1 k = 0) ∧
    (run n (ops ++ [.tick])).1.links.map (fun l => (l.bw, l.enA, l.enB)) = (run n ops).1.links.map (fun l => (l.bw, l.enA, l.enB)) ∧
    (run n (ops ++ [.tick])).1.chans.map (fun c => (c.caps, c.en, c.mem)) = (run n ops).1.chans.map (fun c => (c.caps, c.en, c.mem)) := by
  have h : (run n (ops ++ [.tick])).1 = tick (run n ops).1 := by
    rw [run_append_fst]; rfl
  rw [h]
  obtain ⟨h1, h2, h3, h4⟩ := C18_tick_starts_zero (run n ops).1
  exact ⟨h1, h2, fun k => ⟨loadAt_tick _ false k, loadAt_tick _ true k⟩, h3, h4⟩

/-- In particular a link that is down at the boundary. -/
theorem C18_down_link_starts_at_zero (n : Net) (k : Nat) (l : Link) (_hl : n.links[k]? = some l) (_hdown : l.isUp = false) :
    loadOf (tick n) k = 0 := loadAt_tick n false k

/-- a link that carried 8 and then lost an end, a channel that carried 6 and was then emptied: both read 0 after the boundary, and
the link, re-enabled in the new tick, has its whole bandwidth again -/
example :
    let n : Net := { links := [{ bw := 10, load := 0, enA := true, enB := true }],
                     chans := [{ caps := [10], load := 0, en := [true] }] }
    let r := run n [.act [.send 0 true 8 true [], .setEn 0 false false, .wsend 0 0 6 [], .wsetEn 0 0 false, .wleave 0 0], .tick,
                    .act [.setEn 0 false true, .send 0 true 9 true []]]
    (run n [.act [.send 0 true 8 true [], .setEn 0 false false, .wsend 0 0 6 [], .wsetEn 0 0 false, .wleave 0 0], .tick]).1 =
      { links := [{ bw := 10, load := 0, enA := true, enB := false }],
        chans := [{ caps := [10], load := 0, en := [false], mem := [false] }] } ∧
    r.2.map (·.verdict) = [.carried, .carried, .carried] := by decide +kernel

/-- What the property excludes, as checked statements (seeded change C18-e; never in the repository): a boundary that resets only
the links that are up. -/
def tickUpOnly (n : Net) : Net :=
  { links := n.links.map (fun l => if l.isUp then { l with load := 0 } else l),
    chans := n.chans.map (fun c => { c with load := 0 }) }

def C18_Full_upOnly_starts_zero : Prop := ∀ (n : Net), ∀ l ∈ (tickUpOnly n).links, l.load = 0

/-- a link that went down after carrying 8 still reads 8 after such a boundary, and when it comes back in the new tick a frame of
5 that fits its bandwidth of 10 is dropped at the sender -/
theorem C18_reset_only_up_links_counterexample :
    ¬ C18_Full_upOnly_starts_zero ∧
    ((runEvs (tickUpOnly { links := [{ bw := 10, load := 8, enA := true, enB := false }], chans := [] })
        [.setEn 0 false true, .send 0 true 5 true []]).2.map (·.verdict) = [.full]) ∧
    ((runEvs (tick { links := [{ bw := 10, load := 8, enA := true, enB := false }], chans := [] })
        [.setEn 0 false true, .send 0 true 5 true []]).2.map (·.verdict) = [.carried]) := by
  refine ⟨fun h => ?_, by decide +kernel, by decide +kernel⟩
  exact absurd (h { links := [{ bw := 10, load := 8, enA := true, enB := false }], chans := [] }
    { bw := 10, load := 8, enA := true, enB := false } (by decide)) (by decide +kernel)

/-- One link as `Link.endpoint_down` treated it before the repair of F-40: `some s` = a send of size `s` that the far interface
takes, `none` = one end interface is disabled and enabled again (the disable cleared `current_load`). Returns the load and the data
carried. -/
def flapAW (bw : Nat) : Nat × Nat → List (Option Nat) → Nat × Nat
  | st, [] => st
  | (load, carried), some s :: es => if load + s ≤ bw then flapAW bw (load + s, carried + s) es else flapAW bw (load, carried) es
  | (_, carried), none :: es => flapAW bw (0, carried) es

/-- Before the repair: send 8, disable, enable, send 8 on a link of 10 carried 16 in one tick. -/
theorem C18_asWritten_disable_counterexample : (flapAW 10 (0, 0) [some 8, none, some 8]).2 = 16 := by decide

/-- What the property excludes, as a checked statement (seeded change C18-d; never in the repository): an airspace that forgets
a frequency's load when its last interface leaves (`none` = the frequency is emptied and repopulated) transmits 16 on a channel
of 10 in one tick while its own counter never reads above 8. `flapAW` is that accounting (it is the one `Link.endpoint_down` had). -/
theorem C18_air_forget_on_empty_counterexample :
    (flapAW 10 (0, 0) [some 8, none, some 8]).2 = 16 ∧ (flapAW 10 (0, 0) [some 8, none, some 8]).1 = 8 := by decide

/-! ### The release of the reservation is safe even if a refusal came after nested sends

In the code a refusing interface never involves its node (Gen: `rejectedMeansNodeNotInvolved`), so nothing is nested under a
refused frame and the release is `load + s - s`.  The next theorem shows the repaired `transmit_frame` does not depend on that:
on one link, with sends nested under accepted *and* refused frames alike, the load never decreases across a send, so
subtracting the reservation can neither underflow nor break the bound. -/

mutual
/-- `send_frame` + repaired `transmit_frame` on one link, nested sends executed whatever the far interface answers. -/
def sendRB (l : Link1) : Tx → Link1
  | .mk s _ acc nested =>
    if l.load + s ≤ l.bw then
      let l2 := sendRBs { l with load := l.load + s } nested
      if acc then l2 else { l2 with load := l2.load - s }
    else l
def sendRBs (l : Link1) : List Tx → Link1
  | [] => l
  | t :: ts => sendRBs (sendRB l t) ts
end

mutual
theorem sendRB_inv (l : Link1) (t : Tx) (h : l.load ≤ l.bw) :
    (sendRB l t).bw = l.bw ∧ l.load ≤ (sendRB l t).load ∧ (sendRB l t).load ≤ l.bw := by
  cases t with
  | mk s sa acc nested =>
    unfold sendRB
    by_cases hc : l.load + s ≤ l.bw
    · rw [if_pos hc]
      -- the nested sends never take the load below the reservation, so releasing it cannot underflow
      obtain ⟨hb, hlo, hhi⟩ : _ ∧ l.load + s ≤ _ ∧ _ ≤ l.bw := sendRBs_inv { l with load := l.load + s } nested hc
      cases acc
      · exact ⟨hb, Nat.le_sub_of_add_le hlo, Nat.le_trans (Nat.sub_le _ _) hhi⟩
      · exact ⟨hb, Nat.le_trans (Nat.le_add_right _ _) hlo, hhi⟩
    · rw [if_neg hc]
      exact ⟨rfl, Nat.le_refl _, h⟩
theorem sendRBs_inv (l : Link1) (ts : List Tx) (h : l.load ≤ l.bw) :
    (sendRBs l ts).bw = l.bw ∧ l.load ≤ (sendRBs l ts).load ∧ (sendRBs l ts).load ≤ l.bw := by
  cases ts with
  | nil => exact ⟨rfl, Nat.le_refl _, h⟩
  | cons t ts =>
    unfold sendRBs
    obtain ⟨hb, hlo, hhi⟩ := sendRB_inv l t h
    obtain ⟨hb', hlo', hhi'⟩ := sendRBs_inv (sendRB l t) ts (hb ▸ hhi)
    exact ⟨hb'.trans hb, Nat.le_trans hlo hlo', hb ▸ hhi'⟩
end

/-- **Reserve / deliver / release keeps the bound for arbitrary nesting, also under refused frames.** -/
theorem C18_release_safe_under_nesting (l : Link1) (ts : List Tx) (h : l.load ≤ l.bw) :
    (sendRBs l ts).load ≤ (sendRBs l ts).bw ∧ l.load ≤ (sendRBs l ts).load := by
  obtain ⟨hb, hlo, hhi⟩ := sendRBs_inv l ts h
  exact ⟨by omega, hlo⟩

/-- a refused frame (6) under which a reply (3) was nevertheless sent: 2 + 6 + 3 − 6 = 5 -/
example : (sendRBs { bw := 12, load := 2 } [.mk 6 6 false [.mk 3 3 true []]]).load = 5 := by decide

/-- Before the fix of F-28 the load was added after the nested sends: request 6 + reply 6 on a link of 10 ended at 12. -/
theorem C18_asWritten_nesting_counterexample :
    (sendAW { bw := 10, load := 0 } (.mk 6 6 true [.mk 6 6 true []])).load = 12 := by decide

/-- Before the fix the admitted size (unstamped) was smaller than the accounted size (stamped): one frame alone, admitted
as 9, accounted as 11 on a link of 10. -/
theorem C18_asWritten_stamp_counterexample :
    (sendAW { bw := 10, load := 0 } (.mk 9 11 true [])).load = 11 := by decide

/-- The property as a statement about the unrepaired accounting; false (two witnesses above). -/
def C18_Full_asWritten : Prop := ∀ (l : Link1) (t : Tx), l.load ≤ l.bw → (sendAW l t).load ≤ l.bw

theorem C18_asWritten_counterexample : ¬ C18_Full_asWritten := fun h =>
  absurd (h { bw := 10, load := 0 } (.mk 6 6 true [.mk 6 6 true []]) (by decide)) (by decide)

/-- The part that did hold before the fix: a send with nothing nested whose two sizes agree. -/
theorem C18_asWritten_no_nesting_partial (l : Link1) (s : Nat) (acc : Bool) (h : l.load ≤ l.bw) :
    (sendAW l (.mk s s acc [])).load ≤ l.bw := by
  unfold sendAW
  by_cases hc : l.load + s ≤ l.bw
  · cases acc <;> simp [hc, sendAWs] <;> omega
  · simp [hc]; exact h

example : ({ bw := 10, load := 3 } : Link1).load ≤ ({ bw := 10, load := 3 } : Link1).bw := by decide

end Primaite.Link
