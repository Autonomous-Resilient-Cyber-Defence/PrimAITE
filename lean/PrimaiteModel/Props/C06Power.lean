/-
C06 — a block that is in force DURING a transitional power state.

`Inv`: a node that is not ON has every interface disabled.  It is preserved by every power operation (programs of
Model/FilterPower.lean = the translated method bodies), every timestep, every interface / link / software / rule-list operation,
for all durations and countdown values (`C06_power_inv_run`).  Hence at EVERY moment of any history at which the node is not ON —
SHUTTING_DOWN, BOOTING, OFF, the whole reset window — the element of Model/Filter.lean, whatever its kind, ignores every frame on
every port: nothing forwarded, nothing handed to software, no state change (`C06_not_on_inert`, `C06_transitional_inert`).
The window theorems say that the node IS not-ON at every tick of a countdown, for every positive duration.
What the hooks and `enable()` try to send while every interface is down is dropped (`C06_power_hook_silent`).
Ties to the source: the programs and the interface guards (`C06_gen_power_programs`, `C06_gen_power_interfaces`), the wireless
path (`C06_gen_wireless`), the sending call sites of applications and services (`C06_gen_senders`).
-/
import PrimaiteModel.Model.FilterPower
import PrimaiteModel.Props.C06
import PrimaiteModel.Gen.FilterPower
import PrimaiteModel.Gen.FilterSenders
namespace Primaite.FilterPower
open Primaite Primaite.Filter Primaite.Cut

variable {W : Type}

def AllDown (n : PNode W) : Prop := ∀ i ∈ n.nd.ifaces, i.enabled = false

/-- not ON ⇒ every interface disabled -/
def Inv (n : PNode W) : Prop := n.st ≠ .on → AllDown n

theorem disableAll_allDown (n : PNode W) : AllDown (disableAll n) := by
  intro i hi
  simp only [disableAll, List.mem_map] at hi
  obtain ⟨j, _, rfl⟩ := hi
  rfl

theorem enableAll_notOn (n : PNode W) (h : n.st ≠ .on) : enableAll n = n := by
  simp [enableAll, h]

theorem enableAll_st (n : PNode W) : (enableAll n).st = n.st := by
  unfold enableAll; split <;> rfl

/-- the software part of a hook -/
def withSw (n : PNode W) (g : W → W) : PNode W := { n with nd := { n.nd with sw := g n.nd.sw } }

/-- `power_on` in closed form -/
def powerOnF (hk : SoftCall → W → W) (n : PNode W) : PNode W :=
  if n.upDur ≤ 0 then enableAll { withSw n (fun w => hk .appRun (hk .svcStart w)) with st := .on }
  else if n.st = .off then { n with st := .booting, upCd := n.upDur }
  else n

theorem powerOn_eq (hk : SoftCall → W → W) (n : PNode W) : (exec hk powerOnProg n).1 = powerOnF hk n := by
  by_cases hc : n.upDur ≤ 0
  · simp [powerOnProg, startUpProg, seqs, exec, evalCond, hc, powerOnF, withSw]
  · by_cases hs : n.st = .off
    · simp [powerOnProg, startUpProg, seqs, exec, evalCond, hc, hs, powerOnF]
    · simp [powerOnProg, startUpProg, seqs, exec, evalCond, hc, hs, powerOnF]

theorem powerOnF_inv (hk : SoftCall → W → W) (n : PNode W) (h : Inv n) : Inv (powerOnF hk n) := by
  unfold powerOnF
  split
  · intro hne; simp [enableAll_st] at hne
  · split
    · rename_i hs; intro _; exact h (by simp [hs])
    · exact h

theorem powerOn_inv (hk : SoftCall → W → W) (n : PNode W) (h : Inv n) : Inv (exec hk powerOnProg n).1 := by
  rw [powerOn_eq]; exact powerOnF_inv hk n h

/-- OFF reached: `_shut_down_actions`, then (if resetting) `power_on` again -/
def restartF (hk : SoftCall → W → W) (n1 : PNode W) : PNode W :=
  if n1.resetting then powerOnF hk { n1 with resetting := false } else n1

def offNow (hk : SoftCall → W → W) (n : PNode W) : PNode W :=
  { withSw n (fun w => hk .appClose (hk .svcStop w)) with st := .off }

/-- `power_off` in closed form -/
def powerOffF (hk : SoftCall → W → W) (n : PNode W) : PNode W :=
  if n.downDur ≤ 0 then restartF hk (offNow hk (disableAll n))
  else if n.st = .on then { disableAll n with st := .shuttingDown, downCd := n.downDur }
  else n

theorem powerOff_eq (hk : SoftCall → W → W) (n : PNode W) : (exec hk powerOffProg n).1 = powerOffF hk n := by
  by_cases hc : n.downDur ≤ 0
  · by_cases hr : n.resetting = true
    · have := powerOn_eq hk { withSw (disableAll n) (fun w => hk .appClose (hk .svcStop w)) with st := .off, resetting := false }
      simp [powerOffProg, shutDownProg, seqs, exec, evalCond, hc, hr, powerOffF, withSw, disableAll, restartF, offNow] at this ⊢
      exact this
    · simp [powerOffProg, shutDownProg, seqs, exec, evalCond, hc, hr, powerOffF, withSw, disableAll, restartF, offNow]
  · by_cases hs : n.st = .on
    · simp [powerOffProg, shutDownProg, seqs, exec, evalCond, hc, hs, powerOffF, disableAll]
    · simp [powerOffProg, shutDownProg, seqs, exec, evalCond, hc, hs, powerOffF]

theorem allDown_inv {n : PNode W} (h : AllDown n) : Inv n := fun _ => h

/-- once everything is down, the restart of a resetting node keeps the invariant -/
theorem restartF_inv (hk : SoftCall → W → W) {n1 : PNode W} (h : AllDown n1) : Inv (restartF hk n1) := by
  unfold restartF
  split
  · exact powerOnF_inv hk _ (allDown_inv h)
  · exact allDown_inv h

theorem powerOffF_inv (hk : SoftCall → W → W) (n : PNode W) (h : Inv n) : Inv (powerOffF hk n) := by
  unfold powerOffF
  split
  · exact restartF_inv hk (disableAll_allDown n)
  · split
    · exact allDown_inv (disableAll_allDown n)
    · exact h

theorem powerOff_inv (hk : SoftCall → W → W) (n : PNode W) (h : Inv n) : Inv (exec hk powerOffProg n).1 := by
  rw [powerOff_eq]; exact powerOffF_inv hk n h

theorem reset_eq (hk : SoftCall → W → W) (n : PNode W) :
    (exec hk resetProg n).1 = powerOffF hk { n with resetting := true } := by
  have := powerOff_eq hk { n with resetting := true }
  simp [resetProg, seqs, exec, evalCond] at this ⊢
  exact this

theorem reset_inv (hk : SoftCall → W → W) (n : PNode W) (h : Inv n) : Inv (exec hk resetProg n).1 := by
  rw [reset_eq]; exact powerOffF_inv hk _ h

/-- first countdown block in closed form -/
def tickUpF (hk : SoftCall → W → W) (n : PNode W) : PNode W :=
  if n.upCd > 0 then { n with upCd := n.upCd - 1 }
  else if n.st = .booting then withSw (enableAll { n with st := .on }) (fun w => hk .appRun (hk .svcStart w))
  else n

/-- the first countdown block never returns -/
theorem exec_tickUp (hk : SoftCall → W → W) (n : PNode W) : exec hk tickUpProg n = (tickUpF hk n, none) := by
  by_cases hc : n.upCd > 0
  · simp [tickUpProg, startUpProg, seqs, exec, evalCond, hc, tickUpF]
  · by_cases hs : n.st = .booting
    · simp [tickUpProg, startUpProg, seqs, exec, evalCond, hc, hs, tickUpF, withSw]
    · simp [tickUpProg, startUpProg, seqs, exec, evalCond, hc, hs, tickUpF]

theorem tickUp_eq (hk : SoftCall → W → W) (n : PNode W) : (exec hk tickUpProg n).1 = tickUpF hk n := by
  rw [exec_tickUp]

/-- second countdown block in closed form -/
def tickDownF (hk : SoftCall → W → W) (n : PNode W) : PNode W :=
  if n.downCd > 0 then { n with downCd := n.downCd - 1 }
  else if n.st = .shuttingDown then restartF hk (offNow hk n)
  else n

theorem tickDown_eq (hk : SoftCall → W → W) (n : PNode W) : (exec hk tickDownProg n).1 = tickDownF hk n := by
  by_cases hc : n.downCd > 0
  · simp [tickDownProg, seqs, exec, evalCond, hc, tickDownF]
  · by_cases hs : n.st = .shuttingDown
    · by_cases hr : n.resetting = true
      · have := powerOn_eq hk { withSw n (fun w => hk .appClose (hk .svcStop w)) with st := .off, resetting := false }
        simp [tickDownProg, shutDownProg, seqs, exec, evalCond, hc, hs, hr, tickDownF, withSw, restartF, offNow] at this ⊢
        exact this
      · simp [tickDownProg, shutDownProg, seqs, exec, evalCond, hc, hs, hr, tickDownF, withSw, restartF, offNow]
    · simp [tickDownProg, seqs, exec, evalCond, hc, hs, tickDownF]

theorem tick_eq (hk : SoftCall → W → W) (n : PNode W) : (exec hk tickProg n).1 = tickDownF hk (tickUpF hk n) := by
  simp only [tickProg, exec, exec_tickUp]
  exact tickDown_eq hk (tickUpF hk n)

theorem tickUpF_inv (hk : SoftCall → W → W) (n : PNode W) (h : Inv n) : Inv (tickUpF hk n) := by
  unfold tickUpF
  split
  · exact h
  · split
    · intro hne; simp [withSw, enableAll_st] at hne
    · exact h

theorem tickDownF_inv (hk : SoftCall → W → W) (n : PNode W) (h : Inv n) : Inv (tickDownF hk n) := by
  unfold tickDownF
  split
  · exact h
  · split
    · rename_i hs
      exact restartF_inv hk (h (by simp [hs]))
    · exact h

theorem tick_inv (hk : SoftCall → W → W) (n : PNode W) (h : Inv n) : Inv (exec hk tickProg n).1 := by
  rw [tick_eq]; exact tickDownF_inv hk _ (tickUpF_inv hk n h)

theorem setIface_false_inv (n : PNode W) (p : Nat) (h : Inv n) : Inv (setIface n p false) := by
  intro hne i hi
  simp only [setIface, List.mem_mapIdx] at hi
  obtain ⟨q, hq, rfl⟩ := hi
  split
  · rfl
  · exact h hne _ (List.getElem_mem hq)

theorem inv_of_on {n : PNode W} (h : n.st = .on) : Inv n := fun hne => absurd h hne

theorem step_inv (hk : SoftCall → W → W) (n : PNode W) (o : POp W) (h : Inv n) : Inv (step hk n o) := by
  cases o with
  | powerOn => exact powerOn_inv hk n h
  | powerOff => exact powerOff_inv hk n h
  | reset => exact reset_inv hk n h
  | tick => exact tick_inv hk n h
  | ifEnable p =>
    simp only [step]
    split
    · rename_i hc
      simp only [Bool.and_eq_true, beq_iff_eq] at hc
      exact inv_of_on (n := setIface n p true) hc.1
    · exact h
  | ifDisable p => exact setIface_false_inv n p h
  | plug p =>
    simp only [step]
    split
    · exact h
    · split
      · rename_i hc
        simp only [beq_iff_eq] at hc
        exact inv_of_on (n := setIface _ p true) hc
      · exact h
  | unplug p => exact setIface_false_inv _ p h
  | soft g => exact h
  | acl a x => exact h

/-- **for every history** of power requests, timesteps, interface / link operations, software and rule-list changes, all durations and
countdown values: a node that is not ON has every interface disabled -/
theorem C06_power_inv_run (hk : SoftCall → W → W) (n : PNode W) (ops : List (POp W)) (h : Inv n) : Inv (run hk n ops) := by
  induction ops generalizing n with
  | nil => exact h
  | cons o rest ih => exact ih _ (step_inv hk n o h)

/-- **A device that is not ON — OFF, SHUTTING_DOWN or BOOTING — forwards nothing and hands nothing to software**: whatever its kind
(host, switch, router, firewall), rule lists and software, a frame arriving on any port leaves it as it is and nothing is emitted. -/
theorem C06_not_on_inert (soft : Soft W) (n : PNode W) (h : Inv n) (hne : n.st ≠ .on) (p : Nat) (f : Frame) :
    nodeRx soft n.view p f = .done n.view :=
  C06_iface_disabled_inert_rx soft n.view p f (portEnabled_of_allDown n.view (h hne) p)

/-- … and whatever its own software attempts to send is dropped at the interface-send layer as long as the interfaces stay down -/
theorem C06_not_on_sends_nothing (n : PNode W) (h : Inv n) (hne : n.st ≠ .on) (q : Nat) : portEnabled n.view q = false :=
  portEnabled_of_allDown n.view (h hne) q

/-- the two together over histories: at EVERY moment of ANY history at which the node is in a transitional or off state -/
theorem C06_transitional_inert (hk : SoftCall → W → W) (soft : Soft W) (n : PNode W) (ops : List (POp W)) (h : Inv n)
    (hne : (run hk n ops).st ≠ .on) (p : Nat) (f : Frame) :
    nodeRx soft (run hk n ops).view p f = .done (run hk n ops).view :=
  C06_not_on_inert soft _ (C06_power_inv_run hk n ops h) hne p f

theorem step_tick (hk : SoftCall → W → W) (n : PNode W) : step hk n .tick = tickDownF hk (tickUpF hk n) := tick_eq hk n

theorem ticks_inv (hk : SoftCall → W → W) (k : Nat) (n : PNode W) (h : Inv n) : Inv (ticks hk k n) := by
  induction k generalizing n with
  | zero => exact h
  | succ k ih => exact ih _ (step_inv hk n .tick h)

theorem ticks_add (hk : SoftCall → W → W) (a b : Nat) (n : PNode W) : ticks hk (a + b) n = ticks hk b (ticks hk a n) := by
  induction a generalizing n with
  | zero => simp [ticks]
  | succ a ih => rw [Nat.add_right_comm]; exact ih _

theorem tickUpF_shutting (hk : SoftCall → W → W) (n : PNode W) (hs : n.st = .shuttingDown) :
    (tickUpF hk n).st = .shuttingDown ∧ (tickUpF hk n).downCd = n.downCd ∧ (tickUpF hk n).resetting = n.resetting ∧
    (tickUpF hk n).upDur = n.upDur := by
  unfold tickUpF
  split
  · exact ⟨hs, rfl, rfl, rfl⟩
  · simp [hs]

theorem tick_shutting (hk : SoftCall → W → W) (n : PNode W) (hs : n.st = .shuttingDown) (hpos : 0 < n.downCd) :
    (step hk n .tick).st = .shuttingDown ∧ (step hk n .tick).downCd = n.downCd - 1 ∧
    (step hk n .tick).resetting = n.resetting ∧ (step hk n .tick).upDur = n.upDur := by
  rw [step_tick]
  obtain ⟨a, b, c, d⟩ := tickUpF_shutting hk n hs
  have hp : (tickUpF hk n).downCd > 0 := by rw [b]; exact hpos
  simp only [tickDownF, hp, if_true]
  exact ⟨a, by rw [b], c, d⟩

theorem shutting_ticks (hk : SoftCall → W → W) (k : Nat) (n : PNode W) (hs : n.st = .shuttingDown) (hle : (k : Int) ≤ n.downCd) :
    (ticks hk k n).st = .shuttingDown ∧ (ticks hk k n).downCd = n.downCd - k ∧
    (ticks hk k n).resetting = n.resetting ∧ (ticks hk k n).upDur = n.upDur := by
  induction k generalizing n with
  | zero => simp [ticks, hs]
  | succ k ih =>
    obtain ⟨a, b, c, d⟩ := tick_shutting hk n hs (by omega)
    obtain ⟨a', b', c', d'⟩ := ih (step hk n .tick) a (by rw [b]; omega)
    simp only [ticks]
    exact ⟨a', by rw [b', b]; omega, by rw [c', c], by rw [d', d]⟩

theorem tick_booting (hk : SoftCall → W → W) (n : PNode W) (hs : n.st = .booting) (hpos : 0 < n.upCd) :
    (step hk n .tick).st = .booting ∧ (step hk n .tick).upCd = n.upCd - 1 := by
  rw [step_tick]
  have h1 : tickUpF hk n = { n with upCd := n.upCd - 1 } := by simp [tickUpF, hpos]
  rw [h1]
  unfold tickDownF
  split
  · exact ⟨hs, rfl⟩
  · simp [hs]

theorem booting_ticks (hk : SoftCall → W → W) (k : Nat) (n : PNode W) (hs : n.st = .booting) (hle : (k : Int) ≤ n.upCd) :
    (ticks hk k n).st = .booting ∧ (ticks hk k n).upCd = n.upCd - k := by
  induction k generalizing n with
  | zero => simp [ticks, hs]
  | succ k ih =>
    obtain ⟨a, b⟩ := tick_booting hk n hs (by omega)
    obtain ⟨a', b'⟩ := ih (step hk n .tick) a (by rw [b]; omega)
    simp only [ticks]
    exact ⟨a', by rw [b', b]; omega⟩

theorem powerOff_timed (hk : SoftCall → W → W) (n : PNode W) (hon : n.st = .on) (hd : 0 < n.downDur) :
    step hk n .powerOff = { disableAll n with st := .shuttingDown, downCd := n.downDur } := by
  have : ¬ n.downDur ≤ 0 := by omega
  simp [step, powerOff_eq, powerOffF, this, hon]

/-- **shutdown window**: an ON node with `shut_down_duration = d > 0` that accepts a shutdown is SHUTTING_DOWN in the step of the
request and after each of the next `d` ticks -/
theorem C06_shutdown_window (hk : SoftCall → W → W) (n : PNode W) (d : Nat) (hon : n.st = .on) (hd : n.downDur = d) (hpos : 0 < d)
    (k : Nat) (hk' : k ≤ d) : (ticks hk k (step hk n .powerOff)).st = .shuttingDown := by
  rw [powerOff_timed hk n hon (by omega)]
  exact (shutting_ticks hk k _ rfl (by simp only [hd]; omega)).1

theorem powerOn_timed (hk : SoftCall → W → W) (n : PNode W) (hoff : n.st = .off) (hu : 0 < n.upDur) :
    step hk n .powerOn = { n with st := .booting, upCd := n.upDur } := by
  have : ¬ n.upDur ≤ 0 := by omega
  simp [step, powerOn_eq, powerOnF, this, hoff]

/-- **boot window**: an OFF node with `start_up_duration = u > 0` that accepts a startup is BOOTING in the step of the request and
after each of the next `u` ticks -/
theorem C06_boot_window (hk : SoftCall → W → W) (n : PNode W) (u : Nat) (hoff : n.st = .off) (hu : n.upDur = u) (hpos : 0 < u)
    (k : Nat) (hk' : k ≤ u) : (ticks hk k (step hk n .powerOn)).st = .booting := by
  rw [powerOn_timed hk n hoff (by omega)]
  exact (booting_ticks hk k _ rfl (by simp only [hu]; omega)).1

/-- the tick at which a resetting node's shut-down countdown has run out: OFF is passed through, the node is BOOTING -/
theorem tick_reset_turn (hk : SoftCall → W → W) (n : PNode W) (hs : n.st = .shuttingDown) (hc : n.downCd = 0) (hr : n.resetting = true)
    (hu : 0 < n.upDur) : (step hk n .tick).st = .booting ∧ (step hk n .tick).upCd = n.upDur := by
  rw [step_tick]
  obtain ⟨a, b, c, d⟩ := tickUpF_shutting hk n hs
  have hnp : ¬ (tickUpF hk n).downCd > 0 := by omega
  have hnu : ¬ n.upDur ≤ 0 := by omega
  simp [tickDownF, hnp, a, restartF, offNow, withSw, c, hr, powerOnF, hnu, d]

theorem resetting_ticks (hk : SoftCall → W → W) (m : PNode W) (d u : Nat) (hs : m.st = .shuttingDown) (hr : m.resetting = true)
    (hd : m.downCd = d) (hu : m.upDur = u) (hup : 0 < u) (k : Nat) (hk' : k ≤ d + u + 1) : (ticks hk k m).st ≠ .on := by
  by_cases hkd : k ≤ d
  · rw [(shutting_ticks hk k m hs (by omega)).1]; decide
  · obtain ⟨j, rfl⟩ : ∃ j, k = d + (1 + j) := ⟨k - d - 1, by omega⟩
    rw [ticks_add, ticks_add]
    obtain ⟨a, b, c, e⟩ := shutting_ticks hk d m hs (by omega)
    obtain ⟨a', b'⟩ := tick_reset_turn hk _ a (by omega) (by rw [c, hr]) (by omega)
    have : ticks hk 1 (ticks hk d m) = step hk (ticks hk d m) .tick := rfl
    rw [this, (booting_ticks hk j _ a' (by omega)).1]; decide

/-- **reset window**: an ON node with positive durations `d`, `u` that accepts a reset is not ON in the step of the request and
after each of the next `d + u + 1` ticks (SHUTTING_DOWN for `d` ticks, then BOOTING) -/
theorem C06_reset_window (hk : SoftCall → W → W) (n : PNode W) (d u : Nat) (hon : n.st = .on) (hd : n.downDur = d) (hu : n.upDur = u)
    (hdp : 0 < d) (hup : 0 < u) (k : Nat) (hk' : k ≤ d + u + 1) : (ticks hk k (step hk n .reset)).st ≠ .on := by
  have h0 : step hk n .reset = { disableAll n with st := .shuttingDown, downCd := n.downDur, resetting := true } := by
    have : ¬ n.downDur ≤ 0 := by omega
    simp [step, reset_eq, powerOffF, this, hon, disableAll]
  rw [h0]
  refine resetting_ticks hk _ d u rfl rfl ?_ ?_ hup k hk'
  · exact hd
  · exact hu

/-- the windows and the invariant together: during the whole shut-down countdown the device ignores every frame on every port -/
theorem C06_shutdown_window_inert (hk : SoftCall → W → W) (soft : Soft W) (n : PNode W) (d : Nat) (hon : n.st = .on) (hd : n.downDur = d)
    (hpos : 0 < d) (k : Nat) (hk' : k ≤ d) (p : Nat) (f : Frame) :
    nodeRx soft (ticks hk k (step hk n .powerOff)).view p f = .done (ticks hk k (step hk n .powerOff)).view := by
  apply C06_not_on_inert soft _ (ticks_inv hk k _ (step_inv hk n .powerOff (inv_of_on hon)))
  rw [C06_shutdown_window hk n d hon hd hpos k hk']; decide

/-- the programs the theorems above are about ARE the method bodies of `Node` as the extractor translates them statement by statement
(assignments of `operating_state`, the interface loops, countdown arming / decrementing, `is_resetting`, the hooks' software loops,
inlined calls, every `if` and `return`; logging dropped) -/
theorem C06_gen_power_programs :
    Gen.FilterPower.startUp = startUpProg ∧ Gen.FilterPower.shutDown = shutDownProg ∧ Gen.FilterPower.powerOn = powerOnProg ∧
    Gen.FilterPower.powerOff = powerOffProg ∧ Gen.FilterPower.reset = resetProg ∧ Gen.FilterPower.tickUp = tickUpProg ∧
    Gen.FilterPower.tickDown = tickDownProg := ⟨rfl, rfl, rfl, rfl, rfl, rfl, rfl⟩

/-- `enable()` of a wired and of a wireless interface refuses while the node is not ON (the guard sits before `self.enabled = True`),
`disable()` always clears the flag; no subclass of `Node` redefines a translated method -/
theorem C06_gen_power_interfaces :
    Gen.FilterPower.wiredEnable = ["guard:self.enabled", "guard:not self._connected_node",
      "guard:self._connected_node.operating_state != NodeOperatingState.ON", "guard:not self._connected_link", "set:enabled"] ∧
    Gen.FilterPower.wirelessEnable = ["guard:self.enabled", "guard:not self._connected_node",
      "guard:self._connected_node.operating_state != NodeOperatingState.ON", "set:enabled"] ∧
    Gen.FilterPower.wiredDisable = ["guard:not self.enabled", "set:disabled"] ∧
    Gen.FilterPower.wirelessDisable = ["guard:not self.enabled", "set:disabled"] ∧
    Gen.FilterPower.definers = ["Node._shut_down_actions", "Node._start_up_actions", "Node.power_off", "Node.power_on", "Node.reset"] :=
  ⟨rfl, rfl, rfl, rfl, rfl⟩

def exIf (en : Bool) : Iface := { enabled := en, mac := 7, ip := 0x0A000202#32, mask := 0xFFFFFF00#32 }

/-- a switch that is ON with two linked, enabled ports; `shut_down_duration = start_up_duration = 3` -/
def exSwitch : PNode Unit :=
  { nd := { kind := .switch, on := true, ifaces := [exIf true, exIf true], acls := fun _ => Acl.Acl.empty 0 .deny, sw := () },
    st := .on, upCd := 0, downCd := 0, upDur := 3, downDur := 3, resetting := false, linked := fun _ => true }

def noHooks : SoftCall → Unit → Unit := fun _ _ => ()

def flags (n : PNode Unit) : List Bool := n.nd.ifaces.map (·.enabled)

example : Inv exSwitch := inv_of_on rfl
/-- the accepted shutdown takes both ports down at once, they stay down through the countdown, OFF after the 4th tick -/
example : (List.range 6).map (fun k => ((ticks noHooks k (step noHooks exSwitch .powerOff)).st, flags (ticks noHooks k (step noHooks exSwitch .powerOff))))
    = [(.shuttingDown, [false, false]), (.shuttingDown, [false, false]), (.shuttingDown, [false, false]), (.shuttingDown, [false, false]),
       (.off, [false, false]), (.off, [false, false])] := by decide
/-- reset: 4 moments SHUTTING_DOWN, 4 moments BOOTING, then ON with the ports up again -/
example : (List.range 10).map (fun k => (ticks noHooks k (step noHooks exSwitch .reset)).st)
    = [.shuttingDown, .shuttingDown, .shuttingDown, .shuttingDown, .booting, .booting, .booting, .booting, .on, .on] := by decide
example : flags (ticks noHooks 8 (step noHooks exSwitch .reset)) = [true, true] := by decide

/-- `power_off` with the interface loop moved into `_shut_down_actions` (the shape of seeded change C06-f) -/
def powerOffMovedProg : Stmt :=
  seqs [.ite .downDurLe0
          (seqs [.scope (seqs [.disableAll, .soft .svcStop, .soft .appClose]), .setSt .off,
                 .ite .resetting (seqs [.setResetting false, .scope powerOnProg]) .skip, .ret true]) .skip,
        .ite (.stIs .on) (seqs [.setSt .shuttingDown, .armDown, .ret true]) .skip,
        .ret false]

/-- … breaks the invariant: the switch is SHUTTING_DOWN with both ports still enabled, so `switchRx` runs on every frame -/
theorem C06_moved_interface_loop_counterexample :
    Inv exSwitch ∧ ¬ Inv (exec noHooks powerOffMovedProg exSwitch).1 := by
  refine ⟨inv_of_on rfl, fun h => ?_⟩
  have := h (by decide) (exIf true) (by decide)
  exact absurd this (by decide)

/-- wireless: the access point of a `WirelessRouter` receives exactly as a `RouterInterface` does (so a wireless router is an element of
kind `router`: `routerRx`, its power guard and its rule list apply unchanged); the airspace hands a frame to the OTHER, ENABLED interfaces OF
THE SENDER'S FREQUENCY only (two access points on one frequency = a wire, another frequency = no wire); a disabled wireless interface
sends nothing -/
theorem C06_gen_wireless :
    Gen.FilterPower.wapReceiveIsRouterInterfaceReceive = true ∧
    Gen.FilterPower.airTransmit =
      ["self.bandwidth_load[sender_network_interface.frequency.frequency_hz] += frame.size_Mbits",
       "for wireless_interface in self.wireless_interfaces_by_frequency.get(sender_network_interface.frequency.frequency_hz, []):",
       "if wireless_interface != sender_network_interface and wireless_interface.enabled:",
       "wireless_interface.receive_frame(frame)"] ∧
    Gen.FilterPower.wirelessSendGuard = ["if not self.enabled:", "return False"] := ⟨rfl, rfl, rfl⟩

/-! Emissions made INSIDE a power operation (`default_gateway_hello` on `enable()`, what services / applications send from the hooks)

In the code these are ordinary software emissions: they pass `SessionManager → interface.send_frame`, i.e. they are `localOp` scripts
(Model/Filter.lean) run at the point of the power method where the hook / `enable()` is called.  Two cases:
* the node is not ON, or all its interfaces are down, at that point (`_shut_down_actions` always: the interfaces were disabled before, or
  the node has just become OFF with `Inv`; `_start_up_actions` in `power_on`'s instant branch: it runs BEFORE the interface loop): every
  attempt is dropped at the interface-send layer — `C06_power_hook_silent`;
* the node is ON with interfaces up (`default_gateway_hello`, `_start_up_actions` at the end of the boot countdown): the emission is a
  local operation of an ON node, which the cut theorems already quantify over (`runOps` takes ARBITRARY scripts at attacker-side nodes;
  a blocking element that has been powered on is no longer a block, a protected node's own emissions are not A's). -/

def PortsDown (s : Node W) : Prop := ∀ q, portEnabled s q = false

/-- **a script run while every interface is down, and which itself leaves the flags alone (`Pres PortsDown`: every state it writes, given
that re-entrant states do, has all ports down), puts NOTHING on any wire**: behind the interface-send layer it is a plain state change -/
theorem C06_power_hook_silent (a : Script W) (h : Pres (PortsDown (W := W)) a) :
    ∃ s', PortsDown s' ∧ guardSends portEnabled a = .done s' := by
  induction h with
  | done hs => exact ⟨_, hs, rfl⟩
  | @send s q g k hs _ ih =>
    obtain ⟨s', hs', he⟩ := ih s hs
    refine ⟨s', hs', ?_⟩
    simp only [guardSends, hs q]
    exact he

/-- the premise holds of a not-ON node under `Inv` (so: of the hooks run by `power_off`, by the OFF-reaching tick and by `power_on`'s
instant branch from any not-ON state) -/
theorem C06_not_on_portsDown (n : PNode W) (h : Inv n) (hne : n.st ≠ .on) : PortsDown n.view :=
  fun q => C06_not_on_sends_nothing n h hne q

/-- and of a node whose interfaces `power_off` has just taken down, whatever its state -/
theorem C06_disabled_portsDown (n : PNode W) : PortsDown (disableAll n).view :=
  portEnabled_of_allDown _ (disableAll_allDown n)

/-- what a call site of the software layer may call to hand a payload to the network -/
def sanctionedSend : List String := ["self.send", "super.send", "sm.send_payload", "sess.receive_payload", "parent_terminal.send"]

/-- **no side channel in the software layer (syntactic inventory, regenerated every run)**: EVERY call site under
system/applications, system/services, software.py, core/software_manager.py that sends is `self.send` / `super().send` (→ `IOSoftware.send`),
the software's OWN `software_manager.send_payload_to_session_manager`, its own session manager's `receive_payload_from_software_manager`
(ARP, ICMP, NTP) or a connection's `parent_terminal.send`; `IOSoftware.send` only guards and calls the software manager, which only calls
the session manager (whose single `send_frame` site and single `Frame(..)` construction are `Gen.Filter`'s); nothing there calls a
frame-level method, a `send` on another receiver, or touches `network`, `get_node_by_hostname`, `nodes`, `links`, `airspace`,
`_connected_node`, `_connected_link`, `endpoint_a/b` — so every emission of every application and service of A is a `localOp`
(stamped with the outbound interface's own source, behind the interface-send layer), which is what the cut theorems quantify over -/
theorem C06_gen_senders :
    Gen.FilterSenders.sendSites.all (fun s => sanctionedSend.contains s.2) = true ∧
    30 ≤ Gen.FilterSenders.sendSites.length ∧
    Gen.FilterSenders.foreign = [] ∧
    Gen.FilterSenders.chain =
      ["IOSoftware.send: guard:not self._can_perform_action() | return:self.software_manager.send_payload_to_session_manager",
       "SoftwareManager.send_payload_to_session_manager: return:self.session_manager.receive_payload_from_software_manager"] :=
  ⟨by decide +kernel, by decide +kernel, rfl, rfl⟩

end Primaite.FilterPower
