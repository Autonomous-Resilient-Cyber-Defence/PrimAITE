/-
C01 — the handler contract of `C01_responses_documented` ("every handler hands back a RequestResponse"), as far as it can be
read off the source: the regenerated inventory of leaf request handlers (Gen/EpisodeHandlers.lean) against the regenerated
schematic request tree of C05x (Gen/RequestSchema.lean).
-/
import PrimaiteModel.Gen.EpisodeHandlers
import PrimaiteModel.Gen.RequestSchema
namespace Primaite.Episode
open Primaite.Gen.EpisodeHandlers Primaite.Schema

/-- the handlers whose return discipline is NOT "a RequestResponse by construction on every path" -/
def handlerExceptions : List (String × String) :=
  (leafHandlers.filter (fun h => h.2.2.2 != "response")).map (fun h => (h.1, h.2.2.1))

/-- row `(class, manager, key, _)` of the inventory is a LEAF edge of that manager in the schematic request tree -/
def isSchemaLeaf (h : String × String × String × String) : Bool :=
  match assoc h.2.1 Primaite.Gen.RequestSchema.mgrs with
  | some (.static edges) =>
    (match lookupE h.2.2.1 edges with
     | some (_, .leaf) => true
     | _ => false)
  | _ => false

def schemaLeavesCovered : Bool :=
  Primaite.Gen.RequestSchema.mgrs.all (fun (_, m) =>
    match m with
    | .static edges => edges.all (fun (k, _, t) =>
        match t with
        | .leaf => leafHandlers.any (fun h => h.2.2.1 == k)
        | .sub _ => true)
    | .dynamic _ _ _ => true)

/-- Gen obligation (F-2 class): every leaf request handler registered under src/primaite/simulator returns a
`RequestResponse` BY CONSTRUCTION on every path — every `return` is `RequestResponse(...)`, `RequestResponse.from_bool(...)`,
a call of a function or method annotated `-> RequestResponse`, or a conditional of these, and no path falls off the end —
EXCEPT the four listed handlers, which forward another component's answer (`DomainController.account`, `FileSystem.file`)
or hand back a stored / received response behind a `None` guard (`Terminal.send_remote_command`,
`UserSessionManager.remote_login`); for those the contract stays with the rig.  The inventory and C05x's schematic request
tree agree: every handler is a leaf edge of its manager, and every literal leaf key of the tree has a handler. -/
theorem C01_gen_handlers_return_responses :
    handlerExceptions = [("DomainController", "account"), ("FileSystem", "file"),
                         ("Terminal", "send_remote_command"), ("UserSessionManager", "remote_login")] ∧
    leafHandlers.all isSchemaLeaf = true ∧ schemaLeavesCovered = true ∧ 50 ≤ leafHandlers.length := by
  decide +kernel

end Primaite.Episode
