/-
C10, components — "each component is evaluated on the post-step state and on that agent's own latest action and response".

1. Translator tie, semantic: the body of every `calculate` in src/primaite/game/agent/rewards.py, translated statement by
   statement by harness/extract/reward_calc.py into the language of Model/RewardCalcLang.lean (`Gen.Reward.calc_<Class>`),
   is proved to compute — for EVERY state dictionary, history item, configuration and memory — the value, the new memory
   and the exceptions of the hand-written component model (`calcFileE`, `calcWeb404E`, `calcWebpageE`, `calcGreenDb`, …).
   The same for `access_from_nested_dict` (`C10_gen_access`), `RewardFunction.update` (`C10_gen_update`) and the loop of
   `PrimaiteGame.update_agents` (`C10_gen_update_agents`).
2. Non-interference: a component's value (and exception) depends only on the leaf of the state dictionary it names and on
   the fields of the agent's own latest history item it reads; never on the rest of the state, the rest of the item, or
   (except `SharedReward`) other agents.
3. The step with exceptions (what the driver runs) against the total step (`C10_stepE`).
-/
import PrimaiteModel.Lemmas.RewardExc
import PrimaiteModel.Lemmas.RewardState
import PrimaiteModel.Gen.Reward
namespace Primaite.Reward
open Primaite.RewardGraph Primaite.Reward.Py

section Calculate

attribute [local simp] eval assignTo List.lookup toKeys toVal Except.map

/-! Sequencing in continuation form: what `a; rest` does, by the shape of `a`. -/

theorem exec_seq_pass (rest : Stmt) (env : Env) : exec (.seq .pass rest) env = exec rest env := by
  simp only [exec]

theorem exec_seq_assign (t : Target) (e : Expr) (rest : Stmt) (env : Env) :
    exec (.seq (.assign t e) rest) env =
      match eval env e with
      | .error x => .error x
      | .ok v => exec rest (assignTo env t v) := by
  simp only [exec]; cases eval env e <;> rfl

theorem exec_seq_ret (e : Expr) (rest : Stmt) (env : Env) : exec (.seq (.ret e) rest) env = exec (.ret e) env := by
  simp only [exec]; cases eval env e <;> rfl

theorem exec_seq_ite (c : Expr) (a b rest : Stmt) (env : Env) :
    exec (.seq (.ite c a b) rest) env =
      match eval env c with
      | .error x => .error x
      | .ok v => if v.truthy then exec (.seq a rest) env else exec (.seq b rest) env := by
  simp only [exec]
  cases eval env c with
  | error x => rfl
  | ok v => by_cases h : v.truthy = true <;> simp only [h, Bool.false_eq_true, if_true, if_false]

theorem exec_seq_seq (a b c : Stmt) (env : Env) : exec (.seq (.seq a b) c) env = exec (.seq a (.seq b c)) env := by
  simp only [exec]
  cases exec a env with
  | error x => rfl
  | ok r => obtain ⟨env', _ | v⟩ := r <;> rfl

theorem exec_seq_popFront (x l : String) (rest : Stmt) (env : Env) :
    exec (.seq (.popFront x l) rest) env =
      match env.locals.lookup l with
      | some (.list (h :: t)) => exec rest { env with locals := (x, h) :: (l, .list t) :: env.locals }
      | some (.list []) => .error .indexError
      | some _ => .error .attributeError
      | none => .error .typeError := by
  simp only [exec]
  cases env.locals.lookup l with
  | none => rfl
  | some v =>
    cases v with
    | list xs => cases xs <;> rfl
    | _ => rfl

theorem exec_ite (c : Expr) (a b : Stmt) (env : Env) :
    exec (.ite c a b) env =
      match eval env c with
      | .error x => .error x
      | .ok v => if v.truthy then exec a env else exec b env := by
  rw [exec]; cases eval env c <;> rfl

theorem exec_ret (e : Expr) (env : Env) :
    exec (.ret e) env =
      match eval env e with
      | .error x => .error x
      | .ok v => .ok (env, some v) := by
  simp only [exec]; cases eval env e <;> rfl

attribute [local simp] runCalculate exec_seq_pass exec_seq_assign exec_seq_ret exec_seq_ite exec_seq_seq exec_ite exec_ret

@[simp] theorem truthy_bool (b : Bool) : (PyVal.bool b).truthy = b := rfl
@[simp] theorem pyEq_str_str (a b : String) : PyVal.pyEq (.str a) (.str b) = (a == b) := by simp [PyVal.pyEq]
theorem pyEq_int_iff (x : PyVal) (k : Int) : x.pyEq (.int k) = true ↔ x.asNum = some (k : Rat) := by
  cases x <;> simp [PyVal.pyEq, PyVal.asNum]

theorem pyEq_int_int (a b : Int) : PyVal.pyEq (.int a) (.int b) = decide (a = b) := by
  simp only [PyVal.pyEq, PyVal.asNum]
  by_cases h : a = b
  · subst h; simp
  · simp [h]

theorem pyEq_int_exclusive {x : PyVal} {j k : Int} (hjk : j ≠ k) (h : x.pyEq (.int j) = true) : x.pyEq (.int k) = false := by
  cases hk : x.pyEq (.int k) with
  | false => rfl
  | true =>
    rw [pyEq_int_iff] at h hk
    rw [h] at hk
    have : (j : Rat) = (k : Rat) := Option.some.inj hk
    exact absurd (Rat.intCast_inj.mp this) hjk

@[simp] theorem pyIs_notPresent (x : PyVal) : pyIs x .notPresent = x.isNotPresent := by cases x <;> rfl

/-- the environment `DatabaseFileIntegrity.calculate` runs in -/
def fileEnv (s : SimState) (it : Item) (n fo fi : Name) (loc : PyVal) : Env :=
  { state := s, item := it, reward := .num 0, loc := loc,
    config := [("type", .str "database-file-integrity"), ("node_hostname", .str n), ("folder_name", .str fo), ("file_name", .str fi)] }

theorem C10_gen_calc_file (s : SimState) (it : Item) (n fo fi : Name) (loc : PyVal) :
    (runCalculate Gen.Reward.calc_DatabaseFileIntegrity (fileEnv s it n fo fi loc)).map (·.value) = calcFileE s n fo fi := by
  simp [Gen.Reward.calc_DatabaseFileIntegrity, fileEnv, calcFileE, fileLoc, healthValue]
  cases PyVal.access s ["network", "nodes", n, "file_system", "folders", fo, "files", fi] with
  | error e => rfl
  | ok leaf =>
    by_cases hnp : leaf.isNotPresent = true
    · simp [hnp]
    · simp only [hnp, Bool.false_eq_true, if_false]
      cases leaf.getItem "health_status" with
      | error e => rfl
      | ok h =>
        by_cases h2 : h.pyEq (.int 2) = true
        · simp [h2]
        · by_cases h1 : h.pyEq (.int 1) = true <;> simp [h2, h1]

/-- `DummyReward.calculate` returns 0.0 whatever it is given -/
theorem C10_gen_calc_dummy (env : Env) : (runCalculate Gen.Reward.calc_DummyReward env).map (·.value) = .ok 0 := by
  simp [Gen.Reward.calc_DummyReward]

/-- the environment `WebServer404Penalty.calculate` runs in -/
def web404Env (s : SimState) (it : Item) (n sv : Name) (st : Bool) (m : Val) (loc : PyVal) : Env :=
  { state := s, item := it, reward := .num m, loc := loc,
    config := [("type", .str "web-server-404-penalty"), ("node_hostname", .str n), ("service_name", .str sv), ("sticky", .bool st)] }

theorem C10_gen_calc_web404 (s : SimState) (it : Item) (n sv : Name) (st : Bool) (m : Val) (loc : PyVal) :
    (runCalculate Gen.Reward.calc_WebServer404Penalty (web404Env s it n sv st m loc)).map (fun o => (o.value, o.reward)) =
      (calcWeb404E s n sv st m).map (fun r => (r.1, PyVal.num r.2)) := by
  simp [Gen.Reward.calc_WebServer404Penalty, web404Env, calcWeb404E, web404Loc, status2rewTable]
  cases PyVal.access s ["network", "nodes", n, "services", sv] with
  | error e => rfl
  | ok leaf =>
    by_cases hnp : leaf.isNotPresent = true
    · simp [hnp]
    · simp only [hnp, Bool.false_eq_true, if_false]
      cases leaf.get "response_codes_this_timestep" with
      | error e => rfl
      | ok codes =>
        by_cases ht : codes.truthy = true
        · simp only [ht, if_true]
          cases PyVal.avgTable [(200, 1), (404, -1)] 0 codes <;> rfl
        · cases st <;> simp [ht]

/-- the environment `WebpageUnavailablePenalty.calculate` runs in -/
def webpageEnv (s : SimState) (it : Item) (n : Name) (st : Bool) (m : Val) (loc : PyVal) : Env :=
  { state := s, item := it, reward := .num m, loc := loc,
    config := [("type", .str "webpage-unavailable-penalty"), ("node_hostname", .str n), ("sticky", .bool st)] }

theorem C10_gen_calc_webpage (s : SimState) (it : Item) (n : Name) (st : Bool) (m : Val) (loc : PyVal) :
    (runCalculate Gen.Reward.calc_WebpageUnavailablePenalty (webpageEnv s it n st m loc)).map (fun o => (o.value, o.reward)) =
      (calcWebpageE s it n st m).map (fun v => (v, PyVal.num v)) := by
  have hreq : it.request.pyEq (PyVal.list [PyVal.str "network", PyVal.str "node", PyVal.str n, PyVal.str "application",
      PyVal.str "web-browser", PyVal.str "execute"]) = it.requestIs (browserRequest n) := rfl
  -- one run of the translated body: a tree of `if`s over the leaf, the request test and the status
  simp [Gen.Reward.calc_WebpageUnavailablePenalty, webpageEnv, calcWebpageE, webpageLoc, hreq, webpageFreshE, Item.ok]
  cases PyVal.access s ["network", "nodes", n, "applications", "web-browser"] with
  | error e => rfl
  | ok leaf =>
    by_cases hr : it.requestIs (browserRequest n) = true
    · by_cases hok : it.status = "success"
      · by_cases hnp : leaf.isNotPresent = true
        · simp [hr, hok, hnp]
        · simp only [hr, hok, hnp, Bool.true_eq_false, Bool.false_eq_true, if_false, if_true]
          cases leaf.getItem "history" with
          | error e => rfl
          | ok hist =>
            simp only [truthy_bool]
            by_cases ht : hist.truthy = true
            · simp only [ht, Bool.not_true, Bool.false_eq_true, if_false]
              cases hist.last with
              | error e => rfl
              | ok entry =>
                simp only
                cases entry.getItem "outcome" with
                | error e => rfl
                | ok o =>
                  by_cases hp : o.pyEq (.str "PENDING") = true
                  · simp [hp, outcomeReward]
                  · by_cases h2 : o.pyEq (.int 200) = true <;> simp [hp, h2, outcomeReward]
            · simp [ht]
      · simp [hr, hok]
    · by_cases hnp : leaf.isNotPresent = true <;> cases st <;> simp [hr, hnp]

/-- the environment `GreenAdminDatabaseUnreachablePenalty.calculate` runs in -/
def greenDbEnv (s : SimState) (it : Item) (n : Name) (st : Bool) (m : Val) (loc : PyVal) : Env :=
  { state := s, item := it, reward := .num m, loc := loc,
    config := [("type", .str "green-admin-database-unreachable-penalty"), ("node_hostname", .str n), ("sticky", .bool st)] }

/-- value, memory afterwards, and the `reward_info` it writes into the history item; it never raises and never looks at `state` -/
theorem C10_gen_calc_greenDb (s : SimState) (it : Item) (n : Name) (st : Bool) (m : Val) (loc : PyVal) :
    (runCalculate Gen.Reward.calc_GreenAdminDatabaseUnreachablePenalty (greenDbEnv s it n st m loc)).map
        (fun o => (o.value, o.reward, o.rewardInfo)) =
      .ok (calcGreenDb it n st m, PyVal.num (calcGreenDb it n st m), greenDbRewardInfo it n) := by
  have hreq : it.request.pyEq (PyVal.list [PyVal.str "network", PyVal.str "node", PyVal.str n, PyVal.str "application",
      PyVal.str "database-client", PyVal.str "execute"]) = it.requestIs (dbClientRequest n) := rfl
  simp [Gen.Reward.calc_GreenAdminDatabaseUnreachablePenalty, greenDbEnv, hreq, calcGreenDb, greenDbRewardInfo, Item.ok]
  by_cases hatt : it.requestIs (dbClientRequest n) = true
  · by_cases hok : it.status = "success" <;> simp [hatt, hok]
  · cases st <;> simp [hatt]

/-- `SharedReward.calculate` returns what the callback answers for the configured agent name -/
theorem C10_gen_calc_shared (s : SimState) (it : Item) (a : Name) (cur : Name → Val) (r loc : PyVal) :
    (runCalculate Gen.Reward.calc_SharedReward
      { state := s, item := it, reward := r, loc := loc, cb := cur,
        config := [("type", .str "shared-reward"), ("agent_name", .str a)] }).map (·.value) = .ok (cur a) := by
  simp [Gen.Reward.calc_SharedReward]

/-- `ActionPenalty.calculate`: one of the two configured penalties, by the agent's own latest action -/
theorem C10_gen_calc_actionPenalty (s : SimState) (it : Item) (ap dn : Val) (r loc : PyVal) :
    (runCalculate Gen.Reward.calc_ActionPenalty
      { state := s, item := it, reward := r, loc := loc,
        config := [("type", .str "action-penalty"), ("action_penalty", .num ap), ("do_nothing_penalty", .num dn)] }).map (·.value) =
      .ok (calcActionPenalty it ap dn) := by
  by_cases h : it.action = "do-nothing" <;> simp [Gen.Reward.calc_ActionPenalty, calcActionPenalty, h]

end Calculate

theorem access_nil_any (v : PyVal) : PyVal.access v [] = .ok v := by cases v <;> rfl

theorem pyEq_succ_zero (n : Nat) : PyVal.pyEq (.int ((n : Int) + 1)) (.int 0) = false := by
  rw [pyEq_int_int]
  exact decide_eq_false (by omega)

/-- the environment one call of `access_from_nested_dict(d, keys)` runs in, recursive calls answered by `rec` -/
def accessEnv (rec : PyVal → PyVal → Except Err PyVal) (d keys : PyVal) : Env :=
  { state := .none, item := { action := "", request := .none, status := "" }, config := [], reward := .none,
    locals := [("dictionary", d), ("keys", keys)], recCall := rec }

section Access

attribute [local simp] eval assignTo List.lookup Except.map exec_seq_pass exec_seq_assign exec_seq_ret exec_seq_ite exec_seq_popFront exec_ret

theorem access_body_nil (rec : PyVal → PyVal → Except Err PyVal) (d : PyVal) :
    fnResult (exec Gen.Reward.fn_access_from_nested_dict (accessEnv rec d (.list []))) = .ok d := by
  simp [fnResult, accessEnv, Gen.Reward.fn_access_from_nested_dict, pyIs, pyIterList, pyLen, PyVal.pyEq, PyVal.asNum]

/-- one call with a first key `k`: exactly one level of `PyVal.access`, the rest delegated to the recursive call -/
theorem access_body_cons (rec : PyVal → PyVal → Except Err PyVal) (d : PyVal) (k : String) (ks : List String) :
    fnResult (exec Gen.Reward.fn_access_from_nested_dict (accessEnv rec d (.list (.str k :: ks.map .str)))) =
      (match d with
       | .dict kvs =>
         match kvs.lookup (.str k) with
         | some v => rec v (.list (ks.map .str))
         | none => .ok .notPresent
       | .list xs => if xs.any (fun x => PyVal.pyEq x (.str k)) then .error .typeError else .ok .notPresent
       | .str s => if PyVal.isInfix k.toList s.toList then .error .typeError else .ok .notPresent
       | _ => .error .typeError) := by
  -- the body up to `k not in dictionary` does not look at `dictionary`: run it once, then go by the shape of `d`
  simp [accessEnv, Gen.Reward.fn_access_from_nested_dict, pyIs, pyIterList, pyLen, pyEq_succ_zero, -List.any_eq_true]
  cases d with
  | dict kvs =>
    cases hl : kvs.lookup (.str k) with
    | none => simp [fnResult, pyIn, toKey, hl]
    | some v =>
      simp [fnResult, pyIn, pyIndex, toKey, hl]
      cases rec v (PyVal.list (ks.map PyVal.str)) <;> rfl
  | list xs => cases hin : xs.any (fun x => PyVal.pyEq x (.str k)) <;> simp [fnResult, pyIn, pyIndex, hin]
  | str s => by_cases hin : PyVal.isInfix k.toList s.toList = true <;> simp [fnResult, pyIn, pyIndex, hin]
  | _ => simp [fnResult, pyIn]

end Access

section Functions

attribute [local simp] runCalculate exec eval assignTo List.lookup toKeys toVal Except.map

theorem runFunction_succ (body : Stmt) (p1 p2 : String) (fuel : Nat) (a b : PyVal) :
    runFunction body p1 p2 (fuel + 1) a b =
      fnResult (exec body { state := .none, item := { action := "", request := .none, status := "" }, config := [], reward := .none,
                            locals := [(p1, a), (p2, b)], recCall := runFunction body p1 p2 fuel }) := by
  rw [runFunction]

/-- **`access_from_nested_dict`, semantic tie.** The body of `access_from_nested_dict(dictionary, keys)` in
game/agent/utils.py — translated statement by statement on every run, recursion included — interpreted on ANY value and ANY
list of string keys, with as many unfoldings as there are keys plus one, answers exactly what the model's `PyVal.access`
answers: the value, `NOT_PRESENT_IN_STATE`, or the same exception. -/
theorem C10_gen_access (ks : List String) : ∀ d : PyVal,
    runFunction Gen.Reward.fn_access_from_nested_dict "dictionary" "keys" (ks.length + 1) d (PyVal.strs ks) = PyVal.access d ks := by
  induction ks with
  | nil =>
    intro d
    rw [List.length_nil, runFunction_succ]
    exact (access_body_nil _ d).trans (access_nil_any d).symm
  | cons k ks ih =>
    intro d
    rw [List.length_cons, runFunction_succ]
    have h := access_body_cons (runFunction Gen.Reward.fn_access_from_nested_dict "dictionary" "keys" (ks.length + 1)) d k ks
    simp only [accessEnv, PyVal.strs, List.map_cons] at h ⊢
    rw [h]
    cases d with
    | dict kvs =>
      simp only [PyVal.access]
      cases kvs.lookup (.str k) with
      | none => rfl
      | some v => exact ih v
    | list xs => simp only [PyVal.access]
    | str s => simp only [PyVal.access]
    | _ => simp only [PyVal.access]

/-- `keys is None` (a component whose `location_in_state` was never set): `NOT_PRESENT_IN_STATE` -/
theorem C10_gen_access_none (d : PyVal) (fuel : Nat) :
    runFunction Gen.Reward.fn_access_from_nested_dict "dictionary" "keys" (fuel + 1) d .none = .ok .notPresent := by
  rw [runFunction_succ]
  simp [fnResult, Gen.Reward.fn_access_from_nested_dict, pyIs]

/-- the accumulation `total = 0.0; for (comp, weight): total += weight * comp.calculate(...)`, the first raising component ending it -/
def leftFoldE : Val → List (Except Err Val × Val) → Except Err Val
  | acc, [] => .ok acc
  | acc, (r, w) :: rest =>
    match r with
    | .error e => .error e
    | .ok v => leftFoldE (acc + w * v) rest

theorem updateCompsE_fst_eq_leftFoldE (s : SimState) (it : Item) (cur : Name → Val) (comps : List (Comp × Val)) :
    ∀ acc, (updateCompsE s it cur acc comps).map (·.1) =
      leftFoldE acc (comps.map (fun cw => ((calcCompE s it cur cw.1).map (·.1), cw.2))) := by
  induction comps with
  | nil => intro acc; rfl
  | cons cw rest ih =>
    obtain ⟨c, w⟩ := cw
    intro acc
    simp only [updateCompsE, List.map_cons, leftFoldE]
    cases hc : calcCompE s it cur c with
    | error e => rfl
    | ok r =>
      simp only [Except.map]
      have := ih (acc + w * r.1)
      cases hu : updateCompsE s it cur (acc + w * r.1) rest with
      | error e => rw [hu] at this; simpa [Except.map] using this
      | ok t => rw [hu] at this; simpa [Except.map] using this

/-- the body of the `for` loop of the translated `update` -/
def updLoopBody : Stmt :=
  match Gen.Reward.fn_RewardFunction_update with
  | .seq _ (.seq (.forIn _ _ b) _) => b
  | _ => .pass

/-- a `(component, weight)` entry of `self.reward_components` -/
def encPair (p : PyVal × Val) : PyVal := .list [p.1, .num p.2]

/-- one iteration: `total` becomes `total + weight * comp.calculate(...)`, or the component's exception ends the loop -/
theorem update_iter (f : PyVal → Except Err Val) (env : Env) (hc : ∀ o, env.calcOf o = (f o).map .num) (acc : Val)
    (ht : env.locals.lookup "total" = some (.num acc)) (p : PyVal × Val) :
    exec updLoopBody { env with locals := ("comp_and_weight", encPair p) :: env.locals } =
      match f p.1 with
      | .error e => .error e
      | .ok v => .ok ({ env with locals := ("total", .num (acc + p.2 * v)) :: ("weight", .num p.2) :: ("comp", p.1) ::
                          ("comp_and_weight", encPair p) :: env.locals }, none) := by
  obtain ⟨tok, w⟩ := p
  cases hf : f tok with
  | error e =>
    simp [updLoopBody, Gen.Reward.fn_RewardFunction_update, encPair, pyIndex, ht, hc, hf]
  | ok v =>
    simp [updLoopBody, Gen.Reward.fn_RewardFunction_update, encPair, pyIndex, ht, hc, hf, pyArith, PyVal.asNum]

theorem update_loop (f : PyVal → Except Err Val) (pairs : List (PyVal × Val)) :
    ∀ (env : Env) (acc : Val), (∀ o, env.calcOf o = (f o).map .num) → env.locals.lookup "total" = some (.num acc) →
      match leftFoldE acc (pairs.map (fun p => (f p.1, p.2))) with
      | .error e => loopOver (fun env' => exec updLoopBody env') "comp_and_weight" (pairs.map encPair) env = .error e
      | .ok a => ∃ env', loopOver (fun env' => exec updLoopBody env') "comp_and_weight" (pairs.map encPair) env = .ok (env', none) ∧
          env'.locals.lookup "total" = some (.num a) ∧ env'.selfAttrs = env.selfAttrs := by
  induction pairs with
  | nil => intro env acc _ ht; exact ⟨env, rfl, ht, rfl⟩
  | cons p rest ih =>
    intro env acc hc ht
    simp only [List.map_cons, leftFoldE, loopOver]
    rw [update_iter f env hc acc ht p]
    cases hf : f p.1 with
    | error e => rfl
    | ok v =>
      simp only
      have h := ih { env with locals := ("total", .num (acc + p.2 * v)) :: ("weight", .num p.2) :: ("comp", p.1) ::
          ("comp_and_weight", encPair p) :: env.locals } (acc + p.2 * v) hc (by simp)
      cases hl : leftFoldE (acc + p.2 * v) (rest.map (fun p => (f p.1, p.2))) with
      | error e => rw [hl] at h; exact h
      | ok a => rw [hl] at h; obtain ⟨env', h1, h2, h3⟩ := h; exact ⟨env', h1, h2, h3⟩

/-- **`RewardFunction.update`, semantic tie.** The body of `update(self, state, last_action_response)` in rewards.py — translated
statement by statement on every run: the `for` loop over `self.reward_components`, the two subscripts, `total += weight * …`, the
assignment to `self.current_reward`, the `return` — interpreted for ANY list of (component object, weight) and ANY behaviour `f`
of the components' `calculate` (a number or an exception each), returns (and stores in `self.current_reward`) exactly the left
fold `((0 + w₁·c₁) + w₂·c₂) + …`, stopping at the first component that raises. With `updateCompsE_fst_eq_leftFoldE` this is the
model's `updateCompsE`. (Nothing is assumed about what a component is.) -/
theorem C10_gen_update (f : PyVal → Except Err Val) (cfun : PyVal → Except Err PyVal) (hc : ∀ o, cfun o = (f o).map .num)
    (pairs : List (PyVal × Val)) (s : PyVal) (it : Item) (others : List (String × PyVal)) :
    (runCalculate Gen.Reward.fn_RewardFunction_update
      { state := s, item := it, config := [], reward := .none, calcOf := cfun,
        selfAttrs := ("reward_components", .list (pairs.map encPair)) :: others }).map (·.value) =
      leftFoldE 0 (pairs.map (fun p => (f p.1, p.2))) := by
  have hloop := update_loop f pairs
    { state := s, item := it, config := [], reward := .none, calcOf := cfun,
      selfAttrs := ("reward_components", .list (pairs.map encPair)) :: others, locals := [("total", .num 0)] } 0
    hc (by simp)
  have hbody : Gen.Reward.fn_RewardFunction_update =
      .seq (.assign (.var "total") (.const (.num 0)))
        (.seq (.forIn "comp_and_weight" (.selfAttr "reward_components") updLoopBody)
          (.seq (.assign (.selfAttr "current_reward") (.var "total")) (.ret (.selfAttr "current_reward")))) := by
    simp [Gen.Reward.fn_RewardFunction_update, updLoopBody]
  rw [hbody]
  cases hl : leftFoldE 0 (pairs.map (fun p => (f p.1, p.2))) with
  | error e =>
    rw [hl] at hloop
    simp only at hloop
    simp [pyIterList, hloop]
  | ok a =>
    rw [hl] at hloop
    simp only at hloop
    obtain ⟨env', h1, h2, h3⟩ := hloop
    simp [pyIterList, h1, h2]

/-- **The plugin contract.** `RewardFunction.update` and the whole game-level development never look inside a component: for a
component class defined OUTSIDE the package (registered through `AbstractReward.__init_subclass__`), whatever its `calculate`
computes — any function `f` of the object, state and item, raising or not — the agent's step reward is the weighted left fold of
the values it and its siblings return, in registration order, and an exception of the plugin ends `update` (and the step) with that
exception. What C10 does NOT promise for a plugin: non-interference, sticky laws, the ground-truth statements — those are proved
for the seven shipped classes from their translated bodies. -/
theorem C10_plugin_contract (f : PyVal → Except Err Val) (pre post : List (PyVal × Val)) (plugin : PyVal) (w : Val) (s : PyVal) (it : Item) :
    (runCalculate Gen.Reward.fn_RewardFunction_update
      { state := s, item := it, config := [], reward := .none, calcOf := fun o => (f o).map .num,
        selfAttrs := [("reward_components", .list ((pre ++ (plugin, w) :: post).map encPair))] }).map (·.value) =
      leftFoldE 0 ((pre ++ (plugin, w) :: post).map (fun p => (f p.1, p.2))) :=
  C10_gen_update f _ (fun _ => rfl) _ s it []

/-- non-vacuity: two components and a plugin object in the middle that returns 5; the plugin raising ends the update -/
example :
    (leftFoldE 0 ([((.ok 1 : Except Err Val), (2 : Val)), (.ok 5, 1/2), (.ok (-1), 1)])).toOption = some (2 + 5/2 - 1) ∧
    (match leftFoldE 0 ([((.ok 1 : Except Err Val), (2 : Val)), (.error .typeError, 1/2), (.ok (-1), 1)]) with
      | .error .typeError => true | _ => false) = true := by
  constructor <;> decide +kernel

end Functions

/-- **`update_agents`, semantic tie.** The loop of `PrimaiteGame.update_agents` in game.py — translated on every run into the list of
its statements with their guards (`Gen.Reward.updateAgentsProgram`) — run on the agent `self.agents[agent_name]` of ANY game, state
and agent name, is exactly the model's `updOneE`: `update_reward` then `save_reward_to_history`, both only when `step_counter > 0`,
then `total_reward += current_reward` with the NEW reward; same exceptions (unknown agent, empty history, unknown shared name,
raising component). Any reordering or regrouping of those statements that changes the result refutes this theorem; one that does
not (e.g. moving `update_observation`) keeps it. -/
theorem C10_gen_update_agents (s : SimState) (g : Game) (name : Name) :
    updOneProg Gen.Reward.updateAgentsProgram s g name = updOneE s g name := by
  unfold updOneProg updOneE
  cases hl : g.agents.lookup name with
  | none => rfl
  | some a =>
    simp only
    by_cases hpos : g.stepCounter > 0
    · simp only [hpos, decide_true, if_true, Gen.Reward.updateAgentsProgram, runOps, Bool.not_true, Bool.and_false,
        Bool.false_eq_true, if_false]
      cases hh : a.hist with
      | nil => rfl
      | cons e older =>
        obtain ⟨it, rw'⟩ := e
        simp only
        by_cases hall : (sharedNames a.comps).all (fun v => decide (v ∈ agentKeys g.agents)) = true
        · simp only [hall, if_true]
          cases hu : updateCompsE s it (curOf g.agents) 0 a.comps with
          | error e => rfl
          | ok r => rfl
        · simp only [hall, Bool.false_eq_true, if_false]
    · simp only [hpos, decide_false, if_false, Gen.Reward.updateAgentsProgram, runOps, Bool.not_false, Bool.and_true,
        Bool.and_self, if_true, Bool.false_eq_true]

/-- … and the whole function: the loop over `_reward_calculation_order` -/
theorem C10_gen_update_agents_loop (s : SimState) (g : Game) :
    foldE (updOneProg Gen.Reward.updateAgentsProgram s) g g.order = updateAgentsE s g := by
  unfold updateAgentsE
  have : updOneProg Gen.Reward.updateAgentsProgram s = updOneE s := by
    funext g' n; exact C10_gen_update_agents s g' n
  rw [this]

/-- why the order matters: with `total_reward += current_reward` moved in front of `update_reward`
the total lags one step behind — a different program, and not the model -/
example :
    let it : Item := { action := "x", request := .list [], status := "success" }
    let a : Agent := { comps := [(.actionPenalty (-1) 0, 1)], current := 5, total := 10, hist := [(it, none)] }
    let g : Game := { agents := [("a", a)], order := ["a"], stepCounter := 1 }
    ((updOneProg [(false, .addCurrentToTotal), (true, .updateReward), (true, .saveRewardToHistory), (false, .updateObservation)]
        (.dict []) g "a").toOption.bind (fun g' => g'.agents.lookup "a")).map (·.total) = some 15 ∧
    ((updOneE (.dict []) g "a").toOption.bind (fun g' => g'.agents.lookup "a")).map (·.total) = some 9 := by
  constructor <;> decide +kernel

def Reads.agree (r : Reads) (it it' : Item) : Prop :=
  (r.action = true → it.action = it'.action) ∧ (r.request = true → it.request = it'.request) ∧
  (r.status = true → it.status = it'.status)

/-- `DatabaseFileIntegrity`: the value (or exception) is a function of the leaf `access state location_in_state` alone —
no other part of the state, nothing of the history item, no memory. -/
theorem C10_file_reads_only_its_leaf (s s' : SimState) (n fo fi : Name)
    (h : PyVal.access s (fileLoc n fo fi) = PyVal.access s' (fileLoc n fo fi)) :
    calcFileE s n fo fi = calcFileE s' n fo fi := by
  unfold calcFileE; rw [h]

/-- `WebServer404Penalty`: a function of its leaf, its sticky flag and its own memory. -/
theorem C10_web404_reads_only_its_leaf (s s' : SimState) (n sv : Name) (st : Bool) (m : Val)
    (h : PyVal.access s (web404Loc n sv) = PyVal.access s' (web404Loc n sv)) :
    calcWeb404E s n sv st m = calcWeb404E s' n sv st m := by
  unfold calcWeb404E; rw [h]

/-- `WebpageUnavailablePenalty`: a function of its leaf, of `request` and `response.status` of the agent's OWN latest item,
its sticky flag and its own memory. -/
theorem C10_webpage_reads_only_leaf_request_status (s s' : SimState) (it it' : Item) (n : Name) (st : Bool) (m : Val)
    (h : PyVal.access s (webpageLoc n) = PyVal.access s' (webpageLoc n))
    (hr : it.request = it'.request) (hs : it.status = it'.status) :
    calcWebpageE s it n st m = calcWebpageE s' it' n st m := by
  unfold calcWebpageE webpageFreshE Item.requestIs Item.ok; rw [h, hr, hs]

/-- `GreenAdminDatabaseUnreachablePenalty`: a function of `request` and `response.status` of the agent's own latest item, its
sticky flag and its own memory — no state at all. -/
theorem C10_greenDb_reads_only_request_status (it it' : Item) (n : Name) (st : Bool) (m : Val)
    (hr : it.request = it'.request) (hs : it.status = it'.status) :
    calcGreenDb it n st m = calcGreenDb it' n st m := by
  unfold calcGreenDb Item.requestIs Item.ok; rw [hr, hs]

/-- `ActionPenalty`: a function of the agent's own latest `action` (and the two configured penalties). -/
theorem C10_actionPenalty_reads_only_action (it it' : Item) (ap dn : Val) (ha : it.action = it'.action) :
    calcActionPenalty it ap dn = calcActionPenalty it' ap dn := by
  unfold calcActionPenalty; rw [ha]

/-- **Non-interference, every component.** `comp.calculate(state, last_action_response)` — value, new memory, or the exception
it raises — is the same for two states that agree on the leaf the component names and two history items that agree on the
fields it reads (and, for `SharedReward`, two callbacks that agree on the agent it names). Everything else — the rest of
the state dictionary, `timestep`, `parameters`, `response.data`, `reward_info`, `observation`, the fields outside the
read-set, other agents' rewards — cannot influence it. -/
theorem C10_component_noninterference (s s' : SimState) (it it' : Item) (cur cur' : Name → Val) (c : Comp)
    (hleaf : ∀ p, c.loc = some p → PyVal.access s p = PyVal.access s' p)
    (hitem : c.reads.agree it it')
    (hcur : ∀ a, c = .shared a → cur a = cur' a) :
    calcCompE s it cur c = calcCompE s' it' cur' c := by
  obtain ⟨ha, hr, hs⟩ := hitem
  cases c with
  | dummy => rfl
  | fileIntegrity n fo fi =>
    simp only [calcCompE, C10_file_reads_only_its_leaf s s' n fo fi (hleaf _ rfl)]
  | web404 n sv st m =>
    simp only [calcCompE, C10_web404_reads_only_its_leaf s s' n sv st m (hleaf _ rfl)]
  | webpage n st m =>
    simp only [calcCompE, C10_webpage_reads_only_leaf_request_status s s' it it' n st m (hleaf _ rfl) (hr rfl) (hs rfl)]
  | greenDb n st m =>
    simp only [calcCompE, C10_greenDb_reads_only_request_status it it' n st m (hr rfl) (hs rfl)]
  | shared a => simp only [calcCompE, hcur a rfl]
  | actionPenalty ap dn =>
    simp only [calcCompE, C10_actionPenalty_reads_only_action it it' ap dn (ha rfl)]

/-- non-vacuity: two different states and two different items that agree on what a `webpage` component reads -/
example : (Comp.webpage "pc1" false 0).reads.agree
    { action := "a", request := .list [.str "x"], status := "success", timestep := 3 }
    { action := "b", request := .list [.str "x"], status := "success", timestep := 9, data := .dict [(.str "k", .int 1)] } :=
  ⟨fun h => (by cases h), fun _ => rfl, fun _ => rfl⟩

theorem calcComp_noninterference (s s' : SimState) (it it' : Item) (cur cur' : Name → Val) (c : Comp)
    (hleaf : ∀ p, c.loc = some p → PyVal.access s p = PyVal.access s' p)
    (hitem : c.reads.agree it it')
    (hcur : ∀ a, c = .shared a → cur a = cur' a) :
    calcComp s it cur c = calcComp s' it' cur' c := by
  rw [calcComp_eq, calcComp_eq, C10_component_noninterference s s' it it' cur cur' c hleaf hitem hcur]

/-- what is compared between two runs of a step: components (memories included), step reward, total -/
def Agent.rewardView (a : Agent) : List (Comp × Val) × Val × Val := (a.comps, a.current, a.total)

theorem curOf_eq_of_view (as : List (Name × Agent)) (v : Name) :
    curOf as v = match (as.lookup v).map Agent.rewardView with
      | some r => r.2.1
      | none => 0 := by
  unfold curOf
  cases as.lookup v <;> rfl

/-- **Non-interference, the whole step.** Take one well-formed game and run the step twice: with post-step states that agree
on every leaf some configured component names, and with history items that agree, agent by agent, on the fields that
agent's own components read. Then every agent ends with the same step reward, the same total and the same component
memories — however much the rest of the state dictionary and the other fields of the items (or the items of agents whose
components read nothing) differ. In particular an agent's reward depends on its OWN latest action and response only (and,
through shared components, on the agents it shares from, by the same rule). -/
theorem C10_step_noninterference (g : Game) (wf : WF g) (items items' : Name → Item) (s s' : SimState)
    (hleaf : ∀ n a, g.agents.lookup n = some a → ∀ cw ∈ a.comps, ∀ p, cw.1.loc = some p → PyVal.access s p = PyVal.access s' p)
    (hitem : ∀ n a, g.agents.lookup n = some a → ∀ cw ∈ a.comps, cw.1.reads.agree (items n) (items' n)) :
    ∃ g1 g2, gameStep g items s = .ok g1 ∧ gameStep g items' s' = .ok g2 ∧
      ∀ n, (g1.agents.lookup n).map Agent.rewardView = (g2.agents.lookup n).map Agent.rewardView := by
  obtain ⟨g1, h1, _, _, _, hk1, hf1⟩ := gameStep_spec g wf items s
  obtain ⟨g2, h2, _, _, _, hk2, hf2⟩ := gameStep_spec g wf items' s'
  refine ⟨g1, g2, h1, h2, fun n => ?_⟩
  by_cases hn : n ∈ agentKeys g.agents
  · refine wf.induction (P := fun n => (g1.agents.lookup n).map Agent.rewardView = (g2.agents.lookup n).map Agent.rewardView)
      ?_ n hn
    intro n a ha ih
    rw [hf1 n a ha, hf2 n a ha]
    simp only [Option.map_some, updAgent_pushItem, Agent.rewardView]
    have hcur : ∀ v ∈ sharedNames a.comps, curOf g1.agents v = curOf g2.agents v := by
      intro v hv
      rw [curOf_eq_of_view, curOf_eq_of_view, ih v hv]
    rw [updateComps_ext a.comps (fun cw hcw => calcComp_noninterference s s' (items n) (items' n) (curOf g1.agents)
      (curOf g2.agents) cw.1 (hleaf n a ha cw hcw) (hitem n a ha cw hcw) (fun v hv => hcur v (mem_sharedNames_of_mem hcw hv))) 0]
  · rw [(lookup_none_iff _ n).mpr (by rw [hk1]; exact hn), (lookup_none_iff _ n).mpr (by rw [hk2]; exact hn)]

/-- An agent without shared-reward components: its step reward is a function of the post-step state and of its own latest
history item alone — whatever the other agents did. -/
theorem C10_own_item_only (g : Game) (wf : WF g) (items : Name → Item) (s : SimState) (g' : Game)
    (hok : gameStep g items s = .ok g') (n : Name) (a : Agent) (ha : g.agents.lookup n = some a)
    (hns : sharedNames a.comps = []) :
    ∃ a', g'.agents.lookup n = some a' ∧ a'.current = (updateComps s (items n) (fun _ => 0) 0 a.comps).1 := by
  obtain ⟨g'', hok', _, _, _, _, hf⟩ := gameStep_spec g wf items s
  rw [hok] at hok'; cases hok'
  refine ⟨_, hf n a ha, ?_⟩
  rw [updAgent_pushItem]
  simp only
  rw [updateComps_congr s (items n) (curOf g'.agents) (fun _ => 0) a.comps 0 (by rw [hns]; intro v hv; cases hv)]

/-- **The step, exceptions included** (what the driver runs). On a well-formed game: if every configured component accepts the
post-step state and its agent's new item (`compOK`: its leaf has a shape `calculate` copes with), the step succeeds and is
the step of `C10_step`; and whenever the step succeeds — for whatever reason — its result is the one `C10_step` describes. -/
theorem C10_stepE (g : Game) (wf : WF g) (items : Name → Item) (s : SimState) :
    ((∀ n a, g.agents.lookup n = some a → ∀ cw ∈ a.comps, compOK s (items n) cw.1 = true) →
      ∃ g', gameStepE g items s = .ok g' ∧ gameStep g items s = .ok g') ∧
    (∀ g', gameStepE g items s = .ok g' → gameStep g items s = .ok g') := by
  constructor
  · intro hok
    obtain ⟨g', hg', _⟩ := gameStep_spec g wf items s
    exact ⟨g', by rw [gameStepE_eq g items s hok]; exact hg', hg'⟩
  · intro g' h; exact gameStepE_sound h

/-- non-vacuity of the `compOK` hypothesis: a file entry with `health_status` is accepted (value −1 for CORRUPT = 2), one
without it makes `calculate` raise `KeyError`, a `None` where a folder dictionary should be raises `TypeError` -/
example :
    let good : SimState := .dict [(.str "network", .dict [(.str "nodes", .dict [(.str "srv", .dict [(.str "file_system",
      .dict [(.str "folders", .dict [(.str "database", .dict [(.str "files", .dict [(.str "database.db",
        .dict [(.str "health_status", .int 2)])])])])])])])])]
    let noKey : SimState := .dict [(.str "network", .dict [(.str "nodes", .dict [(.str "srv", .dict [(.str "file_system",
      .dict [(.str "folders", .dict [(.str "database", .dict [(.str "files", .dict [(.str "database.db", .dict [])])])])])])])])]
    let noneOnTheWay : SimState := .dict [(.str "network", .dict [(.str "nodes", .dict [(.str "srv", .dict [(.str "file_system",
      .dict [(.str "folders", .none)])])])])]
    let it : Item := { action := "do-nothing", request := .list [.str "do-nothing"], status := "success" }
    let c : Comp := .fileIntegrity "srv" "database" "database.db"
    compOK good it c = true ∧ (calcFileE good "srv" "database" "database.db").toOption = some (-1) ∧
    compOK noKey it c = false ∧ compOK noneOnTheWay it c = false ∧
    (match calcFileE noKey "srv" "database" "database.db" with | .error .keyError => true | _ => false) = true ∧
    (match calcFileE noneOnTheWay "srv" "database" "database.db" with | .error .typeError => true | _ => false) = true := by
  decide +kernel

/-- a component raises exactly when its evaluation function does: `compOK` is the decidable, memory-independent form of
"`calculate` returns" -/
theorem C10_compOK_iff (s : SimState) (it : Item) (cur : Name → Val) (c : Comp) :
    compOK s it c = true ↔ ∃ r, calcCompE s it cur c = .ok r := by
  rw [← calcCompE_isOk s it cur c]
  exact isOk_eq_true

/-- the projection of the state on the components' own key paths (what the rig sends for a large real `describe_state()`)
is indistinguishable from the whole state for every component whose path is in the set -/
theorem C10_projection_invisible (s : SimState) (paths : List (List String)) (it : Item) (cur : Name → Val) (c : Comp)
    (h : ∀ p, c.loc = some p → p ∈ paths) :
    calcCompE (PyVal.restrict s paths) it cur c = calcCompE s it cur c := by
  apply C10_component_noninterference
  · intro p hp; exact PyVal.access_restrict p s paths (h p hp)
  · exact ⟨fun _ => rfl, fun _ => rfl, fun _ => rfl⟩
  · intro a _; rfl

end Primaite.Reward
