/-
C08 — the ARP side of the forwarding model is the TRANSLATED source (Gen/ForwardArp.lean, regenerated on every run from
`HostARP` / `RouterARP` / `ARP`):

* one activation of the model's `arpMac` / `arpIfc` (any state, node, address, flags, fuel) IS the translated
  `_get_arp_cache_mac_address` / `_get_arp_cache_network_interface` of the node's class: cache hit, (router, interface look-up) the
  interface whose subnet holds the address, `None`, the exception of `find_best_route`, or "send_arp_request(t); look t up again with
  the flags the source passes" — for ALL arguments, so a changed flag, guard, target or order of the source breaks a theorem;
* `Node.addArp` writes exactly when the translated `add_arp_cache_entry` (override unset — no caller sets it) writes;
* `sendArpReq` asks exactly the address the translated `send_arp_request` asks and refuses the network / broadcast address;
* `C08_gen_arp_handlers` says, as Boolean functions, under which translated tests the ARP request / reply handlers of hosts and
  routers answer / learn; that `hostRecv` / `routerRecv` apply the same tests is read in the model, not proved.
-/
import PrimaiteModel.Model.Forward
import PrimaiteModel.Gen.ForwardArp
import PrimaiteModel.Props.C08
namespace Primaite.Forward
open Primaite.Route
open Primaite.Gen.ForwardArp (Best Step)
namespace G
export Primaite.Gen.ForwardArp (hostGetMac hostGetIfc routerGetMac routerGetIfc addEntry addEntryCallers sendReqTarget sendReqEmits
  hostAnswers routerAnswers routerLearns)
end G

/-- the model's successor of a cache miss, as an outcome of the translated method (`go t`: `t` is asked AND looked up) -/
def ArpNext.toStep : ArpNext → Step Ip
  | .stop => .stop
  | .raised => .raised
  | .go t re gw => .go t t re gw

/-- what the look-ups read off `find_best_route`'s answer -/
def bestOf : Route.Result → Best Ip
  | .raised => .raised
  | .noRoute => .none
  | .route _ r => .static r.nextHop
  | .default nh => .dflt nh

/-- Gen obligation: `HostARP._get_arp_cache_mac_address` and `_get_arp_cache_network_interface` (translated) after a cache miss are
the model's `hostArpNext`, for every gateway setting, address and flag pair; on a hit both answer from the cache. -/
theorem C08_gen_arp_host_lookup (nd : Node) (ip : Ip) (re gw : Bool) :
    G.hostGetMac ip false nd.gateway.isSome (nd.gateway.getD 0) re gw = (hostArpNext nd ip re gw).toStep ∧
    G.hostGetIfc ip false nd.gateway.isSome (nd.gateway.getD 0) re gw = (hostArpNext nd ip re gw).toStep ∧
    G.hostGetMac ip true nd.gateway.isSome (nd.gateway.getD 0) re gw = .hit ∧
    G.hostGetIfc ip true nd.gateway.isSome (nd.gateway.getD 0) re gw = .hit := by
  have miss : G.hostGetMac ip false nd.gateway.isSome (nd.gateway.getD 0) re gw = (hostArpNext nd ip re gw).toStep := by
    unfold Gen.ForwardArp.hostGetMac hostArpNext
    cases nd.gateway with
    | none => cases re <;> cases gw <;> rfl
    | some g => by_cases h : ip = g <;> cases re <;> cases gw <;> simp [ArpNext.toStep, h, eq_comm (a := g)]
  -- the two translated methods are the same program
  exact ⟨miss, miss, rfl, rfl⟩

theorem default_of_findBestRoute {t : Table} {ip nh : Ip} (h : findBestRoute t ip = .default nh) : t.default = some nh :=
  ((C08_default_iff t ip nh).1 h).2.2

/-- Gen obligation: `RouterARP._get_arp_cache_mac_address` (translated) after a cache miss is the model's `routerArpNext … true`,
`_get_arp_cache_network_interface` (translated) answers the subnet's interface first and is `routerArpNext … false` otherwise —
for every route table (the look-up reads `find_best_route`'s answer and the default route), interface list, address, flags. -/
theorem C08_gen_arp_router_lookup (nd : Node) (ip : Ip) (re gw : Bool) (gS : Bool) (gI : Ip) :
    G.routerGetMac ip false gS gI (firstIn nd.ifaces ip 0).isSome (bestOf (findBestRoute nd.routes ip))
        nd.routes.default.isSome (nd.routes.default.getD 0) re gw = (routerArpNext nd ip re gw true).toStep ∧
    G.routerGetIfc ip false gS gI false (bestOf (findBestRoute nd.routes ip))
        nd.routes.default.isSome (nd.routes.default.getD 0) re gw = (routerArpNext nd ip re gw false).toStep ∧
    (∀ b r dS dN, G.routerGetIfc ip false gS gI true b dS dN re gw = .subnet ∧ G.routerGetIfc ip true gS gI r b dS dN re gw = .hit ∧
      G.routerGetMac ip true gS gI r b dS dN re gw = .hit) := by
  -- past its subnet answer the interface look-up is the MAC look-up with the subnet test answered `false`: the case `s = false`
  have miss (s : Bool) : G.routerGetMac ip false gS gI (s && (firstIn nd.ifaces ip 0).isSome) (bestOf (findBestRoute nd.routes ip))
      nd.routes.default.isSome (nd.routes.default.getD 0) re gw = (routerArpNext nd ip re gw s).toStep := by
    unfold routerArpNext
    cases re
    · cases s && (firstIn nd.ifaces ip 0).isSome
      · cases hr : findBestRoute nd.routes ip
        case default nh =>
          rw [default_of_findBestRoute hr]
          rfl
        all_goals rfl
      · rfl
    · cases nd.routes.default <;> cases gw <;> rfl
  exact ⟨miss true, miss false, fun b r dS dN => ⟨rfl, rfl, rfl⟩⟩

/-- the translated MAC look-up of the node's class, on the node's state -/
def genMacStep (nd : Node) (ip : Ip) (re gw : Bool) : Step Ip :=
  match nd.kind with
  | .host => G.hostGetMac ip (nd.arpGet ip).isSome nd.gateway.isSome (nd.gateway.getD 0) re gw
  | .router => G.routerGetMac ip (nd.arpGet ip).isSome false 0 (firstIn nd.ifaces ip 0).isSome (bestOf (findBestRoute nd.routes ip))
      nd.routes.default.isSome (nd.routes.default.getD 0) re gw
  | .switch => if (nd.arpGet ip).isSome then .hit else .stop

/-- the translated interface look-up of the node's class, on the node's state -/
def genIfcStep (nd : Node) (ip : Ip) (re gw : Bool) : Step Ip :=
  match nd.kind with
  | .host => G.hostGetIfc ip (nd.arpGet ip).isSome nd.gateway.isSome (nd.gateway.getD 0) re gw
  | .router => G.routerGetIfc ip (nd.arpGet ip).isSome false 0 (firstIn nd.ifaces ip 0).isSome (bestOf (findBestRoute nd.routes ip))
      nd.routes.default.isSome (nd.routes.default.getD 0) re gw
  | .switch => if (nd.arpGet ip).isSome then .hit else .stop

theorem genMacStep_eq (nd : Node) (ip : Ip) (re gw : Bool) :
    genMacStep nd ip re gw = if (nd.arpGet ip).isSome then .hit else (arpNext nd ip re gw true).toStep := by
  unfold genMacStep arpNext
  cases (nd.arpGet ip).isSome
  · cases nd.kind
    · exact (C08_gen_arp_host_lookup nd ip re gw).1
    · rfl
    · exact (C08_gen_arp_router_lookup nd ip re gw false 0).1
  · cases nd.kind <;> rfl

theorem genIfcStep_eq (nd : Node) (ip : Ip) (re gw : Bool) :
    genIfcStep nd ip re gw =
      if (nd.arpGet ip).isSome then .hit
      else if nd.kind == .router && (firstIn nd.ifaces ip 0).isSome then .subnet
      else (arpNext nd ip re gw false).toStep := by
  unfold genIfcStep arpNext
  cases (nd.arpGet ip).isSome
  · cases nd.kind
    · exact (C08_gen_arp_host_lookup nd ip re gw).2.1
    · rfl
    · cases (firstIn nd.ifaces ip 0).isSome
      · exact (C08_gen_arp_router_lookup nd ip re gw false 0).2.1
      · rfl
  · cases nd.kind <;> rfl

/-- **`arpMac` runs the translated method**: one activation, in any state and at any fuel, answers from the cache on `hit`, `None` on
`stop`, records the exception on `raised`, and on `go asked again re' gw'` runs `send_arp_request asked` and then the look-up of
`again` with exactly the flags the source passes. -/
theorem C08_gen_arp_mac_runs_translated (fuel : Nat) (st : St) (n : Nat) (nd : Node) (ip : Ip) (re gw : Bool)
    (hn : st.node? n = some nd) :
    arpMac (fuel + 1) st n ip re gw =
      match genMacStep nd ip re gw with
      | .hit => (st, (nd.arpGet ip).map (·.mac))
      | .subnet => (st, none)
      | .stop => (st, none)
      | .raised => (st.emit (.raised n), none)
      | .go asked again re' gw' => arpMac fuel (sendArpReq fuel st n asked) n again re' gw' := by
  rw [arpMac, genMacStep_eq]
  simp only [hn]
  cases nd.arpGet ip with
  | some e => rfl
  | none => cases arpNext nd ip re gw true <;> rfl

/-- **`arpIfc` runs the translated method** (as above; `subnet`: the first interface whose network holds the address). -/
theorem C08_gen_arp_ifc_runs_translated (fuel : Nat) (st : St) (n : Nat) (nd : Node) (ip : Ip) (re gw : Bool)
    (hn : st.node? n = some nd) :
    arpIfc (fuel + 1) st n ip re gw =
      match genIfcStep nd ip re gw with
      | .hit => (st, (nd.arpGet ip).map (·.ifc))
      | .subnet => (st, firstIn nd.ifaces ip 0)
      | .stop => (st, none)
      | .raised => (st.emit (.raised n), none)
      | .go asked again re' gw' => arpIfc fuel (sendArpReq fuel st n asked) n again re' gw' := by
  rw [arpIfc, genIfcStep_eq]
  simp only [hn]
  cases nd.arpGet ip with
  | some e => rfl
  | none => cases arpNext nd ip re gw false <;> cases nd.kind == .router <;> cases firstIn nd.ifaces ip 0 <;> rfl

/-- Gen obligation: `Node.addArp` appends the entry exactly when the translated `add_arp_cache_entry` (with `override` unset, as in
every one of its callers) executes the write, and leaves the node alone otherwise — in particular an existing entry is never
replaced and an own address never cached. -/
theorem C08_gen_arp_add_entry (nd : Node) (ip : Ip) (mac : Mac) (ifc : Nat) :
    nd.addArp ip mac ifc =
      (if G.addEntry (ifaceWithIp nd.ifaces ip).isSome false (nd.arpGet ip).isSome
        then { nd with arp := nd.arp ++ [{ ip := ip, mac := mac, ifc := ifc }] } else nd) ∧ 4 ≤ G.addEntryCallers := by
  refine ⟨?_, by decide⟩
  unfold Node.addArp
  cases (ifaceWithIp nd.ifaces ip).isSome <;> cases (nd.arpGet ip).isSome <;> rfl

theorem sendReqTarget_eq (cached inAny : Bool) (gw : Option Ip) (t : Ip) :
    G.sendReqTarget cached inAny gw.isSome t (gw.getD 0) = if cached then none else if inAny then some t else gw := by
  cases cached <;> cases inAny <;> cases gw <;> rfl

theorem sendReqEmits_ite {α : Type} (isNet isBcast : Bool) (x y : α) :
    (if G.sendReqEmits isNet isBcast then x else y) = if isNet || isBcast then y else x := by
  cases isNet <;> cases isBcast <;> rfl

/-- **`sendArpReq` runs the translated `send_arp_request`**: nothing for a cached address; otherwise the address itself when ANY
interface's network (enabled or not) holds it, else the default gateway, else nothing; then the outbound interface is resolved for
THAT address and the request goes out unless it names the interface's network or broadcast address. -/
theorem C08_gen_arp_send_request (fuel : Nat) (st : St) (n : Nat) (nd : Node) (target : Ip) (hn : st.node? n = some nd) :
    sendArpReq (fuel + 1) st n target =
      match G.sendReqTarget (nd.arpGet target).isSome (firstIn nd.ifaces target 0).isSome nd.gateway.isSome target (nd.gateway.getD 0) with
      | none => st
      | some t =>
        let r := resolveOut fuel st n t
        match r.2 with
        | none => r.1
        | some o =>
          match r.1.iface? n o with
          | none => r.1
          | some oif =>
            if G.sendReqEmits (t == oif.netAddr) (t == oif.bcastAddr) then sendArpPkt fuel r.1 n (.arpReq oif.ip oif.mac t) t else r.1 := by
  rw [sendArpReq]
  simp only [hn, sendReqTarget_eq, sendReqEmits_ite]
  cases (nd.arpGet target).isSome <;> rfl

/-- Gen obligation: a host answers an ARP request iff it names the arrival interface's address; a router iff the arrival interface
is enabled and carries the address; a router learns from a reply iff the reply is addressed to the arrival interface.  The statement
is about the translated tests only; the model's are `tIp != ifc.ip` (`hostRecv`), `ifc.enabled && ifc.ip == tIp` and `tIp == ifc.ip`
(`routerRecv`), compared by reading. -/
theorem C08_gen_arp_handlers :
    (∀ a b, G.hostAnswers a b = a) ∧ (∀ a b, G.routerAnswers a b = (b && a)) ∧ (∀ a b, G.routerLearns a b = a) := by decide

/-! ### non-vacuity: the translated look-ups on a concrete host and router -/

example : G.hostGetMac (5 : Ip) false true 9 false false = .go 5 5 true false := by decide
example : G.hostGetMac (5 : Ip) false true 9 true false = .go 9 9 true true := by decide
example : G.hostGetMac (9 : Ip) false true 9 false false = .go 9 9 true true := by decide
example : G.hostGetMac (5 : Ip) false true 9 true true = .stop := by decide
example : G.routerGetMac (5 : Ip) false false 0 false (.static 7) true 8 false false = .go 7 7 true false := by decide
example : G.routerGetMac (5 : Ip) false false 0 false (.dflt 8) true 8 false false = .go 8 8 true true := by decide
example : G.routerGetIfc (5 : Ip) false false 0 true (.static 7) true 8 false false = .subnet := by decide
example : G.sendReqTarget false false true (5 : Ip) 9 = some 9 := by decide
example : G.sendReqTarget false true true (5 : Ip) 9 = some 5 := by decide
example : G.addEntry false false true = false := by decide

end Primaite.Forward
