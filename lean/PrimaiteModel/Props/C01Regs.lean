/-
C01 (totality) — `SoftwareManager.uninstall`, translated statement by statement from the source
(Gen/EpisodeRegs.lean), NEVER RAISES on any registry state reachable by installs / uninstalls / requests / ticks / power
events, and has exactly the effect of C13's `Registries.Node.uninstall`; `SoftwareManager.install`, translated likewise, can raise
only through its nested `uninstall`, so it never raises there either.  The interpreter is not vacuous: a "tidied" O(1) body (direct
`pop` by (port, protocol) and by class) raises KeyError on a reachable node.
-/
import PrimaiteModel.Model.EpisodeRegs
import PrimaiteModel.Lemmas.RegistriesRep
import PrimaiteModel.Gen.EpisodeRegs
namespace Primaite.C01Regs
open Primaite.Lifecycle Primaite.Registries Primaite.EpisodeRegs Primaite.C13

/-- the statements with a registry effect, as read in the source -/
def coreAsRead : List Stmt := [
  .guardInstalled, .lookupUninstall, .popSoftware,
  .kindChain [.popByUuid .applications, .removeRoute .app .objName] [.popByUuid .services, .removeRoute .svc .objName],
  .act .scanPopPort, .act .scanPopClass, .ret]

/-- **Gen obligation**: the body translated from the source on this run. -/
theorem C01_gen_uninstall_body : strip Gen.EpisodeRegs.uninstallBody = coreAsRead := by decide

theorem execActs_strip (name : String) (u : Nat) (acts : List Act) (n : Node) :
    execActs name u (acts.filter (· != .noop)) n = execActs name u acts n := by
  induction acts generalizing n with
  | nil => rfl
  | cons a rest ih =>
    by_cases ha : a = .noop
    · subst ha
      simp [execActs, execAct, ih]
    · have : (a != Act.noop) = true := by simp [ha]
      simp only [List.filter_cons, this, if_true, execActs]
      cases execAct n name u a with
      | none => rfl
      | some n' => exact ih n'

theorem exec_strip (name : String) (body : List Stmt) (n : Node) (cur : Option Nat) :
    exec name (strip body) n cur = exec name body n cur := by
  fun_induction exec name body n cur <;> simp_all [strip, exec, execActs_strip]

/-- **Refinement.**  On every node whose registries agree (`Rep`, the invariant C13 proves for every reachable node) the
translated statements compute exactly `Node.uninstall` — in particular they do not raise. -/
theorem uninstall_refines_core (n : Node) (es : List Entry) (h : Rep n es) (name : String) :
    uninstallBy coreAsRead n name = n.uninstall name := by
  cases hd : dget name n.software with
  | none => simp [uninstallBy, exec, coreAsRead, Node.uninstall, dhas, hd]
  | some u =>
    have hd' := hd
    rw [h.software] at hd'
    obtain ⟨e, he, hen, heu⟩ := dget_kv_some es name u hd'
    cases hk : e.isApp with
    | true =>
      obtain ⟨hs, i, hi, hin⟩ := h.appEntry e he hk
      rw [heu] at hs hi
      rw [hen] at hin
      obtain ⟨hmem, hnd, hr⟩ := rep_of_kind h (·.isApp) he hk
      rw [heu, ← h.applications] at hmem
      rw [← h.applications] at hnd
      rw [hen, ← h.appRoutes] at hr
      have hs' : List.find? (fun i => i.m.uid == u) n.svcs = none := hs
      have hi' : List.find? (fun i => i.m.uid == u) n.apps = some i := hi
      simp only [uninstallBy, exec, coreAsRead, dhas, hd, Option.isSome_some, if_true, isApp, isSvc, Node.findSvc, Node.findApp,
        execActs, execAct, nameRef, Node.nameOf, Node.metaOf, Node.uninstall, hs', hi', Option.isNone_none, Bool.and_self,
        List.contains_iff_mem, hmem, Option.map_some, hin, hr, hnd.erase_eq_filter, reduceCtorEq, if_false]
    | false =>
      obtain ⟨i, hi, hin⟩ := h.svcEntry e he hk
      rw [heu] at hi
      rw [hen] at hin
      obtain ⟨hmem, hnd, hr⟩ := rep_of_kind h (fun e => !e.isApp) he (by simp [hk])
      rw [heu, ← h.services] at hmem
      rw [← h.services] at hnd
      rw [hen, ← h.svcRoutes] at hr
      have hi' : List.find? (fun i => i.m.uid == u) n.svcs = some i := hi
      simp only [uninstallBy, exec, coreAsRead, dhas, hd, Option.isSome_some, if_true, isApp, isSvc, Node.findSvc, Node.findApp,
        execActs, execAct, nameRef, Node.nameOf, Node.metaOf, Node.uninstall, hi', Option.isNone_some, Bool.false_and,
        List.contains_iff_mem, hmem, Option.map_some, hin, hr, hnd.erase_eq_filter, reduceCtorEq, if_false]

/-- the same for the body translated from the source on this run -/
theorem C01_uninstall_refines (n : Node) (es : List Entry) (h : Rep n es) (name : String) :
    uninstallBy Gen.EpisodeRegs.uninstallBody n name = n.uninstall name := by
  unfold uninstallBy
  rw [← exec_strip, C01_gen_uninstall_body]
  exact uninstall_refines_core n es h name

/-- **Totality of `SoftwareManager.uninstall`.**  From an empty node, after ANY sequence of operations of the registries model
(installs and uninstalls through the API and through requests — of anything, installed or not, with or without a configuration —,
requests, API calls, ticks, power events, payloads), uninstalling ANY name (installed or not) returns: none of the method's
`d[k]`, `d.pop(k)`, `remove_request(…)` raises. -/
theorem C01_uninstall_total (p : Power) (up down : Int) (ops : List Op) (name : String) :
    (uninstallBy Gen.EpisodeRegs.uninstallBody (Node.run { power := p, upDur := up, downDur := down } ops) name).isSome = true := by
  obtain ⟨es, h⟩ := rep_run ops _ [] (C13_rep_init p up down)
  obtain ⟨n', hu, _⟩ := rep_uninstall _ es h name
  rw [C01_uninstall_refines _ es h name, hu]; rfl

/-- … and it leaves the registries in agreement again (so the NEXT uninstall / install is total as well) -/
theorem C01_uninstall_keeps_agreement (n : Node) (es : List Entry) (h : Rep n es) (name : String) :
    ∃ n', uninstallBy Gen.EpisodeRegs.uninstallBody n name = some n' ∧ Rep n' (es.filter (fun e => e.name != name)) := by
  obtain ⟨n', hu, hr⟩ := rep_uninstall n es h name
  exact ⟨n', by rw [C01_uninstall_refines n es h name, hu], hr⟩

/-- the "tidied" O(1) body (seeded change C01-f): direct pops by `(software.port, software.protocol)` and by class -/
def tidied : List Stmt := [
  .guardInstalled, .lookupUninstall, .popSoftware,
  .kindChain [.popByUuid .applications, .removeRoute .app .objName] [.popByUuid .services, .removeRoute .svc .objName],
  .act .popPortKey, .act .popClassKey, .ret]

def nmapCls : Cls := { cid := "NMAP", name := "nmap", port := 0, proto := 0 }
def ransomCls : Cls := { cid := "RansomwareScript", name := "ransomware-script", port := 0, proto := 0, genericExecute := false }
/-- a host with nmap and ransomware-script: two applications sharing the key (NONE, none) -/
def twoSharing : Node := ({} : Node).run [.installApp nmapCls false [] .good 2, .installApp ransomCls false [] .good 2]

/-- With the tidied body: removing the first of two applications that share a (port, protocol) key succeeds (and takes the
OTHER application's port entry with it); removing the second one raises KeyError — in either order.  With the body as it is
in the source both removals return (instance of `C01_uninstall_total`). -/
theorem C01_tidied_uninstall_raises :
    (((uninstallBy tidied twoSharing "nmap").bind (fun n => uninstallBy tidied n "ransomware-script")).isSome = false) ∧
    (((uninstallBy tidied twoSharing "ransomware-script").bind (fun n => uninstallBy tidied n "nmap")).isSome = false) ∧
    (uninstallBy tidied twoSharing "nmap").isSome = true ∧ (uninstallBy tidied twoSharing "ransomware-script").isSome = true ∧
    (((uninstallBy Gen.EpisodeRegs.uninstallBody twoSharing "nmap").bind
        (fun n => uninstallBy Gen.EpisodeRegs.uninstallBody n "ransomware-script")).isSome = true) := by decide +kernel

/-- whatever the statements are, `execInstall` can fail only through the nested `uninstall` -/
theorem execInstall_total_of_uninstall (ubody : List Stmt) (c : Cls) (cfg : Bool) (body : List IStmt)
    (P : Node → Prop) (hP : ∀ n, P n → ∃ n', uninstallBy ubody n c.name = some n' ∧ P n') (n : Node) (hn : P n) :
    (execInstall ubody c cfg body n).isSome = true := by
  induction body generalizing n with
  | nil => rfl
  | cons s rest ih =>
    cases s with
    | guardRefused =>
      simp only [execInstall]
      split
      · rfl
      · exact ih n hn
    | construct => exact ih n hn
    | evictIfInstalled =>
      simp only [execInstall]
      split
      · obtain ⟨n', hu, hn'⟩ := hP n hn
        rw [hu]; exact ih n' hn'
      · exact ih n hn
    | write => exact ih n hn
    | ret => rfl

/-- **Totality of `SoftwareManager.install`** (translated on this run: `Gen.EpisodeRegs.installBody`, with the translated
`uninstall` as the nested call): on every node reachable in the registries model by any operation sequence, installing ANY class,
with or without a configuration, returns — the only statement of the method that can raise is the eviction of the installed instance of
that name, and `uninstall` is total there (`C01_uninstall_keeps_agreement`).  Assumes the constructor and the lifecycle calls
`start()` / `install()` return (C13's subject). -/
theorem C01_install_total (p : Power) (up down : Int) (ops : List Op) (c : Cls) (cfg : Bool) :
    (execInstall Gen.EpisodeRegs.uninstallBody c cfg Gen.EpisodeRegs.installBody
      (Node.run { power := p, upDur := up, downDur := down } ops)).isSome = true := by
  obtain ⟨es, h⟩ := rep_run ops _ [] (C13_rep_init p up down)
  refine execInstall_total_of_uninstall _ c cfg _ (fun n => ∃ es, Rep n es) ?_ _ ⟨es, h⟩
  intro n ⟨es', h'⟩
  obtain ⟨n', hu, hr⟩ := C01_uninstall_keeps_agreement n es' h' c.name
  exact ⟨n', hu, _, hr⟩

/-- **Gen obligation**: the shape of `install` that DESIGN 9.6.C01.6 describes — refusal guard, construction, eviction, then only statements that
cannot raise (the eviction comes BEFORE every registry write). -/
theorem C01_gen_install_body :
    Gen.EpisodeRegs.installBody.take 3 = [.guardRefused, .construct, .evictIfInstalled] ∧
    (Gen.EpisodeRegs.installBody.drop 3).all (fun s => s == .write || s == .ret) = true := by decide

/-- non-vacuity: with the tidied `uninstall` a CONFIGURED re-install of ransomware-script after nmap was removed raises
(the eviction hits the missing port entry) -/
example :
    ((uninstallBy tidied twoSharing "nmap").bind
      (fun n => execInstall tidied ransomCls true [.guardRefused, .construct, .evictIfInstalled, .write] n)).isSome = false := by decide +kernel

end Primaite.C01Regs
