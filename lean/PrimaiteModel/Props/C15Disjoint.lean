/-
Property C15: a file sits in ONE folder.  Cross-folder disjointness of file uuids (`XDisj`, Lemmas/
FileSystemDisjoint.lean) is preserved by every request, tick, API call and node-level event, so together with `Inv` it holds in
every reachable state — and with it the side condition of `move_file` (`MoveFresh`, the one hypothesis `C15_api_inv_step_partial`
and `C15_any_inv_run` carry) holds by itself.  The invariant theorems below are therefore UNCONDITIONAL: requests, ticks, API calls
(`move_file` included) and power changes in any interleaving.
-/
import PrimaiteModel.Lemmas.FileSystemDisjoint
import PrimaiteModel.Props.C15Api
import PrimaiteModel.Props.C15Node
namespace Primaite.FileSystem

/-- The structural invariant together with "no file uuid in two folders". -/
def Inv2 (s : State) : Prop := Inv s ∧ XDisj s

theorem Change.inv2 {s s' : State} (c : Change s s') (h : Inv2 s) : Inv2 s' := ⟨c.inv h.1, c.xdisj h.1 h.2⟩

theorem C15_inv2_init (d : Option Int) : Inv2 (init d) := ⟨C15_inv_init d, xdisj_init d⟩

theorem C15_ok_of_inv2 {s : State} (h : Inv2 s) (op : AnyOp) : AnyOp.ok s op := by
  cases op with
  | req op => trivial
  | api op =>
    cases op with
    | moveFile F x G => exact moveFresh_of_xdisj h.1 h.2 F x G
    | _ => trivial

theorem C15_inv2_step {s : State} (h : Inv2 s) (op : Op) : Inv2 (step s op).1 :=
  ⟨C15_inv_step h.1 op, xdisj_step h.1 h.2 op⟩

/-- **Every API operation keeps `Inv2` — `move_file` included, with no side condition.** -/
theorem C15_inv2_api_step {s : State} (h : Inv2 s) (op : ApiOp) : Inv2 (stepApi s op).1 :=
  ⟨C15_api_inv_step_partial h.1 op (C15_ok_of_inv2 h (.api op)), xdisj_stepApi h.1 h.2 op⟩

theorem C15_inv2_any_step {s : State} (h : Inv2 s) (op : AnyOp) : Inv2 (stepAny s op).1 := by
  cases op with
  | req op => exact C15_inv2_step h op
  | api op => exact C15_inv2_api_step h op

theorem C15_inv2_any_run {s : State} (h : Inv2 s) (ops : List AnyOp) : Inv2 (runAny s ops).1 := by
  induction ops generalizing s with
  | nil => exact h
  | cons op ops ih => exact ih (C15_inv2_any_step h op)

/-- **`Inv` (and one-folder-per-file) in every state reachable from a fresh file system by requests, ticks and API calls in
any interleaving — unconditionally** (the full-strength form of `C15_any_inv_reachable`). -/
theorem C15_any_inv_reachable_full (d : Option Int) (ops : List AnyOp) :
    Inv (runAny (init d) ops).1 ∧ XDisj (runAny (init d) ops).1 :=
  C15_inv2_any_run (C15_inv2_init d) ops

/-- … hence the side conditions `runOk` demanded hold along every run from a state with `Inv2`, a fresh file system among them. -/
theorem C15_runOk_of_reachable {s : State} (h : Inv2 s) (ops : List AnyOp) : runOk s ops := by
  induction ops generalizing s with
  | nil => trivial
  | cons op ops ih => exact ⟨C15_ok_of_inv2 h op, ih (C15_inv2_any_step h op)⟩

/-- **A file sits in one folder**: in every reachable state two different folders (live or deleted) share no file uuid
(live or deleted). The rig's clause `file-in-two-folders`, as a theorem. -/
theorem C15_file_in_one_folder (d : Option Int) (ops : List AnyOp) {g1 g2 : Folder} {f1 f2 : File}
    (hg1 : g1 ∈ (runAny (init d) ops).1.folders ∨ g1 ∈ (runAny (init d) ops).1.deletedFolders)
    (hg2 : g2 ∈ (runAny (init d) ops).1.folders ∨ g2 ∈ (runAny (init d) ops).1.deletedFolders)
    (hf1 : f1 ∈ g1.files ∨ f1 ∈ g1.deletedFiles) (hf2 : f2 ∈ g2.files ∨ f2 ∈ g2.deletedFiles) (he : f1.id = f2.id) :
    g1.id = g2.id :=
  Classical.byContradiction fun hne => (C15_any_inv_reachable_full d ops).2 g1 g2 hg1 hg2 hne f1 f2 hf1 hf2 he

/-- Non-vacuity: a run with a real move between folders, a move within a folder and a copy; two folders hold files and share
no uuid. -/
example :
    let s := (runAny (init none) [.req (.createFile "fa" "a" false), .req (.createFile "fb" "b" false), .api (.moveFile "fa" "a" "fb"),
      .api (.moveFile "fb" "a" "fb"), .api (.copyFile "fb" "a" "fa"), .req (.deleteFile "fb" "b")]).1
    (s.folders.map fun g => (g.name, g.files.map File.id, g.deletedFiles.map File.id)) =
      [("root", [], []), ("fa", [5], []), ("fb", [2], [4])] := by
  decide

/-- Every node-level event keeps `Inv2`, in every power state, with no side condition. -/
theorem C15_node_inv2_step {n : NState} (h : Inv2 n.x.s) (op : NOp) : Inv2 (nstep n op).1.x.s := by
  rcases nstep_structure n op with e | ⟨o, e⟩ | ⟨a, _, e⟩
  · rw [e]; exact h
  · rw [e]; exact C15_inv2_step h o
  · rw [e]; exact C15_inv2_api_step h a

theorem C15_node_inv2_run {n : NState} (h : Inv2 n.x.s) (ops : List NOp) : Inv2 (nrun n ops).1.x.s := by
  induction ops generalizing n with
  | nil => exact h
  | cons op ops ih => exact ih (C15_node_inv2_step h op)

/-- **`Inv` in every state a node reaches from a fresh file system — whatever its power history, whatever requests, agent
actions, API calls, node scans and ticks it sees — unconditionally** (the full-strength form of `C15_node_inv_reachable`). -/
theorem C15_node_inv_reachable_full (d sc : Option Int) (on : Bool) (dur : Nat) (ops : List NOp) :
    Inv (nrun (ninit d sc on dur) ops).1.x.s ∧ XDisj (nrun (ninit d sc on dur) ops).1.x.s :=
  C15_node_inv2_run (C15_inv2_init d) ops

end Primaite.FileSystem
