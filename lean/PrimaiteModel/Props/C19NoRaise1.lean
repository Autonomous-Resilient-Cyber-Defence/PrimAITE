/-
C19 — a constructed TAP001 never raises (companion of Props/C19NoRaise.lean / C19Wf.lean for TAP003).
-/
import PrimaiteModel.Props.C19Run
namespace Primaite.Agents
namespace Tap1

/-- the shape of `response.data` of a scan -/
inductive ScanData
  | hosts (l : List Val)
  | ports (m : List (Val × List (String × List Nat)))
  | malformed

/-- what `_scan_action_response_handler` reads out of `response.data` (target = the selected target ip); `none` = Python
raises (AttributeError/TypeError on a non-dict, or on a non-dict entry) -/
def readScan (target : Val) (ok : Bool) : ScanData → Option Resp
  | .hosts l => some { ok := ok, hostsEmpty := l.isEmpty, containsTarget := l.contains target, hasPg := false }
  | .ports m =>
    some { ok := ok, hostsEmpty := m.isEmpty, containsTarget := (m.map (·.1)).contains target,
           hasPg := match m.lookup target with
                    | some e => (match e.lookup "tcp" with | some ps => ps.contains 5432 | none => false)
                    | none => false }
  | .malformed => none

/-- a well-shaped scan answer -/
def ScanSimOk (target : Val) (r : Resp) : Prop := ∃ d, d ≠ ScanData.malformed ∧ readScan target r.ok d = some r

/-- every scan draw is in the range of `randint(0, len(network_addresses)-1)` and every successful response is
well-shaped -/
def RunScanSimOk (c : Cfg) (ins : List In) : Prop :=
  ∀ i ∈ ins, i.dScan < c.nAddr ∧ (i.resp.ok = true → ∃ tgt, ScanSimOk tgt i.resp)

/-- intra-`get_action` invariant: no error, `Inv`, a scan in progress has a remembered timestamp, all remembered
timestamps are in `[0, b)`. -/
def G (s : St) (b : Int) : Prop :=
  s.err = false ∧ Inv s ∧ (s.cur = .propagate → s.prog = .inProgress → s.lastScanTs ≠ []) ∧
  (∀ x ∈ s.lastScanTs, 0 ≤ x ∧ x < b)

theorem G_mono (s : St) (b b' : Int) (h : G s b) (hb : b ≤ b') : G s b' := by
  refine ⟨h.1, h.2.1, h.2.2.1, ?_⟩
  intro x hx; have := h.2.2.2 x hx; omega

theorem G_nxt {s : St} {b : Int} (h : G s b) {x : Stage} (hc : s.cur = x) (hx : x ≠ .failed) : s.nxt = x.succ := by
  rcases h.2.1 with e | e
  · exact absurd (hc.symm.trans e) hx
  · rw [e, hc]

theorem G_progress (s : St) (b : Int) (h : G s b) (x : Stage) (hx : x.chain = true) (hn : s.nxt = x.succ)
    (hc : s.cur = x ∨ (s.cur = .failed ∧ x ≠ .c2)) : G (progress s) b := by
  rw [progress_eq s x hx hn hc]
  exact ⟨h.1, Or.inr rfl, (fun _ e => by cases e), h.2.2.2⟩

theorem G_setNext (c : Cfg) (s : St) (b : Int) (base d : Int) (hv : 0 ≤ c.variance) (h : G s b) :
    G (setNext c s base d) b := by
  simpa [setNext, randintOk, hv, G, Inv] using h

theorem G_outcomeHandler (c : Cfg) (s : St) (b : Int) (h : G s b) : G (outcomeHandler c s) b := by
  unfold outcomeHandler
  split
  · split
    · exact h
    · split
      · exact ⟨h.1, Or.inr rfl, (fun e => by cases e), h.2.2.2⟩
      · exact h
  · exact h

theorem G_failed (s : St) (b : Int) (h : G s b) : G { s with cur := .failed } b :=
  ⟨h.1, Or.inl rfl, (fun e => by cases e), h.2.2.2⟩

theorem G_returnHandler (c : Cfg) (x : Hist) (s : St) (b : Int) (h : G s b) : G (returnHandler c x s) b := by
  unfold returnHandler
  split
  · exact G_failed s b h
  · exact h

/-- Outside PROPAGATE `G` does not read the stage progress, and never the other fields the stage methods write. -/
theorem G_outside (s s' : St) (b : Int) (h : G s b) (hc : s.cur ≠ .propagate) (e1 : s'.err = s.err := by rfl)
    (e2 : s'.cur = s.cur := by rfl) (e3 : s'.nxt = s.nxt := by rfl) (e4 : s'.lastScanTs = s.lastScanTs := by rfl) :
    G s' b := by
  unfold G Inv
  rw [e1, e2, e3, e4]
  exact ⟨h.1, h.2.1, fun e => absurd e hc, h.2.2.2⟩

theorem G_failStage (c : Cfg) (s : St) (b : Int) (h : G s b) : G (failStage c s) b := by
  unfold failStage
  split
  · exact h
  · exact G_failed s b h

/-- `progressIfFinished` after a soft step `m` of the method of stage `x` (which is not COMMAND_AND_CONTROL). -/
theorem G_progressIfFinished (s m : St) (b : Int) (x : Stage) (hx : x.chain = true) (hne : x ≠ .c2) (hc : s.cur = x)
    (hn : s.nxt = x.succ) (hs : SoftAt s m) (g : G m b) :
    G (progressIfFinished m) b := by
  unfold progressIfFinished
  split
  · exact G_progress m b g x hx (hs.2.1.trans hn) (hs.1.elim (fun e => Or.inl (e.trans hc)) (fun e => Or.inr ⟨e, hne⟩))
  · exact g

theorem G_payloadContinue (s : St) (b : Int) (h : G s b) (hc : s.cur ≠ .propagate) : G (payloadContinue s) b := by
  unfold payloadContinue payloadHandler
  repeat' split
  all_goals exact G_outside s _ b h hc

theorem G_payloadEnter (c : Cfg) (i : In) (s : St) (b : Int) (h : G s b) (hc : s.cur ≠ .propagate) :
    G (payloadEnter c i s) b := by
  unfold payloadEnter
  split
  · split
    · exact G_outside s _ b h hc
    · exact G_failStage c _ b (G_outside s _ b h hc)
  · exact h

theorem G_payload (c : Cfg) (i : In) (s : St) (b : Int) (h : G s b) : G (payload c i s) b := by
  by_cases hc : s.cur = .payload
  · unfold payload
    rw [if_neg (fun e => e hc)]
    have s1 := soft_payloadContinue s
    refine G_progressIfFinished s _ b .payload rfl (by decide) hc (G_nxt h hc (by decide))
      (s1.trans (soft_payloadEnter c i _)) ?_
    exact G_payloadEnter c i _ b (G_payloadContinue s b h (by rw [hc]; decide))
      (by rcases s1.1 with e | e <;> rw [e] <;> simp [hc])
  · rw [payload_skip c i s hc]; exact h

theorem G_c2c (c : Cfg) (i : In) (s : St) (b : Int) (h : G s b) : G (c2c c i s) b := by
  by_cases hc : s.cur = .c2
  · have hn := G_nxt h hc (by decide)
    have hnp : s.cur ≠ .propagate := by rw [hc]; decide
    unfold c2c
    rw [if_neg (fun e => e hc)]
    split
    · split
      · exact G_outside s _ b h hnp
      · exact G_failStage c _ b (G_outside s _ b h hnp)
    · split
      · split
        · exact G_outside s _ b h hnp
        · exact G_progress _ b (G_outside s _ b h hnp) .c2 rfl hn (Or.inl hc)
      · exact h
  · rw [c2c_skip c i s hc]; exact h

theorem G_activate (s : St) (b : Int) (h : G s b) : G (activate s) b := by
  by_cases hc : s.cur = .activate
  · unfold activate
    rw [if_neg (fun e => e hc)]
    exact G_progress _ b (G_outside s _ b h (by rw [hc]; decide)) .activate rfl (G_nxt h hc (by decide))
      (Or.inl hc)
  · rw [activate_skip s hc]; exact h

theorem G_install (s : St) (b : Int) (h : G s b) : G (install s) b := by
  by_cases hc : s.cur = .install
  · unfold install
    rw [if_neg (fun e => e hc)]
    exact G_progress _ b (G_outside s _ b h (by rw [hc]; decide)) .install rfl (G_nxt h hc (by decide))
      (Or.inl hc)
  · rw [install_skip s hc]; exact h

theorem G_downloadAct (s : St) (b : Int) (h : G s b) (hc : s.cur ≠ .propagate) : G (downloadAct s) b := by
  unfold downloadAct
  repeat' split
  all_goals exact G_outside s _ b h hc

theorem G_download (s : St) (b : Int) (h : G s b) : G (download s) b := by
  by_cases hc : s.cur = .download
  · unfold download
    rw [if_neg (fun e => e hc)]
    exact G_progressIfFinished s _ b .download rfl (by decide) hc (G_nxt h hc (by decide)) (soft_downloadAct s)
      (G_downloadAct s b h (by rw [hc]; decide))
  · rw [download_skip s hc]; exact h

theorem G_tapStart (s : St) (b : Int) (h : G s b) : G (tapStart s) b := by
  by_cases hc : s.cur = .notStarted
  · rw [tapStart_eq s hc]
    exact ⟨h.1, Or.inr rfl, (fun e => by cases e), h.2.2.2⟩
  · rw [tapStart_skip s hc]; exact h

/-- With the `repeat_scan` draw in range, the parts of `_scan_handler` touch neither the error flag nor the remembered scan
timestamps. -/
theorem ScanEff.err_lastScanTs {c : Cfg} {i : In} {s s' : St} (e : ScanEff c i s s') (hd : i.dScan < c.nAddr) :
    s'.err = s.err ∧ s'.lastScanTs = s.lastScanTs := by
  induction e with
  | refl => exact ⟨rfl, rfl⟩
  | raise hn => rw [List.getElem?_eq_getElem hd] at hn; cases hn
  | _ => assumption

/-- `_scan_handler` reads `history[last_scan_timestep.pop()]`; with a remembered timestamp that indexes the history: no
error, and the timestamp popped is replaced by the current one. -/
theorem scanHandler_err_lastScanTs (c : Cfg) (i : In) (s : St) (b : Int) (h : G s b) (hb : b ≤ s.hist.length) (hd : i.dScan < c.nAddr)
    (hne : s.lastScanTs ≠ []) :
    (scanHandler c i s).1.err = false ∧ (scanHandler c i s).1.lastScanTs = s.lastScanTs.dropLast ++ [s.curT] := by
  unfold scanHandler
  cases hl : s.lastScanTs.getLast? with
  | none => exact absurd (List.getLast?_eq_none_iff.1 hl) hne
  | some ts =>
    have hts := h.2.2.2 ts (List.mem_of_getLast? hl)
    obtain ⟨prev, hprev⟩ := pyIndex_some s.hist ts hts.1 (by omega)
    simp only [hprev]
    have e := (eff_scanBody c i prev { s with lastScanTs := s.lastScanTs.dropLast ++ [s.curT] }).err_lastScanTs hd
    exact ⟨e.1.trans h.1, e.2⟩

/-- `G` after a step inside PROPAGATE that remembered the current timestep (on top of some of the old ones). -/
theorem G_pushed (s m : St) (b b' : Int) (h : G s b) (hbb : b ≤ b') (hc0 : 0 ≤ s.curT) (hc1 : s.curT < b')
    (he : m.err = false) (hs : SoftAt s m) (l : List Int)
    (hl : ∀ x ∈ l, x ∈ s.lastScanTs) (hm : m.lastScanTs = l ++ [s.curT]) : G m b' := by
  refine ⟨he, ?_, fun _ _ => by rw [hm]; simp, fun x hx => ?_⟩
  · rcases hs.1 with e | e
    · exact h.2.1.imp (fun e' => e.trans e') (fun e' => by rw [hs.2.1, e]; exact e')
    · exact Or.inl e
  · rw [hm] at hx
    rcases List.mem_append.1 hx with hx | hx
    · have := h.2.2.2 x (hl x hx); omega
    · rw [List.mem_singleton.1 hx]; exact ⟨hc0, hc1⟩

theorem G_propagate (c : Cfg) (i : In) (s : St) (b b' : Int) (h : G s b) (hb : b ≤ s.hist.length) (hbb : b ≤ b')
    (hc0 : 0 ≤ s.curT) (hc1 : s.curT < b') (hd : i.dScan < c.nAddr) (hn0 : 0 < c.nAddr) : G (propagate c i s) b' := by
  by_cases hc : s.cur = .propagate
  · have hn := G_nxt h hc (by decide)
    unfold propagate
    rw [if_neg (fun e => e hc)]
    split
    · rename_i hp
      have soft := soft_scanHandler c i s
      have hsh := scanHandler_err_lastScanTs c i s b h hb hd (h.2.2.1 hc hp)
      exact G_progressIfFinished s _ b' .propagate rfl (by decide) hc hn soft
        (G_pushed s _ b b' h hbb hc0 hc1 hsh.1 soft _ (fun x hx => (List.dropLast_sublist _).subset hx) hsh.2)
    · split
      · unfold propagatePrep
        by_cases hp : s.prog = .pending
        · rw [if_pos hp]
          unfold propagateReset
          simp only [List.getElem?_eq_getElem hn0]
          exact G_pushed s _ b b' h hbb hc0 hc1 h.1 (.same rfl rfl rfl) [] (fun x hx => by cases hx) rfl
        · rw [if_neg hp]
          exact G_pushed s _ b b' h hbb hc0 hc1 h.1 (.same rfl rfl rfl) s.lastScanTs (fun x hx => hx) rfl
      · exact G_mono _ b b' (G_failStage c _ b h) hbb
  · rw [propagate_skip c i s hc]; exact G_mono s b b' h hbb

/-- **The no-raise invariant of TAP001** before tick `t`: the reachable-state facts `WF` (stage/next-stage coupling,
`0 ≤ variance`, `0 ≤ current_timestep ≤ t`, no error), a non-empty `network_addresses`, alive, one history item per
tick, and `G`: a scan in progress has a remembered timestamp and every remembered timestamp indexes the history. -/
structure NR1 (c : Cfg) (s : St) (t : Int) : Prop where
  wf : WF c s t
  nAddr : 0 < c.nAddr
  dead : s.dead = false
  hlen : (s.hist.length : Int) = t
  g : G s t

theorem G_mainPath (c : Cfg) (s : St) (t : Int) (i : In) (hv : 0 ≤ c.variance) (h : G s t) (ht : 0 ≤ t)
    (hl : (s.hist.length : Int) = t) (hd : i.dScan < c.nAddr) (hn0 : 0 < c.nAddr) : G (mainPath c s t i) (t + 1) := by
  unfold mainPath bodies
  have g0 := G_outcomeHandler c _ t (G_setNext c { s with curT := t } t (t + c.frequency) i.d1 hv h)
  have g1 := G_c2c c i _ t (G_payload c i _ t g0)
  have g2 := G_propagate c i _ t (t + 1) g1
    (by simp only [hs_c2c, hs_payload, hs_outcomeHandler, hs_setNext]; omega) (by omega)
    (by simp only [ct_c2c, ct_payload, ct_outcomeHandler, ct_setNext]; exact ht)
    (by simp only [ct_c2c, ct_payload, ct_outcomeHandler, ct_setNext]; omega) hd hn0
  exact G_tapStart _ _ (G_download _ _ (G_install _ _ (G_activate _ _ g2)))

theorem G_failPath (c : Cfg) (s : St) (t : Int) (i : In) (hv : 0 ≤ c.variance) (h : G s t) :
    G (failPath c s t i) (t + 1) := by
  unfold failPath
  refine G_mono _ t _ ?_ (by omega)
  exact G_setNext c { outcomeHandler c (setNext c s (t + c.frequency) i.d1) with curT := t } t _ _ hv
    (G_outcomeHandler c _ t (G_setNext c s t _ _ hv h))

theorem G_getAction (c : Cfg) (s : St) (t : Int) (i : In) (h : NR1 c s t) (hd : i.dScan < c.nAddr) :
    G (getAction c s t i).1 (t + 1) := by
  unfold getAction
  split
  · exact G_mono _ t _ h.g (by omega)
  · obtain ⟨x, hx⟩ := lookBack_some s h.wf.curT
    simp only [hx]
    have gr := G_returnHandler c x s t h.g
    split
    · dsimp only
      exact G_mainPath c _ t i h.wf.var gr h.wf.tpos (by rw [hs_returnHandler]; exact h.hlen) hd h.nAddr
    · dsimp only
      exact G_failPath c _ t i h.wf.var gr

theorem nr1_step (c : Cfg) (s : St) (t : Int) (i : In) (h : NR1 c s t) (hd : i.dScan < c.nAddr) :
    NR1 c (step c s t i).1 (t + 1) ∧ (step c s t i).2 ≠ .raised := by
  have hg := G_getAction c s t i h hd
  have hw := wf_step c s t i h.wf
  rw [step_of_act c s t i h.dead hg.1] at hw ⊢
  refine ⟨⟨hw, h.nAddr, (getAction_dead c s t i).trans h.dead, ?_, hg⟩, Out.noConfusion⟩
  show (((getAction c s t i).1.hist ++ [_]).length : Int) = t + 1
  rw [getAction_hist, List.length_append, ← h.hlen]
  rfl

theorem nr1_init (c : Cfg) (d0 : Int) (k1 k2 : Nat) (s0 : St) (h0 : init c d0 k1 k2 = some s0) : NR1 c s0 0 := by
  have hw := wf_init c d0 k1 k2 s0 h0
  obtain ⟨hv, rfl⟩ := init_some c d0 k1 k2 s0 h0
  exact ⟨hw, hv.2.1, rfl, rfl, rfl, Or.inr rfl, (fun _ hq => by cases hq), (fun x hx => by cases hx)⟩

theorem run_nr1 (c : Cfg) : ∀ (ins : List In) (s : St) (t : Int), NR1 c s t → (∀ i ∈ ins, i.dScan < c.nAddr) →
    (∀ o ∈ runOut c s t ins, o.2 ≠ .raised) ∧ NR1 c (after c s t ins) (t + ins.length) := by
  intro ins
  induction ins with
  | nil => intro s t h _; simpa [runOut, after] using h
  | cons i is ih =>
    intro s t h hd
    have hs := nr1_step c s t i h (hd i (List.mem_cons_self ..))
    have := ih _ _ hs.1 (fun j hj => hd j (List.mem_cons_of_mem _ hj))
    simp only [runOut, after, List.length_cons]
    rw [add_succ_cast]
    exact ⟨List.forall_mem_cons.2 ⟨hs.2, this.1⟩, this.2⟩

/-- **A constructed TAP001 never raises**: for every configuration the constructor accepts, every input list fed at
ticks 0,1,2,… whose `repeat_scan` draws are in the range of `randint(0, len(network_addresses)-1)` and whose successful
scan responses are well-shaped (`RunScanSimOk`), no tick's outcome is `raised`, the agent stays alive and the no-raise
invariant holds at the end.

What remains assumed: the abstraction of `response.data` to the three Booleans of `Resp` is total exactly on `ScanSimOk`
data (the shapes the three nmap construction sites give: `{"live_hosts": list}` or a dict host ↦ protocol ↦ ports; a
failure has `data = {}`); pydantic's `data: dict` typing of `RequestResponse`.  (The model's `Resp` cannot express a
malformed answer, so the proof uses only `dScan < nAddr` of `RunScanSimOk`.) -/
theorem C19_tap1_validated_never_raises_sim (c : Cfg) (d0 : Int) (k1 k2 : Nat) (s0 : St) (ins : List In)
    (h0 : init c d0 k1 k2 = some s0) (hsim : RunScanSimOk c ins) :
    (∀ o ∈ runOut c s0 0 ins, o.2 ≠ .raised) ∧ (after c s0 0 ins).dead = false ∧
    NR1 c (after c s0 0 ins) (ins.length) := by
  have := run_nr1 c ins s0 0 (nr1_init c d0 k1 k2 s0 h0) (fun i hi => (hsim i hi).1)
  rw [Int.zero_add] at this
  exact ⟨this.1, this.2.dead, this.2⟩

/-- Non-vacuity: the example configuration is constructed, its 20 inputs satisfy `RunScanSimOk` (the response is the
abstraction of `{target: {"tcp": [5432]}}`), the run walks PROPAGATE (the scan handler reads the history) and no tick
raises. -/
example : ∃ s0, init exCfg 0 0 0 = some s0 ∧ RunScanSimOk exCfg (List.replicate 20 exIn) ∧
    (runOut exCfg s0 0 (List.replicate 20 exIn)).all (fun o => o.2 != .raised) = true ∧
    ((run exCfg s0 0 (List.replicate 20 exIn)).map (·.cur)).contains .propagate = true := by
  refine ⟨_, rfl, ?_, ?_, ?_⟩
  · intro i hi
    have : i = exIn := List.eq_of_mem_replicate hi
    subst this
    refine ⟨by decide, fun _ => ⟨"t", .ports [("t", [("tcp", [5432])])], ?_, ?_⟩⟩
    · intro h; cases h
    · decide
  · decide +kernel
  · decide +kernel

end Tap1
end Primaite.Agents
