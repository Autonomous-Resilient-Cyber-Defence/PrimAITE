/-
C07 — ACL verdict = first matching rule by position, else the implicit action.
The model is `Model/Acl.lean`.  After the property theorems, the ties to the source: the bounds and the shape of the scan
(Gen/Acl.lean), and the translated `permit_frame_check` / `ip_matches_masked_range` (Gen/AclMatch.lean).
-/
import PrimaiteModel.Model.Acl
import PrimaiteModel.Gen.Acl
import PrimaiteModel.Gen.AclMatch
namespace Primaite.Acl

/-- `ip_matches_masked_range` is exactly "agree on every bit the wildcard does not mask out". -/
theorem C07_wildcard_spec (ip base wc : Ip) :
    ipMatches ip base wc = true ↔
      ∀ i : Nat, i < 32 → wc.getLsbD i = false → ip.getLsbD i = base.getLsbD i := by
  unfold ipMatches
  rw [beq_iff_eq, BitVec.eq_of_getLsbD_eq_iff]
  refine forall_congr' fun i => forall_congr' fun hi => ?_
  simp only [BitVec.getLsbD_and, BitVec.getLsbD_not, hi, decide_true, Bool.true_and]
  cases wc.getLsbD i <;> simp [eq_comm]

def AddrSpec (ruleIp ruleWc : Option Ip) (ip : Ip) : Prop :=
  ∀ base, ruleIp = some base →
    (∀ wc, ruleWc = some wc → ∀ i : Nat, i < 32 → wc.getLsbD i = false → ip.getLsbD i = base.getLsbD i) ∧
    (ruleWc = none → ip = base)

/-- Specification of a port field: a specified port needs a TCP/UDP header carrying that port. -/
def PortSpec (rulePort : Option Nat) (pktPort : Option Nat) : Prop :=
  ∀ n, rulePort = some n → pktPort = some n

theorem addrMatches_iff (ruleIp ruleWc : Option Ip) (ip : Ip) :
    addrMatches ruleIp ruleWc ip = true ↔ AddrSpec ruleIp ruleWc ip := by
  unfold addrMatches AddrSpec
  cases ruleIp with
  | none => simp
  | some base =>
    cases ruleWc with
    | none => simp
    | some wc =>
      simp only [C07_wildcard_spec, Option.some.injEq, forall_eq', reduceCtorEq, false_implies, and_true]

theorem portMatches_iff (rp pp : Option Nat) : portMatches rp pp = true ↔ PortSpec rp pp := by
  unfold portMatches PortSpec
  cases rp with
  | none => simp
  | some p =>
    simp only [beq_iff_eq, Option.some.injEq, forall_eq']
    exact eq_comm

theorem protoMatches_iff (rq : Option Proto) (q : Proto) : protoMatches rq q = true ↔ ∀ q', rq = some q' → q' = q := by
  cases rq <;> simp [protoMatches]

/-- A rule matches a packet iff every *specified* field agrees; unspecified fields match anything. -/
theorem C07_matches_iff (r : Rule) (p : Packet) :
    r.hits? p = true ↔
      (∀ q, r.proto = some q → q = p.proto) ∧
      AddrSpec r.srcIp r.srcWc p.srcIp ∧ AddrSpec r.dstIp r.dstWc p.dstIp ∧
      PortSpec r.srcPort (p.ports.map (·.1)) ∧ PortSpec r.dstPort (p.ports.map (·.2)) := by
  unfold Rule.hits?
  simp only [Bool.and_eq_true, protoMatches_iff, addrMatches_iff, portMatches_iff, and_assoc]

/-- the scan from position `off` stops at the first occupied slot that matches; "no occupied slot of `l` matches" is
`∀ o ∈ l, ∀ r', o = some r' → r'.hits? p = false`, which `List.forall_mem_cons` takes apart slot by slot -/
theorem firstMatch_some {p : Packet} {rules : List (Option Rule)} {off i : Nat} {r : Rule}
    (h : firstMatch p rules off = some (i, r)) :
    ∃ k, i = off + k ∧ rules[k]? = some (some r) ∧ r.hits? p = true ∧
      ∀ o ∈ rules.take k, ∀ r', o = some r' → r'.hits? p = false := by
  fun_induction firstMatch p rules off with
  | case1 => cases h
  | case2 rest off ih =>
    obtain ⟨k, rfl, h2, h3, h4⟩ := ih h
    exact ⟨k + 1, by omega, h2, h3, List.forall_mem_cons.mpr ⟨fun _ e => (nomatch e), h4⟩⟩
  | case3 r0 rest off hm =>
    cases h
    exact ⟨0, rfl, rfl, hm, fun _ hm => nomatch hm⟩
  | case4 r0 rest off hm ih =>
    obtain ⟨k, rfl, h2, h3, h4⟩ := ih h
    exact ⟨k + 1, by omega, h2, h3,
      List.forall_mem_cons.mpr ⟨fun _ e => Option.some.inj e ▸ Bool.eq_false_iff.mpr hm, h4⟩⟩

theorem firstMatch_none {p : Packet} {rules : List (Option Rule)} {off : Nat}
    (h : firstMatch p rules off = none) : ∀ o ∈ rules, ∀ r', o = some r' → r'.hits? p = false := by
  fun_induction firstMatch p rules off with
  | case1 => exact fun _ hm => nomatch hm
  | case2 rest off ih => exact List.forall_mem_cons.mpr ⟨fun _ e => (nomatch e), ih h⟩
  | case3 => cases h
  | case4 r0 rest off hm ih =>
    exact List.forall_mem_cons.mpr ⟨fun _ e => Option.some.inj e ▸ Bool.eq_false_iff.mpr hm, ih h⟩

theorem firstMatch_eq_some_iff {p : Packet} {rules : List (Option Rule)} {i : Nat} {r : Rule} :
    firstMatch p rules 0 = some (i, r) ↔
      rules[i]? = some (some r) ∧ r.hits? p = true ∧
        ∀ j, j < i → ∀ r' : Rule, rules[j]? = some (some r') → r'.hits? p = false := by
  have mp : ∀ {i r}, firstMatch p rules 0 = some (i, r) → rules[i]? = some (some r) ∧ r.hits? p = true ∧
      ∀ j, j < i → ∀ r' : Rule, rules[j]? = some (some r') → r'.hits? p = false := fun h => by
    obtain ⟨k, hk, h2, h3, h4⟩ := firstMatch_some h
    rw [Nat.zero_add] at hk
    subst hk
    exact ⟨h2, h3, fun j hj r' e => h4 _ (List.mem_of_getElem? ((List.getElem?_take_of_lt hj).trans e)) r' rfl⟩
  refine ⟨mp, fun ⟨h1, h2, h3⟩ => ?_⟩
  cases heq : firstMatch p rules 0 with
  | none => exact absurd ((firstMatch_none heq _ (List.mem_of_getElem? h1) r rfl).symm.trans h2) Bool.false_ne_true
  | some ir =>
    obtain ⟨g1, g2, g3⟩ := mp heq
    -- the deciding position can be neither above `i` (`r` matches there) nor below (nothing matches there)
    have hle : ¬ i < ir.1 := fun hlt => Bool.false_ne_true ((g3 i hlt r h1).symm.trans h2)
    have hge : ¬ ir.1 < i := fun hlt => Bool.false_ne_true ((h3 ir.1 hlt ir.2 g1).symm.trans g2)
    obtain rfl : ir.1 = i := by omega
    cases Option.some.inj (Option.some.inj (g1.symm.trans h1))
    rfl

theorem firstMatch_eq_none_iff {p : Packet} {rules : List (Option Rule)} :
    firstMatch p rules 0 = none ↔ ∀ (j : Nat) (r' : Rule), rules[j]? = some (some r') → r'.hits? p = false := by
  refine ⟨fun h j r' e => firstMatch_none h _ (List.mem_of_getElem? e) r' rfl, fun h => ?_⟩
  cases heq : firstMatch p rules 0 with
  | none => rfl
  | some ir =>
    obtain ⟨g1, g2, _⟩ := firstMatch_eq_some_iff.mp heq
    exact absurd ((h _ _ g1).symm.trans g2) Bool.false_ne_true

theorem isPermitted_of_some {a : Acl} {p : Packet} {i : Nat} {r : Rule} (h : firstMatch p a.rules 0 = some (i, r)) :
    isPermitted a p = (r.action == .permit, .rule i, { a with rules := bump a.rules i }) := by
  simp only [isPermitted, h]

theorem isPermitted_of_none {a : Acl} {p : Packet} (h : firstMatch p a.rules 0 = none) :
    isPermitted a p = (a.implicit == .permit, .implicit, { a with implicitHits := a.implicitHits + 1 }) := by
  simp only [isPermitted, h]

/-- The verdict is that of the lowest-positioned matching rule; with no matching rule the implicit action
applies.  `d` names the decider. -/
theorem C07_verdict_first_match (a : Acl) (p : Packet) :
    let (v, d, _) := isPermitted a p
    (∃ i r, a.rules[i]? = some (some r) ∧ r.hits? p = true ∧
        (∀ j, j < i → ∀ r' : Rule, a.rules[j]? = some (some r') → r'.hits? p = false) ∧
        v = (r.action == .permit) ∧ d = .rule i) ∨
    ((∀ (j : Nat) (r' : Rule), a.rules[j]? = some (some r') → r'.hits? p = false) ∧
        v = (a.implicit == .permit) ∧ d = .implicit) := by
  cases heq : firstMatch p a.rules 0 with
  | some ir =>
    obtain ⟨h2, h3, h4⟩ := firstMatch_eq_some_iff.mp heq
    rw [isPermitted_of_some heq]
    exact Or.inl ⟨_, _, h2, h3, h4, rfl, rfl⟩
  | none =>
    rw [isPermitted_of_none heq]
    exact Or.inr ⟨firstMatch_eq_none_iff.mp heq, rfl, rfl⟩

/-- Erase the counters of a list (what matching depends on). -/
def strip (rules : List (Option Rule)) : List (Option Rule) :=
  rules.map (fun o => o.map (fun r => { r with hits := 0 }))

theorem strip_bump (rules : List (Option Rule)) (i : Nat) : strip (bump rules i) = strip rules := by
  unfold strip bump
  induction rules generalizing i with
  | nil => simp
  | cons x rest ih =>
    cases i with
    | zero => cases x <;> simp [List.modify]
    | succ i => simp [List.modify_succ_cons, ih]

/-- Each verdict increments the hit counter of exactly the deciding rule: when rule `i` decides, slot `i`
holds the same rule with `hits + 1`, every other slot and the implicit counter are untouched; when the
implicit rule decides, its counter is incremented and the list is untouched.  Nothing but counters changes. -/
theorem C07_hit_counter (a : Acl) (p : Packet) :
    let (_, d, a') := isPermitted a p
    a'.implicit = a.implicit ∧ a'.rules.length = a.rules.length ∧ strip a'.rules = strip a.rules ∧
    match d with
    | .rule i =>
        (∃ r, a.rules[i]? = some (some r) ∧ a'.rules[i]? = some (some { r with hits := r.hits + 1 })) ∧
        (∀ j, j ≠ i → a'.rules[j]? = a.rules[j]?) ∧ a'.implicitHits = a.implicitHits
    | .implicit => a'.rules = a.rules ∧ a'.implicitHits = a.implicitHits + 1 := by
  cases heq : firstMatch p a.rules 0 with
  | some ir =>
    have h2 := (firstMatch_eq_some_iff.mp heq).1
    rw [isPermitted_of_some heq]
    refine ⟨rfl, by simp [bump], strip_bump _ _, ⟨_, h2, ?_⟩, ?_, rfl⟩
    · simp [bump, h2]
    · intro j hj
      simp [bump, Ne.symm hj]
  | none => rw [isPermitted_of_none heq]; exact ⟨rfl, rfl, rfl, rfl, rfl⟩

theorem isPermitted_keeps (a : Acl) (p : Packet) :
    (isPermitted a p).2.2.implicit = a.implicit ∧ strip (isPermitted a p).2.2.rules = strip a.rules :=
  ⟨(C07_hit_counter a p).1, (C07_hit_counter a p).2.2.1⟩

/-- verdict and decider, as a function of the slots and the implicit action alone -/
def verdict (rules : List (Option Rule)) (imp : Action) (p : Packet) : Bool × Decider :=
  match firstMatch p rules 0 with
  | some (i, r) => (r.action == .permit, .rule i)
  | none => (imp == .permit, .implicit)

theorem isPermitted_verdict (a : Acl) (p : Packet) :
    ((isPermitted a p).1, (isPermitted a p).2.1) = verdict a.rules a.implicit p := by
  unfold verdict
  cases heq : firstMatch p a.rules 0 with
  | some ir => rw [isPermitted_of_some heq]
  | none => rw [isPermitted_of_none heq]

theorem firstMatch_strip (p : Packet) (rules : List (Option Rule)) (off : Nat) :
    firstMatch p (strip rules) off =
      (firstMatch p rules off).map (fun ir => (ir.1, { ir.2 with hits := 0 })) := by
  fun_induction firstMatch p rules off with
  | case1 => rfl
  | case2 rest off ih => exact ih
  | case3 r0 rest off hm => exact if_pos hm
  | case4 r0 rest off hm ih => exact (if_neg hm).trans ih

theorem verdict_strip (rules : List (Option Rule)) (imp : Action) (p : Packet) :
    verdict (strip rules) imp p = verdict rules imp p := by
  unfold verdict
  rw [firstMatch_strip]
  cases firstMatch p rules 0 <;> rfl

theorem verdict_congr {a b : Acl} (hs : strip a.rules = strip b.rules) (hi : a.implicit = b.implicit) (p : Packet) :
    (isPermitted a p).1 = (isPermitted b p).1 ∧ (isPermitted a p).2.1 = (isPermitted b p).2.1 := by
  have h := isPermitted_verdict a p
  rw [← verdict_strip, hs, hi, verdict_strip, ← isPermitted_verdict b p] at h
  exact Prod.mk.inj h

/-- Counters never influence a verdict: asking twice gives the same verdict and the same decider. -/
theorem C07_verdict_stable (a : Acl) (p q : Packet) :
    let a' := (isPermitted a q).2.2
    (isPermitted a' p).1 = (isPermitted a p).1 ∧ (isPermitted a' p).2.1 = (isPermitted a p).2.1 :=
  verdict_congr (isPermitted_keeps a q).2 (isPermitted_keeps a q).1 p

/-- what `add_rule` and `remove_rule` have in common: write `x` into slot `pos` if there is such a slot -/
def setSlot (a : Acl) (pos : Nat) (x : Option Rule) : Option Acl :=
  if pos < a.rules.length then some { a with rules := a.rules.set pos x } else none

theorem addRule_eq_setSlot (a : Acl) (r : Rule) (pos : Nat) :
    addRule a r pos = setSlot a pos (some { r with hits := 0 }) := rfl

theorem removeRule_eq_setSlot (a : Acl) (pos : Nat) : removeRule a pos = setSlot a pos none := rfl

theorem setSlot_of_lt {a : Acl} {pos : Nat} (x : Option Rule) (h : pos < a.rules.length) :
    setSlot a pos x = some { a with rules := a.rules.set pos x } := if_pos h

theorem setSlot_eq_none {a : Acl} {pos : Nat} {x : Option Rule} : setSlot a pos x = none ↔ a.rules.length ≤ pos := by
  unfold setSlot
  split <;> simp <;> omega

theorem setSlot_frame {a a' : Acl} {pos : Nat} {x : Option Rule} (h : setSlot a pos x = some a') :
    pos < a.rules.length ∧ a'.rules.length = a.rules.length ∧ a'.rules[pos]? = some x ∧
    (∀ j, j ≠ pos → a'.rules[j]? = a.rules[j]?) ∧
    a'.implicit = a.implicit ∧ a'.implicitHits = a.implicitHits := by
  unfold setSlot at h
  split at h
  · next hp =>
    cases h
    exact ⟨hp, List.length_set, List.getElem?_set_self hp, fun j hj => List.getElem?_set_ne (Ne.symm hj), rfl, rfl⟩
  · cases h

theorem setSlot_comm (a : Acl) {p₁ p₂ : Nat} (x₁ x₂ : Option Rule) (h : p₁ ≠ p₂) :
    (setSlot a p₁ x₁).bind (fun a' => setSlot a' p₂ x₂) = (setSlot a p₂ x₂).bind (fun a' => setSlot a' p₁ x₁) := by
  unfold setSlot
  by_cases h1 : p₁ < a.rules.length <;> by_cases h2 : p₂ < a.rules.length <;>
    simp [h1, h2, List.set_comm _ _ h]

/-- Adding a rule changes only the addressed position (which then holds the new rule with a zero counter). -/
theorem C07_addRule_frame (a a' : Acl) (r : Rule) (pos : Nat) (h : addRule a r pos = some a') :
    pos < a.rules.length ∧ a'.rules.length = a.rules.length ∧
    a'.rules[pos]? = some (some { r with hits := 0 }) ∧
    (∀ j, j ≠ pos → a'.rules[j]? = a.rules[j]?) ∧
    a'.implicit = a.implicit ∧ a'.implicitHits = a.implicitHits :=
  setSlot_frame (addRule_eq_setSlot a r pos ▸ h)

/-- An out-of-range position is an error (Python raises) and, there being no new list, changes nothing. -/
theorem C07_addRule_error_iff (a : Acl) (r : Rule) (pos : Nat) :
    addRule a r pos = none ↔ a.rules.length ≤ pos :=
  addRule_eq_setSlot a r pos ▸ setSlot_eq_none

/-- Removing a rule clears only the addressed position. -/
theorem C07_removeRule_frame (a a' : Acl) (pos : Nat) (h : removeRule a pos = some a') :
    pos < a.rules.length ∧ a'.rules.length = a.rules.length ∧
    a'.rules[pos]? = some none ∧
    (∀ j, j ≠ pos → a'.rules[j]? = a.rules[j]?) ∧
    a'.implicit = a.implicit ∧ a'.implicitHits = a.implicitHits :=
  setSlot_frame (removeRule_eq_setSlot a pos ▸ h)

theorem C07_removeRule_error_iff (a : Acl) (pos : Nat) :
    removeRule a pos = none ↔ a.rules.length ≤ pos :=
  removeRule_eq_setSlot a pos ▸ setSlot_eq_none

/-- Rules added at different positions commute (used by C20: key order of the `acl` mapping). -/
theorem C07_add_commute (a : Acl) (r₁ r₂ : Rule) (p₁ p₂ : Nat) (h : p₁ ≠ p₂) :
    (addRule a r₁ p₁).bind (fun a' => addRule a' r₂ p₂) =
    (addRule a r₂ p₂).bind (fun a' => addRule a' r₁ p₁) := by
  simp only [addRule_eq_setSlot]
  exact setSlot_comm a _ _ h

def exRuleDenyHttp : Rule :=
  { action := .deny, proto := some .tcp, srcIp := some 0xC0A80100#32, srcWc := some 0x000000FF#32,
    dstIp := none, dstWc := none, srcPort := none, dstPort := some 80 }
def exRulePermitAll : Rule :=
  { action := .permit, proto := none, srcIp := none, srcWc := none, dstIp := none, dstWc := none,
    srcPort := none, dstPort := none }
def exAcl : Acl := { rules := [none, some exRuleDenyHttp, none, some exRulePermitAll], implicit := .deny }
def exPkt : Packet := { proto := .tcp, srcIp := 0xC0A80117#32, dstIp := 0x0A000001#32, ports := some (5000, 80) }

/-- the shadowing rule at position 1 decides although position 3 also matches -/
example : (isPermitted exAcl exPkt).1 = false ∧ (isPermitted exAcl exPkt).2.1 = .rule 1 := by decide
example : (isPermitted exAcl { exPkt with ports := some (5000, 443) }).2.1 = .rule 3 := by decide
example : (isPermitted (Acl.empty 24 .permit) exPkt).1 = true := by decide
/-- port 0 is a specified value, not a wildcard -/
example : Rule.hits? { exRulePermitAll with dstPort := some 0 } exPkt = false := by decide

open Primaite.Gen.Acl in
/-- Both edit operations accept exactly the positions that exist in the list, and the scan is the forward,
stop-at-first-match loop the model's `firstMatch` describes. -/
theorem C07_gen_bounds : addBound = slots ∧ removeBound = slots ∧ slots + 1 = maxAclRules ∧
    scanIsForward = true ∧ scanBreaksAtFirstMatch = true := by decide

open Primaite.Gen.AclMatch

/-- the frame as the model sees it: the TCP header's ports if there is one, else the UDP header's -/
def toPacket (f : FrameView) : Packet :=
  { proto := f.proto, srcIp := f.srcIp, dstIp := f.dstIp,
    ports := match f.tcp with
      | some p => some p
      | none => f.udp }

theorem C07_gen_ip_matches (ip base wc : Ip) : ipMatchesMaskedRange ip base wc = ipMatches ip base wc := by
  unfold ipMatchesMaskedRange ipMatches
  simp [BEq.beq]

theorem ite_pair (c : Prop) [Decidable c] (p : Bool) :
    (if c then (true, p) else (false, false)) = (decide c, decide c && p) := by
  by_cases h : c <;> simp [h]

/-! the shapes the translator produces for the four kinds of field test, each equal to the model's function
(`tcp.or udp` is the header selection `if frame.tcp: … elif frame.udp: …`) -/
theorem permitFrameCheck_proto (rp : Option Proto) (fp : Proto) :
    (if rp.isSome = true then decide (rp = some fp) else true) = protoMatches rp fp := by
  cases rp <;> simp [protoMatches, Bool.beq_eq_decide_eq]

theorem permitFrameCheck_addr (ip wc : Option Ip) (x : Ip) :
    (if ip.isSome = true then
        if wc.isSome = true then ipMatchesMaskedRange x (ip.getD 0) (wc.getD 0) else decide (some x = ip)
      else ip.isNone) = addrMatches ip wc x := by
  cases ip <;> cases wc <;> simp [addrMatches, C07_gen_ip_matches, Bool.beq_eq_decide_eq]

theorem permitFrameCheck_ports (tcp udp : Option (Nat × Nat)) :
    (if tcp.isSome = true then (Option.map Prod.snd tcp, Option.map Prod.fst tcp)
      else
        ((if udp.isSome = true then (Option.map Prod.snd udp, Option.map Prod.fst udp) else (none, none)).fst,
         (if udp.isSome = true then (Option.map Prod.snd udp, Option.map Prod.fst udp) else (none, none)).snd)) =
    ((tcp.or udp).map Prod.snd, (tcp.or udp).map Prod.fst) := by
  cases tcp <;> cases udp <;> rfl

theorem permitFrameCheck_port (rp pp : Option Nat) :
    (if rp.isSome = true then decide (rp = pp) else true) = portMatches rp pp := by
  cases rp <;> simp [portMatches, Bool.beq_eq_decide_eq]

theorem toPacket_ports (f : FrameView) : (toPacket f).ports = f.tcp.or f.udp := by
  unfold toPacket
  cases f.tcp <;> rfl

/-- The statement-by-statement translation of the CURRENT source of `ACLRule.permit_frame_check` computes, for every
rule and every frame, exactly `(matches ∧ action = PERMIT, matches)` with the model's `Rule.hits?`.  A change of the
source that alters the matching semantics (a truthiness test on a port, a swapped field, a dropped wildcard branch)
makes this theorem fail. -/
theorem C07_gen_permit_frame_check (r : Rule) (f : FrameView) :
    permitFrameCheck r f = ((r.action == .permit) && r.hits? (toPacket f), r.hits? (toPacket f)) := by
  simp only [permitFrameCheck, permitFrameCheck_proto, permitFrameCheck_addr, permitFrameCheck_ports,
    permitFrameCheck_port, ite_pair, Rule.hits?, toPacket_ports]
  simp [toPacket, Bool.beq_eq_decide_eq, Bool.and_comm]
end Primaite.Acl
