/-
C20 — one attribute, several configuration sources: the loader statements that decide the value, TRANSLATED from
`PrimaiteGame.from_config` on every run (`Gen/ConfigResolve.lean`), resolve to
`the entry's own value if the entry declares one - whatever the value, 0 / '' / False / '0' included - else the default, else what was there`.
Each theorem is stated for ALL values of both sources (`own dflt : Option PV`, `none` = key absent), all initial values and all
other keys, and is proved again from the regenerated translation: a truthiness rewrite (`own.get(k) or dflt.get(k')`) makes the
proof fail, and the grid point where it fails is the scenario file the rig then builds.
-/
import PrimaiteModel.Model.ConfigResolve
import PrimaiteModel.Model.Config
import PrimaiteModel.Gen.ConfigResolve
namespace Primaite.ConfigResolve
open Primaite.Gen.ConfigResolve

/-- unfolds the translated combinators -/
macro "resolve_cases" own:ident dflt:ident : tactic =>
  `(tactic| (cases $own:ident <;> cases $dflt:ident <;>
      simp [effective, Py.cond, Py.and, Py.or, Py.not, Py.has, Py.hasNot, Py.sub, Py.get, Py.getD, Py.int, Py.lit, Py.isNone,
            Py.isNotNone, Py.ifExp, PV.truthy, PV.toInt, Option.bind, Option.map, Primaite.Config.defaultDuration,
            Primaite.Config.defaultBandwidth]))

/-- **a service's `fixing_duration`**: its own `fixing_duration` option as an integer if the entry has the key (0 included), else
`defaults.service_fix_duration` as an integer, else the class default the constructor left. -/
theorem C20_gen_resolve_service_fixing_duration (own dflt : Option PV) (init : R) (other : String → String → Option PV) :
    svcFixingDuration own dflt init other = effective PV.toInt PV.toInt own dflt init := by
  unfold svcFixingDuration
  resolve_cases own dflt

/-- **a node's `start_up_duration`**: the node's own key (0 included), else `defaults.node_start_up_duration`, else the literal 3 — whatever
was assigned before (the temporary 0 that lets every node boot at once does not survive). -/
theorem C20_gen_resolve_node_start_up (own dflt : Option PV) (init : R) (other : String → String → Option PV) :
    nodeStartUp own dflt init other = effective PV.toInt PV.toInt own dflt (some (.int Primaite.Config.defaultDuration)) := by
  unfold nodeStartUp
  resolve_cases own dflt

theorem C20_gen_resolve_node_shut_down (own dflt : Option PV) (init : R) (other : String → String → Option PV) :
    nodeShutDown own dflt init other = effective PV.toInt PV.toInt own dflt (some (.int Primaite.Config.defaultDuration)) := by
  unfold nodeShutDown
  resolve_cases own dflt

/-- **a node's `node_scan_duration`**: a node that declares the key keeps what its constructor made of it (`init`), for every declared
value; only a node that declares none gets `defaults.node_scan_duration`. -/
theorem C20_gen_resolve_node_scan (own dflt : Option PV) (init : R) (other : String → String → Option PV) :
    nodeScan own dflt init other = effective (fun _ => init) PV.toInt own dflt init := by
  unfold nodeScan
  resolve_cases own dflt

/-- a service's `restart_duration` has one source in the file (`defaults.service_restart_duration`); no option of the entry is consulted -/
theorem C20_gen_resolve_service_restart (own dflt : Option PV) (init : R) (other : String → String → Option PV) :
    svcRestart own dflt init other = effective (fun _ => init) PV.toInt none dflt init := by
  unfold svcRestart
  resolve_cases own dflt

/-- **a link's bandwidth**: the entry's `bandwidth` as written (0 included), else the library's default -/
theorem C20_gen_resolve_link_bandwidth (own dflt : Option PV) (init : R) (other : String → String → Option PV) :
    linkBandwidth own dflt init other = effective some some own none (some (.int Primaite.Config.defaultBandwidth)) := by
  unfold linkBandwidth
  resolve_cases own dflt

/-- no write of such an attribute sits under a guard other than the loops over the entries and `the service type is known` -/
theorem C20_gen_resolve_guards :
    structuralGuards = [
      ("svcFixingDuration", ["for node_cfg in nodes_cfg", "if 'services' in node_cfg", "for service_cfg in node_cfg['services']",
                             "if service_class is not None"]),
      ("nodeStartUp", ["for node_cfg in nodes_cfg"]),
      ("nodeShutDown", ["for node_cfg in nodes_cfg"]),
      ("nodeScan", ["for node_cfg in nodes_cfg"]),
      ("svcRestart", ["for node_cfg in nodes_cfg", "if 'services' in node_cfg", "for service_cfg in node_cfg['services']"]),
      ("linkBandwidth", ["for link_cfg in links_cfg"])] :=
  rfl

/-- **every truthiness test of a value in the loader functions** (regenerated): the places where a falsy-but-legal value of the file
could take the wrong branch. Each one listed here is followed by the model (`operating_state` falsy = not given; an empty / absent
`ports` / `acl` / `routes` / `default_route` section adds nothing either way; a rule's empty `src_port` / `dst_port` / `protocol` means
"any"; `include_router`) or is not fed from the file (`kwargs.get('sys_log')` …). A NEW `or` / `if value:` in any loader function
changes this list; the falsy family of the rig then looks for the input. -/
theorem C20_gen_truthiness_sites :
    truthinessSites = [
  ("PrimaiteGame.from_config", "or", "cfg.get('io_settings', {}).get('save_step_metadata')"),
  ("PrimaiteGame.from_config", "if", "port"),
  ("Node.__init__", "not", "kwargs.get('sys_log')"),
  ("Node.__init__", "not", "kwargs.get('session_manager')"),
  ("Node.__init__", "not", "kwargs.get('root')"),
  ("Node.__init__", "not", "kwargs.get('file_system')"),
  ("Node.__init__", "not", "kwargs.get('software_manager')"),
  ("Node.__init__", "not", "(p := kwargs['config'].operating_state)"),
  ("Router.from_config", "if", "ports"),
  ("Router.from_config", "if", "acl"),
  ("Router.from_config", "not", "(p := r_cfg.get('src_port'))"),
  ("Router.from_config", "not", "(p := r_cfg.get('dst_port'))"),
  ("Router.from_config", "not", "(p := r_cfg.get('protocol'))"),
  ("Router.from_config", "if", "routes"),
  ("Router.from_config", "if", "default_route"),
  ("Router.from_config", "if", "next_hop_ip_address"),
  ("Router.from_config", "not", "(p := config.get('operating_state'))"),
  ("Router.__init__", "not", "kwargs.get('sys_log')"),
  ("Router.__init__", "not", "kwargs.get('acl')"),
  ("Router.__init__", "not", "kwargs.get('route_table')"),
  ("Firewall.from_config", "if", "config['acl']['internal_inbound_acl']"),
  ("Firewall.from_config", "not", "(p := r_cfg.get('src_port'))"),
  ("Firewall.from_config", "not", "(p := r_cfg.get('dst_port'))"),
  ("Firewall.from_config", "not", "(p := r_cfg.get('protocol'))"),
  ("Firewall.from_config", "if", "config['acl']['internal_outbound_acl']"),
  ("Firewall.from_config", "if", "config['acl']['dmz_inbound_acl']"),
  ("Firewall.from_config", "if", "config['acl']['dmz_outbound_acl']"),
  ("Firewall.from_config", "if", "config['acl'].get('external_inbound_acl')"),
  ("Firewall.from_config", "if", "config['acl'].get('external_outbound_acl')"),
  ("Firewall.from_config", "if", "next_hop_ip_address"),
  ("Firewall.__init__", "not", "kwargs.get('sys_log')"),
  ("WirelessRouter.from_config", "not", "(p := config.get('operating_state'))"),
  ("WirelessRouter.from_config", "not", "(p := r_cfg.get('src_port'))"),
  ("WirelessRouter.from_config", "not", "(p := r_cfg.get('dst_port'))"),
  ("WirelessRouter.from_config", "not", "(p := r_cfg.get('protocol'))"),
  ("WirelessRouter.from_config", "if", "config.get('default_route')"),
  ("WirelessRouter.from_config", "if", "next_hop_ip_address"),
  ("OfficeLANAdder.add_nodes_to_net", "if", "config.include_router"),
  ("EpisodeListScheduler.__call__", "not", "self._exceeded_episode_list")
]  :=
  rfl

/-- a declared 0 / '0' / False / 0.0 beats the default; a declared '' cannot be a duration and is refused (`int('')` raises) -/
theorem C20_effective_on_falsy_grid (d : Int) :
    falsyGrid.map (fun v => effective PV.toInt PV.toInt (some v) (some (.int d)) (some (.int 2)))
      = [some (.int 0), some (.int 0), none, some (.int 0), some (.int 0)] :=
  rfl

/-- the seeded rewrite `int(options.get('fixing_duration') or defaults.get('service_fix_duration'))` as a term -/
def orRewrite (own dflt : Option PV) (init : R) : R :=
  Py.cond (Py.isNotNone (Py.or (Py.get own) (Py.get dflt))) (Py.int (Py.or (Py.get own) (Py.get dflt))) init

/-- … does NOT meet the specification: the counter-model is `own = 0` with any non-zero default -/
theorem C20_or_rewrite_is_not_effective :
    ¬ ∀ own dflt init, orRewrite own dflt init = effective PV.toInt PV.toInt own dflt init := by
  intro h
  have := h (some (.int 0)) (some (.int 7)) (some (.int 2))
  revert this
  decide

/-- a default that wins over a declared own value (the shape `node_scan_duration` had) does not meet it either -/
theorem C20_default_wins_is_not_effective :
    ¬ ∀ own dflt init, defaultWins PV.toInt PV.toInt own dflt init = effective PV.toInt PV.toInt own dflt init := by
  intro h
  have := h (some (.int 4)) (some (.int 7)) (some (.int 10))
  revert this
  decide

/-- the model's closed forms (`Model/Config.lean`: `n.startUp.getD (d.nodeStartUp.getD defaultDuration)` …) are `effective` on
integers: the link between the translated loader statements and the fields of `buildNode` / `declaredNode` / `specNode`. -/
theorem C20_effective_is_getD (own dflt : Option Nat) (lib : Nat) :
    effective PV.toInt PV.toInt (own.map (fun n => PV.int n)) (dflt.map (fun n => PV.int n)) (some (.int lib))
      = some (.int (own.getD (dflt.getD lib) : Nat)) := by
  cases own <;> cases dflt <;> rfl

/-- what a keyword argument must be, by what it configures: the keys it may read and the value it hands on -/
structure KwSpec where
  ownKey : String
  altKey : String
  val : Option PV → Option PV → (String → PV → R) → R

/-- an address of an ACL rule has TWO spellings (`src_ip` in the shipped scenarios, `src_ip_address` in the documentation):
the first declared spelling - whatever its value - else the second, else `None` (= any address). -/
def aclAddress (own alt : Option PV) : R := effective some some own alt (some .none)

/-- **the specification of every keyword argument the loaders read from the file** (by loader, callee and keyword) -/
def kwSpec (function callee keyword : String) : Option KwSpec :=
  match callee, keyword with
  | "add_rule", "src_ip_address" => some ⟨"src_ip", "src_ip_address", fun own alt _ => aclAddress own alt⟩
  | "add_rule", "dst_ip_address" => some ⟨"dst_ip", "dst_ip_address", fun own alt _ => aclAddress own alt⟩
  | "add_rule", "src_wildcard_mask" => some ⟨"src_wildcard_mask", "", fun own _ _ => optionalKey some .none own⟩
  | "add_rule", "dst_wildcard_mask" => some ⟨"dst_wildcard_mask", "", fun own _ _ => optionalKey some .none own⟩
  | "add_rule", "src_port" => some ⟨"src_port", "", fun own _ fn => truthyLookup (fn "PORT_LOOKUP[]") own⟩
  | "add_rule", "dst_port" => some ⟨"dst_port", "", fun own _ fn => truthyLookup (fn "PORT_LOOKUP[]") own⟩
  | "add_rule", "protocol" => some ⟨"protocol", "", fun own _ fn => truthyLookup (fn "PROTOCOL_LOOKUP[]") own⟩
  | "add_rule", "action" => some ⟨"action", "", fun own _ fn => requiredKey (fn "ACLAction[]") own⟩
  | "add_route", "address" => some ⟨"address", "", fun own _ fn => optionalKey (fn "IPv4Address") .none own⟩
  | "add_route", "next_hop_ip_address" => some ⟨"next_hop_ip_address", "", fun own _ fn => optionalKey (fn "IPv4Address") .none own⟩
  | "add_route", "subnet_mask" => some ⟨"subnet_mask", "", fun own _ fn => optionalKey (fn "IPv4Address") (.str "255.255.255.0" none) own⟩
  | "add_route", "metric" => some ⟨"metric", "", fun own _ fn => optionalKey (fn "float") (.int 0) own⟩
  | "configure_port", "ip_address" => some ⟨"ip_address", "", fun own _ _ => requiredKey some own⟩
  | "configure_port", "subnet_mask" => some ⟨"subnet_mask", "", fun own _ fn => optionalKey (fn "IPv4Address") (.str "255.255.255.0" none) own⟩
  | "NIC", "ip_address" => some ⟨"ip_address", "", fun own _ _ => requiredKey some own⟩
  | "NIC", "subnet_mask" => some ⟨"subnet_mask", "", fun own _ _ => requiredKey some own⟩
  | _, "ip_address" =>
      if function = "Firewall.from_config" ∧ callee ∈ ["configure_internal_port", "configure_external_port", "configure_dmz_port"]
      then some ⟨"ip_address", "", fun own _ fn => optionalKey (fn "IPV4Address") .none own⟩ else none
  | _, "subnet_mask" =>
      if function = "Firewall.from_config" ∧ callee ∈ ["configure_internal_port", "configure_external_port", "configure_dmz_port"]
      then some ⟨"subnet_mask", "", fun own _ fn => optionalKey (fn "IPV4Address") (.str "255.255.255.0" none) own⟩ else none
  | _, _ => none

/-- a translated row meets its specification: it reads exactly the specified keys and gives the specified value for EVERY value of
both keys (absent included) and every lookup table / constructor -/
def RowOk (r : KwRow) : Prop :=
  match kwSpec r.function r.callee r.keyword with
  | none => False
  | some s => r.ownKey = s.ownKey ∧ r.altKey = s.altKey ∧ ∀ own alt fn, r.f own alt fn = s.val own alt fn

theorem truthy_bool (b : Bool) : (PV.bool b).truthy = b := rfl
theorem truthy_none : PV.none.truthy = false := rfl

theorem truthyLookup_eq (c : PV → R) (own : Option PV) :
    Py.cond (Py.not (Py.get own)) (Py.lit .none) (Py.app c (Py.get own)) = truthyLookup c own := by
  cases own with
  | none => rfl
  | some v => cases h : v.truthy <;> simp only [Py.cond, Py.not, Py.get, Option.getD_some, Option.map_some, Option.bind_some, truthy_bool,
      h, Bool.not_true, Bool.not_false, Bool.false_eq_true, if_true, if_false, Py.lit, Py.app, truthyLookup]

/-! How the translated expressions read a key: `M[k]`, `M.get(k)` and `M.get(k, d)` hand the value on as written; a constructor or
table applied to such a reading is the same reading with that coercion. -/

theorem sub_eq_requiredKey (own : Option PV) : Py.sub own = requiredKey some own := by cases own <;> rfl
theorem get_eq_optionalKey (own : Option PV) : Py.get own = optionalKey some .none own := rfl
theorem getD_lit_eq_optionalKey (d : PV) (own : Option PV) : Py.getD own (Py.lit d) = optionalKey some d own := rfl
theorem app_requiredKey (c : PV → R) (own : Option PV) : Py.app c (requiredKey some own) = requiredKey c own := by cases own <;> rfl
theorem app_optionalKey (c : PV → R) (d : PV) (own : Option PV) : Py.app c (optionalKey some d own) = optionalKey c d own := rfl
theorem cond_not_optionalKey (c : PV → R) (own : Option PV) :
    Py.cond (Py.not (optionalKey some .none own)) (Py.lit .none) (optionalKey c .none own) = truthyLookup c own :=
  truthyLookup_eq c own
theorem getD_optionalKey (own alt : Option PV) : Py.getD own (optionalKey some .none alt) = aclAddress own alt := by
  cases own <;> cases alt <;> rfl

/-- **every keyword argument that `Router` / `Firewall` / `WirelessRouter.from_config` (and the `NIC(..)` call of
`PrimaiteGame.from_config`) read from the file is what `kwSpec` says** - in particular, in ALL the ACLs of all three loaders
(a row per distinct translated expression: a change to one of the six firewall ACLs adds a row), an address is
`the first declared spelling, else the second, else None`, for every value. -/
theorem C20_gen_kwargs_resolve : AllRows RowOk kwargTable := by
  -- `kwSpec` of each row is found by comparing string literals; what is left per row is one of the readings above
  simp only [kwargTable, AllRows, RowOk, kwSpec.eq_def, String.reduceEq, imp_self, List.mem_cons, List.not_mem_nil, or_false, or_true,
    and_self, ↓reduceIte, sub_eq_requiredKey, get_eq_optionalKey, getD_lit_eq_optionalKey, app_requiredKey, app_optionalKey,
    cond_not_optionalKey, getD_optionalKey, implies_true]

/-- the three router-like loaders each have their ACL address rows (non-vacuity of the theorem above on the rows that matter) -/
theorem C20_gen_kwargs_acl_rows_present :
    ["Router.from_config", "Firewall.from_config", "WirelessRouter.from_config"].all (fun f =>
      ["src_ip_address", "dst_ip_address", "src_port", "dst_port", "protocol", "action"].all (fun k =>
        kwargTable.any (fun r => r.function == f && r.callee == "add_rule" && r.keyword == k))) = true := by
  decide +kernel

/-- the semantic tie, spelled out: in every row of every loader that hands an ACL address to `add_rule`, the value is the first
declared spelling (for EVERY value, `None` and '' included), else the second, else `None` -/
theorem C20_acl_address_first_declared_spelling (r : KwRow) (h : r ∈ kwargTable) (hc : r.callee = "add_rule")
    (hk : r.keyword = "src_ip_address" ∨ r.keyword = "dst_ip_address") (own alt : Option PV) (fn : String → PV → R) :
    r.f own alt fn = (match own with | some v => some v | none => match alt with | some a => some a | none => some .none) ∧
    r.altKey = r.keyword ∧ (r.ownKey = "src_ip" ∨ r.ownKey = "dst_ip") := by
  have ok := AllRows.mem C20_gen_kwargs_resolve r h
  unfold RowOk at ok
  rw [hc] at ok
  have haddr : aclAddress own alt = (match own with | some v => some v | none => match alt with | some a => some a | none => some .none) := by
    cases own <;> cases alt <;> rfl
  rcases hk with hk | hk <;> rw [hk] at ok ⊢
  · exact ⟨(ok.2.2 own alt fn).trans haddr, ok.2.1, Or.inl ok.1⟩
  · exact ⟨(ok.2.2 own alt fn).trans haddr, ok.2.1, Or.inr ok.1⟩

/-- a loader that fell through a falsy first spelling (`r.get('src_ip') or r.get('src_ip_address')`) does not meet the specification -/
theorem C20_acl_address_or_rewrite_differs :
    ¬ ∀ own alt, Py.or (Py.get own) (Py.get alt) = aclAddress own alt := by
  intro h
  have := h (some (.str "" none)) (some (.str "10.0.0.2" none))
  revert this
  decide

example : aclAddress (some .none) (some (.str "10.0.0.2" none)) = some .none := by decide
example : aclAddress none (some (.str "10.0.0.2" none)) = some (.str "10.0.0.2" none) := by decide

end Primaite.ConfigResolve
