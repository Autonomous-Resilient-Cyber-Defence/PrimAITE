/-
Property C15: the method inventory.  EVERY method and property of `FileSystem`, `Folder`, `File` and `FileSystemItemABC`
is either modelled — and then some obligation reads its source (textual snapshot `C15_gen_source_snapshot`, statement
translation `C15_gen_restore_file` / `C15_gen_add_file` / `C15_gen_file_methods` / `C15_gen_folder_methods`, request trees) — or listed here as
NOT modelled with the reason.  A method added to one of the four classes breaks `C15_gen_method_inventory` until it is
classified; a method marked modelled that no extractor reads, or the other way round, breaks `C15_modelled_iff_tied`.
-/
import PrimaiteModel.Gen.FileSystem
import PrimaiteModel.Lemmas.FileSystemBasics
namespace Primaite.FileSystem

/-- (method, modelled?, where it lives in the model / why it is not modelled) in source order. -/
def methodTable : List (String × Bool × String) :=
  [("FileSystem.__init__", true, "init: the root folder"),
   ("FileSystem.setup_for_episode", true, "setupForEpisode: the episode starts with both counters at zero"),
   ("FileSystem._init_request_manager", true, "ofRequest / resolve; validators = the guards of step"),
   ("FileSystem.size", false, "sizes are not modelled"),
   ("FileSystem.show_num_files", false, "printing"),
   ("FileSystem.show", false, "printing"),
   ("FileSystem.create_folder", true, "createFolder"),
   ("FileSystem.delete_folder", true, "deleteFolder"),
   ("FileSystem.delete_folder_by_id", true, "apiDeleteFolderById"),
   ("FileSystem.get_folder", true, "getFolder"),
   ("FileSystem.get_folder_by_id", true, "the live-only lookup of the *_by_id API operations"),
   ("FileSystem.create_file", true, "createFile / apiCreateFile (file_type=None, no size)"),
   ("FileSystem.get_file", true, "getFile"),
   ("FileSystem.get_file_by_id", false, "pure lookup across folders; no caller in src/ and no effect"),
   ("FileSystem.delete_file", true, "deleteFile"),
   ("FileSystem.delete_file_by_id", true, "apiDeleteFileById"),
   ("FileSystem.move_file", true, "apiMoveFile"),
   ("FileSystem.copy_file", true, "apiCopyFile"),
   ("FileSystem.describe_state", true, "describe"),
   ("FileSystem.apply_timestep", true, "step .tick"),
   ("FileSystem.pre_timestep", true, "step .preTick / stepX .preTick"),
   ("FileSystem.scan", true, "scanAll: the instant_scan=True call of the node scan (the timed branch starts folder scans one by one and is not called from the node)"),
   ("FileSystem.reveal_to_red", true, "no structural effect: a plain loop over the live folders calling the (inert) Folder.reveal_to_red (round 7)"),
   ("FileSystem.restore_folder", true, "restoreFolder"),
   ("FileSystem.restore_file", true, "restoreFile"),
   ("FileSystem.access_file", true, "access / reqTouch"),
   ("Folder.__init__", false, "constructor: field defaults are tied by C15_gen_constants; _scanned_this_step is not modelled"),
   ("Folder._init_request_manager", true, "viaFolder continuations; validators = fileGuard"),
   ("Folder.describe_state", true, "Folder.describe"),
   ("Folder.show", false, "printing"),
   ("Folder.size", false, "sizes are not modelled"),
   ("Folder.apply_timestep", true, "restoringTimestep + ledger tick (scan countdown)"),
   ("Folder.pre_timestep", true, "stepX .preTick (num_access of live files)"),
   ("Folder._scan_timestep", true, "ledger: scanCd / tickTouch"),
   ("Folder._reveal_to_red_timestep", true, "no structural effect: checked to be structurally inert by the extractor (round 7)"),
   ("Folder._restoring_timestep", true, "Folder.restoringTimestep"),
   ("Folder.get_file", true, "Folder.getFile"),
   ("Folder.get_file_by_id", true, "uuid lookups of the *_by_id API operations and of the timestep loops"),
   ("Folder.add_file", true, "Folder.addFileApi (translated statement by statement)"),
   ("Folder.remove_file", true, "Folder.removeFile"),
   ("Folder.remove_file_by_id", true, "apiRemoveFileById"),
   ("Folder.remove_file_by_name", true, "Folder.removeFileByName"),
   ("Folder.remove_all_files", true, "Folder.removeAllFiles"),
   ("Folder.restore_file", true, "Folder.restoreFile (translated statement by statement)"),
   ("Folder.quarantine", false, "stub (pass)"),
   ("Folder.unquarantine", false, "stub (pass)"),
   ("Folder.quarantine_status", false, "stub (pass)"),
   ("Folder.scan", true, "Folder.verb .scan + ledger scanStart; instant branch = scanAll"),
   ("Folder.reveal_to_red", true, "no structural effect: checked to be structurally inert by the extractor (round 7)"),
   ("Folder.check_hash", true, "Folder.verb .checkhash (always False); translated"),
   ("Folder.repair", true, "Folder.verb .repair + reqTouch"),
   ("Folder.restore", true, "Folder.restore (translated with the folder's health)"),
   ("Folder.corrupt", true, "Folder.verb .corrupt + reqTouch"),
   ("Folder.delete", true, "the flag set by deleteFolder (translated)"),
   ("File.__init__", false, "constructor: file type, size and sim_path are not modelled"),
   ("File.path", false, "string property"),
   ("File.size", false, "sizes are not modelled"),
   ("File.apply_timestep", true, "no effect: checked to be structurally inert by the extractor (round 7)"),
   ("File.pre_timestep", true, "stepX .preTick (num_access := 0)"),
   ("File.describe_state", false, "health, size, type; the rig reads uuid and num_access from it"),
   ("File.scan", true, "File.verb .scan + touch (translated with health)"),
   ("File.reveal_to_red", true, "no structural effect: checked to be structurally inert by the extractor (round 7)"),
   ("File.check_hash", true, "File.verb .checkhash (always False); translated"),
   ("File.repair", true, "File.verb .repair + touch (translated with health)"),
   ("File.corrupt", true, "File.verb .corrupt + touch (translated with health)"),
   ("File.restore", true, "File.restore + touch (translated with health)"),
   ("File.delete", true, "File.delete + touch (translated with health)"),
   ("File.show", false, "printing"),
   ("FileSystemItemABC.describe_state", false, "health / visible status / hash / revealed_to_red are C14's and C09's"),
   ("FileSystemItemABC._init_request_manager", true, "the five item verbs (Verb, verbOf)"),
   ("FileSystemItemABC.size_str", false, "string property"),
   ("FileSystemItemABC.scan", false, "abstract: overridden by File and Folder"),
   ("FileSystemItemABC.reveal_to_red", false, "abstract: overridden by File and Folder"),
   ("FileSystemItemABC.check_hash", false, "abstract: overridden by File and Folder"),
   ("FileSystemItemABC.repair", false, "abstract: overridden by File and Folder"),
   ("FileSystemItemABC.corrupt", false, "abstract: overridden by File and Folder"),
   ("FileSystemItemABC.restore", false, "abstract: overridden by File and Folder"),
   ("FileSystemItemABC.delete", false, "abstract: overridden by File and Folder")]

/-- The inventory regenerated from the source is exactly the classified table: inventory = modelled ∪ listed-unmodelled. -/
theorem C15_gen_method_inventory : Gen.FileSystem.methodInventory = methodTable.map (·.1) := rfl

theorem filter_map_eq_map_filter {α β} (f : α → β) (p : α → Bool) (q : β → Bool) (t : List α)
    (h : ∀ r ∈ t, p r = q (f r)) : (t.filter p).map f = (t.map f).filter q := by
  rw [List.filter_map]
  exact congrArg (List.map f) (List.filter_congr h)

/-- A method is marked modelled exactly when one of the ties reads its source. -/
theorem C15_modelled_iff_tied :
    (methodTable.filter (·.2.1)).map (·.1) = (methodTable.map (·.1)).filter (fun m => Gen.FileSystem.tiedMethods.contains m) ∧
    Gen.FileSystem.tiedMethods.all (fun m => (methodTable.map (·.1)).contains m) = true := by
  refine ⟨filter_map_eq_map_filter _ _ _ _ ?_, List.all_eq_true.mpr ?_⟩
  · simp only [methodTable, List.forall_mem_cons]
    simp only [Gen.FileSystem.tiedMethods, List.contains_eq_mem, mem_cons_ite, List.not_mem_nil, String.reduceEq, ↓reduceIte,
      decide_true, decide_false, and_self, false_implies, implies_true]
  · simp only [Gen.FileSystem.tiedMethods, List.forall_mem_cons]
    simp only [methodTable, List.map, List.contains_eq_mem, mem_cons_ite, List.not_mem_nil, String.reduceEq, ↓reduceIte,
      decide_true, and_self, false_implies, implies_true]

end Primaite.FileSystem
