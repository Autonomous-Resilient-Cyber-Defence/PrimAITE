/-
C10, ground truth — "each component is evaluated on the POST-STEP STATE": which simulator quantity each component's leaf is.

`Model/RewardTruth.lean` models the simulator objects a reward component can reach and the `describe_state()` methods that
turn them into the dictionary (`describeT`).  Proved here, for every object graph (duplicate names included):

* `DatabaseFileIntegrity`: the leaf is the description of the LIVE `File` object `node/folder/file` (the last one of that name in
  the live folder of that name on the node of that hostname); the value is −1 / 1 / 0 by that object's `health_status` at the
  moment `describe_state()` is taken (end of the step); a deleted file, a file in a deleted folder, a missing node give 0;
* `WebServer404Penalty`: the leaf is the service object of that name on that node; the value is the average over that
  object's `response_codes_this_timestep` (cleared by `pre_timestep`, so: the responses of THIS step), else sticky / zero;
* `WebpageUnavailablePenalty`: the leaf is the application object named `web-browser` on that node; a recomputed value is
  decided by the LAST `BrowserHistoryItem` (response code if LOADED, else the status).

The rig evaluates the same specifications on the live Python objects (not through `describe_state()`) after every real step.
-/
import PrimaiteModel.Model.RewardTruth
import PrimaiteModel.Props.C10Calc
namespace Primaite.Reward

theorem lookup_dictInsert (d : List (PyKey × PyVal)) (k' : String) (v : PyVal) (k : String) :
    (dictInsert d k' v).lookup (.str k) = if k = k' then some v else d.lookup (.str k) := by
  have hmap : d.map (fun q => if q.1 = PyKey.str k' then (q.1, v) else q) =
      d.map (fun q => (q.1, if q.1 = PyKey.str k' then v else q.2)) :=
    List.map_congr_left (fun q _ => by split <;> rfl)
  unfold dictInsert
  by_cases hkk : k = k'
  · -- the inserted key: present before (then replaced in place) or appended
    subst hkk
    rw [if_pos rfl]
    cases hl : d.lookup (.str k) with
    | none =>
      have hany : d.any (fun q => q.1 == PyKey.str k) = false := by
        rw [List.any_eq_false]
        intro q hq
        have := List.lookup_eq_none_iff.mp hl q hq
        rw [bne_iff_ne] at this
        exact (Bool.not_eq_true _).mpr (beq_eq_false_iff_ne.mpr (fun e => this e.symm))
      rw [hany, if_neg Bool.false_ne_true, List.lookup_append, hl]
      simp
    | some x =>
      obtain ⟨q, hq, hqk⟩ := List.lookup_isSome_iff.mp (by rw [hl]; rfl : (d.lookup (.str k)).isSome)
      have hany : d.any (fun q => q.1 == PyKey.str k) = true :=
        List.any_eq_true.mpr ⟨q, hq, by rw [← eq_of_beq hqk]; exact beq_self_eq_true _⟩
      rw [hany, if_pos rfl, hmap, lookup_map_val (fun key old => if key = PyKey.str k then v else old), hl]
      simp
  · -- any other key: neither branch touches it
    have hne : PyKey.str k ≠ PyKey.str k' := fun e => hkk (PyKey.str.inj e)
    rw [if_neg hkk]
    split
    · rw [hmap, lookup_map_val (fun key old => if key = PyKey.str k' then v else old)]
      simp [hne]
    · rw [List.lookup_append]
      simp only [List.lookup_cons, List.lookup_nil, beq_eq_false_iff_ne.mpr hne, Option.or_none]

/-- what a dict comprehension `{name(x): g(x) for x in l}` holds under a key: the description of the LAST object of that name -/
theorem lookup_dictOf {α} (name : α → String) (g : α → PyVal) (l : List α) (k : String) :
    (dictOf (l.map (fun x => (name x, g x)))).lookup (.str k) = (lastNamed name l k).map g := by
  unfold dictOf
  have key : ∀ (l : List α) (d : List (PyKey × PyVal)),
      ((l.map (fun x => (name x, g x))).foldl (fun d kv => dictInsert d kv.1 kv.2) d).lookup (.str k) =
        match lastNamed name l k with
        | some x => some (g x)
        | none => d.lookup (.str k) := by
    intro l
    induction l with
    | nil => intro d; rfl
    | cons x xs ih =>
      intro d
      simp only [List.map_cons, List.foldl_cons, lastNamed]
      rw [ih]
      cases hl : lastNamed name xs k with
      | some y => rfl
      | none =>
        simp only
        rw [lookup_dictInsert]
        by_cases h : name x = k
        · simp [h]
        · have : ¬ k = name x := fun e => h e.symm
          simp [h, this]
  rw [key l []]
  cases lastNamed name l k <;> rfl

theorem access_dict (kvs : List (PyKey × PyVal)) (k : String) (ks : List String) :
    PyVal.access (.dict kvs) (k :: ks) = match kvs.lookup (.str k) with
      | some v => PyVal.access v ks
      | none => .ok .notPresent := by
  rw [PyVal.access]
  cases List.lookup (PyKey.str k) kvs <;> rfl

@[simp] theorem pykey_str_beq (a b : String) : (PyKey.str a == PyKey.str b) = (a == b) :=
  Bool.eq_iff_iff.mpr (by simp only [beq_iff_eq, PyKey.str.injEq])

/-- the common start `network / nodes / <hostname>` of every component's path: on to the description of that node -/
theorem access_describeT (t : Truth) (n : Name) (rest : List String) :
    PyVal.access (describeT t) ("network" :: "nodes" :: n :: rest) =
      match t.node n with
      | some nd => PyVal.access (describeNode nd) rest
      | none => .ok .notPresent := by
  simp only [describeT, access_dict, List.lookup, beq_self_eq_true]
  rw [lookup_dictOf (·.hostname) describeNode]
  unfold Truth.node
  cases lastNamed (·.hostname) t.nodes n <;> rfl

/-- the leaf `DatabaseFileIntegrity` fetches from the described state IS the description of the live `File` object -/
theorem C10_file_leaf_is_live_file (t : Truth) (n fo fi : Name) :
    PyVal.access (describeT t) (fileLoc n fo fi) =
      .ok (match t.liveFile n fo fi with
           | some f => describeFile f
           | none => .notPresent) := by
  unfold Truth.liveFile fileLoc
  rw [access_describeT]
  cases t.node n with
  | none => rfl
  | some nd =>
    simp [describeNode, access_dict, List.lookup]
    rw [lookup_dictOf (·.name) describeFolder]
    cases lastNamed (·.name) nd.folders fo with
    | none => rfl
    | some fd =>
      simp [describeFolder, access_dict, List.lookup]
      rw [lookup_dictOf (·.name) describeFile]
      cases lastNamed (·.name) fd.files fi with
      | none => rfl
      | some f => simp [access_nil_any]

theorem healthValue_int (h : Nat) : healthValue (.int (Int.ofNat h)) = if h = 2 then -1 else if h = 1 then 1 else 0 := by
  have e2 : Int.ofNat h = 2 ↔ h = 2 := by rw [Int.ofNat_eq_natCast]; omega
  have e1 : Int.ofNat h = 1 ↔ h = 1 := by rw [Int.ofNat_eq_natCast]; omega
  simp only [healthValue, pyEq_int_int, decide_eq_true_eq, e2, e1]

/-- **`DatabaseFileIntegrity` on the objects.** Evaluated on the described state, the component never raises and returns −1 if
the live `File` object `node/folder/file` is CORRUPT (2), 1 if it is GOOD (1), 0 for any other health, and 0 when there is no
such live file (deleted, in a deleted folder, or no such node / folder). -/
theorem C10_file_value_is_live_health (t : Truth) (n fo fi : Name) :
    calcFileE (describeT t) n fo fi =
      .ok (match t.liveFile n fo fi with
           | some f => if f.health = 2 then -1 else if f.health = 1 then 1 else 0
           | none => 0) := by
  unfold calcFileE
  rw [C10_file_leaf_is_live_file]
  cases t.liveFile n fo fi with
  | none => rfl
  | some f =>
    simp only [describeFile, PyVal.isNotPresent, Bool.false_eq_true, if_false, PyVal.getItem, List.lookup]
    have h1 : (PyKey.str "health_status" == PyKey.str "name") = false := by decide
    simp only [h1, beq_self_eq_true]
    rw [healthValue_int]

/-- non-vacuity: a corrupt live file is −1; the same file once deleted (moved to `deleted_files`) is 0 -/
example :
    let live : Truth := { nodes := [{ hostname := "srv", folders := [{ name := "database", files := [{ name := "database.db", health := 2 }] }] }] }
    let gone : Truth := { nodes := [{ hostname := "srv", folders := [{ name := "database", files := [], deletedFiles := [{ name := "database.db", health := 2 }] }] }] }
    (calcFileE (describeT live) "srv" "database" "database.db").toOption = some (-1) ∧
    (calcFileE (describeT gone) "srv" "database" "database.db").toOption = some 0 := by decide +kernel

theorem C10_web404_leaf_is_live_service (t : Truth) (n sv : Name) :
    PyVal.access (describeT t) (web404Loc n sv) =
      .ok (match t.service n sv with
           | some s => describeService s
           | none => .notPresent) := by
  unfold Truth.service web404Loc
  rw [access_describeT]
  cases t.node n with
  | none => rfl
  | some nd =>
    simp [describeNode, access_dict, List.lookup]
    rw [lookup_dictOf (·.name) describeService]
    cases lastNamed (·.name) nd.services sv with
    | none => rfl
    | some s => simp [access_nil_any]

/-- **`WebServer404Penalty` on the objects.** No such service on the node: 0, memory untouched. A web server that answered
requests in this step (`response_codes_this_timestep` non-empty at the end of the step): the average of +1 (200) / −1 (404) /
0 over THOSE responses, remembered. Otherwise (no response this step, or a service that is not a web server): the memory if
sticky, else 0. It never raises. -/
theorem C10_web404_value_is_live_codes (t : Truth) (n sv : Name) (st : Bool) (m : Val) :
    calcWeb404E (describeT t) n sv st m =
      .ok (match t.service n sv with
           | none => (0, m)
           | some s =>
             match s.codes with
             | some (c :: cs) =>
               let avg := (((c :: cs).map (fun x => status2rew (.int (Int.ofNat x)))).sum) / (((c :: cs).length : Nat) : Rat)
               (avg, avg)
             | _ => if st then (m, m) else (0, 0)) := by
  unfold calcWeb404E
  rw [C10_web404_leaf_is_live_service]
  cases t.service n sv with
  | none => rfl
  | some s =>
    obtain ⟨nm, codes⟩ := s
    cases codes with
    | none => cases st <;> rfl
    | some cs =>
      cases cs with
      | nil => cases st <;> rfl
      | cons c rest =>
        simp only [describeService, PyVal.isNotPresent, Bool.false_eq_true, if_false, PyVal.get, List.lookup]
        have h1 : (PyKey.str "response_codes_this_timestep" == PyKey.str "operating_state") = false := by decide
        simp only [h1, beq_self_eq_true, Option.getD, List.map_cons, PyVal.truthy, List.isEmpty_cons, Bool.not_false, if_true,
          PyVal.avgTable, status2rew, List.length_cons, List.length_map, List.map_map]
        rfl

theorem C10_webpage_leaf_is_live_browser (t : Truth) (n : Name) :
    PyVal.access (describeT t) (webpageLoc n) =
      .ok (match t.browser n with
           | some a => describeApp a
           | none => .notPresent) := by
  unfold Truth.browser webpageLoc
  rw [access_describeT]
  cases t.node n with
  | none => rfl
  | some nd =>
    simp [describeNode, access_dict, List.lookup]
    rw [lookup_dictOf (·.name) describeApp]
    cases lastNamed (·.name) nd.apps "web-browser" with
    | none => rfl
    | some a => simp [access_nil_any]

/-- the reward of one `BrowserHistoryItem`: a loaded page counts by its response code (200 → 1, anything else → −1), a request
still PENDING counts 0, any other status (SERVER_UNREACHABLE, NOT_SENT) −1 -/
def entryReward : BrowserEntry → Val
  | .loaded c => if c = 200 then 1 else -1
  | .notLoaded s => if s = "PENDING" then 0 else -1

theorem outcomeReward_entry (e : BrowserEntry) : outcomeReward (entryOutcome e) = entryReward e := by
  cases e with
  | loaded c =>
    have e200 : Int.ofNat c = 200 ↔ c = 200 := by rw [Int.ofNat_eq_natCast]; omega
    have hp : PyVal.pyEq (.int (Int.ofNat c)) (.str "PENDING") = false := rfl
    simp only [outcomeReward, entryOutcome, entryReward, pyEq_int_int, hp, decide_eq_true_eq, e200, Bool.false_eq_true, if_false]
  | notLoaded s =>
    have h200 : PyVal.pyEq (.str s) (.int 200) = false := rfl
    simp only [outcomeReward, entryOutcome, entryReward, pyEq_str_str, h200, beq_iff_eq, Bool.false_eq_true, if_false]

/-- **`WebpageUnavailablePenalty` on the objects**, for a node whose `web-browser` application (if any) is a web browser.
Without a new browser request by this agent: the memory if sticky (reset to 0 when the node has no such application), else 0.
With one: −1 if the request was refused; otherwise 0 if there is no browser or its history is empty, else the reward of the
LAST history item as it stands at the end of the step. -/
theorem C10_webpage_value_is_live_history (t : Truth) (it : Item) (n : Name) (st : Bool) (m : Val)
    (hb : ∀ a, t.browser n = some a → a.history ≠ none) :
    calcWebpageE (describeT t) it n st m =
      .ok (if !it.requestIs (browserRequest n) then
             (if st then (if (t.browser n).isNone then 0 else m) else 0)
           else if !it.ok then -1
           else match (t.browser n).bind (·.history) with
             | none => 0
             | some h => match h.getLast? with
               | none => 0
               | some e => entryReward e) := by
  unfold calcWebpageE
  rw [C10_webpage_leaf_is_live_browser]
  cases hbr : t.browser n with
  | none =>
    simp only [PyVal.isNotPresent, if_true, Option.isNone_none, webpageFreshE, Option.bind_none]
    by_cases hr : it.requestIs (browserRequest n) = true
    · by_cases hok : it.ok = true <;> simp [hr, hok]
    · cases st <;> simp [hr]
  | some a =>
    obtain ⟨nm, hist⟩ := a
    cases hist with
    | none => exact absurd rfl (hb _ hbr)
    | some h =>
      simp only [describeApp, PyVal.isNotPresent, Bool.false_eq_true, if_false, Option.isNone_some, webpageFreshE,
        Option.bind_some, PyVal.getItem, List.lookup]
      have h1 : (PyKey.str "history" == PyKey.str "operating_state") = false := by decide
      simp only [h1, beq_self_eq_true]
      by_cases hr : it.requestIs (browserRequest n) = true
      · by_cases hok : it.ok = true
        · simp only [hr, hok, Bool.not_true, Bool.false_eq_true, if_false]
          cases hl : h.getLast? with
          | none =>
            have : h = [] := List.getLast?_eq_none_iff.mp hl
            subst this
            simp [PyVal.truthy]
          | some e =>
            have hne : h ≠ [] := by intro e0; subst e0; simp at hl
            have htr : (PyVal.list (h.map (fun e => PyVal.dict [(PyKey.str "url", PyVal.str ""), (PyKey.str "outcome", entryOutcome e)]))).truthy = true := by
              cases h with
              | nil => exact absurd rfl hne
              | cons _ _ => simp [PyVal.truthy]
            simp only [htr, Bool.not_true, Bool.false_eq_true, if_false, PyVal.last, List.getLast?_map, hl, Option.map_some,
              List.lookup]
            have h2 : (PyKey.str "outcome" == PyKey.str "url") = false := by decide
            simp only [h2, beq_self_eq_true, outcomeReward_entry]
        · simp [hr, hok]
      · cases st <;> simp [hr]

/-- non-vacuity: a browser whose last page came back 404 after an earlier 200 -/
example :
    let t : Truth := { nodes := [{ hostname := "pc1", apps := [{ name := "web-browser", history := some [.loaded 200, .loaded 404] }] }] }
    let it : Item := { action := "node-application-execute", request := PyVal.strs (browserRequest "pc1"), status := "success" }
    (∀ a, t.browser "pc1" = some a → a.history ≠ none) ∧ (calcWebpageE (describeT t) it "pc1" false 0).toOption = some (-1) := by
  constructor
  · intro a h
    simp [Truth.browser, Truth.node, lastNamed] at h
    subst h
    simp
  · decide +kernel

end Primaite.Reward
