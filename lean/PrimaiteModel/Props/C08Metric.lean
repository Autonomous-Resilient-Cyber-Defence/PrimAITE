/-
C08, part 11 — float metrics (`inf`, `-inf`, `nan`).  On finite metrics the float loop IS the integer loop of `Model/Route.lean`,
so every route-selection theorem carries over; `inf` behaves as the largest metric; `nan` breaks "lowest metric on ties"
(finding F-C08-r4-1, fixed by a validator on `RouteEntry`): `C08_float_best_spec` holds for every table, the total-order
statement `C08_float_cheapest_constructible` for every table without `nan` (= every constructible one), and the three-entry
counterexample remains as a statement about unvalidated entries.
-/
import PrimaiteModel.Model.RouteMetric
import PrimaiteModel.Gen.Forward
namespace Primaite.Route

def Route.toM (r : Route) : RouteM := { addr := r.addr, mask := r.mask, nextHop := r.nextHop, metric := .fin r.metric }
def lowToM : Option Int → Metric
  | none => .inf
  | some l => .fin l
def Acc.toM (a : Acc) : AccM := { best := a.best.map (fun x => (x.1, x.2.toM)), longest := a.longest, lowest := lowToM a.lowest }

theorem ltLowest_toM (m : Int) (lo : Option Int) : ltLowest m lo = (Metric.fin m).lt (lowToM lo) := by
  cases lo <;> rfl

theorem iter_toM (dst : Ip) (acc : Acc) (i : Nat) (r : Route) :
    iterM dst acc.toM i r.toM = (iter dst acc i r).map Acc.toM := by
  unfold iterM iter
  show (match maskPrefix r.mask with | none => none | some p => if inNet dst r.addr p then _ else _) = _
  cases maskPrefix r.mask with
  | none => rfl
  | some p =>
    have hc : (decide ((p : Int) > acc.toM.longest) || ((p : Int) == acc.toM.longest && r.toM.metric.lt acc.toM.lowest)) =
        betterCond p acc.longest r.metric acc.lowest := by
      simp only [betterCond, ltLowest_toM]; rfl
    simp only [hc]
    cases inNet dst r.addr p <;> cases betterCond p acc.longest r.metric acc.lowest <;> rfl

theorem scan_toM (dst : Ip) (rs : List Route) (i : Nat) (acc : Acc) :
    scanM dst (rs.map Route.toM) i acc.toM = (scan dst rs i acc).map Acc.toM := by
  induction rs generalizing i acc with
  | nil => rfl
  | cons r rs ih =>
    simp only [List.map_cons, scanM, scan]
    rw [iter_toM]
    cases iter dst acc i r with
    | none => rfl
    | some acc' => exact ih (i + 1) acc'

/-- **Finite metrics: the float loop is the integer loop.**  Hence `C08_best_matches / _longest / _cheapest /
_first_among_equals / _unique / _raised_iff` hold verbatim for tables of finite float metrics. -/
theorem C08_metric_finite_agrees (t : Table) (dst : Ip) :
    findBestM (t.routes.map Route.toM) dst =
      match findBestRoute t dst with
      | .raised => none
      | .route i r => some (some (i, r.toM))
      | _ => some none := by
  unfold findBestM findBestRoute
  rw [show scanM dst (t.routes.map Route.toM) 0 {} = _ from scan_toM dst t.routes 0 {}]
  cases scan dst t.routes 0 {} with
  | none => rfl
  | some acc =>
    simp only [Option.map_some, Acc.toM]
    cases acc.best with
    | none => cases t.default <;> rfl
    | some x => rfl

/-- the property's clause for tie-breaking, on float metrics: among covering entries of the winning prefix no entry is
strictly cheaper (Python `<`) than the selected one. -/
def C08_Full_float_cheapest : Prop :=
  ∀ (rs : List RouteM) (dst : Ip) (i : Nat) (r : RouteM), findBestM rs dst = some (some (i, r)) →
    ∀ r' ∈ rs, maskPrefix r'.mask = maskPrefix r.mask → (∃ p, maskPrefix r'.mask = some p ∧ inNet dst r'.addr p = true) →
      r'.metric.lt r.metric = false

def nanA : RouteM := { addr := 0x0A010200#32, mask := 0xFFFFFF00#32, nextHop := 0x01010101#32, metric := .nan }
def nanB : RouteM := { addr := 0x0A010200#32, mask := 0xFFFFFF00#32, nextHop := 0x01010102#32, metric := .fin 0 }
def nanC : RouteM := { addr := 0x0A010200#32, mask := 0xFFFFFF00#32, nextHop := 0x01010103#32, metric := .fin (-4) }

/-- **`nan` breaks the tie-break** for UNVALIDATED entries (F-C08-r4-1, fixed: `RouteEntry` refuses a `nan` metric, so no
constructible table contains one; the counterexample stays as the reason for the validator).  With Python's `<` the clause above is vacuous for a selected `nan` entry
(nothing is `< nan`), so the statement is put on what IS comparable: every covering FINITE entry of the winning prefix is at
least as expensive as the selected one, which is finite too.  `[nan, 0, -4]` refutes it: the `nan` entry is selected first
(`prefix > -1`), becomes `lowest_metric`, and neither `0 < nan` nor `-4 < nan` holds — both cheaper entries are ignored. -/
def C08_Full_float_cheapest_finite : Prop :=
  ∀ (rs : List RouteM) (dst : Ip) (i : Nat) (r : RouteM), findBestM rs dst = some (some (i, r)) →
    ∀ r' ∈ rs, ∀ x, r'.metric = .fin x → maskPrefix r'.mask = maskPrefix r.mask →
      (∃ p, maskPrefix r'.mask = some p ∧ inNet dst r'.addr p = true) → ∃ y, r.metric = .fin y ∧ y ≤ x

theorem C08_float_cheapest_counterexample : ¬ C08_Full_float_cheapest_finite := by
  intro h
  have := h [nanA, nanB, nanC] 0x0A010205#32 0 nanA (by decide) nanB (by decide) 0 rfl rfl ⟨24, by decide, by decide⟩
  obtain ⟨y, hy, _⟩ := this
  cases hy

def CovM (dst : Ip) (r : RouteM) (p : Nat) : Prop := maskPrefix r.mask = some p ∧ inNet dst r.addr p = true

/-- loop invariant of the float loop after the entries `pre`. -/
def InvM (dst : Ip) (pre : List RouteM) (acc : AccM) : Prop :=
  match acc.best with
  | none => acc.longest = -1 ∧ ∀ r ∈ pre, ∀ p, ¬ CovM dst r p
  | some (_, b) => ∃ p : Nat, CovM dst b p ∧ acc.longest = p ∧ acc.lowest = b.metric ∧ b ∈ pre ∧
      ∀ r ∈ pre, ∀ p', CovM dst r p' → p' ≤ p ∧ (p' = p → r.metric.lt b.metric = false)

/-- Python's `<` is transitive where it holds at all (a `nan` never takes part in a true comparison). -/
theorem Metric.lt_trans {a b c : Metric} (h1 : a.lt b = true) (h2 : b.lt c = true) : a.lt c = true := by
  cases a <;> cases b <;> cases c <;> simp [Metric.lt] at h1 h2 ⊢ <;> omega

/-- what the invariant says of every earlier entry without naming the best one: none reaches further than `longest`, and none of
that length is strictly cheaper than `lowest`. -/
theorem InvM.bound {dst : Ip} {pre : List RouteM} {acc : AccM} (hinv : InvM dst pre acc) :
    ∀ r ∈ pre, ∀ p', CovM dst r p' → (p' : Int) ≤ acc.longest ∧ ((p' : Int) = acc.longest → r.metric.lt acc.lowest = false) := by
  intro r hr p' hc'
  unfold InvM at hinv
  split at hinv
  · exact absurd hc' (hinv.2 r hr p')
  · obtain ⟨q, _, hl, hlow, _, hall⟩ := hinv
    obtain ⟨h1, h2⟩ := hall r hr p' hc'
    rw [hl, hlow]
    exact ⟨Int.ofNat_le.2 h1, fun h => h2 (Int.ofNat.inj h)⟩

/-- an entry that the loop does not take (not covering, or neither longer nor strictly cheaper at equal length) keeps the invariant. -/
theorem InvM.keep {dst : Ip} {pre : List RouteM} {acc : AccM} {r : RouteM} (hinv : InvM dst pre acc)
    (hr : ∀ p', CovM dst r p' → (p' : Int) ≤ acc.longest ∧ ((p' : Int) = acc.longest → r.metric.lt acc.lowest = false)) :
    InvM dst (pre ++ [r]) acc := by
  unfold InvM at hinv ⊢
  simp only [List.forall_mem_append, List.forall_mem_singleton]
  cases hbest : acc.best with
  | none =>
    rw [hbest] at hinv
    refine ⟨hinv.1, hinv.2, fun p' hc' => ?_⟩
    have := (hr p' hc').1
    rw [hinv.1] at this
    omega
  | some x =>
    rw [hbest] at hinv
    obtain ⟨q, hcb, hl, hlow, hmem, hall⟩ := hinv
    refine ⟨q, hcb, hl, hlow, List.mem_append_left _ hmem, hall, fun p' hc' => ?_⟩
    obtain ⟨h1, h2⟩ := hr p' hc'
    rw [hl] at h1 h2
    rw [hlow] at h2
    exact ⟨Int.ofNat_le.1 h1, fun h => h2 (congrArg _ h)⟩

theorem iterM_inv (dst : Ip) (pre : List RouteM) (acc : AccM) (i : Nat) (r : RouteM) (acc' : AccM)
    (hinv : InvM dst pre acc) (h : iterM dst acc i r = some acc') : InvM dst (pre ++ [r]) acc' := by
  unfold iterM at h
  split at h
  · cases h
  next p hm =>
    have hp : ∀ p', CovM dst r p' → p = p' := fun p' hc' => Option.some.inj (hm.symm.trans hc'.1)
    split at h
    next hin =>
      split at h
      next hb =>
        -- the entry is taken: longer than everything before, or as long and strictly cheaper than the best so far
        cases h
        simp only [Bool.or_eq_true, decide_eq_true_eq, Bool.and_eq_true, beq_iff_eq] at hb
        refine ⟨p, ⟨hm, hin⟩, rfl, rfl, by simp, ?_⟩
        simp only [List.forall_mem_append, List.forall_mem_singleton]
        refine ⟨fun r' hr' p' hc' => ?_, fun p' hc' => ?_⟩
        · obtain ⟨hle, heq⟩ := hinv.bound r' hr' p' hc'
          rcases hb with hb | ⟨hb1, hb2⟩
          · exact ⟨by omega, fun h => by omega⟩
          · refine ⟨by omega, fun h => ?_⟩
            have h1 := heq (by omega)
            cases hlt : r'.metric.lt r.metric with
            | false => rfl
            | true => rw [Metric.lt_trans hlt hb2] at h1; cases h1
        · cases hp p' hc'
          exact ⟨Nat.le_refl _, fun _ => by cases r.metric <;> simp [Metric.lt]⟩
      next hb =>
        cases h
        simp only [Bool.or_eq_true, decide_eq_true_eq, Bool.and_eq_true, beq_iff_eq, not_or, not_and] at hb
        refine hinv.keep (fun p' hc' => ?_)
        cases hp p' hc'
        exact ⟨by omega, fun he => by simpa using hb.2 he⟩
    next hin =>
      cases h
      refine hinv.keep (fun p' hc' => ?_)
      cases hp p' hc'
      exact absurd hc'.2 hin

theorem scanM_inv (dst : Ip) (rs : List RouteM) : ∀ (pre : List RouteM) (i : Nat) (acc acc' : AccM),
    InvM dst pre acc → scanM dst rs i acc = some acc' → InvM dst (pre ++ rs) acc' := by
  induction rs with
  | nil => intro pre i acc acc' h hs; simp only [scanM, Option.some.injEq] at hs; subst hs; simpa using h
  | cons r rs ih =>
    intro pre i acc acc' h hs
    simp only [scanM] at hs
    split at hs
    · cases hs
    next a1 hi => simpa using ih (pre ++ [r]) (i + 1) a1 acc' (iterM_inv dst pre acc i r a1 h hi) hs

/-- **Longest prefix, then no strictly cheaper entry — for EVERY table of float metrics** (`nan` included, unconditional):
the selected entry covers the destination; no covering entry has a longer prefix; no covering entry of the same prefix is
strictly cheaper in Python's `<`. -/
theorem C08_float_best_spec (rs : List RouteM) (dst : Ip) (i : Nat) (r : RouteM) (h : findBestM rs dst = some (some (i, r))) :
    ∃ p, CovM dst r p ∧ r ∈ rs ∧ ∀ r' ∈ rs, ∀ p', CovM dst r' p' → p' ≤ p ∧ (p' = p → r'.metric.lt r.metric = false) := by
  obtain ⟨acc, hs, hb⟩ := Option.map_eq_some_iff.1 h
  have hinv := scanM_inv dst rs [] 0 {} acc (by unfold InvM; exact ⟨rfl, by intro r hr; cases hr⟩) hs
  unfold InvM at hinv
  rw [hb, List.nil_append] at hinv
  obtain ⟨p, hc, _, _, hmem, hall⟩ := hinv
  exact ⟨p, hc, hmem, hall⟩

/-- the total order of float metrics without `nan`: `-inf ≤ finite ≤ inf`. -/
def Metric.le : Metric → Metric → Bool
  | .ninf, _ => true
  | _, .inf => true
  | .fin a, .fin b => decide (a ≤ b)
  | _, _ => false

theorem Metric.le_of_not_lt {a b : Metric} (ha : a ≠ .nan) (hb : b ≠ .nan) (h : b.lt a = false) : a.le b = true := by
  cases a <;> cases b <;> simp [Metric.lt, Metric.le] at h ha hb ⊢ <;> omega

/-- **Lowest metric on ties, for every CONSTRUCTIBLE table** (metrics are never `nan`: `RouteEntry` refuses it, Gen obligation
`routeMetricRejectsNaN`; `inf` and `-inf` allowed): the selected entry's metric is `≤` the metric of every covering entry of
the same prefix, in the total order `-inf ≤ finite ≤ inf`. -/
theorem C08_float_cheapest_constructible (rs : List RouteM) (hnn : ∀ r ∈ rs, r.metric ≠ .nan) (dst : Ip) (i : Nat) (r : RouteM)
    (h : findBestM rs dst = some (some (i, r))) :
    ∃ p, CovM dst r p ∧ ∀ r' ∈ rs, CovM dst r' p → r.metric.le r'.metric = true := by
  obtain ⟨p, hc, hmem, hall⟩ := C08_float_best_spec rs dst i r h
  exact ⟨p, hc, fun r' hr' hc' => Metric.le_of_not_lt (hnn r hmem) (hnn r' hr') ((hall r' hr' p hc').2 rfl)⟩

/-- … in particular the finite statement that `nan` refuted holds for every constructible table without `-inf`. -/
theorem C08_float_cheapest_finite_constructible (rs : List RouteM) (hnn : ∀ r ∈ rs, r.metric ≠ .nan ∧ r.metric ≠ .ninf)
    (dst : Ip) (i : Nat) (r : RouteM) (h : findBestM rs dst = some (some (i, r))) :
    ∀ r' ∈ rs, ∀ x, r'.metric = .fin x → maskPrefix r'.mask = maskPrefix r.mask →
      (∃ p, maskPrefix r'.mask = some p ∧ inNet dst r'.addr p = true) → ∃ y, r.metric = .fin y ∧ y ≤ x := by
  intro r' hr' x hx hmask ⟨p', hm', hin'⟩
  obtain ⟨p, hc, hmem, hall⟩ := C08_float_best_spec rs dst i r h
  have hpp : p' = p := Option.some.inj (hm'.symm.trans (hmask.trans hc.1))
  subst hpp
  have hlt := (hall r' hr' p' ⟨hm', hin'⟩).2 rfl
  have hr := hnn r hmem
  rw [hx] at hlt
  cases hmr : r.metric with
  | fin y => exact ⟨y, rfl, by rw [hmr] at hlt; simpa [Metric.lt] using hlt⟩
  | inf => rw [hmr] at hlt; simp [Metric.lt] at hlt
  | ninf => exact absurd hmr hr.2
  | nan => exact absurd hmr hr.1

/-- Gen obligation: `RouteEntry` has `@field_validator("metric")` raising `ValueError` when `v != v`. -/
theorem C08_gen_metric_validated : Gen.Forward.routeMetricRejectsNaN = true := by decide

/-- `inf` is harmless: it is the largest metric, an `inf` entry is selected only when nothing cheaper of its prefix exists
(the general statement is `C08_float_cheapest_constructible`, where `inf` is the top of `Metric.le`). -/
example : findBestM [{ nanA with metric := .inf }, nanB] 0x0A010205#32 = some (some (1, nanB)) := by decide
example : findBestM [nanB, { nanA with metric := .inf }] 0x0A010205#32 = some (some (0, nanB)) := by decide
example : findBestM [{ nanA with metric := .inf }, { nanC with metric := .inf }] 0x0A010205#32 =
    some (some (0, { nanA with metric := .inf })) := by decide
example : findBestM [nanB, { nanA with metric := .ninf }] 0x0A010205#32 = some (some (1, { nanA with metric := .ninf })) := by decide
/-- `nan` first: selected and never replaced; `nan` later: never selected. -/
example : findBestM [nanA, nanB, nanC] 0x0A010205#32 = some (some (0, nanA)) := by decide
example : findBestM [nanB, nanA] 0x0A010205#32 = some (some (0, nanB)) := by decide

end Primaite.Route
