/-
C16 — which session-ending event works in which service state (class of seeded change C16-e and of finding F-C16-b / F-47).

    event                                   needs                                          theorem
    --------------------------------------  ---------------------------------------------  ------------------------------------------
    inactivity time-out (remote, local)     NOTHING: any power state of the node, any      C16_session_ends_at_timeout,
                                            state of user-session-manager / user-manager   C16_local_session_ends_at_timeout,
                                            / terminal                                     C16_timed_out_session_runs_nothing
    change_password (ends all the user's    node ON ∧ user-manager RUNNING ∧ old password  C16_password_change_works_iff,
    sessions, forced)                       (NOT: user-session-manager, terminal)          C16_password_change_ends_sessions (Props/C16)
    direct remote_logout request            node ON ∧ user-session-manager RUNNING         C16_direct_logout_iff, C16_direct_logout_ends_session
    local logout                            node ON ∧ user-session-manager RUNNING         C16_local_logout_iff
    client remote_logoff (message reaches   target: user-session-manager RUNNING, else     C16_remote_logout_hop_needs_manager,
    the target)                             the session STAYS listed until its time-out    C16_remote_logout_hop_ends_session
                                            — but the target's connection is dropped        (+ kernel-evaluated rows below)

The time-out is the only ending event that needs no service at all: `_timeout_session` edits the tables itself and never goes through
`_logout` / `_can_perform_action` (`C16_gen_timeout_path`), and `Node.pre_timestep` hands every service its `pre_timestep` whatever
the node's or the service's state.
-/
import PrimaiteModel.Props.C16Local
import PrimaiteModel.Props.C16Timeout
namespace Primaite.Session

/-! ### translator tie -/

/-- **C16, the time-out path is the forced one.** `_timeout_session` as written: for a local session `self.local_session = None`, for
a remote one `remote_sessions.pop`, `terminal._connections.pop(…, None)` and the `user_timeout` message — its only calls are these
(and the log line): no `_logout`, no `_can_perform_action`, so the state of the service cannot stop it; `Node.pre_timestep` calls the
`pre_timestep` of every service unconditionally; the only non-forced `_logout` calls are the ones behind `local_logout` /
`remote_logout`, the forced ones those of `_logout_user`.  (That `pre_timestep` decides and hands the sessions to `_timeout_session`
whatever the service's state is not compared as text: the method is translated, `C16_gen_pre_timestep` in Props/C16Tr.lean.) -/
theorem C16_gen_timeout_path :
    Gen.Session.timeoutSessionBody =
      ["session.end_step = self.current_timestep", "session_identity = session.user.username", "if session.local:",
       "self.local_session = None", "session_type = 'Local'", "else:", "self.remote_sessions.pop(session.uuid)",
       "session_type = 'Remote'", "session_identity = f'{session_identity} {session.remote_ip_address}'",
       "self.parent.terminal._connections.pop(session.uuid, None)", "software_manager: SoftwareManager = self.software_manager",
       "software_manager.send_payload_to_session_manager(payload={'type': 'user_timeout', 'connection_id': session.uuid}, dest_port=PORT_LOOKUP['SSH'], dest_ip_address=session.remote_ip_address)"] ∧
    Gen.Session.timeoutSessionCalls =
      ["self.parent.terminal._connections.pop", "self.remote_sessions.pop", "self.sys_log.info",
       "software_manager.send_payload_to_session_manager"] ∧
    Gen.Session.nodePreTimestep =
      ["super().pre_timestep(timestep)", "for network_interface in self.network_interfaces.values():",
       "network_interface.pre_timestep(timestep=timestep)", "for process_id in self.processes:",
       "self.processes[process_id].pre_timestep(timestep=timestep)", "for service_id in self.services:",
       "self.services[service_id].pre_timestep(timestep=timestep)", "for application_id in self.applications:",
       "self.applications[application_id].pre_timestep(timestep=timestep)", "self.file_system.pre_timestep(timestep=timestep)"] ∧
    Gen.Session.logoutCalls =
      ["_init_request_manager: self.remote_logout(remote_session_id=request[0])", "_login: self.local_logout()",
       "local_logout: self._logout(local=True)", "remote_logout: self._logout(local=False, remote_session_id=remote_session_id)",
       "_logout_user: self._logout(local=False, remote_session_id=sess_id, force=True)",
       "_logout_user: self._logout(local=True, force=True)"] :=
  ⟨rfl, rfl, rfl, rfl⟩

/-! ### row 1: the inactivity time-out needs nothing -/

/-- **C16, time-out (the ending event that needs nothing).** Whatever the power state of node `y` and whatever the operating states
of its user-session-manager, user-manager and terminal (nothing about them is assumed): a remote session with
`last + remote_session_timeout_steps ≤ t + 1` is, after the tick to `t + 1`, neither a remote session of `y` nor a connection of
`y`'s terminal (no record with that id is left in either table). -/
theorem C16_session_ends_at_timeout (n : Net) (y : Nat) (b : Node) (s : RSession) (hb : n.node y = some b) (hs : s ∈ b.rem)
    (hexp : s.last + b.remoteTimeout ≤ n.time + 1) :
    ∃ a, (tick n).node y = some a ∧ a.hasSession s.id = false ∧ a.hasConn s.id = false :=
  tick_timesOut_gone n hb ((timesOut_iff b _ _).mpr ⟨s, hs, hexp, rfl⟩)

/-- … the same for the local session, against `local_session_timeout_steps`, in every service state. -/
theorem C16_local_session_ends_at_timeout (n : Net) (y : Nat) (b : Node) (l : LSession) (hb : n.node y = some b)
    (hl : b.loc = some l) (hexp : l.last + b.localTimeout ≤ n.time + 1) : ∃ a, (tick n).node y = some a ∧ a.loc = none := by
  obtain ⟨a, ha, _, hloc⟩ := C16_local_timeout_exact n y b hb l hl
  exact ⟨a, ha, by rw [hloc, if_pos hexp]⟩

/-- … and for ever after: whatever operations follow the tick (services started again, new logins, anything), a remote command
sent on a connection that carries the timed-out id is never accepted — nothing but sessions / connections being torn down happens
and the answer is not `success`.  (`s.id < nextId`: the id has been handed out, true in every reachable state, `C16_fresh_ids_run`.) -/
theorem C16_timed_out_session_runs_nothing (n : Net) (y : Nat) (b : Node) (s : RSession) (hb : n.node y = some b) (hs : s ∈ b.rem)
    (hid : s.id < n.nextId) (hexp : s.last + b.remoteTimeout ≤ n.time + 1) (ops : List Op) (x : Nat) (c : Cmd) (a : Node) (cn : Conn)
    (hx : (run (tick n) ops).node x = some a) (hc : a.conns.find? (fun c => c.peer == some y) = some cn) (hcid : cn.id = s.id) :
    (run (tick n) ops).Shr (step (run (tick n) ops) (.req x (.remoteCmd y c))).1 ∧
    (step (run (tick n) ops) (.req x (.remoteCmd y c))).2 ≠ .success := by
  have hd : Dead y s.id (tick n) := by
    refine ⟨by rw [tick_nextId]; exact hid, fun a' ha' => ?_⟩
    obtain ⟨a0, ha0, h1, _⟩ := C16_session_ends_at_timeout n y b s hb hs hexp
    rw [ha'] at ha0; cases ha0; exact h1
  exact C16_command_on_ended_session_changes_nothing ops (tick n) y s.id hd x c a cn hx hc hcid

/-! ### row 2: a password change needs the user-manager only -/

/-- **C16, password change (when it works).** The request is answered `success` — and then ends every session of the user, forced,
`C16_password_change_ends_sessions` — iff the node is ON, its user-manager is RUNNING, the account exists and the old password is
right.  The states of the user-session-manager and of the terminal play no part. -/
theorem C16_password_change_works_iff (n : Net) (y : Nat) (u old new : String) :
    (step n (.req y (.changePassword u old new))).2 = .success ↔
      ∃ b w, n.node y = some b ∧ b.isOn = true ∧ b.um.running = true ∧ b.findUser u = some w ∧ w.password = old := by
  simp only [step, execCmd]
  constructor
  · intro h
    rcases opChangePassword_cases n y u old new with ⟨_, h0⟩ | ⟨nd, w, hnd, hon, hum, hw, hp, _, _⟩
    · exact (h0 h).elim
    · refine ⟨nd, w, hnd, hon, ?_, hw, hp⟩
      simp only [Node.canUm, Bool.and_eq_true] at hum; exact hum.2
  · rintro ⟨b, w, hb, hon, hum, hw, hp⟩
    unfold opChangePassword
    simp [hb, hon, Node.canUm, hum, hw, hp]

/-! ### rows 3–5: the logouts need a running user-session-manager -/

/-- **C16, direct logout (when it works).** `user-session-manager remote_logout` of the `i`-th session: answered `success` iff the
node is ON, its user-session-manager RUNNING and there is such a session; otherwise NOTHING changes (in particular while the service
is stopped / paused / restarting the session stays listed, until its time-out or a password change). -/
theorem C16_direct_logout_iff (n : Net) (y i : Nat) (b : Node) (hb : n.node y = some b) :
    ((step n (.req y (.usmLogout i))).2 = .success ↔ (b.isOn = true ∧ b.usm.running = true ∧ ∃ s, b.rem[i]? = some s ∧
        ∀ a, (disconnect n.fuel n y s.id).node y = some a → a.hasSession s.id = true)) ∧
    ((b.isOn = false ∨ b.usm.running = false) → (step n (.req y (.usmLogout i))).1 = n) := by
  simp only [step, execCmd]
  constructor
  · unfold opUsmLogout
    simp only [hb]
    cases hon : b.isOn with
    | false => simp
    | true =>
      cases hus : b.usm.running with
      | false => simp [Node.canUsm, hon, hus]
      | true =>
        simp only [Bool.not_true, Bool.false_eq_true, if_false, Node.canUsm, hon, hus, Bool.and_self, true_and]
        cases hs : b.rem[i]? with
        | none => simp
        | some s =>
          simp only [Option.some.injEq, exists_eq_left']
          obtain ⟨a, ha, _⟩ := (shr_disconnect n.fuel n y s.id).node y b hb
          simp only [ha, Option.some.injEq, forall_eq']
          cases a.hasSession s.id <;> simp [boolOut]
  · intro h
    rcases opUsmLogout_cases n y i with ⟨h0, _⟩ | ⟨nd, s, hnd, hcan, _, _⟩
    · exact h0
    · rw [hb] at hnd; cases hnd
      simp only [Node.canUsm, Bool.and_eq_true] at hcan
      rcases h with h | h
      · rw [hcan.1] at h; cases h
      · rw [hcan.2] at h; cases h

/-- … and when it works the session is gone from the list of `y`. -/
theorem C16_direct_logout_ends_session (n : Net) (y i : Nat) (b : Node) (s : RSession) (hb : n.node y = some b)
    (hcan : b.canUsm = true) (hs : b.rem[i]? = some s) :
    ∃ a, (step n (.req y (.usmLogout i))).1.node y = some a ∧ a.hasSession s.id = false := by
  have hon : b.isOn = true := by simp only [Node.canUsm, Bool.and_eq_true] at hcan; exact hcan.1
  have hres : (step n (.req y (.usmLogout i))).1 = (disconnect n.fuel n y s.id).upd y (Node.dropSession s.id) := by
    simp only [step, execCmd, opUsmLogout, hb, hon, hcan, hs, Bool.not_true, Bool.false_eq_true, if_false]
  rw [hres]
  obtain ⟨a0, ha0, _⟩ := (shr_disconnect n.fuel n y s.id).node y b hb
  exact ⟨a0.dropSession s.id, by simp [ha0], dropSession_noSession a0 s.id⟩

/-- **C16, local logout (when it works).** `Node.local_logout`: the local session ends iff the node is ON and its
user-session-manager RUNNING (and somebody is logged in); otherwise nothing changes. -/
theorem C16_local_logout_iff (n : Net) (y : Nat) (b : Node) (hb : n.node y = some b) :
    ((step n (.localLogout y)).2 = .success ↔ (b.isOn = true ∧ b.usm.running = true ∧ b.loc.isSome = true)) ∧
    ((step n (.localLogout y)).2 = .success → ∃ a, (step n (.localLogout y)).1.node y = some a ∧ a.loc = none) ∧
    ((step n (.localLogout y)).2 ≠ .success → (step n (.localLogout y)).1 = n) := by
  simp only [step, opLocalLogout, hb, Node.canUsm]
  by_cases hon : b.isOn = true <;> by_cases hus : b.usm.running = true <;> by_cases hl : b.loc.isSome = true <;>
    simp [Node.localLogout, Node.canUsm, hon, hus, hl, hb, Node.clearLoc]

/-- **C16, client logoff at the target (the `remote_logout` hop).** When the client's disconnect message has reached the target and
the target has dropped its own connection, `UserSessionManager.remote_logout` runs NOT forced: with the user-session-manager not
RUNNING (or the node not ON) it does nothing — the session stays listed until its time-out … -/
theorem C16_remote_logout_hop_needs_manager (f : Nat) (n : Net) (j cid : Nat) (b : Node) (hb : n.node j = some b)
    (h : b.canUsm = false) : chain (f + 1) .remoteLogout n j cid = n := by
  unfold chain
  simp [hb, h]

/-- … and with the manager RUNNING the session is removed from the target's list. -/
theorem C16_remote_logout_hop_ends_session (f : Nat) (n : Net) (j cid : Nat) (b : Node) (hb : n.node j = some b)
    (h : b.canUsm = true) : ∃ a, (chain (f + 1) .remoteLogout n j cid).node j = some a ∧ a.hasSession cid = false := by
  unfold chain
  simp only [hb, h, if_true]
  obtain ⟨a0, ha0, _⟩ := (shr_chain f .disconnect n j cid).node j b hb
  exact ⟨a0.dropSession cid, by simp [ha0], dropSession_noSession a0 cid⟩

/-! ### the table, row by row, evaluated by the kernel on the model (target = node 1, one session 0 → 1, remote time-out 2) -/

def stopUsm : Op := .req 1 (.svc .sessionManager .stop)
def pauseUsm : Op := .req 1 (.svc .sessionManager .pause)
def restartUsm : Op := .req 1 (.svc .sessionManager .restart)
def disableUsm : Op := .req 1 (.svc .sessionManager .disable)

-- time-out: the session ends with the user-session-manager STOPPED / PAUSED / RESTARTING / DISABLED, with the terminal stopped, with
-- the user-manager stopped, and with the node shutting down
example : ((run demoNet [login01, stopUsm, .tick, .tick]).node 1).map (fun b => (b.rem.length, b.conns.length)) = some (0, 0) := by decide
example : ((run demoNet [login01, pauseUsm, .tick, .tick]).node 1).map (fun b => (b.rem.length, b.conns.length)) = some (0, 0) := by decide
example : ((run demoNet [login01, restartUsm, .tick, .tick]).node 1).map (fun b => (b.rem.length, b.conns.length)) = some (0, 0) := by decide
example : ((run demoNet [login01, disableUsm, .tick, .tick]).node 1).map (fun b => (b.rem.length, b.conns.length)) = some (0, 0) := by decide
example : ((run demoNet [login01, .req 1 (.svc .terminal .stop), .req 1 (.svc .userManager .stop), .tick, .tick]).node 1).map
    (fun b => (b.rem.length, b.conns.length)) = some (0, 0) := by decide
example : ((run demoNet [login01, .req 1 .shutdown, .tick, .tick]).node 1).map (fun b => (b.rem.length, b.power == .on)) = some (0, false) := by
  decide
-- … and a command on the old connection after the service is started again is refused (seeded change C16-e ran it)
example : (step (run demoNet [login01, stopUsm, .tick, .tick, .req 1 (.svc .sessionManager .start)]) (cmd01 (.file 4))).2 = .failure := by
  decide
-- password change: works with the user-session-manager stopped; does not work with the user-manager stopped
example : ((run demoNet [login01, stopUsm, chpw1]).node 1).map (·.rem.length) = some 0 := by decide
example : ((run demoNet [login01, .req 1 (.svc .userManager .stop), chpw1]).node 1).map (·.rem.length) = some 1 := by decide
-- direct logout: refused while the user-session-manager is stopped, the session stays
example : (step (run demoNet [login01, stopUsm]) (.req 1 (.usmLogout 0))).2 = .failure ∧
    ((run demoNet [login01, stopUsm, .req 1 (.usmLogout 0)]).node 1).map (·.rem.length) = some 1 := by decide
-- client logoff while the target's user-session-manager is stopped: the session stays LISTED, but both connections are gone, so no
-- command can be sent on it; it ends at its time-out
example : ((run demoNet [login01, stopUsm, .req 0 (.remoteLogoff 1)]).node 1).map (fun b => (b.rem.length, b.conns.length)) = some (1, 0) ∧
    ((run demoNet [login01, stopUsm, .req 0 (.remoteLogoff 1)]).node 0).map (·.conns.length) = some 0 ∧
    ((run demoNet [login01, stopUsm, .req 0 (.remoteLogoff 1), .tick, .tick]).node 1).map (·.rem.length) = some 0 := by decide

/-! ### the password of an account stays what it is -/

/-- node `j`: if it is node `y`, the account `u` is still there with the same password -/
def KeepPw (y : Nat) (u : String) : Nat → Node → Node → Prop := fun j a b =>
  j = y → ∀ w, a.findUser u = some w → ∃ w', b.findUser u = some w' ∧ w'.password = w.password

theorem step_keepPw (y : Nat) (u : String) (n : Net) (op : Op) (hop : op.noChpw u = true) : Net.Rel (KeepPw y u) n (step n op).1 :=
  step_keepAcct (S := fun w w' => w'.password = w.password) (fun _ => rfl) y u (fun _ _ _ h1 h2 => h2.trans h1) n op (fun _ => rfl)
    (fun h => by rw [hop] at h; cases h) (fun _ _ => rfl)

theorem exec_keepPw (y : Nat) (u : String) : ∀ (c : Cmd), c.noChpw u = true → ∀ (n : Net) (x : Nat), Net.Rel (KeepPw y u) n (execCmd c n x).1 :=
  fun c hc n x => step_keepPw y u n (.req x c) hc

/-- the account `u` of node `y` exists and its password is `q` -/
def PasswordIs (y : Nat) (u q : String) (n : Net) : Prop := ∀ b, n.node y = some b → ∃ w, b.findUser u = some w ∧ w.password = q

/-- **C16, the password stays what it is.** Over every operation sequence in which no operation is or carries — at any nesting depth —
a `change_password` for account `u` (the only writer of `password`, `C16_gen_account_writers`), the password of `u` on node `y` is
unchanged.  So an old / wrong password `p ≠ q` stays wrong: by `C16_local_command_refused_wrong_password` every local command / login
with it changes nothing at every later time, and by `C16_remote_login_ok_iff` / `C16_usm_login_ok_iff` no remote login succeeds. -/
theorem C16_password_stays (ops : List Op) (n : Net) (y : Nat) (u q : String) (hno : ∀ op ∈ ops, op.noChpw u = true)
    (h : PasswordIs y u q n) : PasswordIs y u q (run n ops) :=
  run_keepAcct (S := fun w w' => w'.password = w.password) y u (fun _ _ hs hq => hs.trans hq) ops
    (fun n op hop => step_keepPw y u n op (hno op hop)) n h

/-- … hence: a wrong password stays wrong for the local path (the run-level twin of `C16_disabled_stays_disabled`). -/
theorem C16_wrong_password_stays_wrong (ops : List Op) (n : Net) (y : Nat) (u q p : String) (hpq : q ≠ p)
    (hno : ∀ op ∈ ops, op.noChpw u = true) (h : PasswordIs y u q n) (c : Cmd) (b : Node) (hb : (run n ops).node y = some b) :
    (step (run n ops) (.req y (.localCmd u p c))).1 = run n ops ∧ step (run n ops) (.localLogin y u p) = (run n ops, .failure) := by
  obtain ⟨w, hw, hq⟩ := C16_password_stays ops n y u q hno h b hb
  exact C16_local_command_refused_wrong_password _ y u p c b w hb hw (by rw [hq]; exact hpq)

-- non-vacuity: after the change the password is pw1 on node 1; operations that change ANOTHER account's password are allowed
example : ((run demoNet [chpw1, .req 1 (.addUser "u1" "x" false), .req 1 (.changePassword "u1" "x" "y"), .tick]).node 1).map
    (fun b => (b.findUser "admin").map (·.password)) = some (some "pw1") := by decide
example : (Op.noChpw "admin" (.req 1 (.changePassword "u1" "x" "y"))) = true ∧
    (Op.noChpw "admin" (.req 0 (.remoteCmd 1 (.changePassword "admin" "pw1" "z")))) = false := by decide

/-! ### sessions across a power cycle of their node

What the code does: nothing ends a session when its node shuts down, reboots or is reset — `power_off` / `power_on` / `reset` and
the power phases of `apply_timestep` touch neither the session tables nor the terminal connections — so a session that is younger
than its time-out is still listed when the node is ON again, and a command sent on it is then executed.  Decision: this is within
C16 as written ("commands … only while that session is live"; the events that end a session are logout, inactivity time-out and
password change; "a powered-on node" is demanded of LOGINS): the session is live by every criterion the property names, no new
login happened while the node was down (`C16_remote_login_ok_iff` needs the target ON), and while the node is not reachable no
command is executed (`C16_no_command_while_nic_off`).  The inactivity clock keeps running through the outage, so the exposure is
bounded by `remote_session_timeout_steps` (`C16_session_ends_at_timeout` holds in every power state).  Recorded as an observation
(a real reboot would drop the sessions), not as a finding. -/

def KeepData : Nat → Node → Node → Prop := fun _ a b => b.data = a.data

theorem keepData_pre : Pre KeepData := { refl := fun _ _ => rfl, trans := fun _ _ _ _ h1 h2 => h2.trans h1 }

/-- **C16, power requests keep every session.** `shutdown`, `startup` and `reset` of node `y` leave users, local session, remote
sessions (clocks included), terminal connections, files and the session parameters of EVERY node exactly as they were. -/
theorem C16_power_requests_keep_sessions (n : Net) (y : Nat) :
    Net.Rel KeepData n (step n (.req y .shutdown)).1 ∧ Net.Rel KeepData n (step n (.req y .startup)).1 ∧
    Net.Rel KeepData n (step n (.req y .reset)).1 :=
  have hd : ∀ f : Node → Node, (∀ a, (f a).data = a.data) → Net.Rel KeepData n (n.upd y f) := fun f hf =>
    rel_upd n y f keepData_pre.refl (fun a _ => hf a)
  ⟨ofData_elim (opShutdown_cases n y) (keepData_pre.rel_refl n) hd, ofData_elim (opStartup_cases n y) (keepData_pre.rel_refl n) hd,
   ofData_elim (opReset_cases n y) (keepData_pre.rel_refl n) hd⟩

/-- … and the power / service phases of a tick (`Node.apply_timestep`: boot countdown, shut-down countdown, service restarts) as well;
only the time-outs of `pre_timestep` remove sessions during a tick. -/
theorem C16_power_phases_keep_sessions (a : Node) : a.applyTimestep.data = a.data := applyTimestep_data a

/-- **C16, nothing is executed on a node whose NIC is off** (a node that is shutting down, off or booting has its NIC disabled):
a remote command towards it changes nothing anywhere and is not answered success. -/
theorem C16_no_command_while_nic_off (n : Net) (x y : Nat) (c : Cmd) (b : Node) (hb : n.node y = some b) (hnic : b.nic = false) :
    (step n (.req x (.remoteCmd y c))).1 = n ∧ (step n (.req x (.remoteCmd y c))).2 ≠ .success := by
  apply C16_command_request_dropped
  unfold canDeliver
  cases hx : n.node x with
  | none => rfl
  | some a => simp [hb, hnic]

/-- time-outs of 30 steps (the defaults), power durations 3 -/
def demoLong : Net := { nodes := [{}, {}] }

-- a session opened at step 0 survives a full power cycle of its node (shutdown, 5 ticks, startup, 5 ticks) and a command on it is
-- executed afterwards; while the node is down the command is not executed
example : ((run demoLong [login01, cmd01 (.file 1), .req 1 .shutdown, .tick, cmd01 (.file 2), .tick, .tick, .tick, .tick,
    .req 1 .startup, .tick, .tick, .tick, .tick, .tick, cmd01 (.file 3)]).node 1).map (fun b => (b.power == .on, b.files, b.rem.length))
    = some (true, [1, 3], 1) := by decide
-- … but not beyond its time-out (remote time-out 2 in demoNet: the session is gone although the service was down at that moment)
example : ((run demoNet [login01, .req 1 .shutdown, .tick, .tick, .tick, .tick, .tick, .req 1 .startup, .tick, .tick, .tick, .tick, .tick,
    cmd01 (.file 3)]).node 1).map (fun b => (b.power == .on, b.files, b.rem.length)) = some (true, [], 0) := by decide

end Primaite.Session
