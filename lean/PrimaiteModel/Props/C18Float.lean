/-
C18, continued — floats.

The code keeps loads, sizes and bandwidths as Python floats (binary64) in "Mbit" and tests `current_load + size_Mbits <= bandwidth`.
The model (`Model/Link.lean`) is over naturals.  This file states precisely why nothing is lost:

* `convert_bytes_to_megabits(B) = B * 8.0 / 1024.0 ** 2.0` (extracted: `Gen.Link.bytesPerMbit = 131072 = 2^17`), so a size of `B`
  bytes is the float `B · 2^-17` — exactly (scaling by a power of two), for every integer `B < 2^53`.  `Frame.size` is
  `float(len(json)) + payload_size` with integer-valued terms (extracted: `Gen.Link.sizeIsWholeBytes`).
* every load is a sum / difference of such sizes, so it is `k · 2^-17` for a natural `k` ("whole bytes"); binary64 has a 53-bit
  significand, so every `k · 2^-17` with `k ≤ 2^53` is representable, and IEEE-754 addition / subtraction return the exact result
  whenever it is representable.  Hence as long as the exact value stays at or below `2^53` bytes (= 2^36 Mbit ≈ 6.9·10^10 Mbit) no
  float operation of the accounting rounds at all: **ε = 0**.
* the bandwidth `β` is an arbitrary float, not a whole number of bytes.  For a whole number of bytes `N`:
  `N·2^-17 ≤ β ⇔ N ≤ ⌊β·2^17⌋`, so the model's bandwidth is the floor (the rig computes it with exact rationals).

What is assumed of the float arithmetic is collected in `Rounding` (two facts that hold for every IEEE-754 rounding direction);
everything else is proved.  The rig (`harness/rigs/link.py`, oracle `float-admission-differs-from-exact`) compares, for every
admission test it records, the float verdict with the verdict of exact rational arithmetic, and raises if any load is not a whole
number of bytes; the boundary family sets the bandwidth to the exact sum of k stamped frames, and one ulp below.
-/
import PrimaiteModel.Props.C18

namespace Primaite.Link

/-- Binary64 arithmetic on non-negative quantities measured in whole units (1 unit = 2^-17 Mbit = 1 byte): `rnd x` is what the
float operation returns when the exact result is `x` units (for `x > 2^53` the result is still a whole number of units, a multiple
of a larger power of two).  Assumed: a representable exact result is returned unchanged — every whole number of units up to
`2^53` is representable; rounding is monotone. -/
structure Rounding where
  rnd : Nat → Nat
  exact : ∀ x, x ≤ 2 ^ 53 → rnd x = x
  mono : ∀ x y, x ≤ y → rnd x ≤ rnd y

/-- Round-to-nearest-even itself is not needed: the identity satisfies the assumptions (non-vacuity), and so does "round large
values up to the next multiple of 2" (a rounding that does round). -/
example : Rounding := { rnd := id, exact := fun _ _ => rfl, mono := fun _ _ h => h }

example : Rounding :=
  { rnd := fun x => if x ≤ 2 ^ 53 then x else x + x % 2
    exact := fun x h => by simp [h]
    mono := fun x y h => by
      by_cases hx : x ≤ 2 ^ 53 <;> by_cases hy : y ≤ 2 ^ 53 <;> simp only [hx, hy, if_true, if_false] <;> omega }

/-- `current_load += size` after a successful admission test is exact: the stored load is the exact sum. -/
theorem C18_float_sum_exact (R : Rounding) (L s b : Nat) (hb : b ≤ 2 ^ 53) (hfit : L + s ≤ b) : R.rnd (L + s) = L + s :=
  R.exact _ (Nat.le_trans hfit hb)

/-- **The float admission test is the exact one.** For a load of `L` bytes, a frame of `s` bytes and a bandwidth whose floor is
`b < 2^53` bytes: `fl(L + s) ≤ b` iff `L + s ≤ b`.  No frame that the exact comparison rejects is admitted by the float
comparison, and none that it admits is rejected (ε = 0), *whatever* `L` and `s` are (also when `L + s` is so large that the float
sum does round). -/
theorem C18_float_admit_iff (R : Rounding) (L s b : Nat) (hb : b < 2 ^ 53) : R.rnd (L + s) ≤ b ↔ L + s ≤ b := by
  constructor
  · intro h
    false_or_by_contra
    rename_i hno
    have h1 : b + 1 ≤ L + s := by omega
    have h2 := R.mono _ _ h1
    rw [R.exact (b + 1) (by omega)] at h2
    omega
  · intro h
    rw [R.exact _ (by omega)]
    exact h

/-- The release after a refusal, `current_load -= size`, is exact as well: the load returns to precisely what it was. -/
theorem C18_float_release_exact (R : Rounding) (L s b : Nat) (hb : b ≤ 2 ^ 53) (hfit : L + s ≤ b) :
    R.rnd (R.rnd (L + s) - s) = L := by
  rw [R.exact _ (Nat.le_trans hfit hb)]
  rw [R.exact _ (by omega)]
  omega

/-- **The bandwidth is a float, not a whole number of bytes: the model uses its floor.** For a bandwidth `β = p / q` units
(`q > 0`; every finite float is such a fraction) and a whole number `N` of bytes: `N ≤ β ⇔ N ≤ ⌊β⌋`. -/
theorem C18_float_floor (N p q : Nat) (hq : 0 < q) : N * q ≤ p ↔ N ≤ p / q :=
  (Nat.le_div_iff_mul_le hq).symm

/-- **Boundary: bandwidth = exact sum of k frames.** If the bandwidth is exactly `L + s` bytes (the load so far plus this frame)
the frame *is* admitted in floats, and the link then carries exactly its bandwidth — within the property (`≤`); a bandwidth one
unit lower refuses it. -/
theorem C18_float_boundary (R : Rounding) (L s : Nat) (hb : L + s < 2 ^ 53) :
    (R.rnd (L + s) ≤ L + s) ∧ (0 < s → ¬ R.rnd (L + s) ≤ L + s - 1) := by
  refine ⟨(C18_float_admit_iff R L s (L + s) hb).mpr (Nat.le_refl _), ?_⟩
  intro hs h
  have := (C18_float_admit_iff R L s (L + s - 1) (by omega)).mp h
  omega

/-! ### The accounting in floats is the accounting of the model, on every tree

`runEvF R` is `runEv` with every arithmetic operation of the code routed through the rounding `R` (the admission test compares the
rounded sum; the reservation stores the rounded sum; the release stores the rounded difference).  While every bandwidth and
capacity is below `2^53` bytes it is the same function as `runEv`, whatever the loads are. -/

mutual
def runEvF (R : Rounding) (n : Net) : Ev → Net × List Rec
  | .send k fromA s acc nested =>
    match n.links[k]? with
    | none => (n, [{ wireless := false, k, verdict := .nolink, enS := false, enR := false, rcv := [], size := 0,
                     loadBefore := 0, load := 0, bw := 0, capS := 0 }])
    | some l =>
      let enS := if fromA then l.enA else l.enB
      let enR := if fromA then l.enB else l.enA
      let stay (v : Verdict) : Net × List Rec :=
        (n, [{ wireless := false, k, verdict := v, enS, enR, rcv := [], size := s, loadBefore := l.load,
               load := l.load, bw := l.bw, capS := l.bw }])
      if !enS then stay .disabled
      else if !l.isUp then stay .down
      else if !decide (R.rnd (l.load + s) ≤ l.bw) then stay .full
      else
        let n1 : Net := { n with links := n.links.set k { l with load := R.rnd (l.load + s) } }
        if acc then
          let r := runEvsF R n1 nested
          (r.1, r.2 ++ [{ wireless := false, k, verdict := .carried, enS, enR, rcv := [], size := s,
                          loadBefore := l.load, load := loadOf r.1 k, bw := bwOf r.1 k, capS := l.bw }])
        else
          let n2 : Net := { n with links := n.links.set k { l with load := R.rnd (R.rnd (l.load + s) - s) } }
          (n2, [{ wireless := false, k, verdict := .rejected, enS, enR, rcv := [], size := s, loadBefore := l.load,
                  load := loadOf n2 k, bw := bwOf n2 k, capS := l.bw }])
  | .wsend c i s nested =>
    match n.chans[c]? with
    | none => (n, [{ wireless := true, k := c, verdict := .nolink, enS := false, enR := false, rcv := [], size := 0,
                     loadBefore := 0, load := 0, bw := 0, capS := 0 }])
    | some ch =>
      match ch.en[i]? with
      | none => (n, [{ wireless := true, k := c, verdict := .nolink, enS := false, enR := false, rcv := [], size := 0,
                       loadBefore := ch.load, load := ch.load, bw := ch.cap, capS := 0 }])
      | some enS =>
        match ch.caps[i]? with
        | none => (n, [{ wireless := true, k := c, verdict := .nolink, enS := false, enR := false, rcv := [], size := 0,
                         loadBefore := ch.load, load := ch.load, bw := ch.cap, capS := 0 }])
        | some capI =>
          let stay (v : Verdict) : Net × List Rec :=
            (n, [{ wireless := true, k := c, verdict := v, enS, enR := false, rcv := [], size := s,
                   loadBefore := ch.load, load := ch.load, bw := ch.cap, capS := capI }])
          if !enS then stay .disabled
          else if !decide (R.rnd (ch.load + s) ≤ capI) then stay .full
          else
            let n1 : Net := { n with chans := n.chans.set c { ch with load := R.rnd (ch.load + s) } }
            let r := runEvsF R n1 nested
            (r.1, r.2 ++ [{ wireless := true, k := c, verdict := .carried, enS, enR := true, rcv := [], size := s,
                            loadBefore := ch.load, load := cloadOf r.1 c, bw := capOf r.1 c, capS := capI }])
  | .setEn k endA v =>
    match n.links[k]? with
    | none => (n, [])
    | some l =>
      let cur := if endA then l.enA else l.enB
      if cur == v then (n, [])
      else
        let l1 : Link := if endA then { l with enA := v } else { l with enB := v }
        ({ n with links := n.links.set k l1 }, [])
  | .wsetEn c i v =>
    match n.chans[c]? with
    | none => (n, [])
    | some ch => ({ n with chans := n.chans.set c { ch with en := ch.en.set i v } }, [])
  | .lost k fromA s nested =>
    match n.links[k]? with
    | none => (n, [{ wireless := false, k, verdict := .nolink, enS := false, enR := false, rcv := [], size := 0,
                     loadBefore := 0, load := 0, bw := 0, capS := 0 }])
    | some l =>
      let enS := if fromA then l.enA else l.enB
      let enR := if fromA then l.enB else l.enA
      let stay (v : Verdict) : Net × List Rec :=
        (n, [{ wireless := false, k, verdict := v, enS, enR, rcv := [], size := s, loadBefore := l.load,
               load := l.load, bw := l.bw, capS := l.bw }])
      if !enS then stay .disabled
      else if !l.isUp then stay .down
      else if !decide (R.rnd (l.load + s) ≤ l.bw) then stay .full
      else
        let n1 : Net := { n with links := n.links.set k { l with load := R.rnd (l.load + s) } }
        let r := runEvsF R n1 nested
        (r.1, r.2 ++ [{ wireless := false, k, verdict := .lost, enS, enR, rcv := [], size := s,
                        loadBefore := l.load, load := loadOf r.1 k, bw := bwOf r.1 k, capS := l.bw }])
  | .wlost c i s nested =>
    match n.chans[c]? with
    | none => (n, [{ wireless := true, k := c, verdict := .nolink, enS := false, enR := false, rcv := [], size := 0,
                     loadBefore := 0, load := 0, bw := 0, capS := 0 }])
    | some ch =>
      match ch.en[i]? with
      | none => (n, [{ wireless := true, k := c, verdict := .nolink, enS := false, enR := false, rcv := [], size := 0,
                       loadBefore := ch.load, load := ch.load, bw := ch.cap, capS := 0 }])
      | some enS =>
        match ch.caps[i]? with
        | none => (n, [{ wireless := true, k := c, verdict := .nolink, enS := false, enR := false, rcv := [], size := 0,
                         loadBefore := ch.load, load := ch.load, bw := ch.cap, capS := 0 }])
        | some capI =>
          let stay (v : Verdict) : Net × List Rec :=
            (n, [{ wireless := true, k := c, verdict := v, enS, enR := false, rcv := [], size := s,
                   loadBefore := ch.load, load := ch.load, bw := ch.cap, capS := capI }])
          if !enS then stay .disabled
          else if !decide (R.rnd (ch.load + s) ≤ capI) then stay .full
          else
            let n1 : Net := { n with chans := n.chans.set c { ch with load := R.rnd (ch.load + s) } }
            let r := runEvsF R n1 nested
            (r.1, r.2 ++ [{ wireless := true, k := c, verdict := .lost, enS, enR := true, rcv := [], size := s,
                            loadBefore := ch.load, load := cloadOf r.1 c, bw := capOf r.1 c, capS := capI }])

  | .wrecv c i j =>
    match n.chans[c]? with
    | none => (n, [{ wireless := true, k := c, verdict := .nolink, enS := false, enR := false, rcv := [j], size := 0,
                     loadBefore := 0, load := 0, bw := 0, capS := 0 }])
    | some ch =>
      let enJ := match ch.en[j]? with | some b => b | none => false
      let memJ := match ch.mem[j]? with | some b => b | none => false
      let enI := match ch.en[i]? with | some b => b | none => false
      let ok := memJ && enJ && j != i
      (n, [{ wireless := true, k := c, verdict := hearVerdict ok, enS := enI, enR := ok, rcv := [j], size := 0,
             loadBefore := ch.load, load := ch.load, bw := ch.cap, capS := 0 }])

  | .wjoin c i =>
    match n.chans[c]? with
    | none => (n, [])
    | some ch => ({ n with chans := n.chans.set c { ch with mem := ch.mem.set i true } }, [])
  | .wleave c i =>
    match n.chans[c]? with
    | none => (n, [])
    | some ch => ({ n with chans := n.chans.set c { ch with mem := ch.mem.set i false } }, [])

def runEvsF (R : Rounding) (n : Net) : List Ev → Net × List Rec
  | [] => (n, [])
  | e :: es =>
    let r1 := runEvF R n e
    let r2 := runEvsF R r1.1 es
    (r2.1, r1.2 ++ r2.2)
end

/-- Every bandwidth and every capacity is below `2^53` bytes (2^36 Mbit). -/
def Small (n : Net) : Prop := ∀ k, bwOf n k < 2 ^ 53 ∧ capOf n k < 2 ^ 53

theorem small_link {n : Net} (h : Small n) (k : Nat) (l : Link) (hk : n.links[k]? = some l) : l.bw < 2 ^ 53 :=
  bwOf_eq n k l hk ▸ (h k).1

theorem small_chan {n : Net} (h : Small n) (c : Nat) (ch : Chan) (hc : n.chans[c]? = some ch) : ch.cap < 2 ^ 53 :=
  capOf_eq n c ch hc ▸ (h c).2

theorem small_of_cap_eq {n n' : Net} (hc : ∀ w k, capAt n' w k = capAt n w k) (h : Small n) : Small n' := by
  intro k
  rw [show bwOf n' k = bwOf n k from hc false k, show capOf n' k = capOf n k from hc true k]
  exact h k

theorem decide_rnd_eq (R : Rounding) (L s b : Nat) (hb : b < 2 ^ 53) : decide (R.rnd (L + s) ≤ b) = admits L s b := by
  unfold admits
  exact decide_eq_decide.mpr (C18_float_admit_iff R L s b hb)

theorem ifNot_congr {α : Type} {b : Bool} {x y y' : α} (h : b = true → y = y') :
    (if (!b) = true then x else y) = if (!b) = true then x else y' := by
  cases b
  · rfl
  · exact h rfl

mutual
/-- The rounded accounting is the exact one on every tree as soon as the capacities are small; the loads may be anything: a test
that passes bounds the sum by the capacity, so what is stored is representable, and a test that fails stores nothing. -/
theorem runEvF_eq_of_small (R : Rounding) (n : Net) (e : Ev) (hs : Small n) : runEvF R n e = runEv n e := by
  cases e with
  | send k fromA s acc nested =>
    unfold runEvF runEv
    cases hk : n.links[k]? with
    | none => rfl
    | some l =>
      have hb : l.bw < 2 ^ 53 := small_link hs k l hk
      simp only [decide_rnd_eq R l.load s l.bw hb]
      refine ifNot_congr fun _ => ifNot_congr fun _ => ifNot_congr fun h3 => ?_
      have hfit : l.load + s ≤ l.bw := of_decide_eq_true h3
      -- an admitted sum and the difference after a refusal are representable, so neither is rounded
      have hres := reserves_set_link n k s l { l with load := l.load + s } hk rfl rfl
      rw [R.exact (l.load + s) (by omega), R.exact (l.load + s - s) (by omega),
        runEvsF_eq_of_small R _ nested (small_of_cap_eq hres.cap hs)]
  | lost k fromA s nested =>
    unfold runEvF runEv
    cases hk : n.links[k]? with
    | none => rfl
    | some l =>
      have hb : l.bw < 2 ^ 53 := small_link hs k l hk
      simp only [decide_rnd_eq R l.load s l.bw hb]
      refine ifNot_congr fun _ => ifNot_congr fun _ => ifNot_congr fun h3 => ?_
      have hfit : l.load + s ≤ l.bw := of_decide_eq_true h3
      have hres := reserves_set_link n k s l { l with load := l.load + s } hk rfl rfl
      rw [R.exact (l.load + s) (by omega), runEvsF_eq_of_small R _ nested (small_of_cap_eq hres.cap hs)]
  | wsend c i s nested | wlost c i s nested =>
    unfold runEvF runEv
    cases hk : n.chans[c]? with
    | none => rfl
    | some ch =>
      have hb : ch.cap < 2 ^ 53 := small_chan hs c ch hk
      simp only
      cases hi : ch.en[i]? with
      | none => rfl
      | some enS =>
        cases hcI : ch.caps[i]? with
        | none => rfl
        | some capI =>
          have hcap : capI ≤ ch.cap := caps_le_cap ch i capI hcI
          simp only [decide_rnd_eq R ch.load s capI (by omega)]
          refine ifNot_congr fun _ => ifNot_congr fun h3 => ?_
          have hfit : ch.load + s ≤ capI := of_decide_eq_true h3
          have hres := reserves_set_chan n c s ch { ch with load := ch.load + s } hk rfl rfl
          rw [R.exact (ch.load + s) (by omega), runEvsF_eq_of_small R _ nested (small_of_cap_eq hres.cap hs)]
  | setEn | wsetEn | wrecv | wjoin | wleave =>
    unfold runEvF runEv
    rfl

theorem runEvsF_eq_of_small (R : Rounding) (n : Net) (es : List Ev) (hs : Small n) : runEvsF R n es = runEvs n es := by
  cases es with
  | nil => unfold runEvsF runEvs; rfl
  | cons e es =>
    unfold runEvsF runEvs
    simp only [runEvF_eq_of_small R n e hs]
    rw [runEvsF_eq_of_small R (runEv n e).1 es (small_of_cap_eq (runEv_trace n e).cap hs)]
end

-- the next two carry the hypothesis `Inv n`, which the equality does not need
set_option linter.unusedVariables false

theorem runEvF_eq (R : Rounding) (n : Net) (e : Ev) (h : Inv n) (hs : Small n) : runEvF R n e = runEv n e :=
  runEvF_eq_of_small R n e hs

theorem runEvsF_eq (R : Rounding) (n : Net) (es : List Ev) (h : Inv n) (hs : Small n) : runEvsF R n es = runEvs n es :=
  runEvsF_eq_of_small R n es hs

/-- **The accounting in floats is the accounting of the model**: in a tick (`tick`, then any forest of events — nesting,
toggles, aborted deliveries), every verdict, every record and every load computed with rounded arithmetic equals what the exact
model computes, for every rounding that returns representable results unchanged, provided every bandwidth and capacity is below
`2^53` bytes.  So every theorem of `Props/C18.lean` about `runEvs (tick n) evs` is a theorem about the float accounting. -/
theorem C18_float_tick_eq_exact (R : Rounding) (n : Net) (evs : List Ev) (hs : Small n) :
    runEvsF R (tick n) evs = runEvs (tick n) evs :=
  runEvsF_eq_of_small R (tick n) evs (small_of_cap_eq (capAt_tick n) hs)

/-- a network that meets the hypothesis (100 Mbit = 13 107 200 bytes, far below 2^53) -/
example : Small { links := [{ bw := 13107200, load := 0, enA := true, enB := true }],
                  chans := [{ caps := [12500000, 62500000], load := 0, en := [true, true] }] } := by
  intro k
  match k with
  | 0 => decide
  | k + 1 => simp [bwOf, capOf]

end Primaite.Link
