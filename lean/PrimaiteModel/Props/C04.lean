/-
C04 — episodes and environment instances are isolated from one another.

Generic theorems (any classification `cls`, any programs, any schedule of operations of any number of instances):
  C04_frame                    an operation that respects the discipline leaves import-only globals untouched
  C04_instances_independent    A's trajectory and state in ANY schedule = A's trajectory and state when run alone
                               (`independent_of_framed`: the other instances' operations need only leave the import-only globals alone)
  C04_interleaving             the same, stated for an interleaving of two operation lists
  C04_reset_is_fresh           a reset that does not read the old game yields a state that depends only on the
                               environment-level attributes, the seed and the import-only globals
  C04_history_irrelevant       hence any two histories followed by reset(seed) and the same later operations (even
                               interleaved with other instances) give the same trajectory
Skeleton theorems (the four operations as the inventory describes them): see the second half of the file. `reset` (seeded or not) and
`step` are put in closed form once (`execProg_rebuild`, `execProg_step`); what the episode theorems need of them is read off those.
The skeleton is the code after its two repairs. F-11 (decorator `own_generator_state`: operations run on the instance's own generator
state): C04_skeleton_isolated proves C04_FullSkeletonIsolated, C04_gen_rng_safe proves C04_FullGenRngSafe, C04_skeleton_history_irrelevant
covers histories with drawing steps; what F-11 was is stated as lemmas about the pre-repair programs (C04_shared_rng_counterexample,
C04_shared_rng_skeleton_isolated_partial). F-10 (NMNE settings per game): C04_gen_globals_safe covers every entry. The seed argument is an
`Option Int` (C04_reset_call_reseeds, C04_reset_any_seed_episode_fresh, C04_gen_seed_handling, C04_truthy_seed_counterexample,
C04_unseeded_reset_fresh_modulo_rng).
-/
import PrimaiteModel.Model.Isolation
import PrimaiteModel.Gen.SharedState
import PrimaiteModel.Gen.IsolationReset
import PrimaiteModel.Gen.IsolationSinkFlags
import PrimaiteModel.Gen.OwnGeneratorState
namespace Primaite.Isolation

def Agree (cls : Nat → GClass) (W : List Nat) (G G' : Store) : Prop :=
  ∀ g, readOK cls W g = true → G g = G' g

def AgreeIO (cls : Nat → GClass) (G G' : Store) : Prop :=
  ∀ g, cls g = .importOnly → G g = G' g

def InstRel (L : Bool) (i j : Inst) : Prop := i.env = j.env ∧ (L = true → i.loc = j.loc)

def finalL : Bool → List Cmd → Bool
  | L, [] => L
  | _, .newGame :: r => finalL true r
  | L, .setEnv _ _ :: r => finalL L r
  | L, .setLoc _ _ :: r => finalL L r
  | L, .setGlob _ _ :: r => finalL L r
  | L, .emit _ :: r => finalL L r
  | L, .log _ :: r => finalL L r

def finalW : List Nat → List Cmd → List Nat
  | W, [] => W
  | W, .setGlob g _ :: r => finalW (g :: W) r
  | W, .newGame :: r => finalW W r
  | W, .setEnv _ _ :: r => finalW W r
  | W, .setLoc _ _ :: r => finalW W r
  | W, .emit _ :: r => finalW W r
  | W, .log _ :: r => finalW W r

theorem readOK_nil (cls : Nat → GClass) (g : Nat) : readOK cls [] g = true ↔ cls g = .importOnly := by
  simp [readOK]

theorem readOK_mono {cls : Nat → GClass} {W W' : List Nat} {g : Nat} (hs : g ∈ W → g ∈ W') (hg : readOK cls W g = true) :
    readOK cls W' g = true := by
  simp only [readOK, Bool.or_eq_true, Bool.and_eq_true, List.contains_iff_mem] at *
  exact hg.imp_right (And.imp_right hs)

theorem readOK_cons {cls : Nat → GClass} {W : List Nat} {g h : Nat} (hg : readOK cls W g = true) :
    readOK cls (h :: W) g = true :=
  readOK_mono (List.mem_cons_of_mem h) hg

theorem agree_io_of_agree {cls : Nat → GClass} {W : List Nat} {G G' : Store} (h : Agree cls W G G') :
    AgreeIO cls G G' :=
  fun g hg => h g (by simp [readOK, hg])

theorem agree_nil_iff {cls : Nat → GClass} {G G' : Store} : Agree cls [] G G' ↔ AgreeIO cls G G' :=
  ⟨agree_io_of_agree, fun h g hg => h g ((readOK_nil cls g).1 hg)⟩

theorem finalL_true (p : List Cmd) : finalL true p = true := by
  induction p with
  | nil => rfl
  | cons c r ih => cases c <;> exact ih

theorem eval_rel {cls : Nat → GClass} {L : Bool} {W : List Nat} {a : Val} {i j : Inst} {G G' : Store}
    (hi : InstRel L i j) (hG : Agree cls W G G') :
    ∀ e, exprOK cls L W e = true → eval a i G e = eval a j G' e := by
  intro e
  induction e with
  | loc x => intro h; simp [eval, hi.2 h]
  | glob g => exact hG g
  | _ => simp_all [eval, exprOK, hi.1]

theorem agree_upd {cls : Nat → GClass} {W : List Nat} {G G' : Store} {g : Nat} {v : Val}
    (hG : Agree cls W G G') : Agree cls (g :: W) (upd G g v) (upd G' g v) := by
  intro h hh
  by_cases e : h = g
  · simp [upd, e]
  · simp only [upd, e, if_false]
    apply hG
    simpa [readOK, e] using hh

theorem execProg_rel (cls : Nat → GClass) (a : Val) :
    ∀ (p : List Cmd) (L : Bool) (W : List Nat) (i j : Inst) (G G' : Store),
      cmdsOK cls L W p = true → InstRel L i j → Agree cls W G G' →
      InstRel (finalL L p) (execProg a p i G).1 (execProg a p j G').1
      ∧ Agree cls (finalW W p) (execProg a p i G).2.1 (execProg a p j G').2.1
      ∧ (execProg a p i G).2.2 = (execProg a p j G').2.2 := by
  intro p
  induction p with
  | nil => intro L W i j G G' _ hi hG; exact ⟨hi, hG, rfl⟩
  | cons c r ih =>
    intro L W i j G G' hok hi hG
    -- the command's expression reads the same value on both sides (`eval_rel`), so the states it leaves are related in the flags
    -- under which the rest of the program was checked
    have hv := eval_rel (a := a) hi hG
    cases c <;> simp only [cmdsOK, Bool.and_eq_true] at hok
    case setEnv x e =>
      exact ih L W _ _ G G' hok.2 ⟨by simp [execCmd, hv e hok.1, hi.1], hi.2⟩ hG
    case setLoc x e =>
      exact ih L W _ _ G G' hok.2 ⟨hi.1, fun hL => by simp [execCmd, hv e hok.1, hi.2 hL]⟩ hG
    case setGlob g e =>
      refine ih L (g :: W) i j _ _ hok.2 hi ?_
      show Agree cls (g :: W) (upd G g (eval a i G e)) (upd G' g (eval a j G' e))
      rw [hv e hok.1.1]
      exact agree_upd hG
    case newGame => exact ih true W _ _ G G' hok ⟨hi.1, fun _ => rfl⟩ hG
    case emit e =>
      obtain ⟨hi', hG', ho⟩ := ih L W i j G G' hok.2 hi hG
      refine ⟨hi', hG', ?_⟩
      show [eval a i G e] ++ _ = [eval a j G' e] ++ _
      rw [hv e hok.1]
      exact congrArg ([eval a j G' e] ++ ·) ho
    case log e => exact ih L W i j G G' hok hi hG

theorem subset_finalW : ∀ (p : List Cmd) (W : List Nat) (g : Nat), g ∈ W → g ∈ finalW W p := by
  intro p
  induction p with
  | nil => intro W g h; exact h
  | cons c r ih =>
    intro W g h
    cases c
    case setGlob => exact ih _ g (List.mem_cons_of_mem _ h)
    all_goals exact ih W g h

theorem agree_mono {cls : Nat → GClass} {W W' : List Nat} {G G' : Store} (hs : ∀ g, g ∈ W → g ∈ W')
    (h : Agree cls W' G G') : Agree cls W G G' :=
  fun g hg => h g (readOK_mono (hs g) hg)

/-- the frame rule: an operation that respects the discipline does not change any import-only global -/
theorem C04_frame (cls : Nat → GClass) (a : Val) :
    ∀ (p : List Cmd) (L : Bool) (W : List Nat) (i : Inst) (G : Store),
      cmdsOK cls L W p = true → ∀ g, cls g = .importOnly → (execProg a p i G).2.1 g = G g := by
  intro p
  induction p with
  | nil => intro L W i G _ g _; rfl
  | cons c r ih =>
    intro L W i G hok g hg
    cases c <;> simp only [cmdsOK, Bool.and_eq_true, bne_iff_ne, ne_eq] at hok
    case setGlob h e =>
      have hne : g ≠ h := fun e' => hok.1.2 (e' ▸ hg)
      exact (ih _ _ _ _ hok.2 g hg).trans (if_neg hne)
    case newGame | log => exact ih _ _ _ _ hok g hg
    case setEnv | setLoc | emit => exact ih _ _ _ _ hok.2 g hg

theorem inst_ext {i j : Inst} (h : InstRel true i j) : i = j := by
  cases i
  cases j
  exact congr (congrArg Inst.mk h.1) (h.2 rfl)

theorem exprOK_mono {cls : Nat → GClass} {W : List Nat} : ∀ e, exprOK cls false W e = true → exprOK cls true W e = true := by
  intro e
  -- only `.loc` looks at the flag, and it fails the check when the flag is off
  induction e <;> simp_all [exprOK]

/-- a reset-safe program is also safe as an ordinary operation -/
theorem cmdsOK_mono (cls : Nat → GClass) : ∀ (p : List Cmd) (W : List Nat), cmdsOK cls false W p = true → cmdsOK cls true W p = true := by
  intro p
  induction p with
  | nil => intro W h; exact h
  | cons c r ih =>
    intro W h
    cases c <;> simp only [cmdsOK, Bool.and_eq_true] at *
    case setGlob => exact ⟨⟨exprOK_mono _ h.1.1, h.1.2⟩, ih _ h.2⟩
    case newGame => exact h
    case log => exact ih W h
    case setEnv | setLoc | emit => exact ⟨exprOK_mono _ h.1, ih W h.2⟩

theorem onlyOf_cons_self {a : Nat} {ev : Event} (h : ev.who = a) (r : List Event) : onlyOf a (ev :: r) = ev :: onlyOf a r := by
  simp [onlyOf, h]

theorem onlyOf_cons_other {a : Nat} {ev : Event} (h : ev.who ≠ a) (r : List Event) : onlyOf a (ev :: r) = onlyOf a r := by
  simp [onlyOf, h]

theorem traj_run_cons_self {a : Nat} {ev : Event} (h : ev.who = a) (r : List Event) (p : Proc) :
    traj a (run (ev :: r) p).2 = (stepProc p ev).2 :: traj a (run r (stepProc p ev).1).2 := by
  simp [run, traj, h]

theorem traj_run_cons_other {a : Nat} {ev : Event} (h : ev.who ≠ a) (r : List Event) (p : Proc) :
    traj a (run (ev :: r) p).2 = traj a (run r (stepProc p ev).1).2 := by
  simp [run, traj, h]

theorem stepProc_inst_self {a : Nat} {ev : Event} (h : ev.who = a) (p : Proc) :
    (stepProc p ev).1.inst a = (execProg ev.arg ev.prog (p.inst ev.who) p.glob).1 :=
  if_pos h.symm

theorem stepProc_inst_other {a : Nat} {ev : Event} (h : ev.who ≠ a) (p : Proc) : (stepProc p ev).1.inst a = p.inst a :=
  if_neg fun e => h e.symm

def Frames (cls : Nat → GClass) (prog : List Cmd) : Prop :=
  ∀ (a : Val) (i : Inst) (G : Store), AgreeIO cls (execProg a prog i G).2.1 G

theorem frames_of_progOK {cls : Nat → GClass} {prog : List Cmd} (h : progOK cls prog = true) : Frames cls prog :=
  fun a i G => C04_frame cls a prog true [] i G h

theorem run_frame {cls : Nat → GClass} : ∀ (h : List Event) (p : Proc), (∀ e ∈ h, progOK cls e.prog = true) →
    AgreeIO cls (run h p).1.glob p.glob
  | [], _, _ => fun _ _ => rfl
  | e :: r, p, hok => fun g hg =>
    (run_frame r (stepProc p e).1 (fun x hx => hok x (List.mem_cons_of_mem _ hx)) g hg).trans
      (frames_of_progOK (hok e (List.mem_cons_self ..)) e.arg (p.inst e.who) p.glob g hg)

theorem run_agreeIO {cls : Nat → GClass} {h₁ h₂ : List Event} {p₁ p₂ : Proc} (hok₁ : ∀ e ∈ h₁, progOK cls e.prog = true)
    (hok₂ : ∀ e ∈ h₂, progOK cls e.prog = true) (hG : AgreeIO cls p₁.glob p₂.glob) :
    AgreeIO cls (run h₁ p₁).1.glob (run h₂ p₂).1.glob :=
  fun g hg => (run_frame h₁ p₁ hok₁ g hg).trans ((hG g hg).trans (run_frame h₂ p₂ hok₂ g hg).symm)

theorem independent_of_framed (cls : Nat → GClass) (a : Nat) :
    ∀ (evs : List Event) (p q : Proc),
      (∀ ev ∈ evs, (ev.who = a ∧ progOK cls ev.prog = true) ∨ (ev.who ≠ a ∧ Frames cls ev.prog)) →
      p.inst a = q.inst a → AgreeIO cls p.glob q.glob →
      traj a (run evs p).2 = traj a (run (onlyOf a evs) q).2
      ∧ (run evs p).1.inst a = (run (onlyOf a evs) q).1.inst a
      ∧ AgreeIO cls (run evs p).1.glob (run (onlyOf a evs) q).1.glob := by
  intro evs
  induction evs with
  | nil => intro p q _ hi hG; exact ⟨rfl, hi, hG⟩
  | cons ev r ih =>
    intro p q hok hi hG
    have hr := fun p q => ih p q fun e he => hok e (List.mem_cons_of_mem _ he)
    rcases hok ev (List.mem_cons_self ..) with ⟨hw, hev⟩ | ⟨hw, hev⟩
    · -- an operation of `a`: executed on related states
      have hrel := execProg_rel cls ev.arg ev.prog true [] (p.inst ev.who) (q.inst ev.who) p.glob q.glob hev
        (by rw [hw, hi]; exact ⟨rfl, fun _ => rfl⟩) (agree_nil_iff.2 hG)
      rw [finalL_true] at hrel
      have := hr (stepProc p ev).1 (stepProc q ev).1
        (by rw [stepProc_inst_self hw, stepProc_inst_self hw]; exact inst_ext hrel.1) (agree_io_of_agree hrel.2.1)
      rw [onlyOf_cons_self hw, traj_run_cons_self hw, traj_run_cons_self hw, this.1]
      exact ⟨congrArg (· :: _) hrel.2.2, this.2⟩
    · -- an operation of another instance: `a`'s state and the import-only globals are untouched
      rw [onlyOf_cons_other hw, traj_run_cons_other hw]
      exact hr (stepProc p ev).1 q ((stepProc_inst_other hw p).trans hi)
        (fun g hg => (hev ev.arg (p.inst ev.who) p.glob g hg).trans (hG g hg))

/-- Main theorem. For every classification, every schedule `evs` of operations of any number of instances in which every
operation respects the discipline, and every pair of start states that agree on instance `a` and on the import-only
globals: what `a`'s caller sees in the schedule, and `a`'s final state, are what they are when only `a`'s operations
are run. (The other instances' operations are absorbed by the frame rule.) -/
theorem C04_instances_independent (cls : Nat → GClass) (a : Nat) :
    ∀ (evs : List Event) (p q : Proc),
      (∀ ev ∈ evs, progOK cls ev.prog = true) →
      p.inst a = q.inst a → AgreeIO cls p.glob q.glob →
      traj a (run evs p).2 = traj a (run (onlyOf a evs) q).2
      ∧ (run evs p).1.inst a = (run (onlyOf a evs) q).1.inst a
      ∧ AgreeIO cls (run evs p).1.glob (run (onlyOf a evs) q).1.glob :=
  fun evs p q hok => independent_of_framed cls a evs p q fun ev he =>
    (Decidable.em (ev.who = a)).imp (fun hw => ⟨hw, hok ev he⟩) (fun hw => ⟨hw, frames_of_progOK (hok ev he)⟩)

/-- `zs` is an interleaving of `xs` and `ys` (relative order inside each list kept) -/
inductive Interleave {α : Type} : List α → List α → List α → Prop
  | nil : Interleave [] [] []
  | left {x xs ys zs} : Interleave xs ys zs → Interleave (x :: xs) ys (x :: zs)
  | right {y xs ys zs} : Interleave xs ys zs → Interleave xs (y :: ys) (y :: zs)

theorem onlyOf_interleave {a : Nat} {xs ys zs : List Event} (h : Interleave xs ys zs)
    (hx : ∀ e ∈ xs, e.who = a) (hy : ∀ e ∈ ys, e.who ≠ a) : onlyOf a zs = xs := by
  induction h with
  | nil => rfl
  | left _ ih =>
    rw [List.forall_mem_cons] at hx
    rw [onlyOf_cons_self hx.1, ih hx.2 hy]
  | right _ ih =>
    rw [List.forall_mem_cons] at hy
    rw [onlyOf_cons_other hy.1, ih hx hy.2]

theorem Interleave.forall {α : Type} {P : α → Prop} {xs ys zs : List α} (h : Interleave xs ys zs) :
    (∀ x ∈ xs, P x) → (∀ y ∈ ys, P y) → ∀ z ∈ zs, P z := by
  induction h with
  | nil => exact fun _ _ _ hz => nomatch hz
  | left _ ih =>
    simp only [List.forall_mem_cons]
    exact fun hx hy => ⟨hx.1, ih hx.2 hy⟩
  | right _ ih =>
    simp only [List.forall_mem_cons]
    exact fun hx hy => ⟨hy.1, ih hx hy.2⟩

/-- The statement of DESIGN §5: for ALL interleavings of the operations of `a` with operations of other instances,
`a`'s trajectory is its solo trajectory. -/
theorem C04_interleaving (cls : Nat → GClass) (a : Nat) (opsA opsB evs : List Event) (p : Proc)
    (hil : Interleave opsA opsB evs)
    (hA : ∀ e ∈ opsA, e.who = a) (hB : ∀ e ∈ opsB, e.who ≠ a)
    (hokA : ∀ e ∈ opsA, progOK cls e.prog = true) (hokB : ∀ e ∈ opsB, progOK cls e.prog = true) :
    traj a (run evs p).2 = traj a (run opsA p).2 := by
  have := (C04_instances_independent cls a evs p p (hil.forall hokA hokB) rfl (fun _ _ => rfl)).1
  rw [onlyOf_interleave hil hA hB] at this
  exact this

/-- One reset operation (a program that passes the check with `L = false`, i.e. never reads the old game, and that does
rebuild the game) executed on two processes with ARBITRARY different pasts: if the environment-level attributes of `a`
and the import-only globals agree, the returned values are equal, `a`'s whole new state is equal, and the import-only
globals still agree. The old per-game stores do not appear in the hypotheses: they are irrelevant. -/
theorem C04_reset_is_fresh (cls : Nat → GClass) (a : Nat) (prog : List Cmd) (seed : Val)
    (hreset : resetOK cls prog = true) (hnew : finalL false prog = true)
    (p q : Proc) (henv : (p.inst a).env = (q.inst a).env) (hG : AgreeIO cls p.glob q.glob) :
    (stepProc p ⟨a, prog, seed⟩).2 = (stepProc q ⟨a, prog, seed⟩).2
    ∧ (stepProc p ⟨a, prog, seed⟩).1.inst a = (stepProc q ⟨a, prog, seed⟩).1.inst a
    ∧ AgreeIO cls (stepProc p ⟨a, prog, seed⟩).1.glob (stepProc q ⟨a, prog, seed⟩).1.glob := by
  have hrel := execProg_rel cls seed prog false [] (p.inst a) (q.inst a) p.glob q.glob hreset
    ⟨henv, fun h => by cases h⟩ (agree_nil_iff.2 hG)
  rw [hnew] at hrel
  refine ⟨hrel.2.2, ?_, agree_io_of_agree hrel.2.1⟩
  simp [stepProc, inst_ext hrel.1]

/-- Any two histories `h₁ h₂` (arbitrary schedules, arbitrary start processes) after which `a`'s environment-level
attributes agree, followed by the same reset(seed) and then ANY schedule `later` — in one run interleaved with other
instances' operations, in the other run alone — give the same trajectory for `a` from the reset on. -/
theorem C04_history_irrelevant (cls : Nat → GClass) (a : Nat) (prog : List Cmd) (seed : Val)
    (hreset : resetOK cls prog = true) (hnew : finalL false prog = true)
    (h₁ h₂ later : List Event) (p₁ p₂ : Proc)
    (hok₁ : ∀ e ∈ h₁, progOK cls e.prog = true) (hok₂ : ∀ e ∈ h₂, progOK cls e.prog = true)
    (hlater : ∀ e ∈ later, progOK cls e.prog = true)
    (hG : AgreeIO cls p₁.glob p₂.glob)
    (henv : ((run h₁ p₁).1.inst a).env = ((run h₂ p₂).1.inst a).env) :
    traj a (run (⟨a, prog, seed⟩ :: later) (run h₁ p₁).1).2
      = traj a (run (⟨a, prog, seed⟩ :: onlyOf a later) (run h₂ p₂).1).2 := by
  have hfresh := C04_reset_is_fresh cls a prog seed hreset hnew (run h₁ p₁).1 (run h₂ p₂).1 henv (run_agreeIO hok₁ hok₂ hG)
  have hind := C04_instances_independent cls a later _ _ hlater hfresh.2.1 hfresh.2.2
  rw [traj_run_cons_self (ev := ⟨a, prog, seed⟩) rfl, traj_run_cons_self (ev := ⟨a, prog, seed⟩) rfl, hind.1, hfresh.1]

/-- Full statement for the skeleton (the operations as the inventory says they access the globals): every schedule made of
construct / reset / step operations leaves every instance's trajectory equal to its solo trajectory. -/
def C04_FullSkeletonIsolated : Prop :=
  ∀ (a : Nat) (evs : List Event) (p : Proc),
    (∀ ev ∈ evs, ev.prog = constructProg ∨ ev.prog = resetProg ∨ ev.prog = stepProg ∨ ev.prog = stepProgClean) →
    traj a (run evs p).2 = traj a (run (onlyOf a evs) p).2

/-- every operation of the skeleton respects the discipline: the RNG is re-seeded or restored before it is drawn, NMNE settings are
per-game state -/
theorem skeletonOp_ok : ∀ p ∈ [constructProg, resetProg, resetProgNoSeed, stepProg, stepProgClean], progOK refClass p = true := by
  decide
theorem resetProg_resetOK : resetOK refClass resetProg = true := by decide
theorem resetProg_rebuilds : finalL false resetProg = true := by decide
/-- **since the F-11 repair `step` as the code is respects the discipline**: the generator state it draws from was installed by the
operation itself (the environment's own saved state) … -/
theorem stepProg_ok : progOK refClass stepProg = true := by decide
/-- … and so does a reset WITHOUT a seed (it continues the environment's own stream) -/
theorem resetProgNoSeed_ok : progOK refClass resetProgNoSeed = true ∧ resetOK refClass resetProgNoSeed = true
    ∧ finalL false resetProgNoSeed = true := by decide
/-- the pre-repair programs: construct / reset(seed) passed, and so did (since the F-10 repair) `step` of an instance that draws nothing
from the global generators … -/
theorem preRepairOp_ok : ∀ p ∈ [constructProgShared, resetProgShared, stepProgNoRng, stepProgClean], progOK refClass p = true := by
  decide
/-- … while the PRE-repair `step` of an instance WITH scripted agents / red applications did not (F-11: global RNG) -/
theorem stepProgShared_not_ok : progOK refClass stepProgShared = false := by decide
/-- the only globals the pre-repair `step` read without having written them that are not import-only: the generator (F-11), three times;
the repaired `step` reads none -/
theorem stepProgShared_leaks : (unprotectedReads [] stepProgShared).filter (fun g => refClass g != .importOnly) = [gRng, gRng, gRng]
    ∧ (unprotectedReads [] stepProg).filter (fun g => refClass g != .importOnly) = [] := by decide
/-- what still starts from the process-wide state, BY DESIGN: the construction of a scenario without `game.seed` (and, before the repair,
the unseeded reset) -/
theorem noSeed_not_ok : progOK refClass constructProgNoSeed = false ∧ progOK refClass resetProgNoSeedShared = false := by decide

/-- In ANY schedule of construct / reset / step operations of any number of instances - resets seeded or UNSEEDED (those continue the
instance's own stream), the code's own `step` with scripted agents and red applications drawing - every instance's trajectory is its solo
trajectory. -/
theorem C04_skeleton_isolated_with_unseeded_resets (a : Nat) (evs : List Event) (p : Proc)
    (h : ∀ ev ∈ evs, ev.prog = constructProg ∨ ev.prog = resetProg ∨ ev.prog = resetProgNoSeed ∨ ev.prog = stepProg ∨ ev.prog = stepProgClean) :
    traj a (run evs p).2 = traj a (run (onlyOf a evs) p).2 := by
  have hok : ∀ ev ∈ evs, progOK refClass ev.prog = true := fun ev he =>
    skeletonOp_ok _ (by rcases h ev he with e | e | e | e | e <;> simp [e])
  exact (C04_instances_independent refClass a evs p p hok rfl (fun _ _ => rfl)).1

/-- **F-11 repaired: the FULL statement** (schedules with seeded resets). -/
theorem C04_skeleton_isolated : C04_FullSkeletonIsolated :=
  fun a evs p h => C04_skeleton_isolated_with_unseeded_resets a evs p fun ev he => by
    rcases h ev he with e | e | e | e <;> simp [e]

/-- and foreign draws from the process-wide generator by other instances (a training loop, say), any number of them anywhere in between,
cannot move a draw of `a`. For every other program of another instance that writes no import-only global (an unseeded construction of
another environment, say) the same is `independent_of_framed`. -/
theorem C04_foreign_generator_use_harmless (a : Nat) (evs : List Event) (p : Proc)
    (h : ∀ ev ∈ evs, (ev.who = a ∧ (ev.prog = resetProg ∨ ev.prog = resetProgNoSeed ∨ ev.prog = stepProg))
      ∨ (ev.who ≠ a ∧ ev.prog = [.setGlob gRng (.lcg (.glob gRng))])) :
    traj a (run evs p).2 = traj a (run (onlyOf a evs) p).2 := by
  refine (independent_of_framed refClass a evs p p (fun ev he => (h ev he).imp (And.imp_right fun hp => ?_) (And.imp_right fun hp => ?_))
    rfl (fun _ _ => rfl)).1
  · exact skeletonOp_ok _ (by rcases hp with e | e | e <;> simp [e])
  · -- a foreign draw is not `progOK` (it reads the generator it did not write), but the generator is all it writes
    intro b i G g hg
    have : g ≠ gRng := fun e => by simp [e, refClass] at hg
    simp [hp, execProg, execCmd, upd, this]

theorem execProg_setGlob (a : Val) (g : Nat) (e : Expr) (r : List Cmd) (i : Inst) (G : Store) :
    execProg a (.setGlob g e :: r) i G = execProg a r i (upd G g (eval a i G e)) := rfl

theorem upd_upd (f : Store) (x : Nat) (v w : Val) : upd (upd f x v) x w = upd f x w := by
  funext y
  by_cases h : y = x <;> simp [upd, h]

theorem upd_eq_self (f : Store) (x : Nat) : upd f x (f x) = f := by
  funext y
  by_cases h : y = x <;> simp [upd, h]

def bumpEpisode (e : Store) : Store := upd e eEpisode (e eEpisode + 1)

/-- the scenario and the `nmne_config` that the scheduler hands out for the episode recorded in the attributes `e` -/
def scenarioOf (e : Store) : Val := e eConfig + if e eScheduled ≠ 0 then e eEpisode else 0
def nmneOf (e : Store) : Val := e eNmneCfg + if e eNmneVar ≠ 0 then e eEpisode else 0

/-- what every `reset` does once the generator holds the state the episode starts from -/
def rebuild : List Cmd := resetHead ++ buildGame ++ ownOut

theorem resetProg_eq : resetProg = .setGlob gRng (.env eOwnRng) :: .setGlob gRng .arg :: rebuild := rfl
theorem resetProgNoSeed_eq : resetProgNoSeed = .setGlob gRng (.env eOwnRng) :: rebuild := rfl

/-- The rebuild in closed form. Of the environment it reads the scheduled scenario, the scheduled `nmne_config`, the io settings and
whether building draws; of the process the import-only tables, the generator and the NMNE override; of the old game nothing. -/
theorem execProg_rebuild (a : Val) (i : Inst) (G : Store) :
    execProg a rebuild i G =
      (let e := bumpEpisode i.env
       let s := scenarioOf e + G gImport + if e eBuildRng ≠ 0 then G gRng else 0
       let r := if e eBuildRng ≠ 0 then lcgStep (G gRng) else G gRng
       (⟨upd (upd e eOwnRng r) eHasOwn 1,
          upd (upd (upd (upd (fun _ => 0) lNmne (nmneOf e)) lState (scenarioOf e + G gImport)) lStep 0) lState s⟩,
        upd (upd (upd G gPcapLoggers 0) gPcapLoggers (e eIo)) gRng r,
        [s + if G gNmne ≠ 0 then G gNmne else nmneOf e])) := rfl

theorem stepProg_eq : stepProg = .setGlob gRng (.env eOwnRng) :: (stepProgShared ++ ownOut) := rfl

theorem execProg_step (a : Val) (i : Inst) (G : Store) :
    execProg a (stepProgShared ++ ownOut) i G =
      (let n := if G gNmne ≠ 0 then G gNmne else i.loc lNmne
       let s := i.loc lState + a + n + if i.env eUsesRng ≠ 0 then G gRng else 0
       let r := if i.env eUsesRng ≠ 0 then lcgStep (G gRng) else G gRng
       (⟨upd (upd i.env eOwnRng r) eHasOwn 1, upd (upd (upd i.loc lStep (i.loc lStep + 1)) lState (i.loc lState + a + n)) lState s⟩,
        upd G gRng r, [s + n, i.loc lStep + 1])) := rfl

/-- on an environment whose `_generator_state` is set, the prologue AS WRITTEN is the unconditional one … -/
theorem C04_own_in_code_eq (a : Val) (i : Inst) (G : Store) (rest : List Cmd) (h : i.env eHasOwn ≠ 0) :
    execProg a (ownInCode ++ rest) i G = execProg a (ownIn ++ rest) i G := by
  simp only [eHasOwn] at h
  simp [ownInCode, ownIn, execProg, execCmd, eval, eHasOwn, h]

/-- … on a new object (`__init__`) it does nothing … -/
theorem C04_own_in_code_new (a : Val) (i : Inst) (G : Store) (rest : List Cmd) (h : i.env eHasOwn = 0) :
    execProg a (ownInCode ++ rest) i G = execProg a rest i G := by
  simp only [eHasOwn] at h
  simp [ownInCode, execProg, execCmd, eval, eHasOwn, h, upd_eq_self]

/-- … and every wrapped operation leaves the state set (the epilogue runs in a `finally`): after `__init__` it is set for good -/
theorem C04_has_own_after (a : Val) (i : Inst) (G : Store) (p : List Cmd)
    (hp : p = constructProg ∨ p = constructProgNoSeed ∨ p = resetProg ∨ p = resetProgNoSeed ∨ p = stepProg) :
    (execProg a p i G).1.env eHasOwn = 1 := by
  rcases hp with rfl | rfl | rfl | rfl | rfl <;> rfl

/-- hence the operations exactly as written (`…Code`, with the test) ARE the skeleton's on every constructed environment -/
theorem C04_code_ops_are_skeleton_ops (a : Val) (i : Inst) (G : Store) (h : i.env eHasOwn ≠ 0) :
    execProg a stepProgCode i G = execProg a stepProg i G ∧ execProg a resetProgCode i G = execProg a resetProg i G
    ∧ execProg a resetProgNoSeedCode i G = execProg a resetProgNoSeed i G :=
  ⟨C04_own_in_code_eq a i G _ h, C04_own_in_code_eq a i G _ h, C04_own_in_code_eq a i G _ h⟩

theorem C04_code_construct_is_skeleton_construct (a : Val) (i : Inst) (G : Store) (h : i.env eHasOwn = 0) :
    execProg a constructProgCode i G = execProg a constructProg i G :=
  C04_own_in_code_new a i G _ h

/-- the full statement for the operations without the decorator -/
def C04_SharedRngSkeletonIsolated : Prop :=
  ∀ (a : Nat) (evs : List Event) (p : Proc),
    (∀ ev ∈ evs, ev.prog = constructProgShared ∨ ev.prog = resetProgShared ∨ ev.prog = stepProgShared ∨ ev.prog = stepProgClean) →
    traj a (run evs p).2 = traj a (run (onlyOf a evs) p).2

/-- on an instance that does not use the global generators in `step`, `stepProgShared` IS `stepProgNoRng` (same new state, globals, outputs) -/
theorem step_norng_eq (a : Val) (i : Inst) (G : Store) (h : i.env eUsesRng = 0) :
    execProg a stepProgShared i G = execProg a stepProgNoRng i G := by
  simp only [eUsesRng] at h
  simp [stepProgShared, stepProgNoRng, execProg, execCmd, eval, eUsesRng, h, upd_eq_self]

/-- the environment-level attribute "uses the global generators" is never assigned by an operation of the pre-repair skeleton -/
theorem usesRng_const (a : Val) (i : Inst) (G : Store) (p : List Cmd)
    (hp : p = constructProgShared ∨ p = resetProgShared ∨ p = stepProgShared ∨ p = stepProgClean ∨ p = stepProgNoRng) :
    (execProg a p i G).1.env eUsesRng = i.env eUsesRng := by
  rcases hp with rfl | rfl | rfl | rfl | rfl <;> rfl

/-- replace the `step` of instances that do not use the generators by its generator-free form -/
def normEvent (p : Proc) (ev : Event) : Event :=
  if ev.prog = stepProgShared ∧ (p.inst ev.who).env eUsesRng = 0 then { ev with prog := stepProgNoRng } else ev

def usesRngOf (p : Proc) : Nat → Val := fun k => (p.inst k).env eUsesRng

theorem stepProc_norm (p : Proc) (ev : Event) : stepProc p (normEvent p ev) = stepProc p ev := by
  unfold normEvent
  split
  · rename_i h
    simp only [stepProc]
    rw [h.1, step_norng_eq ev.arg (p.inst ev.who) p.glob h.2]
  · rfl

theorem usesRngOf_step (p : Proc) (ev : Event)
    (hp : ev.prog = constructProgShared ∨ ev.prog = resetProgShared ∨ ev.prog = stepProgShared ∨ ev.prog = stepProgClean) :
    usesRngOf (stepProc p ev).1 = usesRngOf p := by
  funext k
  by_cases hk : ev.who = k
  · simp only [usesRngOf, stepProc_inst_self hk]
    subst hk
    exact usesRng_const ev.arg _ _ _ (by rcases hp with e | e | e | e <;> simp [e])
  · simp only [usesRngOf, stepProc_inst_other hk]

/-- events normalised along the run (the flag of an instance never changes, so the start process decides) -/
def normAll (p : Proc) (evs : List Event) : List Event := evs.map (normEvent p)

theorem normEvent_congr (p q : Proc) (ev : Event) (h : usesRngOf p = usesRngOf q) : normEvent p ev = normEvent q ev := by
  have : (p.inst ev.who).env eUsesRng = (q.inst ev.who).env eUsesRng := congrFun h ev.who
  simp [normEvent, this]

theorem normEvent_who (p : Proc) (e : Event) : (normEvent p e).who = e.who := by
  unfold normEvent
  split <;> rfl

theorem run_norm : ∀ (evs : List Event) (p : Proc),
    (∀ ev ∈ evs, ev.prog = constructProgShared ∨ ev.prog = resetProgShared ∨ ev.prog = stepProgShared ∨ ev.prog = stepProgClean) →
    run (normAll p evs) p = run evs p := by
  intro evs
  induction evs with
  | nil => intro p _; rfl
  | cons ev r ih =>
    intro p h
    have hfl := usesRngOf_step p ev (h ev (List.mem_cons_self ..))
    have hmap : (r.map (normEvent p)) = r.map (normEvent (stepProc p ev).1) :=
      List.map_congr_left fun e _ => normEvent_congr _ _ e hfl.symm
    simp only [normAll, List.map_cons, run]
    rw [stepProc_norm, hmap, normEvent_who]
    have := ih (stepProc p ev).1 (fun e he => h e (List.mem_cons_of_mem _ he))
    simp only [normAll] at this
    rw [this]

/-- **About the PRE-repair programs (a lemma about the old code).** Before the F-11 repair only this much held: in ANY schedule of
construct / reset(seed) / step operations WITHOUT the decorator in which every instance that is STEPPED draws nothing from the global
generators (decidable hypothesis on the start process), every instance's trajectory is its solo trajectory. -/
theorem C04_shared_rng_skeleton_isolated_partial (a : Nat) (evs : List Event) (p : Proc)
    (h : ∀ ev ∈ evs, ev.prog = constructProgShared ∨ ev.prog = resetProgShared ∨ ev.prog = stepProgShared ∨ ev.prog = stepProgClean)
    (hx : ∀ ev ∈ evs, ev.prog = stepProgShared → (p.inst ev.who).env eUsesRng = 0) :
    traj a (run evs p).2 = traj a (run (onlyOf a evs) p).2 := by
  have hok : ∀ ev ∈ normAll p evs, progOK refClass ev.prog = true := by
    intro ev he
    obtain ⟨e0, he0, rfl⟩ := List.mem_map.1 he
    refine preRepairOp_ok _ ?_
    unfold normEvent
    split
    · simp
    · -- not normalised: by `hx` it is not the drawing `step`
      rename_i hn
      rcases h e0 he0 with e | e | e | e
      · simp [e]
      · simp [e]
      · exact absurd ⟨e, hx e0 he0 e⟩ hn
      · simp [e]
  have hind := (C04_instances_independent refClass a (normAll p evs) p p hok rfl (fun _ _ => rfl)).1
  have hfilter : onlyOf a (normAll p evs) = normAll p (onlyOf a evs) := by
    simp [onlyOf, normAll, List.filter_map, Function.comp_def, normEvent_who]
  rw [hfilter, run_norm evs p h, run_norm (onlyOf a evs) p (fun e he => h e (List.mem_filter.1 he).1)] at hind
  exact hind

def proc0 : Proc := { inst := fun i => initInst 7 (if i = 0 then 1 else 0) 0, glob := fun _ => 0 }
/-- two instances with different NMNE settings, none of which draws from the global generators -/
def procQuiet : Proc := { inst := fun i => initInst 7 (if i = 0 then 1 else 0) 0 0, glob := fun _ => 0 }

/-- non-vacuity: two instances with DIFFERENT NMNE settings, resets and the code's own `step` -/
example : traj 0 (run [⟨0, constructProg, 5⟩, ⟨1, constructProg, 9⟩, ⟨0, stepProg, 2⟩, ⟨1, resetProg, 4⟩, ⟨1, stepProg, 1⟩, ⟨0, stepProg, 3⟩] procQuiet).2
    = [[8], [11, 1], [15, 2]] := by decide


/-- F-10 witness (FIXED): instance 0 captures NMNE (config 1), instance 1 is built from a scenario that does not (config 0). -/
def witnessF10 : List Event := [⟨0, constructProg, 5⟩, ⟨1, constructProg, 5⟩, ⟨0, stepProg, 2⟩]
/-- F-11 witness: identical scenarios; instance 1's step advances the global RNG between two steps of instance 0. -/
def witnessF11 : List Event := [⟨0, resetProg, 5⟩, ⟨0, stepProg, 2⟩, ⟨1, stepProg, 2⟩, ⟨0, stepProg, 2⟩]
/-- the same schedule with the operations as they were BEFORE the repair -/
def witnessF11Shared : List Event := [⟨0, resetProgShared, 5⟩, ⟨0, stepProgShared, 2⟩, ⟨1, stepProgShared, 2⟩, ⟨0, stepProgShared, 2⟩]
def proc1 : Proc := { inst := fun _ => initInst 7 1 0, glob := fun _ => 0 }

/-- non-vacuity of the full theorem: the instances of `proc1` DO draw (their steps return generator-dependent values) -/
example : traj 0 (run [⟨0, constructProg, 5⟩, ⟨1, constructProg, 9⟩, ⟨0, stepProg, 2⟩, ⟨1, stepProg, 1⟩, ⟨0, stepProg, 3⟩] proc1).2
    ≠ traj 0 (run [⟨0, constructProg, 6⟩, ⟨1, constructProg, 9⟩, ⟨0, stepProg, 2⟩, ⟨1, stepProg, 1⟩, ⟨0, stepProg, 3⟩] proc1).2 := by decide

/-- with the repaired operations the F-10 witness does not separate the interleaved run from the solo run (the instances even use the
generators here) -/
theorem C04_skeleton_f10_witness_isolated : traj 0 (run witnessF10 proc0).2 = traj 0 (run (onlyOf 0 witnessF10) proc0).2 := by decide

/-- the full statement for the operations BEFORE the F-10 repair (class attributes written by every from_config, read by every step): the
same schedule, on instances that draw nothing, refutes it -/
def C04_ClassAttrSkeletonIsolated : Prop :=
  ∀ (a : Nat) (evs : List Event) (p : Proc),
    (∀ ev ∈ evs, ev.prog = constructProgClassAttrs ∨ ev.prog = resetProgClassAttrs ∨ ev.prog = stepProgClassAttrs ∨ ev.prog = stepProgClean) →
    traj a (run evs p).2 = traj a (run (onlyOf a evs) p).2

theorem C04_class_attr_counterexample : ¬ C04_ClassAttrSkeletonIsolated := by
  intro h
  have := h 0 [⟨0, constructProgClassAttrs, 5⟩, ⟨1, constructProgClassAttrs, 5⟩, ⟨0, stepProgClassAttrs, 2⟩] procQuiet (by decide)
  revert this
  decide

/-! #### F-C04-r7-1 (fixed): a sink-only global whose readers can raise is not sink-only -/

/-- the statement for log calls that dereference a logger under the process-wide flag alone -/
def C04_SinkFlagSkeletonIsolated : Prop :=
  ∀ (a : Nat) (evs : List Event) (p : Proc),
    (∀ ev ∈ evs, ev.prog = constructProgSinkFlag ∨ ev.prog = resetProgSinkFlag ∨ ev.prog = stepProgSinkFlag) →
    traj a (run evs p).2 = traj a (run (onlyOf a evs) p).2

/-- such programs read a sink-only global outside `log`: they do not pass the discipline … -/
theorem sinkFlagProgs_not_ok : progOK refClass constructProgSinkFlag = false ∧ progOK refClass resetProgSinkFlag = false
    ∧ progOK refClass stepProgSinkFlag = false := by decide

/-- instance 0 saves no logs (io settings 0), instance 1 does (io settings 1), no generator use anywhere -/
def procIo : Proc := { inst := fun i => initInst 7 0 (if i = 0 then 0 else 1) 0, glob := fun _ => 0 }

/-- … and the statement is REFUTED: environment 0 is built with saving off, environment 1 with saving on, then environment 0 steps: its
log call finds the flag on and no logger (the raise marker is returned); alone it returns 0. This is why
`C04_gen_sink_flag_uses_guarded` is an obligation. -/
theorem C04_sink_flag_counterexample : ¬ C04_SinkFlagSkeletonIsolated := by
  intro h
  have := h 0 [⟨0, constructProgSinkFlag, 5⟩, ⟨1, constructProgSinkFlag, 5⟩, ⟨0, stepProgSinkFlag, 2⟩] procIo (by decide)
  revert this
  decide

/-- the same two environments with the operations as the code has them now: instance 0 is unaffected -/
theorem C04_skeleton_io_witness_isolated :
    traj 0 (run [⟨0, constructProg, 5⟩, ⟨1, constructProg, 5⟩, ⟨0, stepProg, 2⟩, ⟨1, resetProg, 3⟩, ⟨0, resetProg, 4⟩, ⟨0, stepProg, 1⟩] procIo).2
      = traj 0 (run (onlyOf 0 [⟨0, constructProg, 5⟩, ⟨1, constructProg, 5⟩, ⟨0, stepProg, 2⟩, ⟨1, resetProg, 3⟩, ⟨0, resetProg, 4⟩, ⟨0, stepProg, 1⟩]) procIo).2 := by
  decide

/-- **F-11 as it was (a lemma about the old code)**: without the decorator the full statement is refuted by the F-11 witness … -/
theorem C04_shared_rng_counterexample : ¬ C04_SharedRngSkeletonIsolated := by
  intro h
  have := h 0 witnessF11Shared proc1 (by decide)
  revert this
  decide

/-- … and the same schedule with the operations as the code has them now no longer separates the interleaved run from the solo run
(instance 0's second step returns what it returns alone although instance 1 drew in between) -/
theorem C04_skeleton_f11_witness_isolated : traj 0 (run witnessF11 proc1).2 = traj 0 (run (onlyOf 0 witnessF11) proc1).2
    ∧ traj 0 (run witnessF11 proc1).2 ≠ traj 0 (run (witnessF11.filter fun e => e.prog != stepProg) proc1).2 := by decide

/-- history irrelevance for the skeleton's reset: any two pasts with the same environment-level attributes -/
theorem C04_skeleton_reset_fresh (a : Nat) (seed : Val) (h₁ h₂ later : List Event) (p₁ p₂ : Proc)
    (hok₁ : ∀ e ∈ h₁, progOK refClass e.prog = true) (hok₂ : ∀ e ∈ h₂, progOK refClass e.prog = true)
    (hlater : ∀ e ∈ later, progOK refClass e.prog = true)
    (hG : AgreeIO refClass p₁.glob p₂.glob)
    (henv : ((run h₁ p₁).1.inst a).env = ((run h₂ p₂).1.inst a).env) :
    traj a (run (⟨a, resetProg, seed⟩ :: later) (run h₁ p₁).1).2
      = traj a (run (⟨a, resetProg, seed⟩ :: onlyOf a later) (run h₂ p₂).1).2 :=
  C04_history_irrelevant refClass a resetProg seed resetProg_resetOK resetProg_rebuilds h₁ h₂ later p₁ p₂ hok₁ hok₂ hlater hG henv

/-! ### episode schedules: episode k of a long-lived environment = an environment built from scenario k

One instance alone (no other instance interferes), with the operations AS THE CODE HAS THEM (`stepProg` with its draws included: what it
reads of the generator is what the instance's own last operation saved). -/

/-- the operations of one instance in sequence: what its caller sees -/
def runSolo : List (List Cmd × Val) → Inst → Store → List (List Val)
  | [], _, _ => []
  | (p, a) :: r, i, G => (execProg a p i G).2.2 :: runSolo r (execProg a p i G).1 (execProg a p i G).2.1

/-- `j` is an environment constructed for the scenario that the scheduler of `i` hands out at `i`'s NEXT episode: constant scheduler,
scenario and nmne_config equal to the scheduled ones, same io settings and agents. Its episode counter, its game and the process
globals around it are arbitrary. -/
def EpisodeMatch (i j : Inst) : Prop :=
  j.env eScheduled = 0 ∧ j.env eNmneVar = 0
  ∧ j.env eConfig = i.env eConfig + (if i.env eScheduled ≠ 0 then i.env eEpisode + 1 else 0)
  ∧ j.env eNmneCfg = i.env eNmneCfg + (if i.env eNmneVar ≠ 0 then i.env eEpisode + 1 else 0)
  ∧ j.env eIo = i.env eIo ∧ j.env eUsesRng = i.env eUsesRng ∧ j.env eBuildRng = i.env eBuildRng

/-- what a `step` of an instance depends on: its game, whether it draws, ITS OWN generator state (not the process's: F-11 repair) and the
optional process-wide NMNE override -/
def StepRel (i j : Inst) (G G' : Store) : Prop :=
  i.loc = j.loc ∧ i.env eUsesRng = j.env eUsesRng ∧ i.env eOwnRng = j.env eOwnRng ∧ G gNmne = G' gNmne

def OpMatch (p : List Cmd) (a : Val) (i j : Inst) (G G' : Store) : Prop :=
  (execProg a p i G).2.2 = (execProg a p j G').2.2
  ∧ StepRel (execProg a p i G).1 (execProg a p j G').1 (execProg a p i G).2.1 (execProg a p j G').2.1

theorem EpisodeMatch.next {i j : Inst} (hm : EpisodeMatch i j) :
    scenarioOf (bumpEpisode i.env) = scenarioOf (bumpEpisode j.env) ∧ nmneOf (bumpEpisode i.env) = nmneOf (bumpEpisode j.env) := by
  obtain ⟨h1, h2, h3, h4, -⟩ := hm
  -- on `i`'s side these are the right-hand sides of `h3`, `h4` as they stand; on `j`'s side the schedule is constant
  constructor
  · show _ = j.env eConfig + if j.env eScheduled ≠ 0 then _ else 0
    rw [h1, h3]
    exact (Int.add_zero _).symm
  · show _ = j.env eNmneCfg + if j.env eNmneVar ≠ 0 then _ else 0
    rw [h2, h4]
    exact (Int.add_zero _).symm

/-- a rebuild from the same generator state erases everything else of the past -/
theorem rebuild_match (a : Val) (i j : Inst) (G G' : Store) (hm : EpisodeMatch i j) (hG : G gImport = G' gImport)
    (hN : G gNmne = G' gNmne) (hR : G gRng = G' gRng) : OpMatch rebuild a i j G G' := by
  have hB : bumpEpisode i.env eBuildRng = bumpEpisode j.env eBuildRng := hm.2.2.2.2.2.2.symm
  have hU : i.env eUsesRng = j.env eUsesRng := hm.2.2.2.2.2.1.symm
  simp only [OpMatch, execProg_rebuild, hm.next.1, hm.next.2, hB, hG, hN, hR]
  exact ⟨trivial, rfl, hU, rfl, hN⟩

theorem reset_episode_match (seed : Val) (i j : Inst) (G G' : Store) (hm : EpisodeMatch i j) (hG : G gImport = G' gImport)
    (hN : G gNmne = G' gNmne) :
    (execProg seed resetProg i G).2.2 = (execProg seed resetProg j G').2.2
    ∧ StepRel (execProg seed resetProg i G).1 (execProg seed resetProg j G').1 (execProg seed resetProg i G).2.1 (execProg seed resetProg j G').2.1 := by
  simp only [resetProg_eq, execProg_setGlob]
  -- both generators now hold the seed
  exact rebuild_match seed i j _ _ hm hG hN rfl

theorem step_match (a : Val) (i j : Inst) (G G' : Store) (hl : i.loc = j.loc) (hU : i.env eUsesRng = j.env eUsesRng)
    (hN : G gNmne = G' gNmne) (hR : G gRng = G' gRng) : OpMatch (stepProgShared ++ ownOut) a i j G G' := by
  simp only [OpMatch, execProg_step, hl, hU, hN, hR]
  exact ⟨trivial, rfl, hU, rfl, hN⟩

theorem step_rel (a : Val) (i j : Inst) (G G' : Store) (h : StepRel i j G G') :
    (execProg a stepProg i G).2.2 = (execProg a stepProg j G').2.2
    ∧ StepRel (execProg a stepProg i G).1 (execProg a stepProg j G').1 (execProg a stepProg i G).2.1 (execProg a stepProg j G').2.1 := by
  simp only [stepProg_eq, execProg_setGlob]
  -- both generators now hold the own state, equal by `h`
  exact step_match a i j _ _ h.1 h.2.1 h.2.2.2 h.2.2.1

theorem steps_rel : ∀ (acts : List Val) (i j : Inst) (G G' : Store), StepRel i j G G' →
    runSolo (acts.map fun a => (stepProg, a)) i G = runSolo (acts.map fun a => (stepProg, a)) j G' := by
  intro acts
  induction acts with
  | nil => intro i j G G' _; rfl
  | cons a r ih =>
    intro i j G G' h
    have := step_rel a i j G G' h
    simp only [List.map_cons, runSolo]
    rw [this.1, ih _ _ _ _ this.2]

theorem runSolo_then_steps (p : List Cmd) (s : Val) (acts : List Val) (i j : Inst) (G G' : Store) (h : OpMatch p s i j G G') :
    runSolo ((p, s) :: acts.map fun a => (stepProg, a)) i G = runSolo ((p, s) :: acts.map fun a => (stepProg, a)) j G' := by
  simp only [runSolo]
  rw [h.1, steps_rel acts _ _ _ _ h.2]

/-- **Episode k of a scheduled environment is the episode of an environment built from scenario k.** For the skeleton with the operations
as the code has them: whatever the long-lived instance `i` did before (its game `i.loc` and the globals `G` are arbitrary), `reset(seed)`
followed by ANY action sequence returns exactly what an instance `j` constructed for that episode's scenario (EpisodeMatch) returns for
`reset(seed)` and the same actions in a process with arbitrary other globals `G'` (import-only tables equal). -/
theorem C04_skeleton_scheduled_episode_fresh (seed : Val) (acts : List Val) (i j : Inst) (G G' : Store)
    (hm : EpisodeMatch i j) (hG : G gImport = G' gImport) (hN : G gNmne = G' gNmne) :
    runSolo ((resetProg, seed) :: acts.map fun a => (stepProg, a)) i G
      = runSolo ((resetProg, seed) :: acts.map fun a => (stepProg, a)) j G' :=
  runSolo_then_steps _ _ acts i j G G' (reset_episode_match seed i j G G' hm hG hN)

/-- non-vacuity: a scheduled instance in its 3rd episode whose scenarios differ in nmne_config, and the constant instance for episode 4 -/
example : EpisodeMatch (initInst 7 1 0 1 1 1 |> fun i => { i with env := upd i.env eEpisode 3 }) (initInst 11 5 0 1 0 0) := by
  unfold EpisodeMatch
  decide

/-- the same statement for a `from_config` that assigns the NMNE class attributes only when the scenario has a (truthy) nmne_config -/
def C04_CondWriteEpisodeFresh : Prop :=
  ∀ (seed : Val) (acts : List Val) (i j : Inst) (G G' : Store), EpisodeMatch i j → G gImport = G' gImport →
    runSolo ((resetProgCond, seed) :: acts.map fun a => (stepProgClassAttrs, a)) i G
      = runSolo ((resetProgCond, seed) :: acts.map fun a => (stepProgClassAttrs, a)) j G'

theorem resetProgCond_not_ok : resetOK refClassPreFix resetProgCond = false ∧ progOK refClassPreFix resetProgCond = false
    ∧ resetOK refClassPreFix resetProgClassAttrs = true := by decide

/-- with a CONDITIONAL write the property fails: an episode whose scenario has no nmne_config (value 0) after an episode that captured
(global still 5) differs from the environment built for that scenario in a new process (global 0). This is why
`C04_gen_writes_unconditional` is an obligation. -/
theorem C04_conditional_write_counterexample : ¬ C04_CondWriteEpisodeFresh := by
  intro h
  have := h 3 [1] (initInst 7 0 0 0 0 0) (initInst 7 0 0 0 0 0) (fun g => if g = gNmne then 5 else if g = gCapture then 5 else 0) (fun _ => 0)
    (by unfold EpisodeMatch; decide) (by decide)
  revert this
  decide

/-! ### the seed argument: `reset(seed=…)` as a CALL (the quantifier over seeds made real)

`C04_skeleton_scheduled_episode_fresh` quantifies over the argument of `resetProg`. What a Python call `reset(seed=v)` executes is decided by
the guard in `reset` and by `set_random_seed` (Model: `resetCall`; regenerated from source: `C04_gen_seed_handling`). -/

theorem setRandomSeed_nonneg (v : Int) (gen : Bool) (hv : 0 ≤ v) : setRandomSeed (some v) gen = .seeds v := by
  have h1 : ¬ v = -1 := by omega
  have h2 : ¬ v < -1 := by omega
  simp [setRandomSeed, h1, h2]

/-- every non-negative seed — 0 included — re-seeds: the call `reset(seed=v)` IS the skeleton's `resetProg` with argument `v`,
whatever `generate_seed_value` says -/
theorem C04_reset_call_reseeds (v : Int) (gen : Bool) (hv : 0 ≤ v) : resetCall (some v) gen = some (resetProg, v) := by
  simp [resetCall, resetSeeding, resetSeedGuard, setRandomSeed_nonneg v gen hv]

/-- `PrimaiteGymEnv(cfg)` with `game.seed: v`, `v ≥ 0`, is the seeded construction -/
theorem C04_construct_call_reseeds (v : Int) (gen : Bool) (hv : 0 ≤ v) : constructCall (some v) gen = some (constructProg, v) := by
  simp [constructCall, setRandomSeed_nonneg v gen hv]

/-- the other arguments (quirks of the code kept): no argument and `-1` leave the generators alone; below `-1` raises -/
theorem C04_reset_call_other :
    resetCall none false = some (resetProgNoSeed, 0) ∧ resetCall none true = some (resetProgNoSeed, 0)
    ∧ resetCall (some (-1)) false = some (resetProgNoSeed, 0) ∧ resetCall (some (-1)) true = none
    ∧ (∀ v : Int, v < -1 → ∀ gen, resetCall (some v) gen = none) := by
  refine ⟨by decide, by decide, by decide, by decide, ?_⟩
  intro v hv gen
  have h1 : ¬ v = -1 := by omega
  simp [resetCall, resetSeeding, resetSeedGuard, setRandomSeed, h1, hv]

/-- non-vacuity: seed 0 is a seed -/
example : resetCall (some 0) = some (resetProg, 0) := by decide

/-- **For every natural seed `s` (0, 1, the configured one, 2³²−1, …) the call `reset(seed=s)` followed by any actions returns, on a
long-lived scheduled instance with an arbitrary past, what it returns on an instance built for that episode's scenario.** -/
theorem C04_reset_any_seed_episode_fresh (s : Nat) (gen : Bool) (acts : List Val) (i j : Inst) (G G' : Store)
    (hm : EpisodeMatch i j) (hG : G gImport = G' gImport) (hN : G gNmne = G' gNmne) :
    ∃ op, resetCall (some (s : Int)) gen = some op ∧
      runSolo (op :: acts.map fun a => (stepProg, a)) i G = runSolo (op :: acts.map fun a => (stepProg, a)) j G' :=
  ⟨(resetProg, (s : Int)), C04_reset_call_reseeds s gen (by omega), C04_skeleton_scheduled_episode_fresh s acts i j G G' hm hG hN⟩

/-- the same statement for a `reset` whose guard is a truthiness test (`if seed:`) -/
def C04_TruthySeedEpisodeFresh : Prop :=
  ∀ (s : Nat) (acts : List Val) (i j : Inst) (G G' : Store), EpisodeMatch i j → G gImport = G' gImport → G gNmne = G' gNmne →
    ∃ op, resetCallTruthy (some (s : Int)) = some op ∧
      runSolo (op :: acts.map fun a => (stepProg, a)) i G = runSolo (op :: acts.map fun a => (stepProg, a)) j G'

/-- an instance whose earlier operations left its own generator state at `v` -/
def withOwn (i : Inst) (v : Val) : Inst := { i with env := upd (upd i.env eOwnRng v) eHasOwn 1 }

/-- with a truthiness test `reset(seed=0)` is an unseeded reset: the episode shows where the environment's earlier episodes left its
generator (5 vs 0). This is why `C04_gen_seed_handling` pins the guard for EVERY argument. -/
theorem C04_truthy_seed_counterexample : ¬ C04_TruthySeedEpisodeFresh := by
  intro h
  obtain ⟨op, hop, heq⟩ := h 0 [] (withOwn (initInst 7 0 0 1 0 0) 5) (withOwn (initInst 7 0 0 1 0 0) 0) (fun _ => 0) (fun _ => 0)
    (by unfold EpisodeMatch; decide)
    rfl rfl
  obtain rfl : (resetProgNoSeed, (0 : Val)) = op := Option.some.inj hop
  revert heq
  decide

/-- what an UNSEEDED reset (`reset()`, Gymnasium: "the generator is not reset") carries over from the past is the generator state and
nothing else: with equal generator states the episode equals the one of an instance built for that episode's scenario -/
theorem reset_noseed_episode_match (a : Val) (i j : Inst) (G G' : Store) (hm : EpisodeMatch i j) (hG : G gImport = G' gImport)
    (hN : G gNmne = G' gNmne) (hR : i.env eOwnRng = j.env eOwnRng) : OpMatch resetProgNoSeed a i j G G' := by
  simp only [OpMatch, resetProgNoSeed_eq, execProg_setGlob]
  exact rebuild_match a i j _ _ hm hG hN hR

theorem C04_unseeded_reset_fresh_modulo_rng (acts : List Val) (i j : Inst) (G G' : Store)
    (hm : EpisodeMatch i j) (hG : G gImport = G' gImport) (hN : G gNmne = G' gNmne) (hR : i.env eOwnRng = j.env eOwnRng) :
    ∃ op, resetCall none = some op ∧
      runSolo (op :: acts.map fun a => (stepProg, a)) i G = runSolo (op :: acts.map fun a => (stepProg, a)) j G' :=
  ⟨(resetProgNoSeed, 0), rfl, runSolo_then_steps _ _ acts i j G G' (reset_noseed_episode_match 0 i j G G' hm hG hN hR)⟩

/-- **The multi-agent environment.** Whatever seed argument `PrimaiteRayMARLEnv.reset` is given (none, 0, any integer): on a long-lived
instance with an arbitrary past and on an instance built for that episode's scenario, the reset followed by any actions returns the same
values PROVIDED both start from the same generator state - the class never seeds, so that proviso cannot be dropped
(`C04_unseeded_reset_depends_on_rng`); everything else of the past is erased as for the single-agent environment. -/
theorem C04_marl_reset_fresh_modulo_rng (s : Option Int) (acts : List Val) (i j : Inst) (G G' : Store)
    (hm : EpisodeMatch i j) (hG : G gImport = G' gImport) (hN : G gNmne = G' gNmne) (hR : i.env eOwnRng = j.env eOwnRng) :
    ∃ op, marlResetCall s = some op ∧
      runSolo (op :: acts.map fun a => (stepProg, a)) i G = runSolo (op :: acts.map fun a => (stepProg, a)) j G' :=
  -- `marlResetCall s` is `resetCall none`
  C04_unseeded_reset_fresh_modulo_rng acts i j G G' hm hG hN hR

/-- the wrapper `PrimaiteRayEnv` IS the single-agent environment for every seed argument: all `reset` theorems apply to it -/
theorem C04_ray_env_reset_is_gym_reset (s : Option Int) (gen : Bool) : rayEnvResetCall s gen = resetCall s gen := rfl

/-- and the ENVIRONMENT'S OWN generator state does matter for an unseeded reset (by design; not claimed as a violation): own states 5 / 0;
the process-wide state no longer does (5 / 0 in the process, same own state: equal) -/
theorem C04_unseeded_reset_depends_on_rng :
    runSolo [(resetProgNoSeed, 0)] (withOwn (initInst 7 0 0 1 0 0) 5) (fun _ => 0)
      ≠ runSolo [(resetProgNoSeed, 0)] (withOwn (initInst 7 0 0 1 0 0) 0) (fun _ => 0)
    ∧ runSolo [(resetProgNoSeed, 0)] (withOwn (initInst 7 0 0 1 0 0) 3) (fun g => if g = gRng then 5 else 0)
      = runSolo [(resetProgNoSeed, 0)] (withOwn (initInst 7 0 0 1 0 0) 3) (fun _ => 0) := by decide

open Primaite.Gen.SharedState

/-- role of a function that touches a runtime-written global: in which operations of an environment it can run, and
whether what it reads only steers logging / file output / interactive display -/
structure FnRole where
  fn : String
  phases : List Phase
  sink : Bool

def allPhases : List Phase := [.construct, .reset, .step]

/-- COMMITTED table. A function that is not listed here and touches a runtime-written global breaks `C04_gen_functions_known`. -/
/- notes:
   no function reads or writes an NMNE class attribute at run time (F-10 repair), so NICObservation.observe, from_config,
   NetworkInterface._capture_nmne / describe_state and Node.show_nic are not rows
   AirSpaceFrequency.__init__: import time (two module constants) and the unused `register_frequency` API
   WirelessRouter.from_config: reads `AirSpaceFrequency._registry` (import-only)
   network_simulator_demo_example: demo helper, not an environment operation
-/
def committedFns : List FnRole := [
  ⟨"game.agent.agent_log:AgentLog._get_log_path", allPhases, true⟩,
  ⟨"game.agent.agent_log:AgentLog._write_to_terminal", allPhases, true⟩,
  ⟨"game.agent.agent_log:AgentLog.critical", allPhases, true⟩,
  ⟨"game.agent.agent_log:AgentLog.debug", allPhases, true⟩,
  ⟨"game.agent.agent_log:AgentLog.error", allPhases, true⟩,
  ⟨"game.agent.agent_log:AgentLog.info", allPhases, true⟩,
  ⟨"game.agent.agent_log:AgentLog.warning", allPhases, true⟩,
  ⟨"game.agent.scripted_agents.TAP001:TAP001._select_target_ip", allPhases, false⟩,
  ⟨"game.agent.scripted_agents.TAP001:TAP001._update_next_scan_target", [.step], false⟩,
  ⟨"game.agent.scripted_agents.abstract_tap:AbstractTAP._select_start_node", allPhases, false⟩,
  ⟨"game.agent.scripted_agents.abstract_tap:AbstractTAP._set_next_execution_timestep", allPhases, false⟩,
  ⟨"game.agent.scripted_agents.probabilistic_agent:ProbabilisticAgent.rng.<lambda>", [.construct, .reset], false⟩,
  ⟨"game.agent.scripted_agents.random_agent:PeriodicAgent._set_next_execution_timestep", allPhases, false⟩,
  ⟨"game.agent.scripted_agents.random_agent:PeriodicAgent.start_node", allPhases, false⟩,
  -- RandomAgent's PRIVATE generator (C03's repair 903a159): its seed is drawn from numpy's global generator when the agent is built, i.e. in
  -- construct / reset (seeded operations); `get_action` draws from `self.rng` only — no process-global draw in `step`
  ⟨"game.agent.scripted_agents.random_agent:RandomAgent.rng.<lambda>", [.construct, .reset], false⟩,
  ⟨"game.game:PrimaiteGame.apply_agent_actions", [.step], true⟩,
  ⟨"game.science:simulate_trial", [.step], false⟩,
  ⟨"primaite:getLogger", [], true⟩,
  ⟨"session.environment:PrimaiteGymEnv._write_step_metadata_json", [.step], true⟩,
  ⟨"session.environment:log_seed_value", [.construct], true⟩,
  -- F-11 repair: the decorator (runs when the classes are defined: no phase) and its wrapper (every wrapped operation); the wrapper's
  -- accesses are `getstate` / `setstate` / `get_state` / `set_state` only (`isRestorer`, `isSaver`), see `C04_gen_own_generator_state`
  ⟨"session.environment:own_generator_state", [], false⟩,
  ⟨"session.environment:own_generator_state.wrapper", allPhases, false⟩,
  ⟨"session.environment:set_random_seed", [.construct, .reset], false⟩,
  ⟨"session.io:PrimaiteIO.__init__", [.construct], true⟩,
  ⟨"session.io:PrimaiteIO.generate_session_path", [.construct], true⟩,
  ⟨"session.ray_envs:PrimaiteRayMARLEnv._write_step_metadata_json", [.step], true⟩,
  ⟨"simulator.file_system.file_type:FileType.random", [], false⟩,
  ⟨"simulator.network.airspace:AirSpaceFrequency.__init__", [], false⟩,
  ⟨"simulator.network.hardware.base:NetworkInterface.setup_for_episode", [.reset], true⟩,
  ⟨"simulator.network.hardware.base:Node.__init__", [.construct, .reset], true⟩,
  ⟨"simulator.network.hardware.nodes.network.wireless_router:WirelessRouter.from_config", [.construct, .reset], false⟩,
  ⟨"simulator.network.networks:network_simulator_demo_example", [], true⟩,
  ⟨"simulator.system.core.packet_capture:PacketCapture.__init__", [.construct, .reset], true⟩,
  ⟨"simulator.system.core.packet_capture:PacketCapture._get_log_path", allPhases, true⟩,
  ⟨"simulator.system.core.packet_capture:PacketCapture.capture_inbound", allPhases, true⟩,
  ⟨"simulator.system.core.packet_capture:PacketCapture.capture_outbound", allPhases, true⟩,
  ⟨"simulator.system.core.packet_capture:PacketCapture.clear", [.reset], true⟩,
  ⟨"simulator.system.core.packet_capture:PacketCapture.setup_logger", [.construct, .reset], true⟩,
  ⟨"simulator.system.core.sys_log:SysLog._get_log_path", allPhases, true⟩,
  ⟨"simulator.system.core.sys_log:SysLog._write_to_terminal", allPhases, true⟩,
  ⟨"simulator.system.core.sys_log:SysLog.critical", allPhases, true⟩,
  ⟨"simulator.system.core.sys_log:SysLog.debug", allPhases, true⟩,
  ⟨"simulator.system.core.sys_log:SysLog.error", allPhases, true⟩,
  ⟨"simulator.system.core.sys_log:SysLog.info", allPhases, true⟩,
  ⟨"simulator.system.core.sys_log:SysLog.setup_logger", allPhases, true⟩,
  ⟨"simulator.system.core.sys_log:SysLog.warning", allPhases, true⟩,
  ⟨"simulator:_SimOutput.agent_behaviour_path", allPhases, true⟩,
  ⟨"simulator:_SimOutput.agent_log_level", allPhases, true⟩,
  ⟨"simulator:_SimOutput.path", allPhases, true⟩,
  ⟨"simulator:_SimOutput.save_agent_logs", allPhases, true⟩,
  ⟨"simulator:_SimOutput.save_pcap_logs", allPhases, true⟩,
  ⟨"simulator:_SimOutput.save_sys_logs", allPhases, true⟩,
  ⟨"simulator:_SimOutput.sys_log_level", allPhases, true⟩,
  ⟨"simulator:_SimOutput.write_agent_log_to_terminal", allPhases, true⟩,
  ⟨"simulator:_SimOutput.write_sys_log_to_terminal", allPhases, true⟩,
  ⟨"utils.cli.dev_cli:config_callback", [], true⟩,
  ⟨"utils.cli.dev_cli:disable", [], true⟩,
  ⟨"utils.cli.dev_cli:enable", [], true⟩,
  ⟨"utils.cli.dev_cli:path", [], true⟩,
  ⟨"utils.cli.dev_cli:show", [], true⟩,
  ⟨"utils.cli.primaite_config_utils:is_dev_mode", allPhases, true⟩,
  ⟨"utils.cli.primaite_config_utils:update_primaite_application_config", [], true⟩ ]

/-- functions are referred to by their index in the regenerated `fns`; `C04_gen_functions_known` shows that the committed
table lists exactly those functions in the same order, so index `i` of one is index `i` of the other -/
def roleOf (f : Nat) : Option FnRole := committedFns[f]?

def phasesOf (f : Nat) : List Phase := match roleOf f with | some r => r.phases | none => []
def isSink (f : Nat) : Bool := match roleOf f with | some r => r.sink | none => false

def writesIn (e : Entry) (ph : Phase) : Bool := e.writers.any (fun f => (phasesOf f).contains ph)
def readsIn (e : Entry) (ph : Phase) : Bool := e.readers.any (fun f => !isSink f && (phasesOf f).contains ph)
/-- only a write that is a top-level statement of its function (not nested in `if`/`for`/`try`/…, not after a `return`) protects the
reads of the same operation: a CONDITIONAL write leaves, on the other branch, whatever an earlier operation installed -/
def uncondWritesIn (e : Entry) (ph : Phase) : Bool := e.uncondWriters.any (fun f => (phasesOf f).contains ph)

/-- class derived from the regenerated sites and the committed roles. A global is unsafe exactly when some operation reads it
without writing it UNCONDITIONALLY. That inside the operation the write comes before the reads is `C04_gen_write_order` (static: what
`from_config` calls before the assignment) plus the call-event monitor of the rig (harness/rigs/isolation_order.py). -/
def derive (e : Entry) : GClass :=
  if allPhases.all (fun ph => !writesIn e ph) then .importOnly
  else if allPhases.all (fun ph => !readsIn e ph) then .sinkOnly
  else if allPhases.all (fun ph => !readsIn e ph || uncondWritesIn e ph) then .rewrittenBeforeRead
  else .shared

theorem derive_of_no_writers {e : Entry} (h : e.writers = []) : derive e = .importOnly := by
  simp [derive, writesIn, h]

/-- the two class attributes of F-10 (repaired: no environment operation writes them any more) -/
def nmneAttrs : List String :=
  [ "game.agent.observations.nic_observations:NICObservation.capture_nmne",
    "simulator.network.hardware.base:NetworkInterface.nmne_config" ]

/-- the entries whose value an operation reads and an operation writes: the ones the write-before-read discipline is about -/
def readable (e : Entry) : Bool := derive e == .shared || derive e == .rewrittenBeforeRead

/-- the functions that the regenerated inventory shows touching a runtime-written global or a global RNG are exactly the
functions of the committed role table (a new or renamed function breaks this obligation) -/
theorem C04_gen_functions_known : committedFns.map (·.fn) = fns := rfl

/-- the runtime-written globals are exactly the committed FOUR (six before the F-10 repair), with these derived classes: none is read by an
operation outside logging -/
theorem C04_gen_classification :
    (entries.filter (fun e => !e.writers.isEmpty)).map (fun e => (e.name, derive e)) =
      [ ("primaite:PRIMAITE_CONFIG", .importOnly),
        ("simulator.network.airspace:AirSpaceFrequency._registry", .importOnly),
        ("simulator.system.core.packet_capture:PacketCapture._logger_instances", .sinkOnly),
        ("simulator:SIM_OUTPUT", .sinkOnly) ] := by rfl

/-- every other entry has no run-time writer and is import-only for that reason alone -/
theorem derive_importOnly_or_sinkOnly : ∀ e ∈ entries, derive e = .importOnly ∨ derive e = .sinkOnly := by
  intro e he
  by_cases hw : e.writers = []
  · exact Or.inl (derive_of_no_writers hw)
  · have hm : derive e ∈ ((entries.filter fun e => !e.writers.isEmpty).map fun e => (e.name, derive e)).map Prod.snd :=
      List.mem_map_of_mem (List.mem_map_of_mem (List.mem_filter.2 ⟨he, by simpa using hw⟩))
    rw [C04_gen_classification] at hm
    simpa using hm

/-- Full statement of DESIGN's `gen_globals_safe` -/
def C04_FullGenGlobalsSafe : Prop := ∀ e ∈ entries, derive e ≠ .shared

/-- **Full since the F-10 repair** (the two NMNE class attributes included): EVERY inventory entry is import-only,
sink-only or re-written before read. -/
theorem C04_gen_globals_safe : C04_FullGenGlobalsSafe := by
  intro e he
  rcases derive_importOnly_or_sinkOnly e he with h | h <;> rw [h] <;> decide

/-- stronger: no entry is even `rewrittenBeforeRead` — no process global carries scenario data from one operation's write to a read -/
theorem C04_gen_no_readable_global : entries.filter readable = [] := by
  refine List.filter_eq_nil_iff.2 fun e he => ?_
  rcases derive_importOnly_or_sinkOnly e he with h | h <;> rw [readable, h] <;> decide

/-- **F-10 stays repaired**: the two NMNE class attributes are still declared (API: an optional process-wide override / a retained
name), and NO function of the package assigns them — neither at run time nor at import time beyond the class body. Re-introducing
`NetworkInterface.nmne_config = …` / `NICObservation.capture_nmne = …` (or a `setattr`) anywhere breaks this obligation. -/
theorem C04_gen_nmne_per_game :
    (entries.filter (fun e => nmneAttrs.contains e.name)).map (fun e => (e.name, e.kind, e.importWrites, e.writers)) =
      [ ("game.agent.observations.nic_observations:NICObservation.capture_nmne", "classvar", ["class-body"], []),
        ("simulator.network.hardware.base:NetworkInterface.nmne_config", "classvar", ["class-body"], []) ] := by
  -- row by row, the names compared as propositions: `String.reduceEq` refutes an equation of two literals from the first character
  -- that differs, where evaluating `==` makes the kernel encode both strings
  simp only [entries, nmneAttrs, List.filter_cons, List.filter_nil, List.contains_iff_mem, List.mem_cons, List.not_mem_nil, or_false,
    String.reduceEq, or_self, or_true, if_false, if_true, List.map_cons, List.map_nil]

/-- Every run-time write of a global that some operation reads (derived class `shared` or `rewrittenBeforeRead`) is UNCONDITIONAL: each
writer function has a write site that is a top-level statement of its body, before any `return` / `raise`, and that writer runs WHENEVER
`from_config` runs to completion (it is from_config itself or a helper called from an unconditional top-level statement: a write moved
into a helper that is called under an `if` fails here); no `setattr(<class>, <computed name>, …)` anywhere. (A conditional assignment —
"only when the scenario has a non-empty nmne_config" — makes an episode inherit the previous episode's setting,
`C04_conditional_write_counterexample`.) Since the F-10 repair no global is readable, so the first part holds of an empty list: it is the
net for the next one. -/
theorem C04_gen_writes_unconditional :
    ((entries.filter readable).all fun e =>
      !e.writers.isEmpty && (e.writers.all fun f => e.uncondWriters.contains f)
      && (e.writers.all fun f => e.anchoredWriters.contains f)) = true
    ∧ dynamicClassWrites = [] := by
  rw [C04_gen_no_readable_global]
  exact ⟨rfl, rfl⟩

/-- the method names of the non-sink reader functions of an entry, writers themselves excluded -/
def readerIdents (e : Entry) : List String :=
  (e.readers.filter fun f => !isSink f && !e.writers.contains f).filterMap fun f => fnIdents[f]?

/-- Order inside the operation, for the statements of the writer itself: for every readable global and each of its writers the calls made in
the statements BEFORE the write are extracted, and none of them has the name of a non-sink reader of that global. -/
theorem C04_gen_write_order :
    ((entries.filter readable).all fun e => e.writers.all fun f =>
        callsBeforeWrite.any fun r => r.1 == e.name && fns[f]? == some r.2.1 && r.2.2.2.all fun c => !(readerIdents e).contains c) = true
    ∧ fnIdents.length = fns.length := by
  rw [C04_gen_no_readable_global]
  exact ⟨rfl, by decide⟩

/-- Memoisation decorators are process-global mutable state: a `functools.lru_cache` / `functools.cache` keeps what the function returned
for every later caller in the process — later episodes, other environments. No memoised function of the package returns a value that is
not syntactically immutable (tuple / frozenset / str / number / address objects …): a cached list / dict / set that a caller extends is
extended for everybody (`memoDischarged`: reviewed exceptions, none). The caches that exist also show up as run-time written inventory
entries (`… .<memo cache>`, written and read by their callers) and so in `C04_gen_classification`. -/
def memoDischarged : List String := []

theorem C04_gen_no_mutable_memo :
    (memoFunctions.all fun m => m.2.2.1 || memoDischarged.contains m.1) = true := by decide +kernel

/-- Caches behind helpers (the hand-written form of a memoisation decorator): a function that returns a run-time written module-level /
class-level container, or an element of it, hands a process-wide object to its caller. Every such function is either over a container
into which only syntactically immutable values are ever stored, or is in the reviewed list `handedOutDischarged` (empty). -/
def handedOutDischarged : List (String × String) := []

theorem C04_gen_no_cached_mutable_handed_out :
    (handedOut.all fun h =>
      handedOutDischarged.contains (h.1, h.2.1)
      || (h.2.2.1 != "container-itself" && (storedValues.filter fun s => s.1 == h.1).all fun s => s.2.2.1)) = true := by decide +kernel

/-- no `global` statement anywhere, and no module logger object is re-bound or mutated by a function -/
theorem C04_gen_no_global_statements : globalStatements = [] ∧ moduleLoggersWritten = [] := by decide

open Primaite.Gen.IsolationSinkFlags in
/-- dereferences of a conditionally created logger that are NOT guarded by the object's own state, reviewed: both are the error branch of
`Node.connect_nic` / `disconnect_nic` (`self.sys_log.logger.warning(msg)` right before `raise NetworkError(msg)`): the operation raises in
any case, the flag at build time decides the exception TYPE only; measured: connecting a connected NIC / disconnecting twice raise earlier
(RuntimeWarning / KeyError) and never reach these branches. Node construction code, reached by no agent action. -/
def sinkFlagDischarged : List (String × String) :=
  [("simulator.network.hardware.base:Node.connect_nic", "self.sys_log.logger.warning"),
   ("simulator.network.hardware.base:Node.disconnect_nic", "self.sys_log.logger.warning")]

open Primaite.Gen.IsolationSinkFlags in
/-- **A log call cannot raise on account of a process-wide output flag.** Every attribute that is CREATED under control of a test on
`SIM_OUTPUT` (found: `SysLog.logger`, `PacketCapture.inbound_logger` / `outbound_logger`) (i) has an unconditional initial value, so that
testing it cannot raise, and (ii) is dereferenced - anywhere in the package, through `self` or through a name that holds such an object
- only after an assignment in the same block or under the guard `<it> is not None` (own state decides; the process-wide flag, which
another environment may have written since, can only switch saving OFF), the two reviewed error branches aside. The extractor is not
blind: the three attributes are found, and the five `SysLog` level methods and the two `PacketCapture.capture_*` methods are among the
guarded uses. `SIM_OUTPUT` is the only sink global and it IS derived sink-only from the inventory. -/
theorem C04_gen_sink_flag_uses_guarded :
    sinkGlobals = ["SIM_OUTPUT"]
    ∧ (entries.find? (fun e => e.name == "simulator:SIM_OUTPUT")).map derive = some GClass.sinkOnly
    ∧ (condAttrUses.all fun u => u.2.2.2 != "UNGUARDED" || sinkFlagDischarged.contains (u.2.1, u.2.2.1)) = true
    ∧ (condAttrInit.all fun i => i.2.2) = true
    ∧ ([("SysLog", "logger"), ("PacketCapture", "inbound_logger"), ("PacketCapture", "outbound_logger")].all
        fun ca => condAttrs.any fun c => c.1 == ca.1 && c.2.1 == ca.2) = true
    ∧ ((["SysLog.debug", "SysLog.info", "SysLog.warning", "SysLog.error", "SysLog.critical", "PacketCapture.capture_inbound",
          "PacketCapture.capture_outbound"].all
        fun f => condAttrUses.any fun u => u.2.1.endsWith f && u.2.2.2 == "guarded") = true) := by
  refine ⟨rfl, ?_, by decide +kernel⟩
  -- the look-up by name: row by row with `String.reduceEq`, as in `C04_gen_nmne_per_game`
  simp only [entries, List.find?_cons_of_neg, List.find?_cons_of_pos, beq_iff_eq, String.reduceEq, not_false_eq_true, Option.map_some]
  rfl

def isSeeder (call : String) : Bool := call == "random.seed" || call == "numpy.random.seed"
/-- the wrapper of the F-11 repair puts the environment's own state in place … -/
def isRestorer (call : String) : Bool := call == "random.setstate" || call == "numpy.random.set_state"
/-- … and reads the state to save it: neither is a draw -/
def isSaver (call : String) : Bool := call == "random.getstate" || call == "numpy.random.get_state"
def isDraw (call : String) : Bool := !isSeeder call && !isRestorer call && !isSaver call

def rngSeededIn (gen : String) (ph : Phase) : Bool :=
  rngUses.any fun u => u.1 == gen && isSeeder u.2.2 && (phasesOf u.2.1).contains ph
/-- the operation starts by installing the environment's OWN saved state of the generator (not in `__init__`: a new object has none) -/
def rngRestoredIn (gen : String) (ph : Phase) : Bool :=
  ph != .construct && rngUses.any fun u => u.1 == gen && isRestorer u.2.2 && (phasesOf u.2.1).contains ph
def rngSavedIn (gen : String) (ph : Phase) : Bool :=
  rngUses.any fun u => u.1 == gen && isSaver u.2.2 && (phasesOf u.2.1).contains ph
def rngDrawnIn (gen : String) (ph : Phase) : Bool :=
  rngUses.any fun u => u.1 == gen && isDraw u.2.2 && (phasesOf u.2.1).contains ph

/-- Full statement: every operation that draws from a process-wide generator has first put a state in place that no other instance
decides: it has seeded it (construct / reset with a seed) or installed the environment's own saved state (the F-11 repair) -/
def C04_FullGenRngSafe : Prop :=
  ∀ gen ∈ ["random", "numpy.random"], ∀ ph ∈ allPhases, rngDrawnIn gen ph = true → (rngSeededIn gen ph || rngRestoredIn gen ph) = true

/-- **FULL since the F-11 repair** (`step` included). `step` and `reset` install the environment's own state of BOTH
generators before anything draws, `__init__` seeds (given a configured seed); every operation saves both states afterwards; numpy's
generator is still never drawn in `step`. That the restoring statements precede the operation and the saving ones follow it in a
`finally` is `C04_gen_own_generator_state`. -/
theorem C04_gen_rng_safe : C04_FullGenRngSafe
    ∧ (∀ gen ∈ ["random", "numpy.random"], ∀ ph ∈ allPhases, rngSavedIn gen ph = true)
    ∧ (∀ gen ∈ ["random", "numpy.random"], ∀ ph ∈ [Phase.reset, Phase.step], rngRestoredIn gen ph = true)
    ∧ rngDrawnIn "numpy.random" .step = false := by
  unfold C04_FullGenRngSafe
  decide +kernel

/-- the stricter reading "every operation that draws has SEEDED" is refuted by `step` - by design: `step` continues the environment's own
stream, it does not re-seed -/
theorem C04_gen_step_draws_unseeded : rngDrawnIn "random" .step = true ∧ rngSeededIn "random" .step = false := by decide +kernel

open Primaite.Gen.OwnGeneratorState in
/-- **Gen obligation: the decorator is what the skeleton's `ownIn` / `ownOut` say, and it is applied where the skeleton says.**
The wrapper reads the environment's saved state first, under `is not None` puts it back into BOTH generators, only then calls the wrapped
operation (once, inside the `try`), and in the `finally` stores both generators' states under the SAME key; it draws nothing itself and has
no other statement; nothing else in the package touches the key. `__init__`, `reset`, `step` of `PrimaiteGymEnv` and of
`PrimaiteRayMARLEnv` carry the decorator (and no other), no other method of the three environment classes does (`PrimaiteRayEnv` delegates
to a `PrimaiteGymEnv`: `C04_gen_other_env_classes`); no decorated method calls a decorated method of the same object (a nested wrapper
would rewind the running operation's draws); and from NONE of the undecorated methods (close, action_masks, _get_obs, the properties, …)
does the static call graph reach a function that draws from a process-wide generator (no bound of the search hit). Dropping the decorator
from `step` breaks this. -/
theorem C04_gen_own_generator_state :
    stateKey = savedUnder ∧ stateKey ≠ "" ∧ ownReadFirst = true ∧ restoreGuard = "isNotNone"
    ∧ restoreCalls = [("random.setstate", "own[0]"), ("numpy.random.set_state", "own[1]")]
    ∧ operationCalls = ["operation(self, *args, **kwargs)"] ∧ operationAfterRestore = true ∧ operationInTry = true
    ∧ savedValue = ["random.getstate", "numpy.random.get_state"]
    ∧ drawsInWrapper = [] ∧ otherStatements = [] ∧ stateKeyMentions = [] ∧ nestedOwned = []
    ∧ (decorated.filter fun d => !d.2.2.isEmpty) =
        [ ("PrimaiteGymEnv", "__init__", ["own_generator_state"]), ("PrimaiteGymEnv", "step", ["own_generator_state"]),
          ("PrimaiteGymEnv", "reset", ["own_generator_state"]), ("PrimaiteRayMARLEnv", "__init__", ["own_generator_state"]),
          ("PrimaiteRayMARLEnv", "reset", ["own_generator_state"]), ("PrimaiteRayMARLEnv", "step", ["own_generator_state"]) ]
    ∧ (drawersFromUnownedMethods.all fun m => m.2.1.isEmpty && !m.2.2.2) = true
    ∧ (["session.environment:PrimaiteGymEnv.close", "session.environment:PrimaiteGymEnv.action_masks",
        "session.environment:PrimaiteGymEnv._get_obs", "session.ray_envs:PrimaiteRayMARLEnv.close"].all
        fun m => drawersFromUnownedMethods.any fun r => r.1 == m) = true
    ∧ (rngUses.filter fun u => isRestorer u.2.2 || isSaver u.2.2).all
        (fun u => fns[u.2.1]? == some "session.environment:own_generator_state.wrapper"
          || fns[u.2.1]? == some "session.environment:own_generator_state") = true :=
  ⟨rfl, by decide, rfl, rfl, rfl, rfl, rfl, rfl, rfl, rfl, rfl, rfl, rfl, rfl, rfl, by decide +kernel, by decide +kernel⟩

def entryNamed (n : String) : Option Entry := entries.find? (fun e => e.name == n)

def numbered : List (Nat × String) :=
  [ (gSimOutput, "simulator:SIM_OUTPUT"),
    (gPcapLoggers, "simulator.system.core.packet_capture:PacketCapture._logger_instances") ]

/-- For each numbered global and each operation: the skeleton program writes it iff the inventory has a writer in that
operation, and reads it unprotected iff the inventory has a non-sink reader but no UNCONDITIONAL writer in that operation. Likewise
for the RNG (global 0) against `rngUses`: no operation reads the generator before it has seeded or restored it (F-11 repaired: `step` included). -/
theorem C04_gen_skeleton_matches :
    (numbered.all fun (g, n) => match entryNamed n with
      | none => false
      | some e => allPhases.all fun ph =>
          ((writesOf (progOf ph)).contains g == writesIn e ph)
          && ((unprotectedReads [] (progOf ph)).contains g == (readsIn e ph && !uncondWritesIn e ph))) = true
    ∧ (allPhases.all fun ph =>
          ((unprotectedReads [] (progOf ph)).contains gRng
            == (rngDrawnIn "random" ph && !(rngSeededIn "random" ph || rngRestoredIn "random" ph)))) = true
    -- the skeleton's operations write the generator state (seed / restore) and read it to save it exactly where the inventory says
    ∧ (allPhases.all fun ph => (writesOf (progOf ph)).contains gRng && rngSavedIn "random" ph) = true := by
  decide +kernel

/-- Order inside the operation, beyond the statements of `from_config`: the STATIC CALL GRAPH (by name, self type followed through
constructors, registered lambdas deferred, import-scoped resolution of unknown receivers — harness/extract/sharedstate.py `CallGraph`) from
every call that `from_config`, `PrimaiteGymEnv.reset` and `PrimaiteGymEnv.__init__` make BEFORE the write of a readable global reaches no
non-sink reader of it (every readable global has its three rows; none is left since the F-10 repair), and — the generators being the
one process global that IS re-written and then read — nothing reachable from what `reset` / `__init__` call before their
`set_random_seed` statement draws from a global generator; no bound of the search was hit. (The rig cross-checks the call graph against the
functions actually entered before the seeding on monitored runs.) -/
theorem C04_gen_no_reader_before_write :
    (reachBeforeWrite.map fun r => (r.1, r.2.1)) =
      [ ("<process-global generators>", "reset"), ("<process-global generators>", "__init__") ]
    ∧ ((entries.filter readable).all fun e =>
        ["from_config", "reset", "__init__"].all fun op => reachBeforeWrite.any fun r => r.1 == e.name && r.2.1 == op) = true
    ∧ (reachBeforeWrite.all fun r =>
        !r.2.2.2.2.2 && 0 < r.2.2.2.1 &&
        if r.1 == "<process-global generators>" then
          -- the generators: nothing reachable before the seeding statement draws from one
          (r.2.2.2.2.1.filter fun f => rngUses.any fun u => u.2.1 == f && isDraw u.2.2).isEmpty
        else match entryNamed r.1 with
        | none => false
        | some e => (r.2.2.2.2.1.filter fun f => !isSink f && !e.writers.contains f).isEmpty) = true := by
  rw [C04_gen_no_readable_global]
  exact ⟨rfl, rfl, by decide +kernel⟩

def isSetEnv : Cmd → Bool
  | .setEnv _ _ => true
  | _ => false

theorem execProg_env_of_noSetEnv (a : Val) :
    ∀ (p : List Cmd) (i : Inst) (G : Store), (p.all fun c => !isSetEnv c) = true → (execProg a p i G).1.env = i.env := by
  intro p
  induction p with
  | nil => intro i G _; rfl
  | cons c r ih =>
    intro i G h
    simp only [List.all_cons, Bool.and_eq_true] at h
    cases c with
    | setEnv x e => simp [isSetEnv] at h
    | _ => exact ih _ _ h.2

/-- the four post-construction operations of the skeleton -/
def isResetProg (p : List Cmd) : Bool := p == resetProg || p == resetProgNoSeed
def isStepProg (p : List Cmd) : Bool := p == stepProg || p == stepProgClean

theorem buildGame_noSetEnv : (buildGame.all fun c => !isSetEnv c) = true := by decide

/-- two environment-attribute stores that agree on everything but the saved generator state (`_generator_state`) -/
def EnvModOwn (e e' : Store) : Prop := ∀ x, x ≠ eOwnRng → x ≠ eHasOwn → e x = e' x

theorem EnvModOwn.refl (e : Store) : EnvModOwn e e := fun _ _ _ => rfl
theorem EnvModOwn.symm {e e' : Store} (h : EnvModOwn e e') : EnvModOwn e' e := fun x h1 h2 => (h x h1 h2).symm
theorem EnvModOwn.trans {e e' e'' : Store} (h : EnvModOwn e e') (h' : EnvModOwn e' e'') : EnvModOwn e e'' :=
  fun x h1 h2 => (h x h1 h2).trans (h' x h1 h2)

theorem EnvModOwn.bump {e e' : Store} (h : EnvModOwn e e') : EnvModOwn (bumpEpisode e) (bumpEpisode e') := by
  intro x h1 h2
  simp only [bumpEpisode, upd]
  rw [h eEpisode (by decide) (by decide), h x h1 h2]

theorem EnvModOwn.own (e : Store) (v w : Val) : EnvModOwn (upd (upd e eOwnRng v) eHasOwn w) e := by
  intro x h1 h2
  simp [upd, h1, h2]

theorem EnvModOwn.upd_own {e e' : Store} (h : EnvModOwn e e') (v w : Val) :
    upd (upd e eOwnRng v) eHasOwn w = upd (upd e' eOwnRng v) eHasOwn w := by
  funext x
  by_cases h9 : x = eHasOwn
  · simp [upd, h9]
  · by_cases h8 : x = eOwnRng
    · simp [upd, h8]
    · simp only [upd, if_neg h8, if_neg h9, h x h8 h9]

/-- a reset advances the episode counter and (since the F-11 repair) records the generator state; nothing else at that level -/
theorem reset_env (a : Val) (i : Inst) (G : Store) (p : List Cmd) (h : isResetProg p = true) :
    EnvModOwn (execProg a p i G).1.env (bumpEpisode i.env) := by
  simp only [isResetProg, Bool.or_eq_true, beq_iff_eq] at h
  rcases h with rfl | rfl
  · simp only [resetProg_eq, execProg_setGlob, execProg_rebuild]
    exact EnvModOwn.own _ _ _
  · simp only [resetProgNoSeed_eq, execProg_setGlob, execProg_rebuild]
    exact EnvModOwn.own _ _ _

theorem step_env (a : Val) (i : Inst) (G : Store) (p : List Cmd) (h : isStepProg p = true) :
    EnvModOwn (execProg a p i G).1.env i.env := by
  simp only [isStepProg, Bool.or_eq_true, beq_iff_eq] at h
  rcases h with rfl | rfl
  · simp only [stepProg_eq, execProg_setGlob, execProg_step]
    exact EnvModOwn.own _ _ _
  · rw [execProg_env_of_noSetEnv a stepProgClean i G (by decide)]
    exact EnvModOwn.refl _

def resetsOf (a : Nat) (h : List Event) : Nat := (h.filter fun e => e.who == a && isResetProg e.prog).length

def iter {α : Type} (f : α → α) : Nat → α → α
  | 0, x => x
  | n + 1, x => iter f n (f x)

theorem EnvModOwn.iter {e e' : Store} (h : EnvModOwn e e') : ∀ n, EnvModOwn (iter bumpEpisode n e) (iter bumpEpisode n e')
  | 0 => h
  | n + 1 => EnvModOwn.iter (EnvModOwn.bump h) n

/-- After ANY history of step / reset operations (of any instances), the environment-level attributes of `a` are the initial
ones with the episode counter advanced once per reset of `a` (and the saved generator state): nothing else of an earlier episode
survives at that level. -/
theorem C04_env_counts_resets (a : Nat) :
    ∀ (h : List Event) (p : Proc), (∀ e ∈ h, isResetProg e.prog = true ∨ isStepProg e.prog = true) →
      EnvModOwn ((run h p).1.inst a).env (iter bumpEpisode (resetsOf a h) (p.inst a).env) := by
  intro h
  induction h with
  | nil => intro p _; exact EnvModOwn.refl _
  | cons e r ih =>
    intro p hk
    refine EnvModOwn.trans (ih (stepProc p e).1 fun x hx => hk x (List.mem_cons_of_mem _ hx)) ?_
    -- what `e` does to `a`'s attributes, carried through the resets that follow
    by_cases hw : e.who = a
    · rw [stepProc_inst_self hw, ← hw]
      cases hres : isResetProg e.prog
      · have : resetsOf e.who (e :: r) = resetsOf e.who r := by simp [resetsOf, hres]
        rw [this]
        exact (step_env e.arg _ _ _ ((hk e (List.mem_cons_self ..)).resolve_left (by simp [hres]))).iter _
      · have : resetsOf e.who (e :: r) = resetsOf e.who r + 1 := by simp [resetsOf, hres]
        rw [this]
        exact (reset_env e.arg _ _ _ hres).iter _
    · have : resetsOf a (e :: r) = resetsOf a r := by simp [resetsOf, hw]
      rw [this, stepProc_inst_other hw]
      exact EnvModOwn.refl _

/-- the saved generator state of an instance set to a fixed value -/
def forgetOwn (i : Inst) : Inst := { i with env := upd (upd i.env eOwnRng 0) eHasOwn 1 }

/-- a SEEDED reset does not depend on the generator state the environment had saved (the seeding inside the wrapped operation wins) -/
theorem resetProg_forgets_own (seed : Val) (i : Inst) (G : Store) :
    execProg seed resetProg (forgetOwn i) G = execProg seed resetProg i G := by
  have hE : EnvModOwn (bumpEpisode (forgetOwn i).env) (bumpEpisode i.env) := (EnvModOwn.own i.env 0 1).bump
  simp only [resetProg_eq, execProg_setGlob, upd_upd, execProg_rebuild, hE.upd_own]
  rfl

def forgetProc (p : Proc) (a : Nat) : Proc := { p with inst := fun j => if j = a then forgetOwn (p.inst a) else p.inst j }

theorem stepProc_reset_forget (p : Proc) (a : Nat) (seed : Val) :
    stepProc (forgetProc p a) ⟨a, resetProg, seed⟩ = stepProc p ⟨a, resetProg, seed⟩ := by
  simp only [stepProc, forgetProc, if_true]
  rw [resetProg_forgets_own]
  congr 2
  funext j
  by_cases hj : j = a <;> simp [hj]

/-- history irrelevance for the skeleton's seeded reset: any two processes in which `a`'s environment-level attributes agree UP TO the saved
generator state (whatever the pasts did to the generators) -/
theorem C04_skeleton_reset_fresh_mod_own (a : Nat) (seed : Val) (later : List Event) (p q : Proc)
    (hlater : ∀ e ∈ later, progOK refClass e.prog = true) (hG : AgreeIO refClass p.glob q.glob)
    (henv : EnvModOwn (p.inst a).env (q.inst a).env) :
    traj a (run (⟨a, resetProg, seed⟩ :: later) p).2 = traj a (run (⟨a, resetProg, seed⟩ :: onlyOf a later) q).2 := by
  -- a seeded reset does not see the saved generator state: put the same one in both processes
  have := C04_history_irrelevant refClass a resetProg seed resetProg_resetOK resetProg_rebuilds [] [] later (forgetProc p a) (forgetProc q a)
    (by simp) (by simp) hlater hG (by simpa [run, forgetProc, forgetOwn] using henv.upd_own 0 1)
  simpa [run, stepProc_reset_forget] using this

/-- **The property's first sentence for the skeleton, FULL since the F-11 repair**: two environments built
alike, ANY two histories of the code's own steps (drawing scripted agents included), clean steps and resets - seeded or not - with
the same number of resets, then reset(seed) and the same later operations — in one run even interleaved with other instances — give the
same trajectory. -/
theorem C04_skeleton_history_irrelevant (a : Nat) (seed : Val) (h₁ h₂ later : List Event) (p₁ p₂ : Proc)
    (hk₁ : ∀ e ∈ h₁, isResetProg e.prog = true ∨ isStepProg e.prog = true)
    (hk₂ : ∀ e ∈ h₂, isResetProg e.prog = true ∨ isStepProg e.prog = true)
    (hlater : ∀ e ∈ later, progOK refClass e.prog = true)
    (hG : AgreeIO refClass p₁.glob p₂.glob) (hinit : (p₁.inst a).env = (p₂.inst a).env)
    (hcount : resetsOf a h₁ = resetsOf a h₂) :
    traj a (run (⟨a, resetProg, seed⟩ :: later) (run h₁ p₁).1).2
      = traj a (run (⟨a, resetProg, seed⟩ :: onlyOf a later) (run h₂ p₂).1).2 := by
  have ok : ∀ (h : List Event), (∀ e ∈ h, isResetProg e.prog = true ∨ isStepProg e.prog = true) →
      ∀ e ∈ h, progOK refClass e.prog = true := by
    intro h hk e he
    have hp := hk e he
    simp only [isResetProg, isStepProg, Bool.or_eq_true, beq_iff_eq] at hp
    exact skeletonOp_ok _ (by rcases hp with (hp | hp) | hp | hp <;> simp [hp])
  have hG' := run_agreeIO (ok h₁ hk₁) (ok h₂ hk₂) hG
  apply C04_skeleton_reset_fresh_mod_own a seed later _ _ hlater hG'
  have e1 := C04_env_counts_resets a h₁ p₁ hk₁
  have e2 := C04_env_counts_resets a h₂ p₂ hk₂
  rw [hcount, hinit] at e1
  exact EnvModOwn.trans e1 (EnvModOwn.symm e2)

open Primaite.Gen.IsolationReset in
/-- `reset` rebuilds the game from nothing but the scheduler and the episode counter, (re)binds only the episode counter, the game and
the per-episode reward record; no later method assigns an attribute of the environment or reads that record; the constant scheduler
returns a deep copy; the list scheduler parses the YAML anew and keeps only a warn-once flag. -/
theorem C04_gen_reset_shape :
    resetGameSource = "PrimaiteGame.from_config(cfg=self.episode_scheduler(self.episode_counter))"
    ∧ initGameSource = "PrimaiteGame.from_config(self.episode_scheduler(0))"
    ∧ resetAssigns = ["total_reward_per_episode[…]", "episode_counter", "game"]
    ∧ laterWrites = []
    ∧ (laterReads.all fun r => ["_agent_name", "game", "agent", "_get_obs", "_write_step_metadata_json", "episode_counter", "io"].contains r) = true
    ∧ resetCallsBefore = ["set_random_seed", "self.io.write_agent_log", "self.game.agents.items", "PacketCapture.clear"]
    ∧ resetCallsAfter = ["self.game.setup_for_episode", "self.game.get_sim_state", "self.game.update_agents", "self._get_obs"]
    ∧ constantSchedulerReturns = "copy.deepcopy(self.config)"
    ∧ listSchedulerReturns = ["parsed_cfg"] ∧ listSchedulerParsedBy = "yaml.safe_load"
    ∧ listSchedulerAssigns = ["_exceeded_episode_list"] :=
  ⟨rfl, rfl, rfl, rfl, by decide +kernel, rfl, rfl, rfl, rfl, rfl, rfl⟩

open Primaite.Gen.IsolationReset in
/-- The other two environment classes. `PrimaiteRayMARLEnv`: `reset` and `__init__` build the game from nothing but the scheduler and the
episode counter (same expression as the single-agent environment), `reset` (re)binds only the counter and the game, no other method assigns
an attribute of the environment, the agents are looked up in the CURRENT game on every use (one statement), and NO call in the class seeds
a generator or is handed a seed (so `marlResetCall` / `marlConstructCall` ignore their argument). `PrimaiteRayEnv`: binds a
`PrimaiteGymEnv` once, assigns nothing afterwards and only delegates (`reset(seed=seed)`, `step(action)`, `close()`, `game`). -/
theorem C04_gen_other_env_classes :
    marlResetGameSource = "PrimaiteGame.from_config(self.episode_scheduler(self.episode_counter))"
    ∧ marlInitGameSource = "PrimaiteGame.from_config(self.episode_scheduler(self.episode_counter))"
    ∧ marlResetAssigns = ["episode_counter", "game"]
    ∧ marlResetTopLevelTargets.contains "self.game" = true
    ∧ marlLaterWrites = []
    ∧ marlSeedCalls = []
    ∧ marlAgentsStatements = 1
    ∧ marlAgentsReturns = ["{name: self.game.rl_agents[name] for name in self._agent_ids}"]
    ∧ rayEnvSource = ["PrimaiteGymEnv(env_config=env_config)"]
    ∧ rayEnvLaterWrites = []
    ∧ rayEnvResetCalls = ["self.env.reset(seed=seed)"]
    ∧ rayEnvStepCalls = ["self.env.step(action)"]
    ∧ rayEnvCloseCalls = ["self.env.close()"]
    ∧ rayEnvGameReturns = ["self.env.game"] :=
  ⟨rfl, rfl, rfl, by decide +kernel, rfl, rfl, rfl, rfl, rfl, rfl, rfl, rfl, rfl, rfl⟩

/-- The regenerated `set_random_seed` and the regenerated guard of `reset` ARE the model's, for EVERY argument (`None`, 0, negative, any
integer) — a guard written as a truthiness test, a changed sentinel or a dropped branch breaks this. The generators seeded are Python's,
numpy's (unconditionally, with the argument) and torch's; `reset` seeds in a top-level statement before it rebuilds the game, `__init__`
seeds unconditionally from `game.seed` of episode 0 before it builds the game. -/
theorem C04_gen_seed_handling :
    (∀ (s : Option Int) (gen : Bool), Primaite.Gen.IsolationReset.setRandomSeed s gen = setRandomSeed s gen)
    ∧ (∀ s : Option Int, Primaite.Gen.IsolationReset.resetSeedGuard s = resetSeedGuard s)
    ∧ Primaite.Gen.IsolationReset.seedCalls = [("random.seed", "seed", "top"), ("np.random.seed", "seed", "top"),
        ("th.manual_seed", "seed", "if sys.modules['torch']")]
    ∧ Primaite.Gen.IsolationReset.resetSeedCall = "set_random_seed(seed, self.generate_seed_value)"
    ∧ Primaite.Gen.IsolationReset.resetSeedsBeforeNewGame = true
    ∧ Primaite.Gen.IsolationReset.initSeedStatements =
        ["self.seed = self.episode_scheduler(0).get('game', {}).get('seed')",
         "self.generate_seed_value = self.episode_scheduler(0).get('game', {}).get('generate_seed_value')",
         "self.seed = set_random_seed(self.seed, self.generate_seed_value)"]
    ∧ Primaite.Gen.IsolationReset.initSeedsBeforeNewGame = true := by
  refine ⟨?_, fun _ => rfl, rfl, rfl, rfl, rfl, rfl⟩
  intro s gen
  cases s <;> simp [Primaite.Gen.IsolationReset.setRandomSeed, setRandomSeed]

/-- hence the regenerated code re-seeds for every non-negative argument, 0 included (stated on Gen directly) -/
theorem C04_gen_reset_reseeds_every_seed (v : Int) (gen : Bool) (hv : 0 ≤ v) :
    (if Primaite.Gen.IsolationReset.resetSeedGuard (some v) then Primaite.Gen.IsolationReset.setRandomSeed (some v) gen else .keeps)
      = SeedOutcome.seeds v := by
  rw [C04_gen_seed_handling.1, C04_gen_seed_handling.2.1]
  simp [resetSeedGuard, setRandomSeed_nonneg v gen hv]

end Primaite.Isolation
