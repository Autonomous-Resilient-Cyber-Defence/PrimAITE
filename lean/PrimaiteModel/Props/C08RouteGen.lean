/-
C08 — the router's forwarding step: `Router.process_frame` and `Router.route_frame` are TRANSLATED (Gen/ForwardRoute.lean:
`processFrame`, `routeFrame`) into programs over the stateful ARP look-ups, the TTL decrement and its test, the two header writes and
the send.  The interpreter `runF` below gives every instruction the ONE model primitive it stands for (`arpIfc`, `arpMac`,
`findBestRoute`, `Frame.dec` + the `hop` event, `sendFrame`) and threads state, frame and the two locals in program order.
`C08_gen_route_frame_process`: the model's `routerProcess` (inside the mutual block all run-level theorems — termination, addressee,
liveness — are about) computes exactly what the translated programs compute, for every state, route table, ARP cache, frame and fuel.
`C08_gen_route_frame_hops`: read off the translated programs alone — on every path `send` comes after a decrement whose result was
tested `< 1` (dead → no send) and after both header writes, and nothing is sent twice.
-/
import PrimaiteModel.Lemmas.ForwardInv
import PrimaiteModel.Gen.ForwardRoute
namespace Primaite.Forward
open Primaite.Route
open Primaite.Gen.ForwardRoute (RTgt FProg)
namespace GR
export Primaite.Gen.ForwardRoute (processFrame routeFrame processFrameCallers)
end GR

/-- the address an instruction's look-up is for -/
def rtgt (f : Frame) (nh : Ip) : RTgt → Ip
  | .dst => f.dstIp
  | .nextHop => nh

/-- interpreter of a translated `process_frame` / `route_frame` on node `n`.  Locals: `m` = `target_mac`, `o` = `network_interface`
(both start unassigned), `nh` = the next hop of the route found by `ifRoute`; `onRoute` = what `self.route_frame(…)` runs.
The `none` cases of the interface reads are unreachable for translated programs (the translator demands the not-None test on the
path) and for well-formed states; they drop the frame like the model does. -/
def runF (fuel n : Nat) (onRoute : St → Frame → St × Frame) : FProg → St → Frame → Option Mac → Option Nat → Ip → St × Frame
  | .done, st, f, _, _, _ => (st, f)
  | .ifBcast a b, st, f, m, o, nh =>
    if f.dstMac == bcastMac then runF fuel n onRoute a st f m o nh else runF fuel n onRoute b st f m o nh
  | .ifOwnIp a b, st, f, m, o, nh =>
    match st.node? n with
    | none => (st, f)
    | some nd => if (ifaceWithIp nd.ifaces f.dstIp).isSome then runF fuel n onRoute a st f m o nh else runF fuel n onRoute b st f m o nh
  | .setIfc t k, st, f, m, _, nh => let r := arpIfc fuel st n (rtgt f nh t) false false; runF fuel n onRoute k r.1 f m r.2 nh
  | .setMac t k, st, f, _, o, nh => let r := arpMac fuel st n (rtgt f nh t) false false; runF fuel n onRoute k r.1 f r.2 o nh
  | .ifMac a b, st, f, m, o, nh => if m.isSome then runF fuel n onRoute a st f m o nh else runF fuel n onRoute b st f m o nh
  | .ifIfc a b, st, f, m, o, nh => if o.isSome then runF fuel n onRoute a st f m o nh else runF fuel n onRoute b st f m o nh
  | .ifEnabled a b, st, f, m, o, nh =>
    match o.bind (st.iface? n) with
    | none => (st, f)
    | some oif => if oif.enabled then runF fuel n onRoute a st f m o nh else runF fuel n onRoute b st f m o nh
  | .ifDstOnIfcNet a b, st, f, m, o, nh =>
    match o.bind (st.iface? n) with
    | none => (st, f)
    | some oif => if oif.inNet f.dstIp then runF fuel n onRoute a st f m o nh else runF fuel n onRoute b st f m o nh
  | .decTtl k, st, f, m, o, nh => runF fuel n onRoute k (st.emit (.hop n f.id f.ttl)) f.dec m o nh
  | .ifTtlLt c a b, st, f, m, o, nh => if f.ttl < c then runF fuel n onRoute a st f m o nh else runF fuel n onRoute b st f m o nh
  | .setSrcMac k, st, f, m, o, nh =>
    match o.bind (st.iface? n) with
    | none => (st, f)
    | some oif => runF fuel n onRoute k st { f with srcMac := oif.mac } m o nh
  | .setDstMac k, st, f, m, o, nh =>
    -- `target_mac` may be `None`: the code writes it into the header unchecked
    runF fuel n onRoute k st { f with dstMac := (match m with | some x => x | none => noMac) } m o nh
  | .send k, st, f, m, o, nh =>
    match o with
    | none => (st, f)
    | some oi => let r := sendFrame fuel st n oi f; runF fuel n onRoute k r.1 r.2 m o nh
  | .callRoute k, st, f, m, o, nh => let r := onRoute st f; runF fuel n onRoute k r.1 r.2 m o nh
  | .ifRoute a b, st, f, m, o, _ =>
    match st.node? n with
    | none => (st, f)
    | some nd =>
      match findBestRoute nd.routes f.dstIp with
      | .raised => (st.emit (.raised n), f)
      | res =>
        match res.nextHop? with
        | some nh => runF fuel n onRoute a st f m o nh
        | none => runF fuel n onRoute b st f m o 0

/-- `route_frame` on its own (fresh locals; it calls nothing back) -/
def runRoute (fuel n : Nat) (st : St) (f : Frame) : St × Frame :=
  runF fuel n (fun st f => (st, f)) GR.routeFrame st f none none 0

/-- `process_frame` with `self.route_frame` bound to the translated `route_frame` -/
def runProcess (fuel n : Nat) (st : St) (f : Frame) : St × Frame :=
  runF fuel n (runRoute fuel n) GR.processFrame st f none none 0

/-- **Gen obligation**: the model's router forwarding step IS the translated `Router.process_frame` (+ `route_frame`), for every
state, route table, ARP cache, frame and fuel.  `hown`: no interface carries the destination address — the only way the model's
`routerRecv` (and the real `Router.receive_frame` for ICMP / ARP; for other payloads the translated loop drops the frame, as
`routerRecv` does before the call) reaches `routerProcess`. -/
theorem C08_gen_route_frame_process (fuel : Nat) (st : St) (n i : Nat) (f : Frame) (nd : Node)
    (hn : st.node? n = some nd) (hown : ifaceWithIp nd.ifaces f.dstIp = none) :
    routerProcess (fuel + 1) st n i f = runProcess fuel n st f := by
  rw [routerProcess]
  simp only [runProcess, runRoute, Gen.ForwardRoute.processFrame, Gen.ForwardRoute.routeFrame, runF, rtgt, hn, hown,
    Option.isSome_none, Bool.false_eq_true, if_false]
  by_cases hb : f.dstMac == bcastMac
  · simp only [hb, if_true]
  · simp only [hb, if_false, Bool.false_eq_true]
    generalize arpIfc fuel st n f.dstIp false false = r1
    generalize arpMac fuel r1.1 n f.dstIp false false = r2
    cases r2.2 <;> cases r1.2 <;> simp only [Option.isSome_some, Option.isSome_none, if_true, if_false, Bool.false_eq_true,
      Option.bind_some, Option.bind_none]
    rename_i tm o
    cases hif : r2.1.iface? n o <;> simp only []
    rename_i oif
    cases oif.enabled <;> simp only [Bool.not_true, Bool.not_false, if_true, if_false, Bool.false_eq_true, emit_iface, hif]
    cases oif.inNet f.dstIp <;> simp only [if_true, if_false, Bool.false_eq_true]
    · -- the destination is not on the interface's network: `route_frame`
      cases r2.1.node? n <;> simp only []
      rename_i nd2
      cases findBestRoute nd2.routes f.dstIp <;> simp only [Result.nextHop?]
      -- a static route and the default route: the same look-ups for the next hop, then the hop
      all_goals
        split
        · rename_i h3
          simp only [h3, Option.isSome_none, Bool.false_eq_true, if_false]
        · rename_i o3 h3
          simp only [h3, Option.isSome_some, if_true, Option.bind_some]
          split
          · rename_i hi3
            simp only [hi3]
          · rename_i oif3 hi3
            simp only [hi3, emit_iface]
            cases oif3.enabled <;> simp only [Bool.not_true, Bool.not_false, if_true, if_false, Bool.false_eq_true]
            split <;> rfl
    · split <;> rfl

/-- the hypothesis `hown` discharged at the call site: a powered-on plain router that receives, on any of its interfaces, a frame its
first verdict permits and whose destination address no interface carries, learns the source pair and then runs the TRANSLATED
`process_frame` — for every state, route table, ARP cache, frame and fuel. -/
theorem C08_gen_route_frame_recv (fuel : Nat) (st : St) (n i : Nat) (f : Frame) (nd : Node) (ifc : Iface)
    (hn : st.node? n = some nd) (hi : st.iface? n i = some ifc) (hfw : nd.fw = none) (hon : nd.on = true)
    (hacl : aclDenies nd i f.pl = false) (hown : ifaceWithIp nd.ifaces f.dstIp = none) :
    routerRecv (fuel + 2) st n i f = runProcess fuel n (st.modNode n (fun nd => nd.addArp f.srcIp f.srcMac i)) f := by
  rw [routerRecv]
  simp only [hn, hi, hfw, hon, hacl, hown, Option.isNone_none, Bool.not_true, Bool.and_false, Bool.false_eq_true, if_false]
  refine C08_gen_route_frame_process fuel _ n i f (nd.addArp f.srcIp f.srcMac i) ?_ ?_
  · rw [node?_modNode]; simp [hn]
  · exact (congrArg (fun c => ifaceWithIp c.ifaces f.dstIp) (addArp_cfg nd f.srcIp f.srcMac i)).trans hown

/-- on every path of the program: a `send` happens only after a decrement that was tested (`ifTtlLt c` with the dead branch sending
nothing) and after both header writes, each made since the look-up that decides it, and at most once.  `dec` = decremented, `tst` =
tested since that decrement, `s` / `d` = source / destination MAC written since the last interface / MAC look-up (`setIfc` clears
`s`, `setMac` clears `d`; a decrement keeps both). -/
def hopGuarded (c : Int) : FProg → (dec tst s d : Bool) → Bool
  | .done, _, _, _, _ => true
  | .ifBcast a b, x, t, s, d | .ifOwnIp a b, x, t, s, d | .ifMac a b, x, t, s, d | .ifIfc a b, x, t, s, d
  | .ifEnabled a b, x, t, s, d | .ifDstOnIfcNet a b, x, t, s, d | .ifRoute a b, x, t, s, d =>
    hopGuarded c a x t s d && hopGuarded c b x t s d
  | .setIfc _ k, x, t, _, d => hopGuarded c k x t false d
  | .setMac _ k, x, t, s, _ => hopGuarded c k x t s false
  | .decTtl k, _, _, s, d => hopGuarded c k true false s d
  | .ifTtlLt c' a b, x, _, s, d => c' == c && noSend a && hopGuarded c b x x s d
  | .setSrcMac k, x, t, _, d => hopGuarded c k x t true d
  | .setDstMac k, x, t, s, _ => hopGuarded c k x t s true
  | .send k, x, t, s, d => x && t && s && d && noSend k
  | .callRoute k, _, _, _, _ => noSend k
where
  noSend : FProg → Bool
    | .done => true
    | .ifBcast a b | .ifOwnIp a b | .ifMac a b | .ifIfc a b | .ifEnabled a b | .ifDstOnIfcNet a b | .ifRoute a b | .ifTtlLt _ a b =>
      noSend a && noSend b
    | .setIfc _ k | .setMac _ k | .decTtl k | .setSrcMac k | .setDstMac k => noSend k
    | .send _ => false
    | .callRoute _ => false

/-- **Gen obligation** (the translated source alone): both methods send only a frame whose TTL was lowered and found ≥ 1 and whose two
MAC fields were rewritten after the interface / MAC look-ups; `process_frame` does nothing after handing over to `route_frame`. -/
theorem C08_gen_route_frame_hops :
    hopGuarded 1 GR.processFrame false false false false = true ∧ hopGuarded 1 GR.routeFrame false false false false = true := by
  decide

/-- the callers of `process_frame` in router.py: `Router.receive_frame` (the model's `routerRecv`) and `RouterICMP.receive`, which calls
it only for a destination that is NOT a router interface — a case `receive_frame` never hands to the session manager. -/
theorem C08_gen_route_frame_callers : GR.processFrameCallers = ["Router.receive_frame", "RouterICMP.receive"] := rfl

/-- a router 10.0.0.1/24 | 10.0.1.1/24 with a warm cache forwards a frame for 10.0.1.9 out of port 1 (TTL 5 → 4, MACs rewritten);
with TTL 1 it logs the hop and sends nothing -/
def rgRouter : Node :=
  { kind := .router,
    ifaces := [{ mac := 11, ip := 0x0A000001, plen := 24, enabled := true }, { mac := 12, ip := 0x0A000101, plen := 24, enabled := true }],
    arp := [{ ip := 0x0A000109, mac := 77, ifc := 1 }] }

def rgFrame (ttl : Int) : Frame := { id := 3, srcMac := 5, dstMac := 11, srcIp := 0x0A000005, dstIp := 0x0A000109, ttl := ttl, pl := .echoReq 0 }

example : (runProcess 5 0 { nodes := [rgRouter] } (rgFrame 5)).2 = { rgFrame 4 with srcMac := 12, dstMac := 77, fwd := 1 }
    ∧ (runProcess 5 0 { nodes := [rgRouter] } (rgFrame 5)).1.log = [.hop 0 3 5] := by decide +kernel
example : (runProcess 5 0 { nodes := [rgRouter] } (rgFrame 1)).2 = rgFrame 0
    ∧ (routerProcess 6 { nodes := [rgRouter] } 0 0 (rgFrame 1)).1.log = [.hop 0 3 1] := by decide +kernel

/-! ### the checker is not vacuous: programs of plausible slips are rejected, and one of them misbehaves on a concrete router -/

/-- `process_frame` with the TTL test BEFORE the decrement in the on-link branch (mutation r7b_4) -/
def testFirstProcess : FProg :=
  .ifBcast .done (.ifOwnIp .done (.setIfc .dst (.setMac .dst (.ifMac (.ifIfc (.ifEnabled (.ifDstOnIfcNet
    (.ifTtlLt 1 .done (.decTtl (.setSrcMac (.setDstMac (.send .done))))) (.callRoute .done)) .done) .done) .done))))

example : hopGuarded 1 testFirstProcess false false false false = false := by decide
/-- no decrement at all -/
example : hopGuarded 1 (.setIfc .dst (.setMac .dst (.ifIfc (.setSrcMac (.setDstMac (.send .done))) .done))) false false false false = false := by decide
/-- destination MAC not written -/
example : hopGuarded 1 (.setIfc .dst (.setMac .dst (.ifIfc (.decTtl (.ifTtlLt 1 .done (.setSrcMac (.send .done)))) .done))) false false false false = false := by
  decide
/-- header written BEFORE the look-up that decides the interface -/
example : hopGuarded 1 (.setSrcMac (.setIfc .dst (.setMac .dst (.ifIfc (.decTtl (.ifTtlLt 1 .done (.setDstMac (.send .done)))) .done)))) false false false false
    = false := by decide
/-- countdown off by one (mutation r7b_1) -/
example : hopGuarded 1 (.setIfc .dst (.setMac .dst (.ifIfc (.decTtl (.ifTtlLt 0 .done (.setSrcMac (.setDstMac (.send .done))))) .done))) false false false false
    = false := by decide
/-- the dead branch of the TTL test sends after all -/
example : hopGuarded 1 (.setIfc .dst (.setMac .dst (.ifIfc (.decTtl (.ifTtlLt 1 (.setSrcMac (.setDstMac (.send .done))) .done)) .done))) false false false false
    = false := by decide

/-- **counter-model**: on the router of the examples above a frame arriving with TTL 1 is dropped by the translated source (and the model) after
the hop is logged, while the test-first program SENDS it with TTL 0 — the two programs differ and so do their runs. -/
theorem C08_route_frame_countermodel :
    GR.processFrame ≠ testFirstProcess ∧
    (runProcess 5 0 { nodes := [rgRouter] } (rgFrame 1)).2.dstMac = 11 ∧
    (runF 5 0 (runRoute 5 0) testFirstProcess { nodes := [rgRouter] } (rgFrame 1) none none 0).2.dstMac = 77 ∧
    (runF 5 0 (runRoute 5 0) testFirstProcess { nodes := [rgRouter] } (rgFrame 1) none none 0).2.ttl = 0 := by
  refine ⟨by decide, by decide +kernel, by decide +kernel, by decide +kernel⟩

end Primaite.Forward
