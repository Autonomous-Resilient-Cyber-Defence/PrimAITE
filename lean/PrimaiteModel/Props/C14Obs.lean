/-
C14: what the agent is SHOWN for a folder — the refresh flag `_scanned_this_step` (`Folder.scanned`), its reset in
`pre_timestep` (`Node.pre`) and `FolderObservation.observe` (`FolderObs.see / observe`, Model/HealthObs.lean).

* `folderEff_scanned`            — after any base operation the flag is `old flag || a scan of this folder completed in the step`
* `C14_flag_iff_scan_completes`  — after `pre_timestep; apply_timestep` a live folder's flag is set IFF a scan of it completed
* `C14_visible_change_sets_flag` — a step that changes a folder's visible health leaves the flag set
* `C14_flag_only_reset_by_pre`   — no base operation clears the flag
* `C14_obs_step`, `C14_obs_faithful` — for EVERY game (any request lists, any number of steps, deletions and restores of the folder
  included) the health `FolderObservation` reports after each step is the folder's `visible_health_status` of that moment (0 while
  the folder is deleted): the cache never goes stale. With the visible-only-by-scan theorems of Props/C14.lean this is the
  statement's clause "a folder's visible health changes only when a scan of it completes" about the value the agent really gets.
-/
import PrimaiteModel.Model.HealthObs
import PrimaiteModel.Props.C14
namespace Primaite.Health

/-- after ANY base operation the flag of a folder is its old flag or "a scan of this folder completed in this step" — `Node.tick`
(= `apply_timestep`) only ever sets it, no request touches it -/
theorem folderEff_scanned (n : Node) (op : Op) (G : Folder) :
    (folderEff n op G).scanned = (G.scanned || folderScanCompletes n op G) := by
  by_cases hop : op = .tick
  · subst hop
    show (folderTickEff n G).scanned = _
    rw [folderTickEff_eq]
    by_cases hon : n.powerPhase.power = .on
    · cases hd : G.deleted
      · simp only [hon, true_and, if_true, folderScanCompletes, decide_true, hd, Bool.not_false, Bool.true_and]
        split
        · rename_i hs
          simp only [Folder.tick_scanned, Folder.instantScan_scanned, Folder.instantScan_scanCd, hd, hs, decide_true,
            Bool.not_false, Bool.or_true, Bool.true_or]
        · rename_i hs
          simp only [Folder.tick_scanned, hs, decide_false, Bool.false_or]
      · simp only [hon, true_and, Bool.true_eq_false, if_false, folderScanCompletes, hd, Bool.not_true, Bool.and_false,
          Bool.false_and, Bool.or_false]
    · simp only [hon, false_and, if_false, folderScanCompletes, decide_false, Bool.false_and, Bool.or_false]
  · rw [folderScanCompletes_of_ne_tick n G hop, Bool.or_false]
    exact (folderEff_quiet n op G hop).scanned

/-- `pre_timestep` clears the flag of a live folder and changes nothing else; a deleted folder is not reached -/
theorem pre_folders (n : Node) : n.pre.folders = n.folders.map (fun F => if F.deleted then F else F.pre) := rfl

/-- **C14 (flag = "a scan of this folder completed in this timestep").** In a timestep (`apply_timestep`) that starts with the
folder's flag cleared — as `pre_timestep` leaves every live folder — the flag is set afterwards IF AND ONLY IF a scan of the
folder completed in it: the node is ON after the power phase, the folder is live, and the whole-node scan fans out or the folder's
own countdown stands at 1. -/
theorem C14_flag_iff_scan_completes (m : Node) (j : Nat) (G G' : Folder)
    (hG : m.folders[j]? = some G) (hclr : G.scanned = false) (hG' : m.tick.folders[j]? = some G') :
    G'.scanned = folderScanCompletes m .tick G := by
  obtain rfl := Option.some.inj ((apply_folders_getElem (n := m) .tick hG).symm.trans hG')
  rw [folderEff_scanned, hclr, Bool.false_or]

/-- the folder `pre_timestep` leaves at position `j` -/
theorem C14_pre_clears_live (n : Node) (j : Nat) (G : Folder) (hG : n.folders[j]? = some G) :
    n.pre.folders[j]? = some (if G.deleted then G else { G with scanned := false }) := by
  rw [pre_folders, List.getElem?_map, hG]; rfl

/-- **C14.** A step that changes a folder's visible health leaves its refresh flag set (so the next observation shows the new
value). -/
theorem C14_visible_change_sets_flag (n : Node) (op : Op) (j : Nat) (G G' : Folder)
    (hG : n.folders[j]? = some G) (hG' : (n.apply op).folders[j]? = some G') (hne : G'.visible ≠ G.visible) :
    G'.scanned = true := by
  have hc := (C14_folder_visible_only_by_scan n op j G G' hG hG' hne).1
  obtain rfl := Option.some.inj ((apply_folders_getElem op hG).symm.trans hG')
  rw [folderEff_scanned, hc, Bool.or_true]

/-- **C14.** No base operation (requests, ticks, power events, Python-API writers) clears the flag: only `pre_timestep` does. -/
theorem C14_flag_only_reset_by_pre (n : Node) (op : Op) (j : Nat) (G G' : Folder)
    (hG : n.folders[j]? = some G) (hG' : (n.apply op).folders[j]? = some G') (hs : G.scanned = true) :
    G'.scanned = true := by
  obtain rfl := Option.some.inj ((apply_folders_getElem op hG).symm.trans hG')
  rw [folderEff_scanned, hs, Bool.true_or]

/-- the cache is current, or the flag says "refresh" -/
def obsJ (o : FolderObs) (G : Folder) : Prop := o.cached = G.visible ∨ G.scanned = true
/-- …and for a live folder the cache IS current (what holds right after an observation) -/
def obsR (o : FolderObs) (G : Folder) : Prop := obsJ o G ∧ (G.deleted = false → o.cached = G.visible)

theorem obsJ_eff (o : FolderObs) (n : Node) (op : Op) (G : Folder) (h : obsJ o G) : obsJ o (folderEff n op G) := by
  unfold obsJ at *
  rw [folderEff_scanned, folderEff_visible]
  cases hc : folderScanCompletes n op G
  · simpa using h
  · right; simp

theorem obsJ_pre (o : FolderObs) (G : Folder) (h : obsR o G) : obsJ o (if G.deleted then G else G.pre) := by
  cases hd : G.deleted
  · simp only [Bool.false_eq_true, if_false]
    exact Or.inl (h.2 hd)
  · simp only [if_true]
    exact h.1

/-- one observation of a folder for which `obsJ` holds, whatever identity `i` the observer is given for it: the reported value is
the folder's visible health (0 if it is deleted), and `obsR` holds afterwards -/
theorem obs_see (o : FolderObs) (G : Folder) (i : Nat) (hreq : o.requiresScan = true) (h : obsJ o G) :
    (o.see (if G.deleted then none else some (i, G))).1 = (if G.deleted then FsH.none else G.visible) ∧
    obsR (o.see (if G.deleted then none else some (i, G))).2 G ∧
    (o.see (if G.deleted then none else some (i, G))).2.requiresScan = true ∧
    (o.see (if G.deleted then none else some (i, G))).2.name = o.name := by
  cases hd : G.deleted
  · simp only [Bool.false_eq_true, if_false, FolderObs.see, hreq, if_true]
    cases hs : G.scanned
    · have hc : o.cached = G.visible := by
        rcases h with h | h
        · exact h
        · rw [hs] at h; exact absurd h (by decide)
      by_cases hid : o.cachedId = none ∨ o.cachedId = some i <;> simp [obsR, obsJ, hc, hid]
    · simp [obsR, obsJ]
  · simp only [if_true, FolderObs.see]
    exact ⟨trivial, ⟨h, fun hh => absurd hh (by simp [hd])⟩, hreq, trivial⟩

/-- the repaired case: a folder the observer has not read its cache from (another identity) is shown with its OWN visible health -/
theorem C14_obs_other_folder_shows_own (o : FolderObs) (G : Folder) (i j : Nat) (hreq : o.requiresScan = true)
    (hid : o.cachedId = some j) (hne : j ≠ i) : (o.see (some (i, G))).1 = G.visible := by
  have : ¬ (o.cachedId = none ∨ o.cachedId = some i) := by
    rw [hid]; intro h; rcases h with h | h
    · cases h
    · exact hne (Option.some.inj h)
  simp [FolderObs.see, hreq, this]

def Node.folderNamesNodup (n : Node) : Prop := (n.folders.map (·.name)).Nodup

theorem apply_folder_names (n : Node) (op : Op) : (n.apply op).folders.map (·.name) = n.folders.map (·.name) := by
  rw [apply_folders, List.map_map]
  apply List.map_congr_left
  intro G _
  simp only [Function.comp_def, folderEff_name]

theorem pre_folder_names (n : Node) : n.pre.folders.map (·.name) = n.folders.map (·.name) := by
  rw [pre_folders, List.map_map]
  apply List.map_congr_left
  intro G _
  simp only [Function.comp_def]
  split <;> rfl

theorem run_folder_names (n : Node) (ops : List Op) : (n.run ops).folders.map (·.name) = n.folders.map (·.name) := by
  induction ops generalizing n with
  | nil => rfl
  | cons op ops ih => simp only [Node.run]; rw [ih, apply_folder_names]

theorem apply_findFolder (n : Node) (op : Op) (F : String) :
    (n.apply op).findFolder F = (n.findFolder F).map (folderEff n op) := by
  unfold Node.findFolder
  rw [apply_folders]
  exact find?_map_pres _ _ _ (fun G => by rw [folderEff_name])

theorem pre_findFolder (n : Node) (F : String) :
    n.pre.findFolder F = (n.findFolder F).map (fun G => if G.deleted then G else G.pre) := by
  unfold Node.findFolder
  rw [pre_folders]
  exact find?_map_pres _ _ _ (fun G => by split <;> rfl)

theorem liveFolder_of_find (l : List Folder) (hn : (l.map (·.name)).Nodup) (F : String) :
    l.find? (fun G => G.name = F && !G.deleted) =
      match l.find? (fun G => G.name = F) with
      | some G => if G.deleted then none else some G
      | none => none := by
  induction l with
  | nil => rfl
  | cons a l ih =>
    simp only [List.map_cons, List.nodup_cons] at hn
    simp only [List.find?_cons]
    by_cases ha : a.name = F
    · cases hd : a.deleted
      · simp [ha, hd]
      · simp only [ha, hd, decide_true, Bool.not_true, Bool.and_false, if_true]
        -- no other folder of that name
        rw [List.find?_eq_none.mpr]
        intro G hG
        have : G.name ≠ F := by
          intro e
          apply hn.1
          rw [ha, ← e]
          exact List.mem_map_of_mem hG
        simp [this]
    · simp only [ha, decide_false, Bool.false_and]
      exact ih hn.2

def NodeJ (o : FolderObs) (n : Node) : Prop := ∀ G, n.findFolder o.name = some G → obsJ o G
def NodeR (o : FolderObs) (n : Node) : Prop := ∀ G, n.findFolder o.name = some G → obsR o G

theorem NodeJ_apply (o : FolderObs) (n : Node) (op : Op) (h : NodeJ o n) : NodeJ o (n.apply op) := by
  intro G' hG'
  rw [apply_findFolder] at hG'
  obtain ⟨G, hG, rfl⟩ := Option.map_eq_some_iff.mp hG'
  exact obsJ_eff o n op G (h G hG)

theorem NodeJ_run (o : FolderObs) (n : Node) (ops : List Op) (h : NodeJ o n) : NodeJ o (n.run ops) := by
  induction ops generalizing n with
  | nil => exact h
  | cons op ops ih => exact ih _ (NodeJ_apply o n op h)

theorem NodeJ_pre (o : FolderObs) (n : Node) (h : NodeR o n) : NodeJ o n.pre := by
  intro G' hG'
  rw [pre_findFolder] at hG'
  obtain ⟨G, hG, rfl⟩ := Option.map_eq_some_iff.mp hG'
  exact obsJ_pre o G (h G hG)

theorem gameStep_folder_names (n : Node) (reqs : List Op) :
    (n.gameStep reqs).folders.map (·.name) = n.folders.map (·.name) := by
  unfold Node.gameStep
  have := apply_folder_names (n.pre.run reqs) .tick
  simp only [Node.apply] at this
  rw [this, run_folder_names, pre_folder_names]

/-- **C14 (one game step).** Whatever the agents request in a step (any list of operations — scans, deletions, restores of the
folder, extra ticks), if the observer's cache was current after the previous step, then the health `FolderObservation` reports
after this step is the folder's visible health as `describe_state()` shows it now (0 if there is no live folder of that name), and
the cache is current again. -/
theorem C14_obs_step (o : FolderObs) (n : Node) (reqs : List Op) (hn : n.folderNamesNodup) (hreq : o.requiresScan = true)
    (h : NodeR o n) :
    (o.observe (n.gameStep reqs)).1 = ((n.gameStep reqs).seenFolder o.name).getD .none ∧
    NodeR (o.observe (n.gameStep reqs)).2 (n.gameStep reqs) ∧
    (o.observe (n.gameStep reqs)).2.requiresScan = true ∧ (o.observe (n.gameStep reqs)).2.name = o.name := by
  have hJ : NodeJ o (n.gameStep reqs) := NodeJ_apply o _ .tick (NodeJ_run o _ reqs (NodeJ_pre o n h))
  have hn1 : ((n.gameStep reqs).folders.map (·.name)).Nodup := by rw [gameStep_folder_names]; exact hn
  generalize n.gameStep reqs = n1 at hJ hn1
  unfold FolderObs.observe Node.seenFolder Node.liveFolder? Node.findLiveFolder
  rw [liveFolder_of_find n1.folders hn1 o.name]
  cases hG : n1.folders.find? (fun G => G.name = o.name) with
  | none =>
    simp only [FolderObs.see, Option.map_none, Option.getD_none, true_and]
    exact ⟨fun G hG' => by unfold Node.findFolder at hG'; rw [hG] at hG'; exact absurd hG' (by simp), hreq, trivial⟩
  | some G =>
    simp only []
    have hJG : obsJ o G := hJ G (by unfold Node.findFolder; exact hG)
    have hs := obs_see o G ((n1.liveFolderIdx? o.name).getD 0) hreq hJG
    have hR : ∀ o' : FolderObs, o'.name = o.name → obsR o' G → NodeR o' n1 := by
      intro o' hnm hr G' hG'
      rw [hnm] at hG'
      unfold Node.findFolder at hG'
      rw [hG] at hG'
      simp only [Option.some.injEq] at hG'
      subst hG'
      exact hr
    cases hd : G.deleted
    · simp only [hd, Bool.false_eq_true, if_false, Option.map_some, Option.getD_some] at hs ⊢
      exact ⟨hs.1, hR _ hs.2.2.2 hs.2.1, hs.2.2.1, hs.2.2.2⟩
    · simp only [hd, if_true, Option.map_none, Option.getD_none] at hs ⊢
      exact ⟨hs.1, hR _ hs.2.2.2 hs.2.1, hs.2.2.1, hs.2.2.2⟩

/-- what `describe_state()` shows for the folder's visible health after each step of a game -/
def gameSeen (n : Node) (F : String) : List (List Op) → List FsH
  | [] => []
  | reqs :: rest => ((n.gameStep reqs).seenFolder F).getD .none :: gameSeen (n.gameStep reqs) F rest

/-- **C14 (the agent's view of a folder, every game).** For every start state with unique folder names in which the observer's
cache is current, and EVERY game — any number of steps, any requests in each step — the health values `FolderObservation` reports
step by step are exactly the folder's `visible_health_status` values of those moments: the `_scanned_this_step` / `cached_obs`
machinery never shows a stale or an early value. -/
theorem C14_obs_faithful (o : FolderObs) (n : Node) (game : List (List Op)) (hn : n.folderNamesNodup)
    (hreq : o.requiresScan = true) (h : NodeR o n) :
    (gameRun n o game).2.2 = gameSeen n o.name game := by
  induction game generalizing n o with
  | nil => rfl
  | cons reqs rest ih =>
    have hs := C14_obs_step o n reqs hn hreq h
    have hn1 : (n.gameStep reqs).folderNamesNodup := by
      unfold Node.folderNamesNodup; rw [gameStep_folder_names]; exact hn
    simp only [gameRun, gameSeen]
    rw [ih _ _ hn1 hs.2.2.1 hs.2.1, hs.1, hs.2.2.2]

/-- a fresh observer (cache 0) on a node whose folder of that name has never been scanned (visible NONE) satisfies the hypothesis -/
theorem NodeR_fresh (name : String) (n : Node) (h : ∀ G, n.findFolder name = some G → G.visible = .none) :
    NodeR { name := name, requiresScan := true } n := by
  intro G hG
  have := h G hG
  exact ⟨Or.inl this.symm, fun _ => this.symm⟩

/-! non-vacuity: a folder whose timed scan completes in step 2, is then deleted and restored: the reports follow the visible value -/
example :
    let F : Folder := { name := "a", deleted := false, actual := .good, visible := .none, scanDur := 2, scanCd := 0, restoreDur := 1,
                        restoreCd := 0, files := [{ name := "f", actual := .corrupt, visible := .none, deleted := false }] }
    let n : Node := { power := .on, startDur := 0, startCd := 0, shutDur := 0, shutCd := 0, resetting := false, scanDur := 3,
                      scanCd := 0, sws := [], folders := [F] }
    (gameRun n { name := "a", requiresScan := true } [[.folder "a" .scan], [], [.fsDeleteFolder "a"], [.fsRestoreFolder "a"]]).2.2
      = [.none, .corrupt, .none, .corrupt] := by decide +kernel

/-! non-vacuity for the repaired case (F-C14-4): folder `d1` was seen CORRUPT, is deleted, a new `d1` is created: the observer shows
the new folder's own visible health (NONE), and from then on caches for the new identity -/
example :
    let F : Folder := { name := "d1", deleted := false, actual := .good, visible := .corrupt, scanDur := 1, scanCd := 0, restoreDur := 1,
                        restoreCd := 0, files := [] }
    let d : DNode := { n := { power := .on, startDur := 0, startCd := 0, shutDur := 0, shutCd := 0, resetting := false, scanDur := 3,
                              scanCd := 0, sws := [], folders := [F] }, defScan := none, defRestore := none }
    let o : FolderObs := { name := "d1", requiresScan := true, cached := .corrupt, cachedId := some 0 }
    let d1 := (d.apply (.base (.fsDeleteFolder "d1"))).apply (.fsCreateFolder "d1")
    (o.observe d1.n.pre.tick).1 = .none ∧ (o.observe d1.n.pre.tick).2.cachedId = some 1 ∧
      -- the old code (cache by name only) would have shown CORRUPT: the flag of the new folder is clear
      (d1.n.pre.tick.liveFolder? "d1").map (·.scanned) = some false := by decide +kernel

end Primaite.Health
