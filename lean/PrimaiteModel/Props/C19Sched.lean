/-
Run-level schedule of the threat-actor agents, `actions_concluded` as an invariant, and the TAP003
ends-per-settings / progress-only-after-success theorems; at the end the two theorems about RandomAgent and four Gen
obligations (`get_action` signatures, `_tap_return_handler`, the EXPLOIT trial, the action parameters).

`SchedSys` is the scheduling skeleton both TAPs share (threshold guard `timestep < next_execution_timestep or
actions_concluded`, reschedule to `t + frequency + randint(-variance, variance)` in every slot).  The gap theorem is
proved once for it and instantiated twice.
-/
import PrimaiteModel.Props.C19
import PrimaiteModel.Model.AgentsParams
namespace Primaite.Agents

/-- The scheduling view of an agent: a step function on some state, the three fields the guard of `get_action` reads,
the configured frequency / variance, and the range condition on the draws of one input. -/
structure SchedSys (σ ι : Type) where
  step : σ → Int → ι → σ
  dead : σ → Bool
  concluded : σ → Bool
  nextExec : σ → Int
  f : Int
  v : Int
  ok : ι → Prop

namespace SchedSys
variable {σ ι : Type} (S : SchedSys σ ι)

/-- An *execution slot*: the agent is alive and `get_action(t)` gets past its schedule guard. -/
def slot (s : σ) (t : Int) : Bool := !S.dead s && !(decide (t < S.nextExec s) || S.concluded s)

/-- The timesteps of the execution slots of a run that feeds `t, t+1, …`. -/
def slots (S : SchedSys σ ι) : σ → Int → List ι → List Int
  | _, _, [] => []
  | s, t, i :: is => if S.slot s t then t :: slots S (S.step s t i) (t + 1) is else slots S (S.step s t i) (t + 1) is

/-- What the gap theorem needs from the step function. -/
structure Law : Prop where
  dead_stays : ∀ s t i, S.dead s = true → S.dead (S.step s t i) = true
  idle : ∀ s t i, S.dead s = false → S.slot s t = false →
    S.nextExec (S.step s t i) = S.nextExec s ∧ S.concluded (S.step s t i) = S.concluded s
  fire : ∀ s t i, S.slot s t = true → S.ok i →
    S.dead (S.step s t i) = true ∨ ∃ d, -S.v ≤ d ∧ d ≤ S.v ∧ S.nextExec (S.step s t i) = t + S.f + d

theorem slots_nil (hL : S.Law) : ∀ (ins : List ι) (s : σ) (t : Int),
    (S.dead s = true ∨ S.concluded s = true) → S.slots s t ins = [] := by
  intro ins
  induction ins with
  | nil => intro s t _; rfl
  | cons i is ih =>
    intro s t h
    have hs : S.slot s t = false := by
      rcases h with h | h <;> simp [slot, h]
    simp only [slots, hs, Bool.false_eq_true, if_false]
    cases hd : S.dead s with
    | true => exact ih _ _ (Or.inl (hL.dead_stays s t i hd))
    | false =>
      rcases h with h | h
      · rw [hd] at h; cases h
      · exact ih _ _ (Or.inr (by rw [(hL.idle s t i hd hs).2]; exact h))

/-- **Slots of a run.** The first slot is the first timestep `≥ next_execution_timestep`; between consecutive slots lie
`max 1 (frequency + d)` timesteps for a draw `d ∈ [-variance, variance]`, hence a gap in
`[max 1 (f − v), max 1 (f + v)]`. -/
theorem slots_spec (hL : S.Law) : ∀ (ins : List ι) (s : σ) (t : Int), (∀ i ∈ ins, S.ok i) →
    (∀ x, (S.slots s t ins).head? = some x → x = max t (S.nextExec s)) ∧
    GapsIn (max 1 (S.f - S.v)) (max 1 (S.f + S.v)) (S.slots s t ins) := by
  intro ins
  induction ins with
  | nil => intro s t _; simp [slots, GapsIn]
  | cons i is ih =>
    intro s t hok
    by_cases hdc : S.dead s = true ∨ S.concluded s = true
    · rw [S.slots_nil hL _ s t hdc]
      simp [GapsIn]
    have hd : S.dead s = false := Bool.eq_false_iff.mpr fun h => hdc (Or.inl h)
    have hcon : S.concluded s = false := Bool.eq_false_iff.mpr fun h => hdc (Or.inr h)
    obtain ⟨ih1, ih2⟩ := ih (S.step s t i) (t + 1) fun j hj => hok j (List.mem_cons_of_mem i hj)
    cases hs : S.slot s t with
    | false =>
      simp only [slots, hs, Bool.false_eq_true, if_false]
      have hlt : t < S.nextExec s := by
        simp [slot, hd, hcon] at hs; exact hs
      refine ⟨fun x hx => ?_, ih2⟩
      have := ih1 x hx
      rw [(hL.idle s t i hd hs).1] at this
      omega
    | true =>
      simp only [slots, hs, if_true]
      have hge : S.nextExec s ≤ t := by
        simp [slot] at hs; omega
      refine ⟨by intro x hx; simp at hx; omega, ?_⟩
      cases hrest : S.slots (S.step s t i) (t + 1) is with
      | nil => simp [GapsIn]
      | cons x rest =>
        rw [hrest] at ih1 ih2
        refine ⟨?_, ih2⟩
        have hx := ih1 x rfl
        rcases hL.fire s t i hs (hok i List.mem_cons_self) with hdead | ⟨d, hd1, hd2, hnext⟩
        · rw [S.slots_nil hL is _ _ (Or.inl hdead)] at hrest; cases hrest
        · rw [hnext] at hx
          constructor <;> omega

theorem mem_slots_cons {s : σ} {t x : Int} {i : ι} {is : List ι} :
    x ∈ S.slots s t (i :: is) ↔ (S.slot s t = true ∧ x = t) ∨ x ∈ S.slots (S.step s t i) (t + 1) is := by
  cases hs : S.slot s t <;> simp [slots, hs]

theorem slots_ge (hL : S.Law) : ∀ (ins : List ι) (s : σ) (t : Int),
    ∀ x ∈ S.slots s t ins, t ≤ x ∧ (S.dead s = false → S.concluded s = false → S.nextExec s ≤ x) := by
  intro ins
  induction ins with
  | nil => intro s t x hx; simp [slots] at hx
  | cons i is ih =>
    intro s t x hx
    rcases S.mem_slots_cons.mp hx with ⟨hs, rfl⟩ | hx
    · exact ⟨Int.le_refl _, fun _ _ => by simp [slot] at hs; omega⟩
    · have h := ih _ _ x hx
      refine ⟨by omega, fun hd hcon => ?_⟩
      cases hs : S.slot s t with
      | true => simp [slot] at hs; omega
      | false =>
        obtain ⟨hn, hc⟩ := hL.idle s t i hd hs
        cases hd' : S.dead (S.step s t i) with
        | true => rw [S.slots_nil hL is _ _ (Or.inl hd')] at hx; cases hx
        | false =>
          have := h.2 hd' (by rw [hc]; exact hcon)
          rw [hn] at this
          exact this

end SchedSys

namespace Tap1

def sched (c : Cfg) : SchedSys St In where
  step := fun s t i => (step c s t i).1
  dead := (·.dead)
  concluded := (·.concluded)
  nextExec := (·.nextExec)
  f := c.frequency
  v := c.variance
  ok := fun i => (-c.variance ≤ i.d1 ∧ i.d1 ≤ c.variance) ∧ (-c.variance ≤ i.d2 ∧ i.d2 ≤ c.variance)

theorem slot_iff (c : Cfg) (s : St) (t : Int) : (sched c).slot s t = (!s.dead && executes s t) := rfl

theorem step_idle_fields (c : Cfg) (s : St) (t : Int) (i : In) (h : executes s t = false) :
    (step c s t i).1.nextExec = s.nextExec ∧ (step c s t i).1.concluded = s.concluded ∧ (step c s t i).1.cur = s.cur := by
  unfold step
  split
  · exact ⟨rfl, rfl, rfl⟩
  · rw [C19_tap1_idle_tick c s t i h]
    split <;> exact ⟨rfl, rfl, rfl⟩

theorem step_fire (c : Cfg) (s : St) (t : Int) (i : In) (hd : s.dead = false) (hex : executes s t = true)
    (hv : 0 ≤ c.variance) :
    (step c s t i).1.dead = true ∨ (step c s t i).1.nextExec = t + c.frequency + i.d1 ∨
      (step c s t i).1.nextExec = t + c.frequency + i.d2 := by
  unfold step
  rw [if_neg (by simp [hd])]
  split
  · exact Or.inl rfl
  · rename_i herr
    right
    cases hh : lookBack s with
    | none =>
      exfalso; apply herr
      simp [getAction, hex, hh, St.raise]
    | some h => exact C19_tap1_reschedules c s t i h hex hh hv

theorem sched_law (c : Cfg) (hv : 0 ≤ c.variance) : (sched c).Law where
  dead_stays := fun s t i (hd : s.dead = true) => by
    show (step c s t i).1.dead = true
    unfold step
    rw [if_pos hd]
    exact hd
  idle := fun s t i (hd : s.dead = false) hs =>
    have h := step_idle_fields c s t i (by simpa [slot_iff, hd] using hs)
    ⟨h.1, h.2.1⟩
  fire := by
    intro s t i hs hok
    obtain ⟨hd, hex⟩ : s.dead = false ∧ executes s t = true := by simpa [slot_iff] using hs
    rcases step_fire c s t i hd hex hv with h1 | h1 | h1
    · exact Or.inl h1
    · exact Or.inr ⟨i.d1, hok.1.1, hok.1.2, h1⟩
    · exact Or.inr ⟨i.d2, hok.2.1, hok.2.2, h1⟩

/-- Draws of a run lie in the range the code passes to `randint`. -/
def DrawsIn (c : Cfg) (ins : List In) : Prop := ∀ i ∈ ins, (sched c).ok i

def slotTimes (c : Cfg) (s : St) (t : Int) (ins : List In) : List Int := (sched c).slots s t ins

theorem acts_in_slots (c : Cfg) : ∀ (ins : List In) (s : St) (t : Int) (t' : Int) (a : Act),
    (t', Out.act a) ∈ runOut c s t ins → a ≠ Act.nothing → t' ∈ slotTimes c s t ins := by
  intro ins
  induction ins with
  | nil => intro s t t' a h; simp [runOut] at h
  | cons i is ih =>
    intro s t t' a hmem hne
    simp only [runOut, List.mem_cons] at hmem
    refine (sched c).mem_slots_cons.mpr (hmem.imp (fun heq => ?_) (fun h => ih _ (t + 1) t' a h hne))
    obtain ⟨rfl, h2⟩ := Prod.mk.inj heq
    obtain ⟨hd, hex⟩ := step_act c s t' i a h2.symm hne
    exact ⟨by rw [slot_iff, hd, hex]; rfl, rfl⟩

/-- **Run-level schedule of TAP001.** For every configuration, every start draw and every sequence of schedule draws
inside `[-variance, variance]`, every trial / scan draw and every response sequence, in a run from the constructor:
the first execution slot is the first timestep `≥ start_step + d0` (so exactly `start_step + d0 ∈ start_step ±
variance` when that is not negative); consecutive execution slots are `max 1 (frequency + d)` apart, i.e. the gaps lie
in `[max 1 (f − v), max 1 (f + v)]`; and every action other than do-nothing is returned in one of these slots.
(A slot may itself return do-nothing — start tick, failed trial — so gaps between *visible* actions are sums of
consecutive slot gaps.) -/
theorem C19_tap1_slot_gaps (c : Cfg) (d0 : Int) (k1 k2 : Nat) (s0 : St) (ins : List In) (h0 : init c d0 k1 k2 = some s0)
    (hins : DrawsIn c ins) :
    (∀ x, (slotTimes c s0 0 ins).head? = some x → x = max 0 (c.startStep + d0)) ∧
    GapsIn (max 1 (c.frequency - c.variance)) (max 1 (c.frequency + c.variance)) (slotTimes c s0 0 ins) ∧
    (∀ x ∈ slotTimes c s0 0 ins, c.startStep + d0 ≤ x) ∧
    (∀ t a, (t, Out.act a) ∈ runOut c s0 0 ins → a ≠ Act.nothing → t ∈ slotTimes c s0 0 ins) := by
  have hs := (init_spec h0).2
  have hL := sched_law c hs.2.1
  obtain ⟨h1, h2⟩ := (sched c).slots_spec hL ins s0 0 hins
  refine ⟨?_, h2, ?_, fun t a => acts_in_slots c ins s0 0 t a⟩
  · intro x hx; have := h1 x hx; rw [← hs.1]; exact this
  · intro x hx
    have := ((sched c).slots_ge hL ins s0 0 x hx).2 hs.2.2.1 hs.2.2.2
    rw [← hs.1]; exact this

/-- Non-vacuity: start 2, frequency 3, variance 1; draws +1, −1, 0, … give slots 2, 6, 8, 11, 14. -/
example :
    let c : Cfg := { exCfg with startStep := 2, frequency := 3, variance := 1 }
    ∃ s0, init c 0 0 0 = some s0 ∧
      slotTimes c s0 0 ((List.range 16).map fun j =>
        { exIn with d1 := if j = 2 then 1 else if j = 6 then -1 else 0 }) = [2, 6, 8, 11, 14] := by
  refine ⟨_, rfl, ?_⟩
  decide +kernel

/-- **Nothing before the start window** (TAP001): in every run from the constructor, with the first schedule draw
`d0 ∈ [-variance, variance]`, every action other than do-nothing happens at a timestep `≥ start_step − variance`. -/
theorem C19_tap1_nothing_before_start (c : Cfg) (d0 : Int) (k1 k2 : Nat) (s0 : St) (ins : List In)
    (h0 : init c d0 k1 k2 = some s0) (hd0 : -c.variance ≤ d0) :
    ∀ t a, (t, Out.act a) ∈ runOut c s0 0 ins → a ≠ Act.nothing → c.startStep - c.variance ≤ t := by
  intro t a hmem hne
  have hs := (init_spec h0).2
  -- the action comes out of an execution slot, and no slot precedes `next_execution_timestep = start_step + d0`
  have hslot := acts_in_slots c ins s0 0 t a hmem hne
  have hge : s0.nextExec ≤ t := ((sched c).slots_ge (sched_law c hs.2.1) ins s0 0 t hslot).2 hs.2.2.1 hs.2.2.2
  rw [hs.1] at hge
  omega

/-- `_tap_outcome_handler` sets the flag only without `repeat_kill_chain`, only when the stage is SUCCEEDED or FAILED, and
then keeps the stage and chooses do-nothing. -/
theorem outcome_concluded (c : Cfg) (s : St) (h : (outcomeHandler c s).concluded = true) :
    s.concluded = true ∨ (c.repeatKillChain = false ∧ (s.cur = .succeeded ∨ s.cur = .failed) ∧
      (outcomeHandler c s).cur = s.cur ∧ (outcomeHandler c s).chosen = Act.nothing) := by
  by_cases ht : s.cur = .succeeded ∨ s.cur = .failed
  · cases hc : s.concluded with
    | true => exact Or.inl rfl
    | false =>
      cases hr : c.repeatKillChain with
      | true => simp [outcomeHandler, ht, hc, hr] at h
      | false => right; simp [outcomeHandler, ht, hc, hr]
  · have : outcomeHandler c s = s := by simp [outcomeHandler, ht]
    rw [this] at h; exact Or.inl h

/-- **`actions_concluded` is set nowhere else** (one call). If a call of `get_action` turns the flag on, then the call
was an execution slot, `repeat_kill_chain` is off, the stage after the call is SUCCEEDED or FAILED, and the call
returned do-nothing. -/
theorem C19_tap1_concluded_only_at_end (c : Cfg) (s : St) (t : Int) (i : In) (h0 : s.concluded = false)
    (h1 : (getAction c s t i).1.concluded = true) :
    executes s t = true ∧ c.repeatKillChain = false ∧
    ((getAction c s t i).1.cur = .succeeded ∨ (getAction c s t i).1.cur = .failed) ∧
    (getAction c s t i).2 = Act.nothing := by
  rcases getAction_cases c s t i with ⟨_, he⟩ | ⟨_, _, he⟩ | ⟨_, r, hex, _, _, _, hr, he⟩ |
      ⟨_, q, r, hex, _, _, _, hf, hr, he⟩ <;> rw [he] at h1 ⊢
  · cases h0.symm.trans h1
  · cases h0.symm.trans h1
  · rcases hr ▸ mainPath_cases c s t i h0 with ⟨q, _, _, _, hk, hb⟩ | ⟨_, _, _, _, hk⟩ | ⟨ht, hrep, hc, _, _, hch⟩
    · rw [hb, concluded_bodies] at h1; cases hk.symm.trans h1
    · cases hk.symm.trans h1
    · exact ⟨hex, hrep, hc ▸ ht, hch⟩
  · rcases hr ▸ failPath_head c q t i ((concluded_of_frame hf).trans h0) with
      ⟨_, _, _, hk⟩ | ⟨_, _, _, _, hk⟩ | ⟨ht, hrep, hc, _, _, hch⟩
    · cases hk.symm.trans h1
    · cases hk.symm.trans h1
    · exact ⟨hex, hrep, hc ▸ ht, hch⟩

def ConcInv (c : Cfg) (s : St) : Prop :=
  s.concluded = true → c.repeatKillChain = false ∧ (s.cur = .succeeded ∨ s.cur = .failed)

theorem step_concInv (c : Cfg) (s : St) (t : Int) (i : In) (h : ConcInv c s) : ConcInv c (step c s t i).1 := by
  unfold step
  split
  · exact h
  · split
    · exact h
    · intro hc
      simp only [] at hc ⊢
      cases h0 : s.concluded with
      | true =>
        rw [C19_tap1_concluded_absorbing c s t i h0]
        exact h h0
      | false =>
        have := C19_tap1_concluded_only_at_end c s t i h0 hc
        exact ⟨this.2.1, this.2.2.1⟩

/-- **`actions_concluded` as a run invariant** (TAP001): in every run from the constructor, whenever the flag is set,
`repeat_kill_chain` is off and the sampled stage is SUCCEEDED or FAILED.  In particular an agent with
`repeat_kill_chain` never concludes, and no agent concludes in the middle of its chain. -/
theorem C19_tap1_concluded_invariant (c : Cfg) (d0 : Int) (k1 k2 : Nat) (s0 : St) (ins : List In) (h0 : init c d0 k1 k2 = some s0) :
    ∀ s ∈ run c s0 0 ins, s.concluded = true → c.repeatKillChain = false ∧ (s.cur = .succeeded ∨ s.cur = .failed) := by
  have hinit : ConcInv c s0 := fun h => by rw [(init_spec h0).2.2.2.2] at h; cases h
  exact run_inv c (ConcInv c) (fun s t i => step_concInv c s t i) ins s0 0 hinit

end Tap1
namespace Tap3

def sched (c : Cfg) : SchedSys St In where
  step := fun s t i => (step c s t i).1
  dead := (·.dead)
  concluded := (·.concluded)
  nextExec := (·.nextExec)
  f := c.frequency
  v := c.variance
  ok := fun i => -c.variance ≤ i.d1 ∧ i.d1 ≤ c.variance

theorem slot_iff (c : Cfg) (s : St) (t : Int) : (sched c).slot s t = (!s.dead && executes s t) := rfl

theorem step_idle_fields (c : Cfg) (s : St) (t : Int) (i : In) (h : executes s t = false) :
    (step c s t i).1.nextExec = s.nextExec ∧ (step c s t i).1.concluded = s.concluded ∧ (step c s t i).1.cur = s.cur := by
  have hp := preGuard_fields c s
  unfold step
  split
  · exact ⟨rfl, rfl, rfl⟩
  · rw [getAction_idle c s t i h]
    split
    · exact ⟨rfl, rfl, rfl⟩
    · exact ⟨hp.2.2.2, hp.2.2.1, hp.1⟩

theorem step_fire (c : Cfg) (s : St) (t : Int) (i : In) (hd : s.dead = false) (hex : executes s t = true)
    (hv : 0 ≤ c.variance) :
    (step c s t i).1.dead = true ∨ (step c s t i).1.nextExec = t + c.frequency + i.d1 := by
  unfold step
  rw [if_neg (by simp [hd])]
  split
  · exact Or.inl rfl
  · rename_i herr
    right
    cases hh : lookBack (preGuardHandlers c s) with
    | none =>
      exfalso; apply herr
      simp [getAction, getActionCore, executes_preGuard, hex, hh, St.raise]
    | some h => exact C19_tap3_reschedules c s t i h hex hh hv

theorem sched_law (c : Cfg) (hv : 0 ≤ c.variance) : (sched c).Law where
  dead_stays := fun s t i (hd : s.dead = true) => by
    show (step c s t i).1.dead = true
    unfold step
    rw [if_pos hd]
    exact hd
  idle := fun s t i (hd : s.dead = false) hs =>
    have h := step_idle_fields c s t i (by simpa [slot_iff, hd] using hs)
    ⟨h.1, h.2.1⟩
  fire := by
    intro s t i hs hok
    obtain ⟨hd, hex⟩ : s.dead = false ∧ executes s t = true := by simpa [slot_iff] using hs
    rcases step_fire c s t i hd hex hv with h1 | h1
    · exact Or.inl h1
    · exact Or.inr ⟨i.d1, hok.1, hok.2, h1⟩

def DrawsIn (c : Cfg) (ins : List In) : Prop := ∀ i ∈ ins, (sched c).ok i

def slotTimes (c : Cfg) (s : St) (t : Int) (ins : List In) : List Int := (sched c).slots s t ins

theorem acts_in_slots (c : Cfg) : ∀ (ins : List In) (s : St) (t : Int) (t' : Int) (a : Act),
    (t', Out.act a) ∈ runOut c s t ins → a ≠ Act.nothing → t' ∈ slotTimes c s t ins := by
  intro ins
  induction ins with
  | nil => intro s t t' a h; simp [runOut] at h
  | cons i is ih =>
    intro s t t' a hmem hne
    simp only [runOut, List.mem_cons] at hmem
    refine (sched c).mem_slots_cons.mpr (hmem.imp (fun heq => ?_) (fun h => ih _ (t + 1) t' a h hne))
    obtain ⟨rfl, h2⟩ := Prod.mk.inj heq
    obtain ⟨hd, hex⟩ := step_act c s t' i a h2.symm hne
    exact ⟨by rw [slot_iff, hd, hex]; rfl, rfl⟩

/-- **Run-level schedule of TAP003** (same statement as `C19_tap1_slot_gaps`): first slot = first timestep
`≥ start_step + d0`; consecutive slots `max 1 (frequency + d1)` apart, gaps in `[max 1 (f − v), max 1 (f + v)]`; every
action other than do-nothing is returned in a slot. -/
theorem C19_tap3_slot_gaps (c : Cfg) (d0 : Int) (k : Nat) (s0 : St) (ins : List In) (h0 : init c d0 k = some s0)
    (hins : DrawsIn c ins) :
    (∀ x, (slotTimes c s0 0 ins).head? = some x → x = max 0 (c.startStep + d0)) ∧
    GapsIn (max 1 (c.frequency - c.variance)) (max 1 (c.frequency + c.variance)) (slotTimes c s0 0 ins) ∧
    (∀ x ∈ slotTimes c s0 0 ins, c.startStep + d0 ≤ x) ∧
    (∀ t a, (t, Out.act a) ∈ runOut c s0 0 ins → a ≠ Act.nothing → t ∈ slotTimes c s0 0 ins) := by
  have hs := (init_spec h0).2
  have hL := sched_law c hs.2.1
  obtain ⟨h1, h2⟩ := (sched c).slots_spec hL ins s0 0 hins
  refine ⟨?_, h2, ?_, fun t a => acts_in_slots c ins s0 0 t a⟩
  · intro x hx; have := h1 x hx; rw [← hs.1]; exact this
  · intro x hx
    have := ((sched c).slots_ge hL ins s0 0 x hx).2 hs.2.2.1 hs.2.2.2
    rw [← hs.1]; exact this

/-- Non-vacuity: start 2, frequency 3, variance 1; draws +1 at step 2 and −1 at step 6 give slots 2, 6, 8, 11, 14. -/
example :
    let c : Cfg := { exCfg with startStep := 2, frequency := 3, variance := 1 }
    ∃ s0, init c 0 0 = some s0 ∧
      slotTimes c s0 0 ((List.range 16).map fun j =>
        { exIn with d1 := if j = 2 then 1 else if j = 6 then -1 else 0 }) = [2, 6, 8, 11, 14] := by
  refine ⟨_, rfl, ?_⟩
  decide +kernel

/-- **Nothing before the start window** (TAP003): in every run from the constructor, with the first schedule draw
`d0 ∈ [-variance, variance]`, every action other than do-nothing happens at a timestep `≥ start_step − variance`. -/
theorem C19_tap3_nothing_before_start (c : Cfg) (d0 : Int) (k : Nat) (s0 : St) (ins : List In)
    (h0 : init c d0 k = some s0) (hd0 : -c.variance ≤ d0) :
    ∀ t a, (t, Out.act a) ∈ runOut c s0 0 ins → a ≠ Act.nothing → c.startStep - c.variance ≤ t := by
  intro t a hmem hne
  have hs := (init_spec h0).2
  -- the action comes out of an execution slot, and no slot precedes `next_execution_timestep = start_step + d0`
  have hslot := acts_in_slots c ins s0 0 t a hmem hne
  have hge : s0.nextExec ≤ t := ((sched c).slots_ge (sched_law c hs.2.1) ins s0 0 t hslot).2 hs.2.2.1 hs.2.2.2
  rw [hs.1] at hge
  omega

theorem outcome_concluded (c : Cfg) (s : St) (h : (outcomeHandler c s).concluded = true) :
    s.concluded = true ∨ (c.repeatKillChain = false ∧ (s.cur = .succeeded ∨ s.cur = .failed) ∧
      (outcomeHandler c s).cur = s.cur ∧ (outcomeHandler c s).chosen = Act.nothing) := by
  by_cases ht : s.cur = .succeeded ∨ s.cur = .failed
  · cases hc : s.concluded with
    | true => exact Or.inl rfl
    | false =>
      cases hr : c.repeatKillChain with
      | true => simp [outcomeHandler, ht, hc, hr] at h
      | false => right; simp [outcomeHandler, ht, hc, hr]
  · have : outcomeHandler c s = s := by simp [outcomeHandler, ht]
    rw [this] at h; exact Or.inl h

/-- **`actions_concluded` is set nowhere else** (one call of `TAP003.get_action`). -/
theorem C19_tap3_concluded_only_at_end (c : Cfg) (s : St) (t : Int) (i : In) (h0 : s.concluded = false)
    (h1 : (getAction c s t i).1.concluded = true) :
    executes s t = true ∧ c.repeatKillChain = false ∧
    ((getAction c s t i).1.cur = .succeeded ∨ (getAction c s t i).1.cur = .failed) ∧
    (getAction c s t i).2 = Act.nothing := by
  rcases getAction_cases c s t i with ⟨_, p, hk, he⟩ | ⟨_, _, p, hk, he⟩ | ⟨_, q, r, hex, _, _, hk, hr, he⟩ |
      ⟨_, q, r, hex, _, _, _, hf, hr, he⟩ <;> rw [he] at h1 ⊢
  · cases ((concluded_of_frame hk.2.2).trans h0).symm.trans h1
  · cases ((concluded_of_frame hk.2.2).trans h0).symm.trans h1
  · rcases hr ▸ mainPath_cases c q t i ((concluded_of_frame hk.2.2).trans h0) with
      ⟨q', _, _, _, hk', hb⟩ | ⟨_, _, _, _, hk'⟩ | ⟨ht, hrep, hc, _, _, hch⟩
    · rw [hb, concluded_bodies] at h1; cases hk'.symm.trans h1
    · cases hk'.symm.trans h1
    · exact ⟨hex, hrep, hc ▸ ht, hch⟩
  · rcases hr ▸ failPath_head c q t i ((concluded_of_frame hf).trans h0) with
      ⟨_, _, _, hk'⟩ | ⟨_, _, _, _, hk'⟩ | ⟨ht, hrep, hc, _, _, hch⟩
    · cases hk'.symm.trans h1
    · cases hk'.symm.trans h1
    · exact ⟨hex, hrep, hc ▸ ht, hch⟩

def ConcInv (c : Cfg) (s : St) : Prop :=
  s.concluded = true → c.repeatKillChain = false ∧ (s.cur = .succeeded ∨ s.cur = .failed)

theorem step_concInv (c : Cfg) (s : St) (t : Int) (i : In) (h : ConcInv c s) : ConcInv c (step c s t i).1 := by
  unfold step
  split
  · exact h
  · split
    · exact h
    · intro hc
      simp only [] at hc ⊢
      cases h0 : s.concluded with
      | true =>
        have := C19_tap3_concluded_absorbing c s t i h0
        rw [this.2.1]
        exact h h0
      | false =>
        have := C19_tap3_concluded_only_at_end c s t i h0 hc
        exact ⟨this.2.1, this.2.2.1⟩

/-- **`actions_concluded` as a run invariant** (TAP003). -/
theorem C19_tap3_concluded_invariant (c : Cfg) (d0 : Int) (k : Nat) (s0 : St) (ins : List In) (h0 : init c d0 k = some s0) :
    ∀ s ∈ run c s0 0 ins, s.concluded = true → c.repeatKillChain = false ∧ (s.cur = .succeeded ∨ s.cur = .failed) := by
  have hinit : ConcInv c s0 := fun h => by rw [(init_spec h0).2.2.2.2] at h; cases h
  exact run_inv c (ConcInv c) (fun s t i => step_concInv c s t i) ins s0 0 hinit

/-- **ends_per_settings (stop)** for TAP003. Without `repeat_kill_chain`, the first execution slot that finds the chain
SUCCEEDED or FAILED sets `actions_concluded`, leaves the stage SUCCEEDED or FAILED, and returns do-nothing. -/
theorem C19_tap3_stops (c : Cfg) (s : St) (t : Int) (i : In) (h : Hist)
    (hrep : c.repeatKillChain = false) (hterm : s.cur = .succeeded ∨ s.cur = .failed)
    (hex : executes s t = true) (hh : lookBack s = some h) :
    (getAction c s t i).1.concluded = true ∧
    ((getAction c s t i).1.cur = .succeeded ∨ (getAction c s t i).1.cur = .failed) ∧
    (getAction c s t i).2 = Act.nothing :=
  have he := ended_slot c s t i h hterm hex hh
  he.2.2.elim (fun h' => absurd (hrep.symm.trans h'.1) Bool.false_ne_true) fun h' => ⟨h'.2.1, h'.2.2, he.1⟩

/-- **ends_per_settings (restart)** for TAP003. With `repeat_kill_chain`, the first execution slot that finds the chain
SUCCEEDED or FAILED puts the agent back to NOT_STARTED (on the main path straight into RECONNAISSANCE) and never sets
`actions_concluded`. -/
theorem C19_tap3_restarts (c : Cfg) (s : St) (t : Int) (i : In) (h : Hist)
    (hrep : c.repeatKillChain = true) (hterm : s.cur = .succeeded ∨ s.cur = .failed)
    (hex : executes s t = true) (hh : lookBack s = some h) :
    (getAction c s t i).1.concluded = false ∧
    ((getAction c s t i).1.cur = .notStarted ∨ (getAction c s t i).1.cur = .reconnaissance) :=
  (ended_slot c s t i h hterm hex hh).2.2.elim And.right (fun h' => absurd (h'.1.symm.trans hrep) Bool.false_ne_true)

/-- **progress_only_after_success** (TAP003). The stage advances to its successor only in an execution slot whose
look-back response (`history[current_timestep]`) was a success — except in PLANNING, which `get_action` lets through
after a failed response (the "already installed" exception, as coded: it applies to *any* failure in PLANNING). -/
theorem C19_tap3_progress_only_after_success (c : Cfg) (s : St) (t : Int) (i : In)
    (hch : s.cur.chain = true) (hadv : (getAction c s t i).1.cur = s.cur.succ) :
    executes s t = true ∧ ∃ h, lookBack s = some h ∧ (h.resp.ok = true ∨ s.cur = .planning) := by
  have hne : s.cur.succ ≠ s.cur ∧ s.cur.succ ≠ .failed ∧ s.cur.succ ≠ .notStarted := by
    revert hch; cases s.cur <;> decide
  rcases getAction_cases c s t i with ⟨_, p, hk, he⟩ | ⟨_, _, p, hk, he⟩ | ⟨h, _, _, hex, hh, hp, _⟩ |
      ⟨_, q, r, hex, _, hc, _, hf, hr, he⟩
  · rw [he] at hadv; exact absurd (hadv.symm.trans hk.1) hne.1
  · rw [he] at hadv; exact absurd (hadv.symm.trans hk.1) hne.1
  · exact ⟨hex, h, hh, hp⟩
  · -- the branch that stops short of the stage methods ends in the stage it found, in FAILED or in NOT_STARTED
    exfalso
    rw [he] at hadv
    have hq : q.cur = s.cur ∨ q.cur = .failed := hc.imp_right And.left
    rcases hr ▸ failPath_head c q t i ((concluded_of_frame hf).trans (executes_concluded hex)) with
      ⟨_, hc', _⟩ | ⟨_, _, hc', _⟩ | ⟨_, _, hc', _⟩
    · exact hq.elim (fun e => hne.1 (hadv.symm.trans (hc'.trans e))) (fun e => hne.2.1 (hadv.symm.trans (hc'.trans e)))
    · exact hne.2.2 (hadv.symm.trans hc')
    · exact hq.elim (fun e => hne.1 (hadv.symm.trans (hc'.trans e))) (fun e => hne.2.1 (hadv.symm.trans (hc'.trans e)))

end Tap3
/-- **RandomAgent acts only with actions of its configured action map**: whatever integer the space's sampler
returns, the agent either raises (empty map / index outside the map) or returns the entry `k < len(action_map)` of the
map it was configured with. -/
theorem C19_random_agent_in_map (n k i : Nat) (h : randomAgentChoice n k = .chose i) : i = k ∧ i < n := by
  unfold randomAgentChoice at h
  split at h
  · cases h
  · split at h
    · cases h; exact ⟨rfl, by assumption⟩
    · cases h

/-- …and it does act (no exception) whenever the sampler stays inside `Discrete(len(action_map))`. -/
theorem C19_random_agent_total (n k : Nat) (h : k < n) : randomAgentChoice n k = .chose k := by
  unfold randomAgentChoice
  rw [if_neg (by omega), if_pos h]

/-- Every `get_action` under game/agent accepts exactly the arguments `PrimaiteGame.apply_agent_actions` passes
(`agent.get_action(obs, timestep=self.step_counter)`).  Before the repair of F-C19-1 `RandomAgent.get_action(self)`
did not, and a scenario with a `random-agent` raised `TypeError` in its first step. -/
theorem C19_gen_get_action_signatures :
    (Gen.Agents.getActionParams.all fun e => e.2 == getActionSignature) = true ∧
    Gen.Agents.gameGetActionCall = gameCall ∧
    (Gen.Agents.getActionParams.map (·.1)).contains "RandomAgent" = true := ⟨rfl, rfl, rfl⟩

/-- `_tap_return_handler` answers "success" without reading the history exactly when `timestep >= len(self.history)`
(`lookBack`), otherwise it reads `history[timestep].response.status` (F-C19-2). -/
theorem C19_gen_tap_return_handler :
    Gen.Agents.tapReturnEmptyGuard = "timestep >= len(self.history)" ∧
    Gen.Agents.tapReturnLookup = "self.history[timestep].response.status != 'success'" := ⟨rfl, rfl⟩

/-- `TAP003._exploit` tries `EXPLOIT.probability` while the *stage progress* is PENDING and sets the stage progress to
IN_PROGRESS afterwards (`Tap3.exploit`, F-C19-3). -/
theorem C19_gen_tap3_exploit_trial :
    Gen.Agents.tap3ExploitTrialGuard = "self.current_stage_progress == KillChainStageProgress.PENDING" ∧
    Gen.Agents.tap3ExploitTrialProb = "self.config.agent_settings.kill_chain.EXPLOIT.probability" ∧
    Gen.Agents.tap3ExploitTrialSet = "self.current_stage_progress = KillChainStageProgress.IN_PROGRESS" := ⟨rfl, rfl, rfl⟩

/-- The source expression of every parameter of every action the TAPs can return is the one pinned in
`Model/AgentsParams.lean` (and implemented by the rig's parameter oracle). -/
theorem C19_gen_action_params :
    Gen.Agents.tap1ActionParams = Tap1.actionParams ∧ Gen.Agents.tap3ActionParams = Tap3.actionParams := ⟨rfl, rfl⟩

end Primaite.Agents
