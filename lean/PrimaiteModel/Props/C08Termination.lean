/-
C08, part 5 — "handling any packet always terminates", as a theorem about the whole interpreter.

`Model/Forward.lean` bounds the Python call nesting by `fuel`; running out of fuel sets `oof` (the model's `RecursionError`).
Here: an A-PRIORI bound.  For every state whose configuration is good (`GoodCfg`: unique MACs, next hops / gateways are
addresses that only routers carry) and every fuel ≥ `fuelBound` (a constant that depends only on the initial TTL), no function
of the interpreter runs out of fuel — for every topology, every cache / table content, every frame, every nesting of ARP
exchanges, floods, hops and replies.

Ranking argument (lexicographic, flattened into explicit budgets):
  * a frame in flight spends ≤ 4 nesting levels per TTL unit (send → receive → switch → flood → send; or
    send → receive → router → process → send with two decrements);
  * what a frame can START while it is handled depends on its class, and the classes are well ordered:
      P  (ARP reply, addressed to the genuine pair of the requester)   starts nothing;
      Q1 (ARP request for a configured next hop: only routers own it)   starts P  (routers resolve their outbound port without ARP);
      Q0 (any other ARP request)                                        starts Q1 (a host asks for its gateway before it answers) and P;
      R  (echo reply / service reply)                                   starts Q0, Q1 at every router it crosses;
      E  (echo request / service request)                               starts the same and, at its addressee, R;
  * every ARP look-up re-attempts at most twice (flag rank ≤ 3);
  * a flood does not nest: its branches run one after the other at the same depth, sharing one TTL.
The cycle "ARP request → look-up → ARP request" is cut by the repaired code in three places: the router never forwards a
broadcast (F-33), a host resolves its gateway without ARP (F-57), a firewall drops a broadcast on its DMZ port before its
look-ups (F-C08-r3-1, found by this proof: before that repair the statement below was false under `GoodCfg`).
-/
import PrimaiteModel.Lemmas.ForwardInv
import PrimaiteModel.Props.C08Forward
import PrimaiteModel.Props.C08FuelMono
import PrimaiteModel.Props.C08Addressee
namespace Primaite.Forward
open Primaite.Route (Table)

/-- `(ip, mac)` is the address pair of one interface of the configuration. -/
def Genuine (c : List NodeCfg) (ip : Ip) (mac : Mac) : Prop :=
  ∃ (m j : Nat) (nc : NodeCfg) (b : Iface), c[m]? = some nc ∧ nc.ifaces[j]? = some b ∧ b.ip = ip ∧ b.mac = mac

/-- `t` is a configured next hop (gateway, route next hop, default route) of some node. -/
def NH (c : List NodeCfg) (t : Ip) : Prop := ∃ (n : Nat) (nc : NodeCfg), c[n]? = some nc ∧ IsNextHop nc t

def IsHost (c : List NodeCfg) (n : Nat) : Prop := ∃ nc, c[n]? = some nc ∧ nc.kind = .host

def OwnHopAt (c : List NodeCfg) (n : Nat) (t : Ip) : Prop := ∀ nc, c[n]? = some nc → OwnHop nc t

/-- `resolve_outbound_network_interface` of node `n` for `dst` makes no nested call: routers and switches never do, a
host does not for its own gateway (repair F-57) or without a gateway. -/
def CheapOut (c : List NodeCfg) (n : Nat) (dst : Ip) : Prop :=
  ∀ nc, c[n]? = some nc → nc.kind = .router ∨ nc.kind = .switch ∨ nc.gateway = none ∨ nc.gateway = some dst

/-- a request (echo request, service request, application request) / a reply. -/
def IsRequest : Pl → Prop
  | .echoReq _ => True
  | .dataReq => True
  | .appReq _ _ => True
  | _ => False
def IsReply : Pl → Prop
  | .echoRep _ => True
  | .dataRep => True
  | .appRep _ => True
  | _ => False

/-- the classes of frames, ordered by what their handling can start. -/
inductive Cls | p | q1 | q0 | r | e
deriving DecidableEq, Repr

def ClsOk (c : List NodeCfg) : Cls → Frame → Prop
  | .p, f => (∃ a b t m, f.pl = .arpRep a b t m) ∧ Genuine c f.dstIp f.dstMac
  | .q1, f => (∃ s m, f.pl = .arpReq s m f.dstIp ∧ Genuine c s m) ∧ f.dstMac = bcastMac ∧ NH c f.dstIp
  | .q0, f => (∃ s m, f.pl = .arpReq s m f.dstIp ∧ Genuine c s m) ∧ f.dstMac = bcastMac
  | .r, f => IsReply f.pl
  | .e, f => IsRequest f.pl

/-- what the handling of a frame of the class may need beyond its own transit (nesting levels). -/
def Hc : Cls → Nat
  | .p => 1
  | .q1 => 264
  | .q0 => 534
  | .r => 800
  | .e => 1062

/-- remaining TTL budget of a frame. -/
def tt (f : Frame) : Nat := f.ttl.toNat

/-- nesting needed to send a fresh frame (TTL 64) of the class. -/
def Sc (k : Cls) : Nat := 260 + Hc k

/-- nesting budgets: `RQ1` / `RQ0` for `send_arp_request` for an own next hop / an arbitrary address, `RO` for
`resolve_outbound_network_interface`, `LK` for one ARP look-up (cache read, ≤ 2 requests), `RD` for
`resolve_outbound_transmission_details`. -/
local notation "RQ1" => 526
local notation "RO" => 531
local notation "RQ0" => 796
local notation "LK" => 800
local notation "RD" => 801

/-- THE BOUND: with this much fuel nothing ever runs out of it (depends only on the initial TTL 64). -/
def fuelBound : Nat := 1323

/-- state part of the statement: the (static) configuration, and the interpreter has not run out of fuel. -/
structure T (c : List NodeCfg) (st : St) : Prop where
  cfg : cfgOf st = c
  ok : st.oof = false

theorem T.emit {c : List NodeCfg} {st : St} (h : T c st) (e : Ev) : T c (st.emit e) := ⟨h.cfg, h.ok⟩
theorem T.nextId {c : List NodeCfg} {st : St} (h : T c st) (k : Nat) : T c { st with nextId := k } := ⟨h.cfg, h.ok⟩
theorem T.mod {c : List NodeCfg} {st : St} (h : T c st) (n : Nat) (f : Node → Node) (hf : ∀ nd, (f nd).cfg = nd.cfg) :
    T c (st.modNode n f) := ⟨by rw [cfgOf_modNode st n f hf]; exact h.cfg, h.ok⟩
theorem T.addArp {c : List NodeCfg} {st : St} (h : T c st) (n i : Nat) (ip : Ip) (mac : Mac) :
    T c (st.modNode n (fun nd => nd.addArp ip mac i)) := h.mod n _ (fun nd => addArp_cfg nd ip mac i)
theorem T.learnMac {c : List NodeCfg} {st : St} (h : T c st) (n p : Nat) (m : Mac) :
    T c (st.modNode n (fun nd => nd.learnMac m p)) := h.mod n _ (fun nd => (learnMac_cfg nd m p).1)

theorem tt_dec (f : Frame) (h : ¬ f.dec.ttl < 1) : tt f.dec + 1 = tt f := by
  unfold tt Frame.dec at *
  simp only at *
  omega

theorem tt_dec_le (f : Frame) : tt f.dec ≤ tt f := by
  unfold tt Frame.dec
  simp only
  omega

@[simp] theorem tt_stamp (f : Frame) (a b : Mac) : tt (f.stamp a b) = tt f := rfl

theorem ClsOk.dec {c : List NodeCfg} {k : Cls} {f : Frame} (h : ClsOk c k f) : ClsOk c k f.dec := by
  cases k <;> exact h

/-- the router's rewrite keeps the class of the frames a router does forward. -/
theorem ClsOk.stamp {c : List NodeCfg} {k : Cls} {f : Frame} (h : ClsOk c k f) (hk : k = .r ∨ k = .e) (a b : Mac) :
    ClsOk c k (f.stamp a b) := by
  rcases hk with rfl | rfl <;> exact h

/-- the class of a frame, and what the class says of it, read off its payload. -/
theorem clsOk_cases {c : List NodeCfg} {k : Cls} {f : Frame} (h : ClsOk c k f) :
    match f.pl with
    | .arpReq s m t => (k = .q1 ∨ k = .q0) ∧ t = f.dstIp ∧ f.dstMac = bcastMac ∧ Genuine c s m ∧ (k = .q1 → NH c t)
    | .arpRep _ _ _ _ => k = .p ∧ Genuine c f.dstIp f.dstMac
    | .echoReq _ | .dataReq | .appReq _ _ => k = .e
    | .echoRep _ | .dataRep | .appRep _ => k = .r := by
  cases k
  · obtain ⟨⟨a, b, t, m, h1⟩, h2⟩ := h
    rw [h1]
    exact ⟨rfl, h2⟩
  · obtain ⟨⟨s, m, h1, h2⟩, h3, h4⟩ := h
    rw [h1]
    exact ⟨Or.inl rfl, rfl, h3, h2, fun _ => h4⟩
  · obtain ⟨⟨s, m, h1, h2⟩, h3⟩ := h
    rw [h1]
    exact ⟨Or.inr rfl, rfl, h3, h2, nofun⟩
  · have h' : IsReply f.pl := h
    cases hpl : f.pl <;> rw [hpl] at h' <;> first | exact h'.elim | rfl
  · have h' : IsRequest f.pl := h
    cases hpl : f.pl <;> rw [hpl] at h' <;> first | exact h'.elim | rfl

theorem clsOk_arpReq {c : List NodeCfg} {k : Cls} {f : Frame} {s : Ip} {m : Mac} {t : Ip} (hp : f.pl = .arpReq s m t)
    (h : ClsOk c k f) : (k = .q1 ∨ k = .q0) ∧ t = f.dstIp ∧ f.dstMac = bcastMac ∧ Genuine c s m ∧ (k = .q1 → NH c t) := by
  have := clsOk_cases h
  rw [hp] at this
  exact this

theorem clsOk_arpRep {c : List NodeCfg} {k : Cls} {f : Frame} {s : Ip} {m : Mac} {t : Ip} {tm : Mac}
    (hp : f.pl = .arpRep s m t tm) (h : ClsOk c k f) : k = .p ∧ Genuine c f.dstIp f.dstMac := by
  have := clsOk_cases h
  rw [hp] at this
  exact this

theorem clsOk_request {c : List NodeCfg} {k : Cls} {f : Frame} (hp : IsRequest f.pl) (h : ClsOk c k f) : k = .e := by
  have := clsOk_cases h
  cases hpl : f.pl <;> rw [hpl] at hp this <;> first | exact this | exact hp.elim

theorem clsOk_reply {c : List NodeCfg} {k : Cls} {f : Frame} (hp : IsReply f.pl) (h : ClsOk c k f) : k = .r := by
  have := clsOk_cases h
  cases hpl : f.pl <;> rw [hpl] at hp this <;> first | exact this | exact hp.elim

/-- the frame `receive_payload_from_software_manager` builds for an ARP packet is of class `k`. -/
def PktOk (c : List NodeCfg) (k : Cls) (pl : Pl) (dstIp : Ip) : Prop :=
  ∀ (id : Nat) (sm : Mac) (si : Ip),
    ClsOk c k { id := id, srcMac := sm, dstMac := plDstMac pl, srcIp := si, dstIp := dstIp, ttl := initTtl, pl := pl }

/-- … and for an ICMP / service payload (only the payload decides the class). -/
def PlCls (k : Cls) (pl : Pl) : Prop :=
  (k = .r ∧ IsReply pl) ∨ (k = .e ∧ IsRequest pl)

theorem PlCls.ok {c : List NodeCfg} {k : Cls} {pl : Pl} (h : PlCls k pl) (f : Frame) (hf : f.pl = pl) : ClsOk c k f := by
  subst hf
  rcases h with ⟨rfl, h⟩ | ⟨rfl, h⟩ <;> exact h

theorem PlCls.re {k : Cls} {pl : Pl} (h : PlCls k pl) : k = .r ∨ k = .e := by
  rcases h with ⟨rfl, _⟩ | ⟨rfl, _⟩
  · exact Or.inl rfl
  · exact Or.inr rfl

theorem genuine_of_iface {c : List NodeCfg} {st : St} (hc : cfgOf st = c) {n i : Nat} {ifc : Iface}
    (h : st.iface? n i = some ifc) : Genuine c ifc.ip ifc.mac := by
  obtain ⟨nc, h1, h2⟩ := iface?_cfg hc h
  exact ⟨n, i, nc, ifc, h1, h2, rfl, rfl⟩

/-- a host carries no configured next-hop address (`GoodCfg.hopsAreRouters`). -/
theorem host_not_hop {c : List NodeCfg} (hg : GoodCfg c) {st : St} (hc : cfgOf st = c) {n i : Nat} {nd : Node} {ifc : Iface}
    (hn : st.node? n = some nd) (hi : st.iface? n i = some ifc) (hk : nd.kind = .host) (hnh : NH c ifc.ip) : False := by
  obtain ⟨m, nc, hm, hh⟩ := hnh
  have := hg.hopsAreRouters m nc ifc.ip hm hh n i nd.cfg ifc (node?_cfg hc hn) (iface?_of_node hn i ▸ hi) rfl
  have hk' : nd.cfg.kind = .host := hk
  rw [hk'] at this
  cases this

/-- a frame addressed to the genuine pair of an interface, arriving at an interface with that MAC (unique MACs), is for an
own address of the receiving node. -/
theorem genuine_own {c : List NodeCfg} (hg : GoodCfg c) {st : St} (hc : cfgOf st = c) {n i : Nat} {nd : Node} {ifc : Iface}
    (hn : st.node? n = some nd) (hi : st.iface? n i = some ifc) {ip : Ip} (hgen : Genuine c ip ifc.mac) :
    (ifaceWithIp nd.ifaces ip).isSome = true := by
  obtain ⟨m, j, nc, b, h1, h2, h3, h4⟩ := hgen
  have hi' : nd.ifaces[i]? = some ifc := iface?_of_node hn i ▸ hi
  obtain ⟨rfl, rfl⟩ := hg.uniqueMacs n m i j nd.cfg nc ifc b (node?_cfg hc hn) hi' h1 h2 h4.symm
  rw [node?_cfg hc hn] at h1
  have : nc = nd.cfg := by simpa using h1.symm
  subst this
  have hb : b = ifc := by
    have : nd.cfg.ifaces = nd.ifaces := rfl
    rw [this, hi'] at h2
    simpa using h2.symm
  subst hb
  unfold ifaceWithIp
  rw [List.find?_isSome]
  exact ⟨b, List.mem_of_getElem? hi', by simp [h3]⟩

structure TAt (c : List NodeCfg) (fuel : Nat) : Prop where
  send : ∀ k st n i f, T c st → ClsOk c k f → 4 * tt f + Hc k + 4 ≤ fuel →
    T c (sendFrame fuel st n i f).1 ∧ ClsOk c k (sendFrame fuel st n i f).2 ∧ tt (sendFrame fuel st n i f).2 ≤ tt f
  recv : ∀ k st n i f, T c st → ClsOk c k f → 4 * tt f + Hc k + 3 ≤ fuel →
    T c (ifaceRecv fuel st n i f).1 ∧ ClsOk c k (ifaceRecv fuel st n i f).2 ∧ tt (ifaceRecv fuel st n i f).2 ≤ tt f
  sw : ∀ k st n i f, T c st → ClsOk c k f → 4 * tt f + Hc k + 6 ≤ fuel →
    T c (switchRecv fuel st n i f).1 ∧ ClsOk c k (switchRecv fuel st n i f).2 ∧ tt (switchRecv fuel st n i f).2 ≤ tt f
  flood : ∀ k st n i f ports, T c st → ClsOk c k f → 4 * tt f + Hc k + 5 ≤ fuel →
    T c (floodPorts fuel st n i f ports).1 ∧ ClsOk c k (floodPorts fuel st n i f ports).2 ∧
      tt (floodPorts fuel st n i f ports).2 ≤ tt f
  host : ∀ k st n i f, T c st → ClsOk c k f → IsHost c n → Hc k ≤ fuel →
    T c (hostRecv fuel st n i f).1 ∧ (hostRecv fuel st n i f).2 = f
  router : ∀ k st n i f, T c st → ClsOk c k f → IsRouter c n →
    (∀ ifc, st.iface? n i = some ifc → routerAccepts ifc f = true) → 4 * tt f + Hc k + 6 ≤ fuel →
    T c (routerRecv fuel st n i f).1 ∧ ClsOk c k (routerRecv fuel st n i f).2 ∧ tt (routerRecv fuel st n i f).2 ≤ tt f
  process : ∀ k st n i f, T c st → ClsOk c k f → (f.dstMac = bcastMac ∨ k = .r ∨ k = .e) → 4 * tt f + Hc k + 5 ≤ fuel →
    T c (routerProcess fuel st n i f).1 ∧ ClsOk c k (routerProcess fuel st n i f).2 ∧ tt (routerProcess fuel st n i f).2 ≤ tt f
  arpReplyC : ∀ st n pl, T c st → (∀ t, targetOf pl = some t → PktOk c .p pl t ∧ CheapOut c n t) → Sc .p + 2 ≤ fuel →
    T c (sendArpReply fuel st n pl)
  arpReply : ∀ st n pl, T c st → (∀ t, targetOf pl = some t → PktOk c .p pl t) → RO + 2 ≤ fuel → T c (sendArpReply fuel st n pl)
  arpPktC : ∀ k st n pl dstIp, T c st → PktOk c k pl dstIp → (∀ t, targetOf pl = some t → CheapOut c n t) → Sc k + 1 ≤ fuel →
    T c (sendArpPkt fuel st n pl dstIp)
  arpPkt : ∀ k st n pl dstIp, T c st → PktOk c k pl dstIp → RO + 1 ≤ fuel → Sc k + 1 ≤ fuel → T c (sendArpPkt fuel st n pl dstIp)
  icmp : ∀ k st n dst pl, T c st → PlCls k pl → Sc k + 1 ≤ fuel → T c (sendIcmp fuel st n dst pl)
  details : ∀ st n dst, T c st → RD ≤ fuel → T c (resolveDetails fuel st n dst).1
  outC : ∀ st n dst, T c st → CheapOut c n dst → 1 ≤ fuel → T c (resolveOut fuel st n dst).1
  out : ∀ st n dst, T c st → RO ≤ fuel → T c (resolveOut fuel st n dst).1
  mac : ∀ st n ip re gw, T c st → RQ0 + 1 + flagRank re gw ≤ fuel → T c (arpMac fuel st n ip re gw).1
  ifc : ∀ st n ip re gw, T c st → RQ0 + 1 + flagRank re gw ≤ fuel → T c (arpIfc fuel st n ip re gw).1
  ifc1 : ∀ st n ip re gw, T c st → OwnHopAt c n ip → RQ1 + 1 + flagRank re gw ≤ fuel → T c (arpIfc fuel st n ip re gw).1
  req1 : ∀ st n t, T c st → OwnHopAt c n t → RQ1 ≤ fuel → T c (sendArpReq fuel st n t)
  req : ∀ st n t, T c st → RQ0 ≤ fuel → T c (sendArpReq fuel st n t)

theorem hc_pos (k : Cls) : 1 ≤ Hc k := by cases k <;> simp [Hc]

theorem tAt_zero (c : List NodeCfg) : TAt c 0 := by
  constructor
  all_goals intros
  all_goals first
    | omega
    | (have := hc_pos ‹Cls›; omega)
    | (have := hc_pos ‹Cls›; unfold Sc at *; omega)
    | (simp only [Sc, Hc] at *; omega)

/-- budgets: unfold the class constants, then linear arithmetic. -/
macro "bud" : tactic => `(tactic| first
  | omega
  | (simp only [Sc, Hc, flagRank] at *; omega)
  | (simp only [Sc, Hc, flagRank] at *; split <;> omega))

/-- `resolveOut` makes one nested call: a host that has no enabled interface on the destination's network looks up the interface
towards its gateway, unless the destination is that gateway. -/
theorem t_out_of {c : List NodeCfg} {fuel : Nat} (st : St) (n : Nat) (dst : Ip) (hT : T c st)
    (hgw : ∀ nd g, st.node? n = some nd → nd.kind = .host → nd.gateway = some g → ¬ (dst == g) = true →
      T c (arpIfc fuel st n g false false).1) : T c (resolveOut (fuel + 1) st n dst).1 := by
  generalize hkf : fuel + 1 = k'
  fun_cases resolveOut k' st n dst <;> cases hkf
  all_goals first | exact hT | exact hgw _ _ ‹_› ‹_› ‹_› ‹_›

section succ
variable {c : List NodeCfg} {fuel : Nat} (ih : TAt c fuel)
include ih

theorem t_send (k : Cls) (st : St) (n i : Nat) (f : Frame) (hT : T c st) (hC : ClsOk c k f) (hb : 4 * tt f + Hc k + 4 ≤ fuel + 1) :
    T c (sendFrame (fuel + 1) st n i f).1 ∧ ClsOk c k (sendFrame (fuel + 1) st n i f).2 ∧
      tt (sendFrame (fuel + 1) st n i f).2 ≤ tt f := by
  simp only [sendFrame]
  repeat' split
  all_goals first
    | exact ⟨hT, hC, Nat.le_refl _⟩
    | exact ih.recv k _ _ _ _ hT hC (by omega)

theorem send_stamp (k : Cls) (X : St) (n o : Nat) (f : Frame) (a b : Mac) (hX : T c X) (hC : ClsOk c k f)
    (hre : k = .r ∨ k = .e) (httl : ¬ f.dec.ttl < 1) (hb : 4 * tt f + Hc k ≤ fuel) :
    T c (sendFrame fuel X n o (f.dec.stamp a b)).1 ∧ ClsOk c k (sendFrame fuel X n o (f.dec.stamp a b)).2 ∧
      tt (sendFrame fuel X n o (f.dec.stamp a b)).2 ≤ tt f := by
  have ht := tt_dec f httl
  have hr := ih.send k X n o (f.dec.stamp a b) hX ((hC.dec).stamp hre a b) (by rw [tt_stamp]; omega)
  exact ⟨hr.1, hr.2.1, by have := hr.2.2; rw [tt_stamp] at this; omega⟩

end succ

theorem tAt_succ {c : List NodeCfg} (hg : GoodCfg c) (fuel : Nat) (ih : TAt c fuel) : TAt c (fuel + 1) where
  send := t_send ih
  recv := by
    intro k st n i f hT hC hb
    simp only [ifaceRecv]
    split
    · rename_i nd ifc hn hi
      have hT' := hT.emit (.rx n i f.id f.ttl)
      split
      · exact ⟨hT', hC.dec, tt_dec_le f⟩
      · rename_i httl
        have h1 := tt_dec f httl
        split
        · rename_i hk
          split
          · have hr := ih.host k _ n i f.dec hT' hC.dec ⟨nd.cfg, node?_cfg hT.cfg hn, hk⟩ (by omega)
            rw [hr.2]
            exact ⟨hr.1, hC.dec, tt_dec_le f⟩
          · exact ⟨hT', hC.dec, tt_dec_le f⟩
        · rename_i hk
          split
          · rename_i hacc
            have hr := ih.router k _ n i f.dec hT' hC.dec ⟨nd.cfg, node?_cfg hT.cfg hn, hk⟩
              (by intro ifc' hi'; rw [emit_iface, hi] at hi'; cases hi'; exact hacc) (by omega)
            exact ⟨hr.1, hr.2.1, Nat.le_trans hr.2.2 (tt_dec_le f)⟩
          · exact ⟨hT', hC.dec, tt_dec_le f⟩
        · have hr := ih.sw k _ n i f.dec hT' hC.dec (by omega)
          exact ⟨hr.1, hr.2.1, Nat.le_trans hr.2.2 (tt_dec_le f)⟩
    · exact ⟨hT, hC, Nat.le_refl _⟩
  sw := by
    intro k st n i f hT hC hb
    simp only [switchRecv]
    have hT' := hT.learnMac n i f.srcMac
    repeat' split
    all_goals first
      | exact ⟨hT', hC, Nat.le_refl _⟩
      | exact ih.send k _ _ _ _ hT' hC (by omega)
      | exact ih.flood k _ _ _ _ _ hT' hC (by omega)
  flood := by
    intro k st n i f ports hT hC hb
    rw [floodPorts_succ]
    refine List.foldlRecOn (motive := fun acc : St × Frame => T c acc.1 ∧ ClsOk c k acc.2 ∧ tt acc.2 ≤ tt f) ports _
      ⟨hT, hC, Nat.le_refl _⟩ ?_
    intro acc h p _
    unfold floodPort
    split
    · split
      · have hr := ih.send k acc.1 n p acc.2 h.1 h.2.1 (by omega)
        exact ⟨hr.1, hr.2.1, Nat.le_trans hr.2.2 h.2.2⟩
      · exact h
    · exact h
  host := by
    intro k st n i f hT hC hH hb
    have hkind : ∀ nd, st.node? n = some nd → nd.kind = Kind.host := by
      intro nd hn
      obtain ⟨nc, h1, h2⟩ := hH
      rw [node?_cfg hT.cfg hn] at h1
      cases h1
      exact h2
    have hT1 : ∀ b : Bool, T c (if b = true then st.modNode n (fun nd => nd.addArp f.srcIp f.srcMac i) else st) := by
      intro b; split
      · exact hT.addArp _ _ _ _
      · exact hT
    have hTX := fun b => (hT1 b).emit (.sw n f.id f.dstIp (f.dstMac == bcastMac))
    have hE : ∀ {pl}, f.pl = pl → IsRequest pl → k = .e := fun h hr => clsOk_request (h ▸ hr) hC
    generalize hkf : fuel + 1 = k'
    fun_cases hostRecv k' st n i f <;> cases hkf
    all_goals try exact ⟨hT, rfl⟩
    all_goals try exact ⟨hT1 _, rfl⟩
    all_goals try exact ⟨hTX _, rfl⟩
    all_goals try exact ⟨(hTX _).addArp _ _ _ _, rfl⟩
    all_goals try exact ⟨(hTX _).emit _, rfl⟩
    all_goals try exact ⟨(hTX _).mod _ _ (fun _ => rfl), rfl⟩
    case case5 =>
      -- an ARP request for this NIC's address: from a host it is answered, from a next hop it cannot be (a host is no next hop)
      have hn : st.node? n = some _ := ‹_›
      have hi : st.iface? n i = some _ := ‹_›
      rename_i sIp sMac tIp hpl _ hne
      obtain ⟨hk', htd, hbc, hgen, hnh⟩ := clsOk_arpReq hpl hC
      have hip := Decidable.of_not_not (mt bne_iff_ne.2 hne)
      rcases hk' with rfl | rfl
      · exfalso
        exact host_not_hop hg hT.cfg hn hi (hkind _ hn) (hip ▸ hnh rfl)
      · refine ⟨ih.arpReply _ n _ (hTX _) ?_ (by bud), rfl⟩
        intro t ht
        simp only [targetOf, Option.some.injEq] at ht
        subst ht
        intro id sm si
        exact ⟨⟨_, _, _, _, rfl⟩, hgen⟩
    case case9 =>
      obtain rfl := hE ‹f.pl = _› (by trivial)
      exact ⟨ih.out _ n f.srcIp (hTX _) (by bud), rfl⟩
    case case10 =>
      obtain rfl := hE ‹f.pl = _› (by trivial)
      exact ⟨ih.icmp .r _ n _ _ (ih.out _ n f.srcIp (hTX _) (by bud)) (Or.inl ⟨rfl, trivial⟩) (by bud), rfl⟩
    case case12 =>
      obtain rfl := hE ‹f.pl = _› (by trivial)
      exact ⟨ih.icmp .r _ n _ _ (hTX _) (Or.inl ⟨rfl, trivial⟩) (by bud), rfl⟩
    case case16 =>
      obtain rfl := hE ‹f.pl = _› (by trivial)
      exact ⟨ih.icmp .r _ n _ _ ((hTX _).mod _ _ (fun _ => rfl)) (Or.inl ⟨rfl, trivial⟩) (by bud), rfl⟩
  router := by
    intro k st n i f hT hC hR hacc hb
    have hcheap : ∀ t, CheapOut c n t := by
      intro t nc hnc
      obtain ⟨nc', h1, h2⟩ := hR
      rw [h1] at hnc; cases hnc
      exact Or.inl h2
    have hT1 := hT.addArp n i f.srcIp f.srcMac
    have hT2 := hT1.emit (.sw n f.id f.dstIp (f.dstMac == bcastMac))
    -- not an own address: what reaches `process_frame` is a broadcast (dropped there) or a data frame
    have hpre : ∀ (nd : Node) (ifc : Iface), st.node? n = some nd → st.iface? n i = some ifc →
        ifaceWithIp nd.ifaces f.dstIp = none → f.dstMac = bcastMac ∨ k = .r ∨ k = .e := by
      intro nd ifc hn hi hnone
      cases k
      · have ha := hacc ifc hi
        unfold routerAccepts at ha
        simp only [Bool.or_eq_true, beq_iff_eq] at ha
        rcases ha with ha | ha
        · exfalso
          have := genuine_own hg hT.cfg hn hi (ip := f.dstIp) (ha ▸ hC.2)
          rw [hnone] at this
          cases this
        · exact Or.inl ha
      · exact Or.inl hC.2.1
      · exact Or.inl hC.2
      · exact Or.inr (Or.inl rfl)
      · exact Or.inr (Or.inr rfl)
    have hE : ∀ {pl}, f.pl = pl → IsRequest pl → k = .e := fun h hr => clsOk_request (h ▸ hr) hC
    generalize hkf : fuel + 1 = k'
    fun_cases routerRecv k' st n i f <;> cases hkf
    case case5 =>
      rename_i hpl _
      obtain ⟨hk', htd, hbc, hgen, hnh⟩ := clsOk_arpReq hpl hC
      refine ⟨ih.arpReplyC _ n _ hT2 ?_ (by rcases hk' with rfl | rfl <;> bud), hC, Nat.le_refl _⟩
      intro t ht
      simp only [targetOf, Option.some.injEq] at ht
      subst ht
      refine ⟨?_, hcheap _⟩
      intro id sm si
      exact ⟨⟨_, _, _, _, rfl⟩, hgen⟩
    case case7 => exact ⟨hT2.addArp _ _ _ _, hC, Nat.le_refl _⟩
    case case10 =>
      obtain rfl := hE ‹f.pl = _› (by trivial)
      exact ⟨ih.outC _ n f.srcIp hT2 (hcheap _) (by bud), hC, Nat.le_refl _⟩
    case case11 =>
      obtain rfl := hE ‹f.pl = _› (by trivial)
      exact ⟨ih.icmp .r _ n _ _ (ih.outC _ n f.srcIp hT2 (hcheap _) (by bud)) (Or.inl ⟨rfl, trivial⟩) (by bud), hC, Nat.le_refl _⟩
    case case13 => exact ⟨hT2.mod _ _ (fun _ => rfl), hC, Nat.le_refl _⟩
    all_goals try exact ⟨hT, hC, Nat.le_refl _⟩
    all_goals try exact ⟨hT1, hC, Nat.le_refl _⟩
    all_goals try exact ⟨hT2, hC, Nat.le_refl _⟩
    all_goals try exact ih.process k _ n i f hT1 hC (hpre _ _ ‹_› ‹_› ‹_›) (by omega)
    -- arrival on the DMZ port: the state after the outbound look-ups, whichever way they went
    all_goals
      rename_i r1 r2 _
      have hp := hpre _ _ ‹_› ‹_› ‹_›
      have hre : k = .r ∨ k = .e := hp.resolve_left (fun h => ‹¬ (f.dstMac == bcastMac) = true› (by simp [h]))
      have hH : LK ≤ Hc k := by rcases hre with rfl | rfl <;> simp [Hc]
      have hl : RQ0 + 1 + flagRank false false ≤ fuel := by have : flagRank false false = 3 := rfl; omega
      have h1 := ih.ifc _ n f.dstIp false false hT1 hl
      have hr2 : T c r2.1 := by
        dsimp only [r2]
        split
        · exact h1
        · split
          · exact h1.emit _
          · split
            · exact ih.ifc _ _ _ _ _ h1 hl
            · exact h1
      first | exact ih.process k _ n i f hr2 hC hp (by omega) | exact ⟨hr2, hC, Nat.le_refl _⟩
  process := by
    intro k st n i f hT hC hk hb
    -- past the broadcast guard the frame is a data frame, and its budget pays for the look-ups
    have key : ¬ (f.dstMac == bcastMac) = true → (k = .r ∨ k = .e) ∧ LK ≤ Hc k ∧ RQ0 + 1 + flagRank false false ≤ fuel := by
      intro hnb
      have hre : k = .r ∨ k = .e := hk.resolve_left (fun h => hnb (by simp [h]))
      have hH : LK ≤ Hc k := by rcases hre with rfl | rfl <;> simp [Hc]
      have : flagRank false false = 3 := rfl
      exact ⟨hre, hH, by omega⟩
    generalize hkf : fuel + 1 = k'
    fun_cases routerProcess k' st n i f <;> cases hkf
    case case2 => exact ⟨hT, hC, Nat.le_refl _⟩
    all_goals
      obtain ⟨hre, hH, hl⟩ := key ‹_›
      -- the two look-ups for the destination, and the two for a next hop `t` after them
      have h2 := ih.mac _ n f.dstIp false false (ih.ifc st n f.dstIp false false hT hl) hl
      have h4 := fun t => ih.mac _ n t false false (ih.ifc _ n t false false h2 hl) hl
    case case5 => exact ⟨h2.emit _, hC.dec, tt_dec_le f⟩
    case case6 => exact send_stamp ih k _ _ _ f _ _ (h2.emit _) hC hre ‹_› (by omega)
    case case8 => exact ⟨h2.emit _, hC, Nat.le_refl _⟩
    case case13 => exact ⟨(h4 _).emit _, hC.dec, tt_dec_le f⟩
    case case14 => exact send_stamp ih k _ _ _ f _ _ ((h4 _).emit _) hC hre ‹_› (by omega)
    all_goals first | exact ⟨h2, hC, Nat.le_refl _⟩ | exact ⟨h4 _, hC, Nat.le_refl _⟩
  arpReplyC := by
    intro st n pl hT hP hb
    simp only [sendArpReply]
    split
    · exact hT
    · rename_i t ht
      have h1 := ih.outC st n t hT (hP t ht).2 (by bud)
      split
      · exact h1
      · refine ih.arpPktC .p _ n pl t h1 (hP t ht).1 ?_ (by bud)
        intro t' ht'
        rw [ht] at ht'; cases ht'
        exact (hP t ht).2
  arpReply := by
    intro st n pl hT hP hb
    simp only [sendArpReply]
    split
    · exact hT
    · rename_i t ht
      have h1 := ih.out st n t hT (by omega)
      split
      · exact h1
      · exact ih.arpPkt .p _ n pl t h1 (hP t ht) (by omega) (by bud)
  arpPktC := by
    intro k st n pl dstIp hT hP hc hb
    simp only [sendArpPkt]
    split
    · exact hT
    · rename_i t ht
      have h1 := ih.outC st n t hT (hc t ht) (by have := hc_pos k; unfold Sc at hb; omega)
      split
      · exact h1
      · split
        · exact h1
        · exact (ih.send k _ _ _ _ (h1.nextId _) (hP _ _ _) (by unfold Sc at hb; simp only [tt, initTtl]; omega)).1
  arpPkt := by
    intro k st n pl dstIp hT hP hb1 hb
    simp only [sendArpPkt]
    split
    · exact hT
    · rename_i t ht
      have h1 := ih.out st n t hT (by omega)
      split
      · exact h1
      · split
        · exact h1
        · exact (ih.send k _ _ _ _ (h1.nextId _) (hP _ _ _) (by unfold Sc at hb; simp only [tt, initTtl]; omega)).1
  icmp := by
    intro k st n dst pl hT hP hb
    have hd := ih.details st n dst hT (by rcases hP.re with rfl | rfl <;> bud)
    generalize hkf : fuel + 1 = k'
    fun_cases sendIcmp k' st n dst pl <;> cases hkf
    case case3 =>
      exact (ih.send k _ _ _ _ (hd.nextId _) (hP.ok _ rfl) (by unfold Sc at hb; simp only [tt, initTtl]; omega)).1
    all_goals exact hd
  details := by
    intro st n dst hT hb
    have hl : RQ0 + 1 + flagRank false false ≤ fuel := by have : flagRank false false = 3 := rfl; omega
    -- the on-link look-up, made or not
    have hr1 : ∀ o : Option Nat, T c (match o with | some _ => arpMac fuel st n dst false false | none => (st, none)).1 := by
      intro o
      split
      · exact ih.mac st n dst false false hT hl
      · exact hT
    generalize hkf : fuel + 1 = k'
    fun_cases resolveDetails k' st n dst <;> cases hkf
    all_goals first
      | exact hT
      | exact hr1 _
      | exact (hr1 _).emit _
      | exact ih.ifc _ _ _ _ _ (hr1 _) hl
      | exact ih.mac _ _ _ _ _ (hr1 _) hl
      | exact ih.ifc _ _ _ _ _ (ih.mac _ _ _ _ _ (hr1 _) hl) hl
  outC := by
    intro st n dst hT hc _
    refine t_out_of st n dst hT fun nd g hn hk hgw hne => ?_
    exfalso
    rcases hc nd.cfg (node?_cfg hT.cfg hn) with h | h | h | h
    · cases hk.symm.trans h
    · cases hk.symm.trans h
    · cases hgw.symm.trans h
    · exact hne (by simp [Option.some.inj (hgw.symm.trans h)])
  out := by
    intro st n dst hT hb
    refine t_out_of st n dst hT fun nd g hn hk hgw _ => ih.ifc1 st n g false false hT ?_ (by bud)
    intro nc hnc
    rw [node?_cfg hT.cfg hn] at hnc
    cases hnc
    exact Or.inl ⟨hk, hgw⟩
  mac := by
    intro st n ip re gw hT hb
    generalize hkf : fuel + 1 = k'
    fun_cases arpMac k' st n ip re gw <;> cases hkf
    case case6 nd _ _ t re' gw' hnext =>
      have hrank := (arpNext_go hnext).1
      exact ih.mac _ n t re' gw' (ih.req st n t hT (by omega)) (by omega)
    all_goals first | exact hT | exact hT.emit _
  ifc := by
    intro st n ip re gw hT hb
    generalize hkf : fuel + 1 = k'
    fun_cases arpIfc k' st n ip re gw <;> cases hkf
    case case7 nd _ _ _ t re' gw' hnext =>
      have hrank := (arpNext_go hnext).1
      exact ih.ifc _ n t re' gw' (ih.req st n t hT (by omega)) (by omega)
    all_goals first | exact hT | exact hT.emit _
  ifc1 := by
    intro st n ip re gw hT ho hb
    generalize hkf : fuel + 1 = k'
    fun_cases arpIfc k' st n ip re gw <;> cases hkf
    case case7 nd hn _ _ t re' gw' hnext =>
      obtain ⟨hrank, hgo⟩ := arpNext_go hnext
      have hnc := node?_cfg hT.cfg hn
      have hown : OwnHopAt c n t := by
        intro nc hnc'
        rw [hnc] at hnc'; cases hnc'
        exact hgo.elim (· ▸ ho nd.cfg hnc) id
      exact ih.ifc1 _ n t re' gw' (ih.req1 st n t hT hown (by omega)) hown (by omega)
    all_goals first | exact hT | exact hT.emit _
  req1 := by
    intro st n t hT ho hb
    simp only [sendArpReq]
    split
    · exact hT
    · rename_i nd hn
      have hnc := node?_cfg hT.cfg hn
      have hown := ho nd.cfg hnc
      split
      · exact hT
      · split
        · exact hT
        · rename_i target htg
          -- the address actually asked for is an own next hop, and resolving the outbound interface for it is cheap
          have htarget : OwnHop nd.cfg target := by
            split at htg
            · simp only [Option.some.injEq] at htg; rw [← htg]; exact hown
            · rcases hown with ⟨hk, hgw⟩ | ⟨hk, _⟩
              · have hgw' : nd.gateway = some t := hgw
                rw [hgw'] at htg
                simp only [Option.some.injEq] at htg
                rw [← htg]; exact Or.inl ⟨hk, hgw⟩
              · exact Or.inr ⟨hk, Or.inl htg⟩
          have hcheap : CheapOut c n target := by
            intro nc hnc'
            rw [hnc] at hnc'; cases hnc'
            rcases htarget with ⟨_, hgw⟩ | ⟨hk, _⟩
            · exact Or.inr (Or.inr (Or.inr hgw))
            · exact Or.inl hk
          have h1 := ih.outC st n target hT hcheap (by omega)
          split
          · exact h1
          · split
            · exact h1
            · rename_i o _ oif ho'
              split
              · exact h1
              · refine ih.arpPktC .q1 _ n _ target h1 ?_ ?_ (by bud)
                · intro id sm si
                  exact ⟨⟨oif.ip, oif.mac, rfl, genuine_of_iface h1.cfg ho'⟩, rfl, n, _, hnc, htarget.isNextHop⟩
                · intro t' ht'
                  simp only [targetOf, Option.some.injEq] at ht'
                  rw [← ht']; exact hcheap
  req := by
    intro st n t hT hb
    generalize hkf : fuel + 1 = k'
    fun_cases sendArpReq k' st n t <;> cases hkf
    case case8 _ _ _ _ tg _ o oif _ _ _ ho' =>
      have h1 := ih.out st n tg hT (by omega)
      exact ih.arpPkt .q0 _ n _ tg h1 (fun id sm si => ⟨⟨oif.ip, oif.mac, rfl, genuine_of_iface h1.cfg ho'⟩, rfl⟩) (by omega) (by bud)
    all_goals first | exact hT | exact ih.out st n _ hT (by omega)

theorem tAt {c : List NodeCfg} (hg : GoodCfg c) (fuel : Nat) : TAt c fuel :=
  Nat.rec (tAt_zero c) (tAt_succ hg) fuel

/-- any frame of one of the five classes, handed to any interface of any network with a good configuration, in any state
(caches, tables, power, log): with `4·TTL + 1066` levels of nesting the whole cascade it starts — floods, hops, every ARP
exchange and look-up, the answer of the addressee and the cascades of those frames — ends. -/
theorem C08_frame_handling_terminates {c : List NodeCfg} (hg : GoodCfg c) (k : Cls) (st : St) (n i : Nat) (f : Frame)
    (hc : cfgOf st = c) (hok : st.oof = false) (hC : ClsOk c k f) (fuel : Nat) (hb : 4 * tt f + 1066 ≤ fuel) :
    (sendFrame fuel st n i f).1.oof = false :=
  ((tAt hg fuel).send k st n i f ⟨hc, hok⟩ hC (by cases k <;> simp only [Hc] <;> omega)).1.ok

theorem T_ping {c : List NodeCfg} (hg : GoodCfg c) (fuel : Nat) (hb : fuelBound ≤ fuel) (st : St) (n : Nat) (target : Ip)
    (pings : Nat) (hT : T c st) : T c (ping fuel st n target pings).1 := by
  have ih := tAt hg fuel
  unfold fuelBound at hb
  exact ping_inv (T c) fuel n target (fun _ k h => h.nextId k) (fun _ h => ih.out _ _ _ h (by omega))
    (fun _ _ h => ih.icmp .e _ _ _ _ h (Or.inr ⟨rfl, trivial⟩) (by bud)) st pings hT

theorem T_requestService {c : List NodeCfg} (hg : GoodCfg c) (fuel : Nat) (hb : fuelBound ≤ fuel) (st : St) (n : Nat) (server : Ip)
    (hT : T c st) : T c (requestService fuel st n server).1 := by
  have ih := tAt hg fuel
  unfold fuelBound at hb
  have h1 : T c (st.modNode n (fun nd => { nd with served := false })) := hT.mod n _ (fun _ => rfl)
  have h2 := ih.icmp .e _ n server .dataReq h1 (Or.inr ⟨rfl, trivial⟩) (by bud)
  unfold requestService
  simp only
  split
  · exact h1
  · split <;> exact h2

theorem T_requestApp {c : List NodeCfg} (hg : GoodCfg c) (fuel : Nat) (hb : fuelBound ≤ fuel) (st : St) (n : Nat) (server : Ip)
    (svc : Nat) (reply : Bool) (hT : T c st) : T c (requestApp fuel st n server svc reply).1 := by
  have ih := tAt hg fuel
  unfold fuelBound at hb
  have h2 := ih.icmp .e st n server (.appReq svc reply) hT (Or.inr ⟨rfl, trivial⟩) (by bud)
  unfold requestApp
  simp only
  split
  · exact hT
  · split <;> exact h2

/-- what `GoodCfg` reads of a node: everything but the `enabled` flags, prefix lengths and peers. -/
def NodeCfg.addr (nc : NodeCfg) : Kind × Option Ip × Table × List (Mac × Ip) :=
  (nc.kind, nc.gateway, nc.routes, nc.ifaces.map (fun a => (a.mac, a.ip)))

theorem addr_iface {nc nc' : NodeCfg} (h : nc.addr = nc'.addr) {i : Nat} {a' : Iface} (ha : nc'.ifaces[i]? = some a') :
    ∃ a, nc.ifaces[i]? = some a ∧ a.mac = a'.mac ∧ a.ip = a'.ip := by
  have hm : (nc.ifaces.map (fun a => (a.mac, a.ip)))[i]? = (nc'.ifaces.map (fun a => (a.mac, a.ip)))[i]? := by
    have := congrArg (fun x => x.2.2.2) h
    simp only [NodeCfg.addr] at this
    rw [this]
  simp only [List.getElem?_map, ha, Option.map_some] at hm
  cases hx : nc.ifaces[i]? with
  | none => rw [hx] at hm; cases hm
  | some a =>
    rw [hx] at hm
    simp only [Option.map_some, Option.some.injEq, Prod.mk.injEq] at hm
    exact ⟨a, rfl, hm.1, hm.2⟩

theorem addr_hop {nc nc' : NodeCfg} (h : nc.addr = nc'.addr) {t : Ip} (ht : IsNextHop nc' t) : IsNextHop nc t := by
  have h1 : nc.gateway = nc'.gateway := congrArg (fun x => x.2.1) h
  have h2 : nc.routes = nc'.routes := congrArg (fun x => x.2.2.1) h
  unfold IsNextHop at *
  rw [h1, h2]; exact ht

theorem goodCfg_congr {c c' : List NodeCfg}
    (h : ∀ (n : Nat) (nc' : NodeCfg), c'[n]? = some nc' → ∃ nc : NodeCfg, c[n]? = some nc ∧ nc.addr = nc'.addr)
    (hg : GoodCfg c) : GoodCfg c' := by
  constructor
  · intro n m i j nc' mc' a' b' hn ha hm hb hab
    obtain ⟨nc, hn1, hn2⟩ := h n nc' hn
    obtain ⟨mc, hm1, hm2⟩ := h m mc' hm
    obtain ⟨a, ha1, ha2, _⟩ := addr_iface hn2 ha
    obtain ⟨b, hb1, hb2, _⟩ := addr_iface hm2 hb
    exact hg.uniqueMacs n m i j nc mc a b hn1 ha1 hm1 hb1 (by rw [ha2, hb2]; exact hab)
  · intro n i nc' a' hn ha
    obtain ⟨nc, hn1, hn2⟩ := h n nc' hn
    obtain ⟨a, ha1, ha2, _⟩ := addr_iface hn2 ha
    rw [← ha2]
    exact hg.realMacs n i nc a hn1 ha1
  · intro n nc' t hn ht m j mc' b' hm hb hbt
    obtain ⟨nc, hn1, hn2⟩ := h n nc' hn
    obtain ⟨mc, hm1, hm2⟩ := h m mc' hm
    obtain ⟨b, hb1, _, hb3⟩ := addr_iface hm2 hb
    have hk : mc.kind = mc'.kind := congrArg (fun x => x.1) hm2
    rw [← hk]
    exact hg.hopsAreRouters n nc t hn1 (addr_hop hn2 ht) m j mc b hm1 hb1 (by rw [hb3]; exact hbt)

theorem goodCfg_modNode (st : St) (n : Nat) (f : Node → Node) (hf : ∀ nd, (f nd).cfg.addr = nd.cfg.addr)
    (hg : GoodCfg (cfgOf st)) : GoodCfg (cfgOf (st.modNode n f)) := by
  refine goodCfg_congr ?_ hg
  intro k nc' hk
  unfold cfgOf St.modNode at hk
  simp only [List.getElem?_map, List.getElem?_modify] at hk
  unfold cfgOf
  simp only [List.getElem?_map]
  cases hx : st.nodes[k]? with
  | none => rw [hx] at hk; simp at hk
  | some nd =>
    rw [hx] at hk
    refine ⟨nd.cfg, rfl, ?_⟩
    split at hk
    · have hk' : (f nd).cfg = nc' := by simpa using hk
      rw [← hk']; exact (hf nd).symm
    · have hk' : nd.cfg = nc' := by simpa using hk
      rw [← hk']

theorem ifaces_modify_addr (l : List Iface) (i : Nat) (b : Bool) :
    (l.modify i (fun x => { x with enabled := b })).map (fun a => (a.mac, a.ip)) = l.map (fun a => (a.mac, a.ip)) := by
  apply List.ext_getElem?
  intro k
  simp only [List.getElem?_map, List.getElem?_modify]
  split
  · cases l[k]? <;> rfl
  · cases l[k]? <;> rfl

/-- what a run keeps: the configuration passes the check and the interpreter has never run out of fuel. -/
def Live (st : St) : Prop := GoodCfg (cfgOf st) ∧ st.oof = false

theorem live_enableIface (fuel : Nat) (hb : fuelBound ≤ fuel) (st : St) (n i : Nat) (h : Live st) :
    Live (enableIface fuel st n i) := by
  unfold fuelBound at hb
  rw [enableIface_eq]
  split
  · rename_i nd ifc hn hi
    have hX : Live (enableSt st n i nd ifc) := by
      unfold enableSt
      split
      · exact ⟨goodCfg_modNode st n _ (fun nd => by
          simp only [Node.cfg, NodeCfg.addr, ifaces_modify_addr]) h.1, h.2⟩
      · exact h
    generalize enableSt st n i nd ifc = X at hX
    unfold helloGw
    split
    · rename_i g _ _
      split
      · have := (tAt hX.1 fuel).mac X n g false false ⟨rfl, hX.2⟩ (by have : flagRank false false = 3 := rfl; omega)
        exact ⟨this.cfg ▸ hX.1, this.ok⟩
      · exact hX
    · exact hX
  · exact h

theorem live_runOp (fuel : Nat) (hb : fuelBound ≤ fuel) (st : St) (op : NetOp) (h : Live st) : Live (runOp fuel st op).1 := by
  cases op with
  | ping n dst k =>
    have := T_ping h.1 fuel hb st n dst k ⟨rfl, h.2⟩
    exact ⟨this.cfg ▸ h.1, this.ok⟩
  | service n srv =>
    have := T_requestService h.1 fuel hb st n srv ⟨rfl, h.2⟩
    exact ⟨this.cfg ▸ h.1, this.ok⟩
  | enable n i => exact live_enableIface fuel hb st n i h
  | disable n i =>
    exact ⟨goodCfg_modNode st n _ (fun nd => by simp only [Node.cfg, NodeCfg.addr, ifaces_modify_addr]) h.1, h.2⟩
  | arpclear n => exact ⟨goodCfg_modNode st n _ (fun nd => rfl) h.1, h.2⟩
  | app n srv svc reply =>
    have := T_requestApp h.1 fuel hb st n srv svc reply ⟨rfl, h.2⟩
    exact ⟨this.cfg ▸ h.1, this.ok⟩
  | power n on =>
    cases on
    · refine ⟨goodCfg_modNode st n _ (fun nd => ?_) h.1, h.2⟩
      simp only [Node.cfg, NodeCfg.addr, List.map_map]
      rfl
    · simp only [runOp, powerOn]
      split
      · exact h
      · exact List.foldlRecOn (motive := Live) _ (fun acc i => enableIface fuel acc n i)
          ⟨goodCfg_modNode st n _ (fun nd => rfl) h.1, h.2⟩ fun a ha x _ => live_enableIface fuel hb a n x ha

/-- a run: the operations one after the other, each with nesting budget `fuel`; the results in order. -/
def runOps (fuel : Nat) : St → List NetOp → St × List Bool
  | st, [] => (st, [])
  | st, op :: ops =>
    let r := runOp fuel st op
    let rs := runOps fuel r.1 ops
    (rs.1, r.2 :: rs.2)

/-- **"Handling any packet always terminates"** — for whole runs, with an a-priori bound.
From any state whose configuration passes the check (`GoodCfg`: unique, real MACs; gateways and route next hops are addresses
that only routers carry — decidable, `goodCfgB`) and that has not run out of fuel, ANY sequence of operations (pings of any
count to any address, service requests, interface enable / disable, power off / on, cache clears) executed with ANY nesting
budget `fuel ≥ fuelBound = 1323` (a constant: it depends only on the initial TTL 64, not even on the size of the topology)
  * never runs out of fuel — every cascade of floods, hops, ARP look-ups, requests, replies and answers ends, whatever the
    caches and tables contain, and
  * computes exactly what it computes with budget `fuelBound`: results, final state, the whole log (fuel independence). -/
theorem C08_handling_terminates (st : St) (h : Live st) (ops : List NetOp) (fuel : Nat) (hb : fuelBound ≤ fuel) :
    Live (runOps fuel st ops).1 ∧ runOps fuel st ops = runOps fuelBound st ops := by
  induction ops generalizing st with
  | nil => exact ⟨h, rfl⟩
  | cons op ops ihops =>
    simp only [runOps]
    have h1 := live_runOp fuelBound (Nat.le_refl _) st op h
    have heq : runOp fuel st op = runOp fuelBound st op := by
      obtain ⟨k, rfl⟩ := Nat.exists_eq_add_of_le hb
      exact C08_fuel_independent fuelBound st op h1.2 k
    rw [heq]
    have h2 := ihops (runOp fuelBound st op).1 h1
    exact ⟨h2.1, by rw [h2.2]⟩

/-- the same for one operation, spelled out. -/
theorem C08_operation_terminates (st : St) (hg : GoodCfg (cfgOf st)) (hok : st.oof = false) (op : NetOp) (fuel : Nat)
    (hb : fuelBound ≤ fuel) : (runOp fuel st op).1.oof = false ∧ runOp fuel st op = runOp fuelBound st op := by
  have h1 := live_runOp fuelBound (Nat.le_refl _) st op ⟨hg, hok⟩
  obtain ⟨k, rfl⟩ := Nat.exists_eq_add_of_le hb
  have := C08_fuel_independent fuelBound st op h1.2 k
  exact ⟨by rw [this]; exact h1.2, this⟩

/-- END-TO-END for checked start states (what the driver evaluates on every generated topology). -/
theorem C08_handling_terminates_checked (st : St) (hchk : goodCfgB (cfgOf st) = true) (hok : st.oof = false)
    (ops : List NetOp) (fuel : Nat) (hb : fuelBound ≤ fuel) :
    (runOps fuel st ops).1.oof = false ∧ runOps fuel st ops = runOps fuelBound st ops :=
  let h := C08_handling_terminates st ⟨goodCfg_of_check _ hchk, hok⟩ ops fuel hb
  ⟨h.1.2, h.2⟩

/-- what the ranking argument rests on, as regenerated from the source. -/
theorem C08_gen_termination :
    Gen.Forward.dmzOutboundDropsBroadcastFirst = true ∧ Gen.Forward.routerResolvesOutboundWithoutArp = true ∧
    Gen.Forward.repliesStartNothing = true ∧ Gen.Forward.arpPairsGenuine = true ∧ Gen.Forward.gatewayNotViaGateway = true ∧
    Gen.Forward.processDropsBroadcast = true ∧ Gen.Forward.defaultTtl = initTtl ∧ 4 * initTtl.toNat + 1066 ≤ fuelBound := by decide

/-- the routed network of `C08Addressee.lean` (host — router — host, cold caches) satisfies the hypothesis … -/
example : Live exNet := ⟨goodCfg_of_check _ (by decide), rfl⟩
/-- … and a run on it at exactly `fuelBound` does real work: cold routed ping (two ARP cascades), a ping while the router is
off, power on again (hello to nobody), a ping to an absent address, a cache clear, a ping while the far host's NIC is disabled and one
after it is enabled again. -/
example : (runOps fuelBound exNet [.ping 0 0xC0A80202#32 2, .power 1 false, .ping 0 0xC0A80202#32 1, .power 1 true,
    .ping 2 0xC0A80102#32 1, .ping 0 0xC0A80263#32 1, .arpclear 0, .disable 2 0, .ping 0 0xC0A80202#32 1, .enable 2 0,
    .ping 0 0xC0A80202#32 1]).2 = [true, true, false, true, true, false, true, true, false, true, true] := by decide +kernel
example : (runOps fuelBound exNet [.ping 0 0xC0A80202#32 2]).1.oof = false := by decide +kernel
/-- application exchanges across the router: answered when the server runs the service, its port is open on both hosts and the
router permits it; not answered when the router has no rule for it; ignored (no hand-over) when the port is closed. -/
def exApp (routerPermits : Bool) (clientPort : Bool) : St :=
  { exNet with nodes := exNet.nodes.zipIdx.map (fun (nd, k) =>
      if k == 2 then { nd with serves := [53], ports := [53] }
      else if k == 1 then { nd with serves := if routerPermits then [53] else [] }
      else { nd with ports := if clientPort then [53] else [] }) }
example : (runOps fuelBound (exApp true true) [.app 0 0xC0A80202#32 53 true, .app 0 0xC0A80202#32 53 false, .app 0 0xC0A80202#32 80 true]).2 =
    [true, false, false] := by decide +kernel
example : (runOps fuelBound (exApp false true) [.app 0 0xC0A80202#32 53 true]).2 = [false] := by decide +kernel
example : (runOps fuelBound (exApp true false) [.app 0 0xC0A80202#32 53 true]).2 = [false] := by decide +kernel

/-- frames the interpreter builds on `exNet`, of the classes `p`, `q1` (hence `q0`) and `e`. -/
def exP : Frame :=
  { id := 0, srcMac := 2, dstMac := 1, srcIp := 0xC0A80101#32, dstIp := 0xC0A80102#32, ttl := 64,
    pl := .arpRep 0xC0A80101#32 2 0xC0A80102#32 1 }
def exQ1 : Frame :=
  { id := 0, srcMac := 1, dstMac := bcastMac, srcIp := 0xC0A80102#32, dstIp := 0xC0A80101#32, ttl := 64,
    pl := .arpReq 0xC0A80102#32 1 0xC0A80101#32 }
def exE : Frame :=
  { id := 0, srcMac := 1, dstMac := 2, srcIp := 0xC0A80102#32, dstIp := 0xC0A80202#32, ttl := 64, pl := .echoReq 7 }
example : ClsOk (cfgOf exNet) .p exP := ⟨⟨_, _, _, _, rfl⟩, 0, 0, _, _, rfl, rfl, rfl, rfl⟩
example : ClsOk (cfgOf exNet) .q1 exQ1 := ⟨⟨_, _, rfl, 0, 0, _, _, rfl, rfl, rfl, rfl⟩, rfl, 0, _, rfl, Or.inl rfl⟩
example : ClsOk (cfgOf exNet) .e exE := trivial

end Primaite.Forward
