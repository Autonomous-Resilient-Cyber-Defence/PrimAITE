/-
C16 — one client connection per session id (reachable-state invariant), and what a client-side logoff therefore achieves.
-/
import PrimaiteModel.Props.C16
namespace Primaite.Session

/-- Terminal connections of the whole network, as the invariant sees them.
* `ids`, `locIds`: every connection id and every local-session id has been handed out (is below the counter);
* `pair`: two nodes hold a connection with the same id only if each names the other as its peer — so an id has at most one
  client-side and one server-side connection, and no third node can hold it;
* `priv`: the id of a node's local session is not a connection id, nor the local-session id, of any other node. -/
structure ConnInv (n : Net) : Prop where
  ids : ∀ j a c, n.node j = some a → c ∈ a.conns → c.id < n.nextId
  locIds : ∀ j a l, n.node j = some a → a.loc = some l → l.id < n.nextId
  pair : ∀ j j' a a' c c', n.node j = some a → n.node j' = some a' → j ≠ j' → c ∈ a.conns → c' ∈ a'.conns → c.id = c'.id →
    c.peer = some j' ∧ c'.peer = some j
  priv : ∀ j j' a a' l, n.node j = some a → n.node j' = some a' → j ≠ j' → a.loc = some l →
    (∀ c' ∈ a'.conns, c'.id ≠ l.id) ∧ (∀ l', a'.loc = some l' → l'.id ≠ l.id)

/-- connections only disappear, the local session stays or ends -/
def ConnShr : Nat → Node → Node → Prop := fun _ a b => b.conns.Sublist a.conns ∧ (b.loc = a.loc ∨ b.loc = none)

theorem connShr_frame : Frame ConnShr :=
  { refl := fun _ _ => ⟨List.Sublist.refl _, Or.inl rfl⟩,
    trans := fun _ _ _ _ h1 h2 => ⟨h2.1.trans h1.1, same_or_none_trans h1.2 h2.2⟩,
    shr := fun _ _ _ h => ⟨h.conns, h.loc⟩,
    data := fun _ _ _ h => ⟨by rw [data_conns h]; exact List.Sublist.refl _, Or.inl (data_loc h)⟩ }

theorem connShr_of_shr {n m : Net} (hs : n.Shr m) : Net.Rel ConnShr n m :=
  connShr_frame.rel_shr connShr_frame.shr (connShr_frame.rel_refl n) hs

theorem connShr_touch (n : Net) (y cid t : Nat) : Net.Rel ConnShr n (n.upd y (Node.touch cid t)) :=
  connShr_frame.rel_upd (connShr_frame.rel_refl n) y _ (fun a => connShr_frame.refl y a)

/-- The invariant survives a change in which the counter does not go back, every node only loses connections, and a local session
afterwards is the old one — or, on node `y`, a new one whose id is the old counter (above every id in use before). -/
theorem connInv_of_shrink {n m : Net} (y : Nat) (hid : n.nextId ≤ m.nextId) (hi : ConnInv n)
    (h : ∀ j b, m.node j = some b → ∃ a, n.node j = some a ∧ b.conns.Sublist a.conns ∧
      ∀ l, b.loc = some l → a.loc = some l ∨ (j = y ∧ l.id = n.nextId ∧ n.nextId < m.nextId)) : ConnInv m := by
  refine ⟨?_, ?_, ?_, ?_⟩
  · intro j b c hb hc
    obtain ⟨a, ha, hcs, _⟩ := h j b hb
    exact Nat.lt_of_lt_of_le (hi.ids j a c ha (hcs.subset hc)) hid
  · intro j b l hb hl
    obtain ⟨a, ha, _, hloc⟩ := h j b hb
    rcases hloc l hl with h1 | ⟨_, h1, hlt⟩
    · exact Nat.lt_of_lt_of_le (hi.locIds j a l ha h1) hid
    · rw [h1]; exact hlt
  · intro j j' b1 b2 c c' hb1 hb2 hne hc hc' heq
    obtain ⟨a1, ha1, hcs1, _⟩ := h j b1 hb1
    obtain ⟨a2, ha2, hcs2, _⟩ := h j' b2 hb2
    exact hi.pair j j' a1 a2 c c' ha1 ha2 hne (hcs1.subset hc) (hcs2.subset hc') heq
  · intro j j' b1 b2 l hb1 hb2 hne hl
    obtain ⟨a1, ha1, _, hloc1⟩ := h j b1 hb1
    obtain ⟨a2, ha2, hcs2, hloc2⟩ := h j' b2 hb2
    rcases hloc1 l hl with h1 | ⟨hj, hid1, _⟩
    · obtain ⟨p1, p2⟩ := hi.priv j j' a1 a2 l ha1 ha2 hne h1
      refine ⟨fun c' hc' => p1 c' (hcs2.subset hc'), fun l' hl' => ?_⟩
      rcases hloc2 l' hl' with h2 | ⟨_, hid2, _⟩
      · exact p2 l' h2
      · have := hi.locIds j a1 l ha1 h1; rw [hid2]; omega
    · rw [hid1]
      refine ⟨fun c' hc' => by have := hi.ids j' a2 c' ha2 (hcs2.subset hc'); omega, fun l' hl' => ?_⟩
      rcases hloc2 l' hl' with h2 | ⟨hj', _, _⟩
      · have := hi.locIds j' a2 l' ha2 h2; omega
      · exact (hne (hj.trans hj'.symm)).elim

theorem connInv_of_connShr {n m : Net} (h : Net.Rel ConnShr n m) (hid : n.nextId ≤ m.nextId) (hi : ConnInv n) : ConnInv m :=
  connInv_of_shrink 0 hid hi (fun j b hb => by
    obtain ⟨a, ha, hab⟩ := Net.Rel.back h hb
    refine ⟨a, ha, hab.1, fun l hl => Or.inl ?_⟩
    rcases hab.2 with g | g
    · rw [← g]; exact hl
    · rw [g] at hl; cases hl)

theorem connInv_localLogin (n : Net) (y : Nat) (u p : String) (hi : ConnInv n) : ConnInv (localLogin n y u p).1 :=
  connInv_of_shrink y (keeps_localLogin n y u p).nextId hi (fun j b' hb' => by
    obtain ⟨b, hb, rfl | ⟨hj, _, rfl, hlt⟩⟩ := localLogin_node n y u p hb'
    · exact ⟨b', hb, .refl _, fun l hl => Or.inl hl⟩
    · exact ⟨b, hb, .refl _, fun l hl => Or.inr ⟨hj, by cases hl; rfl, hlt⟩⟩)

theorem mem_putConn {l : List Conn} {d c : Conn} (h : c ∈ putConn l d) : c ∈ l ∨ c = d := by
  unfold putConn at h
  split at h
  · obtain ⟨e, he, hce⟩ := List.mem_map.mp h
    split at hce
    · exact Or.inr hce.symm
    · exact Or.inl (hce ▸ he)
  · rcases List.mem_append.mp h with h | h
    · exact Or.inl h
    · exact Or.inr (by simpa using h)

theorem mem_putConn_self (l : List Conn) (d : Conn) : d ∈ putConn l d := by
  unfold putConn
  split
  · rename_i h
    obtain ⟨e, he, hid⟩ := List.any_eq_true.mp h
    exact List.mem_map.mpr ⟨e, he, by simp [hid]⟩
  · simp

/-- `m'` is `m` with connection `d` put into the terminal of node `y` (sessions and everything else are not looked at) -/
def PutAt (m m' : Net) (y : Nat) (d : Conn) : Prop :=
  ∀ j b', m'.node j = some b' → ∃ b, m.node j = some b ∧ b'.loc = b.loc ∧ b'.conns = if j = y then putConn b.conns d else b.conns

/-- a connection a node holds after the put was there before, or is the one put (on node `y`) -/
theorem PutAt.mem {m m' : Net} {y : Nat} {d : Conn} (hput : PutAt m m' y d) {j : Nat} {b' : Node} (hb' : m'.node j = some b') :
    ∃ b, m.node j = some b ∧ b'.loc = b.loc ∧ ∀ c ∈ b'.conns, c ∈ b.conns ∨ (j = y ∧ c = d) := by
  obtain ⟨b, hb, hloc, hcs⟩ := hput j b' hb'
  refine ⟨b, hb, hloc, fun c hc => ?_⟩
  rw [hcs] at hc
  split at hc
  · rename_i hj
    exact (mem_putConn hc).imp_right (fun h => ⟨hj, h⟩)
  · exact Or.inl hc

theorem connInv_put {m m' : Net} {y : Nat} {d : Conn} (hm : ConnInv m) (hput : PutAt m m' y d) (hK : m.nextId ≤ m'.nextId)
    (hid : d.id < m'.nextId)
    (hpair : ∀ j' a' c', j' ≠ y → m.node j' = some a' → c' ∈ a'.conns → c'.id = d.id → d.peer = some j' ∧ c'.peer = some y)
    (hpriv : ∀ j' a' l, j' ≠ y → m.node j' = some a' → a'.loc = some l → l.id ≠ d.id) : ConnInv m' := by
  refine ⟨?_, ?_, ?_, ?_⟩
  · intro j b' c hb' hc
    obtain ⟨b, hb, _, hmem⟩ := hput.mem hb'
    rcases hmem c hc with h | ⟨_, h⟩
    · exact Nat.lt_of_lt_of_le (hm.ids j b c hb h) hK
    · rw [h]; exact hid
  · intro j b' l hb' hl
    obtain ⟨b, hb, hloc, _⟩ := hput j b' hb'
    exact Nat.lt_of_lt_of_le (hm.locIds j b l hb (hloc ▸ hl)) hK
  · intro j j' b1' b2' c c' hb1' hb2' hne hc hc' heq
    obtain ⟨b1, hb1, _, hmem1⟩ := hput.mem hb1'
    obtain ⟨b2, hb2, _, hmem2⟩ := hput.mem hb2'
    rcases hmem1 c hc with h1 | ⟨hj, h1⟩ <;> rcases hmem2 c' hc' with h2 | ⟨hj', h2⟩
    · exact hm.pair j j' b1 b2 c c' hb1 hb2 hne h1 h2 heq
    · subst h2; subst hj'
      have := hpair j b1 c hne hb1 h1 heq
      exact ⟨this.2, this.1⟩
    · subst h1; subst hj
      exact hpair j' b2 c' (fun h => hne h.symm) hb2 h2 heq.symm
    · exact (hne (hj.trans hj'.symm)).elim
  · intro j j' b1' b2' l hb1' hb2' hne hl
    obtain ⟨b1, hb1, hloc1, _⟩ := hput j b1' hb1'
    obtain ⟨b2, hb2, hloc2, hmem2⟩ := hput.mem hb2'
    obtain ⟨p1, p2⟩ := hm.priv j j' b1 b2 l hb1 hb2 hne (hloc1 ▸ hl)
    refine ⟨fun c' hc' => ?_, fun l' hl' => p2 l' (hloc2 ▸ hl')⟩
    rcases hmem2 c' hc' with h2 | ⟨hj', h2⟩
    · exact p1 c' h2
    · subst h2; subst hj'
      exact fun h => hpriv j b1 l hne hb1 (hloc1 ▸ hl) h.symm

theorem putAt_upd (m : Net) (y : Nat) (d : Conn) (g : Node → Node) (hg : ∀ b, (g b).loc = b.loc ∧ (g b).conns = b.conns)
    (k : Nat) : PutAt m ((m.upd y (fun b => (g b).addConn d)).bump k) y d := by
  intro j b' hb'
  simp only [node_bump, node_upd] at hb'
  by_cases hj : y = j
  · subst hj
    simp only [if_true] at hb'
    cases hb : m.node y with
    | none => rw [hb] at hb'; cases hb'
    | some b =>
      rw [hb] at hb'; simp only [Option.map_some, Option.some.injEq] at hb'; subst hb'
      exact ⟨b, rfl, (hg b).1, by simp [Node.addConn, (hg b).2]⟩
  · simp only [hj, if_false] at hb'
    exact ⟨b', hb', rfl, by rw [if_neg (fun h => hj h.symm)]⟩

theorem putAt_addConn (m : Net) (y : Nat) (d : Conn) : PutAt m (m.upd y (Node.addConn d)) y d :=
  putAt_upd m y d (fun b => b) (fun _ => ⟨rfl, rfl⟩) m.nextId

theorem putAt_afterLogin (n : Net) (x y : Nat) (u : String) : PutAt n (afterLogin n x y u) y ⟨n.nextId, some x⟩ :=
  putAt_upd n y ⟨n.nextId, some x⟩ (fun b => b.addSession ⟨n.nextId, u, n.time, x⟩) (fun _ => ⟨rfl, rfl⟩) (n.nextId + 1)

theorem connInv_localConn (n : Net) (y : Nat) (u p : String) (id : Nat) (hid : (localLogin n y u p).2 = some id)
    (hi : ConnInv n) : ConnInv ((localLogin n y u p).1.upd y (Node.addConn ⟨id, none⟩)) := by
  have h1 := connInv_localLogin n y u p hi
  obtain ⟨b, l, hb, hl, hlid⟩ := localLogin_id hid
  refine connInv_put h1 (putAt_addConn _ y ⟨id, none⟩) (Nat.le_refl _) ?_ ?_ ?_
  · show id < _
    rw [← hlid]; exact h1.locIds y b l hb hl
  · intro j' a' c' hne ha' hc' heq
    exact ((h1.priv y j' b a' l hb ha' (fun h => hne h.symm) hl).1 c' hc' (by rw [hlid]; exact heq)).elim
  · intro j' a' l' hne ha' hl'
    have := (h1.priv y j' b a' l hb ha' (fun h => hne h.symm) hl).2 l' hl'
    rw [hlid] at this; exact this

/-- without the hairpin (hosts on one switch) a node never reaches itself -/
theorem canDeliver_ne {n : Net} {x y : Nat} (hp : n.hairpin = false) (h : canDeliver n x y = true) : x ≠ y := by
  unfold canDeliver at h
  split at h
  · simp only [hp, Bool.or_false, Bool.and_eq_true, bne_iff_ne, ne_eq] at h; exact h.1.1.1.1
  · cases h

/-- a remote login (both connections carry the fresh id and name each other) keeps the invariant -/
theorem connInv_remoteLogin (n : Net) (x y : Nat) (u p : String) (hi : ConnInv n) : ConnInv (opRemoteLogin n x y u p).1 := by
  rcases opRemoteLogin_cases n x y u p with ⟨h0, _⟩ | ⟨a, b, _, _, hdel, _, _, _, h0⟩
  · rw [h0]; exact hi
  · have hputA := putAt_afterLogin n x y u
    have hA : ConnInv (afterLogin n x y u) := by
      refine connInv_put hi hputA (Nat.le_succ _) (Nat.lt_succ_self _) ?_ ?_
      · intro j' a' c' _ ha' hc' heq
        have := hi.ids j' a' c' ha' hc'; simp only at heq; omega
      · intro j' a' l _ ha' hl heq
        have := hi.locIds j' a' l ha' hl; simp only at heq; omega
    rcases h0 with ⟨h0, _⟩ | ⟨h0, _⟩ <;> rw [h0]
    · exact hA
    · refine connInv_put hA (putAt_addConn _ x ⟨n.nextId, some y⟩) (Nat.le_refl _) (Nat.lt_succ_self _) ?_ ?_
      · intro j' a' c' hne ha' hc' heq
        -- a connection with the fresh id in the state after the target accepted: it is the target's new one
        obtain ⟨b0, hb0, _, hmem⟩ := hputA.mem ha'
        rcases hmem c' hc' with h | ⟨hj, h⟩
        · have := hi.ids j' b0 c' hb0 h; simp only at heq; omega
        · subst h; subst hj; exact ⟨rfl, rfl⟩
      · intro j' a' l _ ha' hl heq
        obtain ⟨b0, hb0, hloc, _⟩ := hputA j' a' ha'
        have := hi.locIds j' b0 l hb0 (hloc ▸ hl); simp only at heq; omega

theorem atomic_connShr (c : Cmd) (hc : c.atomic = true) (hl : c.noLogin = true) (n : Net) (y : Nat) :
    Net.Rel ConnShr n (execCmd c n y).1 :=
  connShr_frame.atomic (fun j a _ => connShr_frame.refl j a) (fun j a _ => connShr_frame.refl j a)
    (fun j a _ => connShr_frame.refl j a) (fun j a _ _ => connShr_frame.refl j a) c hc hl n y

/-- Connections are put in three places only: the local login, the connection of a local command, the remote login.  A reflexive,
transitive relation between networks that holds across these and across everything that only removes connections / ends local
sessions without lowering the counter holds across every operation, nested commands included. -/
theorem step_of_connShr (P : Net → Net → Prop) (refl : ∀ n, P n n) (trans : ∀ a b c, P a b → P b c → P a c)
    (hShr : ∀ n m, Net.Rel ConnShr n m → n.nextId ≤ m.nextId → P n m)
    (hLogin : ∀ n y u p, P n (localLogin n y u p).1)
    (hLocal : ∀ n y u p id, (localLogin n y u p).2 = some id → P n ((localLogin n y u p).1.upd y (Node.addConn ⟨id, none⟩)))
    (hRemote : ∀ n x y u p, P n (opRemoteLogin n x y u p).1) (n : Net) (op : Op) : P n (step n op).1 := by
  have F := connShr_frame
  have r : ∀ j (a : Node), ConnShr j a a := F.refl
  cases op with
  | localLogin y u p => rw [step, opLocalLogin_fst]; exact hLogin n y u p
  | req y c =>
    refine exec_induction'' P refl trans ?_
      (fun n y cid => hShr _ _ (connShr_of_shr (shr_disconnect _ _ _ _)) (Nat.le_of_eq (shr_disconnect _ _ _ _).nextId.symm))
      (fun n y cid t => hShr _ _ (connShr_touch n y cid t) (Nat.le_refl _)) hLogin hLocal c n y
    intro c hc n y
    cases c with
    | remoteLogin z u p => exact hRemote n y z u p
    | usmLogin u p peer => exact hShr _ _ (F.toPre.usmLogin n y u p peer (fun a _ => r y a)) (exec_keeps _ n y).nextId
    | localCmd u p c => cases hc
    | remoteCmd z c => cases hc
    | _ => exact hShr _ _ (atomic_connShr _ hc rfl n y) (exec_keeps _ n y).nextId
  | _ => exact hShr _ _ (F.plain (fun j a _ => r j a) n _ (fun y _ _ a => r y a) nofun nofun) (step_nextId_mono n _)

/-- **C16, one client per id (invariant, one step).** Nested commands included. -/
theorem C16_conn_inv_step (n : Net) (op : Op) (hi : ConnInv n) : ConnInv (step n op).1 :=
  step_of_connShr (fun n m => ConnInv n → ConnInv m) (fun _ h => h) (fun _ _ _ h1 h2 h => h2 (h1 h))
    (fun _ _ => connInv_of_connShr) connInv_localLogin connInv_localConn connInv_remoteLogin n op hi

/-- **C16, one client per id (invariant).** Holds in every state reachable from a network without connections and local
sessions (in particular from a freshly built one). -/
theorem C16_conn_inv_run (ops : List Op) (n : Net) (hi : ConnInv n) : ConnInv (run n ops) :=
  run_induction ConnInv C16_conn_inv_step ops n hi

theorem connInv_init (n : Net) (h : ∀ j a, n.node j = some a → a.conns = [] ∧ a.loc = none) : ConnInv n := by
  refine ⟨?_, ?_, ?_, ?_⟩
  · intro j a c ha hc; rw [(h j a ha).1] at hc; cases hc
  · intro j a l ha hl; rw [(h j a ha).2] at hl; cases hl
  · intro j _ a _ c _ ha _ _ hc _ _; rw [(h j a ha).1] at hc; cases hc
  · intro j _ a _ l ha _ _ hl; rw [(h j a ha).2] at hl; cases hl

/-- **C16, one client per id.** In a reachable state a session / connection id is held by at most two nodes, and these name
each other as peer: given the server-side connection of `y` for client `x`, no third node `z` holds a connection with that id,
so no third node can ever send a command on that session. -/
theorem C16_one_client_per_id (n : Net) (hi : ConnInv n) (y x z : Nat) (b a d : Node) (cs cx cz : Conn)
    (hb : n.node y = some b) (ha : n.node x = some a) (hd : n.node z = some d) (hcs : cs ∈ b.conns) (hcx : cx ∈ a.conns)
    (hcz : cz ∈ d.conns) (h1 : cx.id = cs.id) (h2 : cz.id = cs.id) (hxy : x ≠ y) (hzy : z ≠ y) : z = x := by
  have p1 := hi.pair y x b a cs cx hb ha (fun h => hxy h.symm) hcs hcx h1.symm
  have p2 := hi.pair y z b d cs cz hb hd (fun h => hzy h.symm) hcs hcz h2.symm
  have := p1.1.symm.trans p2.1
  cases this; rfl

theorem find_isSome_eq_hasConn (a : Node) (cid : Nat) : (a.conns.find? (fun d => d.id == cid)).isSome = a.hasConn cid := by
  rw [Bool.eq_iff_iff, List.find?_isSome]
  exact List.any_eq_true.symm

theorem find_id_of_hasConn {a : Node} {cid : Nat} (h : a.hasConn cid = true) :
    ∃ c, a.conns.find? (fun d => d.id == cid) = some c :=
  Option.isSome_iff_exists.mp ((find_isSome_eq_hasConn a cid).trans h)

/-- `_disconnect` of an id the node holds removes it from that node (any positive fuel) -/
theorem chain_disconnect_drops (f : Nat) (n : Net) (x cid : Nat) (a : Node) (c : Conn) (ha : n.node x = some a)
    (hc : a.conns.find? (fun d => d.id == cid) = some c) :
    (n.upd x (Node.dropConn cid)).Shr (chain (f + 1) .disconnect n x cid) := by
  unfold chain
  simp only [ha, hc]
  split
  · exact shr_upd _ x _ shr_localLogout
  · split
    · exact shr_chain _ _ _ _ _
    · exact Net.Shr.refl _

theorem disconnect_drops (n : Net) (x cid : Nat) (a : Node) (c : Conn) (ha : n.node x = some a)
    (hc : a.conns.find? (fun d => d.id == cid) = some c) : (n.upd x (Node.dropConn cid)).Shr (disconnect n.fuel n x cid) :=
  chain_disconnect_drops (3 * n.totalConns + 3) n x cid a c ha hc

theorem disconnect_noConn (n : Net) (x cid : Nat) (a' : Node) (ha' : (disconnect n.fuel n x cid).node x = some a') :
    a'.hasConn cid = false := by
  obtain ⟨a, ha, hs⟩ := (shr_disconnect n.fuel n x cid).back ha'
  cases hf : a.conns.find? (fun d => d.id == cid) with
  | none =>
    exact noConn_of_shr hs cid (by rw [← find_isSome_eq_hasConn, hf]; rfl)
  | some c =>
    obtain ⟨b1, hb1, hs1⟩ := (disconnect_drops n x cid a c ha hf).back ha'
    simp only [node_upd, if_true, ha, Option.map_some, Option.some.injEq] at hb1
    subst hb1
    exact noConn_of_shr hs1 cid (dropConn_noConn a cid)

theorem remoteLogoff_accepted {n : Net} {x y : Nat} {a : Node} {cn : Conn} (ha : n.node x = some a) (hon : a.isOn = true)
    (hcn : a.conns.find? (fun c => c.peer == some y) = some cn) :
    step n (.req x (.remoteLogoff y)) = (disconnect n.fuel n x cn.id, .success) := by
  simp only [step, execCmd, opRemoteLogoff, ha, hon, hcn, Bool.not_true, Bool.false_eq_true, if_false]

/-- **C16, logoff.** In a reachable state, after the client `x` logged off from `y` (request answered `success`), no node other
than the target `y` itself holds a connection with the id of that session — the client's connection is gone and nobody else ever
had one — whatever the target did with the message (session ended; or kept until its time-out because the target was
unreachable or its session manager not running).  With `C16_remote_file_command` / `Carried`: nobody can run a command on that
session any more; remote-peer connections are only ever created with fresh ids (`C16_conn_inv_step`, `ids`). -/
theorem C16_logoff_drops_client (n : Net) (hi : ConnInv n) (x y : Nat) (a : Node) (cn : Conn) (ha : n.node x = some a)
    (hon : a.isOn = true) (hcn : a.conns.find? (fun c => c.peer == some y) = some cn) :
    (step n (.req x (.remoteLogoff y))).2 = .success ∧
    ∀ z b c', z ≠ y → (step n (.req x (.remoteLogoff y))).1.node z = some b → c' ∈ b.conns → c'.id ≠ cn.id := by
  rw [remoteLogoff_accepted ha hon hcn]
  refine ⟨rfl, ?_⟩
  intro z b c' hzy hb hc' heq
  have hmem : cn ∈ a.conns := List.mem_of_find?_eq_some hcn
  have hpeer : cn.peer = some y := by have := List.find?_some hcn; simpa using this
  by_cases hzx : z = x
  · subst hzx
    exact List.any_eq_false.mp (disconnect_noConn n z cn.id b hb) c' hc' (beq_iff_eq.mpr heq)
  · obtain ⟨b0, hb0, hs⟩ := (shr_disconnect n.fuel n x cn.id).back hb
    have := hi.pair x z a b0 cn c' ha hb0 (fun h => hzx h.symm) hmem (hs.conns.subset hc') heq.symm
    rw [hpeer] at this
    exact hzy (Option.some.inj this.1).symm

example : ConnInv demoNet :=
  connInv_init demoNet (fun _ _ ha => of_forall_nodes (P := fun a => a.conns = [] ∧ a.loc = none) (by decide) ha)

-- the logoff hypotheses are met after a login: node 0 is ON and its first connection towards 1 exists
example : ((run demoNet [login01]).node 0).map (fun a => (a.isOn, (a.conns.find? (fun c => c.peer == some 1)).isSome)) = some (true, true) := by
  decide

end Primaite.Session
