/-
C19: a CONSTRUCTED TAP003 fed well-formed responses NEVER RAISES — for every accepted configuration,
every start-node draw, every schedule / trial draw, every response sequence, every run length.

It closes the class of F-C19-2 (IndexError on the
empty history), F-C19-5 (KeyError: knowledge lacks a host), F-C19-6 (KeyError: the address forgotten after a local password
change) and F-C19-7 (IndexError: empty `malicious_acls`) for good: every `raise` branch of the model
(`setNext`, `progress`, `tapStart`, `handleLogin`, `reasonCheck`, `lookBack`, `manipAct`, `exploitBody`) is unreachable
from `Tap3.init`.

The invariant `NR`:
* stage bookkeeping `next = successor(current)` (or FAILED) — `progress` always finds its enum member;
* once the agent is in ACCESS / MANIPULATION / EXPLOIT, PLANNING has run (`planned`), and from then on the knowledge
  COVERS the configuration (`Cov`): every `malicious_acls` router has an entry with an address, every `account_changes`
  host has an entry, with an address unless it is the only possible start node.  `Cov` holds of the configured knowledge
  by the settings validator (`C19_tap3_constructed_knowledge`) and is preserved by both password-change updates
  (`creds_get_set`: the remote update writes an address, the local one keeps it — the repair of F-C19-6);
* `_current_acl < len(malicious_acls)` unless the list is empty;
* the start node is one of the possible start nodes; the account-change queue is a part of the configured list;
* `current_timestep ≥ 0`, `variance ≥ 0`;
* every SUCCESSFUL remote login in the history carries the login data (`Hist.loginOk`).
That a failed look-back response carries `data["reason"]` is not part of `NR`: it is the hypothesis `ReasonOk` of one call,
which a run with well-formed responses (`Resp.wf`) supplies through `AllReason`.
-/
import PrimaiteModel.Props.C19More
import PrimaiteModel.Props.C19Params
namespace Primaite.Agents
namespace Tap3

theorem creds_get_map (h k : Val) (v : Cred) : ∀ cr : Creds,
    Creds.get (cr.map (fun e => if e.1 == h then (h, v) else e)) k =
      if k = h then (cr.get k).map (fun _ => v) else cr.get k := by
  intro cr
  induction cr with
  | nil => simp [Creds.get]
  | cons e r ih =>
    unfold Creds.get at ih ⊢
    rw [List.map_cons, List.find?_cons, List.find?_cons]
    by_cases hek : e.1 = k
    · -- found at the head, on both sides
      subst hek
      by_cases he : e.1 = h <;> simp [he]
    · -- the head is skipped on both sides: the update keeps its key
      have : ((if (e.1 == h) = true then (h, v) else e).1 == k) = false := by
        by_cases he : e.1 = h
        · subst he; simp [hek]
        · simp [he, hek]
      rw [this, beq_false_of_ne hek]
      exact ih

theorem creds_get_set (cr : Creds) (h k : Val) (v : Cred) :
    (cr.set h v).get k = if k = h then some v else cr.get k := by
  unfold Creds.set
  split
  · rename_i hs
    rw [creds_get_map]
    split
    · rename_i hk
      subst hk
      obtain ⟨x, hx⟩ := Option.isSome_iff_exists.1 hs
      rw [hx]; rfl
    · rfl
  · rename_i hs
    have hn : cr.find? (fun e => e.1 == h) = none :=
      Option.map_eq_none_iff.1 (Option.not_isSome_iff_eq_none.1 hs)
    unfold Creds.get
    rw [List.find?_append]
    by_cases hk : k = h
    · subst hk; simp [hn]
    · have : (h == k) = false := by simpa using fun e => hk e.symm
      simp [hk, this]

/-- The knowledge `cr` holds what the kill chain will read: an entry with an address for every ACL router, an entry for
every account-change host — with an address unless that host is the only possible start node. -/
structure Cov (c : Cfg) (cr : Creds) : Prop where
  acl : ∀ a ∈ c.acls, ∃ x ip, cr.get a.router = some x ∧ x.ip = some ip
  acct : ∀ a ∈ c.accountChanges, ∃ x, cr.get a.host = some x ∧ (x.ip.isSome = true ∨ ∀ n ∈ c.startSet, n = a.host)

theorem cov_set (c : Cfg) (cr : Creds) (h : Val) (v : Cred) (hc : Cov c cr)
    (hv : ∀ x, cr.get h = some x → x.ip.isSome = true → v.ip.isSome = true) : Cov c (cr.set h v) := by
  refine ⟨fun a ha => ?_, fun a ha => ?_⟩
  · obtain ⟨x, ip, hx, hip⟩ := hc.acl a ha
    rw [creds_get_set]
    split
    · rename_i he
      obtain ⟨ip', hip'⟩ := Option.isSome_iff_exists.1 (hv x (he ▸ hx) (by rw [hip]; rfl))
      exact ⟨v, ip', rfl, hip'⟩
    · exact ⟨x, ip, hx, hip⟩
  · obtain ⟨x, hx, hor⟩ := hc.acct a ha
    rw [creds_get_set]
    split
    · rename_i he
      exact ⟨v, rfl, hor.imp_left (hv x (he ▸ hx))⟩
    · exact ⟨x, hx, hor⟩

/-- The validator makes the configured knowledge cover the configuration. -/
theorem cov_init (c : Cfg) (d0 : Int) (k : Nat) (s0 : St) (h0 : init c d0 k = some s0) : Cov c c.creds0 := by
  have := C19_tap3_constructed_knowledge c d0 k s0 h0
  refine ⟨fun a ha => ?_, this.2⟩
  obtain ⟨cr, hg, hi⟩ := this.1 a ha
  obtain ⟨ip, hip⟩ := Option.isSome_iff_exists.1 hi
  exact ⟨cr, ip, hg, hip⟩

/-- A well-formed simulator response: a failure carries `data["reason"]`, a success the login data. -/
def Resp.wf (r : Resp) : Prop := (r.ok = false → r.hasReason = true) ∧ (r.ok = true → r.hasLoginData = true)

/-- What `_handle_login_response` needs of a history item: a SUCCESSFUL remote login carries the login data. -/
def Hist.loginOk (h : Hist) : Prop := h.kind = .remoteLogin → h.resp.ok = true → h.resp.hasLoginData = true

structure NR (c : Cfg) (s : St) : Prop where
  stage : s.cur = .failed ∨ s.nxt = s.cur.succ
  planned : (s.cur = .access ∨ s.cur = .manipulation ∨ s.cur = .exploit) → s.planned = true
  cover : s.planned = true → Cov c s.creds
  cover0 : Cov c c.creds0
  acl : c.acls = [] ∨ s.curAcl < c.acls.length
  start : s.startNode ∈ c.startSet
  queue : ∀ a ∈ s.acctQueue, a ∈ c.accountChanges
  nextA : ∀ a, s.nextAcct = some a → a ∈ c.accountChanges
  hist : ∀ h ∈ s.hist, h.loginOk
  var : 0 ≤ c.variance
  curT : 0 ≤ s.curT
  err : s.err = false

theorem not_mid_failed {P : Prop} (h : Stage.failed = .access ∨ Stage.failed = .manipulation ∨ Stage.failed = .exploit) : P := by
  rcases h with h | h | h <;> cases h

theorem init_fields (c : Cfg) (d0 : Int) (k : Nat) (s0 : St) (h0 : init c d0 k = some s0) :
    s0.dead = false ∧ s0.hist = [] ∧ s0.cur = .notStarted := by
  obtain ⟨_, rfl⟩ := init_some c d0 k s0 h0
  exact ⟨rfl, rfl, rfl⟩

theorem nr_init (c : Cfg) (d0 : Int) (k : Nat) (s0 : St) (h0 : init c d0 k = some s0) : NR c s0 := by
  have hcov := cov_init c d0 k s0 h0
  have hstart : s0.startNode ∈ c.startSet := by
    unfold Cfg.startSet
    rcases (C19_tap3_params_from_config c d0 k s0 [] h0).1 with ⟨he, hd⟩ | hm
    · simp [he, hd]
    · rw [if_neg (fun e => by rw [List.isEmpty_iff.1 e] at hm; cases hm)]; exact hm
  obtain ⟨hv, rfl⟩ := init_some c d0 k s0 h0
  exact { stage := Or.inr rfl, planned := (fun h => by rcases h with h | h | h <;> cases h),
          cover := (fun h => by cases h), cover0 := hcov,
          acl := (Nat.eq_zero_or_pos c.acls.length).imp_left List.eq_nil_of_length_eq_zero,
          start := hstart, queue := (fun a ha => ha), nextA := (fun a ha => by cases ha),
          hist := (fun h hh => by cases hh), var := by simpa [randintOk] using hv.1, curT := Int.le_refl 0, err := rfl }

theorem nr_progress (c : Cfg) (s : St) (x : Stage) (hx : x.chain = true) (hc : s.cur = x) (hn : s.nxt = x.succ)
    (h : NR c s) (hp : x = .planning → s.planned = true) : NR c (progress s) := by
  rw [progress_eq s x hx hn hc]
  exact { h with
    stage := Or.inr rfl
    planned := fun hh => by
      cases x <;> simp [Stage.chain] at hx <;> simp [Stage.succ] at hh
      · exact hp rfl
      · exact h.planned (Or.inl hc)
      · exact h.planned (Or.inr (Or.inl hc)) }

theorem nr_failStage (c : Cfg) (s : St) (h : NR c s) : NR c (failStage c s) := by
  unfold failStage
  split
  · exact h
  · exact { h with stage := Or.inl rfl, planned := fun hh => not_mid_failed hh }

theorem nr_nothing (c : Cfg) (s : St) (h : NR c s) : NR c { s with chosen := Act.nothing } := { h with }

theorem nr_handleLogin (c : Cfg) (s : St) (h : NR c s) : NR c (handleLogin s) := by
  unfold handleLogin
  split
  · exact h
  · rename_i x hx
    split
    · rename_i hk
      split
      · exact { h with }
      · rename_i hd
        exact absurd (h.hist x (List.mem_of_getLast? hx) hk.1 hk.2) hd
    · exact h

theorem nr_handleChangePw (c : Cfg) (s : St) (h : NR c s) : NR c (handleChangePw c s) := by
  unfold handleChangePw
  split
  · exact h
  · split
    · exact h
    · split
      · exact { h with cover := fun hp => cov_set c _ _ _ (h.cover hp) (fun _ _ _ => rfl) }
      · split
        · exact { h with cover := fun hp => cov_set c _ _ _ (h.cover hp) (fun x hx hi => by simp [hx, hi]) }
        · exact h

theorem nr_preGuard (c : Cfg) (s : St) (h : NR c s) : NR c (preGuardHandlers c s) :=
  nr_handleChangePw c _ (nr_handleLogin c s h)

theorem nr_returnHandler (c : Cfg) (x : Hist) (s : St) (h : NR c s) : NR c (returnHandler c x s) := by
  unfold returnHandler
  split
  · exact { h with stage := Or.inl rfl, planned := fun hh => not_mid_failed hh }
  · exact h

theorem nr_reasonCheck (c : Cfg) (x : Hist) (s : St) (hx : x.resp.ok = false → x.resp.hasReason = true) (h : NR c s) :
    NR c (reasonCheck x s) := by
  unfold reasonCheck
  split
  · rename_i hb
    have hok : x.resp.ok = false := by simpa using hb.1
    exact absurd (hx hok) hb.2
  · exact h

theorem nr_setNext (c : Cfg) (s : St) (b d : Int) (h : NR c s) : NR c (setNext c s b d) := by
  unfold setNext
  rw [if_pos (by simp [randintOk, h.var])]
  exact { h with }

theorem nr_outcomeHandler (c : Cfg) (s : St) (h : NR c s) : NR c (outcomeHandler c s) := by
  unfold outcomeHandler
  split
  · split
    · exact { h with }
    · split
      · exact { h with stage := Or.inr rfl, planned := fun hh => by rcases hh with hh | hh | hh <;> cases hh }
      · exact { h with }
  · exact h

theorem nr_tapStart (c : Cfg) (s : St) (hc : s.cur = .notStarted) (h : NR c s) : NR c (tapStart s) := by
  rw [tapStart_eq s hc]
  exact { h with stage := Or.inr rfl, planned := fun hh => by rcases hh with hh | hh | hh <;> cases hh }

theorem nr_reconnaissance (c : Cfg) (s : St) (hc : s.cur = .reconnaissance) (hn : s.nxt = Stage.succ .reconnaissance)
    (h : NR c s) : NR c (reconnaissance s) := by
  unfold reconnaissance
  rw [if_neg (by simp [hc])]
  exact nr_progress c _ .reconnaissance rfl hc hn (nr_nothing c s h) (fun e => by cases e)

theorem nr_planning (c : Cfg) (i : In) (s : St) (hc : s.cur = .planning) (hn : s.nxt = Stage.succ .planning)
    (h : NR c s) : NR c (planning c i s) := by
  unfold planning
  rw [if_neg (by simp [hc])]
  split
  · by_cases hp : s.planned = true
    · rw [if_pos hp]
      exact nr_progress c s .planning rfl hc hn h (fun _ => hp)
    · rw [if_neg hp]
      exact nr_progress c _ .planning rfl hc hn { h with cover := fun _ => h.cover0, planned := fun _ => rfl } (fun _ => rfl)
  · exact nr_failStage c _ (nr_nothing c s h)

theorem nr_access (c : Cfg) (i : In) (s : St) (hc : s.cur = .access) (hn : s.nxt = Stage.succ .access)
    (h : NR c s) : NR c (access c i s) := by
  unfold access
  rw [if_neg (by simp [hc])]
  split
  · exact nr_nothing c _ (nr_progress c s .access rfl hc hn h (fun e => by cases e))
  · exact nr_failStage c _ (nr_nothing c s h)

/-- `_manipulation`'s action part: with the knowledge covering the configuration no `KeyError` branch is reachable. -/
theorem nr_manipAct (c : Cfg) (s : St) (hpl : s.planned = true) (h : NR c s) : NR c (manipAct c s) := by
  have hcov := h.cover hpl
  unfold manipAct
  split
  · exact h
  · rename_i a q1 hpick
    obtain ⟨ha, hq1⟩ := manipPick_mem h.queue h.nextA hpick
    obtain ⟨x, hx, hor⟩ := hcov.acct a ha
    have hpop := popAcct_mem hq1
    split
    · rename_i hhost
      split
      · rename_i hnone
        rw [← hhost, hx] at hnone; cases hnone
      · exact { h with queue := hpop.2, nextA := hpop.1 }
    · rename_i hhost
      -- a remote host is not the only possible start node, so its address is known
      obtain ⟨ip, hip'⟩ := Option.isSome_iff_exists.1 (hor.resolve_right fun hall => hhost (hall _ h.start).symm)
      split
      · split
        · exact { h with queue := hq1, nextA := fun b hb => by cases hb; exact ha }
        · exact { h with queue := hpop.2, nextA := hpop.1 }
      · rename_i hno
        exact absurd (by rw [hx]; simp [hip']) (hno x ip hx)

theorem nr_manipulation (c : Cfg) (i : In) (s : St) (hc : s.cur = .manipulation) (hn : s.nxt = Stage.succ .manipulation)
    (h : NR c s) : NR c (manipulation c i s) := by
  have hpl := h.planned (Or.inr (Or.inl hc))
  unfold manipulation
  rw [if_neg (by simp [hc])]
  split
  · -- `manipBegin` touches the stage progress only, which `NR` does not read
    rw [show manipBegin s = { s with prog := (manipBegin s).prog } by unfold manipBegin; split <;> rfl]
    generalize (manipBegin s).prog = p
    have ha := nr_manipAct c { s with prog := p } hpl { h with }
    have hcn := kept_manipAct c { s with prog := p }
    unfold manipFinish
    split
    · exact nr_progress c _ .manipulation rfl (hcn.1.trans hc) (hcn.2.1.trans hn) ha (fun e => by cases e)
    · exact ha
  · exact nr_failStage c _ (nr_nothing c s h)

/-- `_exploit` after its entry trial: the ACL index is in range, the router's credentials and address are known. -/
theorem nr_exploitBody (c : Cfg) (s : St) (hc : s.cur = .exploit) (hn : s.nxt = Stage.succ .exploit) (h : NR c s) :
    NR c (exploitBody c s) := by
  have hcov := h.cover (h.planned (Or.inr (Or.inr hc)))
  unfold exploitBody
  split
  · exact nr_progress c _ .exploit rfl hc hn { h with } (fun e => by cases e)
  · rename_i hne
    have hlt : s.curAcl < c.acls.length := h.acl.resolve_left (fun e => hne (by rw [e]; rfl))
    have hpos : 0 < c.acls.length := Nat.zero_lt_of_lt hlt
    split
    · rename_i hnone
      rw [List.getElem?_eq_getElem hlt] at hnone; cases hnone
    · rename_i a hsome
      obtain ⟨x, ip, hx, hip⟩ := hcov.acl a (List.mem_of_getElem? hsome)
      split
      · rename_i cr ip' _ _
        unfold exploitFinish exploitAct
        split
        · -- login: the index does not move
          split
          · exact nr_progress c _ .exploit rfl hc hn { h with acl := Or.inr hpos } (fun e => by cases e)
          · exact { h with }
        · -- ACL command: the index moves on, and wraps at the end of the list
          split
          · exact nr_progress c _ .exploit rfl hc hn { h with acl := Or.inr hpos } (fun e => by cases e)
          · rename_i hneq
            exact { h with acl := Or.inr (by simp only at hneq ⊢; omega) }
      · rename_i hno
        exact absurd (by rw [hx]; simp [hip]) (hno x ip hx)

theorem nr_exploit (c : Cfg) (i : In) (s : St) (hc : s.cur = .exploit) (hn : s.nxt = Stage.succ .exploit)
    (h : NR c s) : NR c (exploit c i s) := by
  unfold exploit
  rw [if_neg (by simp [hc])]
  split
  · exact nr_failStage c _ (nr_nothing c s h)
  · rw [show exploitEnter s = { s with prog := (exploitEnter s).prog } by unfold exploitEnter; split <;> rfl]
    exact nr_exploitBody c _ hc hn { h with }

theorem bodies_cases (c : Cfg) (i : In) (s : St) (hs : s.cur = .failed ∨ s.nxt = s.cur.succ) :
    (bodies c i s = s ∧ s.cur.chain = false) ∨ (s.cur = .notStarted ∧ bodies c i s = tapStart s) ∨
    ∃ x, x.chain = true ∧ s.cur = x ∧ s.nxt = x.succ ∧ bodies c i s = bodyAt c i (rank x) s := by
  by_cases hx : s.cur.chain = true
  · have hn := hs.resolve_left (fun e => by rw [e] at hx; cases hx)
    exact Or.inr (Or.inr ⟨_, hx, rfl, hn, bodies_is_bodyAt c i _ hx s rfl hn⟩)
  · cases hc : s.cur with
    | notStarted => exact Or.inr (Or.inl ⟨rfl, bodies_of_notStarted c i s hc⟩)
    | succeeded => exact Or.inl ⟨bodies_terminal c i s (Or.inl hc), rfl⟩
    | failed => exact Or.inl ⟨bodies_terminal c i s (Or.inr hc), rfl⟩
    | embed | conceal | extract | erase =>
      exact Or.inl ⟨by rw [bodies_eq, applyDown_skip c i 5 s (by rw [hc]; decide)], rfl⟩
    | _ => rw [hc] at hx; exact absurd rfl hx

theorem nr_bodies (c : Cfg) (i : In) (s : St) (h : NR c s) : NR c (bodies c i s) := by
  rcases bodies_cases c i s h.stage with ⟨e, _⟩ | ⟨hc, e⟩ | ⟨x, hx, hc, hn, e⟩
  · rw [e]; exact h
  · rw [e]; exact nr_tapStart c s hc h
  · rw [e]
    cases x with
    | reconnaissance => exact nr_reconnaissance c s hc hn h
    | planning => exact nr_planning c i s hc hn h
    | access => exact nr_access c i s hc hn h
    | manipulation => exact nr_manipulation c i s hc hn h
    | exploit => exact nr_exploit c i s hc hn h
    | _ => cases hx

theorem lookBack_cases (s : St) (x : Hist) (hx : lookBack s = some x) : x.resp.ok = true ∨ x ∈ s.hist := by
  unfold lookBack at hx
  split at hx
  · cases hx; exact Or.inl rfl
  · exact Or.inr (pyIndex_mem _ _ _ hx)

theorem nr_failPath (c : Cfg) (s : St) (t : Int) (i : In) (ht : 0 ≤ t) (h : NR c s) : NR c (failPath c s t i) :=
  nr_outcomeHandler c _ (nr_setNext c { s with curT := t } _ _ { h with curT := ht })

/-- `mainPath` is the stage methods after what `failPath` does. -/
theorem nr_mainPath (c : Cfg) (s : St) (t : Int) (i : In) (ht : 0 ≤ t) (h : NR c s) : NR c (mainPath c s t i) :=
  nr_bodies c i _ (nr_failPath c s t i ht h)

/-- `ReasonOk c s`: IF the call gets past the return handler with a failed look-back response (only PLANNING does), that
response carries `data["reason"]`.  The two run-level theorems discharge it differently. -/
def ReasonOk (c : Cfg) (s : St) : Prop :=
  ∀ x, lookBack s = some x → passes x (returnHandler c x s) = true → x.resp.ok = false → x.resp.hasReason = true

theorem getActionCore_slot (c : Cfg) (s : St) (t : Int) (i : In) (hex : executes s t = true) (x : Hist)
    (hx : lookBack s = some x) :
    getActionCore c s t i =
      if passes x (returnHandler c x s) then
        (mainPath c (reasonCheck x (returnHandler c x s)) t i, (mainPath c (reasonCheck x (returnHandler c x s)) t i).chosen)
      else (failPath c (returnHandler c x s) t i, (failPath c (returnHandler c x s) t i).chosen) := by
  unfold getActionCore
  rw [if_neg (by simp [hex])]
  simp only [hx]

theorem nr_getActionCore (c : Cfg) (s : St) (t : Int) (i : In) (ht : 0 ≤ t) (hp : NR c s) (hrs : ReasonOk c s) :
    NR c (getActionCore c s t i).1 := by
  by_cases hex : executes s t = true
  · obtain ⟨x, hx⟩ := lookBack_some s hp.curT
    have hr := nr_returnHandler c x s hp
    rw [getActionCore_slot c s t i hex x hx]
    split
    · rename_i hpass
      dsimp only
      exact nr_mainPath c _ t i ht (nr_reasonCheck c x _ (hrs x hx hpass) hr)
    · dsimp only
      exact nr_failPath c _ t i ht hr
  · unfold getActionCore
    rw [if_pos hex]
    exact hp

theorem reasonOk_preGuard (c : Cfg) (s : St) (h : ReasonOk c s) : ReasonOk c (preGuardHandlers c s) := by
  intro x hx hp
  rw [lookBack_preGuard] at hx
  refine h x hx ?_
  have hf := preGuard_fields c s
  unfold passes returnHandler at hp ⊢
  split at hp <;> split <;> simp_all

theorem nr_getAction (c : Cfg) (s : St) (t : Int) (i : In) (ht : 0 ≤ t) (h : NR c s) (hrs : ReasonOk c s) :
    NR c (getAction c s t i).1 :=
  nr_getActionCore c _ t i ht (nr_preGuard c s h) (reasonOk_preGuard c s hrs)

/-- One tick of a live agent in a state satisfying the invariant: if the look-back response is usable (`ReasonOk`) and the
response to the action of this tick, should it be a successful login, carries the login data, the call does not raise, the
agent stays alive, the invariant holds again, and the history grew by exactly this action and its response. -/
theorem nr_step (c : Cfg) (s : St) (t : Int) (i : In) (ht : 0 ≤ t) (hrs : ReasonOk c s)
    (hi : Hist.loginOk { act := (getAction c s t i).2, resp := i.resp }) (hd : s.dead = false) (h : NR c s) :
    NR c (step c s t i).1 ∧ (step c s t i).1.dead = false ∧ (step c s t i).2 = .act (getAction c s t i).2 ∧
    (step c s t i).1.hist = s.hist ++ [{ act := (getAction c s t i).2, resp := i.resp }] ∧
    (step c s t i).1.cur = (getAction c s t i).1.cur ∧ (step c s t i).1.curT = (getAction c s t i).1.curT := by
  have hg := nr_getAction c s t i ht h hrs
  rw [step_of_act c s t i hd hg.err]
  exact ⟨{ hg with hist := List.forall_mem_append.2 ⟨hg.hist, List.forall_mem_singleton.2 hi⟩ },
    (getAction_dead c s t i).trans hd, rfl, congrArg (· ++ _) (getAction_hist c s t i), rfl, rfl⟩

def AllReason (s : St) : Prop := ∀ h ∈ s.hist, h.resp.ok = false → h.resp.hasReason = true

theorem reasonOk_of_allReason (c : Cfg) (s : St) (h : AllReason s) : ReasonOk c s := by
  intro x hx _ hok
  rcases lookBack_cases s x hx with e | e
  · rw [e] at hok; cases hok
  · exact h x e hok

theorem run_nr (c : Cfg) : ∀ (ins : List In) (s : St) (t : Int), 0 ≤ t → (∀ i ∈ ins, i.resp.wf) → s.dead = false → NR c s →
    AllReason s →
    (NR c (after c s t ins) ∧ (after c s t ins).dead = false ∧ AllReason (after c s t ins)) ∧
    ∀ o ∈ runOut c s t ins, o.2 ≠ .raised := by
  intro ins
  induction ins with
  | nil => intro s t _ _ hd h hall; exact ⟨⟨h, hd, hall⟩, fun o ho => (by cases ho)⟩
  | cons i is ih =>
    intro s t ht hwf hd h hall
    have hwi := hwf i List.mem_cons_self
    obtain ⟨h1, hd1, ho1, hh1, _, _⟩ := nr_step c s t i ht (reasonOk_of_allReason c s hall) (fun _ hok => hwi.2 hok) hd h
    have hall1 : AllReason (step c s t i).1 := by
      unfold AllReason
      rw [hh1]
      exact List.forall_mem_append.2 ⟨hall, List.forall_mem_singleton.2 hwi.1⟩
    obtain ⟨ha, hr⟩ := ih (step c s t i).1 (t + 1) (by omega) (fun j hj => hwf j (List.mem_cons_of_mem _ hj)) hd1 h1 hall1
    exact ⟨ha, List.forall_mem_cons.2 ⟨ho1 ▸ Out.noConfusion, hr⟩⟩

/-- **A validated TAP003 never raises.**  For every configuration the constructor accepts (settings validator
`check_network_knowledge_covers_targets`, `variance ≥ 0`, a start node can be selected), every first schedule draw and
start-node draw, every sequence of schedule draws, trial draws and WELL-FORMED responses of any length fed at the ticks
`0, 1, 2, …`: no call of `get_action` raises (no output is `raised`), the agent is alive at the end and the invariant `NR`
holds — in particular the knowledge still covers every host the kill chain is told to log into, after any number of
password changes and restarts of the chain. -/
theorem C19_tap3_validated_never_raises (c : Cfg) (d0 : Int) (k : Nat) (s0 : St) (ins : List In)
    (h0 : init c d0 k = some s0) (hwf : ∀ i ∈ ins, i.resp.wf) :
    (∀ o ∈ runOut c s0 0 ins, o.2 ≠ .raised) ∧ (after c s0 0 ins).dead = false ∧ (after c s0 0 ins).err = false ∧
    NR c (after c s0 0 ins) := by
  obtain ⟨hd, hh, _⟩ := init_fields c d0 k s0 h0
  obtain ⟨⟨hn, hdd, _⟩, ho⟩ := run_nr c ins s0 0 (Int.le_refl 0) hwf hd (nr_init c d0 k s0 h0)
    (fun x hx => by rw [hh] at hx; cases hx)
  exact ⟨ho, hdd, hn.err, hn⟩

/-- **Liveness of the schedule of a validated TAP003 without the escape clause.**  `C19_tap3_next_slot` says "the
agent reaches its next execution slot — unless a pre-guard response handler raises on the way".  With well-formed
responses nothing raises: after ANY prefix of a run from the constructor, an agent that has not concluded is alive and
gets past its schedule guard exactly `max now next_execution_timestep − now` ticks later. -/
theorem C19_tap3_validated_next_slot (c : Cfg) (d0 : Int) (k : Nat) (s0 : St) (h0 : init c d0 k = some s0) (pre w : List In)
    (hpre : ∀ i ∈ pre, i.resp.wf) (hw : ∀ i ∈ w, i.resp.wf) (hc : (after c s0 0 pre).concluded = false)
    (hlen : (w.length : Int) = max (pre.length : Int) (after c s0 0 pre).nextExec - pre.length) :
    (after c s0 0 (pre ++ w)).dead = false ∧ (after c s0 0 (pre ++ w)).concluded = false ∧
    executes (after c s0 0 (pre ++ w)) (pre.length + w.length) = true := by
  have hd2 := (C19_tap3_validated_never_raises c d0 k s0 (pre ++ w) h0 (List.forall_mem_append.2 ⟨hpre, hw⟩)).2.1
  rw [after_append, Int.zero_add] at hd2 ⊢
  obtain ⟨_, h1, _, h3⟩ := wait_until_slot c w (after c s0 0 pre) pre.length hc hlen
  exact ⟨hd2, h1, h3⟩

/-- The hypotheses are satisfiable by a non-trivial configuration (a local and a remote account change, one ACL): the
constructor accepts `exCfg`, all responses are well formed, and the 16-tick run walks the whole chain twice. -/
example : ∃ s0, init exCfg 0 0 = some s0 ∧ (∀ i ∈ List.replicate 16 exIn, i.resp.wf) ∧
    (runOut exCfg s0 0 (List.replicate 16 exIn)).all (fun o => o.2 != .raised) = true := by
  refine ⟨_, rfl, fun i hi => ?_, by decide +kernel⟩
  rw [List.eq_of_mem_replicate hi]
  exact ⟨fun e => (by cases e), fun _ => rfl⟩

/-- The validator is what the theorem rests on: the same configuration WITHOUT the router's address is rejected by the
constructor (`init = none`) … -/
def exCfgNoIp : Cfg := { exCfg with creds0 := [("pc", { user := "u0", pw := "p0" }), ("rt", { user := "u1", pw := "p1" })] }
example : init exCfgNoIp 0 0 = none := by decide +kernel

/-- … and an agent forced past the validator raises (KeyError 'ip_address') when MANIPULATION logs into the router —
this is F-C19-5. -/
example : (runOut exCfgNoIp { nextExec := 1, acctQueue := exCfgNoIp.accountChanges, numAcls := 1, startNode := "pc" } 0
    (List.replicate 8 exIn)).any (fun o => o.2 == .raised) = true := by decide +kernel

/-- The well-formedness hypothesis is used as well: a successful login response without login data makes
`_handle_login_response` raise. -/
example : ∃ s0, init exCfg 0 0 = some s0 ∧
    (runOut exCfg s0 0 (List.replicate 8 { exIn with resp := { ok := true, hasLoginData := false } })).any
      (fun o => o.2 == .raised) = true := by
  refine ⟨_, rfl, by decide +kernel⟩

end Tap3
end Primaite.Agents
