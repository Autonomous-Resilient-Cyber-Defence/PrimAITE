/-
C19 — scripted green/red agents act only when and how their settings allow.  The models are `Model/Agents.lean` and
`Model/AgentsTap.lean`.

* The sampler and the probabilistic agent: least cdf index, never an action of probability zero, the vector by key (F-29).
* The periodic and the data-manipulation agent: schedule and node of every action, over a whole run.
* The two threat-actor agents, `Tap1` and `Tap3` side by side: what one call of `get_action` does to the kill-chain stage
  (`Allowed`, `Inv`).  The stage methods are taken one at a time (`SoftAt`, `ScanEff`, `Kept`, `St.frame`, `…_fire`), then
  together (`Tap1.bodies_at`, `Tap3.bodies_is_bodyAt`: only the method of the current stage acts), then the ways through
  `get_action` (`getAction_cases`).  From that: stage order over a run, what the slot at the end of the chain does
  (`ended_slot`), the schedule of one slot.
* The Gen obligations on the enums, the dispatch order and the guards.

The run-level theorems about the threat-actor agents start in C19Sched.lean.
-/
import PrimaiteModel.Model.AgentsTap
import PrimaiteModel.Gen.Agents
namespace Primaite.Agents

theorem scan_spec (u : Unif) (total : Nat) :
    ∀ (ws : List Nat) (acc base i : Nat), scan u total acc base ws = some i →
      base ≤ i ∧ i - base < ws.length ∧
      u.num * total < u.den * (acc + (ws.take (i - base + 1)).sum) ∧
      ∀ j, j < i - base → ¬ u.num * total < u.den * (acc + (ws.take (j + 1)).sum) := by
  intro ws
  induction ws with
  | nil => intro acc base i h; simp [scan] at h
  | cons w ws ih =>
    intro acc base i h
    unfold scan at h
    split at h
    · rename_i hlt
      cases h
      simp only [Nat.sub_self, Nat.zero_add, List.take_succ_cons, List.take_zero, List.sum_cons, List.sum_nil,
        Nat.add_zero, List.length_cons, Nat.zero_lt_succ, Nat.le_refl, true_and]
      exact ⟨hlt, fun j hj => absurd hj (Nat.not_lt_zero j)⟩
    · rename_i hnlt
      obtain ⟨hb, hl, hu, hmin⟩ := ih (acc + w) (base + 1) i h
      have e : i - base = (i - (base + 1)) + 1 := by omega
      refine ⟨by omega, ?_, ?_, ?_⟩
      · simp only [List.length_cons]; omega
      · rw [e, List.take_succ_cons, List.sum_cons]
        simpa [Nat.add_assoc] using hu
      · intro j hj
        cases j with
        | zero => simpa using hnlt
        | succ j =>
          have := hmin j (by omega)
          rw [List.take_succ_cons, List.sum_cons]
          simpa [Nat.add_assoc] using this

/-- The weight at the position `scan` returns is not zero: the running sum must strictly increase there. -/
theorem scan_weight_pos (u : Unif) (total : Nat) :
    ∀ (ws : List Nat) (acc base i : Nat), ¬ u.num * total < u.den * acc →
      scan u total acc base ws = some i → ∃ w, ws[i - base]? = some w ∧ 0 < w := by
  intro ws
  induction ws with
  | nil => intro acc base i _ h; simp [scan] at h
  | cons w ws ih =>
    intro acc base i hacc h
    unfold scan at h
    split at h
    · rename_i hlt
      cases h
      refine ⟨w, by simp, ?_⟩
      cases w with
      | zero => simp at hlt; exact absurd hlt hacc
      | succ n => exact Nat.succ_pos n
    · rename_i hnlt
      obtain ⟨w', hw', hpos⟩ := ih (acc + w) (base + 1) i hnlt h
      have hb := (scan_spec u total ws (acc + w) (base + 1) i h).1
      have e : i - base = (i - (base + 1)) + 1 := by omega
      exact ⟨w', by rw [e, List.getElem?_cons_succ]; exact hw', hpos⟩

theorem scan_finds (u : Unif) (total : Nat) :
    ∀ (ws : List Nat) (acc base : Nat), ¬ u.num * total < u.den * acc →
      u.num * total < u.den * (acc + ws.sum) → ∃ i, scan u total acc base ws = some i := by
  intro ws
  induction ws with
  | nil => intro acc base h1 h2; simp at h2; exact absurd h2 h1
  | cons w ws ih =>
    intro acc base h1 h2
    unfold scan
    split
    · exact ⟨base, rfl⟩
    · rename_i hnlt
      exact ih (acc + w) (base + 1) hnlt (by simpa [List.sum_cons, Nat.add_assoc] using h2)

/-- Running sums (numpy `cumsum`): `cdf ws i = w₀ + … + wᵢ`. -/
def cdf (ws : List Nat) (i : Nat) : Nat := (ws.take (i + 1)).sum

/-- `u < cdf i / total`, on integers. -/
def Below (u : Unif) (ws : List Nat) (i : Nat) : Prop := u.num * ws.sum < u.den * cdf ws i

/-- **Sampler specification.** For every weight vector of the right length with positive total and every
`u ∈ [0,1)`, `choice` returns the least index whose cumulative probability exceeds `u`. -/
theorem C19_choice_is_least_cdf_index (n : Nat) (ws : List Nat) (u : Unif)
    (hlen : ws.length = n) (hsum : 0 < ws.sum) (hu : u.num < u.den) :
    ∃ i, choice n ws u = .chose i ∧ i < n ∧ Below u ws i ∧ ∀ j, j < i → ¬ Below u ws j := by
  have hfind := scan_finds u ws.sum ws 0 0 (by simp)
    (by simpa using Nat.mul_lt_mul_of_pos_right hu hsum)
  obtain ⟨i, hi⟩ := hfind
  obtain ⟨_, hl, hb, hmin⟩ := scan_spec u ws.sum ws 0 0 i hi
  refine ⟨i, ?_, by simpa [hlen] using hl, by simpa [Below, cdf] using hb, ?_⟩
  · unfold choice
    rw [if_neg (by simp [hlen]; omega), hi]
  · intro j hj
    simpa [Below, cdf] using hmin j (by simpa using hj)

theorem choice_chose {n : Nat} {ws : List Nat} {u : Unif} {i : Nat} (h : choice n ws u = .chose i) :
    ws.length = n ∧ scan u ws.sum 0 0 ws = some i := by
  unfold choice at h
  split at h
  · cases h
  · rename_i hc
    split at h
    · rename_i k hk
      cases h
      exact ⟨Decidable.not_not.mp fun hne => hc (Or.inl hne), hk⟩
    · cases h

/-- **never_zero.** Whatever `u` is, an index whose weight is zero is never returned. -/
theorem C19_never_zero (n : Nat) (ws : List Nat) (u : Unif) (i : Nat)
    (h : choice n ws u = .chose i) : ∃ w, ws[i]? = some w ∧ 0 < w := by
  simpa using scan_weight_pos u ws.sum ws 0 0 i (by simp) (choice_chose h).2

/-- `choice` answers inside the action range or raises. -/
theorem C19_choice_in_range (n : Nat) (ws : List Nat) (u : Unif) (i : Nat)
    (h : choice n ws u = .chose i) : i < n := by
  obtain ⟨hl, hk⟩ := choice_chose h
  have := (scan_spec u ws.sum ws 0 0 i hk).2.1
  omega

theorem mapM_some_spec {α β} (f : α → Option β) :
    ∀ (l : List α) (v : List β), l.mapM f = some v →
      v.length = l.length ∧ ∀ i (h : i < l.length), v[i]? = f l[i] := by
  intro l
  induction l with
  | nil => intro v h; simp at h; subst h; simp
  | cons a l ih =>
    intro v h
    simp only [List.mapM_cons] at h
    cases hfa : f a with
    | none => simp [hfa] at h
    | some b =>
      cases hl : l.mapM f with
      | none => simp [hfa, hl] at h
      | some bs =>
        simp [hfa, hl] at h
        subst h
        obtain ⟨hlen, hget⟩ := ih bs hl
        refine ⟨by simp [hlen], ?_⟩
        intro i hi
        cases i with
        | zero => simp [hfa]
        | succ i => simpa using hget i (by simpa using hi)

theorem mapM_some_of_all {α β} (f : α → Option β) :
    ∀ (l : List α), (∀ a ∈ l, (f a).isSome) → ∃ v, l.mapM f = some v := by
  intro l
  induction l with
  | nil => intro _; exact ⟨[], by simp⟩
  | cons a l ih =>
    intro h
    obtain ⟨v, hv⟩ := ih (fun x hx => h x (List.mem_cons_of_mem a hx))
    have ha := h a (List.mem_cons_self)
    cases hfa : f a with
    | none => simp [hfa] at ha
    | some b => exact ⟨b :: v, by simp [List.mapM_cons, hfa, hv]⟩

/-- Without the validator's guarantee the by-key vector is a `KeyError`, never a misaligned vector. -/
theorem C19_vector_by_key_aligned_or_raises (tb : Table) (v : List Nat) (h : tb.vector .byKey = some v) :
    v.length = tb.length ∧ ∀ i, i < tb.length → v[i]? = tb.lookup i := by
  obtain ⟨hlen, hget⟩ := mapM_some_spec tb.lookup _ v h
  refine ⟨by simpa using hlen, fun i hi => ?_⟩
  have := hget i (by simpa using hi)
  rw [List.getElem_range] at this
  exact this

/-- **vector_aligned.** For every table the validator accepts, the vector the (repaired) code builds has one entry
per key and entry `i` is the probability configured for action `i`. -/
theorem C19_vector_aligned (tb : Table) (h : tb.covered = true) :
    ∃ v, tb.vector .byKey = some v ∧ v.length = tb.length ∧ ∀ i, i < tb.length → v[i]? = tb.lookup i := by
  have hall : ∀ a ∈ List.range tb.length, (tb.lookup a).isSome := by
    simpa [Table.covered, List.all_eq_true] using h
  obtain ⟨v, hv⟩ := mapM_some_of_all tb.lookup _ hall
  exact ⟨v, hv, C19_vector_by_key_aligned_or_raises tb v hv⟩

/-- **The probabilistic agent never selects an action configured with probability zero** — for every table, every
number of actions and every uniform draw; the selected index also lies inside the action map. -/
theorem C19_prob_agent_never_selects_zero (tb : Table) (n : Nat) (u : Unif) (i : Nat)
    (h : probAgentChoice .byKey tb n u = .chose i) :
    i < n ∧ ∃ w, tb.lookup i = some w ∧ 0 < w := by
  unfold probAgentChoice at h
  split at h
  · cases h
  · rename_i ws hws
    obtain ⟨hlen, hget⟩ := C19_vector_by_key_aligned_or_raises tb ws hws
    have hin := C19_choice_in_range n ws u i h
    obtain ⟨w, hw, hpos⟩ := C19_never_zero n ws u i h
    obtain ⟨hi, _⟩ := List.getElem?_eq_some_iff.mp hw
    rw [hlen] at hi
    exact ⟨hin, w, by rw [← hget i hi]; exact hw, hpos⟩

/-- The statement the unrepaired code (vector in insertion order) would have to satisfy … -/
def C19_InsertionOrderNeverSelectsZero : Prop :=
  ∀ (tb : Table) (n : Nat) (u : Unif) (i : Nat), tb.covered = true → u.num < u.den →
    probAgentChoice .insertion tb n u = .chose i → ∃ w, tb.lookup i = some w ∧ 0 < w

/-- … and its refutation: the table written `{1: 0.0, 0: 1.0}` selects action 1 for every draw (finding F-29). -/
theorem C19_insertion_order_counterexample : ¬ C19_InsertionOrderNeverSelectsZero := by
  intro h
  obtain ⟨w, hw, hpos⟩ := h [(1, 0), (0, 1)] 2 ⟨0, 1⟩ 1 (by decide) (by decide) (by decide)
  have e : Table.lookup [(1, 0), (0, 1)] 1 = some 0 := by decide
  rw [e] at hw
  cases hw
  exact absurd hpos (Nat.lt_irrefl 0)

/-- In that table *every* draw selects the zero-probability action. -/
example (u : Unif) (hu : u.num < u.den) : probAgentChoice .insertion [(1, 0), (0, 1)] 2 u = .chose 1 := by
  simp [probAgentChoice, Table.vector, Table.vectorInsertion, choice, scan, hu]

/-- Non-vacuity of `C19_prob_agent_never_selects_zero`: a shuffled table with a zero entry does select something. -/
example : probAgentChoice .byKey [(1, 0), (0, 1)] 2 ⟨1, 2⟩ = .chose 0 := by decide

theorem periodicStep_tri (c : PeriodicCfg) (s : PeriodicState) (t d : Int) (k : Nat) :
    let r := periodicStep c s t d k
    (r.2 = .doNothing ∧ r.1 = s ∧ s.dead = false ∧ ¬ (t = s.next ∧ s.numExec < c.maxExecutions)) ∨
    (∃ n, r.2 = .execute n ∧ s.dead = false ∧ t = s.next ∧ s.numExec < c.maxExecutions ∧
        r.1.next = t + c.frequency + d ∧ r.1.numExec = s.numExec + 1 ∧ r.1.dead = false ∧ r.1.startNode = some n ∧
        (s.startNode = some n ∨ (s.startNode = none ∧ n = k ∧ k < c.nStartNodes)) ∧ 0 ≤ c.variance) ∨
    (r.2 = .raised ∧ r.1.dead = true) := by
  intro r
  cases hd : s.dead with
  | true => exact Or.inr (Or.inr (by simp [r, periodicStep, hd]))
  | false =>
    by_cases hc : t = s.next ∧ s.numExec < c.maxExecutions
    · by_cases hv : 0 ≤ c.variance
      · cases hn : s.startNode with
        | some n => exact Or.inr (Or.inl ⟨n, by simp [r, periodicStep, hd, hc, randintOk, hv, hn]⟩)
        | none =>
          by_cases hk : k < c.nStartNodes
          · exact Or.inr (Or.inl ⟨k, by simp [r, periodicStep, hd, hc, randintOk, hv, hn, hk]⟩)
          · exact Or.inr (Or.inr (by simp [r, periodicStep, hd, hc, randintOk, hv, hn, hk]))
      · exact Or.inr (Or.inr (by simp [r, periodicStep, hd, hc, randintOk, hv]))
    · exact Or.inl (by simp [r, periodicStep, hd, hc])

/-- Draws lie in the range the code asks `randint` for. -/
def DrawsIn (v : Int) (ins : List PIn) : Prop := ∀ i ∈ ins, -v ≤ i.d ∧ i.d ≤ v

/-- What the action theorem needs from a step function (both `periodicStep` and `dmStep` provide it). -/
def NodeTri (c : PeriodicCfg) (step : PeriodicState → Int → Int → Nat → PeriodicState × PeriodicOut) : Prop :=
  (∀ s t d k, s.dead = true → step s t d k = (s, .raised)) ∧
  ∀ s t d k, let r := step s t d k
    (r.2 = .doNothing ∧ r.1 = s) ∨
    (∃ n, r.2 = .execute n ∧ r.1.startNode = some n ∧
      (s.startNode = some n ∨ (s.startNode = none ∧ n = k ∧ k < c.nStartNodes))) ∨
    (r.2 = .raised ∧ r.1.dead = true)

theorem nodeTri_periodic (c : PeriodicCfg) : NodeTri c (periodicStep c) := by
  refine ⟨fun s t d k hd => by simp [periodicStep, hd], fun s t d k => ?_⟩
  rcases periodicStep_tri c s t d k with ⟨he, hs, _, _⟩ | ⟨n, he, _, _, _, _, _, _, hsn, hfrom, _⟩ | ⟨he, hdead⟩
  · exact Or.inl ⟨he, hs⟩
  · exact Or.inr (Or.inl ⟨n, he, hsn, hfrom⟩)
  · exact Or.inr (Or.inr ⟨he, hdead⟩)

theorem dead_run (step : PeriodicState → Int → Int → Nat → PeriodicState × PeriodicOut)
    (Hdead : ∀ s t d k, s.dead = true → step s t d k = (s, .raised)) :
    ∀ (ins : List PIn) (s : PeriodicState) (t : Int), s.dead = true →
      execTimes t (runFrom step s t ins) = [] ∧ ∀ x, PeriodicOut.execute x ∉ runFrom step s t ins := by
  intro ins
  induction ins with
  | nil => intro s t _; exact ⟨rfl, fun x h => by simp [runFrom] at h⟩
  | cons i is ih =>
    intro s t hd
    simp only [runFrom, Hdead s t i.d i.k hd, execTimes, List.mem_cons, reduceCtorEq, false_or]
    exact ih s (t + 1) hd

theorem periodic_run_from (c : PeriodicCfg) :
    ∀ (ins : List PIn) (s : PeriodicState) (t : Int), DrawsIn c.variance ins →
      let L := execTimes t (runFrom (periodicStep c) s t ins)
      (L = [] ∨ ∃ rest, L = s.next :: rest) ∧
      GapsIn (c.frequency - c.variance) (c.frequency + c.variance) L ∧
      ((L.length : Int) ≤ max 0 (c.maxExecutions - s.numExec)) := by
  intro ins
  induction ins with
  | nil => intro s t _; simp [runFrom, execTimes, GapsIn]; omega
  | cons i is ih =>
    intro s t hdr
    have hdr' : DrawsIn c.variance is := fun j hj => hdr j (List.mem_cons_of_mem i hj)
    have hi := hdr i List.mem_cons_self
    rcases periodicStep_tri c s t i.d i.k with ⟨he, hs, _, hnc⟩ | ⟨n, he, _, htn, hlt, hnext, hnum, _, _, _, _⟩ | ⟨he, hdead⟩
    · simp only [runFrom, he, hs, execTimes]
      exact ih s (t + 1) hdr'
    · simp only [runFrom, he, execTimes]
      obtain ⟨h2, h3, h4⟩ := ih (periodicStep c s t i.d i.k).1 (t + 1) hdr'
      refine ⟨Or.inr ⟨_, by rw [htn]⟩, ?_, ?_⟩
      · rcases h2 with hnil | ⟨rest, hrest⟩
        · rw [hnil]; simp [GapsIn]
        · rw [hrest] at h3 ⊢
          refine ⟨?_, h3⟩
          rw [hnext]; constructor <;> omega
      · simp only [List.length_cons]
        rw [hnum] at h4
        omega
    · simp only [runFrom, he, execTimes]
      rw [(dead_run _ (nodeTri_periodic c).1 is _ (t + 1) hdead).1]
      simp [GapsIn]
      omega

theorem periodicInit_spec {c : PeriodicCfg} {d0 : Int} {s0 : PeriodicState} (h0 : periodicInit c d0 = some s0) :
    s0.next = c.startStep + d0 ∧ s0.numExec = 0 ∧ s0.startNode = none ∧ c.variance < c.frequency := by
  unfold periodicInit at h0
  split at h0
  · rename_i hv; cases h0; exact ⟨rfl, rfl, rfl, by simpa [PeriodicCfg.valid] using hv.1⟩
  · cases h0

theorem gapsIn_head_le {lo hi : Int} (hlo : 0 ≤ lo) : ∀ (l : List Int) (a : Int), GapsIn lo hi (a :: l) → ∀ x ∈ a :: l, a ≤ x := by
  intro l
  induction l with
  | nil => intro a _ x hx; rw [List.mem_singleton.mp hx]; exact Int.le_refl _
  | cons b l ih =>
    intro a hg x hx
    rcases List.mem_cons.mp hx with rfl | hx
    · exact Int.le_refl _
    · have := ih b hg.2 x hx
      have := hg.1.1
      omega

/-- **Schedule of the periodic agent**, for every configuration the validator accepts, every start draw in
`[-start_variance, start_variance]`, every sequence of later draws in `[-variance, variance]` and every run length:
nothing happens before `start_step − start_variance`; the first action, if any, is exactly at `start_step + d0`
(hence within `start_step ± start_variance`); consecutive actions are `frequency + d` apart, i.e. within
`frequency ± variance`; and there are at most `max_executions` of them. -/
theorem C19_periodic_schedule (c : PeriodicCfg) (d0 : Int) (s0 : PeriodicState) (ins : List PIn)
    (h0 : periodicInit c d0 = some s0)
    (hd0 : -c.startVariance ≤ d0 ∧ d0 ≤ c.startVariance) (hins : DrawsIn c.variance ins) :
    let L := execTimes 0 (runFrom (periodicStep c) s0 0 ins)
    (∀ x ∈ L, c.startStep - c.startVariance ≤ x) ∧
    (L = [] ∨ ∃ rest, L = (c.startStep + d0) :: rest) ∧
    (∀ x, L.head? = some x → c.startStep - c.startVariance ≤ x ∧ x ≤ c.startStep + c.startVariance) ∧
    GapsIn (c.frequency - c.variance) (c.frequency + c.variance) L ∧
    (L.length : Int) ≤ max 0 c.maxExecutions := by
  obtain ⟨hs1, hs2, _, hvf⟩ := periodicInit_spec h0
  obtain ⟨h2, h3, h4⟩ := periodic_run_from c ins s0 0 hins
  rw [hs1] at h2
  rw [hs2] at h4
  refine ⟨?_, h2, ?_, h3, by simpa using h4⟩
  · -- every action time is ≥ the first one: the gaps are positive because `variance < frequency`
    have hpos : 0 ≤ c.frequency - c.variance := by omega
    rcases h2 with hnil | ⟨rest, hrest⟩
    · rw [hnil]; simp
    · rw [hrest] at h3 ⊢
      intro x hx
      have := gapsIn_head_le hpos rest _ h3 x hx
      omega
  · intro x hx
    rcases h2 with hnil | ⟨rest, hrest⟩
    · rw [hnil] at hx; cases hx
    · rw [hrest] at hx
      simp at hx
      omega

/-- Non-vacuity: start 3, start variance 1 (draw −1), frequency 4, variance 2, at most 3 executions: the agent acts at
steps 2, 5, 7 and then never again. -/
example :
    let c : PeriodicCfg := { startStep := 3, startVariance := 1, frequency := 4, variance := 2, maxExecutions := 3, nodes := ["n0", "n1"] }
    ∃ s0, periodicInit c (-1) = some s0 ∧
      execTimes 0 (runFrom (periodicStep c) s0 0
        ((List.range 20).map fun j => ({ d := if j = 2 then -1 else if j = 5 then -2 else 0, k := 1 } : PIn))) = [2, 5, 7] := by
  refine ⟨_, rfl, ?_⟩
  decide +kernel

theorem action_node_generic (c : PeriodicCfg) (step : PeriodicState → Int → Int → Nat → PeriodicState × PeriodicOut)
    (H : NodeTri c step) :
    ∀ (ins : List PIn) (s : PeriodicState) (t : Int),
      (∀ m, s.startNode = some m → m < c.nStartNodes) →
      ∀ n, .execute n ∈ runFrom step s t ins →
        n < c.nStartNodes ∧ (∀ m, s.startNode = some m → n = m) ∧
        ∀ n', .execute n' ∈ runFrom step s t ins → n' = n := by
  obtain ⟨Hdead, Htri⟩ := H
  intro ins
  induction ins with
  | nil => intro s t _ n h; simp [runFrom] at h
  | cons i is ih =>
    intro s t hwf n hmem
    rcases Htri s t i.d i.k with ⟨he, hs⟩ | ⟨n0, he, hsn, hfrom⟩ | ⟨he, hdead⟩
    · simp only [runFrom, he, hs, List.mem_cons, reduceCtorEq, false_or] at hmem ⊢
      exact ih s (t + 1) hwf n hmem
    · have hn0 : n0 < c.nStartNodes := by
        rcases hfrom with h | ⟨_, rfl, hk⟩
        · exact hwf n0 h
        · exact hk
      have hwf' : ∀ m, (step s t i.d i.k).1.startNode = some m → m < c.nStartNodes := by
        intro m hm; rw [hsn] at hm; cases hm; exact hn0
      have hall : ∀ x, .execute x ∈ runFrom step (step s t i.d i.k).1 (t + 1) is → x = n0 :=
        fun x hx => (ih _ (t + 1) hwf' x hx).2.1 n0 hsn
      have hs_same : ∀ m, s.startNode = some m → n0 = m := by
        intro m hm
        rcases hfrom with h | ⟨hnone', _, _⟩
        · rw [h] at hm; cases hm; rfl
        · rw [hnone'] at hm; cases hm
      simp only [runFrom, he, List.mem_cons, PeriodicOut.execute.injEq] at hmem ⊢
      have hn : n = n0 := hmem.elim id (hall n)
      subst hn
      exact ⟨hn0, hs_same, fun n' hn' => hn'.elim id (hall n')⟩
    · simp only [runFrom, he, List.mem_cons, reduceCtorEq, false_or] at hmem
      exact absurd hmem ((dead_run step Hdead is _ (t + 1) hdead).2 n)

/-- **Action of the periodic agent**: every action is `node-application-execute` of the configured application
(the only non-idle output of the model) on a node of `possible_start_nodes`, and always the same node. -/
theorem C19_periodic_action_node (c : PeriodicCfg) (d0 : Int) (s0 : PeriodicState) (ins : List PIn)
    (h0 : periodicInit c d0 = some s0) (n : Nat) (h : .execute n ∈ runFrom (periodicStep c) s0 0 ins) :
    n < c.nStartNodes ∧ ∀ n', .execute n' ∈ runFrom (periodicStep c) s0 0 ins → n' = n := by
  have hs := (periodicInit_spec h0).2.2.1
  have := action_node_generic c _ (nodeTri_periodic c) ins s0 0 (by intro m hm; rw [hs] at hm; cases hm) n h
  exact ⟨this.1, this.2.2⟩

theorem dmStep_tri (c : PeriodicCfg) (s : PeriodicState) (t d : Int) (k : Nat) :
    let r := dmStep c s t d k
    (r.2 = .doNothing ∧ r.1 = s ∧ s.dead = false ∧ t < s.next) ∨
    (∃ n, r.2 = .execute n ∧ s.dead = false ∧ s.next ≤ t ∧
        r.1.next = t + c.frequency + d ∧ r.1.dead = false ∧ r.1.startNode = some n ∧
        (s.startNode = some n ∨ (s.startNode = none ∧ n = k ∧ k < c.nStartNodes)) ∧ 0 ≤ c.variance) ∨
    (r.2 = .raised ∧ r.1.dead = true) := by
  intro r
  cases hd : s.dead with
  | true => exact Or.inr (Or.inr (by simp [r, dmStep, hd]))
  | false =>
    by_cases hc : t < s.next
    · exact Or.inl (by simp [r, dmStep, hd, hc])
    · have hc' : s.next ≤ t := by omega
      by_cases hv : 0 ≤ c.variance
      · cases hn : s.startNode with
        | some n => exact Or.inr (Or.inl ⟨n, by simp [r, dmStep, hd, hc, hc', randintOk, hv, hn]⟩)
        | none =>
          by_cases hk : k < c.nStartNodes
          · exact Or.inr (Or.inl ⟨k, by simp [r, dmStep, hd, hc, hc', randintOk, hv, hn, hk]⟩)
          · exact Or.inr (Or.inr (by simp [r, dmStep, hd, hc, randintOk, hv, hn, hk]))
      · exact Or.inr (Or.inr (by simp [r, dmStep, hd, hc, randintOk, hv]))

theorem nodeTri_dm (c : PeriodicCfg) : NodeTri c (dmStep c) := by
  refine ⟨fun s t d k hd => by simp [dmStep, hd], fun s t d k => ?_⟩
  rcases dmStep_tri c s t d k with ⟨he, hs, _, _⟩ | ⟨n, he, _, _, _, _, hsn, hfrom, _⟩ | ⟨he, hdead⟩
  · exact Or.inl ⟨he, hs⟩
  · exact Or.inr (Or.inl ⟨n, he, hsn, hfrom⟩)
  · exact Or.inr (Or.inr ⟨he, hdead⟩)

theorem dm_run_from (c : PeriodicCfg) (hv : c.variance < c.frequency) :
    ∀ (ins : List PIn) (s : PeriodicState) (t : Int), DrawsIn c.variance ins →
      let L := execTimes t (runFrom (dmStep c) s t ins)
      (L = [] ∨ ∃ rest, L = max t s.next :: rest) ∧
      GapsIn (c.frequency - c.variance) (c.frequency + c.variance) L := by
  intro ins
  induction ins with
  | nil => intro s t _; simp [runFrom, execTimes, GapsIn]
  | cons i is ih =>
    intro s t hdr
    have hdr' : DrawsIn c.variance is := fun j hj => hdr j (List.mem_cons_of_mem i hj)
    have hi := hdr i List.mem_cons_self
    rcases dmStep_tri c s t i.d i.k with ⟨he, hs, _, hlt⟩ | ⟨n, he, _, hle, hnext, _, _, _, _⟩ | ⟨he, hdead⟩
    · simp only [runFrom, he, hs, execTimes]
      obtain ⟨h2, h3⟩ := ih s (t + 1) hdr'
      refine ⟨?_, h3⟩
      have e : max (t + 1) s.next = max t s.next := by omega
      rw [← e]; exact h2
    · simp only [runFrom, he, execTimes]
      obtain ⟨h2, h3⟩ := ih (dmStep c s t i.d i.k).1 (t + 1) hdr'
      have e : max t s.next = t := by omega
      refine ⟨Or.inr ⟨_, by rw [e]⟩, ?_⟩
      rcases h2 with hnil | ⟨rest, hrest⟩
      · rw [hnil]; simp [GapsIn]
      · rw [hrest] at h3 ⊢
        refine ⟨?_, h3⟩
        rw [hnext]
        have e2 : max (t + 1) (t + c.frequency + i.d) = t + c.frequency + i.d := by omega
        rw [e2]; constructor <;> omega
    · simp only [runFrom, he, execTimes]
      rw [(dead_run _ (nodeTri_dm c).1 is _ (t + 1) hdead).1]
      simp [GapsIn]

theorem dmInit_spec {c : PeriodicCfg} {s0 : PeriodicState} (h0 : dmInit c = some s0) :
    s0.next = c.startStep ∧ s0.startNode = none ∧ c.variance < c.frequency ∧ 0 ≤ c.startVariance := by
  unfold dmInit at h0
  split at h0
  · rename_i hv; cases h0
    exact ⟨rfl, rfl, by simpa [PeriodicCfg.valid] using hv.1, by simpa [randintOk] using hv.2⟩
  · cases h0

/-- **Schedule of the data-manipulation agent**: the first action is at `max 0 start_step` — exactly `start_step`,
the start variance is drawn and then discarded — and afterwards the gaps are `frequency + d ∈ frequency ± variance`.
(There is no count bound: this agent never reads `max_executions`.) -/
theorem C19_dm_schedule (c : PeriodicCfg) (s0 : PeriodicState) (ins : List PIn)
    (h0 : dmInit c = some s0) (hins : DrawsIn c.variance ins) :
    let L := execTimes 0 (runFrom (dmStep c) s0 0 ins)
    (L = [] ∨ ∃ rest, L = max 0 c.startStep :: rest) ∧
    (0 ≤ c.startStep → ∀ x, L.head? = some x →
        c.startStep - c.startVariance ≤ x ∧ x ≤ c.startStep + c.startVariance) ∧
    GapsIn (c.frequency - c.variance) (c.frequency + c.variance) L := by
  obtain ⟨hs1, _, hvf, hsv⟩ := dmInit_spec h0
  obtain ⟨h2, h3⟩ := dm_run_from c hvf ins s0 0 hins
  rw [hs1] at h2
  refine ⟨h2, ?_, h3⟩
  intro hstart x hx
  rcases h2 with hnil | ⟨rest, hrest⟩
  · rw [hnil] at hx; cases hx
  · rw [hrest] at hx
    simp at hx
    omega

/-- Every action of the data-manipulation agent is an execute of the configured application on one fixed node of
`possible_start_nodes`. -/
theorem C19_dm_action_node (c : PeriodicCfg) (s0 : PeriodicState) (ins : List PIn)
    (h0 : dmInit c = some s0) (n : Nat) (h : .execute n ∈ runFrom (dmStep c) s0 0 ins) :
    n < c.nStartNodes ∧ ∀ n', .execute n' ∈ runFrom (dmStep c) s0 0 ins → n' = n := by
  have hs := (dmInit_spec h0).2.1
  have := action_node_generic c _ (nodeTri_dm c) ins s0 0 (by intro m hm; rw [hs] at hm; cases hm) n h
  exact ⟨this.1, this.2.2⟩

/-- Non-vacuity: start 2 (start variance 3 ignored), frequency 3, variance 1. -/
example :
    let c : PeriodicCfg := { startStep := 2, startVariance := 3, frequency := 3, variance := 1, maxExecutions := 1, nodes := ["n0"] }
    ∃ s0, dmInit c = some s0 ∧
      execTimes 0 (runFrom (dmStep c) s0 0
        ((List.range 12).map fun j => ({ d := if j = 2 then 1 else -1, k := 0 } : PIn))) = [2, 6, 8, 10] := by
  refine ⟨_, rfl, ?_⟩
  decide +kernel

/-! Case analysis on an `if`, used as terms, so that a proof about a stage method reads as the method's code with a reason at each leaf.  (`split`
re-simplifies the whole goal, which here carries a structure update of 20-odd fields per branch.) -/

theorem ite_pres {α : Sort _} {P : α → Prop} {p : Prop} [Decidable p] {a b : α} (ha : P a) (hb : P b) :
    P (if p then a else b) := by
  split <;> assumption

theorem ite_pres_of {α : Sort _} {P : α → Prop} {p : Prop} [Decidable p] {a b : α} (ha : p → P a) (hb : ¬ p → P b) :
    P (if p then a else b) := by
  split
  · exact ha ‹p›
  · exact hb ‹¬ p›

theorem ite_pres_fst {α β : Type _} {Q : α → Prop} {p : Prop} [Decidable p] {a b : α × β} (ha : Q a.1) (hb : Q b.1) :
    Q (if p then a else b).1 := by
  split <;> assumption

theorem ite_field {α β : Type} (f : α → β) {p : Prop} [Decidable p] {a b : α} {y : β} (ha : f a = y) (hb : f b = y) :
    f (if p then a else b) = y := ite_pres (P := (f · = y)) ha hb

theorem iter_forall_mem {σ ι β : Type} {f : σ → Int → ι → σ} {g : σ → Int → ι → β} (R : σ → Int → List ι → List β)
    (hR0 : ∀ s t, R s t [] = []) (hR1 : ∀ s t i is, R s t (i :: is) = g s t i :: R (f s t i) (t + 1) is)
    (I : σ → Prop) (Q : β → Prop) (hstep : ∀ s t i, I s → I (f s t i) ∧ Q (g s t i)) :
    ∀ (ins : List ι) (s : σ) (t : Int), I s → ∀ x ∈ R s t ins, Q x := by
  intro ins
  induction ins with
  | nil => intro s t _ x hx; rw [hR0] at hx; cases hx
  | cons i is ih =>
    intro s t h x hx
    rw [hR1] at hx
    rcases List.mem_cons.1 hx with rfl | hx
    · exact (hstep s t i h).2
    · exact ih _ _ (hstep s t i h).1 x hx

/-- The part of a threat-actor agent's state that no stage method writes: the schedule, `actions_concluded`, the remembered
timestep, the history and the dead flag (`H` = the agent's history item). -/
structure Frame (H : Type) where
  nextExec : Int
  concluded : Bool
  curT : Int
  hist : List H
  dead : Bool

namespace Tap1

/-- Successor in the kill chain: `DOWNLOAD → INSTALL → ACTIVATE → PROPAGATE → COMMAND_AND_CONTROL → PAYLOAD → SUCCEEDED`,
`NOT_STARTED →` first stage, `SUCCEEDED → NOT_STARTED`. -/
def Stage.succ : Stage → Stage
  | .download => .install | .install => .activate | .activate => .propagate | .propagate => .c2
  | .c2 => .payload | .payload => .succeeded | .notStarted => .download | .succeeded => .notStarted | .failed => .failed

def Stage.chain : Stage → Bool
  | .download | .install | .activate | .propagate | .c2 | .payload => true
  | _ => false

theorem Stage.kinds (x : Stage) : x.chain = true ∨ x = .notStarted ∨ x = .succeeded ∨ x = .failed := by
  cases x <;> decide

/-- `next_kill_chain_stage` is the successor of `current_kill_chain_stage` (nothing is claimed once FAILED). -/
def Inv (s : St) : Prop := s.cur = .failed ∨ s.nxt = s.cur.succ

/-- What one tick may do to `current_kill_chain_stage`. -/
def Allowed (c : Cfg) (a b : Stage) : Prop :=
  b = a ∨ (a.chain = true ∧ b = a.succ) ∨ b = .failed ∨ (a = .notStarted ∧ b = .download) ∨
  (c.repeatKillChain = true ∧ (a = .succeeded ∨ a = .failed) ∧ (b = .notStarted ∨ b = .download)) ∨
  (c.repeatKillChain = true ∧ c.repeatStages = false ∧ b = .notStarted)

/-- Result of the body of stage `x`: stay, advance to the successor, or fail. -/
def Res (x : Stage) (s : St) : Prop :=
  (s.cur = x ∧ s.nxt = x.succ) ∨ (s.cur = x.succ ∧ s.nxt = x.succ.succ) ∨ s.cur = .failed

/-- `_progress_kill_chain` from the chain stage `x` (or from FAILED, except where the method computes with the current
stage: when the next stage is PAYLOAD). -/
theorem progress_eq (s : St) (x : Stage) (hx : x.chain = true) (hn : s.nxt = x.succ)
    (hc : s.cur = x ∨ (s.cur = .failed ∧ x ≠ .c2)) :
    progress s = { s with cur := x.succ, nxt := x.succ.succ, prog := .pending } := by
  unfold progress
  rw [hn]
  cases x with
  | c2 =>
    have hc : s.cur = .c2 := hc.elim id (fun h => absurd rfl h.2)
    rw [if_pos (by rfl), hc]; rfl
  | payload => rw [if_neg (by decide), if_pos (by rfl)]; rfl
  | download | install | activate | propagate => rw [if_neg (by decide), if_neg (by decide)]; rfl
  | _ => cases hx

theorem progress_spec (s : St) (x : Stage) (hx : x.chain = true) (hn : s.nxt = x.succ)
    (hc : s.cur = x ∨ (s.cur = .failed ∧ x ≠ .c2)) :
    (progress s).cur = x.succ ∧ (progress s).nxt = x.succ.succ ∧ (progress s).err = s.err := by
  rw [progress_eq s x hx hn hc]
  exact ⟨rfl, rfl, rfl⟩

def Soft (f : St → St) : Prop := ∀ s, ((f s).cur = s.cur ∨ (f s).cur = .failed) ∧ (f s).nxt = s.nxt

theorem soft_setNext (c : Cfg) (b d : Int) : Soft (fun s => setNext c s b d) := by
  intro s; unfold setNext; split <;> exact ⟨Or.inl rfl, rfl⟩

def St.frame (s : St) : Frame Hist := ⟨s.nextExec, s.concluded, s.curT, s.hist, s.dead⟩

theorem frame_ite {p : Prop} [Decidable p] {a b s : St} (ha : a.frame = s.frame) (hb : b.frame = s.frame) :
    (if p then a else b).frame = s.frame := ite_field St.frame ha hb

/-- What the parts of a stage method other than `_progress_kill_chain` make of the state `s`: the stage stays or becomes
FAILED; the next stage and the frame stay. -/
def SoftAt (s s' : St) : Prop := (s'.cur = s.cur ∨ s'.cur = .failed) ∧ s'.nxt = s.nxt ∧ s'.frame = s.frame

theorem SoftAt.same {s s' : St} (hc : s'.cur = s.cur) (hn : s'.nxt = s.nxt) (hf : s'.frame = s.frame) : SoftAt s s' :=
  ⟨Or.inl hc, hn, hf⟩

theorem SoftAt.trans {a b c : St} (h1 : SoftAt a b) (h2 : SoftAt b c) : SoftAt a c :=
  ⟨h2.1.elim (fun h => h1.1.elim (fun h' => Or.inl (h.trans h')) (fun h' => Or.inr (h.trans h'))) Or.inr,
    h2.2.1.trans h1.2.1, h2.2.2.trans h1.2.2⟩

theorem SoftAt.ite {p : Prop} [Decidable p] {a b s : St} (ha : SoftAt s a) (hb : SoftAt s b) :
    SoftAt s (if p then a else b) := ite_pres ha hb

theorem soft_failStage (c : Cfg) (s : St) : SoftAt s (failStage c s) := SoftAt.ite (.same rfl rfl rfl) ⟨Or.inr rfl, rfl, rfl⟩

theorem soft_payloadContinue (s : St) : SoftAt s (payloadContinue s) :=
  SoftAt.ite (ite_pres_fst (Q := SoftAt s) (.same rfl rfl rfl) (ite_pres_fst (Q := SoftAt s) (.same rfl rfl rfl) (.same rfl rfl rfl)))
    (.same rfl rfl rfl)

theorem soft_payloadEnter (c : Cfg) (i : In) (s : St) : SoftAt s (payloadEnter c i s) :=
  SoftAt.ite (SoftAt.ite (.same rfl rfl rfl) (soft_failStage c _)) (.same rfl rfl rfl)

/-- What the parts of `_scan_handler` make of the state `s`, as the sequence of writes they are made of: FAILED; do-nothing
or a scan from `current_host` at `next_scan_target` as the chosen action; a configured address, the live hosts or the target
as `next_scan_target`; the scan bookkeeping; the error flag, when the `repeat_scan` draw is out of range.  What these methods
keep (`ScanEff.soft`, `ScanEff.rs`, `ScanEff.err_lastScanTs`) is read off the writes. -/
inductive ScanEff (c : Cfg) (i : In) (s : St) : St → Prop
  | refl : ScanEff c i s s
  | fail {x : St} : ScanEff c i s x → ScanEff c i s { x with cur := .failed }
  | nothing {x : St} : ScanEff c i s x → ScanEff c i s { x with chosen := Act.nothing }
  | scan {x : St} {k : Kind} (hk : k = .pingScan ∨ k = .portScan ∨ k = .reconScan) :
    ScanEff c i s x → ScanEff c i s { x with chosen := { kind := k, node := x.host, tgt := some x.nextTarget } }
  | addr {x : St} {j : Nat} {a : Val} (ha : c.addrs[j]? = some a) :
    ScanEff c i s x → ScanEff c i s { x with nextTarget := .addr j a }
  | hosts {x : St} : ScanEff c i s x → ScanEff c i s { x with nextTarget := .hosts }
  | target {x : St} : ScanEff c i s x → ScanEff c i s { x with nextTarget := .target }
  | book {x : St} {ty : ScanType} {k n : Nat} {f l : Bool} {p : PortStatus} : ScanEff c i s x →
    ScanEff c i s { x with lastScanType := ty, scansComplete := k, networksScanned := n, targetFound := f,
                           targetPort := p, liveHostsEmpty := l }
  | raise {x : St} (hd : c.addrs[i.dScan]? = none) : ScanEff c i s x → ScanEff c i s { x with err := true }

section
variable {c : Cfg} {i : In} {s0 s : St}

theorem eff_failStage (h : ScanEff c i s0 s) : ScanEff c i s0 (failStage c s) := ite_pres h h.fail

/- `book` comes last in a leaf: the values it writes are then read off the goal. -/
theorem eff_updateNextScanTarget (e : Bool) (h : ScanEff c i s0 s) : ScanEff c i s0 (updateNextScanTarget c i e s) := by
  refine ite_pres ?_ (ite_pres h.hosts h)
  cases ha : c.addrs[s.networksScanned + 1]? with
  | some a => exact (h.addr ha).book
  | none =>
    refine ite_pres h.book (ite_pres ?_ h.book)
    cases hb : c.addrs[i.dScan]? with
    | some a => exact (h.addr hb).book
    | none => exact (h.raise hb).book

theorem eff_scanResponseHandler (r : Resp) (h : ScanEff c i s0 s) : ScanEff c i s0 (scanResponseHandler c i r s) :=
  ite_pres (ite_pres h.book h.book) (ite_pres h.book (eff_updateNextScanTarget _ h.book))

theorem eff_scanMark (p : Hist) (h : ScanEff c i s0 s) : ScanEff c i s0 (scanMark p s) := ite_pres h.fail h

theorem eff_scanAbsorb (p : Hist) (h : ScanEff c i s0 s) : ScanEff c i s0 (scanAbsorb c i p s) :=
  ite_pres (eff_scanResponseHandler _ h) h

theorem eff_scanLogic (h : ScanEff c i s0 s) : ScanEff c i s0 (scanLogic s).1 :=
  ite_pres_fst h (ite_pres_fst (ite_pres_fst h h) (ite_pres_fst h h.fail))

theorem eff_scanAction (ty : ScanType) (h : ScanEff c i s0 s) : ScanEff c i s0 (scanAction ty s) := by
  cases ty with
  | ping => exact (h.scan (.inl rfl)).book
  | port => exact (h.target.scan (.inr (.inl rfl))).book
  | recon => exact (h.scan (.inr (.inr rfl))).book
  | none => exact h.fail.nothing.book
  | error => exact h.fail.nothing.book

theorem eff_scanProgress (h : ScanEff c i s0 s) : ScanEff c i s0 (scanProgress s).1 :=
  ite_pres_fst (ite_pres_fst h.nothing h) h.book

theorem eff_scanDecide (h : ScanEff c i s0 s) : ScanEff c i s0 (scanDecide c s).1 :=
  ite_pres_fst (eff_failStage h.nothing) (eff_scanProgress (eff_scanAction _ (eff_scanLogic h)))

theorem ScanEff.soft {s' : St} (h : ScanEff c i s s') : SoftAt s s' := by
  induction h with
  | refl => exact .same rfl rfl rfl
  | fail _ ih => exact ⟨Or.inr rfl, ih.2⟩
  | _ => assumption

end

/-- `_scan_handler` after the look-back at the previous scan's history item `p`. -/
theorem eff_scanBody (c : Cfg) (i : In) (p : Hist) (s : St) :
    ScanEff c i s (scanDecide c (scanAbsorb c i p (scanMark p s))).1 :=
  eff_scanDecide (eff_scanAbsorb p (eff_scanMark p .refl))

theorem soft_scanHandler (c : Cfg) (i : In) (s : St) : SoftAt s (scanHandler c i s).1 := by
  unfold scanHandler
  cases s.lastScanTs.getLast? with
  | none => exact .same rfl rfl rfl
  | some ts =>
    dsimp only
    cases pyIndex s.hist ts with
    | none => exact .same rfl rfl rfl
    | some prev =>
      exact SoftAt.trans (b := { s with lastScanTs := s.lastScanTs.dropLast ++ [s.curT] }) (.same rfl rfl rfl)
        (eff_scanBody c i prev _).soft

theorem soft_propagatePrep (c : Cfg) (s : St) : SoftAt s (propagatePrep c s) := by
  refine SoftAt.ite ?_ (.same rfl rfl rfl)
  unfold propagateReset
  cases c.addrs[0]? <;> exact .same rfl rfl rfl

theorem soft_propagateFirstScan (s : St) : SoftAt s (propagateFirstScan s) := SoftAt.same rfl rfl rfl

theorem soft_downloadAct (s : St) : SoftAt s (downloadAct s) :=
  SoftAt.ite (.same rfl rfl rfl) (SoftAt.ite (.same rfl rfl rfl) (.same rfl rfl rfl))

theorem frame_progress (s : St) : (progress s).frame = s.frame := by
  unfold progress
  refine frame_ite ?_ (frame_ite rfl ?_)
  · cases Stage.ofVal? (s.cur.val + 1) <;> rfl
  · cases Stage.ofVal? (s.nxt.val + 1) <;> rfl

theorem frame_progressIfFinished (s : St) : (progressIfFinished s).frame = s.frame := frame_ite (frame_progress s) rfl

theorem frame_payload (c : Cfg) (i : In) (s : St) : (payload c i s).frame = s.frame :=
  frame_ite rfl ((frame_progressIfFinished _).trans ((soft_payloadContinue s).trans (soft_payloadEnter c i _)).2.2)

theorem frame_c2c (c : Cfg) (i : In) (s : St) : (c2c c i s).frame = s.frame :=
  frame_ite rfl (frame_ite (frame_ite rfl (soft_failStage c _).2.2) (frame_ite (frame_ite rfl (frame_progress _)) rfl))

theorem frame_propagate (c : Cfg) (i : In) (s : St) : (propagate c i s).frame = s.frame :=
  frame_ite rfl (frame_ite ((frame_progressIfFinished _).trans (soft_scanHandler c i s).2.2)
    (frame_ite (soft_propagatePrep c s).2.2 (soft_failStage c _).2.2))

theorem frame_activate (s : St) : (activate s).frame = s.frame := frame_ite rfl (frame_progress _)

theorem frame_install (s : St) : (install s).frame = s.frame := frame_ite rfl (frame_progress _)

theorem frame_download (s : St) : (download s).frame = s.frame :=
  frame_ite rfl ((frame_progressIfFinished _).trans (soft_downloadAct s).2.2)

theorem frame_tapStart (s : St) : (tapStart s).frame = s.frame := by
  refine frame_ite rfl ?_
  cases Stage.ofVal? (Stage.download.val + 1) <;> rfl

theorem frame_bodies (c : Cfg) (i : In) (s : St) : (bodies c i s).frame = s.frame :=
  (frame_tapStart _).trans <| (frame_download _).trans <| (frame_install _).trans <| (frame_activate _).trans <|
    (frame_propagate c i _).trans <| (frame_c2c c i _).trans (frame_payload c i s)

/- Stated for variables: with `bodies c i s` in place of `a`, unifying `a.frame.nextExec` with `a.nextExec` unfolds `bodies`. -/
theorem nextExec_of_frame {a b : St} (h : a.frame = b.frame) : a.nextExec = b.nextExec := congrArg Frame.nextExec h
theorem concluded_of_frame {a b : St} (h : a.frame = b.frame) : a.concluded = b.concluded := congrArg Frame.concluded h

@[simp] theorem nextExec_bodies (c : Cfg) (i : In) (s : St) : (bodies c i s).nextExec = s.nextExec :=
  nextExec_of_frame (frame_bodies c i s)
@[simp] theorem concluded_bodies (c : Cfg) (i : In) (s : St) : (bodies c i s).concluded = s.concluded :=
  concluded_of_frame (frame_bodies c i s)

theorem res_of_soft (x : Stage) (hx : x.chain = true) (hne : x ≠ .c2) (s' s : St)
    (hs : SoftAt s s') (h : s.cur = x) (hn : s.nxt = x.succ) :
    Res x (progressIfFinished s') := by
  unfold progressIfFinished
  have hn' : s'.nxt = x.succ := by rw [hs.2.1, hn]
  split
  · have hc : s'.cur = x ∨ (s'.cur = .failed ∧ x ≠ .c2) := by
      rcases hs.1 with h1 | h1
      · exact Or.inl (by rw [h1, h])
      · exact Or.inr ⟨h1, hne⟩
    have := progress_spec s' x hx hn' hc
    exact Or.inr (Or.inl ⟨this.1, this.2.1⟩)
  · rcases hs.1 with h1 | h1
    · exact Or.inl ⟨by rw [h1, h], hn'⟩
    · exact Or.inr (Or.inr h1)

theorem res_of_soft_noprogress (x : Stage) (s' s : St) (hs : SoftAt s s') (h : s.cur = x) (hn : s.nxt = x.succ) :
    Res x s' := by
  rcases hs.1 with h1 | h1
  · exact Or.inl ⟨by rw [h1, h], by rw [hs.2.1, hn]⟩
  · exact Or.inr (Or.inr h1)

theorem fail_res (c : Cfg) (x : Stage) (s : St) (h : s.cur = x) (hn : s.nxt = x.succ) :
    Res x (failStage c { s with chosen := Act.nothing }) :=
  ite_pres (Or.inl ⟨h, hn⟩) (Or.inr (Or.inr rfl))

theorem payload_skip (c : Cfg) (i : In) (s : St) (h : s.cur ≠ .payload) : payload c i s = s := by simp [payload, h]
theorem c2c_skip (c : Cfg) (i : In) (s : St) (h : s.cur ≠ .c2) : c2c c i s = s := by simp [c2c, h]
theorem propagate_skip (c : Cfg) (i : In) (s : St) (h : s.cur ≠ .propagate) : propagate c i s = s := by simp [propagate, h]
theorem activate_skip (s : St) (h : s.cur ≠ .activate) : activate s = s := by simp [activate, h]
theorem install_skip (s : St) (h : s.cur ≠ .install) : install s = s := by simp [install, h]
theorem download_skip (s : St) (h : s.cur ≠ .download) : download s = s := by simp [download, h]
theorem tapStart_skip (s : St) (h : s.cur ≠ .notStarted) : tapStart s = s := by simp [tapStart, h]

theorem payload_fire (c : Cfg) (i : In) (s : St) (h : s.cur = .payload) (hn : s.nxt = Stage.succ .payload) :
    Res .payload (payload c i s) := by
  unfold payload
  rw [if_neg (by simp [h])]
  exact res_of_soft .payload rfl (by decide) _ s ((soft_payloadContinue s).trans (soft_payloadEnter c i _)) h hn

theorem c2c_fire (c : Cfg) (i : In) (s : St) (h : s.cur = .c2) (hn : s.nxt = Stage.succ .c2) :
    Res .c2 (c2c c i s) := by
  unfold c2c
  rw [if_neg (by simp [h])]
  have stay : ∀ r : St, r.cur = s.cur → r.nxt = s.nxt → Res .c2 r := fun r hc hn' => Or.inl ⟨hc.trans h, hn'.trans hn⟩
  refine ite_pres (P := Res .c2) (ite_pres (stay _ rfl rfl) ?_) (ite_pres (ite_pres (stay _ rfl rfl) ?_) (stay _ rfl rfl))
  · exact fail_res c .c2 s h hn
  · have := progress_spec { s with chosen := { kind := .executeC2, node := s.host } } .c2 rfl hn (Or.inl h)
    exact Or.inr (Or.inl ⟨this.1, this.2.1⟩)

theorem propagate_fire (c : Cfg) (i : In) (s : St) (h : s.cur = .propagate) (hn : s.nxt = Stage.succ .propagate) :
    Res .propagate (propagate c i s) := by
  unfold propagate
  rw [if_neg (by simp [h])]
  split
  · exact res_of_soft .propagate rfl (by decide) _ s (soft_scanHandler c i s) h hn
  · split
    · exact res_of_soft_noprogress .propagate _ s ((soft_propagatePrep c s).trans (soft_propagateFirstScan _)) h hn
    · exact fail_res c .propagate s h hn

theorem activate_fire (s : St) (h : s.cur = .activate) (hn : s.nxt = Stage.succ .activate) : Res .activate (activate s) := by
  unfold activate
  rw [if_neg (by simp [h])]
  have := progress_spec { s with host := s.startNode, prog := .finished, chosen := { kind := .installRansomware, node := s.startNode } }
    .activate rfl hn (Or.inl h)
  exact Or.inr (Or.inl ⟨this.1, this.2.1⟩)

theorem install_fire (s : St) (h : s.cur = .install) (hn : s.nxt = Stage.succ .install) : Res .install (install s) := by
  unfold install
  rw [if_neg (by simp [h])]
  have := progress_spec { s with host := s.startNode, chosen := { kind := .fileAccess, node := s.startNode } } .install rfl hn (Or.inl h)
  exact Or.inr (Or.inl ⟨this.1, this.2.1⟩)

theorem download_fire (s : St) (h : s.cur = .download) (hn : s.nxt = Stage.succ .download) : Res .download (download s) := by
  unfold download
  rw [if_neg (by simp [h])]
  exact res_of_soft .download rfl (by decide) _ s (soft_downloadAct s) h hn

theorem tapStart_eq (s : St) (hc : s.cur = .notStarted) :
    tapStart s = { s with cur := .download, nxt := .install, chosen := Act.nothing } := by
  unfold tapStart
  rw [if_neg (fun h => h hc)]; rfl

theorem tapStart_fire (s : St) (h : s.cur = .notStarted) :
    (tapStart s).cur = .download ∧ (tapStart s).nxt = .install ∧ (tapStart s).chosen = Act.nothing ∧
    (tapStart s).err = s.err := by
  rw [tapStart_eq s h]
  exact ⟨rfl, rfl, rfl, rfl⟩

def rank : Stage → Nat
  | .notStarted => 0 | .download => 1 | .install => 2 | .activate => 3 | .propagate => 4 | .c2 => 5 | .payload => 6
  | .succeeded => 7 | .failed => 7

def bodyAt (c : Cfg) (i : In) : Nat → St → St
  | 0 => tapStart | 1 => download | 2 => install | 3 => activate | 4 => propagate c i | 5 => c2c c i | 6 => payload c i
  | _ => id

def applyDown (c : Cfg) (i : In) : Nat → St → St
  | 0, s => bodyAt c i 0 s
  | r + 1, s => applyDown c i r (bodyAt c i (r + 1) s)

/-- `get_action` calls the stage methods from the last stage down to `_tap_start`. -/
theorem bodies_eq (c : Cfg) (i : In) (s : St) : bodies c i s = applyDown c i 6 s := rfl

theorem bodyAt_skip (c : Cfg) (i : In) (r : Nat) (s : St) (h : rank s.cur ≠ r) : bodyAt c i r s = s := by
  have hne : ∀ x, rank x = r → s.cur ≠ x := fun x hx hc => h (hc ▸ hx)
  match r with
  | 0 => exact tapStart_skip s (hne _ rfl)
  | 1 => exact download_skip s (hne _ rfl)
  | 2 => exact install_skip s (hne _ rfl)
  | 3 => exact activate_skip s (hne _ rfl)
  | 4 => exact propagate_skip c i s (hne _ rfl)
  | 5 => exact c2c_skip c i s (hne _ rfl)
  | 6 => exact payload_skip c i s (hne _ rfl)
  | _ + 7 => rfl

theorem applyDown_skip (c : Cfg) (i : In) : ∀ (r : Nat) (s : St), r < rank s.cur → applyDown c i r s = s := by
  intro r
  induction r with
  | zero => intro s h; exact bodyAt_skip c i 0 s (by omega)
  | succ r ih =>
    intro s h
    simp only [applyDown]
    rw [bodyAt_skip c i (r + 1) s (by omega)]
    exact ih s (by omega)

theorem applyDown_reach (c : Cfg) (i : In) (s : St) :
    ∀ (r : Nat), rank s.cur ≤ r → applyDown c i r s = applyDown c i (rank s.cur) s := by
  intro r
  induction r with
  | zero => intro h; rw [Nat.le_zero.mp h]
  | succ r ih =>
    intro h
    rcases Nat.lt_or_ge (rank s.cur) (r + 1) with hlt | hge
    · simp only [applyDown]
      rw [bodyAt_skip c i (r + 1) s (by omega)]
      exact ih (by omega)
    · rw [Nat.le_antisymm h hge]

theorem bodyAt_fire (c : Cfg) (i : In) (x : Stage) (hx : x.chain = true) (s : St) (h : s.cur = x) (hn : s.nxt = x.succ) :
    Res x (bodyAt c i (rank x) s) := by
  cases x <;> simp [Stage.chain] at hx
  · exact download_fire s h hn
  · exact install_fire s h hn
  · exact activate_fire s h hn
  · exact propagate_fire c i s h hn
  · exact c2c_fire c i s h hn
  · exact payload_fire c i s h hn

theorem rank_le_succ (a : Stage) (h : a.chain = true) : rank a ≤ rank a.succ := by
  revert h; cases a <;> decide

theorem rank_le_failed (a : Stage) : rank a ≤ rank .failed := by
  cases a <;> decide

theorem res_rank (x : Stage) (hx : x.chain = true) (s : St) (h : Res x s) : rank x ≤ rank s.cur := by
  rcases h with ⟨h, _⟩ | ⟨h, _⟩ | h <;> rw [h]
  · exact Nat.le_refl _
  · exact rank_le_succ x hx
  · exact rank_le_failed x

/-- On a kill-chain stage `x` only the method of `x` acts: the later ones do not match `x`, and the earlier ones do not
match what it leaves (`res_rank`). -/
theorem bodies_at (c : Cfg) (i : In) (x : Stage) (hx : x.chain = true) (s : St) (h : s.cur = x) (hn : s.nxt = x.succ) :
    bodies c i s = bodyAt c i (rank x) s := by
  have hr : 1 ≤ rank x ∧ rank x ≤ 6 := by cases x <;> simp_all [Stage.chain, rank]
  rw [bodies_eq, applyDown_reach c i s 6 (by rw [h]; exact hr.2), h]
  obtain ⟨k, hk⟩ : ∃ k, rank x = k + 1 := ⟨rank x - 1, by omega⟩
  have hrk := res_rank x hx _ (bodyAt_fire c i x hx s h hn)
  rw [hk] at hrk ⊢
  simp only [applyDown]
  rw [applyDown_skip c i k _ (by omega)]

theorem bodies_chain (c : Cfg) (i : In) (x : Stage) (hx : x.chain = true) (s : St) (h : s.cur = x) (hn : s.nxt = x.succ) :
    Res x (bodies c i s) := by
  rw [bodies_at c i x hx s h hn]
  exact bodyAt_fire c i x hx s h hn

theorem bodies_of_notStarted (c : Cfg) (i : In) (s : St) (h : s.cur = .notStarted) : bodies c i s = tapStart s := by
  rw [bodies_eq, applyDown_reach c i s 6 (by rw [h]; simp [rank]), h]
  rfl

theorem bodies_notStarted (c : Cfg) (i : In) (s : St) (h : s.cur = .notStarted) :
    (bodies c i s).cur = .download ∧ (bodies c i s).nxt = .install := by
  rw [bodies_of_notStarted c i s h]
  exact ⟨(tapStart_fire s h).1, (tapStart_fire s h).2.1⟩

theorem bodies_terminal (c : Cfg) (i : In) (s : St) (h : s.cur = .succeeded ∨ s.cur = .failed) : bodies c i s = s := by
  rw [bodies_eq]
  exact applyDown_skip c i 6 s (by rcases h with h | h <;> rw [h] <;> simp [rank])

theorem setNext_fields (c : Cfg) (s : St) (b d : Int) :
    (setNext c s b d).cur = s.cur ∧ (setNext c s b d).nxt = s.nxt ∧ (setNext c s b d).concluded = s.concluded :=
  ⟨ite_field St.cur rfl rfl, ite_field St.nxt rfl rfl, ite_field St.concluded rfl rfl⟩

theorem setNext_chosen (c : Cfg) (s : St) (b d : Int) : (setNext c s b d).chosen = s.chosen :=
  ite_field St.chosen rfl rfl

theorem outcome_other (c : Cfg) (s : St) (h1 : s.cur ≠ .succeeded) (h2 : s.cur ≠ .failed) : outcomeHandler c s = s := by
  simp [outcomeHandler, h1, h2]

theorem outcome_terminal (c : Cfg) (s : St) (h : s.cur = .succeeded ∨ s.cur = .failed) (hc : s.concluded = false) :
    (c.repeatKillChain = true → (outcomeHandler c s).cur = .notStarted ∧ (outcomeHandler c s).nxt = .download ∧
        (outcomeHandler c s).concluded = false) ∧
    (c.repeatKillChain = false → (outcomeHandler c s).cur = s.cur ∧ (outcomeHandler c s).nxt = s.nxt ∧
        (outcomeHandler c s).concluded = true) := by
  unfold outcomeHandler
  rw [if_pos h]
  simp only [hc, Bool.false_eq_true, if_false]
  constructor
  · intro hr; simp [hr]
  · intro hr; simp [hr]

theorem outcome_chosen (c : Cfg) (s : St) (h : s.cur = .succeeded ∨ s.cur = .failed) :
    (outcomeHandler c s).chosen = Act.nothing := by
  unfold outcomeHandler
  rw [if_pos h]
  exact ite_field St.chosen rfl (ite_field _ rfl rfl)

theorem setNext_next (c : Cfg) (s : St) (b d : Int) :
    (0 ≤ c.variance → (setNext c s b d).nextExec = b + d ∧ (setNext c s b d).err = s.err) ∧
    (c.variance < 0 → (setNext c s b d).err = true) := by
  constructor
  · intro h; simp [setNext, randintOk, h]
  · intro h
    have : ¬ (0 ≤ c.variance) := by omega
    simp [setNext, St.raise, randintOk, this]

theorem err_outcomeHandler (c : Cfg) (s : St) : (outcomeHandler c s).err = s.err :=
  ite_field St.err (ite_field _ rfl (ite_field _ rfl rfl)) rfl

/-- What the head of an execution slot (`_set_next_execution_timestep`, then `_tap_outcome_handler`) makes of the state
`s` of an agent that has not concluded, `r` being the state after it: the stage is left alone unless it is SUCCEEDED or
FAILED; then the chain restarts (`repeat_kill_chain`) or the agent concludes, keeping the stage and choosing do-nothing. -/
def SlotHead (c : Cfg) (s r : St) : Prop :=
  ((s.cur ≠ .succeeded ∧ s.cur ≠ .failed) ∧ r.cur = s.cur ∧ r.nxt = s.nxt ∧ r.concluded = false) ∨
  ((s.cur = .succeeded ∨ s.cur = .failed) ∧ c.repeatKillChain = true ∧
    r.cur = .notStarted ∧ r.nxt = .download ∧ r.concluded = false) ∨
  ((s.cur = .succeeded ∨ s.cur = .failed) ∧ c.repeatKillChain = false ∧
    r.cur = s.cur ∧ r.nxt = s.nxt ∧ r.concluded = true ∧ r.chosen = Act.nothing)

theorem slot_head (c : Cfg) (s : St) (b d : Int) (hcon : s.concluded = false) :
    SlotHead c s (outcomeHandler c (setNext c s b d)) := by
  obtain ⟨hc, hn, hk⟩ := setNext_fields c s b d
  by_cases ht : s.cur = .succeeded ∨ s.cur = .failed
  · have ht' : (setNext c s b d).cur = .succeeded ∨ (setNext c s b d).cur = .failed := hc ▸ ht
    obtain ⟨hrep, hnorep⟩ := outcome_terminal c _ ht' (hk.trans hcon)
    cases hr : c.repeatKillChain with
    | true => exact Or.inr (Or.inl ⟨ht, hr, hrep hr⟩)
    | false =>
      obtain ⟨h1, h2, h3⟩ := hnorep hr
      exact Or.inr (Or.inr ⟨ht, hr, h1.trans hc, h2.trans hn, h3, outcome_chosen c _ ht'⟩)
  · have hns : s.cur ≠ .succeeded := fun h => ht (Or.inl h)
    have hnf : s.cur ≠ .failed := fun h => ht (Or.inr h)
    rw [outcome_other c _ (hc ▸ hns) (hc ▸ hnf)]
    exact Or.inl ⟨⟨hns, hnf⟩, hc, hn, hk.trans hcon⟩

theorem head_ended (c : Cfg) (q : St) (b d : Int) (ht : q.cur = .succeeded ∨ q.cur = .failed) (hc : q.concluded = false)
    (r : St) (hr : r = outcomeHandler c (setNext c q b d)) :
    r.chosen = Act.nothing ∧ (0 ≤ c.variance → r.err = q.err) ∧
    ((c.repeatKillChain = true ∧ r.cur = .notStarted ∧ r.concluded = false) ∨
     (c.repeatKillChain = false ∧ (r.cur = .succeeded ∨ r.cur = .failed) ∧ r.concluded = true)) := by
  obtain ⟨e1, _, e3⟩ := setNext_fields c q b d
  have ht' : (setNext c q b d).cur = .succeeded ∨ (setNext c q b d).cur = .failed := e1 ▸ ht
  obtain ⟨hrep, hnorep⟩ := outcome_terminal c _ ht' (e3.trans hc)
  refine hr ▸ ⟨outcome_chosen c _ ht', fun hv => (err_outcomeHandler c _).trans ((setNext_next c q b d).1 hv).2, ?_⟩
  cases hr' : c.repeatKillChain with
  | true => exact Or.inl ⟨rfl, (hrep hr').1, (hrep hr').2.2⟩
  | false => exact Or.inr ⟨rfl, (hnorep hr').1 ▸ ht', (hnorep hr').2.2⟩

/-- The branch that repeats the previous action is the head of the slot and a second scheduling call. -/
theorem failPath_head (c : Cfg) (s : St) (t : Int) (i : In) (hcon : s.concluded = false) :
    SlotHead c s (failPath c s t i) := by
  unfold failPath
  generalize hq : outcomeHandler c (setNext c s (t + c.frequency) i.d1) = q
  have hq := hq ▸ slot_head c s (t + c.frequency) i.d1 hcon
  obtain ⟨hc, hn, hk⟩ := setNext_fields c { q with curT := t } (t + c.frequency) i.d2
  have hch := setNext_chosen c { q with curT := t } (t + c.frequency) i.d2
  rcases hq with ⟨h0, h1, h2, h3⟩ | ⟨h0, hr, h1, h2, h3⟩ | ⟨h0, hr, h1, h2, h3, h4⟩
  · exact Or.inl ⟨h0, hc.trans h1, hn.trans h2, hk.trans h3⟩
  · exact Or.inr (Or.inl ⟨h0, hr, hc.trans h1, hn.trans h2, hk.trans h3⟩)
  · exact Or.inr (Or.inr ⟨h0, hr, hc.trans h1, hn.trans h2, hk.trans h3, hch.trans h4⟩)

/-- The main path is the head of the slot, then the stage methods: on a stage that goes on they run from a state `q` with
the stage of `s`; after a restart `_tap_start` enters DOWNLOAD; on a concluded agent they do nothing. -/
theorem mainPath_cases (c : Cfg) (s : St) (t : Int) (i : In) (hcon : s.concluded = false) :
    (∃ q, (s.cur ≠ .succeeded ∧ s.cur ≠ .failed) ∧ q.cur = s.cur ∧ q.nxt = s.nxt ∧ q.concluded = false ∧
      mainPath c s t i = bodies c i q) ∨
    ((s.cur = .succeeded ∨ s.cur = .failed) ∧ c.repeatKillChain = true ∧
      (mainPath c s t i).cur = .download ∧ (mainPath c s t i).nxt = .install ∧ (mainPath c s t i).concluded = false) ∨
    ((s.cur = .succeeded ∨ s.cur = .failed) ∧ c.repeatKillChain = false ∧ (mainPath c s t i).cur = s.cur ∧
      (mainPath c s t i).nxt = s.nxt ∧ (mainPath c s t i).concluded = true ∧ (mainPath c s t i).chosen = Act.nothing) := by
  unfold mainPath
  generalize hq : outcomeHandler c (setNext c { s with curT := t } (t + c.frequency) i.d1) = q
  rcases hq ▸ slot_head c { s with curT := t } (t + c.frequency) i.d1 hcon with
    ⟨h0, h1, h2, h3⟩ | ⟨h0, hr, h1, _, h3⟩ | ⟨h0, hr, h1, h2, h3, h4⟩
  · exact Or.inl ⟨q, h0, h1, h2, h3, rfl⟩
  · obtain ⟨hb1, hb2⟩ := bodies_notStarted c i q h1
    exact Or.inr (Or.inl ⟨h0, hr, hb1, hb2, (concluded_bodies c i q).trans h3⟩)
  · rw [bodies_terminal c i q (h1 ▸ h0)]
    exact Or.inr (Or.inr ⟨h0, hr, h1, h2, h3, h4⟩)

theorem returnHandler_spec (c : Cfg) (h : Hist) (s : St) :
    ((returnHandler c h s).cur = s.cur ∨ (returnHandler c h s).cur = .failed ∧ c.repeatStages = false) ∧
    (returnHandler c h s).nxt = s.nxt ∧ (returnHandler c h s).frame = s.frame := by
  unfold returnHandler
  split
  · rename_i hcond; exact ⟨Or.inr ⟨rfl, by simpa using hcond.2⟩, rfl, rfl⟩
  · exact ⟨Or.inl rfl, rfl, rfl⟩

/-- If `get_action` goes on to the stage methods, `_tap_return_handler` changed nothing: had it set FAILED, the response
was not a success, and FAILED is neither PROPAGATE nor PAYLOAD. -/
theorem passes_returnHandler (c : Cfg) (h : Hist) (s : St) (hp : passes c h (returnHandler c h s) = true) :
    returnHandler c h s = s := by
  unfold returnHandler at hp ⊢
  split
  · rename_i hcond
    rw [if_pos hcond] at hp
    simp [passes, hcond.1] at hp
  · rfl

/-- The four ways through `get_action`: before the schedule (or concluded); no history item to look back at
(`IndexError`); on to the stage methods (then `_tap_return_handler` changed nothing); or the branch that repeats the
previous action, from the state `q` that `_tap_return_handler` left.  The new state is named `r`, so that using an equation
does not unfold the path. -/
theorem getAction_cases (c : Cfg) (s : St) (t : Int) (i : In) :
    (executes s t = false ∧ getAction c s t i = (s, Act.nothing)) ∨
    (executes s t = true ∧ lookBack s = none ∧ getAction c s t i = (s.raise, Act.nothing)) ∨
    (∃ h r, executes s t = true ∧ lookBack s = some h ∧ passes c h s = true ∧ returnHandler c h s = s ∧
      r = mainPath c s t i ∧ getAction c s t i = (r, r.chosen)) ∨
    (∃ h q r, executes s t = true ∧ lookBack s = some h ∧
      (q.cur = s.cur ∨ q.cur = .failed ∧ c.repeatStages = false) ∧ q.nxt = s.nxt ∧ q.frame = s.frame ∧
      r = failPath c q t i ∧ getAction c s t i = (r, r.chosen)) := by
  unfold getAction
  cases hex : executes s t with
  | false => exact Or.inl ⟨rfl, rfl⟩
  | true =>
    rw [if_neg (not_not_intro rfl)]
    cases hh : lookBack s with
    | none => exact Or.inr (Or.inl ⟨rfl, rfl, rfl⟩)
    | some h =>
      dsimp only
      cases hp : passes c h (returnHandler c h s) with
      | true =>
        have e := passes_returnHandler c h s hp
        rw [e] at hp ⊢
        exact Or.inr (Or.inr (Or.inl ⟨h, _, rfl, rfl, hp, e, rfl, if_pos rfl⟩))
      | false =>
        obtain ⟨h1, h2, h3⟩ := returnHandler_spec c h s
        exact Or.inr (Or.inr (Or.inr ⟨h, _, _, rfl, rfl, h1, h2, h3, rfl, if_neg Bool.false_ne_true⟩))

theorem executes_concluded {s : St} {t : Int} (hex : executes s t = true) : s.concluded = false := by
  simp [executes] at hex; exact hex.2

theorem mainPath_stage (c : Cfg) (s : St) (t : Int) (i : In) (hinv : Inv s) (hcon : s.concluded = false) :
    Allowed c s.cur (mainPath c s t i).cur ∧ Inv (mainPath c s t i) := by
  rcases mainPath_cases c s t i hcon with ⟨q, ⟨hns, hnf⟩, hc, hn, _, he⟩ | ⟨hterm, hrep, hc, hn, _⟩ | ⟨_, _, hc, hn, _⟩
  · rw [he]
    have hnx : q.nxt = s.cur.succ := hn.trans (hinv.resolve_left hnf)
    rcases Stage.kinds s.cur with hch | hnst | hs | hf
    · rcases bodies_chain c i s.cur hch q hc hnx with ⟨hc', hn'⟩ | ⟨hc', hn'⟩ | hc'
      · exact ⟨Or.inl hc', Or.inr (by rw [hc', hn'])⟩
      · exact ⟨Or.inr (Or.inl ⟨hch, hc'⟩), Or.inr (by rw [hc', hn'])⟩
      · exact ⟨Or.inr (Or.inr (Or.inl hc')), Or.inl hc'⟩
    · obtain ⟨hb1, hb2⟩ := bodies_notStarted c i q (hc.trans hnst)
      exact ⟨Or.inr (Or.inr (Or.inr (Or.inl ⟨hnst, hb1⟩))), Or.inr (by rw [hb1, hb2]; rfl)⟩
    · exact absurd hs hns
    · exact absurd hf hnf
  · exact ⟨Or.inr (Or.inr (Or.inr (Or.inr (Or.inl ⟨hrep, hterm, Or.inr hc⟩)))), Or.inr (by rw [hc, hn]; rfl)⟩
  · exact ⟨Or.inl hc, by unfold Inv; rw [hc, hn]; exact hinv⟩

/-- The branch that repeats the previous action, from the state `q` that `_tap_return_handler` made of `s`. -/
theorem failPath_stage (c : Cfg) (s q : St) (t : Int) (i : In) (hinv : Inv s) (hcon : q.concluded = false)
    (hc : q.cur = s.cur ∨ q.cur = .failed ∧ c.repeatStages = false) (hn : q.nxt = s.nxt) :
    Allowed c s.cur (failPath c q t i).cur ∧ Inv (failPath c q t i) := by
  have hq := failPath_head c q t i hcon
  generalize failPath c q t i = r at hq ⊢
  unfold Inv
  rcases hq with ⟨⟨_, hnf⟩, hc', hn', _⟩ | ⟨hterm, hrep, hc', hn', _⟩ | ⟨_, _, hc', hn', _⟩
  · rw [hc', hn', hc.resolve_right (fun h => hnf h.1), hn]
    exact ⟨Or.inl rfl, hinv⟩
  · rw [hc', hn']
    refine ⟨?_, Or.inr rfl⟩
    rcases hc with he | ⟨_, hrs⟩
    · exact Or.inr (Or.inr (Or.inr (Or.inr (Or.inl ⟨hrep, he ▸ hterm, Or.inl rfl⟩))))
    · exact Or.inr (Or.inr (Or.inr (Or.inr (Or.inr ⟨hrep, hrs, rfl⟩))))
  · rw [hc', hn']
    rcases hc with he | ⟨hf, _⟩
    · rw [he, hn]; exact ⟨Or.inl rfl, hinv⟩
    · exact ⟨Or.inr (Or.inr (Or.inl hf)), Or.inl hf⟩

/-- **One call of `TAP001.get_action` moves the stage only as `Allowed` says, and keeps `next = successor of current`.** -/
theorem getAction_stage (c : Cfg) (s : St) (t : Int) (i : In) (hinv : Inv s) :
    Allowed c s.cur (getAction c s t i).1.cur ∧ Inv (getAction c s t i).1 := by
  rcases getAction_cases c s t i with ⟨_, he⟩ | ⟨_, _, he⟩ | ⟨h, r, hex, _, _, _, hr, he⟩ |
      ⟨h, q, r, hex, _, hc, hn, hf, hr, he⟩ <;> rw [he]
  · exact ⟨Or.inl rfl, hinv⟩
  · exact ⟨Or.inl rfl, hinv⟩
  · have := mainPath_stage c s t i hinv (executes_concluded hex)
    rw [← hr] at this; exact this
  · have := failPath_stage c s q t i hinv ((concluded_of_frame hf).trans (executes_concluded hex)) hc hn
    rw [← hr] at this; exact this

theorem C19_tap1_stage_step (c : Cfg) (s : St) (t : Int) (i : In) (hinv : Inv s) :
    Allowed c s.cur (step c s t i).1.cur ∧ Inv (step c s t i).1 :=
  ite_pres (P := fun r : St × Out => Allowed c s.cur r.1.cur ∧ Inv r.1) ⟨Or.inl rfl, hinv⟩
    (ite_pres (P := fun r : St × Out => Allowed c s.cur r.1.cur ∧ Inv r.1) ⟨Or.inl rfl, hinv⟩ (getAction_stage c s t i hinv))

/-- States after each tick of a run that feeds timesteps `t, t+1, …`. -/
def run (c : Cfg) : St → Int → List In → List St
  | _, _, [] => []
  | s, t, i :: is => (step c s t i).1 :: run c (step c s t i).1 (t + 1) is

def Linked (R : Stage → Stage → Prop) : Stage → List St → Prop
  | _, [] => True
  | a, s :: rest => R a s.cur ∧ Linked R s.cur rest

theorem run_inv (c : Cfg) (P : St → Prop) (hstep : ∀ s t i, P s → P (step c s t i).1) :
    ∀ (ins : List In) (s : St) (t : Int), P s → ∀ s' ∈ run c s t ins, P s' :=
  iter_forall_mem (run c) (fun _ _ => rfl) (fun _ _ _ _ => rfl) P P fun s t i h => ⟨hstep s t i h, hstep s t i h⟩

theorem run_linked (c : Cfg) : ∀ (ins : List In) (s : St) (t : Int), Inv s → Linked (Allowed c) s.cur (run c s t ins) := by
  intro ins
  induction ins with
  | nil => intro s t _; exact trivial
  | cons i is ih =>
    intro s t hinv
    obtain ⟨ha, hi⟩ := C19_tap1_stage_step c s t i hinv
    exact ⟨ha, ih _ (t + 1) hi⟩

theorem init_some (c : Cfg) (d0 : Int) (k1 k2 : Nat) (s0 : St) (h0 : init c d0 k1 k2 = some s0) :
    (randintOk c.variance ∧ 0 < c.nAddr ∧ (pick c.startingNodes c.defaultStartingNode k1).isSome ∧
      (pick c.targetIps c.defaultTargetIp k2).isSome) ∧
    s0 = { nextExec := c.startStep + d0, exfiltrate := c.exfiltrate, corrupt := c.corrupt,
           startNode := (pick c.startingNodes c.defaultStartingNode k1).getD "",
           targetIp := (pick c.targetIps c.defaultTargetIp k2).getD "",
           host := (pick c.startingNodes c.defaultStartingNode k1).getD "",
           nextTarget := .addr 0 (c.addrs.headD "") } := by
  unfold init at h0
  split at h0
  · exact ⟨‹_›, (Option.some.inj h0).symm⟩
  · cases h0

theorem init_spec {c : Cfg} {d0 : Int} {k1 k2 : Nat} {s0 : St} (h0 : init c d0 k1 k2 = some s0) :
    Inv s0 ∧ s0.nextExec = c.startStep + d0 ∧ 0 ≤ c.variance ∧ s0.dead = false ∧ s0.concluded = false := by
  obtain ⟨hv, rfl⟩ := init_some c d0 k1 k2 s0 h0
  exact ⟨Or.inr rfl, rfl, by simpa [randintOk] using hv.1, rfl, rfl⟩

/-- **stage_monotone** (TAP001). For every configuration, every schedule/trial/scan draw and every sequence of
simulator responses, the stage sampled after each tick is related to the previous one by `Allowed`: it stays,
moves to the *next* stage of the chain (PAYLOAD's next is SUCCEEDED), becomes FAILED, leaves NOT_STARTED for
DOWNLOAD, or — only with `repeat_kill_chain` — restarts from SUCCEEDED/FAILED. -/
theorem C19_tap1_stage_monotone (c : Cfg) (d0 : Int) (k1 k2 : Nat) (s0 : St) (ins : List In) (h0 : init c d0 k1 k2 = some s0) :
    Linked (Allowed c) s0.cur (run c s0 0 ins) ∧ ∀ s ∈ run c s0 0 ins, Inv s :=
  ⟨run_linked c ins s0 0 (init_spec h0).1,
    run_inv c Inv (fun s t i h => (C19_tap1_stage_step c s t i h).2) ins s0 0 (init_spec h0).1⟩

/-- **no_skip**: a stage other than the first is only ever entered from its predecessor. -/
theorem C19_tap1_no_skip (c : Cfg) (a b : Stage) (h : Allowed c a b) (hb : b.chain = true) (hne : b ≠ a)
    (hfirst : b ≠ .download) : a.chain = true ∧ b = a.succ := by
  rcases h with h | ⟨hc, h⟩ | h | ⟨_, h⟩ | ⟨_, _, h | h⟩ | ⟨_, _, h⟩
  · exact absurd h hne
  · exact ⟨hc, h⟩
  · rw [h] at hb; simp [Stage.chain] at hb
  · exact absurd h hfirst
  · rw [h] at hb; simp [Stage.chain] at hb
  · exact absurd h hfirst
  · rw [h] at hb; simp [Stage.chain] at hb

/-- SUCCEEDED is entered only from PAYLOAD. -/
theorem C19_tap1_succeeded_only_from_payload (c : Cfg) (a : Stage) (h : Allowed c a .succeeded) (hne : a ≠ .succeeded) :
    a = .payload := by
  revert h hne
  cases a <;> simp [Allowed, Stage.succ, Stage.chain]

/-- Non-vacuity: with every response successful the agent walks DOWNLOAD … PAYLOAD, SUCCEEDED and concludes. -/
def exCfg : Cfg :=
  { startStep := 1, frequency := 1, variance := 0, repeatKillChain := false, repeatStages := true,
    pPropagate := ⟨1, 1⟩, pC2 := ⟨1, 1⟩, pPayload := ⟨1, 1⟩, scanAttempts := 20, repeatScan := false, addrs := ["10.0.0.0/24", "10.0.1.0/24"],
    exfiltrate := true, corrupt := true, continueOnFailedExfil := true }

def exIn : In :=
  { d1 := 0, d2 := 0, u := ⟨0, 1⟩, dScan := 0, resp := { ok := true, hostsEmpty := false, containsTarget := true, hasPg := true } }

example : ∃ s0, init exCfg 0 0 0 = some s0 ∧
    ((run exCfg s0 0 (List.replicate 20 exIn)).map (·.cur)).eraseDups
      = [.notStarted, .download, .install, .activate, .propagate, .c2, .payload, .succeeded] ∧
    ((run exCfg s0 0 (List.replicate 20 exIn)).getLast?.map (·.concluded)) = some true := by
  refine ⟨_, rfl, ?_, ?_⟩ <;> decide +kernel

/-- **ends_per_settings (absorbing).** Once `actions_concluded` is set, every later call returns do-nothing and
changes nothing. -/
theorem C19_tap1_concluded_absorbing (c : Cfg) (s : St) (t : Int) (i : In) (h : s.concluded = true) :
    getAction c s t i = (s, Act.nothing) := by
  simp [getAction, executes, h]

/-- An execution slot that finds the chain SUCCEEDED or FAILED returns do-nothing, does not raise (unless `randint`'s range
is empty), and restarts the chain or concludes the agent, as `repeat_kill_chain` says. -/
theorem ended_slot (c : Cfg) (s : St) (t : Int) (i : In) (h : Hist) (hterm : s.cur = .succeeded ∨ s.cur = .failed)
    (hex : executes s t = true) (hh : lookBack s = some h) :
    (getAction c s t i).2 = Act.nothing ∧ (0 ≤ c.variance → (getAction c s t i).1.err = s.err) ∧
    ((c.repeatKillChain = true ∧ (getAction c s t i).1.concluded = false ∧
      ((getAction c s t i).1.cur = .notStarted ∨ (getAction c s t i).1.cur = .download)) ∨
     (c.repeatKillChain = false ∧ (getAction c s t i).1.concluded = true ∧
      ((getAction c s t i).1.cur = .succeeded ∨ (getAction c s t i).1.cur = .failed))) := by
  -- `_tap_return_handler` leaves an ended chain ended
  have h1 : ((returnHandler c h s).cur = .succeeded ∨ (returnHandler c h s).cur = .failed) ∧
      (returnHandler c h s).concluded = false ∧ (returnHandler c h s).err = s.err :=
    ite_pres (P := fun x : St => (x.cur = .succeeded ∨ x.cur = .failed) ∧ x.concluded = false ∧ x.err = s.err)
      ⟨Or.inr rfl, executes_concluded hex, rfl⟩ ⟨hterm, executes_concluded hex, rfl⟩
  unfold getAction
  rw [if_neg (by simp [hex])]
  simp only [hh]
  generalize returnHandler c h s = s1 at h1 ⊢
  split
  · unfold mainPath
    obtain ⟨hch, herr, hcase⟩ := head_ended c { s1 with curT := t } (t + c.frequency) i.d1 h1.1 h1.2.1 _ rfl
    generalize outcomeHandler c (setNext c { s1 with curT := t } (t + c.frequency) i.d1) = q at hch herr hcase ⊢
    rcases hcase with ⟨hr, hc, hk⟩ | ⟨hr, hc, hk⟩
    · -- restart: only `_tap_start` acts
      rw [bodies_of_notStarted c i q hc]
      obtain ⟨f1, _, f3, f4⟩ := tapStart_fire q hc
      exact ⟨f3, fun hv => f4.trans ((herr hv).trans h1.2.2),
        Or.inl ⟨hr, (concluded_of_frame (frame_tapStart q)).trans hk, Or.inr f1⟩⟩
    · rw [bodies_terminal c i q hc]
      exact ⟨hch, fun hv => (herr hv).trans h1.2.2, Or.inr ⟨hr, hk, hc⟩⟩
  · -- the head, `update_current_timestep`, and a second scheduling call
    unfold failPath
    obtain ⟨hch, herr, hcase⟩ := head_ended c s1 (t + c.frequency) i.d1 h1.1 h1.2.1 _ rfl
    generalize outcomeHandler c (setNext c s1 (t + c.frequency) i.d1) = q at hch herr hcase ⊢
    obtain ⟨e1, _, e3⟩ := setNext_fields c { q with curT := t } (t + c.frequency) i.d2
    refine ⟨(setNext_chosen c _ _ _).trans hch,
      fun hv => ((setNext_next c _ _ _).1 hv).2.trans ((herr hv).trans h1.2.2), ?_⟩
    rw [e1, e3]
    exact hcase.imp (fun ⟨a, b, k⟩ => ⟨a, k, Or.inl b⟩) (fun ⟨a, b, k⟩ => ⟨a, k, b⟩)

/-- **ends_per_settings (stop).** Without `repeat_kill_chain`, the first execution slot that finds the chain
SUCCEEDED or FAILED sets `actions_concluded`, leaves the stage SUCCEEDED or FAILED, and returns do-nothing.  (A chain that
SUCCEEDED turns FAILED in that slot when the response to its last action was a failure and stages are not repeated.) -/
theorem C19_tap1_stops (c : Cfg) (s : St) (t : Int) (i : In) (h : Hist)
    (hrep : c.repeatKillChain = false) (hterm : s.cur = .succeeded ∨ s.cur = .failed)
    (hex : executes s t = true) (hh : lookBack s = some h) :
    (getAction c s t i).1.concluded = true ∧
    ((getAction c s t i).1.cur = .succeeded ∨ (getAction c s t i).1.cur = .failed) ∧
    (getAction c s t i).2 = Act.nothing :=
  have he := ended_slot c s t i h hterm hex hh
  he.2.2.elim (fun h' => absurd (hrep.symm.trans h'.1) Bool.false_ne_true) fun h' => ⟨h'.2.1, h'.2.2, he.1⟩

/-- **ends_per_settings (restart).** With `repeat_kill_chain`, the first execution slot that finds the chain
SUCCEEDED or FAILED puts the agent back to NOT_STARTED (and, on the main path, straight into DOWNLOAD); it never
sets `actions_concluded`. -/
theorem C19_tap1_restarts (c : Cfg) (s : St) (t : Int) (i : In) (h : Hist)
    (hrep : c.repeatKillChain = true) (hterm : s.cur = .succeeded ∨ s.cur = .failed)
    (hex : executes s t = true) (hh : lookBack s = some h) :
    (getAction c s t i).1.concluded = false ∧
    ((getAction c s t i).1.cur = .notStarted ∨ (getAction c s t i).1.cur = .download) :=
  (ended_slot c s t i h hterm hex hh).2.2.elim And.right (fun h' => absurd (h'.1.symm.trans hrep) Bool.false_ne_true)

/-- **progress_only_after_success.** The stage advances to its successor only in an execution slot whose look-back
response (`history[current_timestep]`, the response to the agent's previous execution) was a success — except in
PROPAGATE (which inspects scan responses itself) and in PAYLOAD after a failed exfiltration with
`continue_on_failed_exfil`. -/
theorem C19_tap1_progress_only_after_success (c : Cfg) (s : St) (t : Int) (i : In)
    (hch : s.cur.chain = true) (hadv : (getAction c s t i).1.cur = s.cur.succ) :
    executes s t = true ∧ ∃ h, lookBack s = some h ∧
      (h.resp.ok = true ∨ s.cur = .propagate ∨
        (s.cur = .payload ∧ s.prog = .inProgress ∧ c.continueOnFailedExfil = true)) := by
  have hne : s.cur.succ ≠ s.cur ∧ s.cur.succ ≠ .failed ∧ s.cur.succ ≠ .notStarted := by
    revert hch; cases s.cur <;> decide
  rcases getAction_cases c s t i with ⟨_, he⟩ | ⟨_, _, he⟩ | ⟨h, _, hex, hh, hp, _⟩ |
      ⟨_, q, r, hex, _, hc, _, hf, hr, he⟩
  · rw [he] at hadv; exact absurd hadv.symm hne.1
  · rw [he] at hadv; exact absurd hadv.symm hne.1
  · exact ⟨hex, h, hh, by simpa [passes, or_assoc, and_assoc] using hp⟩
  · -- the repeat-previous-action branch never advances: it ends in the stage it found, in FAILED or in NOT_STARTED
    exfalso
    rw [he] at hadv
    have hq : q.cur = s.cur ∨ q.cur = .failed := hc.imp_right And.left
    rcases hr ▸ failPath_head c q t i ((concluded_of_frame hf).trans (executes_concluded hex)) with
      ⟨_, hc', _⟩ | ⟨_, _, hc', _⟩ | ⟨_, _, hc', _⟩
    · exact hq.elim (fun e => hne.1 (hadv.symm.trans (hc'.trans e))) (fun e => hne.2.1 (hadv.symm.trans (hc'.trans e)))
    · exact hne.2.2 (hadv.symm.trans hc')
    · exact hq.elim (fun e => hne.1 (hadv.symm.trans (hc'.trans e))) (fun e => hne.2.1 (hadv.symm.trans (hc'.trans e)))

/-- Outputs of a run that feeds timesteps `t, t+1, …`. -/
def runOut (c : Cfg) : St → Int → List In → List (Int × Out)
  | _, _, [] => []
  | s, t, i :: is => (t, (step c s t i).2) :: runOut c (step c s t i).1 (t + 1) is

/-- A tick that does not get past the schedule guard returns do-nothing and changes nothing but the history. -/
theorem C19_tap1_idle_tick (c : Cfg) (s : St) (t : Int) (i : In) (h : executes s t = false) :
    getAction c s t i = (s, Act.nothing) := by
  simp [getAction, h]

theorem step_act (c : Cfg) (s : St) (t : Int) (i : In) (a : Act) (h : (step c s t i).2 = .act a) (hne : a ≠ Act.nothing) :
    s.dead = false ∧ executes s t = true := by
  cases hd : s.dead with
  | true => simp [step, hd] at h
  | false =>
    refine ⟨rfl, ?_⟩
    cases hex : executes s t with
    | true => rfl
    | false =>
      -- an idle tick returns do-nothing (or raises)
      unfold step at h
      rw [if_neg (by simp [hd]), C19_tap1_idle_tick c s t i hex] at h
      split at h <;> cases h
      exact absurd rfl hne

@[simp] theorem nextExec_outcomeHandler (c : Cfg) (s : St) : (outcomeHandler c s).nextExec = s.nextExec :=
  ite_field St.nextExec (ite_field _ rfl (ite_field _ rfl rfl)) rfl

/-- **Every execution slot reschedules by `frequency + d`** (TAP001): a call that passes the schedule guard, finds its
look-back history item, and does not raise leaves `next_execution_timestep = t + frequency + d` where `d` is the
step's last `randint(-variance, variance)` draw (`d1`, or `d2` on the repeat-previous-action branch).  With
`|d| ≤ variance` the next slot is therefore no earlier than `t + frequency − variance` and no later than
`t + max 1 (frequency + variance)`. -/
theorem C19_tap1_reschedules (c : Cfg) (s : St) (t : Int) (i : In) (h : Hist)
    (hex : executes s t = true) (hh : lookBack s = some h) (hv : 0 ≤ c.variance) :
    (getAction c s t i).1.nextExec = t + c.frequency + i.d1 ∨
    (getAction c s t i).1.nextExec = t + c.frequency + i.d2 := by
  unfold getAction
  rw [if_neg (by simp [hex])]
  simp only [hh]
  split
  · left
    unfold mainPath
    simp only [nextExec_bodies, nextExec_outcomeHandler]
    exact ((setNext_next c _ (t + c.frequency) i.d1).1 hv).1
  · right
    unfold failPath
    exact ((setNext_next c _ (t + c.frequency) i.d2).1 hv).1

/-- A negative variance makes the constructor raise (`randint` on an empty range, in the first scheduling call of
`setup_agent`) — the agent never acts. -/
theorem C19_tap1_negative_variance_raises (c : Cfg) (d0 : Int) (k1 k2 : Nat) (h : c.variance < 0) : init c d0 k1 k2 = none := by
  unfold init
  rw [if_neg]
  intro hc
  have := hc.1
  simp [randintOk] at this
  omega

end Tap1

namespace Tap3

/-- Successor in the part of the chain the agent implements: `RECONNAISSANCE → PLANNING → ACCESS → MANIPULATION →
EXPLOIT → SUCCEEDED`; `NOT_STARTED →` first stage, `SUCCEEDED → NOT_STARTED`. (EMBED … ERASE are enum members the agent
never enters; their successor is immaterial.) -/
def Stage.succ : Stage → Stage
  | .reconnaissance => .planning | .planning => .access | .access => .manipulation | .manipulation => .exploit
  | .exploit => .succeeded | .notStarted => .reconnaissance | .succeeded => .notStarted | .failed => .failed
  | .embed => .conceal | .conceal => .extract | .extract => .erase | .erase => .failed

def Stage.chain : Stage → Bool
  | .reconnaissance | .planning | .access | .manipulation | .exploit => true
  | _ => false

def rank : Stage → Nat
  | .notStarted => 0 | .reconnaissance => 1 | .planning => 2 | .access => 3 | .manipulation => 4 | .exploit => 5
  | .succeeded => 7 | .failed => 7 | .embed => 8 | .conceal => 8 | .extract => 8 | .erase => 8

theorem Stage.kinds (x : Stage) :
    x.chain = true ∨ x = .notStarted ∨ x = .succeeded ∨ x = .failed ∨ 5 < rank x := by
  cases x <;> decide

def Inv (s : St) : Prop := s.cur = .failed ∨ s.nxt = s.cur.succ

def Allowed (c : Cfg) (a b : Stage) : Prop :=
  b = a ∨ (a.chain = true ∧ b = a.succ) ∨ b = .failed ∨ (a = .notStarted ∧ b = .reconnaissance) ∨
  (c.repeatKillChain = true ∧ (a = .succeeded ∨ a = .failed) ∧ (b = .notStarted ∨ b = .reconnaissance)) ∨
  (c.repeatKillChain = true ∧ c.repeatStages = false ∧ b = .notStarted)

def Res (x : Stage) (s : St) : Prop :=
  (s.cur = x ∧ s.nxt = x.succ) ∨ (s.cur = x.succ ∧ s.nxt = x.succ.succ) ∨ s.cur = .failed

theorem progress_eq (s : St) (x : Stage) (hx : x.chain = true) (hn : s.nxt = x.succ) (hc : s.cur = x) :
    progress s = { s with cur := x.succ, nxt := x.succ.succ, prog := .pending } := by
  unfold progress
  rw [hn, hc]
  cases x with
  | manipulation => rw [if_pos (by rfl)]; rfl
  | exploit => rw [if_neg (by decide), if_pos (by rfl)]; rfl
  | reconnaissance | planning | access => rw [if_neg (by decide), if_neg (by decide)]; rfl
  | _ => cases hx

theorem progress_spec (s : St) (x : Stage) (hx : x.chain = true) (hn : s.nxt = x.succ) (hc : s.cur = x) :
    (progress s).cur = x.succ ∧ (progress s).nxt = x.succ.succ ∧ (progress s).err = s.err := by
  rw [progress_eq s x hx hn hc]
  exact ⟨rfl, rfl, rfl⟩

def Soft (f : St → St) : Prop := ∀ s, ((f s).cur = s.cur ∨ (f s).cur = .failed) ∧ (f s).nxt = s.nxt

def St.frame (s : St) : Frame Hist := ⟨s.nextExec, s.concluded, s.curT, s.hist, s.dead⟩

theorem nextExec_of_frame {a b : St} (h : a.frame = b.frame) : a.nextExec = b.nextExec := congrArg Frame.nextExec h
theorem concluded_of_frame {a b : St} (h : a.frame = b.frame) : a.concluded = b.concluded := congrArg Frame.concluded h
theorem hist_of_frame {a b : St} (h : a.frame = b.frame) : a.hist = b.hist := congrArg Frame.hist h
theorem curT_of_frame {a b : St} (h : a.frame = b.frame) : a.curT = b.curT := congrArg Frame.curT h

theorem frame_ite {p : Prop} [Decidable p] {a b s : St} (ha : a.frame = s.frame) (hb : b.frame = s.frame) :
    (if p then a else b).frame = s.frame := ite_field St.frame ha hb

/-- `s'` has the stage, the next stage and the frame of `s`: what the response handlers and the action-choosing halves of
MANIPULATION and EXPLOIT do to the state. -/
def Kept (s s' : St) : Prop := s'.cur = s.cur ∧ s'.nxt = s.nxt ∧ s'.frame = s.frame

theorem Kept.ite {p : Prop} [Decidable p] {a b s : St} (ha : Kept s a) (hb : Kept s b) : Kept s (if p then a else b) :=
  ite_pres ha hb

theorem Kept.trans {a b c : St} (h1 : Kept a b) (h2 : Kept b c) : Kept a c :=
  ⟨h2.1.trans h1.1, h2.2.1.trans h1.2.1, h2.2.2.trans h1.2.2⟩

theorem Kept.soft {f : St → St} (h : ∀ s, Kept s (f s)) : Soft f := fun s => ⟨Or.inl (h s).1, (h s).2.1⟩

theorem kept_handleLogin (s : St) : Kept s (handleLogin s) := by
  unfold handleLogin
  cases s.hist.getLast? with
  | none => exact ⟨rfl, rfl, rfl⟩
  | some h => exact Kept.ite (Kept.ite ⟨rfl, rfl, rfl⟩ ⟨rfl, rfl, rfl⟩) ⟨rfl, rfl, rfl⟩

theorem kept_handleChangePw (c : Cfg) (s : St) : Kept s (handleChangePw c s) := by
  unfold handleChangePw
  cases s.hist.getLast? with
  | none => exact ⟨rfl, rfl, rfl⟩
  | some h =>
    cases s.chgPwTarget with
    | none => exact ⟨rfl, rfl, rfl⟩
    | some tgt => exact Kept.ite ⟨rfl, rfl, rfl⟩ (Kept.ite ⟨rfl, rfl, rfl⟩ ⟨rfl, rfl, rfl⟩)

theorem kept_preGuardHandlers (c : Cfg) (s : St) : Kept s (preGuardHandlers c s) :=
  (kept_handleLogin s).trans (kept_handleChangePw c _)

theorem kept_reasonCheck (h : Hist) (s : St) : Kept s (reasonCheck h s) := Kept.ite ⟨rfl, rfl, rfl⟩ ⟨rfl, rfl, rfl⟩

theorem kept_manipBegin (s : St) : Kept s (manipBegin s) := Kept.ite ⟨rfl, rfl, rfl⟩ ⟨rfl, rfl, rfl⟩

theorem kept_manipAct (c : Cfg) (s : St) : Kept s (manipAct c s) := by
  unfold manipAct
  cases manipPick s with
  | none => exact ⟨rfl, rfl, rfl⟩
  | some aq =>
    obtain ⟨a, q1⟩ := aq
    refine Kept.ite ?_ ?_
    · cases s.creds.get s.startNode <;> exact ⟨rfl, rfl, rfl⟩
    · generalize (s.creds.get a.host).bind (·.ip) = oip
      cases s.creds.get a.host with
      | none => exact ⟨rfl, rfl, rfl⟩
      | some cr =>
        cases oip with
        | none => exact ⟨rfl, rfl, rfl⟩
        | some ip => exact Kept.ite ⟨rfl, rfl, rfl⟩ ⟨rfl, rfl, rfl⟩

theorem kept_exploitAct (a : Acl) (cr : Cred) (ip : Val) (s : St) : Kept s (exploitAct a cr ip s) :=
  Kept.ite ⟨rfl, rfl, rfl⟩ ⟨rfl, rfl, rfl⟩

theorem kept_exploitEnter (s : St) : Kept s (exploitEnter s) := Kept.ite ⟨rfl, rfl, rfl⟩ ⟨rfl, rfl, rfl⟩

theorem frame_failStage (c : Cfg) (s : St) : (failStage c s).frame = s.frame := frame_ite rfl rfl

theorem frame_progress (s : St) : (progress s).frame = s.frame := by
  unfold progress
  refine frame_ite ?_ (frame_ite rfl ?_)
  · cases Stage.ofVal? (s.cur.val + 1) <;> rfl
  · cases Stage.ofVal? (s.nxt.val + 1) <;> rfl

theorem frame_manipFinish (s : St) : (manipFinish s).frame = s.frame := frame_ite (frame_progress s) rfl

theorem frame_manipulation (c : Cfg) (i : In) (s : St) : (manipulation c i s).frame = s.frame :=
  frame_ite rfl (frame_ite
    ((frame_manipFinish _).trans (((kept_manipBegin s).trans (kept_manipAct c _)).2.2)) (frame_failStage c _))

theorem frame_exploitFinish (s : St) : (exploitFinish s).frame = s.frame := frame_ite (frame_progress _) rfl

theorem frame_exploitBody (c : Cfg) (s : St) : (exploitBody c s).frame = s.frame := by
  unfold exploitBody
  refine frame_ite (frame_progress _) ?_
  cases c.acls[s.curAcl]? with
  | none => rfl
  | some a =>
    dsimp only
    generalize (s.creds.get a.router).bind (·.ip) = oip
    cases s.creds.get a.router with
    | none => rfl
    | some cr =>
      cases oip with
      | none => rfl
      | some ip => exact (frame_exploitFinish _).trans (kept_exploitAct a cr ip _).2.2

theorem frame_exploit (c : Cfg) (i : In) (s : St) : (exploit c i s).frame = s.frame :=
  frame_ite rfl (frame_ite (frame_failStage c _) ((frame_exploitBody c _).trans (kept_exploitEnter s).2.2))

theorem frame_access (c : Cfg) (i : In) (s : St) : (access c i s).frame = s.frame :=
  frame_ite rfl (frame_ite (frame_progress s) (frame_failStage c _))

theorem frame_planning (c : Cfg) (i : In) (s : St) : (planning c i s).frame = s.frame :=
  frame_ite rfl (frame_ite ((frame_progress _).trans (frame_ite rfl rfl)) (frame_failStage c _))

theorem frame_reconnaissance (s : St) : (reconnaissance s).frame = s.frame := frame_ite rfl (frame_progress _)

theorem frame_tapStart (s : St) : (tapStart s).frame = s.frame := by
  refine frame_ite rfl ?_
  cases Stage.ofVal? (Stage.reconnaissance.val + 1) <;> rfl

theorem frame_bodies (c : Cfg) (i : In) (s : St) : (bodies c i s).frame = s.frame :=
  (frame_tapStart _).trans <| (frame_reconnaissance _).trans <| (frame_planning c i _).trans <|
    (frame_access c i _).trans <| (frame_manipulation c i _).trans (frame_exploit c i s)

@[simp] theorem nextExec_bodies (c : Cfg) (i : In) (s : St) : (bodies c i s).nextExec = s.nextExec :=
  nextExec_of_frame (frame_bodies c i s)
@[simp] theorem concluded_bodies (c : Cfg) (i : In) (s : St) : (bodies c i s).concluded = s.concluded :=
  concluded_of_frame (frame_bodies c i s)

theorem soft_setNext (c : Cfg) (b d : Int) : Soft (fun s => setNext c s b d) := by
  intro s; simp only [setNext, St.raise]; split <;> simp

theorem soft_manipBegin : Soft manipBegin := Kept.soft kept_manipBegin

theorem soft_manipAct (c : Cfg) : Soft (manipAct c) := Kept.soft (kept_manipAct c)

theorem exploit_skip (c : Cfg) (i : In) (s : St) (h : s.cur ≠ .exploit) : exploit c i s = s := by simp [exploit, h]
theorem manipulation_skip (c : Cfg) (i : In) (s : St) (h : s.cur ≠ .manipulation) : manipulation c i s = s := by
  simp [manipulation, h]
theorem access_skip (c : Cfg) (i : In) (s : St) (h : s.cur ≠ .access) : access c i s = s := by simp [access, h]
theorem planning_skip (c : Cfg) (i : In) (s : St) (h : s.cur ≠ .planning) : planning c i s = s := by simp [planning, h]
theorem reconnaissance_skip (s : St) (h : s.cur ≠ .reconnaissance) : reconnaissance s = s := by simp [reconnaissance, h]
theorem tapStart_skip (s : St) (h : s.cur ≠ .notStarted) : tapStart s = s := by simp [tapStart, h]

theorem fail_res (c : Cfg) (x : Stage) (s : St) (h : s.cur = x) (hn : s.nxt = x.succ) :
    Res x (failStage c { s with chosen := Act.nothing }) :=
  ite_pres (Or.inl ⟨h, hn⟩) (Or.inr (Or.inr rfl))

theorem exploitBody_fire (c : Cfg) (s : St) (h : s.cur = .exploit) (hn : s.nxt = Stage.succ .exploit) :
    Res .exploit (exploitBody c s) := by
  unfold exploitBody
  split
  · have := progress_spec { s with numAcls := 0, chosen := Act.nothing } .exploit rfl hn h
    exact Or.inr (Or.inl ⟨this.1, this.2.1⟩)
  split
  · exact Or.inl ⟨h, hn⟩
  · rename_i a _
    split
    · rename_i cr ip _ _
      obtain ⟨hc, hx, _⟩ := kept_exploitAct a cr ip { s with numAcls := c.acls.length }
      unfold exploitFinish
      split
      · have := progress_spec { exploitAct a cr ip { s with numAcls := c.acls.length } with curAcl := 0 } .exploit rfl
          (hx.trans hn) (hc.trans h)
        exact Or.inr (Or.inl ⟨this.1, this.2.1⟩)
      · exact Or.inl ⟨hc.trans h, hx.trans hn⟩
    · exact Or.inl ⟨h, hn⟩

theorem exploit_fire (c : Cfg) (i : In) (s : St) (h : s.cur = .exploit) (hn : s.nxt = Stage.succ .exploit) :
    Res .exploit (exploit c i s) := by
  unfold exploit
  rw [if_neg (by simp [h])]
  split
  · exact fail_res c .exploit s h hn
  · have k := kept_exploitEnter s
    exact exploitBody_fire c _ (k.1.trans h) (k.2.1.trans hn)

theorem manipulation_fire (c : Cfg) (i : In) (s : St) (h : s.cur = .manipulation) (hn : s.nxt = Stage.succ .manipulation) :
    Res .manipulation (manipulation c i s) := by
  unfold manipulation
  rw [if_neg (by simp [h])]
  split
  · have hcn : (manipAct c (manipBegin s)).cur = .manipulation ∧ (manipAct c (manipBegin s)).nxt = Stage.succ .manipulation :=
      have k := (kept_manipBegin s).trans (kept_manipAct c _)
      ⟨k.1.trans h, k.2.1.trans hn⟩
    unfold manipFinish
    split
    · have := progress_spec (manipAct c (manipBegin s)) .manipulation rfl hcn.2 hcn.1
      exact Or.inr (Or.inl ⟨this.1, this.2.1⟩)
    · exact Or.inl hcn
  · exact fail_res c .manipulation s h hn

theorem access_fire (c : Cfg) (i : In) (s : St) (h : s.cur = .access) (hn : s.nxt = Stage.succ .access) :
    Res .access (access c i s) := by
  unfold access
  rw [if_neg (by simp [h])]
  split
  · have := progress_spec s .access rfl hn h
    exact Or.inr (Or.inl ⟨this.1, this.2.1⟩)
  · exact fail_res c .access s h hn

theorem planning_fire (c : Cfg) (i : In) (s : St) (h : s.cur = .planning) (hn : s.nxt = Stage.succ .planning) :
    Res .planning (planning c i s) := by
  unfold planning
  rw [if_neg (by simp [h])]
  split
  · have := progress_spec (if s.planned then s else { s with creds := c.creds0, planned := true }) .planning rfl
      (by split <;> exact hn) (by split <;> exact h)
    exact Or.inr (Or.inl ⟨this.1, this.2.1⟩)
  · exact fail_res c .planning s h hn

theorem reconnaissance_fire (s : St) (h : s.cur = .reconnaissance) (hn : s.nxt = Stage.succ .reconnaissance) :
    Res .reconnaissance (reconnaissance s) := by
  unfold reconnaissance
  rw [if_neg (by simp [h])]
  have := progress_spec { s with chosen := Act.nothing } .reconnaissance rfl hn h
  exact Or.inr (Or.inl ⟨this.1, this.2.1⟩)

theorem tapStart_eq (s : St) (hc : s.cur = .notStarted) :
    tapStart s = { s with cur := .reconnaissance, nxt := .planning, chosen := Act.nothing } := by
  unfold tapStart
  rw [if_neg (fun h => h hc)]; rfl

theorem tapStart_fire (s : St) (h : s.cur = .notStarted) :
    (tapStart s).cur = .reconnaissance ∧ (tapStart s).nxt = .planning ∧ (tapStart s).chosen = Act.nothing ∧
    (tapStart s).err = s.err := by
  rw [tapStart_eq s h]
  exact ⟨rfl, rfl, rfl, rfl⟩

def bodyAt (c : Cfg) (i : In) : Nat → St → St
  | 0 => tapStart | 1 => reconnaissance | 2 => planning c i | 3 => access c i | 4 => manipulation c i | 5 => exploit c i
  | _ => id

def applyDown (c : Cfg) (i : In) : Nat → St → St
  | 0, s => bodyAt c i 0 s
  | r + 1, s => applyDown c i r (bodyAt c i (r + 1) s)

theorem bodies_eq (c : Cfg) (i : In) (s : St) : bodies c i s = applyDown c i 5 s := rfl

theorem bodyAt_skip (c : Cfg) (i : In) (r : Nat) (s : St) (h : rank s.cur ≠ r) : bodyAt c i r s = s := by
  have hne : ∀ x, rank x = r → s.cur ≠ x := fun x hx hc => h (hc ▸ hx)
  match r with
  | 0 => exact tapStart_skip s (hne _ rfl)
  | 1 => exact reconnaissance_skip s (hne _ rfl)
  | 2 => exact planning_skip c i s (hne _ rfl)
  | 3 => exact access_skip c i s (hne _ rfl)
  | 4 => exact manipulation_skip c i s (hne _ rfl)
  | 5 => exact exploit_skip c i s (hne _ rfl)
  | _ + 6 => rfl

theorem applyDown_skip (c : Cfg) (i : In) : ∀ (r : Nat) (s : St), r < rank s.cur → applyDown c i r s = s := by
  intro r
  induction r with
  | zero => intro s h; exact bodyAt_skip c i 0 s (by omega)
  | succ r ih =>
    intro s h
    simp only [applyDown]
    rw [bodyAt_skip c i (r + 1) s (by omega)]
    exact ih s (by omega)

theorem applyDown_reach (c : Cfg) (i : In) (s : St) :
    ∀ (r : Nat), rank s.cur ≤ r → applyDown c i r s = applyDown c i (rank s.cur) s := by
  intro r
  induction r with
  | zero => intro h; rw [Nat.le_zero.mp h]
  | succ r ih =>
    intro h
    rcases Nat.lt_or_ge (rank s.cur) (r + 1) with hlt | hge
    · simp only [applyDown]
      rw [bodyAt_skip c i (r + 1) s (by omega)]
      exact ih (by omega)
    · rw [Nat.le_antisymm h hge]

theorem bodyAt_fire (c : Cfg) (i : In) (x : Stage) (hx : x.chain = true) (s : St) (h : s.cur = x) (hn : s.nxt = x.succ) :
    Res x (bodyAt c i (rank x) s) := by
  cases x <;> simp [Stage.chain] at hx
  · exact reconnaissance_fire s h hn
  · exact planning_fire c i s h hn
  · exact access_fire c i s h hn
  · exact manipulation_fire c i s h hn
  · exact exploit_fire c i s h hn

theorem res_rank (x : Stage) (hx : x.chain = true) (s : St) (h : Res x s) : rank x ≤ rank s.cur := by
  have hr : rank x ≤ rank x.succ ∧ rank x ≤ rank .failed := by revert hx; cases x <;> decide
  rcases h with ⟨h, _⟩ | ⟨h, _⟩ | h <;> rw [h]
  · exact Nat.le_refl _
  · exact hr.1
  · exact hr.2

/-- On a kill-chain stage `x` only the method of `x` acts: the later ones do not match `x`, and the earlier ones do not
match what it leaves (`res_rank`). -/
theorem bodies_is_bodyAt (c : Cfg) (i : In) (x : Stage) (hx : x.chain = true) (s : St) (h : s.cur = x) (hn : s.nxt = x.succ) :
    bodies c i s = bodyAt c i (rank x) s := by
  have hr : 1 ≤ rank x ∧ rank x ≤ 5 := by cases x <;> simp_all [Stage.chain, rank]
  rw [bodies_eq, applyDown_reach c i s 5 (by rw [h]; exact hr.2), h]
  obtain ⟨k, hk⟩ : ∃ k, rank x = k + 1 := ⟨rank x - 1, by omega⟩
  have hrk := res_rank x hx _ (bodyAt_fire c i x hx s h hn)
  rw [hk] at hrk ⊢
  simp only [applyDown]
  rw [applyDown_skip c i k _ (by omega)]

theorem bodies_chain (c : Cfg) (i : In) (x : Stage) (hx : x.chain = true) (s : St) (h : s.cur = x) (hn : s.nxt = x.succ) :
    Res x (bodies c i s) := by
  rw [bodies_is_bodyAt c i x hx s h hn]
  exact bodyAt_fire c i x hx s h hn

theorem bodies_of_notStarted (c : Cfg) (i : In) (s : St) (h : s.cur = .notStarted) : bodies c i s = tapStart s := by
  rw [bodies_eq, applyDown_reach c i s 5 (by rw [h]; simp [rank]), h]
  rfl

theorem bodies_notStarted (c : Cfg) (i : In) (s : St) (h : s.cur = .notStarted) :
    (bodies c i s).cur = .reconnaissance ∧ (bodies c i s).nxt = .planning := by
  rw [bodies_of_notStarted c i s h]
  exact ⟨(tapStart_fire s h).1, (tapStart_fire s h).2.1⟩

theorem bodies_terminal (c : Cfg) (i : In) (s : St) (h : s.cur = .succeeded ∨ s.cur = .failed) : bodies c i s = s := by
  rw [bodies_eq]
  exact applyDown_skip c i 5 s (by rcases h with h | h <;> rw [h] <;> simp [rank])

theorem setNext_fields (c : Cfg) (s : St) (b d : Int) :
    (setNext c s b d).cur = s.cur ∧ (setNext c s b d).nxt = s.nxt ∧ (setNext c s b d).concluded = s.concluded :=
  ⟨ite_field St.cur rfl rfl, ite_field St.nxt rfl rfl, ite_field St.concluded rfl rfl⟩

theorem setNext_chosen (c : Cfg) (s : St) (b d : Int) : (setNext c s b d).chosen = s.chosen :=
  ite_field St.chosen rfl rfl

theorem outcome_other (c : Cfg) (s : St) (h1 : s.cur ≠ .succeeded) (h2 : s.cur ≠ .failed) : outcomeHandler c s = s := by
  simp [outcomeHandler, h1, h2]

theorem outcome_cur (c : Cfg) (s : St) : (outcomeHandler c s).cur = s.cur ∨ (outcomeHandler c s).cur = .notStarted := by
  unfold outcomeHandler
  repeat' split
  all_goals first | exact Or.inl rfl | exact Or.inr rfl

theorem outcome_terminal (c : Cfg) (s : St) (h : s.cur = .succeeded ∨ s.cur = .failed) (hc : s.concluded = false) :
    (c.repeatKillChain = true → (outcomeHandler c s).cur = .notStarted ∧ (outcomeHandler c s).nxt = .reconnaissance ∧
        (outcomeHandler c s).concluded = false) ∧
    (c.repeatKillChain = false → (outcomeHandler c s).cur = s.cur ∧ (outcomeHandler c s).nxt = s.nxt ∧
        (outcomeHandler c s).concluded = true) := by
  unfold outcomeHandler
  rw [if_pos h]
  simp only [hc, Bool.false_eq_true, if_false]
  constructor
  · intro hr; simp [hr]
  · intro hr; simp [hr]

theorem outcome_chosen (c : Cfg) (s : St) (h : s.cur = .succeeded ∨ s.cur = .failed) :
    (outcomeHandler c s).chosen = Act.nothing := by
  unfold outcomeHandler
  rw [if_pos h]
  exact ite_field St.chosen rfl (ite_field _ rfl rfl)

theorem err_setNext (c : Cfg) (s : St) (b d : Int) (hv : 0 ≤ c.variance) : (setNext c s b d).err = s.err := by
  simp [setNext, randintOk, hv]

theorem err_outcomeHandler (c : Cfg) (s : St) : (outcomeHandler c s).err = s.err :=
  ite_field St.err (ite_field _ rfl (ite_field _ rfl rfl)) rfl

/-- What the head of an execution slot (`_set_next_execution_timestep`, then `_tap_outcome_handler`) makes of the state
`s` of an agent that has not concluded, `r` being the state after it (see `Tap1.SlotHead`). -/
def SlotHead (c : Cfg) (s r : St) : Prop :=
  ((s.cur ≠ .succeeded ∧ s.cur ≠ .failed) ∧ r.cur = s.cur ∧ r.nxt = s.nxt ∧ r.concluded = false) ∨
  ((s.cur = .succeeded ∨ s.cur = .failed) ∧ c.repeatKillChain = true ∧
    r.cur = .notStarted ∧ r.nxt = .reconnaissance ∧ r.concluded = false) ∨
  ((s.cur = .succeeded ∨ s.cur = .failed) ∧ c.repeatKillChain = false ∧
    r.cur = s.cur ∧ r.nxt = s.nxt ∧ r.concluded = true ∧ r.chosen = Act.nothing)

theorem slot_head (c : Cfg) (s : St) (b d : Int) (hcon : s.concluded = false) :
    SlotHead c s (outcomeHandler c (setNext c s b d)) := by
  obtain ⟨hc, hn, hk⟩ := setNext_fields c s b d
  by_cases ht : s.cur = .succeeded ∨ s.cur = .failed
  · have ht' : (setNext c s b d).cur = .succeeded ∨ (setNext c s b d).cur = .failed := hc ▸ ht
    obtain ⟨hrep, hnorep⟩ := outcome_terminal c _ ht' (hk.trans hcon)
    cases hr : c.repeatKillChain with
    | true => exact Or.inr (Or.inl ⟨ht, hr, hrep hr⟩)
    | false =>
      obtain ⟨h1, h2, h3⟩ := hnorep hr
      exact Or.inr (Or.inr ⟨ht, hr, h1.trans hc, h2.trans hn, h3, outcome_chosen c _ ht'⟩)
  · have hns : s.cur ≠ .succeeded := fun h => ht (Or.inl h)
    have hnf : s.cur ≠ .failed := fun h => ht (Or.inr h)
    rw [outcome_other c _ (hc ▸ hns) (hc ▸ hnf)]
    exact Or.inl ⟨⟨hns, hnf⟩, hc, hn, hk.trans hcon⟩

theorem head_ended (c : Cfg) (q : St) (b d : Int) (ht : q.cur = .succeeded ∨ q.cur = .failed) (hc : q.concluded = false)
    (r : St) (hr : r = outcomeHandler c (setNext c q b d)) :
    r.chosen = Act.nothing ∧ (0 ≤ c.variance → r.err = q.err) ∧
    ((c.repeatKillChain = true ∧ r.cur = .notStarted ∧ r.concluded = false) ∨
     (c.repeatKillChain = false ∧ (r.cur = .succeeded ∨ r.cur = .failed) ∧ r.concluded = true)) := by
  obtain ⟨e1, _, e3⟩ := setNext_fields c q b d
  have ht' : (setNext c q b d).cur = .succeeded ∨ (setNext c q b d).cur = .failed := e1 ▸ ht
  obtain ⟨hrep, hnorep⟩ := outcome_terminal c _ ht' (e3.trans hc)
  refine hr ▸ ⟨outcome_chosen c _ ht', fun hv => (err_outcomeHandler c _).trans (err_setNext c q b d hv), ?_⟩
  cases hr' : c.repeatKillChain with
  | true => exact Or.inl ⟨rfl, (hrep hr').1, (hrep hr').2.2⟩
  | false => exact Or.inr ⟨rfl, (hnorep hr').1 ▸ ht', (hnorep hr').2.2⟩

/-- The branch that repeats the previous action is just the head of the slot. -/
theorem failPath_head (c : Cfg) (s : St) (t : Int) (i : In) (hcon : s.concluded = false) :
    SlotHead c s (failPath c s t i) :=
  slot_head c { s with curT := t } (t + c.frequency) i.d1 hcon

/-- The main path is the head of the slot, then the stage methods: on a stage that goes on they run from a state `q` with
the stage of `s`; after a restart `_tap_start` enters RECONNAISSANCE; on a concluded agent they do nothing. -/
theorem mainPath_cases (c : Cfg) (s : St) (t : Int) (i : In) (hcon : s.concluded = false) :
    (∃ q, (s.cur ≠ .succeeded ∧ s.cur ≠ .failed) ∧ q.cur = s.cur ∧ q.nxt = s.nxt ∧ q.concluded = false ∧
      mainPath c s t i = bodies c i q) ∨
    ((s.cur = .succeeded ∨ s.cur = .failed) ∧ c.repeatKillChain = true ∧ (mainPath c s t i).cur = .reconnaissance ∧
      (mainPath c s t i).nxt = .planning ∧ (mainPath c s t i).concluded = false) ∨
    ((s.cur = .succeeded ∨ s.cur = .failed) ∧ c.repeatKillChain = false ∧ (mainPath c s t i).cur = s.cur ∧
      (mainPath c s t i).nxt = s.nxt ∧ (mainPath c s t i).concluded = true ∧ (mainPath c s t i).chosen = Act.nothing) := by
  unfold mainPath
  generalize hq : outcomeHandler c (setNext c { s with curT := t } (t + c.frequency) i.d1) = q
  rcases hq ▸ slot_head c { s with curT := t } (t + c.frequency) i.d1 hcon with
    ⟨h0, h1, h2, h3⟩ | ⟨h0, hr, h1, _, h3⟩ | ⟨h0, hr, h1, h2, h3, h4⟩
  · exact Or.inl ⟨q, h0, h1, h2, h3, rfl⟩
  · obtain ⟨hb1, hb2⟩ := bodies_notStarted c i q h1
    exact Or.inr (Or.inl ⟨h0, hr, hb1, hb2, (concluded_bodies c i q).trans h3⟩)
  · rw [bodies_terminal c i q (h1 ▸ h0)]
    exact Or.inr (Or.inr ⟨h0, hr, h1, h2, h3, h4⟩)

theorem returnHandler_spec (c : Cfg) (h : Hist) (s : St) :
    ((returnHandler c h s).cur = s.cur ∨ (returnHandler c h s).cur = .failed ∧ c.repeatStages = false) ∧
    (returnHandler c h s).nxt = s.nxt ∧ (returnHandler c h s).frame = s.frame := by
  unfold returnHandler
  split
  · rename_i hcond; exact ⟨Or.inr ⟨rfl, by simpa using hcond.2⟩, rfl, rfl⟩
  · exact ⟨Or.inl rfl, rfl, rfl⟩

theorem returnHandler_soft (c : Cfg) (h : Hist) : Soft (returnHandler c h) :=
  fun s => ⟨(returnHandler_spec c h s).1.imp_right And.left, (returnHandler_spec c h s).2.1⟩

theorem passes_returnHandler (c : Cfg) (h : Hist) (s : St) (hp : passes h (returnHandler c h s) = true) :
    returnHandler c h s = s := by
  unfold returnHandler at hp ⊢
  split
  · rename_i hcond
    rw [if_pos hcond] at hp
    simp [passes, hcond.1] at hp
  · rfl

theorem executes_of_frame {a b : St} (h : a.frame = b.frame) (t : Int) : executes a t = executes b t := by
  unfold executes; rw [nextExec_of_frame h, concluded_of_frame h]

theorem lookBack_of_frame {a b : St} (h : a.frame = b.frame) : lookBack a = lookBack b := by
  unfold lookBack; rw [hist_of_frame h, curT_of_frame h]

theorem executes_concluded {s : St} {t : Int} (hex : executes s t = true) : s.concluded = false := by
  simp [executes] at hex; exact hex.2

/-- The two response handlers that run before the guard touch neither the history nor the remembered timestep. -/
theorem preGuard_hist (c : Cfg) (s : St) :
    (preGuardHandlers c s).hist = s.hist ∧ (preGuardHandlers c s).curT = s.curT :=
  have k := (kept_preGuardHandlers c s).2.2
  ⟨hist_of_frame k, curT_of_frame k⟩

theorem lookBack_preGuard (c : Cfg) (s : St) : lookBack (preGuardHandlers c s) = lookBack s :=
  lookBack_of_frame (kept_preGuardHandlers c s).2.2

theorem executes_preGuard (c : Cfg) (s : St) (t : Int) : executes (preGuardHandlers c s) t = executes s t :=
  executes_of_frame (kept_preGuardHandlers c s).2.2 t

theorem preGuard_fields (c : Cfg) (s : St) :
    (preGuardHandlers c s).cur = s.cur ∧ (preGuardHandlers c s).nxt = s.nxt ∧
    (preGuardHandlers c s).concluded = s.concluded ∧ (preGuardHandlers c s).nextExec = s.nextExec :=
  have k := kept_preGuardHandlers c s
  ⟨k.1, k.2.1, concluded_of_frame k.2.2, nextExec_of_frame k.2.2⟩

theorem reasonCheck_fields (h : Hist) (s : St) :
    (reasonCheck h s).cur = s.cur ∧ (reasonCheck h s).nxt = s.nxt ∧ (reasonCheck h s).concluded = s.concluded :=
  have k := kept_reasonCheck h s
  ⟨k.1, k.2.1, concluded_of_frame k.2.2⟩

theorem getAction_idle (c : Cfg) (s : St) (t : Int) (i : In) (h : executes s t = false) :
    getAction c s t i = (preGuardHandlers c s, Act.nothing) := by
  unfold getAction getActionCore
  rw [if_pos (by rw [executes_preGuard]; simp [h])]

/-- The four ways through `get_action`, after the two response handlers (which keep the stage and the frame: `p`):
before the schedule (or concluded); no history item to look back at (`IndexError`); on to the stage methods, from a state
`q` that still has the stage and the frame of `s` (`_tap_return_handler` changed nothing); or the branch that stops here,
from the state `q` that `_tap_return_handler` left.  The new state is named `r`, so that using an equation does not
unfold the path. -/
theorem getAction_cases (c : Cfg) (s : St) (t : Int) (i : In) :
    (executes s t = false ∧ ∃ p, Kept s p ∧ getAction c s t i = (p, Act.nothing)) ∨
    (executes s t = true ∧ lookBack s = none ∧ ∃ p, Kept s p ∧ getAction c s t i = (p.raise, Act.nothing)) ∨
    (∃ h q r, executes s t = true ∧ lookBack s = some h ∧ (h.resp.ok = true ∨ s.cur = .planning) ∧ Kept s q ∧
      r = mainPath c q t i ∧ getAction c s t i = (r, r.chosen)) ∨
    (∃ h q r, executes s t = true ∧ lookBack s = some h ∧
      (q.cur = s.cur ∨ q.cur = .failed ∧ c.repeatStages = false) ∧ q.nxt = s.nxt ∧ q.frame = s.frame ∧
      r = failPath c q t i ∧ getAction c s t i = (r, r.chosen)) := by
  unfold getAction getActionCore
  have hk := kept_preGuardHandlers c s
  generalize preGuardHandlers c s = p at hk ⊢
  rw [executes_of_frame hk.2.2, lookBack_of_frame hk.2.2]
  cases hex : executes s t with
  | false => exact Or.inl ⟨rfl, p, hk, rfl⟩
  | true =>
    rw [if_neg (not_not_intro rfl)]
    cases hh : lookBack s with
    | none => exact Or.inr (Or.inl ⟨rfl, rfl, p, hk, rfl⟩)
    | some h =>
      dsimp only
      cases hp : passes h (returnHandler c h p) with
      | true =>
        have e := passes_returnHandler c h p hp
        rw [e] at hp ⊢
        refine Or.inr (Or.inr (Or.inl ⟨h, _, _, rfl, rfl, ?_, hk.trans (kept_reasonCheck h p), rfl, if_pos rfl⟩))
        rw [← hk.1]
        simpa [passes] using hp
      | false =>
        obtain ⟨h1, h2, h3⟩ := returnHandler_spec c h p
        exact Or.inr (Or.inr (Or.inr ⟨h, _, _, rfl, rfl, hk.1 ▸ h1, h2.trans hk.2.1, h3.trans hk.2.2, rfl,
          if_neg Bool.false_ne_true⟩))

/-- An execution slot that finds the chain SUCCEEDED or FAILED returns do-nothing, raises only if a pre-guard response
handler did (or `randint`'s range is empty), and restarts the chain or concludes the agent, as `repeat_kill_chain` says. -/
theorem ended_slot (c : Cfg) (s : St) (t : Int) (i : In) (h : Hist) (hterm : s.cur = .succeeded ∨ s.cur = .failed)
    (hex : executes s t = true) (hh : lookBack s = some h) :
    (getAction c s t i).2 = Act.nothing ∧
    (0 ≤ c.variance → (getAction c s t i).1.err = (preGuardHandlers c s).err) ∧
    ((c.repeatKillChain = true ∧ (getAction c s t i).1.concluded = false ∧
      ((getAction c s t i).1.cur = .notStarted ∨ (getAction c s t i).1.cur = .reconnaissance)) ∨
     (c.repeatKillChain = false ∧ (getAction c s t i).1.concluded = true ∧
      ((getAction c s t i).1.cur = .succeeded ∨ (getAction c s t i).1.cur = .failed))) := by
  unfold getAction getActionCore
  have hk := kept_preGuardHandlers c s
  generalize preGuardHandlers c s = p at hk ⊢
  rw [executes_of_frame hk.2.2, lookBack_of_frame hk.2.2, if_neg (by simp [hex])]
  simp only [hh]
  -- `_tap_return_handler` leaves an ended chain ended
  have h1 : ((returnHandler c h p).cur = .succeeded ∨ (returnHandler c h p).cur = .failed) ∧
      (returnHandler c h p).concluded = false ∧ (returnHandler c h p).err = p.err :=
    have hcon : p.concluded = false := (concluded_of_frame hk.2.2).trans (executes_concluded hex)
    ite_pres (P := fun x : St => (x.cur = .succeeded ∨ x.cur = .failed) ∧ x.concluded = false ∧ x.err = p.err)
      ⟨Or.inr rfl, hcon, rfl⟩ ⟨hk.1 ▸ hterm, hcon, rfl⟩
  generalize returnHandler c h p = s1 at h1 ⊢
  split
  · rename_i hp
    -- an ended chain passes only after a success, and then there is no `reason` to read
    have hok : h.resp.ok = true := by
      simp only [passes, Bool.or_eq_true, beq_iff_eq] at hp
      rcases hp with hp | hp
      · exact hp
      · rcases h1.1 with h' | h' <;> rw [h'] at hp <;> cases hp
    rw [show reasonCheck h s1 = s1 by simp [reasonCheck, hok]]
    unfold mainPath
    obtain ⟨hch, herr, hcase⟩ := head_ended c { s1 with curT := t } (t + c.frequency) i.d1 h1.1 h1.2.1 _ rfl
    generalize outcomeHandler c (setNext c { s1 with curT := t } (t + c.frequency) i.d1) = q at hch herr hcase ⊢
    rcases hcase with ⟨hr, hc, hk'⟩ | ⟨hr, hc, hk'⟩
    · -- restart: only `_tap_start` acts
      rw [bodies_of_notStarted c i q hc]
      obtain ⟨f1, _, f3, f4⟩ := tapStart_fire q hc
      exact ⟨f3, fun hv => f4.trans ((herr hv).trans h1.2.2),
        Or.inl ⟨hr, (concluded_of_frame (frame_tapStart q)).trans hk', Or.inr f1⟩⟩
    · rw [bodies_terminal c i q hc]
      exact ⟨hch, fun hv => (herr hv).trans h1.2.2, Or.inr ⟨hr, hk', hc⟩⟩
  · unfold failPath
    obtain ⟨hch, herr, hcase⟩ := head_ended c { s1 with curT := t } (t + c.frequency) i.d1 h1.1 h1.2.1 _ rfl
    exact ⟨hch, fun hv => (herr hv).trans h1.2.2,
      hcase.imp (fun ⟨a, b, k⟩ => ⟨a, k, Or.inl b⟩) (fun ⟨a, b, k⟩ => ⟨a, k, b⟩)⟩

theorem mainPath_stage (c : Cfg) (s : St) (t : Int) (i : In) (hinv : Inv s) (hcon : s.concluded = false) :
    Allowed c s.cur (mainPath c s t i).cur ∧ Inv (mainPath c s t i) := by
  rcases mainPath_cases c s t i hcon with ⟨q, ⟨hns, hnf⟩, hc, hn, _, he⟩ | ⟨hterm, hrep, hc, hn, _⟩ | ⟨_, _, hc, hn, _⟩
  · rw [he]
    have hnx : q.nxt = s.cur.succ := hn.trans (hinv.resolve_left hnf)
    rcases Stage.kinds s.cur with hch | hnst | hs | hf | hrk
    · rcases bodies_chain c i s.cur hch q hc hnx with ⟨hc', hn'⟩ | ⟨hc', hn'⟩ | hc'
      · exact ⟨Or.inl hc', Or.inr (by rw [hc', hn'])⟩
      · exact ⟨Or.inr (Or.inl ⟨hch, hc'⟩), Or.inr (by rw [hc', hn'])⟩
      · exact ⟨Or.inr (Or.inr (Or.inl hc')), Or.inl hc'⟩
    · obtain ⟨hb1, hb2⟩ := bodies_notStarted c i q (hc.trans hnst)
      exact ⟨Or.inr (Or.inr (Or.inr (Or.inl ⟨hnst, hb1⟩))), Or.inr (by rw [hb1, hb2]; rfl)⟩
    · exact absurd hs hns
    · exact absurd hf hnf
    · -- EMBED … ERASE: no stage method matches, nothing changes
      rw [bodies_eq, applyDown_skip c i 5 q (hc ▸ hrk)]
      exact ⟨Or.inl hc, Or.inr (by rw [hc]; exact hnx)⟩
  · exact ⟨Or.inr (Or.inr (Or.inr (Or.inr (Or.inl ⟨hrep, hterm, Or.inr hc⟩)))), Or.inr (by rw [hc, hn]; rfl)⟩
  · exact ⟨Or.inl hc, by unfold Inv; rw [hc, hn]; exact hinv⟩

/-- The branch that does not go on to the stage methods, from the state `q` that `_tap_return_handler` made of `s`. -/
theorem failPath_stage (c : Cfg) (s q : St) (t : Int) (i : In) (hinv : Inv s) (hcon : q.concluded = false)
    (hc : q.cur = s.cur ∨ q.cur = .failed ∧ c.repeatStages = false) (hn : q.nxt = s.nxt) :
    Allowed c s.cur (failPath c q t i).cur ∧ Inv (failPath c q t i) := by
  have hq := failPath_head c q t i hcon
  generalize failPath c q t i = r at hq ⊢
  unfold Inv
  rcases hq with ⟨⟨_, hnf⟩, hc', hn', _⟩ | ⟨hterm, hrep, hc', hn', _⟩ | ⟨_, _, hc', hn', _⟩
  · rw [hc', hn', hc.resolve_right (fun h => hnf h.1), hn]
    exact ⟨Or.inl rfl, hinv⟩
  · rw [hc', hn']
    refine ⟨?_, Or.inr rfl⟩
    rcases hc with he | ⟨_, hrs⟩
    · exact Or.inr (Or.inr (Or.inr (Or.inr (Or.inl ⟨hrep, he ▸ hterm, Or.inl rfl⟩))))
    · exact Or.inr (Or.inr (Or.inr (Or.inr (Or.inr ⟨hrep, hrs, rfl⟩))))
  · rw [hc', hn']
    rcases hc with he | ⟨hf, _⟩
    · rw [he, hn]; exact ⟨Or.inl rfl, hinv⟩
    · exact ⟨Or.inr (Or.inr (Or.inl hf)), Or.inl hf⟩

theorem getAction_stage (c : Cfg) (s : St) (t : Int) (i : In) (hinv : Inv s) :
    Allowed c s.cur (getAction c s t i).1.cur ∧ Inv (getAction c s t i).1 := by
  rcases getAction_cases c s t i with ⟨_, p, hk, he⟩ | ⟨_, _, p, hk, he⟩ | ⟨h, q, r, hex, _, _, hk, hr, he⟩ |
      ⟨h, q, r, hex, _, hc, hn, hf, hr, he⟩ <;> rw [he]
  · exact ⟨Or.inl hk.1, by unfold Inv; rw [hk.1, hk.2.1]; exact hinv⟩
  · exact ⟨Or.inl hk.1, by unfold Inv; rw [show p.raise.cur = s.cur from hk.1, show p.raise.nxt = s.nxt from hk.2.1]; exact hinv⟩
  · have hcon := (concluded_of_frame hk.2.2).trans (executes_concluded hex)
    have := mainPath_stage c q t i (by unfold Inv; rw [hk.1, hk.2.1]; exact hinv) hcon
    rw [← hr, hk.1] at this; exact this
  · have := failPath_stage c s q t i hinv ((concluded_of_frame hf).trans (executes_concluded hex)) hc hn
    rw [← hr] at this; exact this

theorem C19_tap3_stage_step (c : Cfg) (s : St) (t : Int) (i : In) (hinv : Inv s) :
    Allowed c s.cur (step c s t i).1.cur ∧ Inv (step c s t i).1 :=
  ite_pres (P := fun r : St × Out => Allowed c s.cur r.1.cur ∧ Inv r.1) ⟨Or.inl rfl, hinv⟩
    (ite_pres (P := fun r : St × Out => Allowed c s.cur r.1.cur ∧ Inv r.1) ⟨Or.inl rfl, hinv⟩ (getAction_stage c s t i hinv))

/-- States after each tick of a run that feeds timesteps `t, t+1, …`. -/
def run (c : Cfg) : St → Int → List In → List St
  | _, _, [] => []
  | s, t, i :: is => (step c s t i).1 :: run c (step c s t i).1 (t + 1) is

def Linked (R : Stage → Stage → Prop) : Stage → List St → Prop
  | _, [] => True
  | a, s :: rest => R a s.cur ∧ Linked R s.cur rest

theorem run_inv (c : Cfg) (P : St → Prop) (hstep : ∀ s t i, P s → P (step c s t i).1) :
    ∀ (ins : List In) (s : St) (t : Int), P s → ∀ s' ∈ run c s t ins, P s' :=
  iter_forall_mem (run c) (fun _ _ => rfl) (fun _ _ _ _ => rfl) P P fun s t i h => ⟨hstep s t i h, hstep s t i h⟩

theorem run_linked (c : Cfg) : ∀ (ins : List In) (s : St) (t : Int), Inv s → Linked (Allowed c) s.cur (run c s t ins) := by
  intro ins
  induction ins with
  | nil => intro s t _; exact trivial
  | cons i is ih =>
    intro s t hinv
    obtain ⟨ha, hi⟩ := C19_tap3_stage_step c s t i hinv
    exact ⟨ha, ih _ (t + 1) hi⟩

theorem init_some (c : Cfg) (d0 : Int) (k : Nat) (s0 : St) (h0 : init c d0 k = some s0) :
    (randintOk c.variance ∧ (pick c.startingNodes c.defaultStartingNode k).isSome ∧ c.knowledgeOk) ∧
    s0 = { nextExec := c.startStep + d0, acctQueue := c.accountChanges, numAcls := c.acls.length,
           startNode := (pick c.startingNodes c.defaultStartingNode k).getD "" } := by
  unfold init at h0
  split at h0
  · exact ⟨‹_›, (Option.some.inj h0).symm⟩
  · cases h0

theorem init_spec {c : Cfg} {d0 : Int} {k : Nat} {s0 : St} (h0 : init c d0 k = some s0) :
    Inv s0 ∧ s0.nextExec = c.startStep + d0 ∧ 0 ≤ c.variance ∧ s0.dead = false ∧ s0.concluded = false := by
  obtain ⟨hv, rfl⟩ := init_some c d0 k s0 h0
  exact ⟨Or.inr rfl, rfl, by simpa [randintOk] using hv.1, rfl, rfl⟩

/-- **stage_monotone** (TAP003). For every configuration, every schedule/trial/scan draw and every sequence of
simulator responses, the stage sampled after each tick is related to the previous one by `Allowed`: it stays,
moves to the *next* stage of the chain (EXPLOIT's next is SUCCEEDED), becomes FAILED, leaves NOT_STARTED for
RECONNAISSANCE, or — only with `repeat_kill_chain` — restarts from SUCCEEDED/FAILED. -/
theorem C19_tap3_stage_monotone (c : Cfg) (d0 : Int) (k : Nat) (s0 : St) (ins : List In) (h0 : init c d0 k = some s0) :
    Linked (Allowed c) s0.cur (run c s0 0 ins) ∧ ∀ s ∈ run c s0 0 ins, Inv s :=
  ⟨run_linked c ins s0 0 (init_spec h0).1,
    run_inv c Inv (fun s t i h => (C19_tap3_stage_step c s t i h).2) ins s0 0 (init_spec h0).1⟩

/-- **no_skip**: a stage other than the first is only ever entered from its predecessor. -/
theorem C19_tap3_no_skip (c : Cfg) (a b : Stage) (h : Allowed c a b) (hb : b.chain = true) (hne : b ≠ a)
    (hfirst : b ≠ .reconnaissance) : a.chain = true ∧ b = a.succ := by
  rcases h with h | ⟨hc, h⟩ | h | ⟨_, h⟩ | ⟨_, _, h | h⟩ | ⟨_, _, h⟩
  · exact absurd h hne
  · exact ⟨hc, h⟩
  · rw [h] at hb; simp [Stage.chain] at hb
  · exact absurd h hfirst
  · rw [h] at hb; simp [Stage.chain] at hb
  · exact absurd h hfirst
  · rw [h] at hb; simp [Stage.chain] at hb

/-- The enum members EMBED, CONCEAL, EXTRACT, ERASE are never entered: no stage has any of them as its successor
in `Allowed`, so (by `C19_tap3_stage_monotone`) a run that starts in NOT_STARTED never shows them. -/
theorem C19_tap3_never_past_exploit (c : Cfg) (a b : Stage) (h : Allowed c a b)
    (ha : a ≠ .embed ∧ a ≠ .conceal ∧ a ≠ .extract ∧ a ≠ .erase) :
    b ≠ .embed ∧ b ≠ .conceal ∧ b ≠ .extract ∧ b ≠ .erase := by
  -- every disjunct of `Allowed` names its target: `a` itself, the successor of a chain stage, or a constant
  rcases h with h | ⟨hc, h⟩ | h | ⟨_, h⟩ | ⟨_, _, h | h⟩ | ⟨_, _, h⟩
  · rw [h]; exact ha
  · subst h; revert hc; cases a <;> decide
  all_goals subst h; decide

/-- **ends_per_settings (absorbing)** for TAP003: once concluded, the stage, the schedule and the flag never change and
every action is do-nothing (the two response handlers still update the agent's session bookkeeping). -/
theorem C19_tap3_concluded_absorbing (c : Cfg) (s : St) (t : Int) (i : In) (h : s.concluded = true) :
    (getAction c s t i).2 = Act.nothing ∧ (getAction c s t i).1.cur = s.cur ∧
    (getAction c s t i).1.concluded = true ∧ (getAction c s t i).1.nextExec = s.nextExec := by
  have hp := preGuard_fields c s
  rw [getAction_idle c s t i (by simp [executes, h])]
  exact ⟨rfl, hp.1, hp.2.2.1.trans h, hp.2.2.2⟩

def exCfg : Cfg :=
  { startStep := 1, frequency := 1, variance := 0, repeatKillChain := true, repeatStages := true,
    pPlanning := ⟨1, 1⟩, pAccess := ⟨1, 1⟩, pManipulation := ⟨1, 1⟩, pExploit := ⟨1, 1⟩, defaultStartingNode := "pc",
    accountChanges := [{ host := "pc", user := "a0", newPw := "n0" }, { host := "rt", user := "a1", newPw := "n1" }],
    acls := [{ router := "rt", fields := ["DENY", "tcp", "10.0.0.0", "0.0.0.255", "ALL", "ALL", "NONE", "80", "1"] }],
    creds0 := [("pc", { user := "u0", pw := "p0" }), ("rt", { user := "u1", pw := "p1", ip := some "10.0.9.1" })] }

def exIn : In := { d1 := 0, u := ⟨0, 1⟩, resp := { ok := true } }

/-- Non-vacuity: all responses successful, repeat on: the agent walks the five implemented stages, succeeds and restarts. -/
example : ∃ s0, init exCfg 0 0 = some s0 ∧
    ((run exCfg s0 0 (List.replicate 16 exIn)).map (·.cur)).eraseDups
      = [.notStarted, .reconnaissance, .planning, .access, .manipulation, .exploit, .succeeded] := by
  refine ⟨_, rfl, ?_⟩; decide +kernel

/-- Outputs of a run that feeds timesteps `t, t+1, …`. -/
def runOut (c : Cfg) : St → Int → List In → List (Int × Out)
  | _, _, [] => []
  | s, t, i :: is => (t, (step c s t i).2) :: runOut c (step c s t i).1 (t + 1) is

/-- A tick that does not get past the schedule guard returns do-nothing and leaves the schedule and the stage alone (the
two response handlers still run). -/
theorem C19_tap3_idle_tick (c : Cfg) (s : St) (t : Int) (i : In) (h : executes s t = false) :
    (getAction c s t i).2 = Act.nothing ∧ (getAction c s t i).1.nextExec = s.nextExec ∧
    (getAction c s t i).1.cur = s.cur := by
  have hp := preGuard_fields c s
  rw [getAction_idle c s t i h]
  exact ⟨rfl, hp.2.2.2, hp.1⟩

theorem step_act (c : Cfg) (s : St) (t : Int) (i : In) (a : Act) (h : (step c s t i).2 = .act a) (hne : a ≠ Act.nothing) :
    s.dead = false ∧ executes s t = true := by
  cases hd : s.dead with
  | true => simp [step, hd] at h
  | false =>
    refine ⟨rfl, ?_⟩
    cases hex : executes s t with
    | true => rfl
    | false =>
      -- an idle tick returns do-nothing (or raises)
      unfold step at h
      rw [if_neg (by simp [hd]), getAction_idle c s t i hex] at h
      split at h <;> cases h
      exact absurd rfl hne

@[simp] theorem nextExec_outcomeHandler (c : Cfg) (s : St) : (outcomeHandler c s).nextExec = s.nextExec :=
  ite_field St.nextExec (ite_field _ rfl (ite_field _ rfl rfl)) rfl

theorem setNext_next (c : Cfg) (s : St) (b d : Int) (h : 0 ≤ c.variance) : (setNext c s b d).nextExec = b + d := by
  simp [setNext, randintOk, h]

/-- **Every execution slot reschedules by `frequency + d1`** (TAP003). -/
theorem C19_tap3_reschedules (c : Cfg) (s : St) (t : Int) (i : In) (h : Hist)
    (hex : executes s t = true) (hh : lookBack (preGuardHandlers c s) = some h)
    (hv : 0 ≤ c.variance) :
    (getAction c s t i).1.nextExec = t + c.frequency + i.d1 := by
  unfold getAction getActionCore
  rw [if_neg (by simp [executes_preGuard, hex])]
  simp only [hh]
  split
  · unfold mainPath
    simp only [nextExec_bodies, nextExec_outcomeHandler]
    exact setNext_next c _ (t + c.frequency) i.d1 hv
  · unfold failPath
    simp only [nextExec_outcomeHandler]
    exact setNext_next c _ (t + c.frequency) i.d1 hv

/-- **`EXPLOIT.probability` is honoured** (after the repair of F-C19-3; before it the trial was dead code and a
probability of 0 did not stop the exploit).  On entering EXPLOIT (stage progress PENDING) a failed trial makes `_exploit`
choose do-nothing, leaves the stage progress PENDING (so the trial is repeated in the next slot) and moves the stage to
FAILED exactly when stages are not repeated; no login or ACL action is issued. -/
theorem C19_tap3_exploit_trial_gates (c : Cfg) (i : In) (s : St) (h : s.cur = .exploit) (hp : s.prog = .pending)
    (ht : trial c.pExploit i.u = false) :
    (exploit c i s).chosen = Act.nothing ∧ (exploit c i s).prog = .pending ∧ (exploit c i s).curAcl = s.curAcl ∧
    (exploit c i s).cur = (if c.repeatStages then .exploit else .failed) := by
  unfold exploit
  rw [if_neg (by simp [h]), if_pos (by simp [hp, ht])]
  unfold failStage
  split <;> simp_all

/-- A configured probability `≤ 0` never passes a trial, whatever the draw: with `EXPLOIT.probability: 0` the agent
never leaves the PENDING half of EXPLOIT (together with `C19_tap3_exploit_trial_gates`). -/
theorem C19_trial_zero_never_passes (p : Prob) (u : Unif) (h : p.num ≤ 0) : trial p u = false := by
  unfold trial
  have h1 : (0 : Int) ≤ (u.num : Int) * (p.den : Int) := Int.mul_nonneg (Int.natCast_nonneg _) (Int.natCast_nonneg _)
  have h2 : p.num * (u.den : Int) ≤ 0 := Int.mul_nonpos_of_nonpos_of_nonneg h (Int.natCast_nonneg _)
  simp only [decide_eq_false_iff_not]
  omega

end Tap3

/-- `MobileMalwareKillChain` in the source has exactly the members and values of `Tap1.Stage`. -/
theorem C19_gen_tap1_stages :
    Gen.Agents.mobileMalwareKillChain = Tap1.Stage.all.map (fun s => (s.name, s.val)) := rfl

/-- `InsiderKillChain` in the source has exactly the members and values of `Tap3.Stage`. -/
theorem C19_gen_tap3_stages :
    Gen.Agents.insiderKillChain = Tap3.Stage.all.map (fun s => (s.name, s.val)) := rfl

theorem C19_gen_progress_enum :
    Gen.Agents.stageProgress = [Progress.pending, .inProgress, .finished].map (fun p => (p.name, p.val)) := rfl

/-- initial and final stages, and the order in which `get_action` calls the stage methods (last stage first). -/
theorem C19_gen_dispatch :
    Gen.Agents.tap1Initial = Tap1.Stage.download.name ∧ Gen.Agents.tap1Final = Tap1.Stage.payload.name ∧
    Gen.Agents.tap3Initial = Tap3.Stage.reconnaissance.name ∧ Gen.Agents.tap3Final = Tap3.Stage.exploit.name ∧
    Gen.Agents.tap1PreGuard = [] ∧ Gen.Agents.tap1Dispatch = Tap1.dispatchOrder ∧
    Gen.Agents.tap3PreGuard = Tap3.preGuard ∧ Gen.Agents.tap3Dispatch = Tap3.dispatchOrder :=
  ⟨rfl, rfl, rfl, rfl, rfl, rfl, rfl, rfl⟩

/-- schedule guards and comparators: `==`/`<` in PeriodicAgent, `<` in DataManipulationAgent and the TAPs,
`variance >= frequency` rejected, `random() < p`, symmetric `randint(-variance, variance)`. -/
theorem C19_gen_guards :
    Gen.Agents.periodicTimeOp = "Eq" ∧ Gen.Agents.periodicCountOp = "Lt" ∧ Gen.Agents.dmIdleOp = "Lt" ∧
    Gen.Agents.varianceRejectOp = "GtE" ∧ Gen.Agents.trialOp = "Lt" ∧
    Gen.Agents.tap1Guard = "timestep < self.next_execution_timestep or self.actions_concluded" ∧
    Gen.Agents.tap3Guard = "timestep < self.next_execution_timestep or self.actions_concluded" ∧
    Gen.Agents.periodicRandintArgs = "-variance, variance" ∧
    Gen.Agents.tapRandintArgs = "-self.config.agent_settings.variance, self.config.agent_settings.variance" :=
  ⟨rfl, rfl, rfl, rfl, rfl, rfl, rfl, rfl, rfl⟩

/-- F-29: the probability vector is indexed by action number, not by the order of the mapping in the file.  (Text pin of the
known shapes; for any other shape the translator can handle, the fact is theorem `C19_gen_prob_vector` of Props/C19Get.lean
about the TRANSLATED method — that one is semantic and holds on every table.) -/
theorem C19_gen_vector_by_key : Gen.Agents.probVectorOrder = "byKey" ∨ Gen.Agents.probVectorOrder = "seeTranslation" := Or.inl rfl

end Primaite.Agents
