/-
C08 — who a node sends to: `SessionManager` / `RouterSessionManager` `.resolve_outbound_transmission_details` (unicast branch) and
`.resolve_outbound_network_interface` are TRANSLATED (Gen/ForwardArp.lean: `hostDetails`, `routerDetails`, `baseOut`, `routerOut`,
the two guarded gateway getters of `HostARP`) into small programs over the STATEFUL ARP look-ups; the interpreters below give every
instruction the one model primitive it stands for (`arpMac`, `arpIfc`, `firstEnabledIn`, `findBestRoute`), threading the state in
program order.  `C08_gen_session_resolve_*`: the model's `resolveDetails` / `resolveOut` (what `sendIcmp`, `sendArpReq`, the echo
reply … call, inside the mutual block all run-level theorems are about) compute exactly what the translated programs compute, for
every state, route table, ARP cache, destination and fuel.  A source that asks ARP first (a warm cache short-cutting the on-link test
or the route table), swaps two look-ups, or takes the gateway / next hop from somewhere else yields another program and the theorem
no longer checks; `C08_session_resolve_countermodel` shows such a program choosing another next hop on a concrete router.
-/
import PrimaiteModel.Model.Forward
import PrimaiteModel.Gen.ForwardArp
namespace Primaite.Forward
open Primaite.Route
open Primaite.Gen.ForwardArp (Tgt DProg OProg)
namespace GS
export Primaite.Gen.ForwardArp (hostDetails routerDetails baseOut routerOut gwMacGuard gwIfcGuard)
end GS

/-- the MAC look-up an instruction names (`nd`: the node as it was when the method was entered — interfaces, gateway and routes are
configuration; `nh`: the next hop of the route found by `ifRoute`) -/
def lookMac (fuel n : Nat) (dst : Ip) (nd : Node) (nh : Ip) (st : St) : Tgt → St × Option Mac
  | .dst => arpMac fuel st n dst false false
  | .nextHop => arpMac fuel st n nh false false
  | .gateway =>
    if GS.gwMacGuard nd.gateway.isSome (nd.ifaces.any (·.enabled)) then arpMac fuel st n (nd.gateway.getD 0) false false else (st, none)

/-- the interface look-up an instruction names; the gateway getter re-reads `has_enabled_network_interface` from the current state -/
def lookIfc (fuel n : Nat) (dst : Ip) (nd : Node) (nh : Ip) (st : St) : Tgt → St × Option Nat
  | .dst => arpIfc fuel st n dst false false
  | .nextHop => arpIfc fuel st n nh false false
  | .gateway =>
    match st.node? n with
    | none => (st, none)
    | some nd' =>
      if GS.gwIfcGuard nd.gateway.isSome (nd'.ifaces.any (·.enabled)) then arpIfc fuel st n (nd.gateway.getD 0) false false else (st, none)

/-- interpreter of a translated `resolve_outbound_transmission_details`.  `retNone` (router: no route) and an exception out of
`find_best_route` both end with nothing resolved; the model marks them with the event `raised` (never compared by the rigs: every
caller asks `resolve_outbound_network_interface` first). -/
def runD (fuel n : Nat) (dst : Ip) (nd : Node) : DProg → St → Option Mac → Option Nat → Ip → St × Option Mac × Option Nat
  | .ret, st, m, i, _ => (st, m, i)
  | .retNone, st, _, _, _ => (st.emit (.raised n), none, none)
  | .setMac t k, st, _, i, nh => let r := lookMac fuel n dst nd nh st t; runD fuel n dst nd k r.1 r.2 i nh
  | .setIfc t k, st, m, _, nh => let r := lookIfc fuel n dst nd nh st t; runD fuel n dst nd k r.1 m r.2 nh
  | .ifOnLink a b, st, m, i, nh =>
    if (firstEnabledIn nd.ifaces dst 0).isSome then runD fuel n dst nd a st m i nh else runD fuel n dst nd b st m i nh
  | .ifMac a b, st, m, i, nh => if m.isSome then runD fuel n dst nd a st m i nh else runD fuel n dst nd b st m i nh
  | .ifRoute a b, st, m, i, _ =>
    match findBestRoute nd.routes dst with
    | .raised => (st.emit (.raised n), none, none)
    | r =>
      match r.nextHop? with
      | some nh => runD fuel n dst nd a st m i nh
      | none => runD fuel n dst nd b st m i 0

/-- interpreter of the translated base `resolve_outbound_network_interface` for the argument `t`; `gw`: what
`getattr(node.config, "default_gateway", None)` gives (a router has none), `hostArp`: the node's ARP class overrides
`get_default_gateway_network_interface` (HostARP does, the base class answers None — Gen.Forward.routerResolvesOutboundWithoutArp) -/
def runBase (fuel n : Nat) (nd : Node) (gw : Option Ip) (hostArp : Bool) (t : Ip) : OProg → St → St × Option Nat
  | .localLoop k, st =>
    match firstEnabledIn nd.ifaces t 0 with
    | some i => (st, some i)
    | none => runBase fuel n nd gw hostArp t k st
  | .gwSelfNone k, st => if gw == some t then (st, none) else runBase fuel n nd gw hostArp t k st
  | .retGwIfc, st =>
    if hostArp && GS.gwIfcGuard gw.isSome (nd.ifaces.any (·.enabled)) then arpIfc fuel st n (gw.getD 0) false false else (st, none)
  | _, st => (st, none)

/-- interpreter of the translated `RouterSessionManager.resolve_outbound_network_interface` -/
def runRouterOut (fuel n : Nat) (dst : Ip) (nd : Node) : OProg → St → Option Nat → Ip → St × Option Nat
  | .ret, st, i, _ => (st, i)
  | .callBase .dst k, st, _, nh => let r := runBase fuel n nd none false dst GS.baseOut st; runRouterOut fuel n dst nd k r.1 r.2 nh
  | .callBase .nextHop k, st, _, nh => let r := runBase fuel n nd none false nh GS.baseOut st; runRouterOut fuel n dst nd k r.1 r.2 nh
  | .ifNic a b, st, i, nh => if i.isSome then runRouterOut fuel n dst nd a st i nh else runRouterOut fuel n dst nd b st i nh
  | .ifRoute a b, st, i, _ =>
    match (findBestRoute nd.routes dst).nextHop? with
    | some nh => runRouterOut fuel n dst nd a st i nh
    | none => runRouterOut fuel n dst nd b st i 0
  | _, st, _, _ => (st, none)

/-- **Gen obligation (hosts)**: `resolveDetails` IS the translated `SessionManager.resolve_outbound_transmission_details`: the
destination's own MAC and interface exactly when an ENABLED interface's network holds it and ARP answers; otherwise the default
gateway's — whatever the cache holds for the destination. -/
theorem C08_gen_session_resolve_details_host (fuel : Nat) (st : St) (n : Nat) (nd : Node) (dst : Ip)
    (hn : st.node? n = some nd) (hk : nd.kind = .host) :
    resolveDetails (fuel + 1) st n dst = runD fuel n dst nd GS.hostDetails st none none 0 := by
  rw [resolveDetails]
  simp only [hn, hk, Gen.ForwardArp.hostDetails, runD, lookMac, lookIfc, Gen.ForwardArp.gwMacGuard, Gen.ForwardArp.gwIfcGuard]
  cases firstEnabledIn nd.ifaces dst 0 <;>
    simp only [Option.isSome_some, Option.isSome_none, if_true, Bool.false_eq_true, if_false]
  -- on-link (the second goal): the destination's MAC decides; without it the node goes on as if not on-link
  rotate_left
  split
  · rename_i hm
    simp only [hm, Option.isSome_some, if_true]
  rename_i hm
  simp only [hm, Option.isSome_none, Bool.false_eq_true, if_false]
  -- the gateway's look-ups (node re-read, then the `any enabled` guard), from the state reached
  all_goals
    cases nd.gateway <;>
      simp only [Option.isSome_some, Option.isSome_none, if_true, Bool.false_eq_true, if_false, Option.getD_some, Bool.true_and,
        Bool.false_and]
    · split <;> rfl
    · split
      · rename_i h
        simp only [h]
      · rename_i h
        simp only [h]
        split <;> rfl

/-- **Gen obligation (routers and firewalls)**: `resolveDetails` IS the translated
`RouterSessionManager.resolve_outbound_transmission_details`: on-link test + ARP for the destination first; otherwise the next hop
of the route `find_best_route` returns (longest prefix, metric, position: Props/C08.lean), MAC look-up before interface look-up;
nothing without a route — for every route table and ARP cache. -/
theorem C08_gen_session_resolve_details_router (fuel : Nat) (st : St) (n : Nat) (nd : Node) (dst : Ip)
    (hn : st.node? n = some nd) (hk : nd.kind = .router) :
    resolveDetails (fuel + 1) st n dst = runD fuel n dst nd GS.routerDetails st none none 0 := by
  rw [resolveDetails]
  simp only [hn, hk, Gen.ForwardArp.routerDetails, runD, lookMac, lookIfc]
  cases firstEnabledIn nd.ifaces dst 0 <;> cases findBestRoute nd.routes dst <;>
    simp only [Option.isSome_some, Option.isSome_none, if_true, Bool.false_eq_true, if_false, Result.nextHop?]
  -- on-link (the other cases are closed): the destination's MAC decides
  all_goals
    split
    · rename_i hm; simp only [hm, Option.isSome_some, if_true]
    · rename_i hm; simp only [hm, Option.isSome_none, Bool.false_eq_true, if_false]

/-- **Gen obligation**: the host's outbound interface is the translated `SessionManager.resolve_outbound_network_interface`:
first enabled interface whose network holds the destination; None for the gateway itself; else the gateway's interface from ARP. -/
theorem C08_gen_session_resolve_out_host (fuel : Nat) (st : St) (n : Nat) (nd : Node) (dst : Ip)
    (hn : st.node? n = some nd) (hk : nd.kind = .host) :
    resolveOut (fuel + 1) st n dst = runBase fuel n nd nd.gateway true dst GS.baseOut st := by
  rw [resolveOut]
  simp only [hn, hk, Gen.ForwardArp.baseOut, runBase, Gen.ForwardArp.gwIfcGuard]
  cases firstEnabledIn nd.ifaces dst 0 with
  | some i => rfl
  | none =>
    cases nd.gateway with
    | none => simp
    | some g =>
      by_cases h : dst = g
      · subst h; simp
      · cases nd.ifaces.any (·.enabled) <;> simp [h, eq_comm (a := g)]

/-- **Gen obligation**: a router's outbound interface is the translated `RouterSessionManager.resolve_outbound_network_interface`
over the translated base method (no gateway, no ARP): the connected enabled network of the destination, else that of the best
route's next hop, else None — never the ARP cache. -/
theorem C08_gen_session_resolve_out_router (fuel : Nat) (st : St) (n : Nat) (nd : Node) (dst : Ip)
    (hn : st.node? n = some nd) (hk : nd.kind = .router) :
    resolveOut (fuel + 1) st n dst = runRouterOut fuel n dst nd GS.routerOut st none 0 := by
  rw [resolveOut]
  simp only [hn, hk, Gen.ForwardArp.routerOut, Gen.ForwardArp.baseOut, runRouterOut, runBase]
  cases firstEnabledIn nd.ifaces dst 0 with
  | some i => simp
  | none =>
    cases (findBestRoute nd.routes dst).nextHop? with
    | none => simp
    | some nh => cases hh : firstEnabledIn nd.ifaces nh 0 <;> simp [hh]

/-- Gen obligation: `route != default_route` (RouterARP) compares objects that carry a per-object uuid: a table entry spelled like the
default entry is not equal to it, so `bestOf` (static vs default BY ORIGIN) is what the look-ups see. -/
theorem C08_gen_route_entry_identity : Gen.ForwardArp.routeEntryEqualityIsIdentity = true := by decide

/-- the program of a `resolve_outbound_transmission_details` that asks ARP for the destination without the on-link test -/
def arpFirstDetails : DProg :=
  .setMac .dst (.ifMac (.setIfc .dst .ret) (.ifRoute (.setMac .nextHop (.setIfc .nextHop .ret)) .retNone))

/-- a router with ports 10.0.0.1/24 and 10.0.1.1/24, a route 192.168.5.0/24 via 10.0.0.2, and a WARM cache that knows 192.168.5.9
through the neighbour 10.0.1.2 on the other port (traffic from there arrived that way: asymmetric routes) -/
def cmRouter : Node :=
  { kind := .router,
    ifaces := [{ mac := 11, ip := 0x0A000001, plen := 24, enabled := true }, { mac := 12, ip := 0x0A000101, plen := 24, enabled := true }],
    routes := { routes := [{ addr := 0xC0A80500, mask := 0xFFFFFF00, nextHop := 0x0A000002, metric := 0 }] },
    arp := [{ ip := 0xC0A80509, mac := 77, ifc := 1 }, { ip := 0x0A000002, mac := 55, ifc := 0 }] }

/-- the translated source sends through port 0 to the route's next hop (MAC 55); the ARP-first program through port 1 to MAC 77 -/
theorem C08_session_resolve_countermodel :
    GS.routerDetails ≠ arpFirstDetails ∧
    (resolveDetails 5 { nodes := [cmRouter] } 0 0xC0A80509).2 = (some 55, some 0) ∧
    (runD 4 0 0xC0A80509 cmRouter GS.routerDetails { nodes := [cmRouter] } none none 0).2 = (some 55, some 0) ∧
    (runD 4 0 0xC0A80509 cmRouter arpFirstDetails { nodes := [cmRouter] } none none 0).2 = (some 77, some 1) := by
  refine ⟨by decide, by decide +kernel, by decide +kernel, by decide +kernel⟩

end Primaite.Forward
