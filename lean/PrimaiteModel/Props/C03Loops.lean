/-
C03 — the loops that iterate a hash-ordered set, TRANSLATED from the source (Gen/NondetLoops.lean) instead of read.

The discharges `setToSet`, `setNoEffect`, `setLengthOnly`, `setDictByKey` rest on "the code's loop IS the consumer
`listenPorts` / `noEffect` / `lengthOnly` / `dictByKey`".  That premise is not established by reading: the extractor translates the
real loop statement by statement into the loop language of `Model/NoninterfLoop.lean`, and

  * `C03_loop_wellformed_invariant`  every well-formed loop is a permutation-invariant consumer, for ALL interpretations of the pure
                                     functions it applies (induction over the body; definite assignment ⇒ no loop-carried local);
  * `C03_gen_loops_order_free`       Gen obligation: every set-iteration site with one of the four reasons has a translated loop that
                                     is well-formed and whose accumulators are used exactly as the reason says;
  * `C03_translated_loops_invariant` hence each of those loops is `Invariant` — the hypothesis `Prog.Safe` asks of an `iterSet`;
  * counterexamples: a loop-carried local, an ordered use, a dict keyed by something else than the element — each NOT invariant
    (so each clause of `wellFormed` is needed);
  * `C03_gen_listen_loop_normal_form`, `C03_listen_normal_is_listenPorts`: the loop of `_set_software_listen_on_ports`, in the extractor's
    path normal form, IS the modelled consumer `listenPorts` that the component rig compares with the code.
-/
import PrimaiteModel.Lemmas.NondetDischarge
import PrimaiteModel.Lemmas.NoninterfLoop
import PrimaiteModel.Gen.NondetLoops

namespace Primaite.Noninterf
open Primaite.Gen.Nondet Primaite.Gen.NondetLoops LoopIR

/-- **A well-formed loop is order-free**: whatever the pure functions compute, whatever keys are looked up later. -/
theorem C03_loop_wellformed_invariant (P : Prims) (keys : List Nat) (p : Loop) (hw : p.wellFormed = true) :
    Invariant (p.consumer P keys) := wellFormed_invariant P keys p hw

/-- how the accumulators of the loop must be used for the reason to apply (`none`: the reason does not rest on the loop's shape) -/
def loopUsesFor : Discharge → Option (List Use)
  | .setToSet => some [.asSet]
  | .setNoEffect => some []
  | .setLengthOnly => some [.lenOnly]
  | .setDictByKey => some [.byKey]
  | _ => none

def loopFor (s : Site) : Option Translation :=
  (loops.find? fun r => r.1 == s.file && r.2.1 == s.scope && r.2.2.1 == s.detail && r.2.2.2.1 == s.occ).map (·.2.2.2.2)

def loopSupports (d : Discharge) (t : Option Translation) : Bool :=
  match loopUsesFor d, t with
  | none, _ => true
  | some us, some (.loop l _) => l.wellFormed && l.uses.map (·.2) == us
  | some _, _ => false

/-- **Gen obligation: the loops are what the table says they are.** For every set-iteration site discharged by `setToSet`,
`setNoEffect`, `setLengthOnly` or `setDictByKey`, the loop regenerated from the source is translatable (no call with an effect, no
store outside the declared accumulators, no `continue` / `break`), WELL-FORMED (no local carried from one iteration to the next,
every accumulator consumed by `set()` / `len()` / by key / not at all, dict accumulators keyed by the element) and its accumulators
are used as the reason says. Replacing `set(listen_on_ports)` by `list(…)`, dropping `port = None`, returning `list(ip_addresses)[0]`,
iterating the episode dict, … break this. -/
theorem C03_gen_loops_order_free :
    (table.all fun e => e.1.kind != .setIter || loopSupports e.2 (loopFor e.1)) = true := by decide +kernel

/-- which loops that covers on the current tree (4 of the 9 non-`sorted` set iterations; the other five are opaque to the translator or
ordered, and are discharged by `setIntHash` (2), `setTopo`, `setCycleCheck`, `setEmpty`) -/
theorem C03_gen_loops_translated :
    ((table.filter fun e => e.1.kind == .setIter && (loopUsesFor e.2).isSome).map (fun e => (e.1.scope, e.2)),
     loops.length) =
    ([("PrimaiteGame.from_config._set_software_listen_on_ports", .setToSet), ("build_scheduler", .setDictByKey),
      ("RouteTable.add_route", .setNoEffect), ("NMAP.port_scan", .setLengthOnly)], 9) := by rfl

/-- Hence every such site's loop is a permutation-invariant consumer — what `Prog.Safe` demands of an `iterSet` node. -/
theorem C03_translated_loops_invariant (e : Site × Discharge) (he : e ∈ table) (hk : e.1.kind = .setIter)
    (hd : (loopUsesFor e.2).isSome = true) :
    ∃ l n, loopFor e.1 = some (.loop l n) ∧ ∀ (P : Prims) (keys : List Nat), Invariant (l.consumer P keys) := by
  have h := List.all_eq_true.mp C03_gen_loops_order_free e he
  simp only [hk, bne_self_eq_false, Bool.false_or] at h
  unfold loopSupports at h
  obtain ⟨us, hus⟩ := Option.isSome_iff_exists.mp hd
  rw [hus] at h
  match ht : loopFor e.1, h with
  | some (.loop l n), h =>
    simp only [Bool.and_eq_true] at h
    exact ⟨l, n, rfl, fun P keys => wellFormed_invariant P keys l h.1⟩

/-- a local carried over from the previous iteration: `acc.append(prev); prev = x` then `set(acc)` -/
def carriedLoop : Loop :=
  ⟨.seq (.emit "acc" (.var "prev") (.var "prev")) (.assign "prev" .elem), [("acc", .asSet)]⟩

def idPrims : Prims := ⟨fun _ a => a, fun _ a _ => a⟩

theorem C03_loop_carried_local_counterexample :
    carriedLoop.wellFormed = false ∧ ¬ Invariant (carriedLoop.consumer idPrims []) :=
  ⟨by decide +kernel, not_invariant_of_swap 1 2 (by decide +kernel)⟩

/-- `acc.append(x)` then `return acc` (an ORDERED use) -/
def orderedLoop : Loop := ⟨.emit "acc" .elem .elem, [("acc", .ordered)]⟩

theorem C03_loop_ordered_use_counterexample :
    orderedLoop.wellFormed = false ∧ ¬ Invariant (orderedLoop.consumer idPrims []) :=
  ⟨by decide +kernel, not_invariant_of_swap 1 2 (by decide +kernel)⟩

/-- `d[f(x)] = x` read by key, with `f` constant: the LAST element wins -/
def keyedLoop : Loop := ⟨.emit "d" (.const 7) .elem, [("d", .byKey)]⟩

theorem C03_loop_foreign_key_counterexample :
    keyedLoop.wellFormed = false ∧ ¬ Invariant (keyedLoop.consumer idPrims [7]) :=
  ⟨by decide +kernel, not_invariant_of_swap 1 2 (by decide +kernel)⟩

/-- an accumulator nobody declared a use for is not accepted (its use is unknown) -/
theorem C03_loop_undeclared_accumulator : (Loop.mk (.emit "acc" .elem .elem) []).wellFormed = false := by decide +kernel

/-- well-formedness of the translated loops of the current tree, in the order of `Gen.NondetLoops.loops`; the four sites of
`C03_gen_loops_translated` are among the `true` (`C03_gen_loops_order_free`) -/
example : (loops.filterMap fun r => match r.2.2.2.2 with | .loop l _ => some l.wellFormed | _ => none) =
    [true, true, true, false, true, false] := by decide +kernel

/-- **Gen obligation: a result that carries a set's iteration order is consumed order-free.** `SoftwareManager.get_open_ports` returns
`[…] + list(software.listen_on_ports)`: an int-valued set, discharged by `setIntHash` ("CPython hashes an int to itself, so the order is a
function of the values and of the order in which they were INSERTED"). The insertions come from the loop of
`_set_software_listen_on_ports`, i.e. from a string-hashed set: for colliding values (21 / 53 / 445 are all 5 mod 8) the list order DOES
depend on PYTHONHASHSEED. That is harmless only because every caller of `get_open_ports` tests membership, except `show_open_ports`, which
prints a table sorted by port. A new caller (or a changed one) breaks this. -/
theorem C03_gen_ordered_result_consumers :
    orderedResultCallers =
      [("get_open_ports",
        [("simulator/network/hardware/base.py", "Node.show_open_ports", "for"),
         ("simulator/network/hardware/nodes/host/host_node.py", "HostNode.receive_frame", "member"),
         ("simulator/network/hardware/nodes/network/router.py", "Router.check_send_frame_to_session_manager", "member")])] := by rfl

/-- the statement-by-statement translation of the source as it is today (no obligation holds it: a rewrite with the same meaning may
change it) -/
def listenLoop : Loop :=
  ⟨.seq (.assign "port_id" .elem) (.seq (.assign "port" (.const 0))
    (.seq (.ite (.app2 "call:isinstance" (.var "port_id") (.app1 "free:int" (.const 0))) (.assign "port" (.var "port_id"))
            (.ite (.app2 "call:isinstance" (.var "port_id") (.app1 "free:str" (.const 0)))
              (.assign "port" (.app2 "getitem" (.app1 "free:PORT_LOOKUP" (.const 0)) (.var "port_id"))) .skip))
          (.ite (.var "port") (.emit "listen_on_ports" (.var "port") (.var "port")) .skip))),
   [("listen_on_ports", .asSet)]⟩

/-- its PATH NORMAL FORM (decision tree over conditions on the element, emits at the leaves): what the extractor's symbolic execution
makes of ANY statement shape with this meaning - guard clause (`if not port: continue`), conditional expression, `else: port = None` -/
def listenNormal : Loop :=
  ⟨.ite (.app2 "call:isinstance" .elem (.app1 "free:int" (.const 0)))
      (.ite .elem (.emit "listen_on_ports" .elem .elem) .skip)
      (.ite (.app2 "call:isinstance" .elem (.app1 "free:str" (.const 0)))
        (.ite (.app2 "getitem" (.app1 "free:PORT_LOOKUP" (.const 0)) .elem)
          (.emit "listen_on_ports" (.app2 "getitem" (.app1 "free:PORT_LOOKUP" (.const 0)) .elem)
            (.app2 "getitem" (.app1 "free:PORT_LOOKUP" (.const 0)) .elem)) .skip) .skip),
   [("listen_on_ports", .asSet)]⟩

def normalFor (s : Site) : Option Loop :=
  match loopFor s with
  | some (.loop _ n) => some n
  | _ => none

def listenSite : Site :=
  ⟨"game/game.py", "PrimaiteGame.from_config._set_software_listen_on_ports", .setIter,
    "for <- set(software_cfg.get('options', {}).get('listen_on_ports', []))", 0⟩

/-- **Gen obligation: what the loop of `_set_software_listen_on_ports` computes.** The normal form of the loop regenerated from game.py is
`listenNormal`: ints pass, names go through `PORT_LOOKUP`, a FALSY result (0, `None`) is dropped, everything else is dropped. A rewrite of
the statements with the same meaning keeps this; `if port is not None:`, another table, another test order, a second emit break it. -/
theorem C03_gen_listen_loop_normal_form : normalFor listenSite = some listenNormal := by decide +kernel

/-- sample interpretations of the pure functions, for the validation below -/
def gridPrims (m : Nat) : Prims := ⟨fun f a => (f.length + a) % m, fun f a b => (f.length * 7 + a + 2 * b) % m⟩

/-- VALIDATION (testing, not proof) of the extractor's symbolic execution on the current tree: for every translated loop, the raw
translation and its normal form emit the same values on a grid of 3 interpretations × 6 elements. (That two loops with the same normal
form are equivalent is the extractor's claim; the theorems below are about the normal form and, separately, about today's raw shape.) -/
theorem C03_gen_normal_forms_agree_on_grid :
    (loops.all fun r => match r.2.2.2.2 with
      | .loop l n => [2, 3, 5].all fun m => (List.range 6).all fun x =>
          iterEmits (gridPrims m) l.body x == iterEmits (gridPrims m) n.body x
      | .opaque _ => true) = true := by decide +kernel

/-- what one entry becomes: ints pass, names go through `PORT_LOOKUP`, anything else and every falsy result is dropped -/
def listenLookup (P : Prims) (x : Nat) : Option Nat :=
  let port :=
    if P.f2 "call:isinstance" x (P.f1 "free:int" 0) ≠ 0 then x
    else if P.f2 "call:isinstance" x (P.f1 "free:str" 0) ≠ 0 then P.f2 "getitem" (P.f1 "free:PORT_LOOKUP" 0) x
    else 0
  if port ≠ 0 then some port else none

theorem listen_iter (P : Prims) (x : Nat) :
    (accOf "listen_on_ports" (iterEmits P listenLoop.body x)).map (·.2) = (listenLookup P x).toList ∧
    (accOf "listen_on_ports" (iterEmits P listenNormal.body x)).map (·.2) = (listenLookup P x).toList := by
  unfold listenLookup
  by_cases h1 : P.f2 "call:isinstance" x (P.f1 "free:int" 0) ≠ 0
  · by_cases hx : x ≠ 0 <;> simp [iterEmits, listenLoop, listenNormal, Stmt.exec, Expr.eval, Store.get_cons, accOf, h1, hx]
  · by_cases h2 : P.f2 "call:isinstance" x (P.f1 "free:str" 0) ≠ 0
    · by_cases hp : P.f2 "getitem" (P.f1 "free:PORT_LOOKUP" 0) x ≠ 0 <;>
        simp [iterEmits, listenLoop, listenNormal, Stmt.exec, Expr.eval, Store.get_cons, accOf, h1, h2, hp]
    · simp [iterEmits, listenLoop, listenNormal, Stmt.exec, Expr.eval, Store.get_cons, accOf, h1, h2]

/-- **The real loop, translated, computes exactly the modelled consumer** `listenPorts` (the one the component rig compares with
`from_config` on generated lists of names / ints / duplicates / 0): `set(filterMap lookup entries)`. -/
theorem C03_listen_loop_is_listenPorts (P : Prims) (keys : List Nat) (l : List Nat) :
    listenLoop.consumer P keys l = listenPorts (listenLookup P) l :=
  consumer_asSet_eq_listenPorts P keys (by decide +kernel) (fun x => (listen_iter P x).1) l

/-- **The normal form that `C03_gen_listen_loop_normal_form` holds computes exactly the modelled consumer** `listenPorts` — the one the component rig compares with the real
`from_config` on generated lists of names / ints / duplicates / 0, and the cross-process probe on lists of names. -/
theorem C03_listen_normal_is_listenPorts (P : Prims) (keys : List Nat) (l : List Nat) :
    listenNormal.consumer P keys l = listenPorts (listenLookup P) l :=
  consumer_asSet_eq_listenPorts P keys (by decide +kernel) (fun x => (listen_iter P x).2) l

end Primaite.Noninterf
