/-
C06, reachability form.  The destination scan `denyDstCheck` is sound; a protected host ignores every frame that is not
addressed to it (`C06_host_deaf`); the class `ClB` — "source is not a protected address, ARP payload well-formed, and, inside
the protected zone, not addressed to a protected host" — is closed under what hosts, switches, routers and firewalls emit
(the closure lemmas for `rtrStd` are in Props/C06Rtr.lean, those for hosts and switches in Props/C06Net.lean);
`C06_certifiedB_unchanged`.
-/
import PrimaiteModel.Model.FilterFwd
import PrimaiteModel.Props.C06Rtr
import PrimaiteModel.Props.C06Net
namespace Primaite.Filter
open Primaite Primaite.Acl Primaite.Cut

variable {W : Type}

/-- packets addressed to one of the protected addresses -/
def ForB (ba : List Ip) (pkt : Packet) : Prop := ba.contains pkt.dstIp = true

theorem dstCovers_sound (r : Rule) (a : Ip) (p : Packet) (h : dstCovers r a p.proto = true) (hp : p.dstIp = a) :
    r.hits? p = true := by
  simp only [dstCovers, Bool.and_eq_true, Option.isNone_iff_eq_none, Bool.or_eq_true, beq_iff_eq] at h
  obtain ⟨⟨⟨⟨h1, h2⟩, h3⟩, h4⟩, h5⟩ := h
  have hpr : protoMatches r.proto p.proto = true := by
    rcases h1 with h1 | h1 <;> simp [protoMatches, h1]
  simp [Rule.hits?, hpr, portMatches, h3, h4, hp, h5]
  simp [addrMatches, h2]

theorem proto_mem_all (pr : Proto) : pr ∈ allProtos := by cases pr <;> simp [allProtos]

/-- **Soundness of the destination scan**: a list that passes `denyDstCheck ba` denies every packet addressed to an address
of `ba`, whatever its source, PROTOCOL and ports, and whatever else the list holds behind the covering DENY rules.  The scan asks
for a covering DENY rule per protocol value (an any-protocol rule covers all four). -/
theorem C06_denyDstCheck_sound (ba : List Ip) (a : Acl) (h : denyDstCheck ba a = true) : DeniesClass (ForB ba) a := by
  intro p hp
  have hmem : p.dstIp ∈ ba := by simpa [ForB] using hp
  refine isPermitted_of_firstMatch_deny a p (firstMatch_deny_of_scan p a.implicit (denyDstScan p.dstIp p.proto · a.implicit)
    (fun h => by simpa [denyDstScan] using h) (fun _ h => h) (fun r _ h => ?_) a.rules 0
    (List.all_eq_true.mp (List.all_eq_true.mp h _ hmem) p.proto (proto_mem_all p.proto)))
  simp only [denyDstScan, Bool.and_eq_true, Bool.or_eq_true, beq_iff_eq] at h
  exact ⟨h.1, h.2.imp_left (dstCovers_sound r _ p · rfl)⟩

/-- **DENY tcp, DENY udp, DENY icmp is not a block**: a protocol-`none` frame (an nmap scan with `target_protocol="none"` builds
one) addressed to B is permitted by such a list — reproduced on the running code by R-net's control scenario; four rules
(`none` included) pass the scan. -/
theorem C06_three_protocols_not_a_block :
    let three : Acl := { rules := [some { anyPattern with proto := some .tcp }, some { anyPattern with proto := some .udp },
                                   some { anyPattern with proto := some .icmp }] ++ List.replicate 7 none ++
                                  [some { anyPattern with action := .permit }] ++ List.replicate 13 none, implicit := .deny }
    let four : Acl := { three with rules := three.rules.set 3 (some { anyPattern with proto := some .none }) }
    (isPermitted three { proto := .none, srcIp := 0x0A00010A#32, dstIp := 0x0A000214#32, ports := none }).1 = true ∧
    denyDstCheck [0x0A000214#32] three = false ∧ denyDstCheck [0x0A000214#32] four = true := by decide

/-- **A host ignores every frame that is not addressed to it at layer 3**: when the destination address is none of the
host's interface addresses and none of their subnets' broadcast addresses, the NIC drops the frame before the node sees
it — the host's state is untouched and nothing is emitted, whatever its software and power state. -/
theorem C06_host_deaf (soft : Soft W) (s : Node W) (p : Nat) (f : Frame) (hk : s.kind = .host)
    (hno : ∀ i ∈ s.ifaces, f.pkt.dstIp ≠ i.ip ∧ f.pkt.dstIp ≠ i.bcastAddr) : nodeRx soft s p f = .done s := by
  refine nodeRx_closed (· = .done s) soft s p f rfl fun i hi hg => ?_
  rw [hk] at hg
  have h := ((ifaceRx_eq_up_iff _ _ _ _ _).mp hg).2.2.2
  simp only at h
  split at h
  · exact absurd h (not_or.mpr (hno i (List.mem_of_getElem? hi)))
  · obtain ⟨_, j, hj, e⟩ := h
    exact absurd e.symm (hno j hj).1

section reach
variable (t : TopoB)

/-- the ARP payload of a genuine ARP packet is well-formed: a request is a broadcast, its sender is bound to the source MAC as
far as router interfaces go and is not a protected address; a reply is addressed to a consistent (MAC, address) pair -/
def ArpOKB (f : Frame) : Prop :=
  subjectToAcl f = some false →
    (f.arpReq = true → f.dstMac = bcastMac ∧ bindOK t.rtrIfs f.srcMac f.arpSnd = true ∧ t.ba.contains f.arpSnd = false) ∧
    (f.arpReq = false → bindOK t.rtrIfs f.dstMac f.pkt.dstIp = true)

/-- the frames that may arrive at node `n`: nobody uses a protected address as source; ARP payloads are well-formed; and
INSIDE the protected zone, and on a port that only zone nodes can send to, no frame is addressed to a protected host.
Nothing else is asked: any protocol, any destination outside `ba`, any amount of traffic between attacker-side nodes and
through the guards. -/
def ClB (n : Nat) (p : Nat) (f : Frame) : Prop :=
  t.ba.contains f.pkt.srcIp = false ∧ ArpOKB t f ∧ (t.zone n p = true → t.ba.contains f.pkt.dstIp = false)

def needGuard (n : Nat) : Bool := !(t.inB n || t.outside n)

/-- a firewall's lists guard the zone (the Prop behind `fwGuards`): a frame for a protected address that arrives at a first entry
point nodes outside the zone can send to (`need`) is denied there when `d e` says so, and otherwise at every second entry point
the code can select for it; `d` is fixed once, from the certified state -/
def FwGuardP (need d : FwEntry → Bool) (ifs : List Iface) (acls : AclId → Acl) : Prop :=
  ∀ e e2 f, need e = true → ForB t.ba f.pkt → SelOK ifs e f e2 →
    (isPermitted (acls (entryAcl (if d e then e else e2))) f.pkt).1 = false

/-- the decision function of a certified firewall state -/
def fwD (s : Node W) (e : FwEntry) : Bool := denyDstCheck t.ba (s.acls (entryAcl e))

variable (apps : Nat → HostApp W) (tbls : Nat → SwitchTbl W) (rtrs : Nat → RtrOpaque W) (bases : Nat → Soft W)
  (hFree : Nat → Node W → Nat → Frame → Script W)

def softB (n : Nat) : Soft W :=
  match t.role n with
  | .host => hostStd (apps n)
  | .switch => switchStd (tbls n)
  | .rtr => rtrStd t.hops (rtrs n)
  | .fw => rtrStd t.hops (rtrs n)
  | _ => bases n

/-- the system a B-topology denotes: attacker-side `free` nodes run arbitrary handlers, every other node is a PrimAITE
element — hosts behind their session manager, switches, routers / firewalls with `rtrStd`, protected hosts with ANY software -/
def sysB : Sys Nat Nat Frame (Node W) :=
  { handler := fun n => match t.role n with
      | .free => hFree n
      | _ => nodeRx (softB t apps tbls rtrs bases n),
    wire := t.wire }

def invB (σ : St Nat (Node W)) (n : Nat) (s : Node W) : Prop :=
  match t.role n with
  | .free => True
  | .host => s.kind = .host ∧ s.ifaces = (σ n).ifaces
  | .switch => s.kind = .switch
  | .rtr => s.kind = .router ∧ s.ifaces = (σ n).ifaces ∧ (needGuard t n = true → DeniesClass (ForB t.ba) (s.acls .router))
  | .fw => s.kind = .firewall ∧ s.ifaces = (σ n).ifaces ∧ (needGuard t n = true → FwGuardP t (fun e => !t.fromB n (portOf e)) (fwD t (σ n)) (σ n).ifaces s.acls)
  | .deaf => s = σ n

theorem outside_wire (n q m r : Nat) (ho : t.outside n = true) (hw : t.wire n q = some (m, r)) : t.inB m = false := by
  have := List.all_eq_true.mp ho _ (wires_find_mem t.wires n q m r hw)
  simpa using this

theorem intoB_cases (n q m r : Nat) (hw : t.wire n q = some (m, r)) (hm : t.inB m = true) :
    t.inB n = true ∨ needGuard t n = true := by
  cases hb : t.inB n
  · right
    cases ho : t.outside n
    · simp [needGuard, hb, ho]
    · have := outside_wire t n q m r ho hw; rw [hm] at this; cases this
  · exact Or.inl rfl

/-- the certificate's "inside the zone, or no wire into it, or guarded" leaves "guarded" for a node that needs a guard -/
theorem guard_of_need (n : Nat) (c : Bool) (hg : needGuard t n = true) (h : (t.inB n || t.outside n || c) = true) : c = true := by
  simp only [needGuard, Bool.not_eq_true', Bool.or_eq_false_iff] at hg
  simpa [hg.1, hg.2] using h

theorem not_fromB_of_sender (n q m r : Nat) (hw : t.wire n q = some (m, r)) (hn : t.inB n = false) : t.fromB m r = false := by
  cases h : t.fromB m r
  · rfl
  · have := List.all_eq_true.mp h _ (wires_find_mem t.wires n q m r hw)
    simp [hn] at this

theorem zone_of_outsider (n q m r : Nat) (hw : t.wire n q = some (m, r)) (hn : t.inB n = false) (hz : t.zone m r = true) :
    t.inB m = true ∧ needGuard t n = true := by
  have hf := not_fromB_of_sender t n q m r hw hn
  have hm : t.inB m = true := by simpa [TopoB.zone, hf] using hz
  rcases intoB_cases t n q m r hw hm with h | h
  · rw [hn] at h; cases h
  · exact ⟨hm, h⟩

theorem certifyB_parts (σ : St Nat (Node W)) (hc : certifyB t σ = true) :
    (∀ h, t.hops.contains h = true → t.ba.contains h = false) ∧
    (∀ n q m r, t.wire n q = some (m, r) → m < t.roles.length) ∧
    ∀ n, n < t.roles.length → certifyNodeB t n (σ n) = true := by
  simp only [certifyB, Bool.and_eq_true] at hc
  refine ⟨?_, ?_, fun n hn => List.all_eq_true.mp hc.2 n (List.mem_range.mpr hn)⟩
  · intro h hh
    have hmem : h ∈ t.hops := by simpa using hh
    have := List.all_eq_true.mp hc.1.1 h hmem
    simpa using this
  · intro n q m r hw
    have := List.all_eq_true.mp hc.1.2 _ (wires_find_mem t.wires n q m r hw)
    simpa using this

theorem role_lt (n : Nat) (h : t.role n ≠ .free) : n < t.roles.length := by
  unfold TopoB.role at h
  by_cases hn : n < t.roles.length
  · exact hn
  · have : t.roles[n]? = none := List.getElem?_eq_none (by omega)
    simp [List.getD, this] at h

theorem fwGuards_sound (need : FwEntry → Bool) (s : Node W) (h : fwGuards need t.ba s = true) :
    FwGuardP t need (fwD t s) s.ifaces s.acls := by
  intro e e2 f hneed hb hsel
  cases hd : fwD t s e
  · simp only [Bool.false_eq_true, if_false]
    have hmem : f.pkt.dstIp ∈ t.ba := by simpa [ForB] using hb
    have hself : ForB [f.pkt.dstIp] f.pkt := by simp [ForB]
    -- `SelOK` holds at first-stage entry points only; there `fwGuards` asks for the list of the selected second one
    have h1 := List.all_eq_true.mp h e (by cases e <;> simp [SelOK] at hsel ⊢)
    unfold fwD at hd
    simp only [hneed, hd, Bool.not_true, Bool.false_or] at h1
    cases e <;> simp only [SelOK] at hsel
    · subst hsel; exact C06_denyDstCheck_sound _ _ (List.all_eq_true.mp h1 _ hmem) _ hself
    · subst hsel; exact C06_denyDstCheck_sound _ _ (List.all_eq_true.mp h1 _ hmem) _ hself
    · simp only [Bool.and_eq_true] at h1
      rcases hsel with rfl | rfl
      · exact C06_denyDstCheck_sound _ _ h1.1 _ hb
      · exact C06_denyDstCheck_sound _ _ h1.2 _ hb
  · simp only [if_true]
    exact C06_denyDstCheck_sound _ _ hd _ hb

/-- hit counters never weaken the guard -/
theorem fwGuardP_bump (need d : FwEntry → Bool) (ifs : List Iface) (acls : AclId → Acl) (a : AclId) (q : Packet)
    (h : FwGuardP t need d ifs acls) : FwGuardP t need d ifs (fun b => if b = a then (isPermitted (acls a) q).2.2 else acls b) := by
  intro e e2 f hneed hb hsel
  have h1 := h e e2 f hneed hb hsel
  by_cases hba : entryAcl (if d e then e else e2) = a
  · rw [hba] at h1
    simp only [hba, if_true]
    exact ((C07_verdict_stable _ _ _).1).trans h1
  · simp only [hba, if_false]
    exact h1

theorem arpOKB_ttl (f : Frame) (x : Nat) (h : ArpOKB t f) : ArpOKB t { f with ttl := x } := by
  intro hs
  rw [subjectToAcl_ttl] at hs
  exact h hs

theorem arpOKB_nonexempt (f : Frame) (h : subjectToAcl f ≠ some false) : ArpOKB t f := fun hs => absurd hs h

theorem clB_arpRequest (o : Iface) (a : Ip) (m r : Nat) (hclean : t.ba.contains o.ip = false)
    (hbind : bindOK t.rtrIfs o.mac o.ip = true) (ha : t.zone m r = true → t.ba.contains a = false) :
    ClB t m r (arpRequestFrame o a) :=
  ⟨hclean, fun _ => ⟨fun _ => ⟨rfl, hbind, hclean⟩, fun h => by simp [arpRequestFrame] at h⟩, ha⟩

theorem clB_arpReply (o i : Iface) (f : Frame) (x n p m r : Nat) (hclean : t.ba.contains o.ip = false) (hcl : ClB t n p f)
    (hsub : subjectToAcl f = some false) (hreq : f.arpReq = true) : ClB t m r (arpReplyFrame o i { f with ttl := x }) :=
  have h := (hcl.2.1 hsub).1 hreq
  ⟨hclean, fun _ => ⟨fun h' => by simp [arpReplyFrame] at h', fun _ => h.2.1⟩, fun _ => h.2.2⟩

/-- the interfaces of a router / firewall carry no protected address and are registered, consistently, in `rtrIfs` -/
def RtrIfsOK (ifs : List Iface) : Prop :=
  ∀ (q : Nat) (i : Iface), ifs[q]? = some i →
    t.ba.contains i.ip = false ∧ t.rtrIfs.contains (i.mac, i.ip) = true ∧ bindOK t.rtrIfs i.mac i.ip = true

theorem rtrIfsOK_of_all (ifs : List Iface)
    (hall : ifs.all (fun i => ifaceClean t i && t.rtrIfs.contains (i.mac, i.ip) && bindOK t.rtrIfs i.mac i.ip) = true) : RtrIfsOK t ifs := by
  intro q i hi
  have := List.all_eq_true.mp hall i (List.mem_of_getElem? hi)
  simpa [ifaceClean, and_assoc] using this

theorem hostClosedB_of_certify (σ : St Nat (Node W)) (n : Nat) (hr : t.role n = .host) (hcn : certifyNodeB t n (σ n) = true) :
    (σ n).kind = .host ∧ HostClosed (sysB t apps tbls rtrs bases hFree) (fun _ => true) (ClB t) n (σ n).ifaces := by
  simp only [certifyNodeB, hr, Bool.and_eq_true, beq_iff_eq, Bool.not_eq_true'] at hcn
  obtain ⟨⟨⟨hk, hnB'⟩, hout⟩, hall⟩ := hcn
  have hfacts : ∀ (q : Nat) (i : Iface), (σ n).ifaces[q]? = some i → t.ba.contains i.ip = false ∧ bindOK t.rtrIfs i.mac i.ip = true := by
    intro q i hi
    have := List.all_eq_true.mp hall i (List.mem_of_getElem? hi)
    simpa [ifaceClean] using this
  have hnB : t.inB n = false := hnB'
  have hnoB : ∀ q m r, t.wire n q = some (m, r) → t.zone m r = true → False := by
    intro q m r hw hz
    have hm := (zone_of_outsider t n q m r hw hnB hz).1
    have := outside_wire t n q m r hout hw
    rw [hm] at this; cases this
  refine ⟨hk, ⟨fun _ _ _ _ => rfl, ?_, ?_⟩⟩
  · intro q i g m r hi hw
    obtain ⟨hclean, hbind⟩ := hfacts q i hi
    refine ⟨by rw [stampOn_srcIp]; exact hclean, ?_, fun hm => (hnoB q m r hw hm).elim⟩
    intro hsub
    rw [stampOn_exempt i g hsub]
    exact ⟨fun _ => ⟨rfl, hbind, hclean⟩, fun h => by simp [arpRequestFrame] at h⟩
  · intro p f x q o i m r _ hcl hsub hreq ho _
    exact clB_arpReply t o i f x n p m r (hfacts q o ho).1 hcl hsub hreq

theorem switchClosedB_of_certify (σ : St Nat (Node W)) (n : Nat) (hr : t.role n = .switch) (hcn : certifyNodeB t n (σ n) = true) :
    (σ n).kind = .switch ∧ SwitchClosed (sysB t apps tbls rtrs bases hFree) (fun _ => true) (ClB t) n := by
  simp only [certifyNodeB, hr, Bool.and_eq_true, beq_iff_eq, Bool.or_eq_true] at hcn
  obtain ⟨hk, hz⟩ := hcn
  refine ⟨hk, ⟨fun _ _ _ _ => rfl, ?_⟩⟩
  intro p f x q m r _ hcl hw
  refine ⟨hcl.1, arpOKB_ttl t f x hcl.2.1, ?_⟩
  intro hzm
  rcases hz with hz | hz
  · exact hcl.2.2 (by simp [TopoB.zone, hz])
  · cases hb : t.inB n
    · have hm := (zone_of_outsider t n q m r hw hb hzm).1
      have := outside_wire t n q m r hz hw; rw [hm] at this; cases this
    · exact hcl.2.2 (by simp [TopoB.zone, hb])

theorem rtrClosedB (ifs : List Iface) (n : Nat)
    (hhops : ∀ h, t.hops.contains h = true → t.ba.contains h = false) (hall : RtrIfsOK t ifs) :
    RtrClosed (sysB t apps tbls rtrs bases hFree) (fun _ => true) (ClB t) n ifs t.hops := by
  refine ⟨fun _ _ _ _ => rfl, ?_, ?_, ?_⟩
  · intro p f q o a m r _ hcl ho _ ha
    obtain ⟨hclean, _, hbind⟩ := hall q o ho
    refine clB_arpRequest t o a m r hclean hbind (fun _ => ?_)
    rcases ha with rfl | ha
    · exact hcl.1
    · exact hhops a ha
  · intro p f g q o m r _ hcl ho _ hg
    obtain ⟨hclean, _⟩ := hall q o ho
    refine ⟨hclean, arpOKB_nonexempt t _ ?_, fun _ => hcl.1⟩
    intro hs
    have := exempt_arp _ hs
    simp [hg] at this
  · intro p f x q o i m r _ hcl hsub hreq ho _
    exact clB_arpReply t o i f x n p m r (hall q o ho).1 hcl hsub hreq

theorem fwdOKB (ifs : List Iface) (n : Nat) (f : Frame) (hall : RtrIfsOK t ifs)
    (hsrc : t.ba.contains f.pkt.srcIp = false) (hne : subjectToAcl f ≠ some false)
    (hdst : ∀ q m r, t.wire n q = some (m, r) → t.zone m r = true → t.ba.contains f.pkt.dstIp = false) :
    FwdOK (sysB t apps tbls rtrs bases hFree) (ClB t) n ifs f := by
  intro q o m r ho hw
  obtain ⟨hclean, _, hbind⟩ := hall q o ho
  exact ⟨fun x dm => ⟨hsrc, arpOKB_nonexempt t _ hne, hdst q m r hw⟩, clB_arpRequest t o _ m r hclean hbind (hdst q m r hw)⟩

/-- **Forwarding closure at a router / firewall with clean, registered interfaces, for a frame of the class.**  A frame of the class
addressed to the arrival interface's MAC, no broadcast and not for the device, is no genuine ARP packet; `fwdOKB` applies provided
that, where the device guards the zone and the frame came from outside it, the frame is not addressed to a protected host
(`hguard`; inside the zone's scope the class says so already). -/
theorem fwdOKB_of_class (ifs : List Iface) (n p : Nat) (i : Iface) (f : Frame) (hall : RtrIfsOK t ifs) (hi : ifs[p]? = some i)
    (hcl : ClB t n p f) (hm : f.dstMac = i.mac) (hb : f.dstMac ≠ bcastMac) (hown : ownIpL ifs f.pkt.dstIp = false)
    (hguard : subjectToAcl f ≠ some false → t.zone n p = false → needGuard t n = true → t.ba.contains f.pkt.dstIp = false) :
    FwdOK (sysB t apps tbls rtrs bases hFree) (ClB t) n ifs f := by
  have hne : subjectToAcl f ≠ some false := by
    intro hs
    obtain ⟨h1, h2⟩ := hcl.2.1 hs
    have := arp_unicast_own _ _ p i f hi (hall p i hi).2.1 (fun hq => (h1 hq).1) h2 hm hb
    rw [hown] at this; cases this
  refine fwdOKB t apps tbls rtrs bases hFree ifs n f hall hcl.1 hne (fun q m r hw hz => ?_)
  cases hzn : t.zone n p
  · have hnB : t.inB n = false := by
      cases h : t.inB n
      · rfl
      · simp [TopoB.zone, h] at hzn
    exact hguard hne hzn (zone_of_outsider t n q m r hw hnB hz).2
  · exact hcl.2.2 hzn

/-- **C06, reachability form: a frame addressed to a protected host never reaches it, whatever else circulates.**
If `certifyB` accepts the network in state `σ` — every router / firewall with a wire into the protected zone denies every
packet addressed to a protected address (router: its list; firewall: the first list of the arrival port, or the list of the
second entry point the code selects for that address) — then for ALL software of the attacker-side hosts, ALL handlers of
`free` attacker-side nodes that do not forge a protected source address or an ARP payload, ALL opaque parts of every router
and firewall (ARP caches, route tables, WHERE they forward and answer), ALL switch tables and ALL software of the protected
hosts, any sequence of operations on the attacker side leaves the state of every protected host exactly as it was.
Frames to other destinations do cross the guards, the guards' own ARP requests and replies do enter the zone
(F-C06-dmz-lookup is inside the model), and the other devices of the zone do change: no hypothesis forbids it. -/
theorem C06_certifiedB_unchanged (σ : St Nat (Node W)) (hc : certifyB t σ = true)
    (hfree : ∀ n, n < t.roles.length → t.role n = .free → ∀ s p f, ClB t n p f →
      EmitsCl (sysB t apps tbls rtrs bases hFree) (ClB t) n (hFree n s p f))
    (ops : List (Nat × Op Nat Nat Frame (Node W)))
    (hops : ∀ o ∈ ops,
      (t.role o.2.node = .host ∧ ∃ a : Node W → SwScript W, o.2.script = fun s => hostOp s (a s)) ∨
      (t.role o.2.node = .free ∧ ∀ s, EmitsCl (sysB t apps tbls rtrs bases hFree) (ClB t) o.2.node (o.2.script s))) :
    ∀ b, t.role b = .deaf → runOps (sysB t apps tbls rtrs bases hFree) σ ops b = σ b := by
  obtain ⟨hhops, hrange, hnode⟩ := certifyB_parts t σ hc
  have hcn : ∀ n, t.role n ≠ .free → certifyNodeB t n (σ n) = true := fun n h => hnode n (role_lt t n h)
  have hhost : ∀ n, t.role n = .host → ∀ s, invB t σ n s ↔ (s.kind = .host ∧ s.ifaces = (σ n).ifaces) := by
    intro n hr s; simp [invB, hr]
  have hswitch : ∀ n, t.role n = .switch → ∀ s, invB t σ n s ↔ s.kind = .switch := by
    intro n hr s; simp [invB, hr]
  have hallR : ∀ n, (t.role n = .rtr ∨ t.role n = .fw) →
      (σ n).ifaces.all (fun i => ifaceClean t i && t.rtrIfs.contains (i.mac, i.ip) && bindOK t.rtrIfs i.mac i.ip) = true := by
    intro n hr
    have := hcn n (by rcases hr with hr | hr <;> rw [hr] <;> simp)
    rcases hr with hr | hr <;> simp only [certifyNodeB, hr, Bool.and_eq_true] at this <;> exact this.1.2
  have cut : IsCut (sysB t apps tbls rtrs bases hFree) (fun _ => true) (FromSideC (sysB t apps tbls rtrs bases hFree) (fun _ => true) (ClB t))
      (invB t σ) := by
    constructor
    intro n s p f _ hI hK
    cases hr : t.role n with
    | free =>
      have hh : (sysB t apps tbls rtrs bases hFree).handler n = hFree n := by simp [sysB, hr]
      rw [hh]
      have hlt : n < t.roles.length := by
        obtain ⟨n', q, _, hw⟩ := hK.1
        exact hrange n' q n p hw
      exact safe_of_interior_emits _ _ (ClB t) _ n rfl (fun s => by simp [invB, hr]) (fun _ _ _ _ => rfl) _
        (hfree n hlt hr s p f hK.2)
    | host =>
      have hh : (sysB t apps tbls rtrs bases hFree).handler n = nodeRx (hostStd (apps n)) := by simp [sysB, softB, hr]
      rw [hh]
      exact C06_host_safe _ _ (ClB t) _ n (σ n).ifaces rfl (hhost n hr)
        (hostClosedB_of_certify t apps tbls rtrs bases hFree σ n hr (hcn n (by rw [hr]; simp))).2 (apps n) s p f hI hK.1 hK.2
    | switch =>
      have hh : (sysB t apps tbls rtrs bases hFree).handler n = nodeRx (switchStd (tbls n)) := by simp [sysB, softB, hr]
      rw [hh]
      exact C06_switch_safe _ _ (ClB t) _ n rfl (hswitch n hr)
        (switchClosedB_of_certify t apps tbls rtrs bases hFree σ n hr (hcn n (by rw [hr]; simp))).2 (tbls n) s p f hI hK.1 hK.2
    | rtr =>
      have hh : (sysB t apps tbls rtrs bases hFree).handler n = nodeRx (rtrStd t.hops (rtrs n)) := by simp [sysB, softB, hr]
      rw [hh]
      have hall := rtrIfsOK_of_all t _ (hallR n (Or.inl hr))
      refine C06_rtr_safe _ _ (ClB t) _ n (σ n).ifaces t.hops
        (fun a => needGuard t n = true → DeniesClass (ForB t.ba) a)
        (fun a q h hg => deniesClass_stable _ _ _ (h hg))
        (fun s => by simp [invB, hr]) rfl (rtrClosedB t apps tbls rtrs bases hFree _ n hhops hall) ?_ (rtrs n) s p f hI hK.1 hK.2
      intro p' i f' _ hcl hi hm hb hown hv
      refine fwdOKB_of_class t apps tbls rtrs bases hFree _ n p' i f' hall hi hcl hm hb hown (fun hne _ hg => ?_)
      rcases hv with hv | ⟨a, ha, hp⟩
      · exact absurd hv hne
      · cases hd : t.ba.contains f'.pkt.dstIp
        · rfl
        · have := ha hg f'.pkt hd
          rw [hp] at this; cases this
    | fw =>
      have hh : (sysB t apps tbls rtrs bases hFree).handler n = nodeRx (rtrStd t.hops (rtrs n)) := by simp [sysB, softB, hr]
      rw [hh]
      have hall := rtrIfsOK_of_all t _ (hallR n (Or.inr hr))
      refine C06_fw_safe _ _ (ClB t) _ n (σ n).ifaces t.hops
        (fun acls => needGuard t n = true → FwGuardP t (fun e => !t.fromB n (portOf e)) (fwD t (σ n)) (σ n).ifaces acls)
        (fun acls a q h hg => fwGuardP_bump t _ _ _ acls a q (h hg))
        (fun s => by simp [invB, hr]) rfl (rtrClosedB t apps tbls rtrs bases hFree _ n hhops hall) ?_ (rtrs n) s p f hI hK.1 hK.2
      intro p' i f' e _ hcl hi hpe hm hb hown hv
      refine fwdOKB_of_class t apps tbls rtrs bases hFree _ n p' i f' hall hi hcl hm hb hown (fun _ hzn hg => ?_)
      obtain ⟨a1, a2, e2, g1, p1, g2, p2, hsel⟩ := hv
      cases hd : t.ba.contains f'.pkt.dstIp
      · rfl
      · exfalso
        have hport : portOf e = p' := by
          rcases portEntry_cases p' e hpe with ⟨rfl, rfl⟩ | ⟨rfl, rfl⟩ | ⟨rfl, rfl⟩ <;> rfl
        have hneed : (!t.fromB n (portOf e)) = true := by
          rw [hport]
          cases hfb : t.fromB n p'
          · rfl
          · simp [TopoB.zone, hfb] at hzn
        -- the guard denies the frame at the first list or at the selected second one; it passed both
        have h1 := g1 hg e e2 f' hneed hd hsel
        have h2 := g2 hg e e2 f' hneed hd hsel
        cases hde : fwD t (σ n) e
        · simp only [hde, Bool.false_eq_true, if_false] at h2
          rw [p2] at h2; cases h2
        · simp only [hde, if_true] at h1
          rw [p1] at h1; cases h1
    | deaf =>
      have hh : (sysB t apps tbls rtrs bases hFree).handler n = nodeRx (bases n) := by simp [sysB, softB, hr]
      rw [hh]
      have hs0 : s = σ n := by simpa [invB, hr] using hI
      have hcd := hcn n (by rw [hr]; simp)
      simp only [certifyNodeB, hr, Bool.and_eq_true, beq_iff_eq] at hcd
      obtain ⟨⟨hk, hin⟩, hall⟩ := hcd
      have hdst := hK.2.2.2 (by simp [TopoB.zone, hin])
      rw [hs0, C06_host_deaf (bases n) (σ n) p f hk ?_]
      · exact SafeAct.done (by simp [invB, hr])
      · intro i hi
        have := List.all_eq_true.mp hall i hi
        simp only [Bool.and_eq_true] at this
        constructor
        · intro h; rw [h, this.1] at hdst; cases hdst
        · intro h; rw [h, this.2] at hdst; cases hdst
  have hσ : ∀ n, (fun _ : Nat => true) n = true → invB t σ n (σ n) := by
    intro n _
    cases hr : t.role n with
    | free => simp [invB, hr]
    | host => exact (hhost n hr _).mpr ⟨(hostClosedB_of_certify t apps tbls rtrs bases hFree σ n hr (hcn n (by rw [hr]; simp))).1, rfl⟩
    | switch => exact (hswitch n hr _).mpr (switchClosedB_of_certify t apps tbls rtrs bases hFree σ n hr (hcn n (by rw [hr]; simp))).1
    | rtr =>
      have hcd := hcn n (by rw [hr]; simp)
      simp only [certifyNodeB, hr, Bool.and_eq_true, beq_iff_eq] at hcd
      simp only [invB, hr]
      exact ⟨hcd.1.1, trivial, fun hg => C06_denyDstCheck_sound _ _ (guard_of_need t n _ hg hcd.2)⟩
    | fw =>
      have hcd := hcn n (by rw [hr]; simp)
      simp only [certifyNodeB, hr, Bool.and_eq_true, beq_iff_eq] at hcd
      simp only [invB, hr]
      exact ⟨hcd.1.1, trivial, fun hg => fwGuards_sound t _ (σ n) (guard_of_need t n _ hg hcd.2)⟩
    | deaf => simp [invB, hr]
  have hops' : ∀ o ∈ ops, SafeOp (sysB t apps tbls rtrs bases hFree) (fun _ => true)
      (FromSideC (sysB t apps tbls rtrs bases hFree) (fun _ => true) (ClB t)) (invB t σ) o.2 := by
    intro o ho
    refine ⟨rfl, ?_⟩
    intro s hs
    rcases hops o ho with ⟨hr, a, ha⟩ | ⟨hr, he⟩
    · rw [ha]
      exact C06_hostOp_safe _ _ (ClB t) _ o.2.node (σ o.2.node).ifaces rfl (hhost _ hr)
        (hostClosedB_of_certify t apps tbls rtrs bases hFree σ _ hr (hcn _ (by rw [hr]; simp))).2 a s hs
    · exact safe_of_interior_emits _ _ (ClB t) _ o.2.node rfl (fun s => by simp [invB, hr]) (fun _ _ _ _ => rfl) _ (he s)
  intro b hb
  have := (runOps_good _ _ _ _ cut ops σ hops' hσ).1 b rfl
  simpa [invB, hb] using this

end reach

section examplesB

def exDstB : Rule := { anyPattern with dstIp := some 0x0A000214#32 }
def exDstNet : Rule := { anyPattern with dstIp := some 0x0A000200#32, dstWc := some 0x000000FF#32 }

/-- DENY dst = B, DENY dst = 10.0.2.0/24 (covers the subnet broadcast address), PERMIT any-any behind them -/
def exDstAcl : Acl :=
  { rules := [some exDstB, some exDstNet] ++ List.replicate 8 none ++ [some exPermitAny] ++ List.replicate 13 none, implicit := .deny }

def exRouterD : Node Unit := { exRouterC with acls := fun _ => exDstAcl }

/-- A (0) — SW (1) — R (2) — B (3), R denies only what is addressed to B -/
def exTopoB : TopoB :=
  { roles := [.host, .switch, .rtr, .deaf], zoneB := [false, false, false, true],
    wires := [((0, 0), (1, 0)), ((1, 0), (0, 0)), ((1, 1), (2, 0)), ((2, 0), (1, 1)), ((2, 1), (3, 0)), ((3, 0), (2, 1))],
    ba := [0x0A000214#32, 0x0A0002FF#32], rtrIfs := [(11, 0x0A000101#32), (12, 0x0A000201#32)], hops := [] }

def exStatesB : Nat → Node Unit := fun n =>
  if n = 1 then exSwitch else if n = 2 then exRouterD else exHost (if n = 0 then 0x0A00010A#32 else 0x0A000214#32)

/-- the list is NOT a deny-everything list and NOT a source-class list (`denyAllCheck` and `denyClassCheck` reject it), the
destination scan accepts it; `certifyB` accepts the network; it rejects it without the rule for the subnet broadcast address,
with a PERMIT rule ahead, when B's broadcast address is missing from `ba`, and when a next hop is a protected address -/
example : denyAllCheck exDstAcl = false ∧ denyClassCheck [exSrcRange] exDstAcl = false ∧
    denyDstCheck exTopoB.ba exDstAcl = true ∧ certifyB exTopoB exStatesB = true ∧
    certifyB exTopoB (fun n => if n = 2 then { exRouterD with acls := fun _ =>
      { exDstAcl with rules := [some exDstB] ++ List.replicate 9 none ++ [some exPermitAny] ++ List.replicate 13 none } } else exStatesB n) = false ∧
    certifyB exTopoB (fun n => if n = 2 then { exRouterD with acls := fun _ =>
      { exDstAcl with rules := [some exPermitAny] ++ exDstAcl.rules } } else exStatesB n) = false ∧
    certifyB { exTopoB with ba := [0x0A000214#32] } exStatesB = false ∧
    certifyB { exTopoB with hops := [0x0A000214#32] } exStatesB = false := by decide

/-- the theorem applies: whatever A's software sends — to C, to the router, to the other side — B's state never changes -/
example (apps : Nat → HostApp Unit) (tbls : Nat → SwitchTbl Unit) (rtrs : Nat → RtrOpaque Unit) (bases : Nat → Soft Unit)
    (hFree : Nat → Node Unit → Nat → Frame → Script Unit) (ops : List (Nat × Op Nat Nat Frame (Node Unit)))
    (hops : ∀ o ∈ ops, o.2.node = 0 ∧ ∃ a : Node Unit → SwScript Unit, o.2.script = fun s => hostOp s (a s)) :
    runOps (sysB exTopoB apps tbls rtrs bases hFree) exStatesB ops 3 = exStatesB 3 := by
  apply C06_certifiedB_unchanged exTopoB apps tbls rtrs bases hFree exStatesB (by decide)
  · intro n hlt hr; exfalso; revert hr
    have : n < 4 := hlt
    match n with
    | 0 | 1 | 2 | 3 => decide
  · intro o ho
    obtain ⟨h0, a, ha⟩ := hops o ho
    exact Or.inl ⟨by rw [h0]; decide, a, ha⟩
  · decide

/-- a frame to another destination DOES cross the router: the permitted branch is reached, the forwarding software is asked -/
example : (isPermitted exDstAcl { proto := .icmp, srcIp := 0x0A00010A#32, dstIp := 0x0A000315#32, ports := none }).1 = true ∧
    (isPermitted exDstAcl { proto := .icmp, srcIp := 0x0A00010A#32, dstIp := 0x0A000214#32, ports := none }).1 = false := by decide

end examplesB

end Primaite.Filter
