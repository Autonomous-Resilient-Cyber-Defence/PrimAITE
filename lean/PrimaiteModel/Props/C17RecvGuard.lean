/-
C17 — "while the service is stopped, its node is off …, no client can connect, query or
restore" stated on the TRANSLATED dispatcher itself (Gen/DatabaseTr.lean), independent of the equality proof `C17_tr_receive`
and independent of what else runs on the node (the node's port demultiplexing is NOT used: the service's own guard must refuse).
-/
import PrimaiteModel.Model.Database
import PrimaiteModel.Gen.DatabaseTr
namespace Primaite.Database
open Primaite.Gen

/-- the service's own guard, the first statement of the translated dispatcher -/
theorem tr_receive_cannot_act (s : Server) (src : Nat) (raw : Raw) (h : s.canAct = false) :
    DatabaseTr.receive s src raw = (s, RecvOut.ret none false) := by
  unfold DatabaseTr.receive
  simp [h]

/-- **A service that is not RUNNING handles nothing.**  For every server state (any table, file, health, password), every sender and
every raw payload (well-formed or not, any connection id — in particular one the service issued earlier and the client kept): if the
service's operating state is not RUNNING, the translated `DatabaseService.receive` returns False, sends nothing, and leaves the whole
server (connection table, file health, service health, id counter) exactly as it was. -/
theorem C17_gen_receive_not_running (s : Server) (src : Nat) (raw : Raw) (h : s.op ≠ .running) :
    DatabaseTr.receive s src raw = (s, RecvOut.ret none false) := by
  apply tr_receive_cannot_act
  unfold Server.canAct
  cases hop : s.op <;> simp_all

/-- the same for a node that is not ON -/
theorem C17_gen_receive_node_off (s : Server) (src : Nat) (raw : Raw) (h : s.node.isOn = false) :
    DatabaseTr.receive s src raw = (s, RecvOut.ret none false) := by
  apply tr_receive_cannot_act
  unfold Server.canAct
  simp [h]

end Primaite.Database
