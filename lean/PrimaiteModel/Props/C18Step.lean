/-
C18, continued — the tick of the property is the STEP of an episode.

`Props/C18.lean` proves the bounds for "a tick" = `Op.tick` followed by any actions.  What a user, an agent and the observation
space call a tick is one *step* of the environment, and the code writes that loop three times (`PrimaiteGame.step`,
`PrimaiteGymEnv.step`, `PrimaiteRayMARLEnv.step`):

    self.game.pre_timestep()          -- Simulation.pre_timestep -> Network.pre_timestep: every load := 0      (Op.tick)
    self.game.apply_agent_actions()   -- the agents' requests: whatever traffic they cause                      (Op.act a)
    self.game.advance_timestep()      -- Simulation.apply_timestep: services / applications send their traffic  (Op.act b)

This file states the property for *steps*: the order above is read from the source on every run (`Gen.Link.stepLoops`,
obligation `C18_gen_step_loops`), `stepOpsOf` turns a call order into model operations, and the theorems speak about `episode`s
(lists of steps with arbitrary traffic forests `a`, `b`).  The two orders a careless edit produces — the reset moved behind the
agents' actions, the reset dropped / made conditional — are proved to violate the property (`…_counterexample`).
-/
import PrimaiteModel.Props.C18

namespace Primaite.Link

inductive StepCall where
  | preTimestep | applyAgentActions | advanceTimestep
deriving Repr, DecidableEq

/-- The name of the call in the source. -/
def StepCall.name : StepCall → String
  | .preTimestep => "pre_timestep"
  | .applyAgentActions => "apply_agent_actions"
  | .advanceTimestep => "advance_timestep"

/-- The order in which the code makes them (compared with the source: `C18_gen_step_loops`). -/
def stepOrder : List StepCall := [.preTimestep, .applyAgentActions, .advanceTimestep]

/-- One step written with the calls in `order`: `a` is what the agents' actions cause, `b` what `apply_timestep` causes. -/
def stepOpsOf (order : List StepCall) (a b : List Ev) : List Op :=
  order.map fun
    | .preTimestep => Op.tick
    | .applyAgentActions => Op.act a
    | .advanceTimestep => Op.act b

/-- One step of the code. -/
def gameStep (a b : List Ev) : List Op := stepOpsOf stepOrder a b

theorem gameStep_eq (a b : List Ev) : gameStep a b = [.tick, .act a, .act b] := rfl

/-- An episode (or any number of episodes on the same objects): one pair of forests per step. -/
def episodeOf (order : List StepCall) : List (List Ev × List Ev) → List Op
  | [] => []
  | s :: ss => stepOpsOf order s.1 s.2 ++ episodeOf order ss

def episode (steps : List (List Ev × List Ev)) : List Op := episodeOf stepOrder steps

theorem episode_cons (a b : List Ev) (ss : List (List Ev × List Ev)) :
    episode ((a, b) :: ss) = .tick :: .act a :: .act b :: episode ss := rfl

theorem episode_append (s t : List (List Ev × List Ev)) : episode (s ++ t) = episode s ++ episode t := by
  induction s with
  | nil => rfl
  | cons x xs ih =>
    obtain ⟨a, b⟩ := x
    simp only [List.cons_append, episode_cons, ih]

theorem episode_noCap (steps : List (List Ev × List Ev)) : NoCap (episode steps) := by
  induction steps with
  | nil => exact List.forall_mem_nil _
  | cons x xs ih =>
    exact List.forall_mem_cons.mpr ⟨rfl, List.forall_mem_cons.mpr ⟨rfl, List.forall_mem_cons.mpr ⟨rfl, ih⟩⟩⟩

/-- Run an episode step by step: the final state and, per step, the records of every `send_frame` of that step. -/
def runSteps (n : Net) : List (List Ev × List Ev) → Net × List (List Rec)
  | [] => (n, [])
  | s :: ss =>
    let r1 := runEvs (tick n) s.1
    let r2 := runEvs r1.1 s.2
    let r := runSteps r2.1 ss
    (r.1, (r1.2 ++ r2.2) :: r.2)

/-- The steps are exactly the segments `runSeg` cuts the history into (so they are what `run`, which the driver executes, does). -/
theorem runSeg_episode (n : Net) (cur : List Rec) (steps : List (List Ev × List Ev)) :
    runSeg n cur (episode steps) = ((runSteps n steps).1, cur :: (runSteps n steps).2) := by
  induction steps generalizing n cur with
  | nil => rfl
  | cons x xs ih =>
    obtain ⟨a, b⟩ := x
    rw [episode_cons]
    simp only [runSeg, runSteps, List.nil_append]
    rw [ih]

theorem runSteps_eq_run (n : Net) (steps : List (List Ev × List Ev)) :
    (runSteps n steps).1 = (run n (episode steps)).1 ∧ (runSteps n steps).2.flatten = (run n (episode steps)).2 := by
  have h := runSeg_eq_run n [] (episode steps)
  rw [runSeg_episode] at h
  simpa using h

/-- **Every step of every episode stays within capacity.**  Start anywhere (any network, any loads left over — e.g. by the traffic
of construction or of a previous episode), run any number of steps with any traffic in them (nested sends, floods, interfaces
toggled, deliveries cut short, airspace membership changing), the traffic caused by the agents' actions and the traffic caused by
`apply_timestep` together: in *each step*, for every wired link the data carried is within the bandwidth, for every wireless
channel the data sent is within the capacity, and per frequency-name capacity `C` the data sent under it is within `C`. -/
theorem C18_every_step_carried_le_bandwidth (n : Net) (steps : List (List Ev × List Ev)) :
    ∀ g ∈ (runSteps n steps).2,
      (∀ k, carriedOn false k g ≤ bwOf n k) ∧ (∀ c, carriedOn true c g ≤ capOf n c) ∧ (∀ c C, sentUnder c C g ≤ C) := by
  cases steps with
  | nil => intro g hg; cases hg
  | cons x xs =>
    obtain ⟨a, b⟩ := x
    intro g hg
    have hn : NoCap (.act a :: .act b :: episode xs) :=
      fun o ho => episode_noCap ((a, b) :: xs) o (List.mem_cons_of_mem _ ho)
    refine C18_carried_le_bandwidth_every_tick n (.act a :: .act b :: episode xs) hn g ?_
    -- the segments of the history after its first tick are the steps
    show g ∈ (runSeg _ _ (episode xs)).2
    rw [runSeg_episode]
    exact hg

/-- **Every step starts at zero**: whatever the steps before did (and whatever was down, disabled or gone from the airspace when
they ended), the state in which the traffic of the next step begins — the state right after the step's first call — has load 0 on
every wired link and every wireless channel. -/
theorem C18_every_step_starts_at_zero (n : Net) (before : List (List Ev × List Ev)) (a b : List Ev) :
    episode (before ++ [(a, b)]) = (episode before ++ [.tick]) ++ [.act a, .act b] ∧
    (∀ l ∈ (run n (episode before ++ [.tick])).1.links, l.load = 0) ∧
    (∀ c ∈ (run n (episode before ++ [.tick])).1.chans, c.load = 0) := by
  refine ⟨?_, (C18_every_tick_starts_at_zero n (episode before)).1, (C18_every_tick_starts_at_zero n (episode before)).2.1⟩
  rw [episode_append]
  simp only [episode, episodeOf, List.append_nil, List.append_assoc]
  rfl

/-- two steps on a link of 10 that starts with a stale load of 7: each step carries 8 (agents' traffic) and refuses the second 8
(the timestep's traffic); nothing of step 1 is left in step 2 -/
example :
    let n : Net := { links := [{ bw := 10, load := 7, enA := true, enB := true }], chans := [] }
    let r := runSteps n [([.send 0 true 8 true []], [.send 0 false 8 true []]), ([.send 0 true 8 true []], [])]
    r.2.map (carriedOn false 0) = [8, 8] ∧ r.2.map (·.map (·.verdict)) = [[.carried, .full], [.carried]] := by
  decide +kernel

/-- The property for a step loop written in `order`: each step's traffic on each link stays within the bandwidth.  (`carriedOn`
of the records of ONE step, i.e. of `run` over the operations of that step from the state the steps before left.) -/
def C18_Full_step_order (order : List StepCall) : Prop :=
  ∀ (n : Net) (before : List (List Ev × List Ev)) (a b : List Ev) (k : Nat),
    carriedOn false k (run (run n (episodeOf order before)).1 (stepOpsOf order a b)).2 ≤ bwOf n k

/-- It holds for the order of the code … -/
theorem C18_Full_step_order_holds : C18_Full_step_order stepOrder := by
  intro n before a b k
  -- the steps before change no bandwidth, and the step is the one tick of the history `[.act a, .act b]` after a boundary
  rw [← (runSeg_bw n [] (episode before) (episode_noCap before) k).1, (runSeg_eq_run n [] (episode before)).1]
  refine (C18_carried_le_bandwidth_every_tick _ [.act a, .act b]
    (List.forall_mem_cons.mpr ⟨rfl, List.forall_mem_singleton.mpr rfl⟩) _ (List.mem_singleton.mpr ?_)).1 k
  show (run _ [.tick, .act a, .act b]).2 = _
  simp only [run, step, List.nil_append, List.append_nil]
  rfl

/-- … not when the reset is moved behind the agents' actions (`apply_agent_actions(); pre_timestep(); advance_timestep()`): the
link of 10 carries 8 for the agents and 8 for the services in one step — 16. -/
theorem C18_step_reset_after_actions_counterexample :
    ¬ C18_Full_step_order [.applyAgentActions, .preTimestep, .advanceTimestep] := fun h =>
  absurd (h { links := [{ bw := 10, load := 0, enA := true, enB := true }], chans := [] } []
      [.send 0 true 8 true []] [.send 0 true 8 true []] 0) (by decide +kernel)

/-- … and when the reset is dropped (or skipped in some step), loads do not start the step at zero: after a step that carried 8 on
a link of 10, a frame of 5 that fits the empty link is dropped at the sender in the next step (and every later one: the link is
dead until something resets it), while the code's loop carries it. -/
theorem C18_step_without_reset_counterexample :
    let n : Net := { links := [{ bw := 10, load := 0, enA := true, enB := true }], chans := [] }
    let first : List (List Ev × List Ev) := [([.send 0 true 8 true []], [])]
    let noReset : List StepCall := [.applyAgentActions, .advanceTimestep]
    loadOf (run n (episodeOf noReset first)).1 0 = 8 ∧
    (run (run n (episodeOf noReset first)).1 (stepOpsOf noReset [.send 0 true 5 true []] [])).2.map (·.verdict) = [.full] ∧
    (run (run n (episode first)).1 (gameStep [.send 0 true 5 true []] [])).2.map (·.verdict) = [.carried] := by
  decide +kernel

/-- Every place where the step loop is written makes the three calls in `stepOrder`, each exactly once, each as a plain
top-level statement (a call under an `if` / loop / `try` would read `… (conditional)`); nothing else calls
`apply_agent_actions` / `advance_timestep`. -/
theorem C18_gen_step_loops :
    Gen.Link.stepLoops = [
      ("environment.py:PrimaiteGymEnv.step", stepOrder.map StepCall.name),
      ("game.py:PrimaiteGame.step", stepOrder.map StepCall.name),
      ("ray_envs.py:PrimaiteRayMARLEnv.step", stepOrder.map StepCall.name)] := rfl

/-- The calls that open and run a tick of the whole simulation: the game's two wrappers and `Simulation`'s two methods, nothing
else (so a tick boundary happens exactly where a step loop puts it). -/
theorem C18_gen_timestep_drivers :
    Gen.Link.timestepDrivers = [
      "game.py:PrimaiteGame.advance_timestep:self.simulation.apply_timestep",
      "game.py:PrimaiteGame.pre_timestep:self.simulation.pre_timestep",
      "sim_container.py:Simulation.apply_timestep:self.network.apply_timestep",
      "sim_container.py:Simulation.pre_timestep:self.network.pre_timestep"] := rfl

end Primaite.Link
