/-
C14 — the INVENTORY of writers, tied to the source.

`Gen/Health.lean` (extractor harness/extract/health.py, pure `ast`, whole tree under src/primaite) lists
* `inventory`  every way a health / visibility / countdown field is written: attribute assignments and augmented assignments to
               `health_state_actual`, `health_state_visible`, `health_status`, `visible_health_status`, `revealed_to_red`,
               `_scanned_this_step` and every `*_countdown`; class-level defaults; calls of `set_health_state`; constructor
               keywords named like a field; constructors fed with `**x.model_dump(…)`; any `setattr` / `__dict__[…] =` —
               each with file, function, value and the guard (enclosing tests, negated early exits) under which it runs;
* `triggers`   every call site of a method that contains such a write (`scan`, `fix`, `corrupt`, `repair`, `restore`, …);
* `tickBodies` the statements of every `apply_timestep` between the simulation and a health item.

This file holds the hand-written counterpart: each row paired with the EVENT of the model that stands for it (`Ev`), or with
`outOfScope` for the fields that are not C14 observables (`revealed_to_red` and the folders' `red_scan_countdown`: the red
agent's view). The obligations `C14_gen_inventory`, `C14_gen_triggers`, `C14_gen_tick_bodies` say "the source's inventory =
this table": a new writer, a new caller of a writer, a changed guard or value, or an edited timestep body anywhere in the tree
breaks one of them.
The theorems `C14_inv_*` then state the property against the table: a health value changes in a step only if the step
contains one of the events that the table lists for that field.
-/
import PrimaiteModel.Props.C14Life
import PrimaiteModel.Gen.Health
namespace Primaite.Health
open Primaite.Gen.Health (W T)

/-- the events of the model that write a health / countdown field -/
inductive Ev
  /-- initial values of a fresh item (class defaults, `Software.__init__`): `SwSpec.construct`, `freshFile`, `freshFolder`, the rig's start state -/
  | construct
  /-- the body of `set_health_state` = `Sw.setHealth` (every `call` row goes through it) -/
  | swSetter
  | swScan | swFixStart | swFixTick | swCompromise
  /-- first start / run: UNUSED → GOOD (`Sw.wake`) -/
  | swWake
  /-- external writers of software health = `Op.swSet` (connection capacity, web-server dependency, database restore) -/
  | swExternal
  | appInstallStart | appInstallTick | svcRestartStart | svcRestartTick
  | fileScan | fileCorrupt | fileRepair | fileRestore
  /-- `copy_file`: the copy carries every field of its source = `DOp.fsCopyFile` -/
  | fileCopy
  /-- external writers of file health = `Op.fileSet` (database queries, FTP transfer) -/
  | fileExternal
  /-- `restore_backup` carries the replaced file's visible status over = `DOp.dbReplace` -/
  | dbReplace
  | folderScanStart | folderScanTick | folderInstantScan | folderCorrupt | folderRepair | folderRestoreStart | folderRestoreTick
  /-- the database folder marked CORRUPT by an ENCRYPT query = `DOp.folderSet` -/
  | folderExternal
  | nodeScanStart | nodeScanTick | nodePowerOn | nodePowerOff | nodePowerTick
  /-- the node's reveal-to-red countdown (`Op.redScan`, `Node.redPhase`): modelled because it ticks in the block of the whole-node
  scan; what it reveals is not health -/
  | nodeRedScan
  /-- `Folder.pre_timestep` clears the observation refresh flag = `Folder.pre` / `Node.pre` (Model/HealthObs.lean) -/
  | folderPre
  /-- not a C14 observable: `revealed_to_red`, `red_scan_countdown` (red agent's view), the folders' own `red_scan_countdown` -/
  | outOfScope
deriving DecidableEq, Repr

/-- every writer of the source, with the model event that stands for it -/
def modelWriters : List (W × Ev) := [
  (⟨"simulator/file_system/file.py", "File.corrupt", "health_status", "assign", "self.health_status", "FileSystemItemHealthStatus.CORRUPT", "not (self.deleted) && self.health_status == FileSystemItemHealthStatus.GOOD"⟩, .fileCorrupt),
  (⟨"simulator/file_system/file.py", "File.repair", "health_status", "assign", "self.health_status", "FileSystemItemHealthStatus.GOOD", "not (self.deleted) && self.health_status == FileSystemItemHealthStatus.CORRUPT"⟩, .fileRepair),
  (⟨"simulator/file_system/file.py", "File.restore", "health_status", "assign", "self.health_status", "FileSystemItemHealthStatus.GOOD", "not (self.deleted) && self.health_status == FileSystemItemHealthStatus.CORRUPT"⟩, .fileRestore),
  (⟨"simulator/file_system/file.py", "File.reveal_to_red", "revealed_to_red", "assign", "self.revealed_to_red", "True", "not (self.deleted)"⟩, .outOfScope),
  (⟨"simulator/file_system/file.py", "File.scan", "visible_health_status", "assign", "self.visible_health_status", "self.health_status", "<translated: C14GenScan>"⟩, .fileScan),
  (⟨"simulator/file_system/file_system.py", "FileSystem.copy_file", "*", "copy", "File", "file.model_dump(exclude={'uuid', 'folder_id', 'folder_name', 'sim_path'})", "file"⟩, .fileCopy),
  (⟨"simulator/file_system/file_system_item_abc.py", "FileSystemItemABC", "health_status", "default", "health_status", "FileSystemItemHealthStatus.GOOD", ""⟩, .construct),
  (⟨"simulator/file_system/file_system_item_abc.py", "FileSystemItemABC", "revealed_to_red", "default", "revealed_to_red", "False", ""⟩, .construct),
  (⟨"simulator/file_system/file_system_item_abc.py", "FileSystemItemABC", "visible_health_status", "default", "visible_health_status", "FileSystemItemHealthStatus.NONE", ""⟩, .construct),
  (⟨"simulator/file_system/folder.py", "Folder", "red_scan_countdown", "default", "red_scan_countdown", "0", ""⟩, .construct),
  (⟨"simulator/file_system/folder.py", "Folder", "restore_countdown", "default", "restore_countdown", "0", ""⟩, .construct),
  (⟨"simulator/file_system/folder.py", "Folder", "scan_countdown", "default", "scan_countdown", "0", ""⟩, .construct),
  (⟨"simulator/file_system/folder.py", "Folder.__init__", "_scanned_this_step", "assign", "self._scanned_this_step", "False", ""⟩, .construct),
  (⟨"simulator/file_system/folder.py", "Folder._restoring_timestep", "health_status", "assign", "self.health_status", "FileSystemItemHealthStatus.GOOD", "self.restore_countdown >= 0 && self.restore_countdown == 0 && not (self.deleted) && self.health_status in [FileSystemItemHealthStatus.CORRUPT, FileSystemItemHealthStatus.RESTORING]"⟩, .folderRestoreTick),
  (⟨"simulator/file_system/folder.py", "Folder._restoring_timestep", "restore_countdown", "augSub", "self.restore_countdown", "1", "self.restore_countdown >= 0"⟩, .folderRestoreTick),
  (⟨"simulator/file_system/folder.py", "Folder._reveal_to_red_timestep", "red_scan_countdown", "augSub", "self.red_scan_countdown", "1", "self.red_scan_countdown >= 0"⟩, .outOfScope),
  (⟨"simulator/file_system/folder.py", "Folder._reveal_to_red_timestep", "revealed_to_red", "assign", "self.revealed_to_red", "True", "self.red_scan_countdown >= 0 && self.red_scan_countdown == 0"⟩, .outOfScope),
  (⟨"simulator/file_system/folder.py", "Folder._scan_timestep", "_scanned_this_step", "assign", "self._scanned_this_step", "True", "<translated: C14GenScan>"⟩, .folderScanTick),
  (⟨"simulator/file_system/folder.py", "Folder._scan_timestep", "health_status", "assign", "self.health_status", "FileSystemItemHealthStatus(max([f.health_status.value for f in self.files.values()] or [0]))", "<translated: C14GenScan>"⟩, .folderScanTick),
  (⟨"simulator/file_system/folder.py", "Folder._scan_timestep", "scan_countdown", "augSub", "self.scan_countdown", "1", "<translated: C14GenScan>"⟩, .folderScanTick),
  (⟨"simulator/file_system/folder.py", "Folder._scan_timestep", "visible_health_status", "assign", "self.visible_health_status", "self.health_status", "<translated: C14GenScan>"⟩, .folderScanTick),
  (⟨"simulator/file_system/folder.py", "Folder.corrupt", "health_status", "assign", "self.health_status", "FileSystemItemHealthStatus.CORRUPT", "not (self.deleted)"⟩, .folderCorrupt),
  (⟨"simulator/file_system/folder.py", "Folder.pre_timestep", "_scanned_this_step", "assign", "self._scanned_this_step", "False", ""⟩, .folderPre),
  (⟨"simulator/file_system/folder.py", "Folder.repair", "health_status", "assign", "self.health_status", "FileSystemItemHealthStatus.GOOD", "not (self.deleted)"⟩, .folderRepair),
  (⟨"simulator/file_system/folder.py", "Folder.repair", "health_status", "assign", "self.health_status", "FileSystemItemHealthStatus.GOOD", "not (self.deleted) && self.health_status == FileSystemItemHealthStatus.CORRUPT"⟩, .folderRepair),
  (⟨"simulator/file_system/folder.py", "Folder.restore", "health_status", "assign", "self.health_status", "FileSystemItemHealthStatus.RESTORING", "self.restore_countdown <= 0"⟩, .folderRestoreStart),
  (⟨"simulator/file_system/folder.py", "Folder.restore", "restore_countdown", "assign", "self.restore_countdown", "max(self.restore_duration, 1)", "self.restore_countdown <= 0"⟩, .folderRestoreStart),
  (⟨"simulator/file_system/folder.py", "Folder.reveal_to_red", "red_scan_countdown", "assign", "self.red_scan_countdown", "self.red_scan_duration", "not (self.deleted) && not (instant_scan) && self.red_scan_countdown <= 0"⟩, .outOfScope),
  (⟨"simulator/file_system/folder.py", "Folder.reveal_to_red", "revealed_to_red", "assign", "self.revealed_to_red", "True", "not (self.deleted) && instant_scan"⟩, .outOfScope),
  (⟨"simulator/file_system/folder.py", "Folder.scan", "_scanned_this_step", "assign", "self._scanned_this_step", "True", "<translated: C14GenScan>"⟩, .folderInstantScan),
  (⟨"simulator/file_system/folder.py", "Folder.scan", "scan_countdown", "assign", "self.scan_countdown", "max(self.scan_duration, 1)", "<translated: C14GenScan>"⟩, .folderScanStart),
  (⟨"simulator/file_system/folder.py", "Folder.scan", "visible_health_status", "assign", "self.visible_health_status", "FileSystemItemHealthStatus.CORRUPT", "<translated: C14GenScan>"⟩, .folderInstantScan),
  (⟨"simulator/network/hardware/base.py", "Node", "node_scan_countdown", "default", "node_scan_countdown", "0", ""⟩, .construct),
  (⟨"simulator/network/hardware/base.py", "Node", "red_scan_countdown", "default", "red_scan_countdown", "0", ""⟩, .construct),
  (⟨"simulator/network/hardware/base.py", "Node.ConfigSchema", "revealed_to_red", "default", "revealed_to_red", "False", ""⟩, .construct),
  (⟨"simulator/network/hardware/base.py", "Node.ConfigSchema", "shut_down_countdown", "default", "shut_down_countdown", "0", ""⟩, .construct),
  (⟨"simulator/network/hardware/base.py", "Node.ConfigSchema", "start_up_countdown", "default", "start_up_countdown", "0", ""⟩, .construct),
  (⟨"simulator/network/hardware/base.py", "Node.apply_timestep", "node_scan_countdown", "augSub", "self.node_scan_countdown", "1", "self.operating_state == NodeOperatingState.ON && self.node_scan_countdown > 0"⟩, .nodeScanTick),
  (⟨"simulator/network/hardware/base.py", "Node.apply_timestep", "red_scan_countdown", "augSub", "self.red_scan_countdown", "1", "self.operating_state == NodeOperatingState.ON && self.red_scan_countdown > 0"⟩, .nodeRedScan),
  (⟨"simulator/network/hardware/base.py", "Node.apply_timestep", "shut_down_countdown", "augSub", "self.config.shut_down_countdown", "1", "self.config.shut_down_countdown > 0"⟩, .nodePowerTick),
  (⟨"simulator/network/hardware/base.py", "Node.apply_timestep", "start_up_countdown", "augSub", "self.config.start_up_countdown", "1", "self.config.start_up_countdown > 0"⟩, .nodePowerTick),
  (⟨"simulator/network/hardware/base.py", "Node.power_off", "shut_down_countdown", "assign", "self.config.shut_down_countdown", "self.config.shut_down_duration", "not (self.config.shut_down_duration <= 0) && self.operating_state == NodeOperatingState.ON"⟩, .nodePowerOff),
  (⟨"simulator/network/hardware/base.py", "Node.power_on", "start_up_countdown", "assign", "self.config.start_up_countdown", "self.config.start_up_duration", "not (self.config.start_up_duration <= 0) && self.operating_state == NodeOperatingState.OFF"⟩, .nodePowerOn),
  (⟨"simulator/network/hardware/base.py", "Node.reveal_to_red", "red_scan_countdown", "assign", "self.red_scan_countdown", "self.config.node_scan_duration", ""⟩, .nodeRedScan),
  (⟨"simulator/network/hardware/base.py", "Node.scan", "node_scan_countdown", "assign", "self.node_scan_countdown", "max(self.config.node_scan_duration, 1)", "<translated: C14GenScan>"⟩, .nodeScanStart),
  (⟨"simulator/system/applications/application.py", "Application", "install_countdown", "default", "install_countdown", "None", ""⟩, .construct),
  (⟨"simulator/system/applications/application.py", "Application.apply_timestep", "health_state_actual", "assign", "self.health_state_actual", "SoftwareHealthState.GOOD", "self.operating_state is ApplicationOperatingState.INSTALLING && self.install_countdown <= 0"⟩, .appInstallTick),
  (⟨"simulator/system/applications/application.py", "Application.apply_timestep", "install_countdown", "assign", "self.install_countdown", "None", "self.operating_state is ApplicationOperatingState.INSTALLING && self.install_countdown <= 0"⟩, .appInstallTick),
  (⟨"simulator/system/applications/application.py", "Application.apply_timestep", "install_countdown", "augSub", "self.install_countdown", "1", "self.operating_state is ApplicationOperatingState.INSTALLING"⟩, .appInstallTick),
  (⟨"simulator/system/applications/application.py", "Application.install", "install_countdown", "assign", "self.install_countdown", "self.install_duration", "self.operating_state == ApplicationOperatingState.CLOSED"⟩, .appInstallStart),
  (⟨"simulator/system/applications/application.py", "Application.run", "health_state_actual", "call", "self.set_health_state", "SoftwareHealthState.GOOD", "not (not super()._can_perform_action()) && self.operating_state == ApplicationOperatingState.CLOSED && self.health_state_actual == SoftwareHealthState.UNUSED"⟩, .swWake),
  (⟨"simulator/system/services/database/database_service.py", "DatabaseService._process_sql", "health_status", "assign", "database_folder.health_status", "FileSystemItemHealthStatus.CORRUPT", "not (not self.db_file) && not (self.health_state_actual is not SoftwareHealthState.GOOD) && not (query == 'SELECT') && not (query == 'DELETE') && query == 'ENCRYPT'"⟩, .folderExternal),
  (⟨"simulator/system/services/database/database_service.py", "DatabaseService._process_sql", "health_status", "assign", "self.db_file.health_status", "FileSystemItemHealthStatus.COMPROMISED", "not (not self.db_file) && not (self.health_state_actual is not SoftwareHealthState.GOOD) && not (query == 'SELECT') && query == 'DELETE'"⟩, .fileExternal),
  (⟨"simulator/system/services/database/database_service.py", "DatabaseService._process_sql", "health_status", "assign", "self.db_file.health_status", "FileSystemItemHealthStatus.CORRUPT", "not (not self.db_file) && not (self.health_state_actual is not SoftwareHealthState.GOOD) && not (query == 'SELECT') && not (query == 'DELETE') && query == 'ENCRYPT'"⟩, .fileExternal),
  (⟨"simulator/system/services/database/database_service.py", "DatabaseService.restore_backup", "health_state_actual", "call", "self.set_health_state", "SoftwareHealthState.GOOD", "not (not self._can_perform_action()) && not (self.backup_server_ip is None) && not (not ftp_client_service) && not (not response) && not (self.file_system.get_file(folder_name='downloads', file_name='database.db') is None) && not (db_file is None) && not (self.db_file is None)"⟩, .swExternal),
  (⟨"simulator/system/services/database/database_service.py", "DatabaseService.restore_backup", "visible_health_status", "assign", "self.db_file.visible_health_status", "old_visible_state", "not (not self._can_perform_action()) && not (self.backup_server_ip is None) && not (not ftp_client_service) && not (not response) && not (self.file_system.get_file(folder_name='downloads', file_name='database.db') is None) && not (db_file is None) && not (self.db_file is None)"⟩, .dbReplace),
  (⟨"simulator/system/services/ftp/ftp_service.py", "FTPServiceABC._store_data", "health_status", "assign", "file.health_status", "health_status", "try"⟩, .fileExternal),
  (⟨"simulator/system/services/service.py", "Service", "restart_countdown", "default", "restart_countdown", "None", ""⟩, .construct),
  (⟨"simulator/system/services/service.py", "Service.apply_timestep", "restart_countdown", "augSub", "self.restart_countdown", "1", "self.operating_state == ServiceOperatingState.RESTARTING"⟩, .svcRestartTick),
  (⟨"simulator/system/services/service.py", "Service.restart", "restart_countdown", "assign", "self.restart_countdown", "self.restart_duration", "self.operating_state in [ServiceOperatingState.RUNNING, ServiceOperatingState.PAUSED]"⟩, .svcRestartStart),
  (⟨"simulator/system/services/service.py", "Service.start", "health_state_actual", "call", "self.set_health_state", "SoftwareHealthState.GOOD", "not (not super()._can_perform_action()) && self.operating_state == ServiceOperatingState.STOPPED && self.health_state_actual == SoftwareHealthState.UNUSED"⟩, .swWake),
  (⟨"simulator/system/services/web_server/web_server.py", "WebServer._handle_get_request", "health_state_actual", "call", "self.set_health_state", "SoftwareHealthState.COMPROMISED", "path.startswith('users') && not (not self._establish_db_connection()) && not (self.db_connection.query('SELECT'))"⟩, .swExternal),
  (⟨"simulator/system/services/web_server/web_server.py", "WebServer._handle_get_request", "health_state_actual", "call", "self.set_health_state", "SoftwareHealthState.GOOD", "path.startswith('users') && not (not self._establish_db_connection()) && self.db_connection.query('SELECT')"⟩, .swExternal),
  (⟨"simulator/system/software.py", "IOSoftware.add_connection", "health_state_actual", "call", "self.set_health_state", "SoftwareHealthState.GOOD", "not (len(self._connections) >= self.max_sessions) && self.health_state_actual == SoftwareHealthState.OVERWHELMED"⟩, .swExternal),
  (⟨"simulator/system/software.py", "IOSoftware.add_connection", "health_state_actual", "call", "self.set_health_state", "SoftwareHealthState.OVERWHELMED", "len(self._connections) >= self.max_sessions"⟩, .swExternal),
  (⟨"simulator/system/software.py", "Software", "_fixing_countdown", "default", "_fixing_countdown", "None", ""⟩, .construct),
  (⟨"simulator/system/software.py", "Software", "health_state_actual", "default", "health_state_actual", "SoftwareHealthState.UNUSED", ""⟩, .construct),
  (⟨"simulator/system/software.py", "Software", "health_state_visible", "default", "health_state_visible", "SoftwareHealthState.UNUSED", ""⟩, .construct),
  (⟨"simulator/system/software.py", "Software", "revealed_to_red", "default", "revealed_to_red", "False", ""⟩, .construct),
  (⟨"simulator/system/software.py", "Software.__init__", "_fixing_countdown", "assign", "self._fixing_countdown", "self.config.fixing_duration", "self.health_state_actual == SoftwareHealthState.FIXING and self._fixing_countdown is None"⟩, .construct),
  (⟨"simulator/system/software.py", "Software.__init__", "health_state_actual", "assign", "self.health_state_actual", "self.config.starting_health_state", ""⟩, .construct),
  (⟨"simulator/system/software.py", "Software._init_request_manager", "health_state_actual", "call", "self.set_health_state", "SoftwareHealthState.COMPROMISED", ""⟩, .swCompromise),
  (⟨"simulator/system/software.py", "Software._update_fix_status", "_fixing_countdown", "assign", "self._fixing_countdown", "None", "self._fixing_countdown <= 0"⟩, .swFixTick),
  (⟨"simulator/system/software.py", "Software._update_fix_status", "_fixing_countdown", "augSub", "self._fixing_countdown", "1", ""⟩, .swFixTick),
  (⟨"simulator/system/software.py", "Software._update_fix_status", "health_state_actual", "call", "self.set_health_state", "SoftwareHealthState.GOOD", "self._fixing_countdown <= 0"⟩, .swFixTick),
  (⟨"simulator/system/software.py", "Software.fix", "_fixing_countdown", "assign", "self._fixing_countdown", "self.config.fixing_duration", "self.health_state_actual in (SoftwareHealthState.COMPROMISED, SoftwareHealthState.GOOD)"⟩, .swFixStart),
  (⟨"simulator/system/software.py", "Software.fix", "health_state_actual", "call", "self.set_health_state", "SoftwareHealthState.FIXING", "self.health_state_actual in (SoftwareHealthState.COMPROMISED, SoftwareHealthState.GOOD)"⟩, .swFixStart),
  (⟨"simulator/system/software.py", "Software.reveal_to_red", "revealed_to_red", "assign", "self.revealed_to_red", "True", ""⟩, .outOfScope),
  (⟨"simulator/system/software.py", "Software.scan", "health_state_visible", "assign", "self.health_state_visible", "self.health_state_actual", "<translated: C14GenScan>"⟩, .swScan),
  (⟨"simulator/system/software.py", "Software.set_health_state", "health_state_actual", "assign", "self.health_state_actual", "health_state", ""⟩, .swSetter)
]

/-- where a writer method is called from -/
inductive Site
  /-- `FileSystemItemABC` request handlers (files and folders): `File.handle` / `Folder.handle` -/
  | reqItem
  /-- file-system level restore requests: `Op.fsRestoreFile` / `Op.fsRestoreFolder` -/
  | reqFs
  /-- `scan` / `fix` requests of software, service, application: `Sw.handle` -/
  | reqSw
  /-- `["os","scan"]` (and the red-agent `["scan"]`) -/
  | reqNode
  /-- the fan-out of the whole-node scan inside `Node.apply_timestep`: `Node.scanPhase` -/
  | tickNodeScan
  /-- `Folder.apply_timestep` and the two timed helpers: `Folder.tick` -/
  | tickFolder
  /-- `Software.apply_timestep` → `_update_fix_status`: `Sw.fixTick` -/
  | tickSw
  /-- a writer that applies the same operation to its children / delegates downwards (folder → files, file system → folder) -/
  | cascade
  /-- `DatabaseService._update_fix_status` → `restore_backup`: `DOp.tickDb` -/
  | dbFixDone
  /-- behind an unconditional `return False` (`check_hash` is "not implemented") -/
  | dead
  /-- red-agent reveal: not a C14 observable -/
  | red
deriving DecidableEq, Repr

def modelTriggers : List (T × Site) := [
  (⟨"simulator/file_system/file.py", "File.check_hash", "self.corrupt()"⟩, .dead),
  (⟨"simulator/file_system/file_system.py", "FileSystem._init_request_manager", "self.restore_file(folder_name=request[0], file_name=request[1])"⟩, .reqFs),
  (⟨"simulator/file_system/file_system.py", "FileSystem._init_request_manager", "self.restore_folder(folder_name=request[0])"⟩, .reqFs),
  (⟨"simulator/file_system/file_system.py", "FileSystem.restore_file", "folder.restore_file(file_name=file_name)"⟩, .cascade),
  (⟨"simulator/file_system/file_system.py", "FileSystem.restore_folder", "folder.restore()"⟩, .cascade),
  (⟨"simulator/file_system/file_system.py", "FileSystem.reveal_to_red", "self.folders[folder_id].reveal_to_red(instant_scan=instant_scan)"⟩, .red),
  (⟨"simulator/file_system/file_system.py", "FileSystem.scan", "self.folders[folder_id].scan(instant_scan=instant_scan)"⟩, .cascade),
  (⟨"simulator/file_system/file_system_item_abc.py", "FileSystemItemABC._init_request_manager", "self.check_hash()"⟩, .reqItem),
  (⟨"simulator/file_system/file_system_item_abc.py", "FileSystemItemABC._init_request_manager", "self.corrupt()"⟩, .reqItem),
  (⟨"simulator/file_system/file_system_item_abc.py", "FileSystemItemABC._init_request_manager", "self.repair()"⟩, .reqItem),
  (⟨"simulator/file_system/file_system_item_abc.py", "FileSystemItemABC._init_request_manager", "self.restore()"⟩, .reqItem),
  (⟨"simulator/file_system/file_system_item_abc.py", "FileSystemItemABC._init_request_manager", "self.scan()"⟩, .reqItem),
  (⟨"simulator/file_system/folder.py", "Folder._restoring_timestep", "self.restore_file(file_name=file.name)"⟩, .tickFolder),
  (⟨"simulator/file_system/folder.py", "Folder._restoring_timestep", "self.restore_file(file_name=file.name)"⟩, .tickFolder),
  (⟨"simulator/file_system/folder.py", "Folder._reveal_to_red_timestep", "file.reveal_to_red()"⟩, .red),
  (⟨"simulator/file_system/folder.py", "Folder._scan_timestep", "file.scan()"⟩, .tickFolder),
  (⟨"simulator/file_system/folder.py", "Folder.apply_timestep", "self._restoring_timestep()"⟩, .tickFolder),
  (⟨"simulator/file_system/folder.py", "Folder.apply_timestep", "self._reveal_to_red_timestep()"⟩, .red),
  (⟨"simulator/file_system/folder.py", "Folder.apply_timestep", "self._scan_timestep()"⟩, .tickFolder),
  (⟨"simulator/file_system/folder.py", "Folder.check_hash", "file.check_hash()"⟩, .dead),
  (⟨"simulator/file_system/folder.py", "Folder.check_hash", "self.corrupt()"⟩, .dead),
  (⟨"simulator/file_system/folder.py", "Folder.corrupt", "file.corrupt()"⟩, .cascade),
  (⟨"simulator/file_system/folder.py", "Folder.repair", "file.repair()"⟩, .cascade),
  (⟨"simulator/file_system/folder.py", "Folder.restore_file", "file.restore()"⟩, .cascade),
  (⟨"simulator/file_system/folder.py", "Folder.reveal_to_red", "file.reveal_to_red()"⟩, .red),
  (⟨"simulator/file_system/folder.py", "Folder.scan", "file.scan()"⟩, .cascade),
  (⟨"simulator/network/hardware/base.py", "Node._init_request_manager", "self.reveal_to_red()"⟩, .red),
  (⟨"simulator/network/hardware/base.py", "Node._init_request_manager", "self.scan()"⟩, .reqNode),
  (⟨"simulator/network/hardware/base.py", "Node.apply_timestep", "self.applications[application_id].reveal_to_red()"⟩, .red),
  (⟨"simulator/network/hardware/base.py", "Node.apply_timestep", "self.applications[application_id].scan()"⟩, .tickNodeScan),
  (⟨"simulator/network/hardware/base.py", "Node.apply_timestep", "self.file_system.reveal_to_red(instant_scan=True)"⟩, .red),
  (⟨"simulator/network/hardware/base.py", "Node.apply_timestep", "self.file_system.scan(instant_scan=True)"⟩, .tickNodeScan),
  (⟨"simulator/network/hardware/base.py", "Node.apply_timestep", "self.processes[process_id].reveal_to_red()"⟩, .red),
  (⟨"simulator/network/hardware/base.py", "Node.apply_timestep", "self.processes[process_id].scan()"⟩, .tickNodeScan),
  (⟨"simulator/network/hardware/base.py", "Node.apply_timestep", "self.services[service_id].reveal_to_red()"⟩, .red),
  (⟨"simulator/network/hardware/base.py", "Node.apply_timestep", "self.services[service_id].scan()"⟩, .tickNodeScan),
  (⟨"simulator/system/applications/application.py", "Application._init_request_manager", "self.fix()"⟩, .reqSw),
  (⟨"simulator/system/applications/application.py", "Application._init_request_manager", "self.scan()"⟩, .reqSw),
  (⟨"simulator/system/services/database/database_service.py", "DatabaseService._update_fix_status", "self.restore_backup()"⟩, .dbFixDone),
  (⟨"simulator/system/services/database/database_service.py", "DatabaseService._update_fix_status", "super()._update_fix_status()"⟩, .tickSw),
  (⟨"simulator/system/services/service.py", "Service._init_request_manager", "self.fix()"⟩, .reqSw),
  (⟨"simulator/system/services/service.py", "Service._init_request_manager", "self.scan()"⟩, .reqSw),
  (⟨"simulator/system/software.py", "Software._init_request_manager", "self.fix()"⟩, .reqSw),
  (⟨"simulator/system/software.py", "Software._init_request_manager", "self.scan()"⟩, .reqSw),
  (⟨"simulator/system/software.py", "Software.apply_timestep", "self._update_fix_status()"⟩, .tickSw)
]

def modelTickBodies : List (String × List String) := [
  ("Simulation.apply_timestep", ["super().apply_timestep(timestep)", "self.network.apply_timestep(timestep)"]),
  ("Network.apply_timestep", ["super().apply_timestep(timestep=timestep)", "for node_id in self.nodes: self.nodes[node_id].apply_timestep(timestep=timestep)", "for link_id in self.links: self.links[link_id].apply_timestep(timestep=timestep)"]),
  ("Software.apply_timestep", ["super().apply_timestep(timestep)", "if self.health_state_actual == SoftwareHealthState.FIXING: self._update_fix_status()"]),
  ("Software._update_fix_status", ["self._fixing_countdown -= 1", "if self._fixing_countdown <= 0: self.set_health_state(SoftwareHealthState.GOOD) self._fixing_countdown = None self.fixing_count += 1"]),
  ("Service.apply_timestep", ["super().apply_timestep(timestep)", "if self.operating_state == ServiceOperatingState.RESTARTING: if self.restart_countdown <= 0: self.sys_log.debug(f'Restarting finished for service {self.name}') self.operating_state = ServiceOperatingState.RUNNING self.restart_countdown -= 1"]),
  ("Application.apply_timestep", ["super().apply_timestep(timestep=timestep)", "if self.operating_state is ApplicationOperatingState.INSTALLING: self.install_countdown -= 1 if self.install_countdown <= 0: self.operating_state = ApplicationOperatingState.RUNNING self.health_state_actual = SoftwareHealthState.GOOD self.install_countdown = None"]),
  ("FileSystem.apply_timestep", ["super().apply_timestep(timestep=timestep)", "for folder_id in self.folders: self.folders[folder_id].apply_timestep(timestep=timestep)"]),
  ("Folder.apply_timestep", ["super().apply_timestep(timestep=timestep)", "self._scan_timestep()", "self._reveal_to_red_timestep()", "self._restoring_timestep()", "for file_id in self.files: self.files[file_id].apply_timestep(timestep=timestep)"]),
  ("File.apply_timestep", ["super().apply_timestep(timestep=timestep)"])
]

/-- **Gen obligation.** The source's inventory of writers (every field, every form of write, with guards) is exactly the table
above. -/
theorem C14_gen_inventory : Gen.Health.inventory = modelWriters.map (·.1) := rfl

/-- **Gen obligation.** Every call site of a writer method in the source is in the table above (and nothing else is). -/
theorem C14_gen_triggers : Gen.Health.triggers = modelTriggers.map (·.1) := rfl

/-- **Gen obligation.** The timestep bodies on the path simulation → network → node → software / file system → folder → file are
the ones the model follows, statement for statement; and every `apply_timestep` override of the simulator reaches
`super().apply_timestep` on every path (no early exit in front of it). -/
theorem C14_gen_tick_bodies :
    Gen.Health.tickBodies = modelTickBodies ∧ Gen.Health.tickOverridesConditional = [] := ⟨rfl, rfl⟩

/-- whose field an event writes -/
inductive Item | sw | file | folder | node | other
deriving DecidableEq, Repr

def Ev.item : Ev → Item
  | .swSetter | .swScan | .swFixStart | .swFixTick | .swCompromise | .swWake | .swExternal | .appInstallStart | .appInstallTick
  | .svcRestartStart | .svcRestartTick => .sw
  | .fileScan | .fileCorrupt | .fileRepair | .fileRestore | .fileCopy | .fileExternal | .dbReplace => .file
  | .folderScanStart | .folderScanTick | .folderInstantScan | .folderCorrupt | .folderRepair | .folderRestoreStart
  | .folderRestoreTick | .folderExternal | .folderPre => .folder
  | .nodeScanStart | .nodeScanTick | .nodePowerOn | .nodePowerOff | .nodePowerTick | .nodeRedScan => .node
  | .construct | .outOfScope => .other

/-- the events the TABLE lists for code field `fld` of an item of kind `it` (class-level defaults and constructors aside) -/
def evsFor (fld : String) (it : Item) : List Ev :=
  ((modelWriters.filter (fun p => p.1.field = fld && p.2.item = it)).map (·.2)).eraseDups

/-- what the table lists, field by field (computed from `modelWriters`, so tied to the source by `C14_gen_inventory`) -/
theorem C14_inv_events :
    evsFor "health_state_actual" .sw = [.appInstallTick, .swWake, .swExternal, .swCompromise, .swFixTick, .swFixStart, .swSetter] ∧
    evsFor "health_state_visible" .sw = [.swScan] ∧
    evsFor "health_status" .file = [.fileCorrupt, .fileRepair, .fileRestore, .fileExternal] ∧
    evsFor "visible_health_status" .file = [.fileScan, .dbReplace] ∧
    evsFor "*" .file = [.fileCopy] ∧
    evsFor "health_status" .folder =
      [.folderRestoreTick, .folderScanTick, .folderCorrupt, .folderRepair, .folderRestoreStart, .folderExternal] ∧
    evsFor "visible_health_status" .folder = [.folderScanTick, .folderInstantScan] ∧
    -- the observation refresh flag is written by the two completing scans and by `pre_timestep`, nowhere else in the tree
    evsFor "_scanned_this_step" .folder = [.folderScanTick, .folderPre, .folderInstantScan] :=
  ⟨rfl, rfl, rfl, rfl, rfl, rfl, rfl, rfl⟩

/-- step `op` from node state `n` contains event `e` writing `new` into the actual health of software item `x` -/
def swStepHas (n : Node) (op : Op) (x : Sw) (new : SwH) : Ev → Prop
  | .swExternal => ∃ nm h, op = .swSet nm h ∧ nm = x.name ∧ new = h.toSwH
  | .swCompromise => ∃ k nm, op = .sw k nm .compromise ∧ n.power = .on ∧ nm = x.name ∧ new = .compromised
  | .swFixStart => ∃ k nm, op = .sw k nm .fix ∧ n.power = .on ∧ nm = x.name ∧ x.op = .running ∧ x.canFix = true ∧ new = .fixing
  | .swWake => x.actual = .unused ∧ new = .good ∧
      (op = .tick ∨ op = .startup ∨ op = .shutdown ∨ op = .reset ∨ (∃ nm, op = .appRun nm ∧ nm = x.name) ∨
       ∃ k nm, (op = .sw k nm .start ∨ op = .sw k nm .execute) ∧ nm = x.name)
  | .swFixTick => op = .tick ∧ x.actual = .fixing ∧ new = .good ∧ ∃ c, x.fixCd = some c ∧ c ≤ 1
  | .appInstallTick => op = .tick ∧ x.isApp = true ∧ x.op = .installing ∧ new = .good ∧ ∃ c, x.auxCd = some c ∧ c ≤ 1
  | _ => False

/-- **C14 against the inventory (software, actual health).** If the actual health of a software item differs after a step, the
step contains one of the events that the source's inventory lists for `health_state_actual` — an external `set_health_state`,
the compromise request, an accepted fix, the completion of a fix, a first start, the completion of an installation — writing
exactly that value. (Each of them goes through the one assignment in `set_health_state`, `swSetter`, or is
`Application.apply_timestep`'s direct write.) -/
theorem C14_inv_sw_actual (n : Node) (op : Op) (i : Nat) (x x' : Sw)
    (hx : n.sws[i]? = some x) (hx' : (n.apply op).sws[i]? = some x') (hne : x'.actual ≠ x.actual) :
    ∃ e ∈ evsFor "health_state_actual" .sw, swStepHas n op x x'.actual e := by
  have hc := C14_sw_actual_only_by_event n op i x x' hx hx' hne
  rw [C14_inv_events.1]
  cases op <;> simp only [swActualCause] at hc
  case tick =>
    obtain ⟨hg, h | ⟨hf, c, hc1, hc2⟩ | ⟨ha, ho, c, hc1, hc2⟩⟩ := hc
    · exact ⟨.swWake, by simp, h, hg, Or.inl rfl⟩
    · exact ⟨.swFixTick, by simp, rfl, hf, hg, c, hc1, hc2⟩
    · exact ⟨.appInstallTick, by simp, rfl, ha, ho, hg, c, hc1, hc2⟩
  case startup => exact ⟨.swWake, by simp, hc.1, hc.2, Or.inr (Or.inl rfl)⟩
  case shutdown => exact ⟨.swWake, by simp, hc.2.2.1, hc.2.2.2, Or.inr (Or.inr (Or.inl rfl))⟩
  case reset => exact ⟨.swWake, by simp, hc.2.2.1, hc.2.2.2, Or.inr (Or.inr (Or.inr (Or.inl rfl)))⟩
  case swSet nm h => exact ⟨.swExternal, by simp, nm, h, rfl, hc.1, hc.2⟩
  case appRun nm => exact ⟨.swWake, by simp, hc.2.2.1, hc.2.2.2, Or.inr (Or.inr (Or.inr (Or.inr (Or.inl ⟨nm, rfl, hc.2.1⟩))))⟩
  case sw k nm r =>
    cases r <;> simp only [] at hc
    case compromise => exact ⟨.swCompromise, by simp, k, nm, rfl, hc.1, hc.2.1, hc.2.2⟩
    case fix => exact ⟨.swFixStart, by simp, k, nm, rfl, hc.1, hc.2.1, hc.2.2.1, hc.2.2.2.1, hc.2.2.2.2⟩
    case start =>
      exact ⟨.swWake, by simp, hc.2.2.1, hc.2.2.2, Or.inr (Or.inr (Or.inr (Or.inr (Or.inr ⟨k, nm, Or.inl rfl, hc.2.1⟩))))⟩
    case execute =>
      exact ⟨.swWake, by simp, hc.2.2.1, hc.2.2.2, Or.inr (Or.inr (Or.inr (Or.inr (Or.inr ⟨k, nm, Or.inr rfl, hc.2.1⟩))))⟩

/-- **C14 against the inventory (software, visible health).** The inventory lists ONE writer of `health_state_visible` —
`Software.scan` — and a visible value differs after a step only if the step contains that event for the item (`swScanCompletes`:
its own accepted scan request, or the fan-out of the whole-node scan), the value being the item's actual health at that moment. -/
theorem C14_inv_sw_visible (n : Node) (op : Op) (i : Nat) (x x' : Sw)
    (hx : n.sws[i]? = some x) (hx' : (n.apply op).sws[i]? = some x') (hne : x'.visible ≠ x.visible) :
    evsFor "health_state_visible" .sw = [.swScan] ∧ swScanCompletes n op (swMoment n op x) = true ∧
      x'.visible = (swMoment n op x).actual :=
  ⟨C14_inv_events.2.1, (C14_sw_visible_only_by_scan n op i x x' hx hx' hne).1,
    (C14_sw_visible_only_by_scan n op i x x' hx hx' hne).2.1⟩

/-- step `op` contains event `e` writing `new` into the actual health of file `f` of folder `G` -/
def fileStepHas (n : Node) (op : Op) (G : Folder) (f : File) (new : FsH) : Ev → Prop
  | .fileExternal => ∃ F nm, op = .fileSet F nm new ∧ G.name = F ∧ f.name = nm
  | .fileCorrupt => f.actual = .good ∧ new = .corrupt ∧ f.deleted = false ∧ G.deleted = false ∧ n.power = .on ∧
      ((∃ F nm, op = .file F nm .corrupt ∧ G.name = F ∧ f.name = nm) ∨ ∃ F, op = .folder F .corrupt ∧ G.name = F)
  | .fileRepair => f.actual = .corrupt ∧ new = .good ∧ f.deleted = false ∧ G.deleted = false ∧ n.power = .on ∧
      ((∃ F nm, op = .file F nm .repair ∧ G.name = F ∧ f.name = nm) ∨ ∃ F, op = .folder F .repair ∧ G.name = F)
  | .fileRestore => f.actual = .corrupt ∧ new = .good ∧ G.deleted = false ∧
      ((∃ F nm, (op = .file F nm .restore ∨ op = .fsRestoreFile F nm) ∧ n.power = .on ∧ G.name = F ∧ f.name = nm ∧
          f.deleted = false) ∨
       (op = .tick ∧ n.powerPhase.power = .on ∧ G.restoreCd = 1 ∧
          (f.deleted = false ∨ File.twiceRestored G.files f = true)))
  | _ => False

/-- **C14 against the inventory (files, actual health).** A file's actual health differs after a step only if the step contains
one of the events the inventory lists for a file's `health_status`: `File.corrupt` / `File.repair` / `File.restore` (reached by
the file's own request, the folder's request, the file-system restore request, or the completing folder restore) or an external
write (database query, FTP transfer). -/
theorem C14_inv_file_actual (n : Node) (op : Op) (j k : Nat) (G G' : Folder) (f f' : File)
    (hG : n.folders[j]? = some G) (hG' : (n.apply op).folders[j]? = some G')
    (hf : G.files[k]? = some f) (hf' : G'.files[k]? = some f') (hne : f'.actual ≠ f.actual) :
    ∃ e ∈ evsFor "health_status" .file, fileStepHas n op G f f'.actual e := by
  have hc := C14_file_actual_only_by_event n op j k G G' f f' hG hG' hf hf' hne
  rw [C14_inv_events.2.2.1]
  cases op <;> simp only [fileActualCause] at hc
  case tick => exact ⟨.fileRestore, by simp, hc.2.2.2.2.1, hc.2.2.2.2.2, hc.2.1, Or.inr ⟨rfl, hc.1, hc.2.2.1, hc.2.2.2.1⟩⟩
  case fileSet F nm h => exact ⟨.fileExternal, by simp, F, nm, by rw [hc.2.2], hc.1, hc.2.1⟩
  case fsRestoreFile F nm =>
    exact ⟨.fileRestore, by simp, hc.2.2.2.2.2.1, hc.2.2.2.2.2.2, hc.2.2.1,
      Or.inl ⟨F, nm, Or.inr rfl, hc.1, hc.2.1, hc.2.2.2.1, hc.2.2.2.2.1⟩⟩
  case folder F r =>
    cases r <;> simp only [] at hc
    case repair => exact ⟨.fileRepair, by simp, hc.2.2.2.2.1, hc.2.2.2.2.2, hc.2.2.2.1, hc.2.2.1, hc.1, Or.inr ⟨F, rfl, hc.2.1⟩⟩
    case corrupt => exact ⟨.fileCorrupt, by simp, hc.2.2.2.2.1, hc.2.2.2.2.2, hc.2.2.2.1, hc.2.2.1, hc.1, Or.inr ⟨F, rfl, hc.2.1⟩⟩
  case file F nm r =>
    cases r <;> simp only [] at hc
    case repair =>
      exact ⟨.fileRepair, by simp, hc.2.2.2.2.2.1, hc.2.2.2.2.2.2, hc.2.2.2.2.1, hc.2.2.1, hc.1, Or.inl ⟨F, nm, rfl, hc.2.1, hc.2.2.2.1⟩⟩
    case corrupt =>
      exact ⟨.fileCorrupt, by simp, hc.2.2.2.2.2.1, hc.2.2.2.2.2.2, hc.2.2.2.2.1, hc.2.2.1, hc.1, Or.inl ⟨F, nm, rfl, hc.2.1, hc.2.2.2.1⟩⟩
    case restore =>
      exact ⟨.fileRestore, by simp, hc.2.2.2.2.2.1, hc.2.2.2.2.2.2, hc.2.2.1,
        Or.inl ⟨F, nm, Or.inl rfl, hc.1, hc.2.1, hc.2.2.2.1, hc.2.2.2.2.1⟩⟩

/-- **C14 against the inventory (files, visible health).** The inventory lists two writers of a file's `visible_health_status`:
`File.scan`, and the carry-over in `restore_backup`. For a file that exists before and after a base step only the first applies
(`fileScanCompletes`, value = actual health); the second concerns the NEW file of a database restore, which shows what the replaced
file showed (`C14_dyn_struct_fs`, `C14_view_db_restore`); `copy_file` copies every field of its source (`fileCopy`). -/
theorem C14_inv_file_visible (n : Node) (op : Op) (j k : Nat) (G G' : Folder) (f f' : File)
    (hG : n.folders[j]? = some G) (hG' : (n.apply op).folders[j]? = some G')
    (hf : G.files[k]? = some f) (hf' : G'.files[k]? = some f') (hne : f'.visible ≠ f.visible) :
    evsFor "visible_health_status" .file = [.fileScan, .dbReplace] ∧ evsFor "*" .file = [.fileCopy] ∧
      fileScanCompletes n op G f = true ∧ f'.visible = f.actual :=
  ⟨C14_inv_events.2.2.2.1, C14_inv_events.2.2.2.2.1,
    (C14_file_visible_only_by_scan n op j k G G' f f' hG hG' hf hf' hne).1,
    (C14_file_visible_only_by_scan n op j k G G' f f' hG hG' hf hf' hne).2.1⟩

/-- **C14 against the inventory (folders).** The inventory lists two writers of a folder's `visible_health_status` — the completing
timed scan and the instant scan of the whole-node scan — and six of its `health_status`; a folder's visible (resp. actual) health
differs after a base step only if the step contains one of them (`folderScanCompletes`, resp. `folderActualCause`; the sixth, the
external write, is `DOp.folderSet`). -/
theorem C14_inv_folder (n : Node) (op : Op) (j : Nat) (G G' : Folder)
    (hG : n.folders[j]? = some G) (hG' : (n.apply op).folders[j]? = some G') :
    evsFor "visible_health_status" .folder = [.folderScanTick, .folderInstantScan] ∧
    (G'.visible ≠ G.visible → folderScanCompletes n op G = true) ∧
    evsFor "health_status" .folder =
      [.folderRestoreTick, .folderScanTick, .folderCorrupt, .folderRepair, .folderRestoreStart, .folderExternal] ∧
    (G'.actual ≠ G.actual → folderActualCause n op G G'.actual) :=
  ⟨C14_inv_events.2.2.2.2.2.2.1, fun h => (C14_folder_visible_only_by_scan n op j G G' hG hG' h).1,
    C14_inv_events.2.2.2.2.2.1, fun h => C14_folder_actual_only_by_event n op j G G' hG hG' h⟩

/-- a fix request changes the actual health of `dns` (hypotheses of `C14_inv_sw_actual`), and the event it contains is `swFixStart` -/
example :
    exNode.sws[0]? = some exDns ∧ ((exNode.apply (.sw false "dns" .fix)).sws[0]?.map (·.actual)) = some .fixing ∧
    exDns.actual ≠ .fixing ∧ Ev.swFixStart ∈ evsFor "health_state_actual" .sw := by decide +kernel

/-- a scan request changes the visible health of `dns` (hypotheses of `C14_inv_sw_visible`) -/
example :
    ((exNode.apply (.sw false "dns" .scan)).sws[0]?.map (·.visible)) = some .compromised ∧ exDns.visible ≠ .compromised := by
  decide +kernel

/-- a repair request changes the actual health of file `d/a`; a folder corrupt request changes the folder's (hypotheses of
`C14_inv_file_actual`, `C14_inv_folder`); an osscan + tick changes the file's and the folder's visible health -/
example :
    ((exNode.apply (.file "d" "a" .repair)).folders.map (fun G => G.files.map (·.actual))) = [[.good, .good]] ∧
    ((exNode.apply (.folder "d" .corrupt)).folders.map (·.actual)) = [.corrupt] ∧
    ((exNode.run [.osScan, .tick]).folders.map (fun G => (G.visible, G.files.map (·.visible)))) = [(.corrupt, [.corrupt, .none])] := by
  decide +kernel

end Primaite.Health
