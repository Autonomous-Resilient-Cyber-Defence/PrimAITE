/-
C07, value layer: what a port / protocol WRITTEN by a caller (name, number, sentinel, None) becomes in the stored rule,
on each of the four surfaces (Python API, request API, agent action, scenario file).

* `C07_gen_port_validator`, `C07_gen_protocol_validator` tie the translated validators (Gen/AclParse.lean, regenerated
  from utils/validation/port.py and ip_protocol.py on every run) to the specifications `portOf` / `protoNameOf`.
* the surface theorems are proved for ANY validator that is idempotent and refuses the sentinel, then instantiated.
-/
import PrimaiteModel.Model.AclParse
import PrimaiteModel.Model.AclObj
import PrimaiteModel.Gen.AclParse
import PrimaiteModel.Gen.AclState
namespace Primaite.Acl.Parse
open Primaite.Gen.AclParse

theorem inPortRange_iff (i : Int) : inPortRange i = true ↔ 0 ≤ i ∧ i ≤ 65535 := by
  simp [inPortRange]

theorem portOfInt_eq_some (i : Int) (p : Nat) :
    (if inPortRange i = true then some i.toNat else none) = some p ↔ 0 ≤ i ∧ i ≤ 65535 ∧ i.toNat = p := by
  rw [← and_assoc, ← inPortRange_iff]
  split <;> simp [*]

/-- `port_validator` accepts exactly: a name of the table whose number lies in [0, 65535] (giving that number), or such a number. -/
theorem C07_port_spec (T : Tables) (v : PyVal) (p : Nat) :
    portOf T v = some p ↔
      (∃ s i, v = .str s ∧ lookup T.ports s = some i ∧ 0 ≤ i ∧ i ≤ 65535 ∧ i.toNat = p) ∨
      (∃ i, v = .int i ∧ 0 ≤ i ∧ i ≤ 65535 ∧ i.toNat = p) := by
  cases v with
  | str s =>
    simp only [portOf]
    cases h : lookup T.ports s with
    | none => simp [h]
    | some i => simp only [portOfInt_eq_some]; simp [h]
  | int i => simp only [portOf, portOfInt_eq_some]; simp
  | none | other => simp [portOf]

theorem portOf_le (T : Tables) (v : PyVal) (p : Nat) (h : portOf T v = some p) : p ≤ 65535 := by
  rcases (C07_port_spec T v p).1 h with ⟨_, i, _, _, h0, h1, h2⟩ | ⟨i, _, h0, h1, h2⟩ <;> omega

/-- validating what the validator returned gives the same port (the pipeline validates up to four times) -/
theorem C07_port_idem (T : Tables) (v : PyVal) (p : Nat) (h : portOf T v = some p) : portOf T (encPort p) = some p := by
  have := portOf_le T v p h
  have hr : inPortRange (p : Int) = true := (inPortRange_iff _).2 ⟨by omega, by omega⟩
  simp [encPort, portOf, hr]

theorem portValidator_int (i : Int) : portValidator (.int i) = (portOf tables (.int i)).map encPort := by
  simp only [portValidator, portOf, PyVal.isStr, PyVal.isInt, PyVal.between, Bool.false_and, inPortRange]
  by_cases h0 : 0 ≤ i <;> by_cases h1 : i ≤ 65535 <;> simp [h0, h1, encPort]
  omega

/-- TIE: the translated `port_validator` IS the specification over the current `PORT_LOOKUP`. -/
theorem C07_gen_port_validator (v : PyVal) : portValidator v = (portOf tables v).map encPort := by
  cases v with
  | str s =>
    simp only [portValidator, portOf, PyVal.isStr, PyVal.inKeys, PyVal.getInt, tables, Bool.true_and]
    cases lookup portLookup s with
    | none => rfl
    | some i => exact portValidator_int i
  | int i => exact portValidator_int i
  | none | other => rfl

/-- TIE: the translated `protocol_validator` IS the specification over the current tables. -/
theorem C07_gen_protocol_validator (v : PyVal) : protocolValidator v = (protoNameOf tables v).map encProto := by
  cases v with
  | str s =>
    simp only [protocolValidator, protoNameOf, PyVal.isStr, PyVal.inKeys, PyVal.getStr, PyVal.inStrs, tables, Bool.true_and]
    cases h : lookup protocolLookup s with
    | none => by_cases hv : validProtocols.contains s = true <;> simp [encProto]
    | some p => simp [encProto]
  | int | none | other => rfl

/-- `PORT_LOOKUP`: names distinct, numbers distinct (no port has two names), only `UNUSED` lies outside [0, 65535] (and is
therefore refused as a rule port), `NONE` is port 0, `ARP` is the port of the router's ARP exemption, the request
sentinel `ALL` and the empty string are not names. -/
theorem C07_gen_port_table :
    (portLookup.map (·.1)).Nodup ∧ (portLookup.map (·.2)).Nodup ∧
    portLookup.filter (fun kv => !inPortRange kv.2) = [("UNUSED", -1)] ∧
    lookup portLookup "NONE" = some 0 ∧ lookup portLookup "ARP" = some (arpPort : Int) ∧
    lookup portLookup "ALL" = none ∧ lookup portLookup "" = none :=
  -- `String.reduceEq` (in `simp`) proves a disequality of literals from their characters; `decide` goes through their
  -- UTF-8 bytes in the kernel
  ⟨by simp [portLookup], by decide, rfl, rfl, rfl, rfl, rfl⟩

/-- `PROTOCOL_LOOKUP` / `VALID_PROTOCOLS`: every look-up value is a valid protocol; the valid protocols are exactly the
four the frame model distinguishes; no key is also a valid protocol under another meaning; `ALL` is neither. -/
theorem C07_gen_protocol_table :
    (protocolLookup.map (·.1)).Nodup ∧
    (protocolLookup.all fun kv => validProtocols.contains kv.2) = true ∧
    validProtocols.map protoOfName = [some .none, some .tcp, some .udp, some .icmp] ∧
    (validProtocols.all fun s => protoNameOf tables (.str s) == some s) = true ∧
    (protocolLookup.all fun kv => protoNameOf tables (.str kv.2) == some kv.2) = true ∧
    lookup protocolLookup "ALL" = none ∧ validProtocols.contains "ALL" = false ∧
    lookup protocolLookup "" = none ∧ validProtocols.contains "" = false := by decide

/-- the declarations through which the surfaces send these fields (a validator added to / removed from one of them breaks this) -/
theorem C07_gen_field_types :
    ruleFieldTypes = [("protocol", "Optional[IPProtocol] = None"), ("src_port", "Optional[Port] = None"), ("dst_port", "Optional[Port] = None")] ∧
    addRuleParamTypes = ruleFieldTypes ∧
    actionFieldTypes = [("protocol_name", "Union[IPProtocol, Literal['ALL']]"), ("src_port", "Union[Port, Literal['ALL']]"),
                        ("dst_port", "Union[Port, Literal['ALL']]")] := ⟨rfl, rfl, rfl⟩

theorem lookup_mem {α} (tbl : List (String × α)) (k : String) (a : α) (h : lookup tbl k = some a) : (k, a) ∈ tbl := by
  simp only [lookup, Option.map_eq_some_iff] at h
  obtain ⟨⟨x, y⟩, hf, rfl⟩ := h
  have hm := List.mem_of_find?_eq_some hf
  have hk := List.find?_some hf
  simp at hk; subst hk; exact hm

/-- whatever `protocol_validator` returns is one of `VALID_PROTOCOLS` (also for the look-up branch, which does not test it) -/
theorem C07_protocol_valid (v : PyVal) (s : String) (h : protoNameOf tables v = some s) : s ∈ validProtocols := by
  cases v with
  | str x =>
    simp only [protoNameOf, tables] at h
    split at h
    · next p hl =>
      cases h
      simpa using List.all_eq_true.mp C07_gen_protocol_table.2.1 _ (lookup_mem _ _ _ hl)
    · by_cases hv : validProtocols.contains x = true
      · have hm : x ∈ validProtocols := by simpa using hv
        simp only [hv, if_true, Option.some.injEq] at h; subst h; exact hm
      · simp only [hv] at h; cases h
  | int | none | other => cases h

/-- every accepted protocol spelling names one of the model's four protocols -/
theorem C07_protocol_total (v : PyVal) (s : String) (h : protoNameOf tables v = some s) : (protoOfName s).isSome = true := by
  have := C07_protocol_valid v s h
  simp only [validProtocols, List.mem_cons, List.mem_nil_iff, or_false] at this
  rcases this with rfl | rfl | rfl | rfl <;> rfl

/-- what follows the request name in a formed request -/
def argsAfterName (name : String) : List String → List String
  | [] => []
  | x :: rest => if x = name then rest else argsAfterName name rest

/-- TIE between two places of the source: the sentinel the request handler tests at `request[i]` (`None if request[i] == S`)
is the literal the action schema allows for the field that `form_request` puts at position `i` — `ALL` for protocol / addresses /
ports, `NONE` for the wildcard masks, whatever the spelling, for both add-rule actions; and every field of the schema that
allows a literal is consumed by such a test. -/
theorem C07_gen_sentinels_agree :
    (∀ act, act ∈ ["RouterACLAddRuleAction", "FirewallACLAddRuleAction"] →
      ∀ x, x ∈ Primaite.Gen.AclState.requestLayout → x.2.2.1 ≠ "-" →
        ((((Primaite.Gen.AclState.actionRequests.lookup act).map (argsAfterName "'add_rule'")).bind (·[x.2.1]?)).bind
          (fun f => List.lookup f actionSentinels)) = some x.2.2.1) ∧
    (∀ act, act ∈ ["RouterACLAddRuleAction", "FirewallACLAddRuleAction"] →
      ∀ fs, fs ∈ actionSentinels →
        ∃ x, x ∈ Primaite.Gen.AclState.requestLayout ∧ x.2.2.1 = fs.2 ∧
          (((Primaite.Gen.AclState.actionRequests.lookup act).map (argsAfterName "'add_rule'")).bind (·[x.2.1]?)) = some fs.1) := by decide

/-! ### the surfaces, for any idempotent validator that refuses the sentinel and `None` -/

structure Good {α} (validate : PyVal → Option α) (enc : α → PyVal) : Prop where
  idem : ∀ v a, validate v = some a → validate (enc a) = some a
  noAll : validate (.str "ALL") = none
  noNone : validate .none = none

theorem Good.ne_all {α} {validate : PyVal → Option α} {enc : α → PyVal} (g : Good validate enc) {v a} (h : validate v = some a) :
    v ≠ .str "ALL" := fun c => by rw [c, g.noAll] at h; cases h

theorem Good.ne_none {α} {validate : PyVal → Option α} {enc : α → PyVal} (g : Good validate enc) {v a} (h : validate v = some a) :
    v ≠ .none := fun c => by rw [c, g.noNone] at h; cases h

/-- Python API: `None` = unspecified; any other value must pass the validator, and the SECOND validation (when the rule
object is built) changes nothing. -/
theorem C07_api_field {α} {validate : PyVal → Option α} {enc : α → PyVal} (g : Good validate enc) (v : PyVal) :
    apiField validate enc v = if v = .none then some none else (validate v).map some := by
  by_cases hv : v = .none
  · rw [hv]; rfl
  · -- `apiField.eq_2`: the equation of `apiField` for a value other than `None`
    rw [if_neg hv, apiField.eq_2 _ _ _ hv]
    cases h : validate v with
    | none => rfl
    | some a => exact congrArg (Option.map some) (g.idem v a h)

/-- request API = Python API, except that the sentinel `"ALL"` means unspecified. -/
theorem C07_request_field {α} (validate : PyVal → Option α) (enc : α → PyVal) (v : PyVal) :
    requestField validate enc v = if v = .str "ALL" then some none else apiField validate enc v := rfl

/-- a value the validator accepts means what the validator says on the Python API, the request API and the agent action -/
theorem Good.accepted {α} {validate : PyVal → Option α} {enc : α → PyVal} (g : Good validate enc) {v : PyVal} {a : α}
    (h : validate v = some a) :
    apiField validate enc v = some (some a) ∧ requestField validate enc v = some (some a) ∧
      actionField validate enc v = some (some a) := by
  have e1 : ∀ {w}, validate w = some a → apiField validate enc w = some (some a) := fun hw => by
    rw [C07_api_field g, if_neg (g.ne_none hw), hw]; rfl
  have e2 : ∀ {w}, validate w = some a → requestField validate enc w = some (some a) := fun hw => by
    rw [C07_request_field, if_neg (g.ne_all hw), e1 hw]
  refine ⟨e1 h, e2 h, ?_⟩
  -- the action hands on what the validator returned, which the validator accepts as itself
  rw [actionField, actionConfig, h]
  exact e2 (g.idem v a h)

/-- agent action = request API, except that Python `None` is refused by the action's schema: going through
`ConfigSchema` + `form_request` neither changes a value nor loses the sentinel. -/
theorem C07_action_field {α} {validate : PyVal → Option α} {enc : α → PyVal} (g : Good validate enc) (v : PyVal) :
    actionField validate enc v = if v = .none then none else requestField validate enc v := by
  cases h : validate v with
  | some a => rw [(g.accepted h).2.2, if_neg (g.ne_none h), (g.accepted h).2.1]
  | none =>
    simp only [actionField, actionConfig, h, requestField]
    by_cases hA : v = .str "ALL"
    · rw [hA]; rfl
    · rw [if_neg hA, if_neg hA, C07_api_field g, h]
      by_cases hN : v = .none
      · rw [if_pos hN]; rfl
      · rw [if_neg hN, if_neg hN]; rfl

/-- scenario file: a falsy value (missing key, `None`, `""`, `0`) = unspecified; otherwise ONLY a key of the table, which
then goes through the Python API; a number or an unknown name raises `KeyError`. -/
theorem C07_loader_field {α β} {validate : PyVal → Option α} {enc : α → PyVal} (g : Good validate enc)
    (tbl : List (String × β)) (wrap : β → PyVal) (hw : ∀ b, wrap b ≠ .none) (v : PyVal) :
    loaderField tbl wrap validate enc v =
      if !v.truthy then some none
      else match v with
        | .str s => (lookup tbl s).bind (fun b => (validate (wrap b)).map some)
        | _ => none := by
  unfold loaderField loaderValue
  by_cases ht : v.truthy = true
  · simp only [ht, Bool.not_true, Bool.false_eq_true, if_false]
    cases v with
    | str s =>
      cases hl : lookup tbl s with
      | none => simp [hl]
      | some b => simp [hl, C07_api_field g, hw b]
    | int i => simp
    | none => simp
    | other => simp
  · simp [ht, apiField]

theorem portGood (T : Tables) (h : lookup T.ports "ALL" = none) : Good (portOf T) encPort where
  idem := C07_port_idem T
  noAll := by simp [portOf, h]
  noNone := rfl

theorem genPortGood : Good (portOf tables) encPort := portGood tables C07_gen_port_table.2.2.2.2.2.1

theorem genProtoGood : Good (protoNameOf tables) encProto where
  idem := fun v a h =>
    beq_iff_eq.mp (List.all_eq_true.mp C07_gen_protocol_table.2.2.2.1 a (C07_protocol_valid v a h))
  noAll := by
    have h7 : ¬ "ALL" ∈ validProtocols := by simpa using C07_gen_protocol_table.2.2.2.2.2.2.1
    simp [protoNameOf, tables, C07_gen_protocol_table.2.2.2.2.2.1, h7]
  noNone := rfl

/-- PORTS, current tables: what each surface makes of ANY written value. -/
theorem C07_port_surfaces (v : PyVal) :
    portVia tables .api v = (if v = .none then some none else (portOf tables v).map some) ∧
    portVia tables .request v = (if v = .str "ALL" then some none else portVia tables .api v) ∧
    portVia tables .action v = (if v = .none then none else portVia tables .request v) ∧
    portVia tables .loader v = (if !v.truthy then some none else match v with
      | .str s => (portOf tables (.str s)).map some
      | _ => none) := by
  refine ⟨C07_api_field genPortGood v, rfl, C07_action_field genPortGood v, ?_⟩
  simp only [portVia]
  rw [C07_loader_field genPortGood _ _ (by intro b; simp)]
  cases v with
  | str s =>
    simp only [portOf, tables]
    cases lookup portLookup s <;> simp
  | int i => rfl
  | none => rfl
  | other => rfl

/-- PROTOCOLS, current tables. -/
theorem C07_proto_surfaces (v : PyVal) :
    protoNameVia tables .api v = (if v = .none then some none else (protoNameOf tables v).map some) ∧
    protoNameVia tables .request v = (if v = .str "ALL" then some none else protoNameVia tables .api v) ∧
    protoNameVia tables .action v = (if v = .none then none else protoNameVia tables .request v) ∧
    protoNameVia tables .loader v = (if !v.truthy then some none else match v with
      | .str s => (lookup protocolLookup s).bind (fun p => (protoNameOf tables (.str p)).map some)
      | _ => none) := by
  refine ⟨C07_api_field genProtoGood v, rfl, C07_action_field genProtoGood v, ?_⟩
  simp only [protoNameVia]
  rw [C07_loader_field genProtoGood _ _ (by intro b; simp)]
  rfl

/-- a port NAME whose number is a port means that number on EVERY surface. -/
theorem C07_port_name_everywhere (s : String) (i : Int) (h : lookup portLookup s = some i) (hr : inPortRange i = true)
    (surf : Surface) : portVia tables surf (.str s) = some (some i.toNat) := by
  have hE : s ≠ "" := fun c => by rw [c, C07_gen_port_table.2.2.2.2.2.2] at h; cases h
  have hp : portOf tables (.str s) = some i.toNat := by simp [portOf, tables, h, hr]
  obtain ⟨e1, e2, e3⟩ := genPortGood.accepted hp
  cases surf with
  | api => exact e1
  | request => exact e2
  | action => exact e3
  | loader => rw [(C07_port_surfaces (.str s)).2.2.2]; simp [PyVal.truthy, hE, hp]

/-- a port NUMBER: accepted as itself by the API, the request API and the agent action; the scenario-file loaders accept
names only (`KeyError` for a number) — except `0`, which they read as "no port given". -/
theorem C07_port_number_by_surface (n : Nat) (h : n ≤ 65535) :
    portVia tables .api (.int n) = some (some n) ∧ portVia tables .request (.int n) = some (some n) ∧
    portVia tables .action (.int n) = some (some n) ∧
    portVia tables .loader (.int n) = (if n = 0 then some none else none) := by
  have hp : portOf tables (.int n) = some n := by
    have : inPortRange (n : Int) = true := (inPortRange_iff _).2 ⟨by omega, by omega⟩
    simp [portOf, this]
  obtain ⟨e1, e2, e3⟩ := genPortGood.accepted hp
  refine ⟨e1, e2, e3, ?_⟩
  rw [(C07_port_surfaces (.int n)).2.2.2]; by_cases h0 : n = 0 <;> simp [PyVal.truthy, h0]

/-- port 0 IS a port: under its name `NONE` it is a SPECIFIED port on every surface (finding F-15 was the matcher treating it as
unspecified); the sentinel `ALL` is unspecified on the request / action surfaces and refused by the other two. -/
theorem C07_port_zero_and_sentinel :
    (∀ surf, portVia tables surf (.str "NONE") = some (some 0)) ∧
    portVia tables .request (.str "ALL") = some none ∧ portVia tables .action (.str "ALL") = some none ∧
    portVia tables .api (.str "ALL") = none ∧ portVia tables .loader (.str "ALL") = none ∧
    (∀ surf, portVia tables surf (.str "UNUSED") = none) ∧ (∀ surf, portVia tables surf (.str "http") = none) := by
  have hA : portOf tables (.str "ALL") = none := by simp [portOf, tables, C07_gen_port_table.2.2.2.2.2.1]
  obtain ⟨h1, h2, h3, h4⟩ := C07_port_surfaces (.str "ALL")
  have e2 : portVia tables .request (.str "ALL") = some none := by rw [h2]; simp
  exact ⟨C07_port_name_everywhere "NONE" 0 C07_gen_port_table.2.2.2.1 rfl, e2, by rw [h3, e2]; simp, by rw [h1, hA]; simp,
    by rw [h4]; simp [PyVal.truthy, hA], fun s => by cases s <;> decide, fun s => by cases s <;> decide⟩

/-- a key of `PROTOCOL_LOOKUP` means its value on EVERY surface. -/
theorem proto_key_everywhere (s p : String) (h : lookup protocolLookup s = some p) (surf : Surface) :
    protoNameVia tables surf (.str s) = some (some p) := by
  have hE : s ≠ "" := fun c => by rw [c, C07_gen_protocol_table.2.2.2.2.2.2.2.1] at h; cases h
  have hs : protoNameOf tables (.str s) = some p := by simp [protoNameOf, tables, h]
  have hp : protoNameOf tables (.str p) = some p :=
    beq_iff_eq.mp (List.all_eq_true.mp C07_gen_protocol_table.2.2.2.2.1 (s, p) (lookup_mem _ _ _ h))
  obtain ⟨e1, e2, e3⟩ := genProtoGood.accepted hs
  cases surf with
  | api => exact e1
  | request => exact e2
  | action => exact e3
  | loader => rw [(C07_proto_surfaces (.str s)).2.2.2]; simp [PyVal.truthy, hE, h, hp]

/-- protocol spellings: the upper-case names of `PROTOCOL_LOOKUP` mean their lower-case protocol on every surface; the
lower-case spelling is accepted everywhere EXCEPT in scenario files (the loaders index the look-up table). -/
theorem C07_proto_spellings :
    (∀ surf, protoNameVia tables surf (.str "TCP") = some (some "tcp")) ∧
    (∀ surf, protoNameVia tables surf (.str "UDP") = some (some "udp")) ∧
    (∀ surf, protoNameVia tables surf (.str "ICMP") = some (some "icmp")) ∧
    (∀ surf, protoNameVia tables surf (.str "NONE") = some (some "none")) ∧
    protoNameVia tables .api (.str "tcp") = some (some "tcp") ∧ protoNameVia tables .request (.str "icmp") = some (some "icmp") ∧
    protoNameVia tables .action (.str "udp") = some (some "udp") ∧ protoNameVia tables .loader (.str "tcp") = none ∧
    protoNameVia tables .request (.str "ALL") = some none ∧ protoNameVia tables .action (.str "ALL") = some none ∧
    protoNameVia tables .api (.str "ALL") = none := by
  exact ⟨proto_key_everywhere "TCP" "tcp" rfl, proto_key_everywhere "UDP" "udp" rfl, proto_key_everywhere "ICMP" "icmp" rfl,
    proto_key_everywhere "NONE" "none" rfl, by decide, by decide, by decide, by decide, by decide, by decide, by decide⟩

-- non-vacuity of the hypotheses used above
example : lookup portLookup "HTTP" = some 80 ∧ inPortRange 80 = true := by decide
example : portOf tables (.str "POSTGRES_SERVER") = some 5432 ∧ portOf tables (.int 65535) = some 65535 ∧
    portOf tables (.int 65536) = none ∧ portOf tables (.int (-1)) = none ∧ portOf tables (.str "80") = none := by decide

end Primaite.Acl.Parse
