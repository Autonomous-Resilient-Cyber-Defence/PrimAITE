/-
C14 — visible health changes only by scanning; fixes and scans take their set time.
The model is `Model/Health.lean`, the item-wise decomposition `Lemmas/HealthEff.lean`.

Reading guide. `n.apply op` is the state after one operation; `n.run ops` after a sequence.  Items are matched
positionally (`n.sws[i]?`, `n.folders[j]?`, `G.files[k]?`): no operation adds, removes or reorders them
(`C14_shape`).  "The moment scans happen" in a tick is after the node's power phase and before the items' own ticks.
-/
import PrimaiteModel.Lemmas.HealthEff
import PrimaiteModel.Lemmas.HealthCountdown
namespace Primaite.Health

theorem Sw.Same.id {y x : Sw} (h : Sw.Same y x) : y.name = x.name ∧ y.isApp = x.isApp := ⟨h.name, h.isApp⟩

theorem Sw.handle_id (x : Sw) (r : SwReq) : (x.handle r).1.name = x.name ∧ (x.handle r).1.isApp = x.isApp := by
  by_cases hr : r = .scan
  · subst hr; exact ⟨rfl, rfl⟩
  · exact (x.handle_same r hr).id

theorem swEff_id (n : Node) (op : Op) (x : Sw) : (swEff n op x).name = x.name ∧ (swEff n op x).isApp = x.isApp := by
  by_cases hop : op = .tick
  · subst hop
    exact tickEff_keeps (P := fun y => y.name = x.name ∧ y.isApp = x.isApp) n x (fun _ h => h.same.id) (fun _ h => h)
      (fun y h => ⟨y.tick_same.name.trans h.1, y.tick_same.isApp.trans h.2⟩)
  · exact swEff_cases n op x hop (fun _ => ⟨rfl, rfl⟩) (fun _ _ h => h.same.id) (fun _ _ r _ _ _ => x.handle_id r)
      (fun _ _ => ⟨rfl, rfl⟩) (fun _ => x.install_same.id)

/-- the item at the moment scans happen in this step -/
def swMoment (n : Node) (op : Op) (x : Sw) : Sw :=
  match op with
  | .tick => powerEff n x
  | _ => x

theorem swMoment_of_ne_tick (n : Node) {op : Op} (x : Sw) (hop : op ≠ .tick) : swMoment n op x = x := by
  cases op <;> first | rfl | exact absurd rfl hop

/-- A scan covering software item `xm` completes in step `op` from node state `n`: either its own `scan` request is
accepted (node ON, right name and kind, item RUNNING), or the whole-node scan fans out in this tick. -/
def swScanCompletes (n : Node) (op : Op) (xm : Sw) : Bool :=
  match op with
  | .tick => n.powerPhase.scanFires
  | .sw isApp name .scan => n.power = .on && xm.accepts isApp name .scan
  | _ => false

theorem swScanCompletes_true (n : Node) {op : Op} (x : Sw) (hop : op ≠ .tick) (h : swScanCompletes n op x = true) :
    ∃ k nm, op = .sw k nm .scan ∧ n.power = .on ∧ x.accepts k nm .scan = true := by
  cases op
  case tick => exact absurd rfl hop
  case sw k nm r =>
    cases r
    case scan =>
      have h' : (decide (n.power = .on) && x.accepts k nm .scan) = true := h
      rw [Bool.and_eq_true, decide_eq_true_eq] at h'
      exact ⟨k, nm, rfl, h'⟩
    all_goals exact absurd h Bool.false_ne_true
  all_goals exact absurd h Bool.false_ne_true

theorem swEff_visible (n : Node) (op : Op) (x : Sw) :
    (swEff n op x).visible =
      if swScanCompletes n op (swMoment n op x) then (swMoment n op x).actual else x.visible := by
  by_cases hop : op = .tick
  · subst hop
    have hp := (powerEff_rel n x).same
    show (tickEff n x).visible = if n.powerPhase.scanFires then (powerEff n x).actual else x.visible
    unfold tickEff Node.scanFires
    by_cases h1 : n.powerPhase.power = .on
    · by_cases h2 : n.powerPhase.scanCd = 1
      · simp only [h1, h2, if_true, decide_true, Bool.and_self]
        exact ((powerEff n x).scan.tick_same).visible
      · simp only [h1, h2, if_true, if_false, decide_true, decide_false, Bool.and_false, Bool.false_eq_true]
        exact ((powerEff n x).tick_same).visible.trans hp.visible
    · simp only [h1, if_false, decide_false, Bool.false_and, Bool.false_eq_true]
      exact hp.visible
  · rw [swMoment_of_ne_tick n x hop]
    have hno : (∀ k nm, op = .sw k nm .scan → ¬ (n.power = .on ∧ x.accepts k nm .scan = true)) →
        swScanCompletes n op x = false := by
      intro h
      cases hc : swScanCompletes n op x
      · rfl
      · obtain ⟨k, nm, e, h2⟩ := swScanCompletes_true n x hop hc
        exact absurd h2 (h k nm e)
    refine swEff_cases (motive := fun y => y.visible = if swScanCompletes n op x then x.actual else x.visible) n op x hop
      ?_ ?_ ?_ ?_ ?_
    · intro h; rw [hno (fun k nm e => h k nm .scan e)]; rfl
    · intro h y hy; rw [hno (fun k nm e => by rcases h with rfl | ⟨rfl | rfl, _⟩ | ⟨rfl, _⟩ <;> cases e)]; exact hy.same.visible
    · intro k nm r e hon hacc
      subst e
      by_cases hr : r = .scan
      · subst hr
        have : swScanCompletes n (.sw k nm .scan) x = true := by simp [swScanCompletes, hon, hacc]
        rw [this]; rfl
      · rw [hno (fun k' nm' e => by cases e; exact absurd rfl hr)]; exact (x.handle_same r hr).visible
    · intro h e; subst e; rfl
    · intro e; subst e; exact x.install_same.visible

/-- **C14 (software, one step, any state).** If the visible health of the `i`-th software item differs after an
operation, then a scan covering it completed in that step, and the new visible value is the item's actual health at
the moment of the scan. -/
theorem C14_sw_visible_only_by_scan (n : Node) (op : Op) (i : Nat) (x x' : Sw)
    (hx : n.sws[i]? = some x) (hx' : (n.apply op).sws[i]? = some x') (hne : x'.visible ≠ x.visible) :
    swScanCompletes n op (swMoment n op x) = true ∧ x'.visible = (swMoment n op x).actual ∧ x'.name = x.name := by
  obtain rfl := Option.some.inj ((apply_sws_getElem op hx).symm.trans hx')
  obtain ⟨hc, h⟩ := ite_changed (swEff_visible n op x) hne
  exact ⟨hc, h, (swEff_id n op x).1⟩

/-- …and conversely a completing scan sets visible := actual-at-that-moment. -/
theorem C14_sw_scan_sets_visible (n : Node) (op : Op) (i : Nat) (x : Sw) (hx : n.sws[i]? = some x)
    (hc : swScanCompletes n op (swMoment n op x) = true) :
    ∃ x', (n.apply op).sws[i]? = some x' ∧ x'.visible = (swMoment n op x).actual := by
  refine ⟨swEff n op x, ?_, ?_⟩
  · exact apply_sws_getElem _ hx
  · rw [swEff_visible, hc]; rfl

/-- the only thing the power phase can do to an item's actual health is UNUSED → GOOD (first start). -/
theorem swMoment_actual (n : Node) (op : Op) (x : Sw) :
    (swMoment n op x).actual = x.actual ∨ (x.actual = .unused ∧ (swMoment n op x).actual = .good) := by
  by_cases hop : op = .tick
  · subst hop
    exact (powerEff_rel n x).actual
  · rw [swMoment_of_ne_tick n x hop]
    exact Or.inl rfl

theorem fileEff_name (n : Node) (op : Op) (G : Folder) (f : File) : (fileEff n op G f).name = f.name := by
  cases op
  case tick =>
    rw [fileEff_tick]
    (repeat' split) <;> simp only [File.restoreAll_name, File.scan_name]
  case folder F r =>
    simp only [fileEff]
    split
    · cases r <;> simp only [File.repair_name, File.corrupt_name]
    · rfl
  case file F nm r =>
    simp only [fileEff]
    split
    · exact f.handle_name r
    · rfl
  all_goals first | rfl | (simp only [fileEff]; split <;> simp only [File.deleteAt_name, File.restoreIn_name])

/-- A scan covering file `f` of folder `G` completes in step `op`: its own `scan` request is accepted (node ON, folder
and file live), or — in a tick of a powered-on node, for a live file of a live folder — the whole-node scan fans out
or the folder's timed scan reaches its last step. -/
def fileScanCompletes (n : Node) (op : Op) (G : Folder) (f : File) : Bool :=
  match op with
  | .tick =>
    n.powerPhase.power = .on && !G.deleted && !f.deleted && (n.powerPhase.scanCd = 1 || G.scanCd = 1)
  | .file F nm .scan => n.power = .on && G.name = F && !G.deleted && f.name = nm && !f.deleted
  | _ => false

theorem fileEff_visible (n : Node) (op : Op) (G : Folder) (f : File) :
    (fileEff n op G f).visible = if fileScanCompletes n op G f then f.actual else f.visible := by
  cases op
  case tick =>
    rw [fileEff_tick]
    by_cases hl : n.powerPhase.power = .on ∧ G.deleted = false
    · have hc : fileScanCompletes n .tick G f =
          (!f.deleted && (decide (n.powerPhase.scanCd = 1) || decide (G.scanCd = 1))) := by
        simp only [fileScanCompletes, hl.1, hl.2, decide_true, Bool.not_false, Bool.true_and]
      -- the scan sets what a live file shows; the restore after it leaves that alone
      have hv : (if n.powerPhase.scanCd = 1 ∨ G.scanCd = 1 then f.scan else f).visible =
          if fileScanCompletes n .tick G f then f.actual else f.visible := by
        rw [hc]
        by_cases hs : n.powerPhase.scanCd = 1 ∨ G.scanCd = 1
        · have hb : (decide (n.powerPhase.scanCd = 1) || decide (G.scanCd = 1)) = true := by simpa using hs
          rw [if_pos hs, File.scan_visible, hb, Bool.and_true]
          cases f.deleted <;> rfl
        · have hb : (decide (n.powerPhase.scanCd = 1) || decide (G.scanCd = 1)) = false := by simpa using hs
          rw [if_neg hs, hb, Bool.and_false]; rfl
      rw [if_pos hl]
      split
      · rw [File.restoreAll_visible, hv]
      · exact hv
    · have hc : fileScanCompletes n .tick G f = false := by
        by_cases hon : n.powerPhase.power = .on
        · have hd : G.deleted = true := by simpa [hon] using hl
          simp only [fileScanCompletes, hd, Bool.not_true, Bool.and_false, Bool.false_and]
        · simp only [fileScanCompletes, hon, decide_false, Bool.false_and]
      rw [if_neg hl, hc]; rfl
  case folder F r =>
    simp only [fileEff, fileScanCompletes, Bool.false_eq_true, if_false]
    split
    · cases r <;> simp only [File.repair_visible, File.corrupt_visible]
    · rfl
  case file F nm r =>
    by_cases hr : r = .scan
    · subst hr
      have hs : fileScanCompletes n (.file F nm .scan) G f = true ↔
          (n.power = .on ∧ G.name = F ∧ G.deleted = false ∧ f.name = nm ∧ f.deleted = false) := by
        simp [fileScanCompletes, and_assoc]
      simp only [fileEff]
      by_cases hc : fileScanCompletes n (.file F nm .scan) G f = true
      · rw [if_pos hc, if_pos (hs.mp hc)]
        show f.scan.visible = f.actual
        rw [File.scan_visible, (hs.mp hc).2.2.2.2]; rfl
      · rw [if_neg hc, if_neg (fun h => hc (hs.mpr h))]
    · have hc : fileScanCompletes n (.file F nm r) G f = false := by cases r <;> first | rfl | exact absurd rfl hr
      rw [hc]
      simp only [fileEff]
      split
      · exact f.handle_visible r hr
      · rfl
  all_goals first | rfl |
    (simp only [fileEff, fileScanCompletes, Bool.false_eq_true, if_false]
     split <;> simp only [File.deleteAt_visible, File.restoreIn_visible])

theorem folderEff_name (n : Node) (op : Op) (G : Folder) : (folderEff n op G).name = G.name := by
  by_cases hop : op = .tick
  · subst hop
    show (folderTickEff n G).name = G.name
    rw [folderTickEff_eq]
    (repeat' split) <;> simp only [Folder.tick_name, Folder.instantScan_name]
  · exact (folderEff_quiet n op G hop).name

/-- **C14 shape.** No operation adds, removes, renames or reorders software items, folders or files. -/
theorem C14_shape (n : Node) (op : Op) :
    (n.apply op).sws.map (·.name) = n.sws.map (·.name) ∧
    (n.apply op).folders.map (fun G => (G.name, G.files.map (·.name))) =
      n.folders.map (fun G => (G.name, G.files.map (·.name))) := by
  constructor
  · rw [apply_sws, List.map_map]
    apply List.map_congr_left
    intro x _
    exact (swEff_id n op x).1
  · rw [apply_folders, List.map_map]
    apply List.map_congr_left
    intro G _
    simp only [Function.comp_def, folderEff_name, folderEff_files, List.map_map, Prod.mk.injEq, true_and]
    apply List.map_congr_left
    intro f _
    exact fileEff_name n op G f

/-- **C14 (files, one step, any state).** If the visible health of the `k`-th file of the `j`-th folder differs after
an operation, then a scan covering that file completed in that step, and the new visible value is the file's actual
health before the step (no operation changes a file's actual health before scanning it within the same step). -/
theorem C14_file_visible_only_by_scan (n : Node) (op : Op) (j k : Nat) (G G' : Folder) (f f' : File)
    (hG : n.folders[j]? = some G) (hG' : (n.apply op).folders[j]? = some G')
    (hf : G.files[k]? = some f) (hf' : G'.files[k]? = some f') (hne : f'.visible ≠ f.visible) :
    fileScanCompletes n op G f = true ∧ f'.visible = f.actual ∧ f'.name = f.name ∧ G'.name = G.name := by
  obtain rfl := Option.some.inj ((apply_folders_getElem op hG).symm.trans hG')
  obtain rfl := Option.some.inj ((folderEff_files_getElem op hf).symm.trans hf')
  obtain ⟨hc, h⟩ := ite_changed (fileEff_visible n op G f) hne
  exact ⟨hc, h, fileEff_name n op G f, folderEff_name n op G⟩

theorem C14_file_scan_sets_visible (n : Node) (op : Op) (j k : Nat) (G : Folder) (f : File)
    (hG : n.folders[j]? = some G) (hf : G.files[k]? = some f) (hc : fileScanCompletes n op G f = true) :
    ∃ G' f', (n.apply op).folders[j]? = some G' ∧ G'.files[k]? = some f' ∧ f'.visible = f.actual := by
  refine ⟨folderEff n op G, fileEff n op G f, ?_, ?_, ?_⟩
  · exact apply_folders_getElem _ hG
  · exact folderEff_files_getElem _ hf
  · rw [fileEff_visible, hc]; rfl

/-- A scan of folder `G` completes in step `op`: in a tick of a powered-on node, for a live folder, the whole-node scan
fans out (instant scan) or the folder's own timed scan reaches its last step. -/
def folderScanCompletes (n : Node) (op : Op) (G : Folder) : Bool :=
  match op with
  | .tick => n.powerPhase.power = .on && !G.deleted && (n.powerPhase.scanCd = 1 || G.scanCd = 1)
  | _ => false

theorem folderScanCompletes_of_ne_tick (n : Node) {op : Op} (G : Folder) (hop : op ≠ .tick) :
    folderScanCompletes n op G = false := by
  cases op <;> first | rfl | exact absurd rfl hop

theorem folderEff_visible (n : Node) (op : Op) (G : Folder) :
    (folderEff n op G).visible =
      if folderScanCompletes n op G then
        (if G.scanCd = 1 then worstLive G.files else if anyLiveCorrupt G.files then .corrupt else G.visible)
      else G.visible := by
  by_cases hop : op = .tick
  · subst hop
    show (folderTickEff n G).visible = _
    rw [folderTickEff_eq]
    by_cases hl : n.powerPhase.power = .on ∧ G.deleted = false
    · have hc : folderScanCompletes n .tick G = (decide (n.powerPhase.scanCd = 1) || decide (G.scanCd = 1)) := by
        simp only [folderScanCompletes, hl.1, hl.2, decide_true, Bool.not_false, Bool.true_and]
      rw [if_pos hl, hc]
      by_cases hs : n.powerPhase.scanCd = 1
      · -- the whole-node scan, then the folder's own tick
        simp only [hs, if_true, decide_true, Bool.true_or, Folder.tick_visible, Folder.instantScan_scanCd,
          Folder.instantScan_visible, Folder.instantScan_files, hl.2, Bool.false_eq_true, if_false, worstLive_map_scan, true_and]
      · simp only [hs, if_false, decide_false, Bool.false_or, Folder.tick_visible, decide_eq_true_eq]
        by_cases h2 : G.scanCd = 1 <;> simp only [h2, if_true, if_false]
    · have hc : folderScanCompletes n .tick G = false := by
        by_cases hon : n.powerPhase.power = .on
        · have hd : G.deleted = true := by simpa [hon] using hl
          simp only [folderScanCompletes, hd, Bool.not_true, Bool.and_false, Bool.false_and]
        · simp only [folderScanCompletes, hon, decide_false, Bool.false_and]
      rw [if_neg hl, hc]; rfl
  · rw [folderScanCompletes_of_ne_tick n G hop]
    exact (folderEff_quiet n op G hop).visible

/-- **C14 (folders, one step, any state).** A folder's visible health differs after an operation only if a scan of
it completed in that step; the new value is then the worst health among its live files (timed scan) or CORRUPT
because a live file is CORRUPT (whole-node scan). -/
theorem C14_folder_visible_only_by_scan (n : Node) (op : Op) (j : Nat) (G G' : Folder)
    (hG : n.folders[j]? = some G) (hG' : (n.apply op).folders[j]? = some G') (hne : G'.visible ≠ G.visible) :
    folderScanCompletes n op G = true ∧
      ((G.scanCd = 1 ∧ G'.visible = worstLive G.files) ∨
       (G.scanCd ≠ 1 ∧ anyLiveCorrupt G.files = true ∧ G'.visible = .corrupt)) := by
  obtain rfl := Option.some.inj ((apply_folders_getElem op hG).symm.trans hG')
  obtain ⟨hc, h⟩ := ite_changed (folderEff_visible n op G) hne
  refine ⟨hc, ?_⟩
  split at h
  · exact Or.inl ⟨‹_›, h⟩
  · obtain ⟨h3, h⟩ := ite_changed h hne
    exact Or.inr ⟨‹_›, h3, h⟩

/-- The explicit events that can write the actual health of software item `x` (state before the step) in step `op`,
with the value they write. Everything else is `False`. -/
def swActualCause (n : Node) (op : Op) (x : Sw) (new : SwH) : Prop :=
  match op with
  /- attack / external writer (connection capacity, web-server dependency, database restore) -/
  | .swSet nm h => nm = x.name ∧ new = h.toSwH
  | .sw _ nm .compromise => n.power = .on ∧ nm = x.name ∧ new = .compromised
  /- fix accepted -/
  | .sw _ nm .fix => n.power = .on ∧ nm = x.name ∧ x.op = .running ∧ x.canFix = true ∧ new = .fixing
  /- first start / run -/
  | .sw _ nm .start => n.power = .on ∧ nm = x.name ∧ x.actual = .unused ∧ new = .good
  | .sw _ nm .execute => n.power = .on ∧ nm = x.name ∧ x.actual = .unused ∧ new = .good
  | .appRun nm => n.power = .on ∧ nm = x.name ∧ x.actual = .unused ∧ new = .good
  | .startup => x.actual = .unused ∧ new = .good
  /- a node that shuts down at once (`shut_down_duration <= 0`) while resetting is powered on again in the same call -/
  | .shutdown | .reset => n.power = .on ∧ n.shutDur ≤ 0 ∧ x.actual = .unused ∧ new = .good
  /- a timestep: first start at the end of booting, timed completion of a fix, timed completion of an installation -/
  | .tick =>
    new = .good ∧
      (x.actual = .unused ∨ (x.actual = .fixing ∧ ∃ c, x.fixCd = some c ∧ c ≤ 1) ∨
       (x.isApp = true ∧ x.op = .installing ∧ ∃ c, x.auxCd = some c ∧ c ≤ 1))
  | _ => False

theorem Sw.shutDown_actual (x : Sw) : x.shutDown.actual = x.actual := by
  unfold Sw.shutDown; (repeat' split) <;> rfl

theorem Sw.startUp_actual (x : Sw) : x.startUp.actual = x.actual ∨ (x.actual = .unused ∧ x.startUp.actual = .good) :=
  x.startUp_rel.actual

theorem Sw.fixTick_actual (x : Sw) :
    x.fixTick.actual = x.actual ∨ (x.actual = .fixing ∧ (∃ c, x.fixCd = some c ∧ c ≤ 1) ∧ x.fixTick.actual = .good) := by
  unfold Sw.fixTick
  split
  · rename_i hf
    unfold Sw.updateFix
    split
    · rename_i c hc
      split
      · exact Or.inr ⟨hf, ⟨c, hc, by omega⟩, rfl⟩
      · exact Or.inl rfl
    · exact Or.inl rfl
  · exact Or.inl rfl

theorem Sw.fixTick_rest (x : Sw) :
    x.fixTick.isApp = x.isApp ∧ x.fixTick.op = x.op ∧ x.fixTick.auxCd = x.auxCd := by
  unfold Sw.fixTick Sw.updateFix; (repeat' split) <;> exact ⟨rfl, rfl, rfl⟩

theorem Sw.auxTick_actual (x : Sw) :
    x.auxTick.actual = x.actual ∨
      (x.isApp = true ∧ x.op = .installing ∧ (∃ c, x.auxCd = some c ∧ c ≤ 1) ∧ x.auxTick.actual = .good) :=
  x.auxTick_cases (motive := fun y => y.actual = x.actual ∨
      (x.isApp = true ∧ x.op = .installing ∧ (∃ c, x.auxCd = some c ∧ c ≤ 1) ∧ y.actual = .good))
    (Or.inl rfl) (fun c ha ho hc hle => Or.inr ⟨ha, ho, ⟨c, hc, hle⟩, rfl⟩) (fun _ _ _ _ _ => Or.inl rfl) (fun _ _ => Or.inl rfl)

theorem tickEff_actual (n : Node) (x : Sw) (h : (tickEff n x).actual ≠ x.actual) :
    (tickEff n x).actual = .good ∧
      (x.actual = .unused ∨ (x.actual = .fixing ∧ ∃ c, x.fixCd = some c ∧ c ≤ 1) ∨
       (x.isApp = true ∧ x.op = .installing ∧ ∃ c, x.auxCd = some c ∧ c ≤ 1)) := by
  -- `y`, the item after the power phase and the (possible) node scan: its actual health is `x`'s or `x` was UNUSED and `y` is GOOD;
  -- countdowns, kind and being INSTALLING are `x`'s
  have hoo := tickEff_on_off n x
    (P := fun y => (y.actual = x.actual ∨ (x.actual = .unused ∧ y.actual = .good)) ∧ y.fixCd = x.fixCd ∧ y.auxCd = x.auxCd ∧
      y.isApp = x.isApp ∧ (y.op = .installing ↔ x.op = .installing))
    (T := fun z => z.actual ≠ x.actual → z.actual = .good ∧
      (x.actual = .unused ∨ (x.actual = .fixing ∧ ∃ c, x.fixCd = some c ∧ c ≤ 1) ∨
       (x.isApp = true ∧ x.op = .installing ∧ ∃ c, x.auxCd = some c ∧ c ≤ 1)))
    (fun y hy => ⟨hy.actual, hy.fixCd, hy.auxCd, hy.same.isApp, hy.installing⟩) (fun _ hy => hy) ?_
  · by_cases hon : n.powerPhase.power = .on
    · exact hoo.1 hon h
    · obtain ⟨u, g⟩ := (hoo.2 hon).1.resolve_left h
      exact ⟨g, Or.inl u⟩
  · intro y ⟨ha, hf, hx, hi, ho⟩ hne
    unfold Sw.tick at hne ⊢
    have hr := y.fixTick_rest
    rcases y.fixTick.auxTick_actual with e2 | ⟨a2, i2, ⟨c, c2, cle⟩, g2⟩
    · rcases y.fixTick_actual with e1 | ⟨f1, ⟨c, c1, cle⟩, g1⟩
      · -- nothing happened in the item tick: the change came from the power phase
        rcases ha with e | ⟨u, g⟩
        · exact absurd (by rw [e2, e1, e]) hne
        · exact ⟨by rw [e2, e1, g], Or.inl u⟩
      · rcases ha with e | ⟨u, _⟩
        · exact ⟨by rw [e2, g1], Or.inr (Or.inl ⟨e ▸ f1, c, hf ▸ c1, cle⟩)⟩
        · exact ⟨by rw [e2, g1], Or.inl u⟩
    · refine ⟨g2, ?_⟩
      rcases ha with _ | ⟨u, _⟩
      · exact Or.inr (Or.inr ⟨hi ▸ hr.1 ▸ a2, ho.mp (hr.2.1 ▸ i2), c, hx ▸ hr.2.2 ▸ c2, cle⟩)
      · exact Or.inl u

theorem Sw.handle_actual (x : Sw) (r : SwReq) (h : (x.handle r).1.actual ≠ x.actual) :
    (r = .fix ∧ x.canFix = true ∧ (x.handle r).1.actual = .fixing) ∨ (r = .compromise ∧ (x.handle r).1.actual = .compromised) ∨
    ((r = .start ∨ r = .execute) ∧ x.actual = .unused ∧ (x.handle r).1.actual = .good) := by
  refine x.handle_cases (motive := fun y => y.actual ≠ x.actual → (r = .fix ∧ x.canFix = true ∧ y.actual = .fixing) ∨
      (r = .compromise ∧ y.actual = .compromised) ∨ ((r = .start ∨ r = .execute) ∧ x.actual = .unused ∧ y.actual = .good)) r
    (fun h => absurd rfl h) (fun _ h => absurd rfl h) (fun e h => ?_) (fun e _ => Or.inr (Or.inl ⟨e, rfl⟩))
    (fun _ _ h => absurd rfl h) (fun e h => ?_) (fun h => absurd rfl h) h
  · unfold Sw.fix at h ⊢
    split at h
    · rename_i hc; rw [if_pos hc]; exact Or.inl ⟨e, hc, rfl⟩
    · exact absurd rfl h
  · rcases x.wake_rel.actual with e' | ⟨u, g⟩
    · exact absurd e' h
    · exact Or.inr (Or.inr ⟨e, u, g⟩)

/-- **C14 (software actual health, one step, any state).** The actual health of a software item differs after an
operation only if the operation is one of the enumerated writers for that item (`swActualCause`): an attack or
another external `set_health_state`, an accepted fix, a first start/run, or a timestep that starts it, completes
its fix, or completes its installation — and the new value is the one that writer sets. -/
theorem C14_sw_actual_only_by_event (n : Node) (op : Op) (i : Nat) (x x' : Sw)
    (hx : n.sws[i]? = some x) (hx' : (n.apply op).sws[i]? = some x') (hne : x'.actual ≠ x.actual) :
    swActualCause n op x x'.actual := by
  obtain rfl := Option.some.inj ((apply_sws_getElem op hx).symm.trans hx')
  by_cases hop : op = .tick
  · subst hop; exact tickEff_actual n x hne
  refine swEff_cases (motive := fun y => y.actual ≠ x.actual → swActualCause n op x y.actual) n op x hop
    (fun _ h => absurd rfl h) ?_ ?_ ?_ ?_ hne
  · intro h y hy hn
    obtain ⟨u, g⟩ := hy.actual.resolve_left hn
    rcases h with rfl | ⟨rfl | rfl, hon, hs⟩ | ⟨rfl, hon⟩
    · exact ⟨u, g⟩
    · exact ⟨hon, hs, u, g⟩
    · exact ⟨hon, hs, u, g⟩
    · exact ⟨hon, rfl, u, g⟩
  · intro k nm r e hon hacc hn
    subst e
    simp only [Sw.accepts, Bool.and_eq_true, decide_eq_true_eq] at hacc
    obtain ⟨⟨⟨hnm, _⟩, _⟩, hal⟩ := hacc
    rcases x.handle_actual r hn with ⟨rfl, hc, g⟩ | ⟨rfl, g⟩ | ⟨rfl | rfl, u, g⟩
    · exact ⟨hon, hnm.symm, by simpa [SwReq.allowed, SwReq.guard] using hal, hc, g⟩
    · exact ⟨hon, hnm.symm, g⟩
    · exact ⟨hon, hnm.symm, u, g⟩
    · exact ⟨hon, hnm.symm, u, g⟩
  · intro h e _; subst e; exact ⟨rfl, rfl⟩
  · intro _ hn
    exfalso; apply hn
    unfold Sw.install; split <;> rfl

/-- the quirk of the completing folder restore: a deleted file that is un-deleted AND has a deleted twin gets a second `restore()` -/
def File.twiceRestored (fs : List File) (f : File) : Bool :=
  f.deleted && !hasLive f.name fs && firstDeleted fs f && deadTwin fs f

/-- The explicit events that can write the actual health of file `f` of folder `G` in step `op`. -/
def fileActualCause (n : Node) (op : Op) (G : Folder) (f : File) (new : FsH) : Prop :=
  match op with
  /- attack / external writer (database queries, FTP transfer) -/
  | .fileSet F nm h => G.name = F ∧ f.name = nm ∧ new = h
  | .file F nm .corrupt =>
    n.power = .on ∧ G.name = F ∧ G.deleted = false ∧ f.name = nm ∧ f.deleted = false ∧ f.actual = .good ∧ new = .corrupt
  | .folder F .corrupt => n.power = .on ∧ G.name = F ∧ G.deleted = false ∧ f.deleted = false ∧ f.actual = .good ∧ new = .corrupt
  /- repair / restore -/
  | .file F nm .repair | .file F nm .restore | .fsRestoreFile F nm =>
    n.power = .on ∧ G.name = F ∧ G.deleted = false ∧ f.name = nm ∧ f.deleted = false ∧ f.actual = .corrupt ∧ new = .good
  | .folder F .repair => n.power = .on ∧ G.name = F ∧ G.deleted = false ∧ f.deleted = false ∧ f.actual = .corrupt ∧ new = .good
  /- timed completion of a folder restore -/
  | .tick =>
    n.powerPhase.power = .on ∧ G.deleted = false ∧ G.restoreCd = 1 ∧
      (f.deleted = false ∨ File.twiceRestored G.files f = true) ∧ f.actual = .corrupt ∧ new = .good
  | _ => False

theorem File.repair_actual (f : File) :
    f.repair.actual = if f.deleted = false ∧ f.actual = .corrupt then .good else f.actual := by
  unfold File.repair
  cases hd : f.deleted
  · simp only [Bool.false_eq_true, if_false, true_and]; split <;> rfl
  · simp only [if_true, Bool.true_eq_false, false_and, if_false]
theorem File.restore_actual (f : File) :
    f.restore.actual = if f.deleted = false ∧ f.actual = .corrupt then .good else f.actual := by
  unfold File.restore
  cases hd : f.deleted
  · simp only [Bool.false_eq_true, if_false, true_and]; split <;> rfl
  · simp only [if_true, Bool.true_eq_false, false_and, if_false]
theorem File.corrupt_actual (f : File) :
    f.corrupt.actual = if f.deleted = false ∧ f.actual = .good then .corrupt else f.actual := by
  unfold File.corrupt
  cases hd : f.deleted
  · simp only [Bool.false_eq_true, if_false, true_and]; split <;> rfl
  · simp only [if_true, Bool.true_eq_false, false_and, if_false]

theorem File.restoreIn_actual (fs : List File) (f : File) (h : (File.restoreIn fs f).actual ≠ f.actual) :
    f.deleted = false ∧ f.actual = .corrupt ∧ (File.restoreIn fs f).actual = .good := by
  cases hd : f.deleted
  · rw [File.restoreIn_live fs f hd] at h ⊢
    obtain ⟨hc, e⟩ := ite_changed f.restore_actual h
    exact ⟨rfl, hc.2, e⟩
  · exfalso; apply h
    unfold File.restoreIn
    simp only [hd, if_true]
    (repeat' split) <;> first | rfl | simp only [File.restore_actual, hd, Bool.true_eq_false, false_and, if_false]

theorem File.restore_restore_actual (f : File) (hd : f.deleted = true) :
    f.restore.restore.actual = if f.actual = .corrupt then .good else f.actual := by
  unfold File.restore
  simp only [hd, if_true, Bool.false_eq_true, if_false]
  split <;> rfl

theorem File.twiceRestored_scan (fs : List File) (f : File) : File.twiceRestored fs f.scan = File.twiceRestored fs f := by
  unfold File.twiceRestored; rw [File.scan_deleted, File.scan_name, firstDeleted_scan, deadTwin_scan]

/-- what the completing folder restore does to the `deleted` flag and the actual health of one file: a deleted file stays deleted
iff `restore_file` never reaches it; a live CORRUPT file is repaired, and so is a CORRUPT file that is reached twice -/
theorem File.restoreAll_deleted_actual (fs : List File) (f : File) :
    ((File.restoreAll fs f).deleted, (File.restoreAll fs f).actual) =
      (f.deleted && (hasLive f.name fs || !firstDeleted fs f),
        if (f.deleted = false ∨ File.twiceRestored fs f = true) ∧ f.actual = .corrupt then FsH.good else f.actual) := by
  unfold File.restoreAll File.twiceRestored
  cases hd : f.deleted
  · simp only [Bool.false_eq_true, if_false, File.restore_deleted, File.restore_actual, hd, true_and, Bool.false_and, true_or]
  · cases hl : hasLive f.name fs
    · cases h1 : firstDeleted fs f
      · simp [hd]
      · cases h2 : deadTwin fs f
        · simp [File.restore_actual, hd]
        · simp [File.restore_restore_actual f hd]
    · simp [hd]

theorem File.restoreAll_actual (fs : List File) (f : File) (h : (File.restoreAll fs f).actual ≠ f.actual) :
    (f.deleted = false ∨ File.twiceRestored fs f = true) ∧ f.actual = .corrupt ∧ (File.restoreAll fs f).actual = .good := by
  obtain ⟨hc, e⟩ := ite_changed (congrArg Prod.snd (File.restoreAll_deleted_actual fs f) :) h
  exact ⟨hc.1, hc.2, e⟩

/-- **C14 (file actual health, one step, any state).** A file's actual health differs after an operation only if
the operation is one of the enumerated writers for that file: corrupt (file or folder request) or an external write;
repair / restore (file, folder or file-system request); or the timestep in which its folder's restore completes. -/
theorem C14_file_actual_only_by_event (n : Node) (op : Op) (j k : Nat) (G G' : Folder) (f f' : File)
    (hG : n.folders[j]? = some G) (hG' : (n.apply op).folders[j]? = some G')
    (hf : G.files[k]? = some f) (hf' : G'.files[k]? = some f') (hne : f'.actual ≠ f.actual) :
    fileActualCause n op G f f'.actual := by
  obtain rfl := Option.some.inj ((apply_folders_getElem op hG).symm.trans hG')
  obtain rfl := Option.some.inj ((folderEff_files_getElem op hf).symm.trans hf')
  cases op
  case tick =>
    rw [fileEff_tick] at hne ⊢
    simp only [fileActualCause]
    split at hne
    · rename_i hl
      rw [if_pos hl]
      -- `g`, the file after the possible scan, has the actual health, `deleted` flag and place among its namesakes that `f` has
      generalize hg : (if n.powerPhase.scanCd = 1 ∨ G.scanCd = 1 then f.scan else f) = g at hne ⊢
      have ha : g.actual = f.actual := by rw [← hg]; split <;> simp only [File.scan_actual]
      have hd : g.deleted = f.deleted := by rw [← hg]; split <;> simp only [File.scan_deleted]
      have ht : File.twiceRestored G.files g = File.twiceRestored G.files f := by
        rw [← hg]; split <;> simp only [File.twiceRestored_scan]
      split at hne
      · rename_i h1
        rw [if_pos h1]
        have := File.restoreAll_actual G.files g (by rw [ha]; exact hne)
        exact ⟨hl.1, hl.2, h1, by rw [← hd, ← ht]; exact this.1, by rw [← ha]; exact this.2.1, this.2.2⟩
      · exact absurd ha hne
    · exact absurd rfl hne
  case folder F r =>
    simp only [fileEff, fileActualCause] at hne ⊢
    split at hne
    · rename_i hc
      rw [if_pos hc]
      cases r <;> simp only [] at hne ⊢
      case repair => obtain ⟨hw, e⟩ := ite_changed f.repair_actual hne; exact ⟨hc.1, hc.2.1, hc.2.2, hw.1, hw.2, e⟩
      case corrupt => obtain ⟨hw, e⟩ := ite_changed f.corrupt_actual hne; exact ⟨hc.1, hc.2.1, hc.2.2, hw.1, hw.2, e⟩
      all_goals exact hne rfl
    · exact absurd rfl hne
  case file F nm r =>
    simp only [fileEff, fileActualCause] at hne ⊢
    split at hne
    · rename_i hc
      rw [if_pos hc]
      cases r <;> simp only [File.handle] at hne ⊢
      case scan => exact hne (by simp)
      case checkhash => exact hne rfl
      case repair => obtain ⟨hw, e⟩ := ite_changed f.repair_actual hne; exact ⟨hc.1, hc.2.1, hc.2.2.1, hc.2.2.2.1, hw.1, hw.2, e⟩
      case restore => obtain ⟨hw, e⟩ := ite_changed f.restore_actual hne; exact ⟨hc.1, hc.2.1, hc.2.2.1, hc.2.2.2.1, hw.1, hw.2, e⟩
      case corrupt => obtain ⟨hw, e⟩ := ite_changed f.corrupt_actual hne; exact ⟨hc.1, hc.2.1, hc.2.2.1, hc.2.2.2.1, hw.1, hw.2, e⟩
    · exact absurd rfl hne
  case fsRestoreFile F nm =>
    simp only [fileEff, fileActualCause] at hne ⊢
    split at hne
    · rename_i hc
      rw [if_pos hc]
      have := File.restoreIn_actual G.files f hne
      exact ⟨hc.1, hc.2.1, hc.2.2.1, hc.2.2.2, this⟩
    · exact absurd rfl hne
  case fileSet F nm h =>
    simp only [fileEff, fileActualCause] at hne ⊢
    split at hne
    · rename_i hc; rw [if_pos hc]; exact ⟨hc.1, hc.2, rfl⟩
    · exact absurd rfl hne
  all_goals first | exact hne rfl | (exfalso; apply hne; simp only [fileEff]; split <;> simp)

/-- The items of the node are ticked in this step: it is a timestep and the node is ON after its power phase
(a node that is OFF, BOOTING or SHUTTING_DOWN ticks nothing below it — timers freeze). -/
def effTick (n : Node) (op : Op) : Bool := op = .tick && n.powerPhase.power = .on

/-- number of timesteps of a trace that reach the node's items -/
def effTicks (n : Node) : List Op → Nat
  | [] => 0
  | op :: ops => (if effTick n op then 1 else 0) + effTicks (n.apply op) ops

theorem nodeCounted : Counted Node.apply effTick Node.run effTicks :=
  ⟨fun _ => rfl, fun _ _ _ => rfl, fun _ => rfl, fun _ _ _ => rfl⟩

/-- operations that write the health of item `name` from outside (attack, external `set_health_state`), or
re-install it. A running fix is only guaranteed to take its time if none of these hits the item meanwhile. -/
def touchesSw (name : String) : Op → Bool
  | .swSet nm _ => nm = name
  | .sw _ nm .compromise => nm = name
  | .appInstall nm => nm = name
  | _ => false

/-- `x` is being fixed with `c` left on its countdown -/
def Sw.Fixing (x : Sw) (c : Int) : Prop := x.actual = .fixing ∧ x.fixCd = some c ∧ x.op ≠ .installing

theorem Sw.Fixing.of_rel {y x : Sw} {c : Int} (h : Sw.PowerRel y x) (hf : x.Fixing c) : y.Fixing c := by
  refine ⟨?_, h.fixCd.trans hf.2.1, fun hi => hf.2.2 (h.installing.mp hi)⟩
  rcases h.actual with e | ⟨u, _⟩
  · exact e.trans hf.1
  · rw [hf.1] at u; cases u

theorem Sw.handle_fixing (x : Sw) (c : Int) (r : SwReq) (hr : r ≠ .compromise) (hf : x.Fixing c) :
    (x.handle r).1.Fixing c := by
  obtain ⟨ha, hc, ho⟩ := hf
  have hfix : x.fix = x := by unfold Sw.fix Sw.canFix; simp [ha]
  have hw : x.wake = x := by unfold Sw.wake; simp [ha]
  refine x.handle_cases (motive := fun y => y.Fixing c) r ⟨ha, hc, ho⟩ (fun _ => ⟨ha, hc, ho⟩) (fun _ => ?_) (fun e => absurd e hr)
    (fun o ho' => ⟨ha, hc, ho'⟩) (fun _ => ?_) ⟨ha, hc, by simp⟩
  · rw [hfix]; exact ⟨ha, hc, ho⟩
  · rw [hw]; exact ⟨ha, hc, by simp⟩

theorem Sw.auxTick_not_installing (x : Sw) (h : x.op ≠ .installing) :
    x.auxTick.actual = x.actual ∧ x.auxTick.fixCd = x.fixCd ∧ x.auxTick.op ≠ .installing :=
  x.auxTick_cases (motive := fun y => y.actual = x.actual ∧ y.fixCd = x.fixCd ∧ y.op ≠ .installing)
    ⟨rfl, rfl, h⟩ (fun _ _ ho _ _ => absurd ho h) (fun _ _ ho _ _ => absurd ho h)
    (fun c _ => ⟨rfl, rfl, by show (if c ≤ 0 then OpSt.running else x.op) ≠ _; split <;> simp [h]⟩)

theorem Sw.tick_fixing (x : Sw) (c : Int) (hf : x.Fixing c) :
    (c ≤ 1 → x.tick.actual = .good) ∧ (1 < c → x.tick.Fixing (c - 1)) := by
  obtain ⟨ha, hc, ho⟩ := hf
  unfold Sw.tick
  have h1 : x.fixTick = if c - 1 ≤ 0 then { x with actual := .good, fixCd := none } else { x with fixCd := some (c - 1) } := by
    unfold Sw.fixTick Sw.updateFix; simp [ha, hc]
  constructor
  · intro hle
    have : c - 1 ≤ 0 := by omega
    rw [h1, if_pos this]
    exact (Sw.auxTick_not_installing { x with actual := .good, fixCd := none } ho).1
  · intro hlt
    have : ¬ c - 1 ≤ 0 := by omega
    rw [h1, if_neg this]
    have := Sw.auxTick_not_installing { x with fixCd := some (c - 1) } ho
    exact ⟨this.1.trans ha, this.2.1, this.2.2⟩

theorem effTick_of_ne_tick (n : Node) {op : Op} (hop : op ≠ .tick) : effTick n op = false := by
  simp only [effTick, hop, decide_false, Bool.false_and]

theorem swEff_fixing (n : Node) (op : Op) (x : Sw) (c : Int) (hf : x.Fixing c) (hq : touchesSw x.name op = false) :
    (effTick n op = true → (c ≤ 1 → (swEff n op x).actual = .good) ∧ (1 < c → (swEff n op x).Fixing (c - 1))) ∧
    (effTick n op = false → (swEff n op x).Fixing c) := by
  by_cases hop : op = .tick
  · subst hop
    simp only [effTick, decide_true, Bool.true_and, decide_eq_true_eq, decide_eq_false_iff_not]
    exact tickEff_on_off (P := (·.Fixing c)) (T := fun y => (c ≤ 1 → y.actual = .good) ∧ (1 < c → y.Fixing (c - 1))) n x
      (fun _ h => .of_rel h hf) (fun _ h => h) (fun y h => y.tick_fixing c h)
  · rw [effTick_of_ne_tick n hop]
    refine ⟨fun h => absurd h Bool.false_ne_true, fun _ => ?_⟩
    refine swEff_cases (motive := fun y => y.Fixing c) n op x hop (fun _ => hf) (fun _ _ h => .of_rel h hf) ?_ ?_ ?_
    · intro k nm r e _ hacc
      apply Sw.handle_fixing x c r _ hf
      intro hr
      subst hr; subst e
      simp only [Sw.accepts, Bool.and_eq_true, decide_eq_true_eq] at hacc
      simp [touchesSw, hacc.1.1.1] at hq
    · intro h e; subst e; simp [touchesSw] at hq
    · intro e; subst e; simp [touchesSw] at hq

/-- **C14 fix timing, part 1 (not early).** Take any state in which the `i`-th software item is FIXING with `c` on
its countdown, and any operation sequence that does not hit that item with an external health write, a compromise or
a re-installation (everything else is allowed: other items' events, scans, repeated fix requests, lifecycle
requests, power loss …). As long as fewer than `max(1,c)` timesteps have reached the node's items, the item is still
FIXING and its countdown is `c` minus that number. -/
theorem C14_fix_not_early (ops : List Op) : ∀ (n : Node) (i : Nat) (x : Sw) (c : Int),
    n.sws[i]? = some x → x.Fixing c → (∀ op ∈ ops, touchesSw x.name op = false) →
    (effTicks n ops : Int) < max 1 c →
    ∃ x', (n.run ops).sws[i]? = some x' ∧ x'.name = x.name ∧ x'.Fixing (c - effTicks n ops) := by
  intro n i x c hx hf hq hk
  refine nodeCounted.not_early (fun n c => ∃ x', n.sws[i]? = some x' ∧ x'.name = x.name ∧ x'.Fixing c)
    (fun op => touchesSw x.name op = false) ?_ ops n c ⟨x, hx, rfl, hf⟩ hq hk
  intro n op c ⟨x', h1, h2, h3⟩ hq
  have hs := swEff_fixing n op x' c h3 (h2 ▸ hq)
  have hn := (swEff_id n op x').1.trans h2
  exact ⟨fun he hc => ⟨_, apply_sws_getElem op h1, hn, (hs.1 he).2 hc⟩, fun he => ⟨_, apply_sws_getElem op h1, hn, hs.2 he⟩⟩

/-- **C14 fix timing, part 2 (on time).** … and the `max(1,c)`-th timestep that reaches the node's items makes the
item GOOD. Together: a fix returns the software to GOOD after exactly `max(1, c)` timesteps of a powered-on node. -/
theorem C14_fix_completes_on_time (ops : List Op) (n : Node) (i : Nat) (x : Sw) (c : Int)
    (hx : n.sws[i]? = some x) (hf : x.Fixing c) (hq : ∀ op ∈ ops, touchesSw x.name op = false)
    (hk : (effTicks n ops : Int) + 1 = max 1 c) (ht : effTick (n.run ops) .tick = true) :
    ∃ x', ((n.run ops).apply .tick).sws[i]? = some x' ∧ x'.name = x.name ∧ x'.actual = .good := by
  obtain ⟨x1, h1, h2, h3⟩ := C14_fix_not_early ops n i x c hx hf hq (by omega)
  refine ⟨swEff (n.run ops) .tick x1, ?_, ((swEff_id _ _ _).1).trans h2, ?_⟩
  · exact apply_sws_getElem _ h1
  · exact ((swEff_fixing (n.run ops) .tick x1 _ h3 rfl).1 ht).1 (by omega)

theorem swEff_fix_accepted (n : Node) (x : Sw) (hon : n.power = .on) (hr : x.op = .running) (hc : x.canFix = true) :
    (swEff n (.sw x.isApp x.name .fix) x).Fixing x.fixDur := by
  simp only [swEff, hon, if_true, Sw.request, Sw.accepts, hr, SwReq.known, SwReq.allowed, SwReq.guard, Sw.handle,
    Sw.fix, hc, decide_true, Bool.and_self]
  exact ⟨rfl, rfl, by simp⟩

/-- An accepted `fix` request puts the item into FIXING with the configured duration on the countdown. (That `fix` is
accepted exactly for a RUNNING item of a powered-on node whose actual health is GOOD or COMPROMISED is
`C14_resp_sw_fix_success`, Props/C14Dyn.lean.) -/
theorem C14_fix_request (n : Node) (k : Bool) (i : Nat) (x : Sw) (hx : n.sws[i]? = some x) (hon : n.power = .on)
    (hk : x.isApp = k) (hr : x.op = .running) (hc : x.canFix = true) :
    ∃ x', (n.apply (.sw k x.name .fix)).sws[i]? = some x' ∧ x'.name = x.name ∧ x'.Fixing x.fixDur := by
  subst hk
  exact ⟨_, apply_sws_getElem _ hx, (swEff_id _ _ _).1, swEff_fix_accepted n x hon hr hc⟩

/-- The folder is ticked in this step: a timestep, node ON after its power phase, folder not deleted. -/
def folderTicking (n : Node) (op : Op) (G : Folder) : Bool := op = .tick && n.powerPhase.power = .on && !G.deleted

/-- number of timesteps of a trace that reach the `j`-th folder -/
def effFolderTicks (n : Node) (j : Nat) : List Op → Nat
  | [] => 0
  | op :: ops =>
    (match n.folders[j]? with
     | some G => if folderTicking n op G then 1 else 0
     | none => 0) + effFolderTicks (n.apply op) j ops

theorem folderTicking_of_ne_tick (n : Node) {op : Op} (G : Folder) (hop : op ≠ .tick) : folderTicking n op G = false := by
  cases op <;> first | rfl | exact absurd rfl hop

theorem folderTicking_tick (n : Node) (G : Folder) :
    folderTicking n .tick G = true ↔ n.powerPhase.power = .on ∧ G.deleted = false := by
  simp only [folderTicking, decide_true, Bool.true_and, Bool.and_eq_true, decide_eq_true_eq, Bool.not_eq_true']

/-- a running countdown `cd` (one that `Folder.tick` decrements and neither the whole-node scan nor any request moves) goes down
exactly in the timesteps that reach the folder -/
theorem folderEff_cd_running (cd : Folder → Int) (hscan : ∀ G : Folder, cd G.instantScan = cd G)
    (htick : ∀ G : Folder, 1 ≤ cd G → cd G.tick = cd G - 1)
    (hquiet : ∀ G' G : Folder, Folder.Quiet G' G → 1 ≤ cd G → cd G' = cd G)
    (n : Node) (op : Op) (G : Folder) (h : 1 ≤ cd G) :
    cd (folderEff n op G) = if folderTicking n op G then cd G - 1 else cd G := by
  by_cases hop : op = .tick
  · subst hop
    show cd (folderTickEff n G) = _
    rw [folderTickEff_eq]
    by_cases hl : n.powerPhase.power = .on ∧ G.deleted = false
    · rw [if_pos hl, if_pos ((folderTicking_tick n G).mpr hl)]
      split
      · rw [htick _ (by rw [hscan]; exact h), hscan]
      · exact htick G h
    · rw [if_neg hl, if_neg (fun ht => hl ((folderTicking_tick n G).mp ht))]
  · rw [folderTicking_of_ne_tick n G hop]
    exact hquiet _ _ (folderEff_quiet n op G hop) h

/-- while a folder scan runs (`scanCd ≥ 1`) nothing but a timestep that reaches the folder moves its countdown —
in particular a second scan request is ignored, and deleting / restoring the folder or power loss only pause it -/
theorem folderEff_scanCd_running (n : Node) (op : Op) (G : Folder) (h : 1 ≤ G.scanCd) :
    (folderEff n op G).scanCd = if folderTicking n op G then G.scanCd - 1 else G.scanCd :=
  folderEff_cd_running (·.scanCd) Folder.instantScan_scanCd Folder.tick_scanCd (fun _ _ q => q.scanCd) n op G h

theorem folderEff_restoreCd_running (n : Node) (op : Op) (G : Folder) (h : 1 ≤ G.restoreCd) :
    (folderEff n op G).restoreCd = if folderTicking n op G then G.restoreCd - 1 else G.restoreCd :=
  folderEff_cd_running (·.restoreCd) Folder.instantScan_restoreCd Folder.tick_restoreCd (fun _ _ q => q.restoreCd) n op G h

theorem folderCounted (j : Nat) :
    Counted Node.apply (fun n op => match n.folders[j]? with | some G => folderTicking n op G | none => false) Node.run
      (fun n => effFolderTicks n j) :=
  ⟨fun _ => rfl, fun _ _ _ => rfl, fun _ => rfl, fun n op ops => by
    simp only [effFolderTicks]; cases n.folders[j]? <;> rfl⟩

theorem folder_cd_not_early (cd : Folder → Int)
    (hstep : ∀ n op G, 1 ≤ cd G → cd (folderEff n op G) = if folderTicking n op G then cd G - 1 else cd G)
    (ops : List Op) : ∀ (n : Node) (j : Nat) (G : Folder) (c : Int),
    n.folders[j]? = some G → cd G = c → (effFolderTicks n j ops : Int) < c →
    ∃ G', (n.run ops).folders[j]? = some G' ∧ G'.name = G.name ∧ cd G' = c - effFolderTicks n j ops := by
  intro n j G c hG hc hk
  have h0 := Int.natCast_nonneg (effFolderTicks n j ops)
  refine ((folderCounted j).not_early (fun n c => 1 ≤ c ∧ ∃ G', n.folders[j]? = some G' ∧ G'.name = G.name ∧ cd G' = c)
    (fun _ => True) ?_ ops n c ⟨by omega, G, hG, rfl, hc⟩ (fun _ _ => trivial) (by omega)).2
  intro n op c ⟨hc1, G', h1, h2, h3⟩ _
  have hs := hstep n op G' (by omega)
  have hn := (folderEff_name n op G').trans h2
  simp only [h1]
  exact ⟨fun he _ => ⟨by omega, _, apply_folders_getElem op h1, hn, by rw [hs, if_pos he, h3]⟩,
    fun he => ⟨hc1, _, apply_folders_getElem op h1, hn, by rw [hs, he, h3]; rfl⟩⟩

/-- **C14 folder scan timing, part 1 (not early).** From any state in which the `j`-th folder has `c` on its scan
countdown, for ANY operation sequence: while fewer than `c` timesteps have reached the folder, the countdown is `c`
minus that number (so the scan has not completed; a second scan request in between is ignored). -/
theorem C14_folder_scan_not_early (ops : List Op) (n : Node) (j : Nat) (G : Folder) (c : Int)
    (hG : n.folders[j]? = some G) (hc : G.scanCd = c) (hk : (effFolderTicks n j ops : Int) < c) :
    ∃ G', (n.run ops).folders[j]? = some G' ∧ G'.name = G.name ∧ G'.scanCd = c - effFolderTicks n j ops :=
  folder_cd_not_early (·.scanCd) folderEff_scanCd_running ops n j G c hG hc hk

/-- the timestep that reaches a folder whose scan countdown stands at 1 completes the scan -/
theorem folderEff_scan_done (n : Node) (G : Folder) (hcd : G.scanCd = 1) (ht : folderTicking n .tick G = true) :
    (folderEff n .tick G).scanCd = 0 ∧ (folderEff n .tick G).visible = worstLive G.files ∧
    (folderEff n .tick G).files.map (·.visible) = G.files.map (fun f => if f.deleted then f.visible else f.actual) := by
  have hl := (folderTicking_tick _ _).mp ht
  refine ⟨?_, ?_, ?_⟩
  · rw [folderEff_scanCd_running _ _ _ (by omega), ht, hcd]; rfl
  · rw [folderEff_visible]
    simp [folderScanCompletes, hl.1, hl.2, hcd]
  · rw [folderEff_files, List.map_map]
    apply List.map_congr_left
    intro f _
    simp only [Function.comp_def, fileEff_visible, fileScanCompletes, hl.1, hl.2, hcd, decide_true, Bool.not_false,
      Bool.true_and, Bool.or_true, Bool.and_true]
    by_cases hd : f.deleted = true <;> simp [hd]

/-- **C14 folder scan timing, part 2 (on time).** The `c`-th timestep that reaches the folder completes the scan:
the folder's visible health becomes the worst health of its live files, and every live file's visible health becomes
its actual health. With `C14_folder_scan_request` (`c = max(1, scan_duration)`): exactly `max(1, d)` timesteps. -/
theorem C14_folder_scan_completes_on_time (ops : List Op) (n : Node) (j : Nat) (G : Folder) (c : Int)
    (hG : n.folders[j]? = some G) (hc : G.scanCd = c) (hk : (effFolderTicks n j ops : Int) + 1 = c) :
    ∃ G', (n.run ops).folders[j]? = some G' ∧ G'.scanCd = 1 ∧
      (folderTicking (n.run ops) .tick G' = true →
        ∃ G'', ((n.run ops).apply .tick).folders[j]? = some G'' ∧ G''.name = G.name ∧ G''.scanCd = 0 ∧
          G''.visible = worstLive G'.files ∧
          G''.files.map (·.visible) = G'.files.map (fun f => if f.deleted then f.visible else f.actual)) := by
  obtain ⟨G', h1, h2, h3⟩ := C14_folder_scan_not_early ops n j G c hG hc (by omega)
  have hcd : G'.scanCd = 1 := by rw [h3]; omega
  exact ⟨G', h1, hcd, fun ht =>
    ⟨_, apply_folders_getElem _ h1, (folderEff_name _ _ _).trans h2, folderEff_scan_done _ G' hcd ht⟩⟩

/-- A `scan` request on a live folder of a powered-on node loads `max(scan_duration, 1)` — unless a scan is already
running, in which case it changes nothing. -/
theorem C14_folder_scan_request (n : Node) (F : String) (G : Folder) :
    (folderEff n (.folder F .scan) G).scanCd =
      if n.power = .on ∧ G.name = F ∧ G.deleted = false ∧ G.scanCd ≤ 0 then max G.scanDur 1 else G.scanCd := by
  simp only [folderEff, Folder.handle, Folder.scan]
  by_cases h1 : n.power = .on <;> by_cases h2 : G.name = F <;> by_cases h3 : G.deleted = false <;>
    by_cases h4 : G.scanCd ≤ 0 <;> simp [h1, h2, h3, h4]

/-- **C14 folder restore timing, part 1 (not early).** -/
theorem C14_folder_restore_not_early (ops : List Op) (n : Node) (j : Nat) (G : Folder) (c : Int)
    (hG : n.folders[j]? = some G) (hc : G.restoreCd = c) (hk : (effFolderTicks n j ops : Int) < c) :
    ∃ G', (n.run ops).folders[j]? = some G' ∧ G'.name = G.name ∧ G'.restoreCd = c - effFolderTicks n j ops :=
  folder_cd_not_early (·.restoreCd) folderEff_restoreCd_running ops n j G c hG hc hk

/-- the timestep that reaches a folder whose restore countdown stands at 1 completes the restore -/
theorem folderEff_restore_done (n : Node) (G : Folder) (hcd : G.restoreCd = 1) (ht : folderTicking n .tick G = true) :
    (folderEff n .tick G).restoreCd = 0 ∧ (folderEff n .tick G).actual ≠ .corrupt ∧ (folderEff n .tick G).actual ≠ .restoring ∧
    (folderEff n .tick G).files.map (fun f => (f.deleted, f.actual)) =
      G.files.map (fun f => (f.deleted && (hasLive f.name G.files || !firstDeleted G.files f),
        if (f.deleted = false ∨ File.twiceRestored G.files f = true) ∧ f.actual = .corrupt then FsH.good else f.actual)) := by
  obtain ⟨hon, hd⟩ := (folderTicking_tick _ _).mp ht
  have h2 : (folderTickEff n G).actual ≠ .corrupt ∧ (folderTickEff n G).actual ≠ .restoring := by
    rw [folderTickEff_actual, if_pos ⟨hon, hd⟩, Folder.tick_actual]
    simp only [hcd, hd, true_and]
    generalize (if G.scanCd = 1 then worstLive G.files else G.actual) = a
    split
    · exact ⟨by simp, by simp⟩
    · rename_i hn
      exact ⟨fun h => hn (Or.inl h), fun h => hn (Or.inr h)⟩
  refine ⟨?_, h2.1, h2.2, ?_⟩
  · rw [folderEff_restoreCd_running _ _ _ (by omega), ht, hcd]; rfl
  · rw [folderEff_files, List.map_map]
    apply List.map_congr_left
    intro f _
    simp only [Function.comp_def]
    -- the file after the possible scan has the `deleted` flag, actual health and place among its namesakes that `f` has
    rw [fileEff_tick, if_pos ⟨hon, hd⟩, if_pos hcd, File.restoreAll_deleted_actual]
    split <;> simp only [File.scan_name, File.scan_deleted, File.scan_actual, firstDeleted_scan, File.twiceRestored_scan]

/-- **C14 folder restore timing, part 2 (on time).** The `c`-th timestep that reaches the folder completes the
restore: every file is live again — except a deleted file that has a LIVE namesake or is not the first deleted file of its name in
deletion order, which `restore_file` never reaches —, every file that was live and CORRUPT is GOOD (a deleted file comes back with
the health it had, unless it has a deleted twin: then it is reached twice and a CORRUPT one comes back GOOD, `File.twiceRestored`),
and the folder itself is no longer CORRUPT / RESTORING. -/
theorem C14_folder_restore_completes_on_time (ops : List Op) (n : Node) (j : Nat) (G : Folder) (c : Int)
    (hG : n.folders[j]? = some G) (hc : G.restoreCd = c) (hk : (effFolderTicks n j ops : Int) + 1 = c) :
    ∃ G', (n.run ops).folders[j]? = some G' ∧ G'.restoreCd = 1 ∧
      (folderTicking (n.run ops) .tick G' = true →
        ∃ G'', ((n.run ops).apply .tick).folders[j]? = some G'' ∧ G''.name = G.name ∧ G''.restoreCd = 0 ∧
          G''.actual ≠ .corrupt ∧ G''.actual ≠ .restoring ∧
          G''.files.map (fun f => (f.deleted, f.actual)) =
            G'.files.map (fun f => (f.deleted && (hasLive f.name G'.files || !firstDeleted G'.files f),
              if (f.deleted = false ∨ File.twiceRestored G'.files f = true) ∧ f.actual = .corrupt then FsH.good
              else f.actual))) := by
  obtain ⟨G', h1, h2, h3⟩ := C14_folder_restore_not_early ops n j G c hG hc (by omega)
  have hcd : G'.restoreCd = 1 := by rw [h3]; omega
  exact ⟨G', h1, hcd, fun ht =>
    ⟨_, apply_folders_getElem _ h1, (folderEff_name _ _ _).trans h2, folderEff_restore_done _ G' hcd ht⟩⟩

/-- A `restore` request (folder route; or file-system route, which reaches the live folder of that name, else the first deleted one
in deletion order) loads `max(restore_duration, 1)` and marks the folder RESTORING — unless a restore is already running, in
which case the countdown is left alone. -/
theorem C14_folder_restore_request (n : Node) (F : String) (G : Folder) (hon : n.power = .on) (hn : G.name = F) :
    ((G.deleted = false ∨ (hasLiveFolder G.name n.folders = false ∧ firstDeletedFolder n.folders G = true)) →
      (folderEff n (.fsRestoreFolder F) G).restoreCd = (if G.restoreCd ≤ 0 then max G.restoreDur 1 else G.restoreCd)) ∧
    (G.deleted = false →
      (folderEff n (.folder F .restore) G).restoreCd = (if G.restoreCd ≤ 0 then max G.restoreDur 1 else G.restoreCd)) := by
  constructor
  · intro hreach
    have hr : Folder.restoreIn n.folders G = G.restore := by
      unfold Folder.restoreIn
      rcases hreach with hd | ⟨h1, h2⟩
      · simp [hd]
      · simp [h1, h2]
    simp only [folderEff, hon, hn, if_true, hr, Folder.restore]
    split <;> rfl
  · intro hd
    simp only [folderEff, Folder.handle, Folder.restore, hon, hn, if_true, true_and, hd]
    split <;> rfl

theorem apply_scanCd (n : Node) (op : Op) :
    (n.apply op).scanCd =
      match op with
      | .tick => if n.powerPhase.power = .on ∧ n.scanCd > 0 then n.scanCd - 1 else n.scanCd
      | .osScan => if n.power = .on then max n.scanDur 1 else n.scanCd
      | _ => n.scanCd := by
  cases op <;> simp only [Node.apply]
  case tick =>
    unfold Node.tick
    simp only []
    by_cases hon : n.powerPhase.power = .on
    · simp only [hon, if_true, true_and, Node.itemPhase, mapFolders_scanCd, mapSws_scanCd, redPhase_scanCd]
      have hps := (powerPhase_swStep n).scanCd
      unfold Node.scanPhase
      (repeat' split) <;> (try simp only [mapFolders_scanCd, mapSws_scanCd]) <;> omega
    · simp only [hon, if_false, false_and]
      exact (powerPhase_swStep n).scanCd
  case shutdown => split <;> first | exact (powerOff_swStep n).scanCd | rfl
  case startup => split <;> first | exact (powerOn_swStep n).scanCd | rfl
  case reset => split <;> first | exact (powerOff_swStep _).scanCd | rfl
  case osScan => split <;> rfl
  all_goals ((repeat' split) <;> rfl)

/-- a running node-scan countdown is moved by the timesteps that reach the node's items and by nothing else but a new request -/
theorem apply_scanCd_running (n : Node) (op : Op) (h : 1 ≤ n.scanCd) (hop : op ≠ .osScan) :
    (n.apply op).scanCd = if effTick n op then n.scanCd - 1 else n.scanCd := by
  rw [apply_scanCd]
  cases op <;> simp only [effTick, decide_false, Bool.false_and, Bool.false_eq_true, if_false, reduceCtorEq]
  · by_cases hon : n.powerPhase.power = .on
    · simp only [hon, true_and, decide_true, Bool.and_self, if_true]; rw [if_pos (by omega)]
    · simp only [hon, false_and, if_false, decide_false, decide_true, Bool.and_false, Bool.false_eq_true]
  · exact absurd rfl hop

/-- **C14 node scan timing, part 1 (not early).** With `c` on the node-scan countdown and no new `os scan` request
in between (a new request restarts the countdown — unlike folders it is not ignored), the countdown is `c` minus the
number of timesteps that reached the node's items, as long as that number is below `c`. -/
theorem C14_node_scan_not_early (ops : List Op) : ∀ (n : Node) (c : Int),
    n.scanCd = c → (∀ op ∈ ops, op ≠ .osScan) → (effTicks n ops : Int) < c →
    (n.run ops).scanCd = c - effTicks n ops := by
  intro n c hc hq hk
  have h0 := Int.natCast_nonneg (effTicks n ops)
  refine (nodeCounted.not_early (fun n c => 1 ≤ c ∧ n.scanCd = c) (fun op => op ≠ .osScan) ?_ ops n c ⟨by omega, hc⟩ hq
    (by omega)).2
  intro n op c ⟨hc1, h⟩ hop
  have hs := apply_scanCd_running n op (by omega) hop
  exact ⟨fun he _ => ⟨by omega, by rw [hs, if_pos he, h]⟩, fun he => ⟨hc1, by rw [hs, he, h]; rfl⟩⟩

/-- **C14 node scan fan-out.** In the timestep in which the countdown stands at 1 on a node that is ON after its power
phase, the scan covers EVERY software item (services and applications alike, whatever their operating state) and
every live file of every live folder: their visible health becomes their actual health at that moment; the countdown
returns to 0. -/
theorem C14_node_scan_fans_out (n : Node) (hc : n.scanCd = 1) (ht : effTick n .tick = true) :
    (n.apply .tick).scanCd = 0 ∧
    (∀ (i : Nat) (x : Sw), n.sws[i]? = some x →
      ∃ x' : Sw, (n.apply .tick).sws[i]? = some x' ∧ x'.name = x.name ∧ x'.visible = (powerEff n x).actual) ∧
    (∀ (j : Nat) (G : Folder) (k : Nat) (f : File), n.folders[j]? = some G → G.files[k]? = some f →
      G.deleted = false → f.deleted = false →
      ∃ (G' : Folder) (f' : File), (n.apply .tick).folders[j]? = some G' ∧ G'.files[k]? = some f' ∧ f'.name = f.name ∧
        f'.visible = f.actual) := by
  have hon : n.powerPhase.power = .on := by simpa [effTick] using ht
  refine ⟨?_, ?_, ?_⟩
  · rw [apply_scanCd]; simp [hon, hc]
  · intro i x hx
    have hf : swScanCompletes n .tick (swMoment n .tick x) = true := by
      simp [swScanCompletes, Node.scanFires, hon, (powerPhase_swStep n).scanCd, hc]
    exact ⟨swEff n .tick x, apply_sws_getElem _ hx, (swEff_id n .tick x).1, by rw [swEff_visible, hf]; rfl⟩
  · intro j G k f hG hf hGd hfd
    have hc' : fileScanCompletes n .tick G f = true := by
      simp [fileScanCompletes, hon, hGd, hfd, (powerPhase_swStep n).scanCd, hc]
    exact ⟨folderEff n .tick G, fileEff n .tick G f, apply_folders_getElem _ hG, folderEff_files_getElem _ hf,
      fileEff_name n .tick G f, by rw [fileEff_visible, hc']; rfl⟩

/-- the timestep that reaches the items of a node whose scan countdown stands at 1 is the one in which the scan fans out -/
theorem node_scan_done (n : Node) (hc : n.scanCd = 1) (ht : effTick n .tick = true) :
    n.powerPhase.scanFires = true ∧ (n.apply .tick).scanCd = 0 := by
  have hon : n.powerPhase.power = .on := by simpa [effTick] using ht
  exact ⟨by simp [Node.scanFires, hon, (powerPhase_swStep n).scanCd, hc], (C14_node_scan_fans_out n hc ht).1⟩

/-- **C14 node scan timing, part 2 (on time).** -/
theorem C14_node_scan_completes_on_time (ops : List Op) (n : Node) (c : Int) (hc : n.scanCd = c)
    (hq : ∀ op ∈ ops, op ≠ .osScan) (hk : (effTicks n ops : Int) + 1 = c) (ht : effTick (n.run ops) .tick = true) :
    (n.run ops).scanCd = 1 ∧ (n.run ops).powerPhase.scanFires = true ∧ ((n.run ops).apply .tick).scanCd = 0 := by
  have h1 : (n.run ops).scanCd = 1 := by rw [C14_node_scan_not_early ops n c hc hq (by omega)]; omega
  exact ⟨h1, node_scan_done _ h1 ht⟩

/-- An accepted `os scan` request loads `max(node_scan_duration, 1)` (also while a scan is running). -/
theorem C14_node_scan_request (n : Node) (hon : n.power = .on) :
    (n.apply .osScan).scanCd = max n.scanDur 1 := by
  rw [apply_scanCd]; simp [hon]

/-- one step of the ghost record for software: overwritten exactly when a scan covering the item completes -/
def swShadowStep (n : Node) (op : Op) (sh : List SwH) : List SwH :=
  List.zipWith (fun x h => if swScanCompletes n op (swMoment n op x) then (swMoment n op x).actual else h) n.sws sh

/-- the ghost record along a trace -/
def swShadow (n : Node) : List Op → List SwH → List SwH
  | [], sh => sh
  | op :: ops, sh => swShadow (n.apply op) ops (swShadowStep n op sh)

/-- **C14 (software, all traces).** For every state and every operation sequence, the visible health of every
software item equals the shadow record "its actual health at the moment of the last scan that covered it" (and its
initial visible value if none did). -/
theorem C14_sw_visible_eq_shadow (ops : List Op) : ∀ n : Node,
    (n.run ops).sws.map (·.visible) = swShadow n ops (n.sws.map (·.visible)) := by
  induction ops with
  | nil => intro n; rfl
  | cons op ops ih =>
    intro n
    simp only [Node.run, swShadow]
    rw [ih (n.apply op)]
    congr 1
    rw [apply_sws, List.map_map, swShadowStep, List.zipWith_map_right, List.zipWith_self]
    apply List.map_congr_left
    intro x _
    exact swEff_visible n op x

/-- one step of the ghost record for files (per folder, per file) -/
def fileShadowStep (n : Node) (op : Op) (sh : List (List FsH)) : List (List FsH) :=
  List.zipWith (fun G hs => List.zipWith (fun f h => if fileScanCompletes n op G f then f.actual else h) G.files hs)
    n.folders sh

def fileShadow (n : Node) : List Op → List (List FsH) → List (List FsH)
  | [], sh => sh
  | op :: ops, sh => fileShadow (n.apply op) ops (fileShadowStep n op sh)

/-- **C14 (files, all traces).** Same for every file of every folder. -/
theorem C14_file_visible_eq_shadow (ops : List Op) : ∀ n : Node,
    (n.run ops).folders.map (fun G => G.files.map (·.visible)) =
      fileShadow n ops (n.folders.map (fun G => G.files.map (·.visible))) := by
  induction ops with
  | nil => intro n; rfl
  | cons op ops ih =>
    intro n
    simp only [Node.run, fileShadow]
    rw [ih (n.apply op)]
    congr 1
    rw [apply_folders, List.map_map, fileShadowStep, List.zipWith_map_right, List.zipWith_self]
    apply List.map_congr_left
    intro G _
    simp only [Function.comp_def]
    rw [folderEff_files, List.map_map, List.zipWith_map_right, List.zipWith_self]
    apply List.map_congr_left
    intro f _
    exact fileEff_visible n op G f

/-- **C14 fix timing.** After an accepted `fix` request on the `i`-th item, for every continuation that does not hit
the item from outside: it is still FIXING while fewer than `max(1, fixing_duration)` timesteps have reached it, and
the `max(1, fixing_duration)`-th such timestep makes it GOOD. -/
theorem C14_fix_exact (n : Node) (k : Bool) (i : Nat) (x : Sw) (ops : List Op)
    (hx : n.sws[i]? = some x) (hon : n.power = .on) (hk : x.isApp = k) (hr : x.op = .running) (hc : x.canFix = true)
    (hq : ∀ op ∈ ops, touchesSw x.name op = false) :
    let n1 := n.apply (.sw k x.name .fix)
    ((effTicks n1 ops : Int) < max 1 x.fixDur →
      ∃ x', (n1.run ops).sws[i]? = some x' ∧ x'.actual = .fixing) ∧
    ((effTicks n1 ops : Int) + 1 = max 1 x.fixDur → effTick (n1.run ops) .tick = true →
      ∃ x', ((n1.run ops).apply .tick).sws[i]? = some x' ∧ x'.actual = .good) := by
  obtain ⟨x1, h1, h2, h3⟩ := C14_fix_request n k i x hx hon hk hr hc
  have hq1 : ∀ op ∈ ops, touchesSw x1.name op = false := by intro o ho; rw [h2]; exact hq o ho
  refine ⟨fun hlt => ?_, fun heq ht => ?_⟩
  · obtain ⟨x', g1, _, g3⟩ := C14_fix_not_early ops _ i x1 x.fixDur h1 h3 hq1 hlt
    exact ⟨x', g1, g3.1⟩
  · obtain ⟨x', g1, _, g3⟩ := C14_fix_completes_on_time ops _ i x1 x.fixDur h1 h3 hq1 heq ht
    exact ⟨x', g1, g3⟩

/-- **C14 folder scan timing.** After a `scan` request on an idle live folder of a powered-on node, for EVERY
continuation: the scan completes at exactly the `max(1, scan_duration)`-th timestep that reaches the folder
(duration 0 included — F-24 repaired). -/
theorem C14_folder_scan_exact (n : Node) (j : Nat) (G : Folder) (ops : List Op)
    (hG : n.folders[j]? = some G) (hon : n.power = .on) (hl : G.deleted = false) (hidle : G.scanCd ≤ 0)
    (hk : (effFolderTicks (n.apply (.folder G.name .scan)) j ops : Int) + 1 = max G.scanDur 1) :
    let n1 := (n.apply (.folder G.name .scan)).run ops
    ∃ G', n1.folders[j]? = some G' ∧ G'.scanCd = 1 ∧
      (folderTicking n1 .tick G' = true →
        ∃ G'', (n1.apply .tick).folders[j]? = some G'' ∧ G''.scanCd = 0 ∧ G''.visible = worstLive G'.files ∧
          G''.files.map (·.visible) = G'.files.map (fun f => if f.deleted then f.visible else f.actual)) := by
  have h0 : (n.apply (.folder G.name .scan)).folders[j]? = some (folderEff n (.folder G.name .scan) G) := by
    exact apply_folders_getElem _ hG
  have hcd : (folderEff n (.folder G.name .scan) G).scanCd = max G.scanDur 1 := by
    rw [C14_folder_scan_request]; simp [hon, hl, hidle]
  obtain ⟨G', g1, g2, g3⟩ := C14_folder_scan_completes_on_time ops _ j _ _ h0 hcd hk
  exact ⟨G', g1, g2, fun ht => by
    obtain ⟨G'', a, _, b, c, d⟩ := g3 ht
    exact ⟨G'', a, b, c, d⟩⟩

/-- **C14 node scan timing.** After an accepted `os scan` request, for every continuation without a new `os scan`
request: the fan-out happens at exactly the `max(1, node_scan_duration)`-th timestep that reaches the node's items. -/
theorem C14_node_scan_exact (n : Node) (ops : List Op) (hon : n.power = .on) (hq : ∀ op ∈ ops, op ≠ .osScan) :
    let n1 := n.apply .osScan
    ((effTicks n1 ops : Int) < max n.scanDur 1 → (n1.run ops).scanCd = max n.scanDur 1 - effTicks n1 ops) ∧
    ((effTicks n1 ops : Int) + 1 = max n.scanDur 1 → effTick (n1.run ops) .tick = true →
      (n1.run ops).powerPhase.scanFires = true ∧ ((n1.run ops).apply .tick).scanCd = 0) := by
  have h := C14_node_scan_request n hon
  refine ⟨fun hlt => C14_node_scan_not_early ops _ _ h hq hlt, fun heq ht => ?_⟩
  have := C14_node_scan_completes_on_time ops _ _ h hq heq ht
  exact ⟨this.2.1, this.2.2⟩

/-- a small node: one COMPROMISED running service (fix 2), one closed application, one folder (scan 0, restore 2)
with a CORRUPT live file and a GOOD deleted file; node scan duration 0; shut-down 1, start-up 1. -/
def exDns : Sw :=
  { name := "dns", isApp := false, op := .running, actual := .compromised, visible := .unused, fixDur := 2,
    fixCd := none, auxDur := 5, auxCd := none }
def exNode : Node :=
  { power := .on, startDur := 1, startCd := 0, shutDur := 1, shutCd := 0, resetting := false, scanDur := 0, scanCd := 0,
    sws := [exDns,
            { name := "browser", isApp := true, op := .closed, actual := .unused, visible := .unused, fixDur := 0,
              fixCd := none, auxDur := 2, auxCd := none }],
    folders := [{ name := "d", deleted := false, actual := .good, visible := .none, scanDur := 0, scanCd := 0,
                  restoreDur := 2, restoreCd := 0,
                  files := [{ name := "a", actual := .corrupt, visible := .none, deleted := false },
                            { name := "b", actual := .good, visible := .none, deleted := true }] }] }

example : exNode.wf = true := by decide +kernel
/-- hypotheses of `C14_fix_exact` are satisfiable -/
example : exNode.sws[0]? = some exDns ∧ exNode.power = .on ∧ exDns.op = .running ∧ exDns.canFix = true := by decide +kernel
/-- a scan request completes a scan of its item, and of nothing else -/
example : (exNode.sws.map (swScanCompletes exNode (.sw false "dns" .scan))) = [true, false] := by decide +kernel
/-- fix with duration 2, a second compromise after one tick, a new fix: two more ticks — FIXING, COMPROMISED,
FIXING, FIXING, GOOD -/
example :
    ([[Op.sw false "dns" .fix, .tick], [.sw false "dns" .fix, .tick, .sw false "dns" .compromise, .tick],
      [.sw false "dns" .fix, .tick, .sw false "dns" .compromise, .tick, .sw false "dns" .fix, .tick],
      [.sw false "dns" .fix, .tick, .sw false "dns" .compromise, .tick, .sw false "dns" .fix, .tick, .tick]].map
        (fun ops => ((exNode.run ops).sws.map (·.actual)).take 1)) = [[.fixing], [.compromised], [.fixing], [.good]] := by
  decide +kernel
/-- power loss in the middle of a fix: the countdown freezes while the node is not ON (shut-down 1, start-up 1:
the node is ON again — and ticks its items — in the 2nd timestep after `startup`) -/
example :
    ((exNode.run [.sw false "dns" .fix, .tick, .shutdown, .tick, .tick, .tick, .startup, .tick]).sws.map
        (fun x => (x.actual, x.fixCd))).take 1 = [(.fixing, some 1)] ∧
    ((exNode.run [.sw false "dns" .fix, .tick, .shutdown, .tick, .tick, .tick, .startup, .tick, .tick]).sws.map
        (fun x => (x.actual, x.fixCd))).take 1 = [(.good, none)] := by decide +kernel
/-- durations 0 (folder scan, node scan): complete at the next timestep; the deleted file is not scanned; the
application (closed, never run) is scanned by the node scan all the same -/
example :
    (exNode.run [.folder "d" .scan, .tick]).folders.map (fun G => (G.visible, G.files.map (·.visible))) =
      [(.corrupt, [.corrupt, .none])] ∧
    (exNode.run [.osScan, .tick]).sws.map (·.visible) = [.compromised, .unused] ∧
    (exNode.run [.osScan, .tick]).folders.map (fun G => (G.visible, G.files.map (·.visible))) =
      [(.corrupt, [.corrupt, .none])] := by decide +kernel
/-- nothing but a scan moves a visible value: compromise, fix, corrupt, repair, restore, delete, power events, ticks
without a completing scan -/
example :
    let n := exNode.run [.sw false "dns" .fix, .file "d" "a" .repair, .folder "d" .corrupt, .fsDeleteFile "d" "a",
      .fsRestoreFile "d" "a", .folder "d" .restore, .tick, .tick, .tick, .shutdown, .tick, .tick, .startup, .tick, .tick]
    (n.sws.map (·.visible), n.folders.map (fun G => (G.visible, G.files.map (·.visible)))) =
      ([.unused, .unused], [(.none, [.none, .none])]) := by decide +kernel

/-- FIXING implies a countdown is present (`_update_fix_status` would raise `TypeError` on `None -= 1`). -/
def Sw.FixOk (x : Sw) : Prop := x.actual = .fixing → x.fixCd.isSome = true

theorem Sw.FixOk.of_rel {y x : Sw} (h : Sw.PowerRel y x) (hx : x.FixOk) : y.FixOk := by
  intro hy
  rcases h.actual with e | ⟨_, g⟩
  · rw [h.fixCd]; exact hx (e ▸ hy)
  · rw [g] at hy; cases hy

theorem Sw.tick_fixOk (x : Sw) (hx : x.FixOk) : x.tick.FixOk := by
  have h1 : x.fixTick.FixOk := by
    unfold Sw.fixTick
    split
    · unfold Sw.updateFix
      split
      · split
        · intro h; cases h
        · intro _; rfl
      · exact hx
    · exact hx
  exact x.fixTick.auxTick_cases (motive := Sw.FixOk) h1 (fun _ _ _ _ _ h => by cases h) (fun _ _ _ _ _ => h1) (fun _ _ => h1)

theorem Sw.handle_fixOk (x : Sw) (r : SwReq) (hx : x.FixOk) : (x.handle r).1.FixOk := by
  refine x.handle_cases (motive := Sw.FixOk) r hx (fun _ => hx) (fun _ => ?_) (fun _ h => by cases h) (fun _ _ => hx)
    (fun _ h => (Sw.FixOk.of_rel x.wake_rel hx : x.wake.FixOk) h) hx
  unfold Sw.fix
  split
  · intro _; rfl
  · exact hx

theorem swEff_fixOk (n : Node) (op : Op) (x : Sw) (hx : x.FixOk) : (swEff n op x).FixOk := by
  by_cases hop : op = .tick
  · subst hop
    exact tickEff_keeps (P := Sw.FixOk) n x (fun _ h => .of_rel h hx) (fun _ h => h) Sw.tick_fixOk
  · refine swEff_cases (motive := Sw.FixOk) n op x hop (fun _ => hx) (fun _ _ h => .of_rel h hx)
      (fun _ _ r _ _ _ => x.handle_fixOk r hx) ?_ ?_
    · intro h _ hh; cases h <;> cases hh
    · intro _; unfold Sw.install; split <;> exact hx

/-- **Invariant.** From any state in which every FIXING item has a countdown (in particular every state the rig
starts from), every reachable state has the property: the `none` branch of `Sw.updateFix` is never taken. -/
theorem C14_fixing_has_countdown (ops : List Op) : ∀ n : Node,
    (∀ x ∈ n.sws, x.FixOk) → ∀ x ∈ (n.run ops).sws, x.FixOk := by
  induction ops with
  | nil => intro n h; exact h
  | cons op ops ih =>
    intro n h
    apply ih (n.apply op)
    intro y hy
    rw [apply_sws, List.mem_map] at hy
    obtain ⟨x, hx, rfl⟩ := hy
    exact swEff_fixOk n op x (h x hx)

end Primaite.Health
