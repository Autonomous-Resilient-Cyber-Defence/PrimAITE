/-
C08, part 3 — software is handed a unicast frame only on the node that owns its destination address, in every run of the
forwarding model (`Model/Forward.lean`), and the ARP caches stay sound through every processing step; the hypotheses of the
latter as a decidable check (`goodCfgB`, `goodStateB`).
Invariant machinery: `Lemmas/ForwardInv.lean` (mutual induction over all fifteen functions of the interpreter).
-/
import PrimaiteModel.Lemmas.ForwardInv
namespace Primaite.Forward

/-- Misdelivery is impossible, UNCONDITIONALLY (no assumption on topology, routes, caches, MAC uniqueness or fuel):
every hand-over of a unicast frame (destination MAC not the broadcast address) to software
(`SoftwareManager.receive_payload_from_session_manager`) recorded during a `ping` — with all its nested ARP exchanges,
floods, router hops and replies — happens on a node that owns the frame's destination IP address.
(Hosts: repaired `NIC.receive_frame`; routers: `check_send_frame_to_session_manager`.) -/
theorem C08_unicast_only_addressee (fuel : Nat) (st : St) (n : Nat) (dst : Ip) (pings : Nat)
    (hlog : ∀ m fid ip, Ev.sw m fid ip false ∈ st.log → Owns (cfgOf st) m ip) (m fid : Nat) (ip : Ip)
    (hev : Ev.sw m fid ip false ∈ (ping fuel st n dst pings).1.log) : Owns (cfgOf st) m ip :=
  (G_ping (spec_true (cfgOf st)) fuel st n dst pings ⟨rfl, fun _ _ _ _ _ => trivial, hlog⟩).log m fid ip hev

/-- the same for the service exchange (`NTPClient.request_time` and the server's answer). -/
theorem C08_unicast_only_addressee_service (fuel : Nat) (st : St) (n : Nat) (server : Ip)
    (hlog : ∀ m fid ip, Ev.sw m fid ip false ∈ st.log → Owns (cfgOf st) m ip) (m fid : Nat) (ip : Ip)
    (hev : Ev.sw m fid ip false ∈ (requestService fuel st n server).1.log) : Owns (cfgOf st) m ip := by
  have hG : G (cfgOf st) (fun _ _ => True) st := ⟨rfl, fun _ _ _ _ _ => trivial, hlog⟩
  have h1 := hG.modOther n (fun nd => { nd with served := false }) (fun _ => rfl) (fun _ => rfl)
  have h2 := (gAt (spec_true (cfgOf st)) fuel).icmp _ n server .dataReq h1 trivial
  unfold requestService at hev
  simp only at hev
  split at hev
  · exact h1.log m fid ip hev
  · split at hev <;> exact h2.log m fid ip hev

/-- the same for ANY application exchange identified by its (port, protocol) key — DNS, database, HTTP, FTP …: the request, the
look-up of the receiving software (`SoftwareManager.receive_payload_from_session_manager`) on whichever node accepts the frame,
the answer sent back to the request's source, and every ARP exchange, flood and hop on the way: software is handed a unicast
frame only on a node that owns its destination address.  Unconditional. -/
theorem C08_unicast_only_addressee_app (fuel : Nat) (st : St) (n : Nat) (server : Ip) (svc : Nat) (reply : Bool)
    (hlog : ∀ m fid ip, Ev.sw m fid ip false ∈ st.log → Owns (cfgOf st) m ip) (m fid : Nat) (ip : Ip)
    (hev : Ev.sw m fid ip false ∈ (requestApp fuel st n server svc reply).1.log) : Owns (cfgOf st) m ip := by
  have hG : G (cfgOf st) (fun _ _ => True) st := ⟨rfl, fun _ _ _ _ _ => trivial, hlog⟩
  have h2 := (gAt (spec_true (cfgOf st)) fuel).icmp st n server (.appReq svc reply) hG trivial
  unfold requestApp at hev
  simp only at hev
  split at hev
  · exact hG.log m fid ip hev
  · split at hev <;> exact h2.log m fid ip hev

/-- … and the interpreter never changes the configuration (interfaces, addresses, gateways, routes), so "owns" means the
same before and after. -/
theorem C08_config_static (fuel : Nat) (st : St) (n : Nat) (dst : Ip) (pings : Nat)
    (hlog : ∀ m fid ip, Ev.sw m fid ip false ∈ st.log → Owns (cfgOf st) m ip) :
    cfgOf (ping fuel st n dst pings).1 = cfgOf st :=
  (Eff.ping fuel st n dst pings).cfg

/-- the same for a frame entering at any interface (the building block). -/
theorem C08_unicast_only_addressee_frame (fuel : Nat) (st : St) (n i : Nat) (f : Frame)
    (hlog : ∀ m fid ip, Ev.sw m fid ip false ∈ st.log → Owns (cfgOf st) m ip) (m fid : Nat) (ip : Ip)
    (hev : Ev.sw m fid ip false ∈ (sendFrame fuel st n i f).1.log) : Owns (cfgOf st) m ip :=
  ((gAt (spec_true (cfgOf st)) fuel).send st n i f ⟨rfl, fun _ _ _ _ _ => trivial, hlog⟩
    ⟨trivial, Or.inr (Or.inr trivial), by cases f.pl <;> simp [PlOk]⟩).1.log m fid ip hev

/-- The soundness of the ARP caches (DESIGN §5's `ArpSound`, here `G c (SoundPair c)`) is preserved by every processing step:
from a state whose caches are sound (every entry `ip ↦ mac` names an interface carrying `ip`, or a router interface — routers
and hosts learn `src_ip ↦ src_mac` from routed frames, so remote addresses map to the last router) and whose configuration is
good (unique, real MACs; gateways and route next hops are router addresses), a whole `ping` ends in a state with sound caches.
For every fuel, topology, source, destination and count. -/
theorem C08_arp_sound_preserved {c : List NodeCfg} (hg : GoodCfg c) (fuel : Nat) (st : St) (n : Nat) (dst : Ip) (pings : Nat)
    (hG : G c (SoundPair c) st) : G c (SoundPair c) (ping fuel st n dst pings).1 :=
  G_ping (spec_sound hg) fuel st n dst pings hG

/-- sound frames stay sound along their whole journey (source pair genuine or a router's, destination MAC that of the
destination's owner or of a router, ARP payload pairs genuine). -/
theorem C08_frames_stay_sound {c : List NodeCfg} (hg : GoodCfg c) (fuel : Nat) (st : St) (n i : Nat) (f : Frame)
    (hG : G c (SoundPair c) st) (hF : FrameOk (SoundPair c) f) :
    G c (SoundPair c) (sendFrame fuel st n i f).1 ∧ FrameOk (SoundPair c) (sendFrame fuel st n i f).2 :=
  (gAt (spec_sound hg) fuel).send st n i f hG hF

theorem G_cold (st : St) (harp : ∀ k nd, st.node? k = some nd → nd.arp = []) (hlog : st.log = []) :
    G (cfgOf st) (SoundPair (cfgOf st)) st := by
  refine ⟨rfl, ?_, ?_⟩
  · intro k nd e hk he; rw [harp k nd hk] at he; cases he
  · intro m fid ip h; rw [hlog] at h; cases h

def allIfaces (c : List NodeCfg) : List (Nat × Nat × Kind × Iface) :=
  c.zipIdx.flatMap (fun x => x.1.ifaces.zipIdx.map (fun y => (x.2, y.2, x.1.kind, y.1)))

theorem mem_allIfaces {c : List NodeCfg} {m j : Nat} {nc : NodeCfg} {b : Iface} (h1 : c[m]? = some nc)
    (h2 : nc.ifaces[j]? = some b) : (m, j, nc.kind, b) ∈ allIfaces c := by
  unfold allIfaces
  rw [List.mem_flatMap]
  refine ⟨(nc, m), List.mem_zipIdx_iff_getElem?.2 h1, ?_⟩
  rw [List.mem_map]
  exact ⟨(b, j), List.mem_zipIdx_iff_getElem?.2 h2, rfl⟩

def nextHops (nc : NodeCfg) : List Ip :=
  nc.gateway.toList ++ nc.routes.default.toList ++ nc.routes.routes.map (·.nextHop)

theorem mem_nextHops {nc : NodeCfg} {t : Ip} (h : IsNextHop nc t) : t ∈ nextHops nc := by
  unfold nextHops
  rcases h with h | h | ⟨r, hr, rfl⟩
  · simp [h]
  · simp [h]
  · simp only [List.mem_append, List.mem_map]; right; exact ⟨r, hr, rfl⟩

def goodCfgB (c : List NodeCfg) : Bool :=
  (allIfaces c).all (fun a => (allIfaces c).all (fun b => a.2.2.2.mac != b.2.2.2.mac || (a.1 == b.1 && a.2.1 == b.2.1))) &&
  (allIfaces c).all (fun a => a.2.2.2.mac != noMac) &&
  c.all (fun nc => (nextHops nc).all (fun t => (allIfaces c).all (fun b => b.2.2.2.ip != t || b.2.2.1 == .router)))

theorem goodCfg_of_check (c : List NodeCfg) (h : goodCfgB c = true) : GoodCfg c := by
  unfold goodCfgB at h
  simp only [Bool.and_eq_true, List.all_eq_true, Bool.or_eq_true, bne_iff_ne, ne_eq, beq_iff_eq] at h
  obtain ⟨⟨h1, h2⟩, h3⟩ := h
  constructor
  · intro n m i j nc mc a b hn ha hm hb hab
    have := h1 _ (mem_allIfaces hn ha) _ (mem_allIfaces hm hb)
    rcases this with h | h
    · exact absurd hab h
    · exact h
  · intro n i nc a hn ha
    exact h2 _ (mem_allIfaces hn ha)
  · intro n nc t hn ht m j mc b hm hb hbt
    have := h3 nc (List.mem_of_getElem? hn) t (mem_nextHops ht) _ (mem_allIfaces hm hb)
    rcases this with h | h
    · exact absurd hbt h
    · exact h

/-- cold caches, empty log, checked configuration: the hypotheses of the theorems, decidably (the driver's `goodstate`, evaluated on
every generated topology). -/
def goodStateB (st : St) : Bool := goodCfgB (cfgOf st) && st.nodes.all (fun nd => nd.arp.isEmpty) && st.log.isEmpty

/-- END-TO-END statement for checked start states: the caches are sound after a `ping` of any count from any node to any address. -/
theorem C08_arp_sound_checked (st : St) (h : goodStateB st = true) (fuel n : Nat) (dst : Ip) (pings : Nat)
    (k : Nat) (nd : Node) (e : ArpEntry) (hk : (ping fuel st n dst pings).1.node? k = some nd) (he : e ∈ nd.arp) :
    SoundPair (cfgOf st) e.ip e.mac := by
  unfold goodStateB at h
  simp only [Bool.and_eq_true, List.all_eq_true, List.isEmpty_iff] at h
  obtain ⟨⟨h1, h2⟩, h3⟩ := h
  refine (C08_arp_sound_preserved (goodCfg_of_check _ h1) fuel st n dst pings (G_cold st ?_ h3)).arp k nd e hk he
  intro k nd hk
  exact h2 nd (List.mem_of_getElem? hk)

/-- host — router — host, cold caches. -/
def exNet : St :=
  { nodes := [
      { kind := .host, gateway := some 0xC0A80101#32,
        ifaces := [{ mac := 1, ip := 0xC0A80102#32, plen := 24, enabled := true, peer := some (1, 0) }] },
      { kind := .router,
        ifaces := [{ mac := 2, ip := 0xC0A80101#32, plen := 24, enabled := true, peer := some (0, 0) },
                   { mac := 3, ip := 0xC0A80201#32, plen := 24, enabled := true, peer := some (2, 0) }] },
      { kind := .host, gateway := some 0xC0A80201#32,
        ifaces := [{ mac := 4, ip := 0xC0A80202#32, plen := 24, enabled := true, peer := some (1, 1) }] } ] }

example : goodStateB exNet = true := by decide
/-- the routed ping succeeds in the model and hands four frames to software (2 ARP exchanges aside): not vacuous. -/
example : (ping 60 exNet 0 0xC0A80202#32 1).2 = true := by decide +kernel
example : ((ping 60 exNet 0 0xC0A80202#32 1).1.log.filter (fun e => match e with | .sw _ _ _ false => true | _ => false)).length ≥ 2 := by
  decide +kernel

end Primaite.Forward
