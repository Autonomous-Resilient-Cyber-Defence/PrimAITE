/-
C17 — counter-model search for the translated `_process_sql` (NOT a proof; run by harness/props/c17.py with
`lake env lean`): the whole domain of the method as far as it reads the server - file (absent / GOOD / COMPROMISED / CORRUPT) x service
health (5) x query (6) = 120 cells - is evaluated on the translated function and on the model; a differing cell is printed.
When `C17_tr_process_sql` checks this prints `cells=120 differing=0`.
-/
import PrimaiteModel.Model.Database
import PrimaiteModel.Gen.DatabaseTr
open Primaite.Database Primaite.Gen

def c17SqlCells : List (Option FHealth × Health × Sql) :=
  ([none, some .good, some .compromised, some .corrupt] : List (Option FHealth)).flatMap fun f =>
  ([.unused, .good, .fixing, .compromised, .overwhelmed] : List Health).flatMap fun h =>
  ([.select, .delete, .encrypt, .insert, .pgstat, .other] : List Sql).map fun q => (f, h, q)

def c17SqlDiff : List String :=
  c17SqlCells.filterMap fun (f, h, q) =>
    let s : Server := { file := f, health := h }
    let t := DatabaseTr.processSql s q
    let m := processSql s q
    if (t.1, t.2.1) = m ∧ t.2.2 = (t.2.1 == 200) then none
    else some s!"counter-model file={repr f} health={repr h} query={repr q}: translated file={repr t.1.file} status={t.2.1} uuid={t.2.2}; model file={repr m.1.file} status={m.2}"

#eval do
  for l in c17SqlDiff do IO.println l
  IO.println s!"cells={c17SqlCells.length} differing={c17SqlDiff.length}"
