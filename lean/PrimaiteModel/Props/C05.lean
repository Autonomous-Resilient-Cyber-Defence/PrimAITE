/-
C05 — requests resolve to a documented status; refused requests change nothing; only a request that reaches its
handler can change state; a request naming existing components is never `unreachable`, and only the permission
rules on its own path can refuse it.
-/
import PrimaiteModel.Model.Request
import PrimaiteModel.Gen.RequestCore
namespace Primaite.Request

/-- status reported for a refusal built by the manager itself -/
def Outcome.refusalStatus : Outcome → Option Status
  | .unreachable _ => some .unreachable
  | .failure _ _ => some .failure
  | .reached _ _ => none

theorem Outcome.isReached_iff (o : Outcome) : o.isReached = true ↔ ∃ h a, o = .reached h a := by
  cases o <;> simp [Outcome.isReached]

theorem Outcome.isReached_eq_false_iff (o : Outcome) :
    o.isReached = false ↔ (∃ d, o = .unreachable d) ∨ ∃ d v, o = .failure d v := by
  cases o <;> simp [Outcome.isReached]

/-- Execution follows dispatch: a refused request leaves the state exactly as it was and is answered
`unreachable` / `failure` (never `success`); a reached request is exactly its handler's doing. Holds for every
tree, valuation, handler semantics, state and request. -/
theorem C05_exec_follows_dispatch {σ} (env : Env) (run : HId → List Key → σ → σ × Status)
    (kids : Kids) (p : List Key) (s : σ) (d : Nat) :
    execK env run kids p s =
      match dispatchK env kids p d with
      | .unreachable _ => (s, .unreachable)
      | .failure _ _ => (s, .failure)
      | .reached h args => run h args s := by
  -- `execK` branches as `dispatchK` does
  fun_induction dispatchK env kids p d <;> simp_all [execK]

/-- Refused requests change nothing and are never reported as success. -/
theorem C05_refused_changes_nothing {σ} (env : Env) (run : HId → List Key → σ → σ × Status)
    (kids : Kids) (p : List Key) (s : σ)
    (h : (dispatchK env kids p 0).isReached = false) :
    (execK env run kids p s).1 = s ∧
    ((execK env run kids p s).2 = .unreachable ∨ (execK env run kids p s).2 = .failure) := by
  rw [C05_exec_follows_dispatch env run kids p s 0]
  rcases (Outcome.isReached_eq_false_iff _).mp h with ⟨d, hd⟩ | ⟨d, v, hd⟩ <;> simp [hd]

/-- Only a request that reaches its handler can change state. -/
theorem C05_state_change_needs_handler {σ} (env : Env) (run : HId → List Key → σ → σ × Status)
    (kids : Kids) (p : List Key) (s : σ) (h : (execK env run kids p s).1 ≠ s) :
    ∃ hd args, dispatchK env kids p 0 = .reached hd args ∧ execK env run kids p s = run hd args s := by
  rw [C05_exec_follows_dispatch env run kids p s 0] at h ⊢
  cases hd : dispatchK env kids p 0 with
  | unreachable d => rw [hd] at h; simp at h
  | failure d v => rw [hd] at h; simp at h
  | reached hh a => exact ⟨hh, a, rfl, rfl⟩

theorem dispatchK_spec (env : Env) (kids : Kids) (p : List Key) (d : Nat) :
    match dispatchK env kids p d with
    | .reached _ _ => pathExistsK kids p = true ∧ (validatorsOnK kids p).all (fun va => env va.1 va.2) = true
    | .unreachable d' => pathExistsK kids p = false ∧ d ≤ d' ∧ d' ≤ d + p.length
    | .failure d' v => d ≤ d' ∧ d' < d + p.length ∧ ∃ args, (validatorsOnK kids p)[d' - d]? = some (v, args) ∧
        env v args = false ∧ ∀ j, j < d' - d → ∀ w a, (validatorsOnK kids p)[j]? = some (w, a) → env w a = true := by
  -- the branches of `dispatchK`: request exhausted; key missing; rule true at a handler; rule true at a sub-manager; rule false
  fun_induction dispatchK env kids p d with
  | case1 => simp [pathExistsK]
  | case2 kids k rest d hl => simp [pathExistsK, hl]
  | case3 kids k rest d w hv h hl => simp [pathExistsK, validatorsOnK, hl, hv]
  | case4 kids k rest d w hv kids' hl ih =>
    simp only [pathExistsK, validatorsOnK, hl, List.length_cons, List.all_cons, hv, Bool.true_and]
    split at ih
    · exact ih
    · exact ⟨ih.1, by omega, by omega⟩
    · rename_i d' v _
      obtain ⟨hle, hlt, args, hget, hfalse, hbefore⟩ := ih
      have hd' : d' - d = (d' - (d + 1)) + 1 := by omega
      refine ⟨by omega, by omega, args, by simpa [hd'] using hget, hfalse, ?_⟩
      intro j hj w' a' hj'
      cases j with
      | zero => simp at hj'; obtain ⟨rfl, rfl⟩ := hj'; exact hv
      | succ j => exact hbefore j (by omega) w' a' (by simpa using hj')
  | case5 kids k rest d w sub hl hv => cases sub <;> simp [validatorsOnK, hl, hv]

/-- A request whose path names existing components down to a handler is never `unreachable`. -/
theorem C05_existing_target_never_unreachable (env : Env) (kids : Kids) (p : List Key) (d : Nat)
    (h : pathExistsK kids p = true) : ∀ d', dispatchK env kids p d ≠ .unreachable d' := by
  intro d' hd
  have := dispatchK_spec env kids p d
  simp only [hd, h] at this
  exact absurd this.1 (by decide)

/-- If every permission rule on the path holds and the target exists, the handler is reached (so for an action whose
parameters name existing components, only the rules on its own route can stand between it and its operation). -/
theorem C05_reaches_iff (env : Env) (kids : Kids) (p : List Key) (d : Nat) :
    (dispatchK env kids p d).isReached =
      (pathExistsK kids p && (validatorsOnK kids p).all (fun va => env va.1 va.2)) := by
  have := dispatchK_spec env kids p d
  cases hd : dispatchK env kids p d with
  | reached h a => simp only [hd] at this; simp [Outcome.isReached, this]
  | unreachable d' => simp only [hd] at this; simp [Outcome.isReached, this.1]
  | failure d' v =>
    simp only [hd] at this
    obtain ⟨_, _, args, hget, hfalse, _⟩ := this
    have : (validatorsOnK kids p).all (fun va => env va.1 va.2) = false :=
      List.all_eq_false.mpr ⟨_, List.mem_of_getElem? hget, by simp [hfalse]⟩
    simp [Outcome.isReached, this]

/-- ... and conversely a path that runs off the tree is `unreachable` or was refused earlier by a rule on it. -/
theorem C05_missing_target_not_reached (env : Env) (kids : Kids) (p : List Key) (d : Nat)
    (h : pathExistsK kids p = false) : (dispatchK env kids p d).isReached = false := by
  rw [C05_reaches_iff, h]; rfl

/-- A `failure` names a permission rule that lies on the request's own path (at the reported depth) and is false
for the options it was given; every rule before it on the path holds. No other rule can refuse the request. -/
theorem C05_failure_is_own_rule (env : Env) (kids : Kids) (p : List Key) (d d' : Nat) (v : VId)
    (h : dispatchK env kids p d = .failure d' v) :
    d ≤ d' ∧ ∃ args, (validatorsOnK kids p)[d' - d]? = some (v, args) ∧ env v args = false ∧
      ∀ j, j < d' - d → ∀ w a, (validatorsOnK kids p)[j]? = some (w, a) → env w a = true := by
  have := dispatchK_spec env kids p d
  simp only [h] at this
  exact ⟨this.1, this.2.2⟩

def exKids : Kids :=
  [("network", 0, .node [("node", 0, .node [("pc", 0, .node
      [("shutdown", 1, .leaf 10), ("service", 1, .node [("dns", 0, .node [("stop", 2, .leaf 20)])])])])])]
def envOn : Env := fun _ _ => true
def envOff : Env := fun v _ => v != 1

example : dispatchK envOn exKids ["network", "node", "pc", "service", "dns", "stop"] 0 = .reached 20 [] := by decide +kernel
example : dispatchK envOff exKids ["network", "node", "pc", "service", "dns", "stop"] 0 = .failure 3 1 := by decide +kernel
example : dispatchK envOn exKids ["network", "node", "pcx", "shutdown"] 0 = .unreachable 2 := by decide +kernel
example : dispatchK envOn exKids ["network", "node", "pc"] 0 = .unreachable 3 := by decide +kernel
example : pathExistsK exKids ["network", "node", "pc", "service", "dns", "stop"] = true := by decide +kernel

open Primaite.Gen.RequestCore in
/-- The statements of `__call__` are, in order, the ones `dispatchK`/`execK` model: exhausted request → unreachable,
split, missing key → unreachable, look up, validator false → failure, else invoke handler or sub-manager. -/
theorem C05_gen_call_shape :
    callSteps = [.ifEmpty_unreachable, .takeKey, .takeOptions, .ifMissing_unreachable, .lookup,
                 .ifValidatorFalse_failure, .ifManager_invoke, .invokeLeaf_optionsError_failure] := by decide

open Primaite.Gen.RequestCore in
/-- Totality of the key test: an element that cannot be a dictionary key (a list or dict in a key position) is answered
`unreachable` / `False` like any other unknown name — in the model it simply is a key no manager has (`lookup` is total);
in the code the membership test is guarded by `_is_hashable`, in `__call__` and in `check_valid`. -/
theorem C05_gen_total_on_unhashable : callTotalOnUnhashable = true ∧ checkValidTotalOnUnhashable = true := by decide

/-- The model's dispatch is total: EVERY request (any length, any elements — the wire form keeps the Python type of an
element, so `1`, `"1"`, `None`, a list or a dict are different keys) resolves to one of the three outcomes. -/
theorem C05_dispatch_total (env : Env) (kids : Kids) (p : List Key) (d : Nat) :
    (∃ d', dispatchK env kids p d = .unreachable d') ∨ (∃ d' v, dispatchK env kids p d = .failure d' v) ∨
    (∃ h a, dispatchK env kids p d = .reached h a) := by
  cases h : dispatchK env kids p d with
  | unreachable d' => exact Or.inl ⟨d', rfl⟩
  | failure d' v => exact Or.inr (Or.inl ⟨d', v, rfl⟩)
  | reached hh a => exact Or.inr (Or.inr ⟨hh, a, rfl⟩)

theorem C05_unknown_or_empty_unreachable (env : Env) (kids : Kids) (d : Nat) :
    dispatchK env kids [] d = .unreachable d ∧
    ∀ k rest, lookup k kids = none → dispatchK env kids (k :: rest) d = .unreachable d := by
  refine ⟨by simp [dispatchK], ?_⟩
  intro k rest h
  simp [dispatchK, h]

/-- the depth reported by a refusal never exceeds the length of the request: an over-long request is cut at the handler
(its surplus elements are the handler's options), a short one ends `unreachable` at its own length -/
theorem C05_depth_bounded (env : Env) (kids : Kids) (p : List Key) (d : Nat) :
    (∀ d', dispatchK env kids p d = .unreachable d' → d ≤ d' ∧ d' ≤ d + p.length) ∧
    (∀ d' v, dispatchK env kids p d = .failure d' v → d ≤ d' ∧ d' < d + p.length) := by
  have := dispatchK_spec env kids p d
  constructor
  · intro d' hd; simp only [hd] at this; exact this.2
  · intro d' v hd; simp only [hd] at this; exact ⟨this.1, this.2.1⟩

example : dispatchK envOn exKids ["network", "o:%5B%22x%22%5D", "pc"] 0 = .unreachable 1 := by decide +kernel
example : dispatchK envOn exKids [] 0 = .unreachable 0 := by decide +kernel
example : dispatchK envOn exKids ["network", "node", "pc", "shutdown", "a", "b", "c", "d"] 0 = .reached 10 ["a", "b", "c", "d"] := by
  decide +kernel

/-! ### "every request is answered" with handlers AS THEY ARE (finding F-C05-2, repaired)

In the theorems above a handler is a total function (`run`).  The code's handlers read their options by position and 30 of
them read options the request may not carry.  Since the repair a leaf handler is handed the options as `_RequestOptions`, a
list whose out-of-range read raises `RequestOptionsError`, and `__call__` answers exactly that exception with `failure`
(`C05_gen_missing_options_answered` ties both to the source).  Model: a handler returns the state it reached and either a status or
`optionsError` (it read a missing option at that point). -/

inductive HResult where
  | answered (st : Status)
  | optionsError
deriving DecidableEq, Repr

/-- what `__call__` makes of a leaf handler's result -/
def answer {σ} : σ × HResult → σ × Status
  | (s, .answered st) => (s, st)
  | (s, .optionsError) => (s, .failure)

/-- execution as repaired: total — every request is answered with a status -/
def execRK {σ} (env : Env) (run : HId → List Key → σ → σ × HResult) : Kids → List Key → σ → σ × Status
  | _, [], s => (s, .unreachable)
  | kids, k :: rest, s =>
    match lookup k kids with
    | none => (s, .unreachable)
    | some (v, sub) =>
      if env v rest then
        match sub with
        | .leaf h => answer (run h rest s)
        | .node kids' => execRK env run kids' rest s
      else (s, .failure)

/-- execution BEFORE the repair (kept to document why it was needed): the handler's options error escapes `apply_request` -/
def execUnrepairedK {σ} (env : Env) (run : HId → List Key → σ → σ × HResult) : Kids → List Key → σ → Option (σ × Status)
  | _, [], s => some (s, .unreachable)
  | kids, k :: rest, s =>
    match lookup k kids with
    | none => some (s, .unreachable)
    | some (v, sub) =>
      if env v rest then
        match sub with
        | .leaf h => match run h rest s with
          | (s', .answered st) => some (s', st)
          | (_, .optionsError) => none
        | .node kids' => execUnrepairedK env run kids' rest s
      else some (s, .failure)

/-- FULL: every request submitted is answered with a status, for every tree, rules, handlers (including handlers that read
options the request does not carry), state and request: a refusal leaves the state as it was and is `unreachable` / `failure`;
a reached handler's answer is passed on; a reached handler that reads a missing option is answered `failure` (with the state
the handler had reached — it is a handler failure, not a refusal). -/
theorem C05_FullAnswered {σ} (env : Env) (run : HId → List Key → σ → σ × HResult) (kids : Kids) (p : List Key) (s : σ)
    (d : Nat) :
    execRK env run kids p s =
      match dispatchK env kids p d with
      | .unreachable _ => (s, .unreachable)
      | .failure _ _ => (s, .failure)
      | .reached h args => answer (run h args s) := by
  fun_induction dispatchK env kids p d <;> simp_all [execRK]

/-- the repair changes nothing where the unrepaired code answered, and answers `failure` exactly where it raised -/
theorem C05_repair_answers_what_raised {σ} (env : Env) (run : HId → List Key → σ → σ × HResult) (kids : Kids)
    (p : List Key) (s : σ) :
    (∀ r, execUnrepairedK env run kids p s = some r → execRK env run kids p s = r) ∧
    (execUnrepairedK env run kids p s = none → (execRK env run kids p s).2 = .failure) := by
  -- below a sub-manager both go on alike; every other branch answers on the spot
  fun_induction execUnrepairedK env run kids p s with
  | case5 kids k rest s v hv kids' hl ih => simpa [execRK, hl, hv] using ih
  | _ => simp_all [execRK, answer]

/-- why the repair was needed (the witness kept in corpus/C05: `…/service/user-manager/add_user` without options) -/
theorem C05_unrepaired_raises : ∃ (run : HId → List Key → Unit → Unit × HResult),
    execUnrepairedK (fun _ _ => true) run [("add_user", 0, .leaf 7)] ["add_user"] () = none ∧
    execRK (fun _ _ => true) run [("add_user", 0, .leaf 7)] ["add_user"] () = ((), .failure) :=
  ⟨fun _ args s => if args.length < 1 then (s, .optionsError) else (s, .answered .success), by decide, by decide⟩

open Primaite.Gen.RequestCore in
/-- (Gen) `__call__` hands a LEAF handler `_RequestOptions(request_options)` inside `try … except RequestOptionsError` →
`failure`; sub-managers are invoked with the plain list; `_RequestOptions` is `list` with only `__getitem__` overridden
(out-of-range → `RequestOptionsError`, a subclass of `IndexError`). -/
theorem C05_gen_missing_options_answered : leafAnswersMissingOptions = true := by decide

open Primaite.Gen.RequestCore in
/-- (Gen) no request handler of the simulator copies or slices its options into a plain sequence before reading them
(`list(request)`, `tuple(request)`, `request[a:b]`, `[*request]`, `request + …`, `copy`): the options VIEW handed to a handler
is what the handler reads, so `C05_FullAnswered`'s `optionsError` case is the only way a missing option surfaces. -/
theorem C05_gen_no_options_view_bypass : optionViewBypasses = [] := by decide
end Primaite.Request
