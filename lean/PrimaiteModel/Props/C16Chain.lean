/-
C16 — closed forms over the whole nesting of terminal commands (the companions of `FileChain` / `C16_command_runs_only_live_closed`):

* `LoginChain`, `C16_remote_session_only_by_valid_login_closed`: a remote session that a node did not list before an operation was
  created by a login with valid credentials under the limit — sent directly, or carried through a chain of accepted terminal
  commands, every hop of which ran on a live session / with valid local credentials.
* `ClockChain`, `C16_clock_moved_closed`: if the inactivity clock of session `i` of node `y` was moved by an operation, then a remote
  command was accepted ON THAT VERY SESSION — by the operation itself or by a command nested inside it, each enclosing hop accepted
  too — and the clock now reads the current step.  This is "exactly which clock moved" as one statement.
-/
import PrimaiteModel.Props.C16Timeout
namespace Primaite.Session

/-! ### helpers: the bookkeeping of an accepted command leaves the session lists alone -/

theorem touch_node_ids (n : Net) (z cid t y : Nat) (b : Node) (hb : n.node y = some b) :
    ∃ b1, (n.upd z (Node.touch cid t)).node y = some b1 ∧ b1.rem.map (·.id) = b.rem.map (·.id) ∧
      (∀ s ∈ b.rem, (z ≠ y ∨ s.id ≠ cid) → s ∈ b1.rem) := by
  by_cases hz : z = y
  · subst hz
    refine ⟨b.touch cid t, by simp [hb], touch_ids b cid t, fun s hs h => ?_⟩
    rcases h with h | h
    · exact (h rfl).elim
    · exact (touch_exactly b cid t).1 s hs h
  · exact ⟨b, by simp [hz, hb], rfl, fun s hs _ => hs⟩

/-- remote sessions untouched -/
def KeepRem : Nat → Node → Node → Prop := fun _ a b => b.rem = a.rem

theorem keepRem_pre : Pre KeepRem := { refl := fun _ _ => rfl, trans := fun _ _ _ _ h1 h2 => h2.trans h1 }

theorem localBook_keepRem (n : Net) (x : Nat) (u p : String) (id : Nat) :
    Net.Rel KeepRem n ((localLogin n x u p).1.upd x (Node.addConn ⟨id, none⟩)) :=
  keepRem_pre.rel_upd (keepRem_pre.localLogin n x u p (fun _ _ => rfl)) x _ (fun _ => rfl)

theorem fresh_touch {n : Net} (hf : FreshIds n) (z cid t : Nat) : FreshIds (n.upd z (Node.touch cid t)) :=
  fresh_of_remShrink (remShrink_frame.rel_upd (remShrink_frame.rel_refl n) z _ (fun a => remShrink_edits.touch z a cid t))
    (Nat.le_refl _) hf

theorem fresh_localBook {n : Net} (hf : FreshIds n) (x : Nat) (u p : String) (id : Nat) :
    FreshIds ((localLogin n x u p).1.upd x (Node.addConn ⟨id, none⟩)) := by
  refine fresh_of_remShrink ?_ (keeps_localLogin n x u p).nextId hf
  exact (localBook_keepRem n x u p id).mono (fun _ a b h => by unfold RemShrink; rw [h]; exact List.Sublist.refl _)

/-! ### sessions appear only by a valid login: closed form -/

/-- "Operation `op`, started in state `n`, makes node `y` list the new remote session `s`": a remote login towards `y` (sender ON,
request direction open, existing enabled account and its current password on `y`, `y` ON with both managers RUNNING, fewer than
`max_remote_sessions` sessions) whose session is `s`; or the direct `user-session-manager remote_login` request under the same
conditions on `y`; or an accepted remote / local terminal command whose carried command is again such a chain. -/
inductive LoginChain : Net → Op → Nat → RSession → Prop
  | login (n : Net) (x y : Nat) (u p : String) (b c : Node) (hb : n.node y = some b) (hauth : AuthOK b u p)
      (hlt : b.rem.length < b.maxRemote) (hpath : canDeliver n x y = true) (hx : n.node x = some c) (hon : c.isOn = true) :
      LoginChain n (.req x (.remoteLogin y u p)) y ⟨n.nextId, u, n.time, x⟩
  | direct (n : Net) (y : Nat) (u p : String) (peer : Nat) (b : Node) (hb : n.node y = some b) (hauth : AuthOK b u p)
      (hlt : b.rem.length < b.maxRemote) : LoginChain n (.req y (.usmLogin u p peer)) y ⟨n.nextId, u, n.time, peer⟩
  | remote (n : Net) (x z : Nat) (c : Cmd) (a' b' : Node) (cn : Conn) (y : Nat) (s : RSession) (arr : CmdArrives n x z a' b' cn)
      (hs : b'.hasSession cn.id = true) (hc : b'.hasConn cn.id = true)
      (rest : LoginChain (n.upd z (Node.touch cn.id n.time)) (.req z c) y s) : LoginChain n (.req x (.remoteCmd z c)) y s
  | local (n : Net) (x : Nat) (u p : String) (c : Cmd) (nd : Node) (id : Nat) (y : Nat) (s : RSession) (hnd : n.node x = some nd)
      (hon : nd.isOn = true) (hok : nd.loginOk u p = true) (hrun : nd.term.running = true)
      (hid : (localLogin n x u p).2 = some id)
      (rest : LoginChain ((localLogin n x u p).1.upd x (Node.addConn ⟨id, none⟩)) (.req x c) y s) :
      LoginChain n (.req x (.localCmd u p c)) y s

/-- **C16, logins (remote), closed form over the whole nesting.** If after any operation node `y` lists a remote session whose id
it did not list before, the operation is a `LoginChain` for that session: a login with the current password of an existing, enabled
account of `y`, under the limit, `y` ON with both managers RUNNING — and every terminal hop it travelled through was accepted on a
live session (or with valid local credentials).  No depth bound. -/
theorem C16_remote_session_only_by_valid_login_closed (n : Net) (op : Op) (y : Nat) (b a : Node) (hb : n.node y = some b)
    (ha : (step n op).1.node y = some a) (s : RSession) (hs : s ∈ a.rem) (hnew : s.id ∉ b.rem.map (·.id)) :
    LoginChain n op y s := by
  -- along the chain the session ids of `y` are those of `b`, and the state at the end is the one `a` is taken from
  refine carried_induction (fun n op => ∃ b', n.node y = some b' ∧ b'.rem.map (·.id) = b.rem.map (·.id) ∧ (step n op).1.node y = some a)
    (fun n op => LoginChain n op y s) ?_ ?_ ?_ n op ⟨b, hb, rfl, ha⟩
  · rintro n op ⟨b', hb', hids, ha'⟩
    rcases C16_remote_session_only_by_valid_login n op y b' a hb' ha' s hs (by rw [hids]; exact hnew) with
      ⟨x, u, p, rfl, hauth, hlt, hpath, ⟨c, hc, hon⟩, rfl, _⟩ | ⟨u, p, peer, rfl, hauth, hlt, rfl, _⟩ | h
    · exact Or.inl (LoginChain.login n x y u p b' c hb' hauth hlt hpath hc hon)
    · exact Or.inl (LoginChain.direct n y u p peer b' hb' hauth hlt)
    · exact Or.inr h
  · rintro n x z c a' b'' cn arr hs' hc heq ⟨b', hb', hids, ha'⟩ ih
    obtain ⟨b1, hb1, hids1, _⟩ := touch_node_ids n z cn.id n.time y b' hb'
    exact LoginChain.remote n x z c a' b'' cn y s arr hs' hc (ih ⟨b1, hb1, hids1.trans hids, heq ▸ ha'⟩)
  · rintro n x u p c nd id hnd hon hok hrun hid heq ⟨b', hb', hids, ha'⟩ ih
    obtain ⟨b1, hb1, hrem⟩ := (localBook_keepRem n x u p id).node y b' hb'
    exact LoginChain.local n x u p c nd id y s hnd hon hok hrun hid (ih ⟨b1, hb1, by rw [hrem, hids], heq ▸ ha'⟩)

/-! ### exactly which clock moved: closed form -/

/-- "Operation `op`, started in state `n`, sets the inactivity clock of session `i` of node `y`": a remote command towards `y` that
arrived on a connection with id `i`, `i` being at that moment a remote session and a connection of `y` (`here`: this hop is the
activity of session `i`); or an accepted remote / local command (on whatever session) whose carried command is again such a chain. -/
inductive ClockChain : Net → Op → Nat → Nat → Prop
  | here (n : Net) (x y : Nat) (c : Cmd) (a' b' : Node) (cn : Conn) (arr : CmdArrives n x y a' b' cn)
      (hs : b'.hasSession cn.id = true) (hc : b'.hasConn cn.id = true) : ClockChain n (.req x (.remoteCmd y c)) y cn.id
  | remote (n : Net) (x z : Nat) (c : Cmd) (a' b' : Node) (cn : Conn) (y i : Nat) (arr : CmdArrives n x z a' b' cn)
      (hs : b'.hasSession cn.id = true) (hc : b'.hasConn cn.id = true)
      (rest : ClockChain (n.upd z (Node.touch cn.id n.time)) (.req z c) y i) : ClockChain n (.req x (.remoteCmd z c)) y i
  | local (n : Net) (x : Nat) (u p : String) (c : Cmd) (nd : Node) (id : Nat) (y i : Nat) (hnd : n.node x = some nd)
      (hon : nd.isOn = true) (hok : nd.loginOk u p = true) (hrun : nd.term.running = true)
      (hid : (localLogin n x u p).2 = some id)
      (rest : ClockChain ((localLogin n x u p).1.upd x (Node.addConn ⟨id, none⟩)) (.req x c) y i) :
      ClockChain n (.req x (.localCmd u p c)) y i

/-- **C16, clock (exactly which clock moved), closed form over the whole nesting.** In a state with unique session ids: if after an
operation node `y` lists a session with the id of a session `s` it listed before but not the identical record, then somewhere in
the operation — at its top or nested inside accepted terminal commands — a remote command towards `y` was accepted on the connection
whose id is `s.id`, i.e. on THAT session (`ClockChain … y s.id`), and the session's clock now reads the current step.  A command
accepted on another session, on another node, or a refused one never moves this clock. -/
theorem C16_clock_moved_closed (n : Net) (hf : FreshIds n) (op : Op) (y : Nat) (b a : Node) (hb : n.node y = some b)
    (ha : (step n op).1.node y = some a) (s s' : RSession) (hs : s ∈ b.rem) (hs' : s' ∈ a.rem) (hid : s'.id = s.id)
    (hne : s' ≠ s) : ClockChain n op y s.id ∧ s'.last = n.time := by
  constructor
  · -- along the chain ids stay unique, `y` lists `s`, and the state at the end is the one `a` is taken from
    refine carried_induction (fun n op => FreshIds n ∧ ∃ b', n.node y = some b' ∧ s ∈ b'.rem ∧ (step n op).1.node y = some a)
      (fun n op => ClockChain n op y s.id) ?_ ?_ ?_ n op ⟨hf, b, hb, hs, ha⟩
    · rintro n op ⟨hf, b', hb', hs1, ha'⟩
      exact Or.inr (C16_clock_moves_only_by_accepted_command n hf op y b' a hb' ha' s s' hs1 hs' hid hne)
    · rintro n x z c a' b'' cn arr hss hc heq ⟨hf, b', hb', hs1, ha'⟩ ih
      by_cases hhere : z = y ∧ cn.id = s.id
      · obtain ⟨rfl, hcn⟩ := hhere
        rw [← hcn]
        exact ClockChain.here n x z c a' b'' cn arr hss hc
      · obtain ⟨b1, hb1, _, hkeep⟩ := touch_node_ids n z cn.id n.time y b' hb'
        have hs2 : s ∈ b1.rem := hkeep s hs1 (by
          by_cases hz : z = y
          · exact Or.inr (fun h => hhere ⟨hz, h.symm⟩)
          · exact Or.inl hz)
        exact ClockChain.remote n x z c a' b'' cn y s.id arr hss hc (ih ⟨fresh_touch hf z cn.id n.time, b1, hb1, hs2, heq ▸ ha'⟩)
    · rintro n x u p c nd id hnd hon hok hrun hidl heq ⟨hf, b', hb', hs1, ha'⟩ ih
      obtain ⟨b1, hb1, hrem⟩ := (localBook_keepRem n x u p id).node y b' hb'
      exact ClockChain.local n x u p c nd id y s.id hnd hon hok hrun hidl
        (ih ⟨fresh_localBook hf x u p id, b1, hb1, by rw [hrem]; exact hs1, heq ▸ ha'⟩)
  · rcases ((C16_clock_step n op).of_nodes hb ha).rem s' hs' with h | h
    · exact (hne (eq_of_nodup_map (·.id) (hf y b hb).2 h hs hid)).elim
    · exact h

/-! ### non-vacuity -/

-- a nested command: 0 → 1 → 2.  The outer hop moves the clock of session 0 on node 1, the inner one that of session 1 on node 2
example : ((run demoNet [login01, cmd01 (.remoteLogin 2 "admin" "admin"), .tick]).node 1).map (·.rem.map (·.last)) = some [0] ∧
    ((run demoNet [login01, cmd01 (.remoteLogin 2 "admin" "admin"), .tick, cmd01 (.remoteCmd 2 (.file 9))]).node 1).map
      (·.rem.map (·.last)) = some [1] ∧
    ((run demoNet [login01, cmd01 (.remoteLogin 2 "admin" "admin"), .tick, cmd01 (.remoteCmd 2 (.file 9))]).node 2).map
      (·.rem.map (·.last)) = some [1] := by decide
-- a login carried through an accepted command creates the session on node 2 (hypotheses of the closed login form)
example : ((run demoNet [login01]).node 2).map (·.rem.length) = some 0 ∧
    ((run demoNet [login01, cmd01 (.remoteLogin 2 "admin" "admin")]).node 2).map (·.rem.length) = some 1 := by decide

end Primaite.Session
