/-
C05 (dynamic part) — the tree edits performed as components come and go (`add_request` / `remove_request` at the dynamic
managers: install / uninstall of software, connect / disconnect of NICs, create / restore of folders and files, add / remove
of nodes) KEEP the instance relation `Inst` between the live tree and the schema for the edited inventory, add / remove
exactly the sub-tree of the component, and leave no dangling route.

General theorems (every schema, inventory, live tree): `Inst_frame`, `Inst_dynamic_add`, `Inst_dynamic_remove`,
`Inst_static_edit`, `C05_add_component_keeps_inst`, `C05_remove_component_keeps_inst`, `C05_edit_is_local`,
`C05_removed_route_unreachable`, `C05_deep_edit_keeps_inst`, `C05_any_path_edit_keeps_inst`.  Table theorems over the
regenerated schema: `C05_gen_global_frame` (the side condition of the composite theorems holds at every static manager, hence
at every dynamic site) and `C05_gen_dynamic_sites` (every `add_request` site has its `remove_request` site or an existence guard).
-/
import PrimaiteModel.Props.C05Schema
namespace Primaite.Schema
open Primaite.Request
open Primaite.Gen.RequestSchema (schema)

theorem lookup_addKey_same (k : Key) (v : VId) (t : Tree) (kids : Kids) : lookup k (addKey k v t kids) = some (v, t) := by
  fun_induction addKey k v t kids <;> simp_all [lookup]

theorem lookup_addKey_other {k k2 : Key} (h : k2 ≠ k) (v : VId) (t : Tree) (kids : Kids) :
    lookup k2 (addKey k v t kids) = lookup k2 kids := by
  fun_induction addKey k v t kids <;> simp_all [lookup]

theorem lookup_removeKey_same (k : Key) (kids : Kids) : lookup k (removeKey k kids) = none := by
  fun_induction removeKey k kids <;> simp_all [lookup]

theorem lookup_removeKey_other {k k2 : Key} (h : k2 ≠ k) (kids : Kids) :
    lookup k2 (removeKey k kids) = lookup k2 kids := by
  fun_induction removeKey k kids <;> simp_all [lookup]

theorem atKey_eq_addKey {k : Key} {kids : Kids} {v : VId} {sub : Kids} (f : Kids → Kids)
    (h : lookup k kids = some (v, .node sub)) : atKey k f kids = addKey k v (.node (f sub)) kids := by
  fun_induction atKey k f kids <;> simp_all [lookup, addKey]

theorem findChild_addChildL_same (lv : Level) (k : Key) (c : String) (i : Inv) (cs : List (Level × Key × String × Inv)) :
    findChild lv k (addChildL lv k c i cs) = some (c, i) := by
  fun_induction addChildL lv k c i cs <;> simp_all [findChild]

theorem findChild_addChildL_other {lv lv2 : Level} {k k2 : Key} (h : ¬ (lv2 = lv ∧ k2 = k)) (c : String) (i : Inv)
    (cs : List (Level × Key × String × Inv)) : findChild lv2 k2 (addChildL lv k c i cs) = findChild lv2 k2 cs := by
  fun_induction addChildL lv k c i cs <;> simp_all [findChild, -not_and]

theorem findChild_removeChildL_same (lv : Level) (k : Key) (cs : List (Level × Key × String × Inv)) :
    findChild lv k (removeChildL lv k cs) = none := by
  fun_induction removeChildL lv k cs <;> simp_all [findChild]

theorem findChild_removeChildL_other {lv lv2 : Level} {k k2 : Key} (h : ¬ (lv2 = lv ∧ k2 = k))
    (cs : List (Level × Key × String × Inv)) : findChild lv2 k2 (removeChildL lv k cs) = findChild lv2 k2 cs := by
  fun_induction removeChildL lv k cs <;> simp_all [findChild]

theorem findChild_addChild_level {lv lv' : Level} (h : lv' ≠ lv) (inv : Inv) (k k' : Key) (c : String) (i : Inv) :
    findChild lv' k' (inv.addChild lv k c i).children = findChild lv' k' inv.children :=
  findChild_addChildL_other (fun hh => h hh.1) _ _ _

theorem findChild_removeChild_level {lv lv' : Level} (h : lv' ≠ lv) (inv : Inv) (k k' : Key) :
    findChild lv' k' (inv.removeChild lv k).children = findChild lv' k' inv.children :=
  findChild_removeChildL_other (fun hh => h hh.1) _

theorem seesB_of_sees (S : Schema) {m : String} {lv : Level} (h : Sees S m lv) : ∀ fuel, seesB S fuel m lv = true := by
  induction h with
  | @here m lv ty vs hm =>
    intro fuel
    cases fuel with
    | zero => rfl
    | succ n => simp [seesB, hm]
  | @step m m' lv edges k vs hm hk _ ih =>
    intro fuel
    cases fuel with
    | zero => rfl
    | succ n =>
      simp only [seesB, hm, List.any_eq_true]
      exact ⟨_, lookupE_mem hk, by simpa using ih n⟩

theorem not_sees_of_seesB_false (S : Schema) : ∀ (fuel : Nat) (m : String) (lv : Level),
    seesB S fuel m lv = false → ¬ Sees S m lv :=
  fun fuel _ _ h hs => by rw [seesB_of_sees S hs fuel] at h; cases h

theorem ne_of_blind {S : Schema} {fuel : Nat} {m : String} {lv lv' : Level} (hb : seesB S fuel m lv = false)
    (hs : Sees S m lv') : lv' ≠ lv :=
  fun he => not_sees_of_seesB_false S fuel m lv hb (he ▸ hs)

/-- FRAME: an instance depends only on the inventory entries of the levels its manager can see. -/
theorem Inst_frame (S : Schema) (vn : VId → Validator) {m : String} {inv : Inv} {kids : Kids}
    (h : Inst S vn m inv kids) : ∀ inv₂ : Inv,
    (∀ lv', Sees S m lv' → ∀ k', findChild lv' k' inv₂.children = findChild lv' k' inv.children) →
    Inst S vn m inv₂ kids := by
  induction h with
  | @static m inv kids edges hm hleaf hsub hrec ih =>
    intro inv₂ hsame
    refine Inst.static hm hleaf hsub ?_
    intro k vs m' v kids' hk hl
    exact ih k vs m' v kids' hk hl inv₂ (fun lv' hs k' => hsame lv' (Sees.step hm hk hs) k')
  | @dynamic m inv kids lv ty vs hm hkey hrec ih =>
    intro inv₂ hsame
    have hfc : ∀ k', findChild lv k' inv₂.children = findChild lv k' inv.children := hsame lv (Sees.here hm)
    refine Inst.dynamic hm ?_ ?_
    · intro k c inv' hf; rw [hfc] at hf; exact hkey k c inv' hf
    · intro k c inv' v kids' hf hl; rw [hfc] at hf; exact hrec k c inv' v kids' hf hl

/-- `add_request(k, RequestType(func=component._request_manager))` at a dynamic manager, the component (an instance of its
class's root manager) entering the inventory: still an instance. Overwriting a namesake is covered (F-22 / F-38 shape). -/
theorem Inst_dynamic_add (S : Schema) (vn : VId → Validator) {m : String} {inv : Inv} {kids : Kids}
    {lv : Level} {ty : KeyTy} {vs : Validator} (hm : S.mgr m = some (.dynamic lv ty vs)) (h : Inst S vn m inv kids)
    (k : Key) (c : String) (inv' : Inv) (v : VId) (kids' : Kids) (hv : vn v = vs) (hc : Inst S vn c inv' kids') :
    Inst S vn m (inv.addChild lv k c inv') (addKey k v (.node kids') kids) := by
  rw [Inst.dynamic_iff hm] at h ⊢
  intro k2 c2 inv2 hf
  by_cases hk : k2 = k
  · subst hk
    simp only [Inv.addChild, Inv.children, findChild_addChildL_same, Option.some.injEq, Prod.mk.injEq] at hf
    obtain ⟨rfl, rfl⟩ := hf
    exact ⟨v, kids', lookup_addKey_same _ _ _ _, hv, hc⟩
  · rw [lookup_addKey_other hk]
    exact h k2 c2 inv2 ((findChild_addChildL_other (fun h => hk h.2) _ _ _).symm.trans hf)

/-- `remove_request(k)` at a dynamic manager, the component leaving the inventory: still an instance, and the key is gone. -/
theorem Inst_dynamic_remove (S : Schema) (vn : VId → Validator) {m : String} {inv : Inv} {kids : Kids}
    {lv : Level} {ty : KeyTy} {vs : Validator} (hm : S.mgr m = some (.dynamic lv ty vs)) (h : Inst S vn m inv kids)
    (k : Key) :
    Inst S vn m (inv.removeChild lv k) (removeKey k kids) ∧ lookup k (removeKey k kids) = none := by
  refine ⟨?_, lookup_removeKey_same k kids⟩
  rw [Inst.dynamic_iff hm] at h ⊢
  intro k2 c2 inv2 hf
  by_cases hk : k2 = k
  · subst hk
    simp [Inv.removeChild, Inv.children, findChild_removeChildL_same] at hf
  · rw [lookup_removeKey_other hk]
    exact h k2 c2 inv2 ((findChild_removeChildL_other (fun h => hk h.2) _).symm.trans hf)

/-- Editing the dictionary under the static key `ks` of a static manager: still an instance for the new inventory, provided
the edited sub-tree is one, and the managers under the OTHER static keys do not depend on what changed in the inventory. -/
theorem Inst_static_edit (S : Schema) (vn : VId → Validator) {m : String} {inv : Inv} {kids : Kids} {edges : List Edge}
    (hm : S.mgr m = some (.static edges)) (h : Inst S vn m inv kids)
    (ks : Key) (vs0 : Validator) (m0 : String) (hk : lookupE ks edges = some (vs0, .sub m0)) (inv₂ : Inv) (f : Kids → Kids)
    (hf : ∀ v sub, lookup ks kids = some (v, .node sub) → Inst S vn m0 inv sub → Inst S vn m0 inv₂ (f sub))
    (hframe : ∀ k' vs' m', k' ≠ ks → lookupE k' edges = some (vs', .sub m') → ∀ lv', Sees S m' lv' →
        ∀ k2, findChild lv' k2 inv₂.children = findChild lv' k2 inv.children) :
    Inst S vn m inv₂ (atKey ks f kids) := by
  rw [Inst.static_iff hm] at h ⊢
  obtain ⟨hleaf, hsub⟩ := h
  obtain ⟨v0, sub0, hlk0, hvn0, hi0⟩ := hsub ks vs0 m0 hk
  rw [atKey_eq_addKey f hlk0]
  refine ⟨fun k vs hl => ?_, fun k vs m' hl => ?_⟩
  · rw [lookup_addKey_other (by rintro rfl; rw [hk] at hl; cases hl)]
    exact hleaf k vs hl
  · by_cases he : k = ks
    · subst he
      rw [hk] at hl
      cases hl
      exact ⟨v0, f sub0, lookup_addKey_same _ _ _ _, hvn0, hf v0 sub0 hlk0 hi0⟩
    · rw [lookup_addKey_other he]
      obtain ⟨v, kids', hlk, hvn, hi⟩ := hsub k vs m' hl
      exact ⟨v, kids', hlk, hvn, Inst_frame S vn hi inv₂ (hframe k vs m' he hl)⟩

/-! ### the code sites: a component's root manager (static) holds one dynamic manager per level under a literal key -/

/-- INSTALL / CONNECT / CREATE / RESTORE: the component of class `c` whose root manager keeps the dynamic manager `md` of
level `lv` under the literal key `ks` (`Node` → "service" / "application" / "network_interface", `FileSystem` → "folder",
`Folder` → "file", `Network` → "node") registers a new sub-component: the live tree — edited ONLY by
`md.add_request(k, RequestType(func=new._request_manager))` — is an instance for the inventory with the sub-component added. -/
theorem C05_add_component_keeps_inst (S : Schema) (vn : VId → Validator) {c : String} {inv : Inv} {kids : Kids}
    {edges : List Edge} (hm : S.mgr c = some (.static edges)) (h : Inst S vn c inv kids)
    (ks : Key) (vs0 : Validator) (md : String) (hk : lookupE ks edges = some (vs0, .sub md))
    {lv : Level} {ty : KeyTy} {vs : Validator} (hmd : S.mgr md = some (.dynamic lv ty vs))
    (fuel : Nat) (hframe : ∀ k' vs' m', k' ≠ ks → lookupE k' edges = some (vs', .sub m') → seesB S fuel m' lv = false)
    (k : Key) (cNew : String) (invNew : Inv) (v : VId) (kidsNew : Kids) (hv : vn v = vs)
    (hnew : Inst S vn cNew invNew kidsNew) :
    Inst S vn c (inv.addChild lv k cNew invNew) (atKey ks (addKey k v (.node kidsNew)) kids) :=
  Inst_static_edit S vn hm h ks vs0 md hk _ _
    (fun _ _ _ hsub => Inst_dynamic_add S vn hmd hsub k cNew invNew v kidsNew hv hnew)
    (fun k' vs' m' hne hl _ hs _ => findChild_addChild_level (ne_of_blind (hframe k' vs' m' hne hl) hs) inv _ _ _ _)

/-- UNINSTALL / DISCONNECT / REMOVE: the same site with `md.remove_request(k)`: an instance for the inventory without the
sub-component. -/
theorem C05_remove_component_keeps_inst (S : Schema) (vn : VId → Validator) {c : String} {inv : Inv} {kids : Kids}
    {edges : List Edge} (hm : S.mgr c = some (.static edges)) (h : Inst S vn c inv kids)
    (ks : Key) (vs0 : Validator) (md : String) (hk : lookupE ks edges = some (vs0, .sub md))
    {lv : Level} {ty : KeyTy} {vs : Validator} (hmd : S.mgr md = some (.dynamic lv ty vs))
    (fuel : Nat) (hframe : ∀ k' vs' m', k' ≠ ks → lookupE k' edges = some (vs', .sub m') → seesB S fuel m' lv = false)
    (k : Key) :
    Inst S vn c (inv.removeChild lv k) (atKey ks (removeKey k) kids) :=
  Inst_static_edit S vn hm h ks vs0 md hk _ _
    (fun _ _ _ hsub => (Inst_dynamic_remove S vn hmd hsub k).1)
    (fun k' vs' m' hne hl _ hs _ => findChild_removeChild_level (ne_of_blind (hframe k' vs' m' hne hl) hs) inv _ _)

/-- ... and the removed component's routes do not dangle: every request through the removed key no longer names an existing
target (it is `unreachable`, or refused earlier by the rule on `ks`), whatever follows the key and whatever the rules say. -/
theorem C05_removed_route_unreachable (kids : Kids) (ks k : Key) (v : VId) (sub : Kids)
    (hks : lookup ks kids = some (v, .node sub)) (rest : List Key) (env : Env) (d : Nat) :
    pathExistsK (atKey ks (removeKey k) kids) (ks :: k :: rest) = false ∧
    (dispatchK env (atKey ks (removeKey k) kids) (ks :: k :: rest) d).isReached = false := by
  have hp : pathExistsK (atKey ks (removeKey k) kids) (ks :: k :: rest) = false := by
    simp [pathExistsK, atKey_eq_addKey _ hks, lookup_addKey_same, lookup_removeKey_same]
  exact ⟨hp, C05_missing_target_not_reached env _ _ d hp⟩

/-- ... while the added component's routes exist at once: a request through the new key whose remainder is a route of the
new component's own tree names an existing target. -/
theorem C05_added_route_exists (kids : Kids) (ks k : Key) (v0 : VId) (sub : Kids)
    (hks : lookup ks kids = some (v0, .node sub)) (v : VId) (kidsNew : Kids) (rest : List Key)
    (hrest : pathExistsK kidsNew rest = true) :
    pathExistsK (atKey ks (addKey k v (.node kidsNew)) kids) (ks :: k :: rest) = true := by
  simp [pathExistsK, atKey_eq_addKey _ hks, lookup_addKey_same, hrest]

/-- LOCALITY: the edit touches exactly one key of one dictionary — every other key of the owner's manager, and every other
key of the dynamic manager, leads to what it led to before ("adds / removes exactly the sub-tree of the component"). -/
theorem C05_edit_is_local (kids sub : Kids) (ks k : Key) (v0 : VId) (hks : lookup ks kids = some (v0, .node sub))
    (v : VId) (t : Tree) :
    (∀ k', k' ≠ ks → lookup k' (atKey ks (addKey k v t) kids) = lookup k' kids ∧
                      lookup k' (atKey ks (removeKey k) kids) = lookup k' kids) ∧
    (∀ k2, k2 ≠ k → lookup k2 (addKey k v t sub) = lookup k2 sub ∧ lookup k2 (removeKey k sub) = lookup k2 sub) ∧
    lookup ks (atKey ks (addKey k v t) kids) = some (v0, .node (addKey k v t sub)) ∧
    lookup ks (atKey ks (removeKey k) kids) = some (v0, .node (removeKey k sub)) := by
  rw [atKey_eq_addKey _ hks, atKey_eq_addKey _ hks]
  exact ⟨fun _ h => ⟨lookup_addKey_other h _ _ _, lookup_addKey_other h _ _ _⟩,
    fun _ h => ⟨lookup_addKey_other h _ _ _, lookup_removeKey_other h _⟩,
    lookup_addKey_same _ _ _ _, lookup_addKey_same _ _ _ _⟩

/-! ### a deep edit seen from the SIMULATION root: lifting along a path of static keys and component keys -/

/-- one step down the live tree: a literal key of a static manager, or the key of a component at a dynamic level -/
inductive Step
  | lit (ks : Key)
  | dyn (lv : Level) (k : Key)
deriving DecidableEq, Repr

/-- apply `f` to the dictionary of the manager the path leads to -/
def editTree : List Step → (Kids → Kids) → Kids → Kids
  | [], f, kids => f kids
  | .lit ks :: rest, f, kids => atKey ks (editTree rest f) kids
  | .dyn _ k :: rest, f, kids => atKey k (editTree rest f) kids

/-- apply `g` to the inventory of the component the path leads to (literal keys stay inside the same component) -/
def editInv : List Step → (Inv → Inv) → Inv → Inv
  | [], g, inv => g inv
  | .lit _ :: rest, g, inv => editInv rest g inv
  | .dyn lv k :: rest, g, inv =>
    match findChild lv k inv.children with
    | some (c, inv') => inv.addChild lv k c (editInv rest g inv')
    | none => inv

/-- the level at which the CURRENT component's inventory changes: the first component step, else the edited level -/
def touched : List Step → Level → Level
  | [], lvEdit => lvEdit
  | .lit _ :: rest, lvEdit => touched rest lvEdit
  | .dyn lv _ :: _, _ => lv

def siblingsBlindB (S : Schema) (fuel : Nat) (edges : List Edge) (ks : Key) (lv : Level) : Bool :=
  edges.all (fun e => e.1 == ks || (match e.2.2 with
    | .sub m'' => !seesB S fuel m'' lv
    | .leaf => true))

/-- the path exists in the schema and the inventory, ends at manager `mEnd`, and at every literal step the sibling
sub-managers cannot see the level that changes (executable) -/
def pathOKB (S : Schema) (fuel : Nat) (lvEdit : Level) : String → Inv → List Step → String → Bool
  | m, _, [], mEnd => m == mEnd
  | m, inv, .lit ks :: rest, mEnd =>
    match S.mgr m with
    | some (.static edges) =>
      match lookupE ks edges with
      | some (_, .sub m') => siblingsBlindB S fuel edges ks (touched rest lvEdit) && pathOKB S fuel lvEdit m' inv rest mEnd
      | _ => false
    | _ => false
  | m, inv, .dyn lv k :: rest, mEnd =>
    match S.mgr m with
    | some (.dynamic lv' _ _) =>
      lv' == lv && (match findChild lv k inv.children with
        | some (c, inv') => pathOKB S fuel lvEdit c inv' rest mEnd
        | none => false)
    | _ => false

theorem siblings_blind (S : Schema) (fuel : Nat) (edges : List Edge) (ks : Key) (lv : Level)
    (h : siblingsBlindB S fuel edges ks lv = true) :
    ∀ k' vs' m'', k' ≠ ks → lookupE k' edges = some (vs', .sub m'') → seesB S fuel m'' lv = false := by
  intro k' vs' m'' hne hl
  simp only [siblingsBlindB, List.all_eq_true] at h
  have h3 := h _ (lookupE_mem hl)
  simp only [Bool.or_eq_true, beq_iff_eq, Bool.not_eq_true'] at h3
  rcases h3 with h3 | h3
  · exact absurd h3 hne
  · exact h3

theorem editInv_other (g : Inv → Inv) (lvEdit : Level)
    (hg : ∀ inv lv' k', lv' ≠ lvEdit → findChild lv' k' (g inv).children = findChild lv' k' inv.children) :
    ∀ (path : List Step) (inv : Inv) (lv' : Level) (k' : Key), lv' ≠ touched path lvEdit →
      findChild lv' k' (editInv path g inv).children = findChild lv' k' inv.children := by
  intro path
  induction path with
  | nil => intro inv lv' k' h; exact hg inv lv' k' h
  | cons st rest ih =>
    intro inv lv' k' h
    cases st with
    | lit ks => exact ih inv lv' k' h
    | dyn lv k =>
      simp only [touched] at h
      simp only [editInv]
      cases hf : findChild lv k inv.children with
      | none => rfl
      | some ci => exact findChild_addChild_level h inv _ _ _ _

theorem pathOKB_lit {S : Schema} {fuel : Nat} {lvEdit : Level} {m : String} {inv : Inv} {ks : Key} {rest : List Step}
    {mEnd : String} (h : pathOKB S fuel lvEdit m inv (.lit ks :: rest) mEnd = true) :
    ∃ edges vs m', S.mgr m = some (.static edges) ∧ lookupE ks edges = some (vs, .sub m') ∧
      siblingsBlindB S fuel edges ks (touched rest lvEdit) = true ∧ pathOKB S fuel lvEdit m' inv rest mEnd = true := by
  simp only [pathOKB] at h
  split at h <;> try contradiction
  split at h <;> try contradiction
  simp only [Bool.and_eq_true] at h
  exact ⟨_, _, _, ‹_›, ‹_›, h⟩

theorem pathOKB_dyn {S : Schema} {fuel : Nat} {lvEdit : Level} {m : String} {inv : Inv} {lv : Level} {k : Key}
    {rest : List Step} {mEnd : String} (h : pathOKB S fuel lvEdit m inv (.dyn lv k :: rest) mEnd = true) :
    ∃ ty vs c inv', S.mgr m = some (.dynamic lv ty vs) ∧ findChild lv k inv.children = some (c, inv') ∧
      pathOKB S fuel lvEdit c inv' rest mEnd = true := by
  simp only [pathOKB] at h
  split at h <;> try contradiction
  simp only [Bool.and_eq_true, beq_iff_eq] at h
  obtain ⟨rfl, h⟩ := h
  split at h <;> try contradiction
  exact ⟨_, _, _, _, ‹_›, ‹_›, h⟩

/-- DEEP EDIT: if the path from manager `m` (e.g. the simulation's root manager) down to the root manager `mEnd` of the
component being edited is sound (`pathOKB`), the local edit keeps `mEnd`'s instances (`hend`, e.g. from
`C05_add_component_keeps_inst`) and changes that component's inventory only at level `lvEdit`, then the WHOLE tree is an
instance for the whole inventory after the edit. -/
theorem C05_deep_edit_keeps_inst (S : Schema) (vn : VId → Validator) (fuel : Nat) (lvEdit : Level) (mEnd : String)
    (f : Kids → Kids) (g : Inv → Inv)
    (hend : ∀ inv kids, Inst S vn mEnd inv kids → Inst S vn mEnd (g inv) (f kids))
    (hg : ∀ inv lv' k', lv' ≠ lvEdit → findChild lv' k' (g inv).children = findChild lv' k' inv.children) :
    ∀ (path : List Step) (m : String) (inv : Inv) (kids : Kids), Inst S vn m inv kids →
      pathOKB S fuel lvEdit m inv path mEnd = true →
      Inst S vn m (editInv path g inv) (editTree path f kids) := by
  intro path
  induction path with
  | nil =>
    intro m inv kids h hp
    simp only [pathOKB, beq_iff_eq] at hp
    subst hp
    exact hend inv kids h
  | cons st rest ih =>
    intro m inv kids h hp
    cases st with
    | lit ks =>
      obtain ⟨edges, vs0, m', hm, hk, hblind, hrest⟩ := pathOKB_lit hp
      exact Inst_static_edit S vn hm h ks vs0 m' hk _ _ (fun _ sub _ hsub => ih m' inv sub hsub hrest)
        (fun k' vs' m'' hne hl lv' hs k2 => editInv_other g lvEdit hg rest inv lv' k2
          (ne_of_blind (siblings_blind S fuel edges ks _ hblind k' vs' m'' hne hl) hs))
    | dyn lv k =>
      obtain ⟨ty, vs, c, inv', hm, hf, hrest⟩ := pathOKB_dyn hp
      simp only [editInv, editTree, hf]
      obtain ⟨v, kids', hlk, hvn, hsub⟩ := (Inst.dynamic_iff hm).mp h k c inv' hf
      rw [atKey_eq_addKey _ hlk]
      exact Inst_dynamic_add S vn hm h k c _ v _ hvn (ih c inv' kids' hsub hrest)

/-- for every static manager and every edge of it that leads to a dynamic manager of level `lv`: no OTHER sub-manager edge of
the same manager can see level `lv` -/
def framedB (S : Schema) (fuel : Nat) : Bool :=
  S.mgrs.all (fun nm => match nm.2 with
    | .dynamic _ _ _ => true
    | .static edges => edges.all (fun e => match e.2.2 with
        | .leaf => true
        | .sub md => match S.mgr md with
          | some (.dynamic lv _ _) => edges.all (fun e' => e'.1 == e.1 || (match e'.2.2 with
              | .sub m' => !seesB S fuel m' lv
              | .leaf => true))
          | _ => true))

def hasEdgeB (S : Schema) (c : String) (key : Key) (vs : Validator) (target : String) : Bool :=
  match S.mgr c with
  | some (.static es) => decide (lookupE key es = some (vs, .sub target))
  | _ => false

def isDynamicOfB (S : Schema) (m : String) (lv : Level) : Bool :=
  match S.mgr m with
  | some (.dynamic lv' _ _) => lv' == lv
  | _ => false

/-- the Bool check gives the hypothesis the composite theorems need -/
theorem frame_of_framedB (S : Schema) (fuel : Nat) (hB : framedB S fuel = true) {c : String} {edges : List Edge}
    (hc : (c, Mgr.static edges) ∈ S.mgrs) (ks : Key) (vs0 : Validator) (md : String)
    (hk : lookupE ks edges = some (vs0, .sub md)) {lv : Level} {ty : KeyTy} {vs : Validator}
    (hmd : S.mgr md = some (.dynamic lv ty vs)) :
    ∀ k' vs' m', k' ≠ ks → lookupE k' edges = some (vs', .sub m') → seesB S fuel m' lv = false := by
  have h := List.all_eq_true.mp (List.all_eq_true.mp hB _ hc) _ (lookupE_mem hk)
  simp only [hmd] at h
  exact siblings_blind S fuel edges ks lv h

/-! ### ALL paths at once: a schema-level frame property implies the per-path condition -/

def allLevels : List Level := [.node, .service, .application, .nic, .folder, .file]

theorem mem_allLevels (lv : Level) : lv ∈ allLevels := by cases lv <;> simp [allLevels]

/-- GLOBAL FRAME PROPERTY of a schema: no two sub-managers under different literal keys of the same static manager can see the
same level (executable; conservative: `seesB` over-approximates) -/
def globalFrameB (S : Schema) (fuel : Nat) : Bool :=
  S.mgrs.all (fun nm => match nm.2 with
    | .dynamic _ _ _ => true
    | .static edges => edges.all (fun e => match e.2.2 with
        | .leaf => true
        | .sub m1 => edges.all (fun e' => e'.1 == e.1 || (match e'.2.2 with
            | .leaf => true
            | .sub m2 => allLevels.all (fun lv => !(seesB S fuel m1 lv && seesB S fuel m2 lv))))))

theorem assoc_mem {α} {k : String} {l : List (String × α)} {a : α} (h : assoc k l = some a) : (k, a) ∈ l := by
  fun_induction assoc k l <;> simp_all

/-- What the global frame property says at one static manager: next to a sub-manager that can see level `lv` no sibling
can.  (A dynamic manager sees its own level, so this is the frame condition at every dynamic site.) -/
theorem globalFrame_blind {S : Schema} {fuel : Nat} (hG : globalFrameB S fuel = true) {m : String} {edges : List Edge}
    (hm : (m, Mgr.static edges) ∈ S.mgrs) {ks : Key} {vs0 : Validator} {m1 : String}
    (hk : (ks, vs0, Target.sub m1) ∈ edges) {lv : Level} (hsee : seesB S fuel m1 lv = true) :
    siblingsBlindB S fuel edges ks lv = true := by
  have h1 := List.all_eq_true.mp (List.all_eq_true.mp (List.all_eq_true.mp hG _ hm) _ hk)
  simp only [siblingsBlindB, List.all_eq_true]
  intro e' he'
  have h3 := h1 e' he'
  simp only [Bool.or_eq_true] at h3 ⊢
  refine h3.imp id (fun h3 => ?_)
  cases ht : e'.2.2 with
  | leaf => rfl
  | sub m2 =>
    simp only [ht, List.all_eq_true] at h3
    simpa [hsee] using h3 _ (mem_allLevels lv)

theorem framedB_of_globalFrameB {S : Schema} {fuel : Nat} (hG : globalFrameB S fuel = true) : framedB S fuel = true := by
  simp only [framedB, List.all_eq_true]
  intro nm hnm
  obtain ⟨m, M⟩ := nm
  cases M with
  | dynamic _ _ _ => rfl
  | static edges =>
    simp only [List.all_eq_true]
    intro e he
    obtain ⟨k, vs, tgt⟩ := e
    cases tgt with
    | leaf => rfl
    | sub md =>
      simp only
      cases hmd : S.mgr md with
      | none => rfl
      | some M' =>
        cases M' with
        | static _ => rfl
        | dynamic lv ty v => exact globalFrame_blind hG hnm he (seesB_of_sees S (Sees.here hmd) fuel)

/-- the path exists in the schema and the inventory and ends at `mEnd` (`pathOKB` without the frame condition) -/
def pathExistsB (S : Schema) : String → Inv → List Step → String → Bool
  | m, _, [], mEnd => m == mEnd
  | m, inv, .lit ks :: rest, mEnd =>
    match S.mgr m with
    | some (.static edges) =>
      match lookupE ks edges with
      | some (_, .sub m') => pathExistsB S m' inv rest mEnd
      | _ => false
    | _ => false
  | m, inv, .dyn lv k :: rest, mEnd =>
    match S.mgr m with
    | some (.dynamic lv' _ _) =>
      lv' == lv && (match findChild lv k inv.children with
        | some (c, inv') => pathExistsB S c inv' rest mEnd
        | none => false)
    | _ => false

theorem pathExistsB_lit {S : Schema} {m : String} {inv : Inv} {ks : Key} {rest : List Step} {mEnd : String}
    (h : pathExistsB S m inv (.lit ks :: rest) mEnd = true) :
    ∃ edges vs m', S.mgr m = some (.static edges) ∧ lookupE ks edges = some (vs, .sub m') ∧
      pathExistsB S m' inv rest mEnd = true := by
  simp only [pathExistsB] at h
  split at h <;> try contradiction
  split at h <;> try contradiction
  exact ⟨_, _, _, ‹_›, ‹_›, h⟩

theorem pathExistsB_dyn {S : Schema} {m : String} {inv : Inv} {lv : Level} {k : Key} {rest : List Step} {mEnd : String}
    (h : pathExistsB S m inv (.dyn lv k :: rest) mEnd = true) :
    ∃ ty vs c inv', S.mgr m = some (.dynamic lv ty vs) ∧ findChild lv k inv.children = some (c, inv') ∧
      pathExistsB S c inv' rest mEnd = true := by
  simp only [pathExistsB] at h
  split at h <;> try contradiction
  simp only [Bool.and_eq_true, beq_iff_eq] at h
  obtain ⟨rfl, h⟩ := h
  split at h <;> try contradiction
  exact ⟨_, _, _, _, ‹_›, ‹_›, h⟩

theorem sees_touched (S : Schema) (lvEdit : Level) (mEnd : String) (hend : Sees S mEnd lvEdit) :
    ∀ (path : List Step) (m : String) (inv : Inv), pathExistsB S m inv path mEnd = true →
      Sees S m (touched path lvEdit) := by
  intro path
  induction path with
  | nil =>
    intro m inv hp
    simp only [pathExistsB, beq_iff_eq] at hp
    subst hp
    exact hend
  | cons st rest ih =>
    intro m inv hp
    cases st with
    | lit ks =>
      obtain ⟨edges, vs, m', hm, hk, hrest⟩ := pathExistsB_lit hp
      exact Sees.step hm hk (ih m' inv hrest)
    | dyn lv k =>
      obtain ⟨ty, vs, c, inv', hm, _, _⟩ := pathExistsB_dyn hp
      exact Sees.here hm

theorem pathOKB_of_globalFrame (S : Schema) (fuel : Nat) (hG : globalFrameB S fuel = true) (lvEdit : Level) (mEnd : String)
    (hend : Sees S mEnd lvEdit) :
    ∀ (path : List Step) (m : String) (inv : Inv), pathExistsB S m inv path mEnd = true →
      pathOKB S fuel lvEdit m inv path mEnd = true := by
  intro path
  induction path with
  | nil => intro m inv hp; simpa [pathOKB, pathExistsB] using hp
  | cons st rest ih =>
    intro m inv hp
    cases st with
    | lit ks =>
      obtain ⟨edges, vs, m', hm, hk, hrest⟩ := pathExistsB_lit hp
      simp only [pathOKB, hm, hk, Bool.and_eq_true]
      -- the sub-manager under `ks` sees the touched level, so (global frame) no sibling does
      exact ⟨globalFrame_blind hG (assoc_mem hm) (lookupE_mem hk)
        (seesB_of_sees S (sees_touched S lvEdit mEnd hend rest m' inv hrest) fuel), ih m' inv hrest⟩
    | dyn lv k =>
      obtain ⟨ty, vs, c, inv', hm, hf, hrest⟩ := pathExistsB_dyn hp
      simp only [pathOKB, hm, hf, beq_self_eq_true, Bool.true_and]
      exact ih c inv' hrest

/-- ALL PATHS, ALL INVENTORIES, ONE STATEMENT.  In a schema with the global frame property: whatever the inventory, the live
tree (an instance), and the path from ANY manager `m` (e.g. the simulation root) down to the root manager of a component of
class `c` that keeps the dynamic manager `md` of level `lv` under its literal key `ks` — registering a new sub-component there
(`add_request`) keeps the whole tree an instance of the whole inventory with that sub-component added; un-registering one
(`remove_request`) keeps it an instance of the inventory without it. -/
theorem C05_any_path_edit_keeps_inst (S : Schema) (vn : VId → Validator) (fuel : Nat) (hG : globalFrameB S fuel = true)
    (c : String) (edges : List Edge) (hm : S.mgr c = some (.static edges))
    (ks : Key) (vs0 : Validator) (md : String) (hk : lookupE ks edges = some (vs0, .sub md))
    (lv : Level) (ty : KeyTy) (vs : Validator) (hmd : S.mgr md = some (.dynamic lv ty vs))
    (path : List Step) (m : String) (inv : Inv) (kids : Kids) (hinst : Inst S vn m inv kids)
    (hpath : pathExistsB S m inv path c = true) :
    (∀ (k : Key) (cNew : String) (invNew : Inv) (v : VId) (kidsNew : Kids), vn v = vs → Inst S vn cNew invNew kidsNew →
      Inst S vn m (editInv path (fun i => i.addChild lv k cNew invNew) inv)
        (editTree path (atKey ks (addKey k v (.node kidsNew))) kids)) ∧
    (∀ (k : Key), Inst S vn m (editInv path (fun i => i.removeChild lv k) inv) (editTree path (atKey ks (removeKey k)) kids)) := by
  have hsees : Sees S c lv := Sees.step hm hk (Sees.here hmd)
  -- the frame condition at the site itself, from the global property
  have hframe := frame_of_framedB S fuel (framedB_of_globalFrameB hG) (assoc_mem hm) ks vs0 md hk hmd
  -- the deep-edit theorem along this path, for any local edit at the site
  have deep := fun f g hend hg => C05_deep_edit_keeps_inst S vn fuel lv c f g hend hg path m inv kids hinst
    (pathOKB_of_globalFrame S fuel hG lv c hsees path m inv hpath)
  constructor
  · intro k cNew invNew v kidsNew hv hnew
    exact deep _ _
      (fun _ _ h0 => C05_add_component_keeps_inst S vn hm h0 ks vs0 md hk hmd fuel hframe k cNew invNew v kidsNew hv hnew)
      (fun inv0 _ _ hne => findChild_addChild_level hne inv0 _ _ _ _)
  · intro k
    exact deep _ _ (fun _ _ h0 => C05_remove_component_keeps_inst S vn hm h0 ks vs0 md hk hmd fuel hframe k)
      (fun inv0 _ _ hne => findChild_removeChild_level hne inv0 _ _)

/-- (table) the regenerated schema has the global frame property — so `C05_any_path_edit_keeps_inst` applies to every
inventory, live tree and path of the shipped code, at every dynamic site -/
theorem C05_gen_global_frame : globalFrameB schema 8 = true := by decide +kernel

open Primaite.Gen.RequestSchema (dynAdds dynRemoves) in
/-- (table) in the regenerated schema (i) the frame condition of `C05_add_component_keeps_inst` /
`C05_remove_component_keeps_inst` holds at EVERY edge that leads to a dynamic manager, in every class; (ii) every dynamic
manager that gains keys at run time also loses them at run time (`remove_request` site) — EXCEPT the folder and file levels,
whose keys stay after a delete (no `remove_request` in the file system) and are instead guarded on the edge that leads to
them by the exists / not-deleted rules; (iii) every manager with a dynamic `add_request` site is a dynamic manager of the
schema of the level the site adds. -/
theorem C05_gen_dynamic_sites :
    framedB schema 8 = true ∧
    (∀ a ∈ dynAdds, a.1 ∈ dynRemoves ∨
      (a = ("FileSystem._folder_request_manager", Level.folder) ∧
        hasEdgeB schema "FileSystem" "folder" [.folderExists, .folderNotDeleted] a.1 = true) ∨
      (a = ("Folder._file_request_manager", Level.file) ∧
        hasEdgeB schema "Folder" "file" [.folderFileExists, .fileNotDeleted] a.1 = true)) ∧
    (∀ a ∈ dynAdds, isDynamicOfB schema a.1 a.2 = true) :=
  ⟨framedB_of_globalFrameB C05_gen_global_frame, by decide +kernel, by decide +kernel⟩

/-! ### non-vacuity on the REGENERATED schema: a Computer installs the FTP server, then uninstalls it -/

def exPcInv : Inv := .mk [(.service, "dns-client", "DNSClient", .mk []), (.nic, "i:1", "NIC", .mk []),
                          (.folder, "root", "Folder", .mk [])]
def exPcKids : Kids := buildK schema exVid 10 "Computer" exPcInv
def exPcEdges : List Edge := match schema.mgr "Computer" with | some (.static es) => es | _ => []
def exSvcKids : Kids := buildK schema exVid 6 "FTPServer" (.mk [])

theorem exPcKids_inst : Inst schema exVn "Computer" exPcInv exPcKids :=
  instB_sound schema exVn 10 "Computer" exPcInv exPcKids (by decide +kernel)
theorem exSvcKids_inst : Inst schema exVn "FTPServer" (.mk []) exSvcKids :=
  instB_sound schema exVn 6 "FTPServer" (.mk []) exSvcKids (by decide +kernel)

def exPcKidsInstalled : Kids := atKey "service" (addKey "ftp-server" (exVid []) (.node exSvcKids)) exPcKids

theorem exPc_mgr : schema.mgr "Computer" = some (.static exPcEdges) := by decide +kernel
theorem exPc_service : lookupE "service" exPcEdges = some ([.nodeIsOn], .sub "Node._service_request_manager") := by
  decide +kernel
theorem exServiceMgr : schema.mgr "Node._service_request_manager" = some (.dynamic .service .str []) := by decide +kernel
theorem exVn_allowAll : exVn (exVid []) = [] := by decide +kernel

/-- the hypotheses of `C05_add_component_keeps_inst` are met by the regenerated schema at that site, for EVERY instance of
`Computer`: installing the FTP server there keeps it an instance -/
theorem exSite_install {inv : Inv} {kids : Kids} (h : Inst schema exVn "Computer" inv kids) :
    Inst schema exVn "Computer" (inv.addChild .service "ftp-server" "FTPServer" (.mk []))
      (atKey "service" (addKey "ftp-server" (exVid []) (.node exSvcKids)) kids) :=
  C05_add_component_keeps_inst schema exVn exPc_mgr h "service" [.nodeIsOn] "Node._service_request_manager" exPc_service
    exServiceMgr 8
    (frame_of_framedB schema 8 C05_gen_dynamic_sites.1 (assoc_mem exPc_mgr) "service" _ _ exPc_service exServiceMgr)
    "ftp-server" "FTPServer" (.mk []) (exVid []) exSvcKids exVn_allowAll exSvcKids_inst

theorem exInstall_inst : Inst schema exVn "Computer" (exPcInv.addChild .service "ftp-server" "FTPServer" (.mk []))
    exPcKidsInstalled :=
  exSite_install exPcKids_inst

/-- before the install the route is unreachable, after it the request reaches the new service's handler, after the
uninstall it is unreachable again -/
example : dispatchK envAll exPcKids ["service", "ftp-server", "stop"] 3 = .unreachable 4 := by decide +kernel
example : (dispatchK envAll exPcKidsInstalled ["service", "ftp-server", "stop"] 3).isReached = true := by decide +kernel
example : dispatchK envAll (atKey "service" (removeKey "ftp-server") exPcKidsInstalled) ["service", "ftp-server", "stop"] 3
    = .unreachable 4 := by decide +kernel
/-- the other routes of the node are untouched by the install -/
example : dispatchK envAll exPcKidsInstalled ["service", "dns-client", "stop"] 3 =
    dispatchK envAll exPcKids ["service", "dns-client", "stop"] 3 := by decide +kernel

/-! non-vacuity of `C05_deep_edit_keeps_inst` on the REGENERATED schema: the same install seen from the SIMULATION root
(`network` / `node` / "pc" of `exInv`, the inventory with a computer, a firewall and a router) -/
def exPath : List Step := [.lit "network", .lit "node", .dyn .node "pc"]

theorem exDeepInstall_inst : Inst schema exVn rootMgr
    (editInv exPath (fun inv => inv.addChild .service "ftp-server" "FTPServer" (.mk [])) exInv)
    (editTree exPath (atKey "service" (addKey "ftp-server" (exVid []) (.node exSvcKids))) exKids) :=
  C05_deep_edit_keeps_inst schema exVn 8 .service "Computer" _ _ (fun _ _ h => exSite_install h)
    (fun inv _ _ h => findChild_addChild_level h inv _ _ _ _)
    exPath rootMgr exInv exKids exKids_inst (by decide +kernel)

example : dispatchK envAll exKids ["network", "node", "pc", "service", "ftp-server", "stop"] 0 = .unreachable 4 := by
  decide +kernel
example : (dispatchK envAll (editTree exPath (atKey "service" (addKey "ftp-server" (exVid []) (.node exSvcKids))) exKids)
    ["network", "node", "pc", "service", "ftp-server", "stop"] 0).isReached = true := by decide +kernel

/-- non-vacuity of `C05_any_path_edit_keeps_inst`: the same deep install WITHOUT a per-path condition — only "the path
exists" (decided for this inventory) and the schema-level `C05_gen_global_frame` -/
theorem exAnyPathInstall_inst : Inst schema exVn rootMgr
    (editInv exPath (fun i => i.addChild .service "ftp-server" "FTPServer" (.mk [])) exInv)
    (editTree exPath (atKey "service" (addKey "ftp-server" (exVid []) (.node exSvcKids))) exKids) :=
  (C05_any_path_edit_keeps_inst schema exVn 8 C05_gen_global_frame "Computer" exPcEdges exPc_mgr
    "service" [.nodeIsOn] "Node._service_request_manager" exPc_service .service .str [] exServiceMgr
    exPath rootMgr exInv exKids exKids_inst (by decide +kernel)).1
    "ftp-server" "FTPServer" (.mk []) (exVid []) exSvcKids exVn_allowAll exSvcKids_inst

end Primaite.Schema

