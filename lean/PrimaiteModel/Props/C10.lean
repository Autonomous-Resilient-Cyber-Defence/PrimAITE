/-
C10 — reward = weighted sum of components; shared rewards use same-step values irrespective of declaration order;
cyclic sharing rejected at load; sticky vs non-sticky components; episode total = sum of step rewards.

Models: Model/RewardGraph.lean (`graph_has_cycle`, `topological_sort` as written), Model/Reward.lean (components,
`RewardFunction.update`, `setup_reward_sharing`, `update_agents`, the reward-relevant part of a step).
Proof developments: Lemmas/RewardGraphTopo, RewardGraphCycle, RewardGraphTop, RewardGame, RewardConfig.
Apart from the F-18 witness and the `C10_gen_*` facts about the regenerated tables, every theorem is for all graphs /
configurations / weights / states / step sequences; none is a sample.
-/
import PrimaiteModel.Lemmas.RewardConfig
import PrimaiteModel.Gen.Reward
namespace Primaite.Reward
open Primaite.RewardGraph

/-- `graph_has_cycle` answers `True` exactly when some node reaches itself along "shares from" arcs. -/
theorem C10_has_cycle_sound_complete {α : Type} [DecidableEq α] (g : Graph α) :
    hasCycle g = true ↔ ∃ u, Path g u u :=
  (hasCycle_iff_not_acyclic g).trans (not_acyclic_iff g)

/-- On an accepted (acyclic) graph, `topological_sort` lists every key, and each dependency of a listed node sits at a
strictly smaller index. -/
theorem C10_topo_deps_first {α : Type} [DecidableEq α] (g : Graph α) (h : hasCycle g = false) :
    (∀ k ∈ keys g, k ∈ topoSort g) ∧
    (∀ u v, u ∈ topoSort g → v ∈ nbrs g u → v ∈ topoSort g ∧ (topoSort g).idxOf v < (topoSort g).idxOf u) := by
  have hac := (hasCycle_false_iff g).mp h
  obtain ⟨hd, hk⟩ := topoSort_depsFirst' g hac
  exact ⟨hk, fun u v hu hv => ⟨hd.nbr_mem hu hv, hd.idx_lt hu hv⟩⟩

/-- No node is listed twice (an agent listed twice would have its reward added to its total twice), for every graph;
and with unique keys the list mentions exactly the nodes of the graph. -/
theorem C10_topo_nodup {α : Type} [DecidableEq α] (g : Graph α) :
    (topoSort g).Nodup ∧ (∀ x ∈ topoSort g, x ∈ univ g) ∧
    (hasCycle g = false → (keys g).Nodup → ∀ x, x ∈ topoSort g ↔ x ∈ univ g) :=
  ⟨(topoSort_nodup g).1, (topoSort_nodup g).2,
   fun h hk x => topoSort_mem_iff g ((hasCycle_false_iff g).mp h) hk x⟩

/-- Neither function's verdict depends on the order of the keys or of the neighbour collections: two graphs with the
same arcs are both rejected or both accepted, and the order computed for one is dependencies-first for the other. -/
theorem C10_graph_order_irrelevant (g g' : Graph Name) (h : ∀ u v, v ∈ nbrs g u ↔ v ∈ nbrs g' u) :
    hasCycle g = hasCycle g' ∧ (hasCycle g = false → DepsFirst g' (topoSort g)) := by
  refine ⟨hasCycle_congr h, fun hb => ?_⟩
  exact DepsFirst_of_nbrs_sub (fun u v hv => (h u v).mpr hv) (topoSort_depsFirst' g ((hasCycle_false_iff g).mp hb)).1

/-- In a loaded game the evaluation order is a permutation of the agents. -/
theorem C10_order_perm_agents (g : Game) (wf : WF g) : g.order.Perm (agentKeys g.agents) :=
  (List.perm_ext_iff_of_nodup wf.orderNodup wf.keysNodup).mpr wf.orderMem

/-- `from_config` raises the cyclic-sharing error exactly when the "shares from" relation between the configured
agents has a cycle — whatever the iteration order of the neighbour sets. -/
theorem C10_cyclic_rejected (σ : List Name → List Name) (hσ : SetLike σ) (cfgs : List AgentCfg) :
    fromConfig σ cfgs = .error .cycle ↔ ∃ u, Path (depGraph (buildAgents cfgs)) u u := by
  have hac : Acyclic (sharingGraph σ (buildAgents cfgs)) ↔ Acyclic (depGraph (buildAgents cfgs)) :=
    Acyclic_congr (sharingGraph_nbrs_iff σ hσ _)
  rw [← not_acyclic_iff, ← hac, ← hasCycle_iff_not_acyclic, fromConfig_eq]
  cases hasCycle (sharingGraph σ (buildAgents cfgs)) with
  | true => exact ⟨fun _ => rfl, fun _ => rfl⟩
  | false =>
    simp only [Bool.false_eq_true, if_false, iff_false]
    split <;> exact fun h => by cases h

/-- Every acyclic sharing graph over the agents is accepted; the loaded game holds the configured agents and is
well-formed: the evaluation order lists each agent once, dependencies first. -/
theorem C10_acyclic_accepted (σ : List Name → List Name) (hσ : SetLike σ) (cfgs : List AgentCfg)
    (hac : ∀ u, ¬ Path (depGraph (buildAgents cfgs)) u u) (hc : Closed (buildAgents cfgs)) :
    ∃ g, fromConfig σ cfgs = .ok g ∧ g.agents = buildAgents cfgs ∧ g.stepCounter = 0 ∧ WF g := by
  have h : hasCycle (sharingGraph σ (buildAgents cfgs)) = false := by
    rw [hasCycle_false_iff]
    exact (Acyclic_congr (sharingGraph_nbrs_iff σ hσ _)).mpr hac
  obtain ⟨e, wf⟩ := (fromConfig_spec σ hσ cfgs).2 h hc
  exact ⟨_, e, rfl, rfl, wf⟩

/-- A configuration whose sharing names an agent that does not exist is refused too (acyclic or not): the model's
`from_config` answers `KeyError` — the name enters the evaluation order and the first `update_agents` looks it up. So
*only* sharing graphs over the agents load, and the loaded ones are exactly the acyclic ones. -/
theorem C10_dangling_rejected (σ : List Name → List Name) (hσ : SetLike σ) (cfgs : List AgentCfg)
    (hnc : ¬ Closed (buildAgents cfgs)) :
    fromConfig σ cfgs = .error .cycle ∨ fromConfig σ cfgs = .error .keyError := by
  cases hb : hasCycle (sharingGraph σ (buildAgents cfgs)) with
  | true => exact Or.inl ((fromConfig_spec σ hσ cfgs).1 hb)
  | false => exact Or.inr (fromConfig_dangling σ hσ cfgs hb hnc)

/-- The model's accumulation is literally the left fold the code performs, in the code's order of operations
(`C10_gen_update`, Props/C10Calc.lean, proves that the translated source of `RewardFunction.update` computes it). -/
theorem C10_update_is_left_fold (s : SimState) (it : Item) (cur : Name → Val) (comps : List (Comp × Val)) :
    (updateComps s it cur 0 comps).1 =
      weightedFold (· + ·) (· * ·) (0 : Val) (comps.map (fun cw => (cw.2, (calcComp s it cur cw.1).1))) := by
  rw [updateComps_eq_generic, updateCompsG_eq]

/-- **Weighted sum over any lawful arithmetic.** In every carrier whose addition is associative with a two-sided zero
(any ordered field in particular; no law of `mul` is needed) that left fold equals the sum `w₁·c₁ + (w₂·c₂ + (… + 0))`.
IEEE doubles are not such a carrier (addition is not associative): for them the rig checks that the fold the code computes
lies within the forward rounding bound of this sum. -/
theorem C10_weighted_sum_any_arithmetic {V : Type} (add mul : V → V → V) (zero : V)
    (add_assoc : ∀ a b c, add (add a b) c = add a (add b c)) (zero_add : ∀ a, add zero a = a)
    (add_zero : ∀ a, add a zero = a) (wcs : List (V × V)) :
    weightedFold add mul zero wcs = (wcs.map (fun wc => mul wc.1 wc.2)).foldr add zero := by
  unfold weightedFold
  have h : ∀ (l : List (V × V)) (acc : V),
      l.foldl (fun acc wc => add acc (mul wc.1 wc.2)) acc = add acc ((l.map (fun wc => mul wc.1 wc.2)).foldr add zero) := by
    intro l
    induction l with
    | nil => intro acc; simp [add_zero]
    | cons x r ih => intro acc; simp only [List.foldl_cons, List.map_cons, List.foldr_cons]; rw [ih, add_assoc]
  rw [h, zero_add]

/-- the associativity hypothesis is needed: with a non-associative `add` (truncated subtraction) the two differ -/
example : weightedFold (fun a b : Nat => a - b) (· * ·) 5 [(1, 2), (1, 3)]
    ≠ ([(1, 2), (1, 3)].map (fun wc : Nat × Nat => wc.1 * wc.2)).foldr (fun a b => a - b) 5 := by decide

/-- `RewardFunction.update`: `current_reward = Σ wᵢ · cᵢ`, each `cᵢ` evaluated on the post-step state `s`, the agent's
own latest history item `it`, and (for shared components) the callback `cur`. -/
theorem C10_weighted_sum (s : SimState) (it : Item) (cur : Name → Val) (comps : List (Comp × Val)) :
    (updateComps s it cur 0 comps).1 = (comps.map (fun cw => cw.2 * (calcComp s it cur cw.1).1)).sum := by
  rw [C10_update_is_left_fold, C10_weighted_sum_any_arithmetic _ _ _ Rat.add_assoc Rat.zero_add Rat.add_zero, List.map_map]
  rfl

/-- **The step.** From any well-formed game (in particular any loaded one, after any number of steps), a step
succeeds and, for every agent `n`: its new `current_reward` is the weighted sum of its components evaluated on the
post-step state `s`, on *its own* new history item `items n`, with every shared component answering from the game
*after* the step; its total grows by exactly that reward; its component memories advance by `calcComp`. -/
theorem C10_step (g : Game) (wf : WF g) (items : Name → Item) (s : SimState) :
    ∃ g', gameStep g items s = .ok g' ∧ WF g' ∧ g'.stepCounter = g.stepCounter + 1 ∧
      ∀ n a, g.agents.lookup n = some a → ∃ a', g'.agents.lookup n = some a' ∧
        a'.current = (a.comps.map (fun cw => cw.2 * (calcComp s (items n) (curOf g'.agents) cw.1).1)).sum ∧
        a'.total = a.total + a'.current ∧
        a'.comps = a.comps.map (fun cw => ((calcComp s (items n) (curOf g'.agents) cw.1).2, cw.2)) ∧
        a'.hist = (items n, some a'.current) :: a.hist := by
  obtain ⟨g', hok, wf', _, hs, _, hf⟩ := gameStep_spec g wf items s
  refine ⟨g', hok, wf', hs, ?_⟩
  intro n a ha
  refine ⟨_, hf n a ha, ?_⟩
  rw [updAgent_pushItem]
  exact ⟨C10_weighted_sum _ _ _ _, rfl, updateComps_snd _ _ _ _ _, rfl⟩

/-- **Same-step values.** The value a shared component of agent `n` on agent `v` contributes in a step is `v`'s
`current_reward` after that step (not a stale one), for every well-formed game. -/
theorem C10_shared_same_step (g : Game) (wf : WF g) (items : Name → Item) (s : SimState) (g' : Game)
    (hok : gameStep g items s = .ok g') (n v : Name) (a : Agent) (w : Val)
    (ha : g.agents.lookup n = some a) (hv : (Comp.shared v, w) ∈ a.comps) :
    ∃ av', g'.agents.lookup v = some av' ∧
      (calcComp s (items n) (curOf g'.agents) (.shared v)).1 = av'.current := by
  obtain ⟨g'', hok', _, _, _, hk, _⟩ := gameStep_spec g wf items s
  rw [hok] at hok'; cases hok'
  have hvs : v ∈ sharedNames a.comps := mem_sharedNames_iff.mpr ⟨w, hv⟩
  have hvk : v ∈ agentKeys g'.agents := by
    rw [hk]; exact (wf.orderMem v).mp (shared_mem_order wf ha hvs).1
  obtain ⟨av', hav⟩ := mem_keys_lookup hvk
  exact ⟨av', hav, by simp [calcComp, curOf, hav]⟩

/-- **Evaluation order is irrelevant.** Two well-formed games holding the same agents — in any dictionary orders, with
any two dependencies-first evaluation orders — hold the same agents after `update_agents`. -/
theorem C10_evaluation_order_irrelevant (s : SimState) (g1 g2 : Game) (wf1 : WF g1) (wf2 : WF g2)
    (same : SameAgents g1 g2) (hpos1 : 0 < g1.stepCounter) (hpos2 : 0 < g2.stepCounter)
    (hhist : ∀ n a, g1.agents.lookup n = some a → a.hist ≠ []) :
    ∃ g1' g2', updateAgents s g1 = .ok g1' ∧ updateAgents s g2 = .ok g2' ∧ SameAgents g1' g2' := by
  obtain ⟨g1', h1, _, _, hk1, hf1⟩ := updateAgents_spec s g1 wf1 hpos1 hhist
  obtain ⟨g2', h2, _, _, hk2, hf2⟩ := updateAgents_spec s g2 wf2 hpos2
    (fun n a h => hhist n a (by rw [same n]; exact h))
  exact ⟨g1', g2', h1, h2, fixpoint_unique s g1 wf1 _ _ hf1 (fun m a h => hf2 m a (by rw [← same m]; exact h))
    (fun n => by rw [hk1]) (fun n => by rw [hk2]; exact (same.mem_keys n).symm)⟩

/-- **Declaration order is irrelevant** (`topo_order_irrelevant`). Two configurations listing the same agents in any
two orders, under any two iteration orders of the neighbour sets: both rejected as cyclic, or both loaded and then
every run of steps leaves the same rewards, totals, histories and memories for every agent. -/
theorem C10_declaration_order_irrelevant (σ σ' : List Name → List Name) (hσ : SetLike σ) (hσ' : SetLike σ')
    (cfgs cfgs' : List AgentCfg) (hp : cfgs.Perm cfgs') (hn : (cfgs.map (·.ref)).Nodup)
    (hc : Closed (buildAgents cfgs)) :
    (fromConfig σ cfgs = .error .cycle ∧ fromConfig σ' cfgs' = .error .cycle) ∨
    (∃ g g', fromConfig σ cfgs = .ok g ∧ fromConfig σ' cfgs' = .ok g' ∧ WF g ∧ WF g' ∧
      ∀ steps, ∃ h h', run g steps = .ok h ∧ run g' steps = .ok h' ∧ SameAgents h h') := by
  have same := buildAgents_perm hp hn
  have hc' : Closed (buildAgents cfgs') := Closed_same same hc
  have hcycle : hasCycle (sharingGraph σ (buildAgents cfgs)) = hasCycle (sharingGraph σ' (buildAgents cfgs')) :=
    hasCycle_congr (fun u v => by
      rw [sharingGraph_nbrs_iff σ hσ, sharingGraph_nbrs_iff σ' hσ', nbrs_depGraph, nbrs_depGraph, same u])
  obtain ⟨hcyc, hok⟩ := fromConfig_spec σ hσ cfgs
  obtain ⟨hcyc', hok'⟩ := fromConfig_spec σ' hσ' cfgs'
  cases hb : hasCycle (sharingGraph σ (buildAgents cfgs)) with
  | true => exact Or.inl ⟨hcyc hb, hcyc' (hcycle ▸ hb)⟩
  | false =>
    obtain ⟨e1, w1⟩ := hok hb hc
    obtain ⟨e2, w2⟩ := hok' (hcycle ▸ hb) hc'
    exact Or.inr ⟨_, _, e1, e2, w1, w2, fun steps => run_same steps _ _ w1 w2 same⟩

/-- **Every share is an arc.** The graph handed to `graph_has_cycle` / `topological_sort` has, for every agent, exactly the
names of its shared-reward components as neighbours — the first, a middle and the last one alike, repeated names once or
more — whatever the iteration order of the set. (A graph that records only some of an agent's shares is not this graph:
the rig compares the real dictionary with the declared shares on every load.) -/
theorem C10_every_share_is_an_arc (σ : List Name → List Name) (hσ : SetLike σ) (as : List (Name × Agent))
    (u : Name) (a : Agent) (ha : as.lookup u = some a) (v : Name) :
    v ∈ nbrs (sharingGraph σ as) u ↔ ∃ w, (Comp.shared v, w) ∈ a.comps := by
  rw [nbrs_sharingGraph, ha]
  exact (hσ _ v).trans mem_sharedNames_iff

/-- **Every share is evaluated first.** In a game loaded by `from_config` (any neighbour-set order), and after any run of
steps, an agent with any number of shared-reward components is evaluated after *each* of the agents it shares from —
not only after the one named by its last component. -/
theorem C10_every_share_evaluated_before (σ : List Name → List Name) (hσ : SetLike σ) (cfgs : List AgentCfg) (g : Game)
    (hload : fromConfig σ cfgs = .ok g) (hc : Closed (buildAgents cfgs))
    (n v : Name) (a : Agent) (w : Val) (ha : g.agents.lookup n = some a) (hv : (Comp.shared v, w) ∈ a.comps) :
    v ∈ g.order ∧ n ∈ g.order ∧ g.order.idxOf v < g.order.idxOf n := by
  obtain ⟨_, _, rfl, wf⟩ := fromConfig_ok_inv σ hσ cfgs hload
  have h := shared_mem_order wf ha (mem_sharedNames_iff.mpr ⟨w, hv⟩)
  exact ⟨h.1, (wf.orderMem n).mpr (lookup_some_mem_keys ha), h.2⟩

/-- The oracle the driver hands to `fromConfig` is `SetLike` for EVERY table of observations the rig may send, so each
model run the implementation is compared with lies inside the hypotheses of the theorems above: an observed neighbour
collection that is not the set of the agent's shares is never copied into the model. -/
theorem C10_sigmaOf_setLike (table : List (List Name × List Name)) : SetLike (sigmaOf table) := by
  intro l x
  unfold sigmaOf
  split
  · split
    · rename_i o _ h
      simp only [Bool.and_eq_true, List.all_eq_true, decide_eq_true_eq] at h
      exact ⟨fun hx => h.1 x hx, fun hx => h.2 x hx⟩
    · exact List.mem_eraseDups
  · exact List.mem_eraseDups

/-- A component configured with weight 0 is switched off: it contributes nothing to the step reward, whatever it
evaluates to (its memory still advances). Negative weights are covered by `C10_weighted_sum` like any other. -/
theorem C10_zero_weight_contributes_nothing (s : SimState) (it : Item) (cur : Name → Val) (c : Comp)
    (pre post : List (Comp × Val)) :
    (updateComps s it cur 0 (pre ++ (c, 0) :: post)).1 = (updateComps s it cur 0 (pre ++ post)).1 := by
  rw [C10_weighted_sum, C10_weighted_sum]
  simp [Rat.zero_mul, Rat.zero_add]

/-- From a loaded game, after any run of steps: every agent has one history item per step, each carrying that step's
reward, the newest equal to `current_reward`, and `total_reward` is their sum. -/
theorem C10_total_is_sum (σ : List Name → List Name) (hσ : SetLike σ) (cfgs : List AgentCfg) (g : Game)
    (hload : fromConfig σ cfgs = .ok g) (hc : Closed (buildAgents cfgs))
    (steps : List ((Name → Item) × SimState)) :
    ∃ g', run g steps = .ok g' ∧ g'.stepCounter = steps.length ∧
      ∀ n, n ∈ agentKeys g.agents → ∃ a', g'.agents.lookup n = some a' ∧
        a'.hist.length = steps.length ∧ (∀ e ∈ a'.hist, e.2 ≠ none) ∧
        a'.total = (histRewards a').sum ∧ (steps ≠ [] → (histRewards a').head? = some a'.current) := by
  obtain ⟨_, _, rfl, wf⟩ := fromConfig_ok_inv σ hσ cfgs hload
  obtain ⟨_, hfresh⟩ := buildAgents_inv cfgs
  have hbooked : ∀ n a, (buildAgents cfgs).lookup n = some a → Booked a ∧ a.hist = [] := by
    intro n a ha
    obtain ⟨_, ht, hh⟩ := hfresh (n, a) (mem_of_lookup_eq_some ha)
    simp only at ht hh
    exact ⟨⟨by rw [hh]; simp, by rw [ht]; simp [histRewards, hh], by rw [hh]; simp⟩, hh⟩
  obtain ⟨g', hrun, _, hs, _, hf⟩ := run_spec steps _ wf (fun n a h => (hbooked n a h).1)
  refine ⟨g', hrun, by rw [hs]; simp, ?_⟩
  intro n hn
  obtain ⟨a, ha⟩ := mem_keys_lookup hn
  obtain ⟨a', ha', hb', hl'⟩ := hf n a ha
  refine ⟨a', ha', by rw [hl', (hbooked n a ha).2]; simp, hb'.allSaved, hb'.total, ?_⟩
  intro hne
  apply hb'.current
  intro h0
  rw [h0, (hbooked n a ha).2] at hl'
  simp at hl'
  exact hne (List.eq_nil_of_length_eq_zero hl'.symm)

/-! The memory cell shared by the three sticky components: a step either carries a *qualifying event* with a fresh value
(`some v`) or not (`none`). -/

def stickyStep (sticky : Bool) (mem : Val) : Option Val → Val
  | some v => v
  | none => if sticky then mem else 0

def stickyRun (sticky : Bool) : Val → List (Option Val) → Val
  | m, [] => m
  | m, e :: es => stickyRun sticky (stickyStep sticky m e) es

theorem stickyRun_append (sticky : Bool) (m : Val) (es fs : List (Option Val)) :
    stickyRun sticky m (es ++ fs) = stickyRun sticky (stickyRun sticky m es) fs := by
  induction es generalizing m with
  | nil => rfl
  | cons e es ih => simp only [List.cons_append, stickyRun]; exact ih _

/-- a sticky component keeps its last value through any number of steps without qualifying event -/
theorem C10_sticky_holds (m : Val) (es : List (Option Val)) (k : Nat) :
    stickyRun true m (es ++ List.replicate k none) = stickyRun true m es := by
  rw [stickyRun_append]
  induction k with
  | zero => rfl
  | succ k ih => simp only [List.replicate_succ, stickyRun, stickyStep, if_true]; exact ih

/-- the next qualifying event replaces the value, sticky or not, whatever was remembered -/
theorem C10_sticky_event (sticky : Bool) (m : Val) (es : List (Option Val)) (v : Val) :
    stickyRun sticky m (es ++ [some v]) = v := by
  rw [stickyRun_append]; rfl

/-- a non-sticky component is back at zero after any step without qualifying event -/
theorem C10_nonsticky_zero (m : Val) (es : List (Option Val)) :
    stickyRun false m (es ++ [none]) = 0 := by
  rw [stickyRun_append]; rfl

/-- qualifying event of `GreenAdminDatabaseUnreachablePenalty`: the agent's latest request is the database-client
execute on the configured node; fresh value ±1 by the response status -/
def greenDbEvent (it : Item) (node : Name) : Option Val :=
  if it.requestIs (dbClientRequest node) then some (if it.ok then 1 else -1) else none

theorem C10_greenDb_is_sticky_cell (it : Item) (node : Name) (sticky : Bool) (mem : Val) :
    calcGreenDb it node sticky mem = stickyStep sticky mem (greenDbEvent it node) := by
  unfold calcGreenDb greenDbEvent stickyStep
  by_cases h : it.requestIs (dbClientRequest node) = true
  · simp [h]
  · cases sticky <;> simp [h]

/-- qualifying event of `WebpageUnavailablePenalty` (as repaired), given the leaf `access state location_in_state` and the
value the recomputation yields when it does not raise: the agent's latest request is the web-browser execute on the
configured node; a browser that is absent from the state also resets the cell to 0 -/
def webpageEvent (leaf : PyVal) (it : Item) (node : Name) (fresh : Val) : Option Val :=
  if it.requestIs (browserRequest node) then some fresh
  else if leaf.isNotPresent then some 0 else none

theorem C10_webpage_is_sticky_cell (s : SimState) (it : Item) (node : Name) (sticky : Bool) (mem : Val) (leaf : PyVal)
    (hleaf : PyVal.access s (webpageLoc node) = .ok leaf) (fresh : Val)
    (hfresh : it.requestIs (browserRequest node) = true → webpageFreshE leaf it = .ok fresh) :
    calcWebpageE s it node sticky mem = .ok (stickyStep sticky mem (webpageEvent leaf it node fresh)) := by
  unfold calcWebpageE webpageEvent stickyStep
  rw [hleaf]
  by_cases h : it.requestIs (browserRequest node) = true
  · simp [h, hfresh h]
  · cases hb : leaf.isNotPresent <;> cases sticky <;> simp [h, hb]

/-- `WebServer404Penalty` while the service is present in the state with a `response_codes_this_timestep` of an accepted
shape: qualifying event = truthy codes; value and memory coincide and follow the cell -/
def web404Event (codes : PyVal) (avg : Val) : Option Val := if codes.truthy then some avg else none

theorem C10_web404_is_sticky_cell (s : SimState) (node service : Name) (sticky : Bool) (mem : Val) (leaf codes : PyVal)
    (hleaf : PyVal.access s (web404Loc node service) = .ok leaf) (hp : leaf.isNotPresent = false)
    (hc : leaf.get "response_codes_this_timestep" = .ok codes) (avg : Val)
    (havg : codes.truthy = true → PyVal.avgTable status2rewTable 0 codes = .ok avg) :
    calcWeb404E s node service sticky mem =
      .ok (stickyStep sticky mem (web404Event codes avg), stickyStep sticky mem (web404Event codes avg)) := by
  unfold calcWeb404E web404Event stickyStep
  rw [hleaf]
  simp only [hp, Bool.false_eq_true, if_false, hc]
  by_cases h : codes.truthy = true
  · simp [h, havg h]
  · cases sticky <;> simp [h]

/-- … and while the service is absent from the state (not installed): the value is 0 and the memory is untouched -/
theorem C10_web404_absent (s : SimState) (node service : Name) (sticky : Bool) (mem : Val)
    (hp : PyVal.access s (web404Loc node service) = .ok .notPresent) : calcWeb404E s node service sticky mem = .ok (0, mem) := by
  unfold calcWeb404E; rw [hp]; rfl

/-- the three components' memories are threaded through the steps by `calcCompE` exactly as the cells above:
value returned = memory stored (for the two request-driven components always; for the 404 component when present) -/
theorem C10_component_memory (s : SimState) (it : Item) (cur : Name → Val) :
    (∀ n st m, calcCompE s it cur (.greenDb n st m) =
        .ok (stickyStep st m (greenDbEvent it n), .greenDb n st (stickyStep st m (greenDbEvent it n)))) ∧
    (∀ n st m v, calcWebpageE s it n st m = .ok v → calcCompE s it cur (.webpage n st m) = .ok (v, .webpage n st v)) ∧
    (∀ n sv st m r, calcWeb404E s n sv st m = .ok r → calcCompE s it cur (.web404 n sv st m) = .ok (r.1, .web404 n sv st r.2)) := by
  refine ⟨?_, ?_, ?_⟩
  · intro n st m; simp [calcCompE, C10_greenDb_is_sticky_cell]
  · intro n st m v h; simp [calcCompE, h, Except.map]
  · intro n sv st m r h; simp [calcCompE, h, Except.map]

/-- F-18, the code before the repair: a non-sticky `WebpageUnavailablePenalty` that showed 1.0 does *not* return to 0 on a
step without a new request — it re-reads the browser's last outcome (stays 1.0), and turns −1.0 when the unrelated action
of that step fails. (Witness replayed on the implementation by corpus/C10/f18_0.json.) -/
theorem C10_F18_asWritten_counterexample :
    let s : SimState := .dict [(.str "network", .dict [(.str "nodes", .dict [(.str "pc1", .dict [(.str "applications",
      .dict [(.str "web-browser", .dict [(.str "history", .list [.dict [(.str "url", .str "http://x"), (.str "outcome", .int 200)]])])])])])])]
    let idle : Item := { action := "do-nothing", request := .list [.str "do-nothing"], status := "success" }
    let failing : Item := { action := "x", request := .list [.str "network", .str "node", .str "pc2", .str "service",
      .str "dns-server", .str "stop"], status := "failure" }
    (calcWebpageAsWrittenE s idle "pc1" false 1).toOption = some 1 ∧
    (calcWebpageAsWrittenE s failing "pc1" false 1).toOption = some (-1) ∧
    (calcWebpageE s idle "pc1" false 1).toOption = some 0 := by
  decide +kernel

/-- literal defaults the model and the driver use: sticky flags, initial memories, `ActionPenalty`'s penalties, the start
values of `current_reward` / `total_reward`, and the registry of component types (a new registered component class is a
component the model does not know) -/
theorem C10_gen_defaults :
    Gen.Reward.stickyDefaults = [("WebServer404Penalty", true), ("WebpageUnavailablePenalty", true),
                                 ("GreenAdminDatabaseUnreachablePenalty", true)] ∧
    Gen.Reward.memoryDefaults.all (fun p => p.2 == 0) = true ∧
    Gen.Reward.actionPenaltyDefaults = [("action_penalty", -1), ("do_nothing_penalty", 0)] ∧
    Gen.Reward.rewardStarts = [("current_reward", ({ comps := [] } : Agent).current), ("total_reward", ({ comps := [] } : Agent).total)] ∧
    Gen.Reward.componentTypes = [("DummyReward", "dummy"), ("DatabaseFileIntegrity", "database-file-integrity"),
      ("WebServer404Penalty", "web-server-404-penalty"), ("WebpageUnavailablePenalty", "webpage-unavailable-penalty"),
      ("GreenAdminDatabaseUnreachablePenalty", "green-admin-database-unreachable-penalty"), ("SharedReward", "shared-reward"),
      ("ActionPenalty", "action-penalty")] :=
  ⟨rfl, by decide, rfl, rfl, rfl⟩

/-- text-shape flag of the two one-line agent methods (recomputed from the source on every run; deliberately blunt — their
semantic tie is the differential rig) -/
theorem C10_gen_shape : Gen.Reward.agentRewardPlumbing = true := by
  decide

/-- with exactly one `add` per shared component, the names added to an agent's set are its shared names in component order -/
theorem insertedNames_eq (ops : List SOp) (h : ∀ a : Name, addsOf a ops = [a]) (comps : List (Comp × Val)) :
    insertedNames ops comps = sharedNames comps := by
  induction comps with
  | nil => rfl
  | cons c rest ih =>
    obtain ⟨c, w⟩ := c
    cases c <;> simp [insertedNames, sharedNames, ih, h]

/-- **`setup_reward_sharing` as extracted from the source IS the model's**: for every set-iteration oracle `σ` and every dict of
agents, running the extracted statements (one set per agent; for every `SharedReward` component the extracted `add` / callback
statements; then the extracted tail) raises the cycle error exactly when `hasCycle (sharingGraph σ as)`, otherwise leaves
`topoSort (sharingGraph σ as)` in `_reward_calculation_order` — what `fromConfig` does; and every shared component gets the
callback reading `current_reward`. -/
theorem C10_gen_setup_reward_sharing (σ : List Name → List Name) (as : List (Name × Agent)) :
    setupProg σ Gen.Reward.setupSharingProgram as =
      (if hasCycle (sharingGraph σ as) then .error .cycle else .ok (topoSort (sharingGraph σ as))) ∧
    SOp.setCallback ∈ Gen.Reward.setupSharingProgram.perShared := by
  have hadds : ∀ a : Name, addsOf a Gen.Reward.setupSharingProgram.perShared = [a] := by
    intro a; simp [Gen.Reward.setupSharingProgram, addsOf]
  have hg : progGraph σ Gen.Reward.setupSharingProgram as = sharingGraph σ as := by
    simp only [progGraph, sharingGraph, insertedNames_eq _ hadds]
  refine ⟨?_, by decide⟩
  simp only [setupProg, hg]
  cases hc : hasCycle (sharingGraph σ as) <;> simp [Gen.Reward.setupSharingProgram, runTail, hc]

/-- the same, as `fromConfig` uses it -/
theorem C10_gen_setup_reward_sharing_fromConfig (σ : List Name → List Name) (cfgs : List AgentCfg) :
    fromConfig σ cfgs =
      match setupProg σ Gen.Reward.setupSharingProgram (buildAgents cfgs) with
      | .error e => .error e
      | .ok order => updateAgents (.dict []) { agents := buildAgents cfgs, order := order, stepCounter := 0 } := by
  rw [(C10_gen_setup_reward_sharing σ (buildAgents cfgs)).1]
  simp only [fromConfig]
  cases hasCycle (sharingGraph σ (buildAgents cfgs)) <;> simp

/-! a program that is NOT `setup_reward_sharing` is told apart: no cycle check (a 2-cycle loads); the order never assigned -/
example : (setupProg id { perShared := [.addArc, .setCallback], tail := [.assignOrder] }
    [("a", { comps := [(.shared "b", 1)] }), ("b", { comps := [(.shared "a", 1)] })]).toOption = some ["b", "a"] := by decide +kernel
example : (match setupProg id { perShared := [.addArc, .setCallback], tail := [.raiseIfCycle] }
    [("a", { comps := [(.shared "b", 1)] }), ("b", { comps := [] })] with | .error e => some e | .ok _ => none) = some .attributeError := by decide +kernel

/-- **the three `step` methods, as extracted on this run, compute the rewards on the post-step state and return them**: in the
first step of an episode and in every later one there is exactly one simulator tick, `update_agents` runs exactly once and on a
`get_sim_state()` snapshot taken AFTER that tick, and the two environments return `current_reward` (not the total), read once and
AFTER `update_agents` (`pipeOK`, Model/Reward.lean). -/
theorem C10_gen_step_pipelines :
    Gen.Reward.stepPipelines.map (·.1) = ["PrimaiteGame.step", "PrimaiteGymEnv.step", "PrimaiteRayMARLEnv.step"] ∧
    Gen.Reward.stepPipelines.map (·.2.1) = [false, true, true] ∧
    Gen.Reward.stepPipelines.all (fun p => pipeOK p.2.1 p.2.2) = true :=
  ⟨rfl, rfl, by decide⟩

/-! `pipeOK` tells the wrong pipelines apart: rewards on the snapshot taken before the tick; the returned reward read before
`update_agents`; the total returned; `update_agents` only in the first step; rewards on a snapshot that only the first step takes. -/
example : pipeOK false [(false, .applyActions), (false, .getState "s"), (false, .advance), (false, .updateAgents "s")] = false := by decide
example : pipeOK true [(false, .advance), (false, .getState "s"), (false, .readReward false), (false, .updateAgents "s")] = false := by decide
example : pipeOK true [(false, .advance), (false, .getState "s"), (false, .updateAgents "s"), (false, .readReward true)] = false := by decide
example : pipeOK false [(false, .advance), (true, .getState "s"), (true, .updateAgents "s")] = false := by decide
example : pipeOK false [(true, .getState "s0"), (false, .advance), (false, .getState "s"), (false, .updateAgents "s0")] = false := by decide

/-- a component whose configuration omits `weight` is registered with the model's default, and `RewardFunction.__init__`
passes the configured weight to `register_component` unchanged -/
theorem C10_gen_default_weight :
    Gen.Reward.defaultWeight = some defaultWeight ∧ Gen.Reward.registerDefaultWeight = some defaultWeight ∧
    Gen.Reward.weightPassedUnchanged = true := by
  decide

/-! Non-vacuity: concrete non-trivial instances of the hypotheses used above. -/

def exCfgs : List AgentCfg :=
  [ { ref := "blue", comps := [(.shared "g1", 1), (.shared "g2", 1/2), (.actionPenalty (-1) (1/4), 1)] },
    { ref := "g2", comps := [(.webpage "pc2" false 0, 1), (.shared "g1", 1/4)] },
    { ref := "g1", comps := [(.greenDb "pc1" true 0, 3/4), (.web404 "srv" "web-server" true 0, 1)] } ]

/-- `SetLike` is inhabited by the identity and by reversal (a different iteration order). -/
example : SetLike id ∧ SetLike List.reverse := ⟨fun _ _ => Iff.rfl, fun _ _ => List.mem_reverse⟩

/-- the example configuration is closed, acyclic, has distinct refs; it loads, dependants declared first, and the
evaluation order puts dependencies first -/
example : (exCfgs.map (·.ref)).Nodup := by decide
example : (fromConfig id exCfgs).toOption.map (·.order) = some ["g1", "g2", "blue"] := by decide +kernel
example : (fromConfig List.reverse exCfgs.reverse).toOption.map (·.order) = some ["g1", "g2", "blue"] := by decide +kernel
example : hasCycle (sharingGraph id (buildAgents exCfgs)) = false := by decide +kernel

/-- a cyclic configuration (g1 shares from blue as well) is rejected -/
example : (match fromConfig id (exCfgs ++ [{ ref := "g1", comps := [(.shared "blue", 1)] }]) with
    | .error .cycle => true | _ => false) = true := by decide +kernel

/-- a step on the loaded example: g1 queries the database successfully (+1 · 3/4, and 404s average −1), g2 does nothing,
blue acts; blue's reward uses g1's and g2's rewards *of this step*: 1·(−1/4) + 1/2·(−1/16) + 1·(−1) -/
example :
    ((fromConfig id exCfgs).toOption.bind (fun g =>
      (gameStepE g (fun n => if n = "g1" then { action := "x", request := PyVal.strs (dbClientRequest "pc1"), status := "success" }
                            else if n = "blue" then { action := "y", request := .list [.str "y"], status := "success" }
                            else { action := "do-nothing", request := .list [.str "do-nothing"], status := "success" })
        (.dict [(.str "network", .dict [(.str "nodes", .dict [
          (.str "srv", .dict [(.str "services", .dict [(.str "web-server", .dict [(.str "response_codes_this_timestep", .list [.int 404, .int 404])])])]),
          (.str "pc2", .dict [(.str "applications", .dict [(.str "web-browser", .dict [(.str "history", .list [])])])])])])])).toOption)).map
      (fun g => g.agents.map (fun p => (p.1, p.2.current)))
      = some [("blue", -41/32), ("g2", -1/16), ("g1", -1/4)] := by decide +kernel

/-- an agent with three shared-reward components, the same agent named twice, declared before everything it shares
from: every share is an arc, the order puts all of them first, and a cycle through the FIRST-listed share is rejected -/
def exMulti : List AgentCfg :=
  [ { ref := "hub", comps := [(.shared "x", 1/2), (.actionPenalty (-1) (1/4), 1), (.shared "y", -1), (.shared "x", 1/4), (.shared "z", 0)] },
    { ref := "z", comps := [(.actionPenalty (-1/2) (1/8), defaultWeight)] },
    { ref := "y", comps := [(.shared "z", 1)] },
    { ref := "x", comps := [(.shared "y", 3/4)] } ]
example : (fromConfig (sigmaOf []) exMulti).toOption.map (·.order) = some ["z", "y", "x", "hub"] := by decide +kernel
example : (fromConfig (sigmaOf [(["x", "y", "x", "z"], ["z", "x", "y"])]) exMulti).toOption.map (·.order)
    = some ["z", "y", "x", "hub"] := by decide +kernel
/-- an observation that lost a name is not followed (the order still has `x` before `hub`) -/
example : sigmaOf [(["x", "y", "x", "z"], ["z"])] ["x", "y", "x", "z"] = ["x", "y", "z"] := by decide
example : (match fromConfig (sigmaOf []) (exMulti ++ [{ ref := "x", comps := [(.shared "hub", 1)] }]) with
    | .error .cycle => true | _ => false) = true := by decide +kernel

end Primaite.Reward
