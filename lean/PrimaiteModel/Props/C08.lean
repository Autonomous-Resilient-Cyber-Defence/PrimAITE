/-
C08 — packets reach exactly their addressee via best routes, and forwarding ends.
Part 1: route selection (`Model/Route.lean`).  Forwarding, TTL and ARP: `Props/C08Forward.lean`.
-/
import PrimaiteModel.Model.Route
namespace Primaite.Route

/-- route `r` is usable for `dst` and its network has prefix length `p`
(`IPv4Network(addr/mask, strict=False)` exists with `prefixlen = p` and contains `dst`). -/
def Covers (dst : Ip) (r : Route) (p : Nat) : Prop := maskPrefix r.mask = some p ∧ inNet dst r.addr p = true

instance (dst : Ip) (r : Route) (p : Nat) : Decidable (Covers dst r p) := by unfold Covers; infer_instance

/-- every mask in the table is a netmask or a hostmask (so `IPv4Network(...)` never raises). -/
def ValidMasks (rs : List Route) : Prop := ∀ r ∈ rs, maskPrefix r.mask ≠ none

/-- `(p, m, i)` is at least as good as `(p', m', j)`: longer prefix, else lower metric, else earlier position. -/
def Better (p : Nat) (m : Int) (i : Nat) (p' : Nat) (m' : Int) (j : Nat) : Prop :=
  p' < p ∨ (p' = p ∧ m < m') ∨ (p' = p ∧ m = m' ∧ i ≤ j)

/-- loop invariant of `find_best_route` after the routes `pre` have been visited. -/
structure Inv (dst : Ip) (pre : List Route) (acc : Acc) : Prop where
  none_case : acc.best = none →
    acc.longest = -1 ∧ acc.lowest = none ∧ ∀ (j : Nat) (r : Route) (p : Nat), pre[j]? = some r → ¬ Covers dst r p
  some_case : ∀ (i : Nat) (r : Route), acc.best = some (i, r) →
    pre[i]? = some r ∧ ∃ p : Nat, Covers dst r p ∧ acc.longest = (p : Int) ∧ acc.lowest = some r.metric ∧
      ∀ (j : Nat) (r' : Route) (p' : Nat), pre[j]? = some r' → Covers dst r' p' → Better p r.metric i p' r'.metric j

theorem inv_init (dst : Ip) : Inv dst [] {} := by
  constructor
  · intro _; exact ⟨rfl, rfl, by intro j r p h; simp at h⟩
  · intro i r h; simp at h

theorem iter_none_iff (dst : Ip) (acc : Acc) (i : Nat) (r : Route) :
    iter dst acc i r = none ↔ maskPrefix r.mask = none := by
  unfold iter
  cases h : maskPrefix r.mask with
  | none => simp
  | some p =>
    simp only [reduceCtorEq, iff_false]
    split <;> (try split) <;> simp

theorem getElem?_snoc_cases {α} (pre : List α) (x : α) (j : Nat) (y : α) (h : (pre ++ [x])[j]? = some y) :
    pre[j]? = some y ∨ (j = pre.length ∧ y = x) := by
  rcases Nat.lt_trichotomy j pre.length with hj | rfl | hj
  · exact Or.inl (by rwa [List.getElem?_append_left hj] at h)
  · exact Or.inr ⟨rfl, by simpa using h.symm⟩
  · rw [List.getElem?_eq_none (by simp; omega)] at h; cases h

theorem covers_prefix {dst : Ip} {r : Route} {p p' : Nat} (hm : maskPrefix r.mask = some p) (hc : Covers dst r p') : p' = p := by
  have := hc.1
  rw [hm] at this
  exact (Option.some.inj this).symm

theorem Inv.snoc {dst : Ip} {pre : List Route} {acc : Acc} (r : Route) (hI : Inv dst pre acc)
    (hr : ∀ p', Covers dst r p' → ∃ i0 r0 p0, acc.best = some (i0, r0) ∧ Covers dst r0 p0 ∧
      Better p0 r0.metric i0 p' r.metric pre.length) : Inv dst (pre ++ [r]) acc := by
  constructor
  · intro hb
    obtain ⟨hl, hlo, hno⟩ := hI.none_case hb
    refine ⟨hl, hlo, fun j r' p' hj hcov => ?_⟩
    rcases getElem?_snoc_cases pre r j r' hj with hj' | ⟨rfl, rfl⟩
    · exact hno j r' p' hj' hcov
    · obtain ⟨i0, r0, p0, hb0, _⟩ := hr p' hcov
      rw [hb] at hb0
      cases hb0
  · intro i r1 hb
    obtain ⟨hget, p0, hcov0, hl, hlo, hall⟩ := hI.some_case i r1 hb
    refine ⟨(List.getElem?_append_left (List.getElem?_eq_some_iff.1 hget).1).trans hget, p0, hcov0, hl, hlo,
      fun j r' p' hj hcov => ?_⟩
    rcases getElem?_snoc_cases pre r j r' hj with hj' | ⟨rfl, rfl⟩
    · exact hall j r' p' hj' hcov
    · obtain ⟨i0, r0, p1, hb0, hc1, hbet⟩ := hr p' hcov
      rw [hb] at hb0
      cases hb0
      obtain rfl := covers_prefix hcov0.1 hc1
      exact hbet

theorem iter_inv (dst : Ip) (pre : List Route) (acc acc' : Acc) (r : Route)
    (hI : Inv dst pre acc) (h : iter dst acc pre.length r = some acc') : Inv dst (pre ++ [r]) acc' := by
  unfold iter at h
  cases hm : maskPrefix r.mask with
  | none => simp [hm] at h
  | some p =>
    simp only [hm] at h
    by_cases hin : inNet dst r.addr p = true
    · simp only [hin, if_true] at h
      by_cases hc : betterCond p acc.longest r.metric acc.lowest = true
      · rw [if_pos hc] at h
        have h' : acc' = { best := some (pre.length, r), longest := p, lowest := some r.metric } := by
          simpa using h.symm
        subst h'
        constructor
        · intro hb; simp at hb
        · intro i r0 hb
          simp only [Option.some.injEq, Prod.mk.injEq] at hb
          have hi : i = pre.length := hb.1.symm
          have hr : r0 = r := hb.2.symm
          rw [hi, hr]
          refine ⟨by simp, p, ⟨hm, hin⟩, rfl, rfl, ?_⟩
          intro j r' p' hj hcov
          rcases getElem?_snoc_cases pre r j r' hj with hj' | ⟨rfl, rfl⟩
          · cases hb0 : acc.best with
            | none => exact absurd hcov ((hI.none_case hb0).2.2 j r' p' hj')
            | some ir =>
              obtain ⟨i0, r0'⟩ := ir
              obtain ⟨_, p0, _, hl, hlo, hall⟩ := hI.some_case i0 r0' hb0
              have hb := hall j r' p' hj' hcov
              simp only [betterCond, Bool.or_eq_true, decide_eq_true_eq, Bool.and_eq_true, beq_iff_eq, hl, hlo, ltLowest] at hc
              unfold Better at hb ⊢
              omega
          · obtain rfl := covers_prefix hm hcov
            right; right; exact ⟨rfl, rfl, Nat.le_refl _⟩
      · rw [if_neg hc] at h
        obtain rfl : acc = acc' := by simpa using h
        refine hI.snoc r fun p' hcov => ?_
        obtain rfl := covers_prefix hm hcov
        cases hb0 : acc.best with
        | none =>
          obtain ⟨hl, hlo, _⟩ := hI.none_case hb0
          exfalso; apply hc
          simp [betterCond, hl]
          omega
        | some ir =>
          obtain ⟨i0, r0⟩ := ir
          obtain ⟨hget, p0, hcov0, hl, hlo, _⟩ := hI.some_case i0 r0 hb0
          have hi0 : i0 < pre.length := (List.getElem?_eq_some_iff.1 hget).1
          refine ⟨i0, r0, p0, rfl, hcov0, ?_⟩
          simp only [betterCond, Bool.or_eq_true, decide_eq_true_eq, Bool.and_eq_true, beq_iff_eq, hl, hlo, ltLowest, not_or,
            not_and] at hc
          unfold Better
          omega
    · simp only [hin, Bool.false_eq_true, if_false] at h
      obtain rfl : acc = acc' := by simpa using h
      refine hI.snoc r fun p' hcov => ?_
      obtain rfl := covers_prefix hm hcov
      exact absurd hcov.2 hin

theorem scan_inv (dst : Ip) (rs pre : List Route) (acc acc' : Acc)
    (hI : Inv dst pre acc) (h : scan dst rs pre.length acc = some acc') : Inv dst (pre ++ rs) acc' := by
  induction rs generalizing pre acc with
  | nil => simp only [scan, Option.some.injEq] at h; subst h; simpa using hI
  | cons r rs ih =>
    simp only [scan] at h
    cases hit : iter dst acc pre.length r with
    | none => simp [hit] at h
    | some acc1 =>
      simp only [hit] at h
      have := ih (pre ++ [r]) acc1 (iter_inv dst pre acc acc1 r hI hit) (by simpa using h)
      simpa using this

theorem scan_none_iff (dst : Ip) (rs : List Route) (i : Nat) (acc : Acc) :
    scan dst rs i acc = none ↔ ∃ r ∈ rs, maskPrefix r.mask = none := by
  induction rs generalizing i acc with
  | nil => simp [scan]
  | cons r rs ih =>
    simp only [scan]
    cases hit : iter dst acc i r with
    | none =>
      have := (iter_none_iff dst acc i r).1 hit
      simp [this]
    | some acc1 =>
      have hne : maskPrefix r.mask ≠ none := fun hn => by
        rw [(iter_none_iff dst acc i r).2 hn] at hit; simp at hit
      simp only [ih, List.mem_cons, exists_eq_or_imp, hne, false_or]

theorem find_inv (t : Table) (dst : Ip) (acc : Acc) (h : scan dst t.routes 0 {} = some acc) :
    Inv dst t.routes acc := by
  have := scan_inv dst t.routes [] {} acc (inv_init dst) (by simpa using h)
  simpa using this

theorem find_eq_of_scan (t : Table) (dst : Ip) (acc : Acc) (hs : scan dst t.routes 0 {} = some acc) :
    findBestRoute t dst =
      (match acc.best with
       | some (i, r) => .route i r
       | none => match t.default with
         | some nh => .default nh
         | none => .noRoute) := by
  unfold findBestRoute; rw [hs]; rfl

theorem best_spec (t : Table) (dst : Ip) (i : Nat) (r : Route) (h : findBestRoute t dst = .route i r) :
    t.routes[i]? = some r ∧ ∃ p, Covers dst r p ∧ ∀ (j : Nat) (r' : Route) (p' : Nat), t.routes[j]? = some r' →
      Covers dst r' p' → Better p r.metric i p' r'.metric j := by
  unfold findBestRoute at h
  cases hs : scan dst t.routes 0 {} with
  | none => simp [hs] at h
  | some acc =>
    simp only [hs] at h
    cases hb : acc.best with
    | none => simp only [hb] at h; split at h <;> simp at h
    | some ir =>
      obtain ⟨i0, r0⟩ := ir
      simp only [hb, Result.route.injEq] at h
      obtain ⟨rfl, rfl⟩ := h
      obtain ⟨hget, p, hcov, _, _, hall⟩ := (find_inv t dst acc hs).some_case i0 r0 hb
      exact ⟨hget, p, hcov, hall⟩

/-- The chosen route is an entry of the table (at the reported position) whose network contains the destination. -/
theorem C08_best_matches (t : Table) (dst : Ip) (i : Nat) (r : Route)
    (h : findBestRoute t dst = .route i r) : t.routes[i]? = some r ∧ ∃ p, Covers dst r p :=
  let ⟨hget, p, hcov, _⟩ := best_spec t dst i r h
  ⟨hget, p, hcov⟩

/-- Longest prefix match: no route containing the destination has a longer prefix than the chosen one. -/
theorem C08_best_longest (t : Table) (dst : Ip) (i : Nat) (r : Route) (p : Nat)
    (h : findBestRoute t dst = .route i r) (hp : Covers dst r p) :
    ∀ r' ∈ t.routes, ∀ p', Covers dst r' p' → p' ≤ p := by
  obtain ⟨_, p0, hcov, hall⟩ := best_spec t dst i r h
  obtain rfl := covers_prefix hp.1 hcov
  intro r' hr' p' hc'
  obtain ⟨j, hj⟩ := List.getElem?_of_mem hr'
  have := hall j r' p' hj hc'
  unfold Better at this; omega

/-- Among the routes with the same (longest) prefix the chosen one has the lowest metric. -/
theorem C08_best_cheapest (t : Table) (dst : Ip) (i : Nat) (r : Route) (p : Nat)
    (h : findBestRoute t dst = .route i r) (hp : Covers dst r p) :
    ∀ r' ∈ t.routes, Covers dst r' p → r.metric ≤ r'.metric := by
  obtain ⟨_, p0, hcov, hall⟩ := best_spec t dst i r h
  obtain rfl := covers_prefix hp.1 hcov
  intro r' hr' hc'
  obtain ⟨j, hj⟩ := List.getElem?_of_mem hr'
  have := hall j r' p0 hj hc'
  unfold Better at this; omega

/-- Ties on prefix and metric go to the earliest entry: every earlier route containing the destination is strictly
worse (shorter prefix, or same prefix and strictly higher metric). -/
theorem C08_first_among_equals (t : Table) (dst : Ip) (i : Nat) (r : Route) (p : Nat)
    (h : findBestRoute t dst = .route i r) (hp : Covers dst r p) :
    ∀ (j : Nat) (r' : Route) (p' : Nat), j < i → t.routes[j]? = some r' → Covers dst r' p' →
      p' < p ∨ (p' = p ∧ r.metric < r'.metric) := by
  obtain ⟨_, p0, hcov, hall⟩ := best_spec t dst i r h
  obtain rfl := covers_prefix hp.1 hcov
  intro j r' p' hji hj hc'
  have := hall j r' p' hj hc'
  unfold Better at this; omega

/-- The selection is a function of the table: two positions that both satisfy the specification coincide. -/
theorem C08_best_unique (t : Table) (dst : Ip) (i : Nat) (r : Route) (h : findBestRoute t dst = .route i r)
    (i' : Nat) (r' : Route) (p' : Nat) (hget : t.routes[i']? = some r') (hc : Covers dst r' p')
    (hbest : ∀ (j : Nat) (r'' : Route) (p'' : Nat), t.routes[j]? = some r'' → Covers dst r'' p'' →
      Better p' r'.metric i' p'' r''.metric j) : i' = i ∧ r' = r := by
  obtain ⟨hgi, p, hcov, hall⟩ := best_spec t dst i r h
  have h1 := hall i' r' p' hget hc
  have h2 := hbest i r p hgi hcov
  have : i' = i := by unfold Better at h1 h2; omega
  subst this
  rw [hgi] at hget
  exact ⟨rfl, by simpa using hget.symm⟩

/-- `IPv4Network(...)` raises out of `find_best_route` exactly when some entry's mask is neither netmask nor
hostmask. -/
theorem C08_raised_iff (t : Table) (dst : Ip) :
    findBestRoute t dst = .raised ↔ ∃ r ∈ t.routes, maskPrefix r.mask = none := by
  rw [← scan_none_iff dst t.routes 0 {}]
  cases hs : scan dst t.routes 0 {} with
  | none => unfold findBestRoute; simp [hs]
  | some acc =>
    rw [find_eq_of_scan t dst acc hs]
    simp only [reduceCtorEq, iff_false]
    cases hb : acc.best with
    | none => cases hd : t.default <;> simp
    | some ir => simp

theorem no_best_iff (t : Table) (dst : Ip) (acc : Acc) (hs : scan dst t.routes 0 {} = some acc) :
    acc.best = none ↔ ∀ r ∈ t.routes, ∀ p, ¬ Covers dst r p := by
  have hI := find_inv t dst acc hs
  constructor
  · intro hb r hr p
    obtain ⟨j, hj⟩ := List.getElem?_of_mem hr
    exact (hI.none_case hb).2.2 j r p hj
  · intro hno
    cases hb : acc.best with
    | none => rfl
    | some ir =>
      obtain ⟨i0, r0⟩ := ir
      obtain ⟨hget, p, hcov, _⟩ := hI.some_case i0 r0 hb
      exact absurd hcov (hno r0 (List.mem_of_getElem? hget) p)

theorem valid_of_scan (t : Table) (dst : Ip) (acc : Acc) (hs : scan dst t.routes 0 {} = some acc) :
    ValidMasks t.routes := by
  intro r hr hm
  have := (scan_none_iff dst t.routes 0 {}).2 ⟨r, hr, hm⟩
  rw [hs] at this; simp at this

/-- the three ways `find_best_route` ends: a mask raises; an entry contains the destination and one such entry is returned;
neither, and the answer is the default route, if there is one. -/
theorem find_cases (t : Table) (dst : Ip) :
    (findBestRoute t dst = .raised ∧ ¬ ValidMasks t.routes) ∨
    ((∃ i r, findBestRoute t dst = .route i r) ∧ ¬ ∀ r ∈ t.routes, ∀ p, ¬ Covers dst r p) ∨
    (findBestRoute t dst = (match t.default with | some nh => .default nh | none => .noRoute) ∧
      ValidMasks t.routes ∧ ∀ r ∈ t.routes, ∀ p, ¬ Covers dst r p) := by
  cases hs : scan dst t.routes 0 {} with
  | none =>
    obtain ⟨r, hr, hm⟩ := (scan_none_iff dst t.routes 0 {}).1 hs
    exact Or.inl ⟨by unfold findBestRoute; simp [hs], fun hv => hv r hr hm⟩
  | some acc =>
    have hnb := no_best_iff t dst acc hs
    rw [find_eq_of_scan t dst acc hs]
    cases hb : acc.best with
    | none => exact Or.inr (Or.inr ⟨rfl, valid_of_scan t dst acc hs, hnb.1 hb⟩)
    | some ir =>
      refine Or.inr (Or.inl ⟨⟨ir.1, ir.2, rfl⟩, fun hno => ?_⟩)
      have := hnb.2 hno
      rw [hb] at this
      cases this

/-- The default route is the answer exactly when it is configured, no mask raises, and no route contains the
destination ("last resort"). -/
theorem C08_default_iff (t : Table) (dst : Ip) (nh : Ip) :
    findBestRoute t dst = .default nh ↔
      ValidMasks t.routes ∧ (∀ r ∈ t.routes, ∀ p, ¬ Covers dst r p) ∧ t.default = some nh := by
  rcases find_cases t dst with ⟨h, hv⟩ | ⟨⟨i, r, h⟩, hc⟩ | ⟨h, hv, hu⟩
  · rw [h]
    simp only [reduceCtorEq, false_iff, not_and]
    exact fun hv' => absurd hv' hv
  · rw [h]
    simp only [reduceCtorEq, false_iff, not_and]
    exact fun _ hu => absurd hu hc
  · rw [h]
    cases hd : t.default with
    | none => simp
    | some d =>
      simp only [Result.default.injEq, Option.some.injEq]
      exact ⟨fun h => ⟨hv, hu, h⟩, fun h => h.2.2⟩

/-- `None` is returned exactly when nothing contains the destination and no default route is configured. -/
theorem C08_none_iff (t : Table) (dst : Ip) :
    findBestRoute t dst = .noRoute ↔
      ValidMasks t.routes ∧ (∀ r ∈ t.routes, ∀ p, ¬ Covers dst r p) ∧ t.default = none := by
  rcases find_cases t dst with ⟨h, hv⟩ | ⟨⟨i, r, h⟩, hc⟩ | ⟨h, hv, hu⟩
  · rw [h]
    simp only [reduceCtorEq, false_iff, not_and]
    exact fun hv' => absurd hv' hv
  · rw [h]
    simp only [reduceCtorEq, false_iff, not_and]
    exact fun _ hu => absurd hu hc
  · rw [h]
    cases hd : t.default with
    | none => simp only [true_iff, and_true]; exact ⟨hv, hu⟩
    | some d => simp

/-- A dedicated route always wins over the default route: if some entry contains the destination (and no mask
raises) the answer is a table entry. -/
theorem C08_route_when_covered (t : Table) (dst : Ip) (hv : ValidMasks t.routes)
    (hex : ∃ r ∈ t.routes, ∃ p, Covers dst r p) : ∃ i r, findBestRoute t dst = .route i r := by
  rcases find_cases t dst with ⟨_, hnv⟩ | ⟨h, _⟩ | ⟨_, _, hu⟩
  · exact absurd hv hnv
  · exact h
  · obtain ⟨r, hr, p, hc⟩ := hex
    exact absurd hc (hu r hr p)

theorem netmask_getLsbD (p i : Nat) (hp : p ≤ 32) (hi : i < 32) :
    (netmask p).getLsbD i = decide (32 - p ≤ i) := by
  unfold netmask
  rw [BitVec.getLsbD_shiftLeft]
  simp only [hi, decide_true, Bool.true_and, BitVec.getLsbD_allOnes]
  by_cases h : i < 32 - p
  · simp [h]; omega
  · have : i - (32 - p) < 32 := by omega
    simp [h, this]; omega

/-- `dst in IPv4Network(addr/p, strict=False)` is exactly "the top `p` bits of `dst` and `addr` agree" — host bits
of a non-canonical `addr` are irrelevant. -/
theorem C08_inNet_spec (dst addr : Ip) (p : Nat) (hp : p ≤ 32) :
    inNet dst addr p = true ↔ ∀ i : Nat, i < 32 → 32 - p ≤ i → dst.getLsbD i = addr.getLsbD i := by
  unfold inNet
  constructor
  · intro h i hi hpi
    have h' : (dst &&& netmask p) = (addr &&& netmask p) := by simpa using h
    have h2 := congrArg (fun v => v.getLsbD i) h'
    simp only [BitVec.getLsbD_and, netmask_getLsbD p i hp hi, hpi, decide_true, Bool.and_true] at h2
    exact h2
  · intro h
    have : (dst &&& netmask p) = (addr &&& netmask p) := by
      apply BitVec.eq_of_getLsbD_eq
      intro i hi
      simp only [BitVec.getLsbD_and, netmask_getLsbD p i hp hi]
      by_cases hpi : 32 - p ≤ i
      · simp [hpi, h i hi hpi]
      · simp [hpi]
    simp [this]

/-- a mask is accepted exactly when it (netmask spelling) or its complement (hostmask spelling) is `p` ones followed
by zeroes, `p ≤ 32`; the netmask reading wins. -/
theorem C08_maskPrefix_spec (m : Ip) (p : Nat) (h : maskPrefix m = some p) :
    p ≤ 32 ∧ (m = netmask p ∨ ~~~m = netmask p) := by
  unfold maskPrefix at h
  have key : ∀ (x : Ip) (q : Nat), prefixOfNetmask x = some q → q ≤ 32 ∧ x = netmask q := by
    intro x q hq
    unfold prefixOfNetmask at hq
    have h1 := List.find?_some hq
    have h2 := List.mem_of_find?_eq_some hq
    simp only [List.mem_range] at h2
    exact ⟨by omega, by have := h1; simp only [beq_iff_eq] at this; exact this.symm⟩
  cases hn : prefixOfNetmask m with
  | some q =>
    simp only [hn, Option.some.injEq] at h
    subst h
    exact ⟨(key m q hn).1, Or.inl (key m q hn).2⟩
  | none =>
    simp only [hn] at h
    exact ⟨(key _ p h).1, Or.inr (key _ p h).2⟩

/-- every prefix length has its netmask recognised (so `/0 … /32` networks never raise). -/
theorem C08_maskPrefix_netmask : ∀ p, p < 33 → maskPrefix (netmask p) = some p := by decide

def exTable : Table :=
  { routes := [
      { addr := 0x0A010000#32, mask := 0xFFFF0000#32, nextHop := 0x01010101#32, metric := 0 },   -- 10.1.0.0/16
      { addr := 0x0A01024D#32, mask := 0x000000FF#32, nextHop := 0x01010102#32, metric := 5 },   -- 10.1.2.77 hostmask /24
      { addr := 0x0A010200#32, mask := 0xFFFFFF00#32, nextHop := 0x01010103#32, metric := 5 },   -- 10.1.2.0/24 tie on metric
      { addr := 0x0A010200#32, mask := 0xFFFFFF00#32, nextHop := 0x02020202#32, metric := 1 } ], -- 10.1.2.0/24 cheaper
    default := some 0x09090909#32 }

/-- longest prefix, then lowest metric: 10.1.2.3 → entry 3. -/
example : findBestRoute exTable 0x0A010203#32 =
    .route 3 { addr := 0x0A010200#32, mask := 0xFFFFFF00#32, nextHop := 0x02020202#32, metric := 1 } := by decide
def exR0 : Route := { addr := 0x0A010000#32, mask := 0xFFFF0000#32, nextHop := 0x01010101#32, metric := 0 }
def exR1 : Route := { addr := 0x0A01024D#32, mask := 0x000000FF#32, nextHop := 0x01010102#32, metric := 5 }
def exR2 : Route := { addr := 0x0A010200#32, mask := 0xFFFFFF00#32, nextHop := 0x01010103#32, metric := 5 }

/-- only the /16 contains 10.1.9.9. -/
example : findBestRoute exTable 0x0A010909#32 = .route 0 exR0 := by decide
/-- default route as last resort. -/
example : findBestRoute exTable 0x0B000001#32 = .default 0x09090909#32 := by decide
/-- no default: `None`. -/
example : findBestRoute { exTable with default := none } 0x0B000001#32 = .noRoute := by decide
/-- full tie (same prefix, same metric): the earlier entry stays, even though its address is non-canonical and its
mask is spelt as a hostmask. -/
example : findBestRoute { routes := [exR1, exR2], default := none } 0x0A010203#32 = .route 0 exR1 := by decide
/-- a non-contiguous mask raises whatever the destination. -/
example : findBestRoute (addRoute exTable { addr := 0x0A020000#32, mask := 0xFF00FF00#32, nextHop := 0x02020202#32, metric := 0 })
    0x0B000001#32 = .raised := by decide
example : ValidMasks exTable.routes := by
  intro r hr
  simp only [exTable, List.mem_cons, List.not_mem_nil, or_false] at hr
  rcases hr with rfl | rfl | rfl | rfl <;> decide
example : Covers 0x0A010203#32 exR1 24 := by decide

end Primaite.Route
