/-
C03 — same scenario, seed and actions give the same trajectory, in any process.   CLAIM: proof.

What is proved (about the opaque-environment model `Model/Noninterf.lean`):
  for EVERY simulator written against the interface "identifiers are equality tokens, clock readings reach state only
  through the length of their text inside `Frame.size`, sets are iterated only through permutation-invariant consumers,
  random draws come from the seeded generator", for every configuration schedule, seed and operation list (steps and
  resets, with or without a seed), the canonical trajectory is the same under any two valid environments `ρ`, `ρ'`
  (uuid stream, clock stream, set-iteration orders) whose readings have texts of equal length (the `_agree` theorems) — which,
  the text of a reading having a constant width since the F-9 repair (`Fixed.FixedWidth`, tied to the source by
  `C03_gen_fixed_width_readings`), are ALL pairs of valid environments (`C03_run_indep_of_env`); and the episode that
  follows `reset(seed = s)` is a function of (schedule, episode index, s, later operations) only.  With the decorator
  `own_generator_state` modelled (`runOwned`, Lemmas/NoninterfOwnState.lean) both hold under ARBITRARY, different use of the
  process-wide generators by others between the operations (`C03_run_indep_of_env_and_foreign_activity`,
  `C03_reseed_reproduces_and_foreign_activity`).

What ties the interface to the source: the regenerated nondeterminism inventory `Gen/Nondet.lean` and the committed
discharge table `Lemmas/NondetDischarge.lean` (`C03_inventory_discharged`, `C03_discharges_justified`), and the
cross-process rig (fresh interpreters, different PYTHONHASHSEED, logging on/off).

What is NOT proved: that the inventory is complete (the extractor's job), that CPython behaves as `ρ` says (trusted),
and anything about the reasons marked `byReading` in the discharge table.  Without a hypothesis on the text-length function
the statement is false: `C03_full_counterexample` (finding F-9, the code before the repair: `Frame.size` contained the text of
wall-clock readings, whose length varied).
-/
import PrimaiteModel.Lemmas.NondetDischarge
import PrimaiteModel.Gen.NondetSeeding
import PrimaiteModel.Gen.SharedState
import PrimaiteModel.Gen.NondetOutput
import PrimaiteModel.Gen.OwnGeneratorState

namespace Primaite.Noninterf
open Primaite.Gen.Nondet

/-- **run_indep_of_env** (partial: `StampLenAgree` excludes exactly F-9).  Construct the environment with the configured
seed and play any operation list: the canonical trajectory does not depend on the opaque environment. -/
theorem C03_run_indep_of_env_agree {ι ι' Cfg σ Act : Type} [DecidableEq ι] [DecidableEq ι'] (g : Fixed)
    (sim : Sim Cfg σ Act) (sched : Nat → Cfg) (seed : Nat) (ops : List (Op Act)) (ρ : Rho ι) (ρ' : Rho ι')
    (hv : ρ.Valid) (hv' : ρ'.Valid) (hs : sim.Safe g.seeds (StampLenAgree g ρ ρ')) :
    run g sim sched seed ops ρ = run g sim sched seed ops ρ' := by
  unfold run
  apply canon_runOps_eq g hv hv' sim sched hs ops
  have e := interp_indep g hv hv' (sim.construct (sched 0)) { rng := seedAll g seed } (hs.construct _)
  simp only [start, Proc.Agree, e, and_self]

/-- The same at full strength for a simulator that never computes a size from an unseeded reading (a `Frame.size` that
leaves the readings out): no hypothesis on the clock at all. -/
theorem C03_run_indep_of_env_repaired_size {ι ι' Cfg σ Act : Type} [DecidableEq ι] [DecidableEq ι'] (g : Fixed)
    (sim : Sim Cfg σ Act) (sched : Nat → Cfg) (seed : Nat) (ops : List (Op Act)) (ρ : Rho ι) (ρ' : Rho ι')
    (hv : ρ.Valid) (hv' : ρ'.Valid) (hs : sim.Safe g.seeds False) :
    run g sim sched seed ops ρ = run g sim sched seed ops ρ' :=
  C03_run_indep_of_env_agree g sim sched seed ops ρ ρ' hv hv' (hs.mono False.elim)

/-- **reseed_reproduces.** Take two processes in ARBITRARY states (different histories, different generator states,
different positions in different environments) that are about to start the same episode index. After
`reset(seed = s)` the same later operations give the same canonical trajectory: the episode is a function of
(schedule, episode index, s, operations) only. -/
theorem C03_reseed_reproduces_agree {ι ι' Cfg σ Act : Type} [DecidableEq ι] [DecidableEq ι'] (g : Fixed)
    (sim : Sim Cfg σ Act) (sched : Nat → Cfg) (ρ : Rho ι) (ρ' : Rho ι') (hv : ρ.Valid) (hv' : ρ'.Valid)
    (hs : sim.Safe g.seeds (StampLenAgree g ρ ρ')) (p p' : Proc σ) (he : p.episode = p'.episode) (s : Nat)
    (ops : List (Op Act)) :
    canonRun [] (runOps g ρ sim sched p (.reset (some s) :: ops)) =
      canonRun [] (runOps g ρ' sim sched p' (.reset (some s) :: ops)) := by
  obtain ⟨ha, sym, h1, h2⟩ := doReset_seed_rel g hv hv' sim sched hs p p' he s
  obtain ⟨syms, r1, r2⟩ := runOps_rel g hv hv' sim sched hs ops _ _ ha
  simp only [runOps, opStep]
  rw [h1, r1, h2, r2]
  exact canonRun_images_eq (hv.inj_add _) (hv'.inj_add _) (sym :: syms)

/-- Corollary in the words of the property: the episode after `reset(seed = s)` does not depend on the history `pre`
played before it (same number of earlier resets `= episode index`), nor on the environment. -/
theorem C03_reseed_history_irrelevant_agree {ι Cfg σ Act : Type} [DecidableEq ι] (g : Fixed)
    (sim : Sim Cfg σ Act) (sched : Nat → Cfg) (ρ ρ' : Rho ι) (hv : ρ.Valid) (hv' : ρ'.Valid)
    (hs : sim.Safe g.seeds (StampLenAgree g ρ ρ')) (st st' : σ) (w w' : World) (e : Nat) (s : Nat) (ops : List (Op Act)) :
    canonRun [] (runOps g ρ sim sched { episode := e, st := st, w := w } (.reset (some s) :: ops)) =
      canonRun [] (runOps g ρ' sim sched { episode := e, st := st', w := w' } (.reset (some s) :: ops)) :=
  C03_reseed_reproduces_agree g sim sched ρ ρ' hv hv' hs { episode := e, st := st, w := w } { episode := e, st := st', w := w' } rfl s ops

/-- The statement with NO hypothesis on the text-length function (any `g`, e.g. the pre-repair ISO text that drops a zero
microsecond field): false, `C03_full_counterexample`. With `g.FixedWidth` it is `C03_run_indep_of_env`. -/
def C03_Full : Prop :=
  ∀ (Cfg σ Act : Type) (g : Fixed) (sim : Sim Cfg σ Act) (sched : Nat → Cfg) (seed : Nat) (ops : List (Op Act))
    (ρ ρ' : Rho Nat), ρ.Valid → ρ'.Valid → sim.Safe g.seeds True → run g sim sched seed ops ρ = run g sim sched seed ops ρ'

/-- a toy generator per family (python / numpy / torch are seeded, gymnasium's per-space generator is not) -/
def demoFixed : Fixed :=
  { next := fun f s => (s * 7 + 3 + (match f with | .py => 0 | .np => 1 | .torch => 2 | .space => 5), s + 1),
    seed := fun f s => s * 4 + (match f with | .py => 0 | .np => 1 | .torch => 2 | .space => 3),
    textLen := isoTextLen }

/-- One link of bandwidth `bw` bytes per tick; a step sends one frame of 500 bytes plus its `sent_timestamp` text and
reports whether the link accepted it (`Link.can_transmit_frame`). -/
def linkSim (bw : Nat) : Sim Unit Nat Unit where
  construct _ := .ret 0
  rebuild _ := .ret (0, [])
  step load _ := .now fun h => .frameSize 500 [h] fun n =>
    if load + n ≤ bw then .ret (load + n, [.val 1]) else .ret (load, [.val 0])

def rhoWholeSecond : Rho Nat := { uuid := id, stamp := fun _ => 0, perm := fun _ l => l }
def rhoMicros : Rho Nat := { uuid := id, stamp := fun _ => 1, perm := fun _ l => l }
def rhoReversed : Rho Nat := { uuid := id, stamp := fun _ => 1, perm := fun _ l => l.reverse }

theorem rhoWholeSecond_valid : rhoWholeSecond.Valid := ⟨fun _ _ h => h, fun _ _ => List.Perm.refl _⟩
theorem rhoMicros_valid : rhoMicros.Valid := ⟨fun _ _ h => h, fun _ _ => List.Perm.refl _⟩
theorem rhoReversed_valid : rhoReversed.Valid := ⟨fun _ _ h => h, fun _ l => List.reverse_perm l⟩

theorem linkSim_safe (bw : Nat) (S : Fam → Bool) (P : Prop) (hP : P) : (linkSim bw).Safe S P where
  construct _ := trivial
  rebuild _ := trivial
  step load _ := fun _ => ⟨.inr hP, fun n => by
    show Prog.Safe S P (if load + n ≤ bw then _ else _)
    split <;> exact trivial⟩

/-- **F-9.** A frame whose clock reading happens to have a zero microsecond field is 7 bytes shorter; on a link whose
free capacity lies between the two sizes one process transmits and the other drops. -/
theorem C03_full_counterexample : ¬ C03_Full := by
  intro h
  have := h Unit Nat Unit demoFixed (linkSim 520) (fun _ => ()) 0 [.step ()] rhoWholeSecond rhoMicros
    rhoWholeSecond_valid rhoMicros_valid (linkSim_safe 520 _ True trivial)
  exact absurd this (by decide +kernel)

/-- The same link under two environments all of whose readings have texts of the same length … -/
example : run demoFixed (linkSim 520) (fun _ => ()) 0 [.step (), .reset (some 3), .step ()] rhoMicros =
    run demoFixed (linkSim 520) (fun _ => ()) 0 [.step (), .reset (some 3), .step ()] rhoReversed :=
  C03_run_indep_of_env_agree demoFixed _ _ _ _ _ _ rhoMicros_valid rhoReversed_valid
    (linkSim_safe 520 _ _ (fun _ _ => rfl))

/-- … and the hypotheses of the partial theorem are met by a non-trivial pair (different set orders, same text lengths). -/
example : StampLenAgree demoFixed rhoMicros rhoReversed ∧ rhoMicros.perm 0 [1, 2] ≠ rhoReversed.perm 0 [1, 2] :=
  ⟨fun _ _ => rfl, by decide⟩

/-- nmap's ping scan: iterate the target set, report the live hosts in the order visited. `consumer` is `rawIter` in the
code before the repair and `sortedIter` after it. -/
def scanSim (consumer : List Nat → List Nat) : Sim Unit Unit (List Nat) where
  construct _ := .ret ()
  rebuild _ := .ret ((), [])
  step _ targets := .iterSet consumer targets fun visited => .ret ((), visited.map .val)

theorem scanSim_sorted_safe (S : Fam → Bool) (P : Prop) : (scanSim sortedIter).Safe S P where
  construct _ := trivial
  rebuild _ := trivial
  step _ _ := ⟨sortedIter_invariant, fun _ => trivial⟩

/-- **F-8**, the code before the repair: two processes report the live hosts in different orders. -/
theorem C03_raw_set_iteration_counterexample :
    run demoFixed (scanSim rawIter) (fun _ => ()) 0 [.step [10, 1, 14]] rhoMicros ≠
      run demoFixed (scanSim rawIter) (fun _ => ()) 0 [.step [10, 1, 14]] rhoReversed := by decide +kernel

/-- After the repair (`for ip in sorted(targets)`): every pair of valid environments gives the same trajectory. -/
theorem C03_sorted_scan_indep (ops : List (Op (List Nat))) (seed : Nat) {ι ι' : Type} [DecidableEq ι] [DecidableEq ι']
    (ρ : Rho ι) (ρ' : Rho ι') (hv : ρ.Valid) (hv' : ρ'.Valid) :
    run demoFixed (scanSim sortedIter) (fun _ => ()) seed ops ρ = run demoFixed (scanSim sortedIter) (fun _ => ()) seed ops ρ' :=
  C03_run_indep_of_env_agree demoFixed _ _ _ _ _ _ hv hv' (scanSim_sorted_safe _ _)

example : run demoFixed (scanSim sortedIter) (fun _ => ()) 0 [.step [10, 1, 14]] rhoReversed = [[.val 1, .val 10, .val 14]] := by
  decide +kernel

/-- A simulator that allocates an identifier per step and reports it together with whether it equals the first one. -/
def idSim : Sim Unit (Option Nat) Unit where
  construct _ := .ret none
  rebuild _ := .ret (none, [])
  step first _ := .fresh fun h =>
    match first with
    | none => .ret (some h, [.ident h, .val 1])
    | some f => .idEq f h fun same => .ret (some f, [.ident h, .ident f, .val (if same then 1 else 0)])

def rhoOdd : Rho Nat := { uuid := fun k => 2 * k + 1001, stamp := fun _ => 1, perm := fun _ l => l }
theorem rhoOdd_valid : rhoOdd.Valid := ⟨fun i j h => by simp [rhoOdd] at h; omega, fun _ _ => List.Perm.refl _⟩

example : run demoFixed idSim (fun _ => ()) 0 [.step (), .step (), .step ()] rhoOdd =
    [[.ident 0, .val 1], [.ident 1, .ident 0, .val 0], [.ident 2, .ident 0, .val 0]] := by decide +kernel

example : (runOps demoFixed rhoOdd idSim (fun _ => ()) (start demoFixed rhoOdd idSim (fun _ => ()) 0) [.step (), .step ()]) =
    [[.ident 1001, .val 1], [.ident 1003, .ident 1001, .val 0]] := by decide +kernel

open Primaite.Gen in
/-- the regenerated tests as model tests (`none` for a test the extractor could not classify) -/
def toSeedTest : NondetSeeding.Test → Option SeedTest
  | .isNone => some .isNone
  | .isNotNone => some .isNotNone
  | .truthy => some .truthy
  | .falsy => some .falsy
  | .eqInt n => some (.eqInt n)
  | .ltInt n => some (.ltInt n)
  | .other _ => none

open Primaite.Gen in
/-- the shape of `set_random_seed` + the guard in `reset`, as regenerated from session/environment.py -/
def genShape : Option SeedShape := do
  let a ← NondetSeeding.absent.mapM toSeedTest
  let i ← NondetSeeding.invalid.mapM toSeedTest
  let r ← NondetSeeding.resetGuard.mapM toSeedTest
  pure { absent := a, absentGenerates := NondetSeeding.absentGenerates, invalid := i, resetGuard := r }

open Primaite.Gen in
/-- **Gen obligation.** The seeding code has exactly the shape the theorems below are about: `if seed is None or seed == -1:
(generate or return None) elif seed < -1: raise`; `random.seed(seed)`, `np.random.seed(seed)` unconditionally and
`th.manual_seed(seed)` under the torch-present test, all with the argument `seed`, which is not re-assigned; the function
returns `seed`; `__init__` passes `(self.seed, self.generate_seed_value)` read from the episode-0 `game` options,
unconditionally; `reset` passes `(seed, self.generate_seed_value)` under the single test `seed is not None`. -/
theorem C03_gen_seed_shape :
    genShape = some codeShape ∧
    NondetSeeding.absentElseReturnsNone = true ∧ NondetSeeding.invalidRaises = true ∧ NondetSeeding.returnsSeed = true ∧
    NondetSeeding.seedReassigned = [] ∧
    NondetSeeding.seedCalls = [("py", "seed", []), ("np", "seed", []), ("torch", "seed", ["sys.modules['torch']"])] ∧
    NondetSeeding.initSeedArgs = ["self.seed", "self.generate_seed_value"] ∧ NondetSeeding.initGuard = [] ∧
    NondetSeeding.initSeedSource = "self.episode_scheduler(0).get('game', {}).get('seed')" ∧
    NondetSeeding.initGenerateSource = "self.episode_scheduler(0).get('game', {}).get('generate_seed_value')" ∧
    NondetSeeding.resetSeedArgs = ["seed", "self.generate_seed_value"] :=
  ⟨rfl, rfl, rfl, rfl, rfl, rfl, rfl, rfl, rfl, rfl, rfl⟩

open Primaite.Gen in
/-- **Gen obligation.** In `__init__` and in `reset` there is exactly one `set_random_seed` call and exactly one
`PrimaiteGame.from_config` call, and the seeding call comes first (every draw of the construction follows the seeding);
`reset` then runs `setup_for_episode`, `update_agents`, `_get_obs` in this order. -/
theorem C03_gen_seed_before_build :
    (NondetSeeding.initCalls.count "set_random_seed" = 1 ∧ NondetSeeding.initCalls.count "PrimaiteGame.from_config" = 1 ∧
      NondetSeeding.initCalls.idxOf "set_random_seed" < NondetSeeding.initCalls.idxOf "PrimaiteGame.from_config") ∧
    (NondetSeeding.resetCalls.count "set_random_seed" = 1 ∧ NondetSeeding.resetCalls.count "PrimaiteGame.from_config" = 1 ∧
      NondetSeeding.resetCalls.idxOf "set_random_seed" < NondetSeeding.resetCalls.idxOf "PrimaiteGame.from_config") ∧
    NondetSeeding.resetCalls.filter (fun c => c ∈ ["PrimaiteGame.from_config", "setup_for_episode", "update_agents", "_get_obs"]) =
      ["PrimaiteGame.from_config", "setup_for_episode", "update_agents", "_get_obs"] ∧
    NondetSeeding.rayResetSeedArgs = List.replicate NondetSeeding.rayResetCalls "seed" := by decide +kernel

open Primaite.Gen in
/-- is the family seeded by one of the calls in `set_random_seed` (with the argument `seed`)? A Generator derived from a
numpy draw is as seeded as numpy's global generator. -/
def famSeeded (f : Nondet.Fam) : Bool :=
  let has (tag : String) := NondetSeeding.seedCalls.any fun c => c.1 == tag && c.2.1 == "seed"
  match f with
  | .py => has "py"
  | .np | .derivedNp => has "np"
  | .torch => has "torch"
  | .entropy | .space => false

/-- **Gen obligation: every draw happens after seeding, from a seeded family.** Every draw site of the inventory is
evaluated when a function is called (none at import time / in a class body, i.e. none before `set_random_seed` ran), and
its generator family is one `set_random_seed` seeds — except the entropy draws inside `if generate_seed_value:`. -/
theorem C03_gen_draw_families_seeded :
    (facts.all fun f => match f with
      | .draw fam atCall guarded => (guarded && fam == .entropy) || (atCall && famSeeded fam)
      | .seedCall _ _ atCall => atCall
      | _ => true) = true ∧
    -- the model's table of seeded families is the regenerated one
    (∀ f : Fam, demoFixed.seeds f = match f with | .py => famSeeded .py | .np => famSeeded .np | .torch => famSeeded .torch | .space => famSeeded .space) := by
  refine ⟨by decide +kernel, fun f => by cases f <;> decide +kernel⟩

/-- **What `env.reset(seed=x)` does to the generators, for EVERY `x`** (with `generate_seed_value = False`): a
non-negative seed — 0 included — re-seeds with it; `None` and `-1` leave the generators alone; anything below `-1` raises. -/
theorem C03_reset_seed_spec :
    (∀ s : Nat, s < 4294967296 → codeShape.resetAct (some (s : Int)) false = .seedWith s) ∧
    codeShape.resetAct none false = .keep ∧ codeShape.resetAct (some (-1)) false = .keep ∧
    (∀ n : Int, n < -1 → codeShape.resetAct (some n) false = .raise) ∧
    (∀ s : Nat, 4294967296 ≤ s → ∀ gen, codeShape.resetAct (some (s : Int)) gen = .raiseHalfSeeded) := by
  refine ⟨fun s hs => ?_, by decide, by decide, fun n hn => ?_, fun s hs gen => ?_⟩
  all_goals rw [codeShape_resetAct_some, codeShape_setRandomSeed_some]
  · rw [if_neg (by omega), if_neg (by omega), Int.toNat_natCast, if_pos hs]
  · rw [if_neg (by omega), if_pos hn]
  · rw [if_neg (by omega), if_neg (by omega), Int.toNat_natCast, if_neg (by omega)]

/-- the caller's `reset(seed=s)`, `s ≥ 0`, is the model's re-seeding reset — also for `s = 0` -/
theorem toOps_reset_some {Act : Type} (s : Nat) (hs : s < 4294967296) (cs : List (COp Act)) :
    codeShape.toOps false (.reset (some (s : Int)) :: cs) = .reset (some s) :: codeShape.toOps false cs := by
  simp only [SeedShape.toOps, SeedShape.toOp, C03_reset_seed_spec.1 s hs]

/-- the caller's `reset()` is the model's reset that leaves the generators alone -/
theorem toOps_reset_none {Act : Type} (cs : List (COp Act)) :
    codeShape.toOps false (.reset none :: cs) = .reset none :: codeShape.toOps false cs := by
  simp only [SeedShape.toOps, SeedShape.toOp, C03_reset_seed_spec.2.1]

/-- **reseed_reproduces, in the caller's vocabulary.** With the seeding code as it is (`C03_gen_seed_shape`), for EVERY seed
value `s ≥ 0` — zero included — and every later call sequence (steps, resets with any `Optional[int]`, foreign draws):
two processes in arbitrary states that are about to start the same episode index produce the same canonical trajectory
after `env.reset(seed=s)`. -/
theorem C03_code_reseed_reproduces_agree {ι ι' Cfg σ Act : Type} [DecidableEq ι] [DecidableEq ι'] (g : Fixed)
    (sim : Sim Cfg σ Act) (sched : Nat → Cfg) (ρ : Rho ι) (ρ' : Rho ι') (hv : ρ.Valid) (hv' : ρ'.Valid)
    (hs : sim.Safe g.seeds (StampLenAgree g ρ ρ')) (p p' : Proc σ) (he : p.episode = p'.episode) (s : Nat) (hs32 : s < 4294967296)
    (cs : List (COp Act)) :
    canonRun [] (runOps g ρ sim sched p (codeShape.toOps false (.reset (some (s : Int)) :: cs))) =
      canonRun [] (runOps g ρ' sim sched p' (codeShape.toOps false (.reset (some (s : Int)) :: cs))) := by
  rw [toOps_reset_some s hs32]
  exact C03_reseed_reproduces_agree g sim sched ρ ρ' hv hv' hs p p' he s _

/-- **The generators right after `reset(seed=s)` are the same in every process and after every history** (the rig's
`rng` digest on the reset line is the implementation-side reading of this). -/
theorem C03_generators_after_reseed_agree {ι ι' Cfg σ Act : Type} [DecidableEq ι] [DecidableEq ι'] (g : Fixed)
    (sim : Sim Cfg σ Act) (sched : Nat → Cfg) (ρ : Rho ι) (ρ' : Rho ι') (hv : ρ.Valid) (hv' : ρ'.Valid)
    (hs : sim.Safe g.seeds (StampLenAgree g ρ ρ')) (p p' : Proc σ) (he : p.episode = p'.episode) (s : Nat) :
    (doReset g ρ sim sched p (some s)).1.w.rng = (doReset g ρ' sim sched p' (some s)).1.w.rng ∧
    (doReset g ρ sim sched p (some s)).1.st = (doReset g ρ' sim sched p' (some s)).1.st := by
  obtain ⟨⟨_, hst, hw⟩, _⟩ := doReset_seed_rel g hv hv' sim sched hs p p' he s
  exact ⟨congrArg World.rng hw, hst⟩

/-- A simulator with one stochastic scripted agent: every step draws from family `f` and reports the draw. -/
def drawSim (f : Fam) : Sim Unit Unit Unit where
  construct _ := .ret ()
  rebuild _ := .ret ((), [])
  step _ _ := .rand f 99 fun r => .ret ((), [.val r])

theorem drawSim_safe (f : Fam) (S : Fam → Bool) (hf : S f = true) (P : Prop) : (drawSim f).Safe S P where
  construct _ := trivial
  rebuild _ := trivial
  step _ _ := ⟨hf, fun _ => trivial⟩

/-- the seeding code with the test in `reset` replaced by a truthiness test (`if seed:`) -/
def truthyShape : SeedShape := { codeShape with resetGuard := [.truthy] }

/-- **Why the test must be `is not None`.** With `if seed:` the call `reset(seed=0)` does not re-seed: two processes that
differ only in how many draws their history consumed play different episodes after `reset(seed=0)`; with the code's
shape they play the same one. -/
theorem C03_truthy_seed_test_counterexample :
    truthyShape.resetAct (some 0) false = .keep ∧
    canonRun [] (runOps demoFixed rhoMicros (drawSim .py) (fun _ => ()) { episode := 0, st := (), w := { rng := fun _ => 5 } }
        (truthyShape.toOps false [.reset (some 0), .step ()])) ≠
      canonRun [] (runOps demoFixed rhoMicros (drawSim .py) (fun _ => ()) { episode := 0, st := (), w := { rng := fun _ => 9 } }
        (truthyShape.toOps false [.reset (some 0), .step ()])) ∧
    canonRun [] (runOps demoFixed rhoMicros (drawSim .py) (fun _ => ()) { episode := 0, st := (), w := { rng := fun _ => 5 } }
        (codeShape.toOps false [.reset (some 0), .step ()])) =
      canonRun [] (runOps demoFixed rhoMicros (drawSim .py) (fun _ => ()) { episode := 0, st := (), w := { rng := fun _ => 9 } }
        (codeShape.toOps false [.reset (some 0), .step ()])) := by decide +kernel

/-- A simulator whose CONSTRUCTION draws (ProbabilisticAgent derives its generator, PeriodicAgent its first execution step
inside `from_config`) and reports the draw at the first step. -/
def buildDrawSim : Sim Unit Nat Unit where
  construct _ := .rand .np 99 fun r => .ret r
  rebuild _ := .rand .np 99 fun r => .ret (r, [])
  step st _ := .ret (st, [.val st])

/-- **Why seeding must precede the construction of the game.** If `reset` built the game first and seeded afterwards, the
draws of the construction would come from the inherited generator state: after `reset(seed=3)` two processes with different
histories report different values; with the code's order (`doReset`) they agree. -/
theorem C03_build_before_seed_counterexample :
    (doResetLate demoFixed rhoMicros buildDrawSim (fun _ => ()) { episode := 0, st := 0, w := { rng := fun _ => 5 } } (some 3)).1.st ≠
      (doResetLate demoFixed rhoMicros buildDrawSim (fun _ => ()) { episode := 0, st := 0, w := { rng := fun _ => 9 } } (some 3)).1.st ∧
    (doReset demoFixed rhoMicros buildDrawSim (fun _ => ()) { episode := 0, st := 0, w := { rng := fun _ => 5 } } (some 3)).1.st =
      (doReset demoFixed rhoMicros buildDrawSim (fun _ => ()) { episode := 0, st := 0, w := { rng := fun _ => 9 } } (some 3)).1.st := by
  decide +kernel

def rhoEntropy7 : Rho Nat := { uuid := id, stamp := fun _ => 1, perm := fun _ l => l, entropy := fun k => 7 + k }
theorem rhoEntropy7_valid : rhoEntropy7.Valid := ⟨fun _ _ h => h, fun _ _ => List.Perm.refl _⟩

/-- **Why every family drawn from must be seeded (finding F-C03-1, repaired).** `RandomAgent.get_action` sampled from
gymnasium's per-space generator, which nobody seeds: under two valid environments that differ only in what the OS hands out,
the same seed and actions give different trajectories. The same simulator drawing from a seeded family is independent. -/
theorem C03_unseeded_family_counterexample :
    run demoFixed (drawSim .space) (fun _ => ()) 0 [.step ()] rhoMicros ≠
      run demoFixed (drawSim .space) (fun _ => ()) 0 [.step ()] rhoEntropy7 ∧
    run demoFixed (drawSim .np) (fun _ => ()) 0 [.step ()] rhoMicros =
      run demoFixed (drawSim .np) (fun _ => ()) 0 [.step ()] rhoEntropy7 := by
  refine ⟨by decide +kernel, ?_⟩
  exact C03_run_indep_of_env_agree demoFixed _ _ _ _ _ _ rhoMicros_valid rhoEntropy7_valid (drawSim_safe _ _ rfl _)

/-- **About the operations WITHOUT the decorator (the code before the F-11 repair; `runOps` alone):** "nothing else consumes the
global generators" is a hypothesis, not a consequence. A foreign draw (another environment instance, the training loop) between
`reset(seed=s)` and a step changes the episode; foreign draws BEFORE the re-seeding do not (`C03_reseed_reproduces_agree` quantifies over
arbitrary earlier generator states). With the decorator (`runOwned`) it is a consequence: `C03_foreign_draw_harmless_since_repair`,
`C03_run_indep_of_env_and_foreign_activity`. -/
theorem C03_foreign_draw_counterexample :
    canonRun [] (runOps demoFixed rhoMicros (drawSim .py) (fun _ => ()) { episode := 0, st := (), w := {} }
        [.reset (some 3), .step ()]) ≠
      canonRun [] (runOps demoFixed rhoMicros (drawSim .py) (fun _ => ()) { episode := 0, st := (), w := {} }
        [.reset (some 3), .foreign .py, .step ()]) ∧
    canonRun [] (runOps demoFixed rhoMicros (drawSim .py) (fun _ => ()) { episode := 0, st := (), w := {} }
        [.foreign .py, .reset (some 3), .step ()]) =
      [[]] ++ canonRun [] (runOps demoFixed rhoMicros (drawSim .py) (fun _ => ()) { episode := 0, st := (), w := {} }
        [.reset (some 3), .step ()]) := by decide +kernel

/-- non-vacuity of `C03_code_reseed_reproduces_agree`: the two episodes really are re-seeded, and a different seed gives a different one -/
example : canonRun [] (runOps demoFixed rhoMicros (drawSim .py) (fun _ => ()) { episode := 0, st := (), w := { rng := fun _ => 5 } }
      (codeShape.toOps false [.reset (some 0), .step ()])) = [[], [.val 3]] ∧
    canonRun [] (runOps demoFixed rhoMicros (drawSim .py) (fun _ => ()) { episode := 0, st := (), w := { rng := fun _ => 5 } }
      (codeShape.toOps false [.reset (some 1), .step ()])) = [[], [.val 31]] ∧
    canonRun [] (runOps demoFixed rhoMicros (drawSim .py) (fun _ => ()) { episode := 0, st := (), w := { rng := fun _ => 5 } }
      (codeShape.toOps false [.reset none, .step ()])) = [[], [.val 38]] := by decide +kernel


/-! ## process-global state that survives between games of one interpreter

The process model builds every game from the episode's configuration alone (`Sim.construct : Cfg → Prog σ`): nothing of an
earlier game — of the same environment or of another one that ran earlier in the process — is an input.  What ties that to
the code is (a) the shared-state inventory `Gen/SharedState.lean` (C04's extractor, imported read-only): every class-level /
module-level object that is WRITTEN AT RUN TIME, with its writers, (b) the committed discharge below, and (c) the rig's
process-history workers (other games are built, played and closed in the interpreter before the case). -/

/-- why a run-time written process-global cannot carry anything from an earlier game into the trajectory -/
inductive GlobalDischarge where
  /-- `PrimaiteGame.from_config` assigns it UNCONDITIONALLY (a top-level statement, before any `return`) in every build, and both
  `__init__` and `reset` go through `from_config` (`C03_gen_seed_before_build`): whatever an earlier game left is overwritten
  before the new game reads it (that no reader runs before the assignment inside `from_config` is C04's `C04_gen_write_order`) -/
  | rewrittenAtEveryBuild
  /-- only read to decide where / whether log files and tables are written (by reading; C04's role table marks every reader a sink) -/
  | sinkOnly
  /-- written only while the module is imported or by the command-line tools, never by an operation of an environment (by reading) -/
  | notWrittenByAnOperation
  deriving DecidableEq, Repr

/-- a build whose process-global part is assigned unconditionally from the configuration -/
def buildUncond {Cfg G R : Type} (write : Cfg → G) (rest : G → Cfg → R) (_old : G) (c : Cfg) : R × G := (rest (write c) c, write c)

/-- a build that assigns the process-global only when the configuration has the (optional) section -/
def buildCond {Cfg G R : Type} (has : Cfg → Bool) (write : Cfg → G) (rest : G → Cfg → R) (old : G) (c : Cfg) : R × G :=
  let g := if has c then write c else old
  (rest g c, g)

/-- **Lemma for the kind `rewrittenAtEveryBuild`.** An unconditional assignment makes the build a function of the configuration
alone: whatever the process did before (`old`, `old'` arbitrary), the game built and the global left behind are the same. -/
theorem C03_unconditional_global_write_forgets_history {Cfg G R : Type} (write : Cfg → G) (rest : G → Cfg → R) (old old' : G) (c : Cfg) :
    buildUncond write rest old c = buildUncond write rest old' c := rfl

/-- **Why the assignment must be unconditional (seeded change C03-c / C04-b).** With "assign only if the scenario has a
non-empty section", a scenario WITHOUT the section builds a different game in a warm interpreter (an earlier game switched
capture on) than in a fresh one. -/
theorem C03_conditional_global_write_counterexample :
    buildCond (fun c : Option Bool => c.isSome) (fun c => c.getD false) (fun g _ => g) true none ≠
      buildCond (fun c : Option Bool => c.isSome) (fun c => c.getD false) (fun g _ => g) false none := by decide

open Primaite.Gen.SharedState in
/-- site ↦ reason for every process-global the shared-state inventory shows written at run time -/
def globalsTable : List (String × GlobalDischarge) := [
  ("primaite:PRIMAITE_CONFIG", .notWrittenByAnOperation),
  ("simulator.network.airspace:AirSpaceFrequency._registry", .notWrittenByAnOperation),
  ("simulator.system.core.packet_capture:PacketCapture._logger_instances", .sinkOnly),
  ("simulator:SIM_OUTPUT", .sinkOnly) ]

open Primaite.Gen.SharedState in
/-- **Gen obligation (inventory kind "module / class-level mutable state written at run time").** The run-time written
process-globals are exactly the committed four (six before the F-10 repair c95c025 made the two NMNE settings per-network state: no function assigns them any more, C04_gen_nmne_per_game; the kind `rewrittenAtEveryBuild`, its lemma and its counterexample stay for any future entry), each with exactly the committed writer functions (a new global, or a new
function writing one, breaks this); and every global discharged `rewrittenAtEveryBuild` has `PrimaiteGame.from_config` among its
UNCONDITIONAL writers — an assignment moved under an `if` (only when the scenario has the section) breaks it. -/
theorem C03_process_globals_discharged :
    ((entries.filter fun e => !e.writers.isEmpty).map fun e => (e.name, e.writers.map fun i => fns.getD i "?")) =
      [ ("primaite:PRIMAITE_CONFIG", ["utils.cli.dev_cli:config_callback", "utils.cli.dev_cli:disable", "utils.cli.dev_cli:enable",
                                      "utils.cli.dev_cli:path"]),
        ("simulator.network.airspace:AirSpaceFrequency._registry", ["simulator.network.airspace:AirSpaceFrequency.__init__"]),
        ("simulator.system.core.packet_capture:PacketCapture._logger_instances",
          ["simulator.system.core.packet_capture:PacketCapture.clear", "simulator.system.core.packet_capture:PacketCapture.setup_logger"]),
        ("simulator:SIM_OUTPUT", ["session.io:PrimaiteIO.__init__", "simulator.network.networks:network_simulator_demo_example"]) ] ∧
    (entries.filter fun e => !e.writers.isEmpty).map (·.name) = globalsTable.map (·.1) ∧
    (globalsTable.all fun t => t.2 != .rewrittenAtEveryBuild ||
      (entries.any fun e => e.name == t.1 && (e.uncondWriters.map fun i => fns.getD i "?").contains "game.game:PrimaiteGame.from_config")) = true :=
  ⟨rfl, rfl, rfl⟩

/-! ## full strength: after the F-9 repair the text of every reading has a constant width

`g.FixedWidth` is a property of the CODE's text-length function (tied to the source by `C03_gen_fixed_width_readings`), not of
the environments: no hypothesis on the clock or on secrets remains. `sim.Safe g.seeds True`: frame sizes MAY be computed from
readings. The `_agree` theorems above are the general lemmas (any text-length function, environments that agree). -/

theorem Sim.Safe.of_fixedWidth {Cfg σ Act : Type} {sim : Sim Cfg σ Act} {g : Fixed} (hw : g.FixedWidth) (hs : sim.Safe g.seeds True)
    {ι ι' : Type} (ρ : Rho ι) (ρ' : Rho ι') : sim.Safe g.seeds (StampLenAgree g ρ ρ') :=
  hs.mono fun _ _ _ => hw _ _

/-- **run_indep_of_env, FULL.** For every simulator over the interface, schedule, seed, operation list and every two valid
environments (any clock readings, any identifiers, any set orders, any entropy): the same canonical trajectory. -/
theorem C03_run_indep_of_env {ι ι' Cfg σ Act : Type} [DecidableEq ι] [DecidableEq ι'] (g : Fixed) (hw : g.FixedWidth)
    (sim : Sim Cfg σ Act) (sched : Nat → Cfg) (seed : Nat) (ops : List (Op Act)) (ρ : Rho ι) (ρ' : Rho ι')
    (hv : ρ.Valid) (hv' : ρ'.Valid) (hs : sim.Safe g.seeds True) :
    run g sim sched seed ops ρ = run g sim sched seed ops ρ' :=
  C03_run_indep_of_env_agree g sim sched seed ops ρ ρ' hv hv' (hs.of_fixedWidth hw ρ ρ')

/-- **reseed_reproduces, FULL.** -/
theorem C03_reseed_reproduces {ι ι' Cfg σ Act : Type} [DecidableEq ι] [DecidableEq ι'] (g : Fixed) (hw : g.FixedWidth)
    (sim : Sim Cfg σ Act) (sched : Nat → Cfg) (ρ : Rho ι) (ρ' : Rho ι') (hv : ρ.Valid) (hv' : ρ'.Valid)
    (hs : sim.Safe g.seeds True) (p p' : Proc σ) (he : p.episode = p'.episode) (s : Nat) (ops : List (Op Act)) :
    canonRun [] (runOps g ρ sim sched p (.reset (some s) :: ops)) =
      canonRun [] (runOps g ρ' sim sched p' (.reset (some s) :: ops)) :=
  C03_reseed_reproduces_agree g sim sched ρ ρ' hv hv' (hs.of_fixedWidth hw ρ ρ') p p' he s ops

/-- **reseed_reproduces in the caller's vocabulary, FULL** (every seed value `0 ≤ s ≤ 2³²−1` — all that numpy accepts —, zero included). -/
theorem C03_code_reseed_reproduces {ι ι' Cfg σ Act : Type} [DecidableEq ι] [DecidableEq ι'] (g : Fixed) (hw : g.FixedWidth)
    (sim : Sim Cfg σ Act) (sched : Nat → Cfg) (ρ : Rho ι) (ρ' : Rho ι') (hv : ρ.Valid) (hv' : ρ'.Valid)
    (hs : sim.Safe g.seeds True) (p p' : Proc σ) (he : p.episode = p'.episode) (s : Nat) (hs32 : s < 4294967296)
    (cs : List (COp Act)) :
    canonRun [] (runOps g ρ sim sched p (codeShape.toOps false (.reset (some (s : Int)) :: cs))) =
      canonRun [] (runOps g ρ' sim sched p' (codeShape.toOps false (.reset (some (s : Int)) :: cs))) :=
  C03_code_reseed_reproduces_agree g sim sched ρ ρ' hv hv' (hs.of_fixedWidth hw ρ ρ') p p' he s hs32 cs

/-- **generators after re-seeding, FULL.** -/
theorem C03_generators_after_reseed {ι ι' Cfg σ Act : Type} [DecidableEq ι] [DecidableEq ι'] (g : Fixed) (hw : g.FixedWidth)
    (sim : Sim Cfg σ Act) (sched : Nat → Cfg) (ρ : Rho ι) (ρ' : Rho ι') (hv : ρ.Valid) (hv' : ρ'.Valid)
    (hs : sim.Safe g.seeds True) (p p' : Proc σ) (he : p.episode = p'.episode) (s : Nat) :
    (doReset g ρ sim sched p (some s)).1.w.rng = (doReset g ρ' sim sched p' (some s)).1.w.rng ∧
    (doReset g ρ sim sched p (some s)).1.st = (doReset g ρ' sim sched p' (some s)).1.st :=
  C03_generators_after_reseed_agree g sim sched ρ ρ' hv hv' (hs.of_fixedWidth hw ρ ρ') p p' he s

/-- the repaired code's text length: 26 characters for every clock reading (5 for every identifier: `Justified .fixedWidthReading`) -/
def repairedFixed : Fixed := { demoFixed with textLen := fun _ => 26 }
theorem repairedFixed_fixedWidth : repairedFixed.FixedWidth := fun _ _ => rfl

/-- non-vacuity: the pair of environments that refutes the variable-width statement (`C03_full_counterexample`: one clock on a whole
second, one not) is harmless for the repaired text length, on the very link that told them apart -/
example : run repairedFixed (linkSim 520) (fun _ => ()) 0 [.step (), .reset (some 3), .step ()] rhoWholeSecond =
    run repairedFixed (linkSim 520) (fun _ => ()) 0 [.step (), .reset (some 3), .step ()] rhoMicros :=
  C03_run_indep_of_env repairedFixed repairedFixed_fixedWidth _ _ _ _ _ _ rhoWholeSecond_valid rhoMicros_valid
    (linkSim_safe 520 _ True trivial)

/-! ## the environment's OWN generator state (F-11 repaired): nothing else in the process can move a draw

For `runOps` alone "nothing else consumes the global generators between two calls" is a HYPOTHESIS of every theorem above: both runs
play the same `Op.foreign` events (`C03_foreign_draw_counterexample`). The code wraps `__init__` / `reset` / `step` in
`own_generator_state`; the model of that is `ownedOpStep` (Lemmas/NoninterfOwnState.lean), and the statements below quantify over
ARBITRARY, different foreign activity in the two runs. -/

/-- **run_indep_of_env with arbitrary foreign activity, FULL.** Two runs of the same scenario, seed and environment operations - in two
processes with any valid environments `ρ`, `ρ'`, and with ANY, DIFFERENT use of the process-wide generators by others (other environment
instances, the training loop) anywhere between the operations - produce the same canonical trajectory. -/
theorem C03_run_indep_of_env_and_foreign_activity {ι ι' Cfg σ Act : Type} [DecidableEq ι] [DecidableEq ι'] (g : Fixed) (hw : g.FixedWidth)
    (sim : Sim Cfg σ Act) (sched : Nat → Cfg) (seed : Nat) (ops ops' : List (Op Act)) (hops : dropForeign ops = dropForeign ops')
    (ρ : Rho ι) (ρ' : Rho ι') (hv : ρ.Valid) (hv' : ρ'.Valid) (hs : sim.Safe g.seeds True) :
    runOwnedFrom g sim sched seed ops ρ = runOwnedFrom g sim sched seed ops' ρ' := by
  rw [runOwnedFrom_eq_run, runOwnedFrom_eq_run, hops]
  exact C03_run_indep_of_env g hw sim sched seed _ ρ ρ' hv hv' hs

/-- **reseed_reproduces with arbitrary foreign activity, FULL**: after `reset(seed = s)` the episode is a function of (schedule, episode
index, s, the environment's later operations) - whatever the two processes did before, whatever state the process-wide generators AND the
environment's saved state are in, and whatever others draw in between. -/
theorem C03_reseed_reproduces_and_foreign_activity {ι ι' Cfg σ Act : Type} [DecidableEq ι] [DecidableEq ι'] (g : Fixed) (hw : g.FixedWidth)
    (sim : Sim Cfg σ Act) (sched : Nat → Cfg) (ρ : Rho ι) (ρ' : Rho ι') (hv : ρ.Valid) (hv' : ρ'.Valid)
    (hs : sim.Safe g.seeds True) (q q' : OProc σ) (he : q.p.episode = q'.p.episode) (s : Nat) (ops ops' : List (Op Act))
    (hops : dropForeign ops = dropForeign ops') :
    canonRun [] (runOwned g ρ sim sched q (.reset (some s) :: ops)) =
      canonRun [] (runOwned g ρ' sim sched q' (.reset (some s) :: ops')) := by
  rw [runOwned_eq_runOps, runOwned_eq_runOps, dropForeign_reset_cons, dropForeign_reset_cons, hops]
  exact C03_reseed_reproduces g hw sim sched ρ ρ' hv hv' hs q.install q'.install he s _

/-- the witness of `C03_foreign_draw_counterexample` (a foreign draw between `reset(seed=3)` and a step) under the decorator: the
foreign draw does not move the episode; and the draws are real (another seed gives another value) -/
theorem C03_foreign_draw_harmless_since_repair :
    runOwned demoFixed rhoMicros (drawSim .py) (fun _ => ()) { p := { episode := 0, st := (), w := {} }, own := fun _ => 0 }
        [.reset (some 3), .foreign .py, .step ()] =
      runOwned demoFixed rhoMicros (drawSim .py) (fun _ => ()) { p := { episode := 0, st := (), w := {} }, own := fun _ => 0 }
        [.reset (some 3), .step ()] ∧
    runOwned demoFixed rhoMicros (drawSim .py) (fun _ => ()) { p := { episode := 0, st := (), w := {} }, own := fun _ => 0 }
        [.reset (some 3), .foreign .py, .step ()] ≠
      runOwned demoFixed rhoMicros (drawSim .py) (fun _ => ()) { p := { episode := 0, st := (), w := {} }, own := fun _ => 0 }
        [.reset (some 4), .foreign .py, .step ()] := by decide +kernel

open Primaite.Gen.OwnGeneratorState in
/-- **Gen obligation: the code IS `ownedOpStep`.** The decorator `own_generator_state` reads the environment's saved state first, puts it
back into BOTH seeded process-wide generators (`random`, `numpy.random`) when there is one, only then runs the wrapped operation (once,
inside the `try`), and records both states under the SAME key in the `finally`; it has no other statement and draws nothing; nothing else
in the package touches the key; `__init__`, `reset`, `step` of `PrimaiteGymEnv` and `PrimaiteRayMARLEnv` carry it (`PrimaiteRayEnv`
delegates to a `PrimaiteGymEnv`), and no decorated method calls a decorated method of the same object (a nested wrapper would rewind the
running operation's draws). The four `getstate` / `setstate` sites of the inventory are the ones of this wrapper
(`C03_facts_support_discharges`: `stateAccess … inWrapper`). -/
theorem C03_gen_own_generator_state :
    stateKey = savedUnder ∧ stateKey ≠ "" ∧ ownReadFirst = true ∧ restoreGuard = "isNotNone"
    ∧ restoreCalls.map (·.1) = ["random.setstate", "numpy.random.set_state"]
    ∧ savedValue = ["random.getstate", "numpy.random.get_state"]
    ∧ restoreCalls.map (·.2) = ["own[0]", "own[1]"]
    ∧ operationCalls.length = 1 ∧ operationAfterRestore = true ∧ operationInTry = true
    ∧ drawsInWrapper = [] ∧ otherStatements = [] ∧ stateKeyMentions = [] ∧ nestedOwned = []
    ∧ (["PrimaiteGymEnv", "PrimaiteRayMARLEnv"].all fun c => ["__init__", "reset", "step"].all fun m =>
        decorated.any fun d => d.1 == c && d.2.1 == m && d.2.2 == ["own_generator_state"]) = true
    ∧ ((table.filter fun e => e.2 == .ownGeneratorState).map fun e => (e.1.scope, e.1.detail)) =
        [ ("own_generator_state.wrapper", "np.random.get_state()"), ("own_generator_state.wrapper", "np.random.set_state(own[1])"),
          ("own_generator_state.wrapper", "random.getstate()"), ("own_generator_state.wrapper", "random.setstate(own[0])") ] :=
  -- equations between a regenerated value and a literal hold by unfolding (a decision would compare the strings character by character);
  -- the disequality and the sweep over `decorated` are computed
  ⟨rfl, by decide +kernel, rfl, rfl, rfl, rfl, rfl, rfl, rfl, rfl, rfl, rfl, rfl, rfl, by decide +kernel, by rfl⟩

/-! ## output settings must not decide WHEN a draw happens ("with logging fully on or fully off")

The model has no output-setting input: a `Sim` cannot look at `save_agent_logs`.  The hole that leaves: a draw made LAZILY (inside a
`cached_property` / `computed_field`, evaluated when somebody first looks) moves to another position of the seeded stream if the
somebody is a statement that runs only when logs are saved (seeded change C03-d: `logger.debug(f"… {self!r}")` under
`SIM_OUTPUT.save_agent_logs`; pydantic's repr evaluates the computed field `PeriodicAgent.start_node`). -/

/-- Two scripted agents. Agent A draws its start node LAZILY (at first use, in the first step) - unless `loud`, when the construction
logs `repr(agent)` and so forces the draw; agent B draws at construction. The first step reports both draws. -/
def lazySim (loud : Bool) : Sim Unit (Option Nat × Nat) Unit where
  construct _ :=
    if loud then .rand .py 99 fun a => .rand .py 99 fun b => .ret (some a, b)
    else .rand .py 99 fun b => .ret (none, b)
  rebuild _ :=
    if loud then .rand .py 99 fun a => .rand .py 99 fun b => .ret ((some a, b), [])
    else .rand .py 99 fun b => .ret ((none, b), [])
  step st _ :=
    match st.1 with
    | some a => .ret (st, [.val a, .val st.2])
    | none => .rand .py 99 fun a => .ret ((some a, st.2), [.val a, .val st.2])

/-- **Why no output-guarded code path may reach a draw.** Same seed, same actions, same environment: with logging on the lazy draw is
made at construction (before agent B's), with logging off at the first step (after it) - the two agents swap their values. -/
theorem C03_output_forced_draw_counterexample :
    run demoFixed (lazySim true) (fun _ => ()) 0 [.step ()] rhoMicros ≠ run demoFixed (lazySim false) (fun _ => ()) 0 [.step ()] rhoMicros := by
  decide +kernel

open Primaite.Gen.NondetOutput in
/-- **Gen obligation: output settings cannot move a draw.** (a) The draw sites inside lazily evaluated functions are exactly
`PeriodicAgent.start_node` (`computed_field` + `cached_property`); (b) NO function containing a draw site is reachable by name through
calls from output-guarded code (`if …save_* / write_*_to_terminal / *log_level…`); (c) the non-constant expressions that output-guarded
code FORMATS (f-string fields, `repr()`, `str()`, `%`) are exactly the committed ones - plain strings, levels, host / agent names, the
chosen action's name - none of them a model whose repr evaluates a computed field; (d) the only logger call with lazily formatted
arguments is the committed one (its argument is an f-string). A guarded `repr(agent)`, a guarded call of `get_action`, a new lazy draw
or a new lazily formatted object breaks this. -/
theorem C03_gen_output_cannot_move_draws :
    lazyDraws = [("game/agent/scripted_agents/random_agent.py", "PeriodicAgent.start_node", ["cached_property", "computed_field"])] ∧
    guardedReach = [] ∧
    guardedFormats =
      [ ("game/agent/agent_log.py", "AgentLog._write_to_terminal", "level"),
        ("game/agent/agent_log.py", "AgentLog._write_to_terminal", "msg"),
        ("game/agent/agent_log.py", "AgentLog._write_to_terminal", "self.agent_name"),
        ("game/agent/agent_log.py", "AgentLog._write_to_terminal", "self.timestep"),
        ("game/game.py", "PrimaiteGame.apply_agent_actions", "action_choice"),
        ("simulator/system/core/sys_log.py", "SysLog._write_to_terminal", "level"),
        ("simulator/system/core/sys_log.py", "SysLog._write_to_terminal", "msg"),
        ("simulator/system/core/sys_log.py", "SysLog._write_to_terminal", "self.hostname"),
        ("simulator/system/core/sys_log.py", "SysLog.setup_logger", "self.hostname"),
        ("utils/cli/dev_cli.py", "config_callback", "ctx.params.get('agent_log_level')"),
        ("utils/cli/dev_cli.py", "config_callback", "ctx.params.get('sys_log_level')") ] ∧
    lazyFormatArgs.map (fun x => (x.1, x.2.1)) = [("game/agent/rewards.py", "WebpageUnavailablePenalty.calculate")] :=
  ⟨rfl, rfl, rfl, rfl⟩

/-- The regenerated inventory is, site for site and in order, the committed table: no new, moved, renamed or vanished
site. A change of the source that adds `for x in some_set`, a `uuid4()`, a `datetime.now()`, a `random.*` … breaks this. -/
theorem C03_inventory_discharged : sites = table.map (·.1) := by rfl

/-- Every reason used in the table has its `Justified` statement proved. For seven reasons that statement is `True` (the four `byReading`
ones, and `hashValueDiscarded`, `offline`, `setDeclCovered`): what carries those is the regenerated fact, `C03_facts_support_discharges`. -/
theorem C03_discharges_justified : ∀ e ∈ table, e.2.Justified := fun e _ => Discharge.justified e.2

/-- Every set iteration rests on a lemma - the two DFS loops over the reward-sharing graph on lemmas alone (`evalRewards_order_indep`,
C10's theorem), the other nine on a regenerated fact plus the lemma for the kind - except the two int-hashed port sets (trusted
CPython fact). -/
theorem C03_set_iterations_by_lemma :
    ((table.filter fun e => e.1.kind == .setIter && (e.2.basis == .lemma || e.2.basis == .mechanical)).length,
     (table.filter fun e => e.1.kind == .setIter && e.2.basis == .trusted).map (·.2)) =
    (11, [.setIntHash, .setIntHash]) := by decide +kernel

/-- How the 78 discharges split: by lemma / by a mechanical Gen fact + kind lemma / mechanical fact + trusted runtime fact /
attributed to the open finding. (74 before the F-11 repair: its four `getstate` / `setstate` sites are discharged by a mechanical fact +
the lemma `runOwned_eq_runOps`, not by a trusted list.) -/
theorem C03_discharge_counts :
    (table.length, (table.filter fun e => e.2.basis == .lemma).length, (table.filter fun e => e.2.basis == .mechanical).length,
     (table.filter fun e => e.2.basis == .trusted).length, (table.filter fun e => e.2.basis == .openFinding).length) =
    (78, 9, 62, 7, 0) := by decide +kernel

/-- **The mechanical premises hold on the current source**: for every site, the regenerated FACT supports the reason the
table gives (constant secret length, reading sinks ⊆ {path, show, log}, draw from a seeded family at call time, seeding call
with argument `seed`, entropy draw only under `generate_seed_value`, `hash()` only as `__hash__`, module outside the runtime
import closure, `exclude=` of `model_dump`, int-valued set elements, uses of a declared set listed, `==`-only text use). -/
theorem C03_facts_support_discharges :
    facts.length = table.length ∧ ((table.zip facts).all fun e => e.1.2.supportedBy e.2) = true := by decide +kernel

/-- Every iteration / escape of a declared set name (indices listed by the extractor) is a site with a discharge of its own. -/
theorem C03_decl_uses_discharged :
    ((table.zip facts).all fun e =>
      match e.1.2, e.2 with
      | .setDeclCovered, .declUses idx => idx.all fun i =>
          match table[i]? with
          | some (s, d) => (s.kind == .setIter || s.kind == .setEscape) && d != .setDeclCovered
          | none => false
      | _, _ => true) = true := by decide +kernel

/-- No identifier is ordered, and the only uses of an identifier's TEXT are the two `==`-only ones. -/
theorem C03_identifier_uses :
    ((sites.filter fun s => s.kind == .idOrder).length, (table.filter fun e => e.1.kind == .idText).map (·.2)) =
    (0, [.idTextEqOnly, .idTextEqOnly]) := by decide +kernel

open Primaite.Gen.Nondet in
/-- **Gen obligation: an order that is "irrelevant for X" is consumed only by X.** The discharge of the neighbour-set iteration in
`topological_sort` (`setTopo`) says: every dependencies-first order computes the same REWARDS (`evalRewards_order_indep`,
`C10_graph_order_irrelevant`). That discharges the site only if the order it produces — `PrimaiteGame._reward_calculation_order`, the
one attribute assigned from a function with a set-iteration site — is read by the reward loop of `update_agents` and by nothing else,
neither directly nor through a helper that returns / yields it. A second consumer (e.g. the loop in which the agents ACT, hence draw
from the seeded generators) breaks this. -/
theorem C03_gen_order_consumers :
    orderUses = [ ("_reward_calculation_order", "topological_sort", [("game/game.py", "PrimaiteGame.update_agents")]) ] := by rfl

open Primaite.Gen.Nondet in
/-- **Gen obligation (F-9 repair).** The datetime-typed model fields of the tree are exactly these five; the three that are part of a
frame's JSON (`Frame.sent_timestamp`, `Frame.received_timestamp`, `NTPReply.ntp_datetime`) have a JSON serialiser that returns
`isoformat(timespec='microseconds')` (constant 26 characters); the other two (`NTPClient.time`, `TerminalClientConnection.time`) are
service state, never inside a frame. A new datetime field, or a removed / altered serialiser, breaks this; the identifier range is
pinned by `C03_facts_support_discharges` (`boundedSecret 10000 65535`). -/
theorem C03_gen_fixed_width_readings :
    datetimeFields =
      [ ("simulator/network/protocols/ntp.py", "NTPReply", "ntp_datetime", true),
        ("simulator/network/transmission/data_link_layer.py", "Frame", "sent_timestamp", true),
        ("simulator/network/transmission/data_link_layer.py", "Frame", "received_timestamp", true),
        ("simulator/system/services/ntp/ntp_client.py", "NTPClient", "time", false),
        ("simulator/system/services/terminal/terminal.py", "TerminalClientConnection", "time", false) ] ∧
    (frameDatetimeFields.all serialisedFixedWidth) = true := ⟨rfl, by decide +kernel⟩

/-- Exactly the sites whose reading's TEXT reaches Frame.size (finding F-9, repaired: fixed width). -/
theorem C03_fixed_width_sites : (table.filter fun e => e.2 == .fixedWidthReading).map (fun e => (e.1.file, e.1.scope)) =
    [("simulator/network/protocols/icmp.py", "ICMPPacket.__init__"),
     ("simulator/network/transmission/data_link_layer.py", "Frame.set_received_timestamp"),
     ("simulator/network/transmission/data_link_layer.py", "Frame.set_sent_timestamp"),
     ("simulator/system/services/ntp/ntp_server.py", "NTPServer.receive")] := by rfl

end Primaite.Noninterf
