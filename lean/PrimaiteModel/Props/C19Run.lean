/-
C19 — run-level theorems: statements about every tick of every run from the constructor (any run
length, any draws, any response sequence), proved by induction over the tick list with reachable-state invariants.

* the kill chains over whole runs: stage order / no skipping / restart only per settings, "stops or restarts at the
  end according to its repeat settings" with the failure branches, as ONE theorem per agent (`C19_tap{1,3}_kill_chain_run`);
* `actions_concluded` characterised exactly over a run (set at the first execution slot that finds the chain ended,
  never otherwise, never cleared);
* `progress_only_after_success` against the run's own response sequence (both agents); TAP003: "EXPLOIT.probability ≤ 0 ⇒
  no ACL command is ever issued" (that the chain then never succeeds is in C19More.lean);
* the assembled gap theorem: gaps between consecutive *acting* ticks of a TAP are sums of consecutive slot gaps.

Before them, what the later C19 files share: runs of a step function (`iter_*`, `times_*`), `pyIndex` at non-negative
indices, and per agent the cases and the invariant of a tick (`step_cases`, `step_inv`).
-/
import PrimaiteModel.Props.C19Sched
namespace Primaite.Agents

/-- Consecutive differences are `k` gaps of `[lo, hi]` each, for some `k ≥ 1` (what is left of `GapsIn` when elements
are dropped from the list). -/
def MultiGaps (lo hi : Int) : List Int → Prop
  | [] => True
  | [_] => True
  | a :: b :: rest => (∃ k : Nat, 1 ≤ k ∧ (k : Int) * lo ≤ b - a ∧ b - a ≤ (k : Int) * hi) ∧ MultiGaps lo hi (b :: rest)

theorem gapsIn_tail (lo hi : Int) (a : Int) (l : List Int) (h : GapsIn lo hi (a :: l)) : GapsIn lo hi l := by
  cases l with
  | nil => trivial
  | cons b r => exact h.2

theorem gaps_reach (lo hi : Int) : ∀ (l : List Int) (a b : Int) (m : List Int), GapsIn lo hi (a :: l) →
    (b :: m).Sublist l → ∃ k : Nat, 1 ≤ k ∧ (k : Int) * lo ≤ b - a ∧ b - a ≤ (k : Int) * hi := by
  intro l
  induction l with
  | nil => intro a b m _ hs; cases hs
  | cons x l ih =>
    intro a b m hg hs
    have hx : lo ≤ x - a ∧ x - a ≤ hi := hg.1
    cases hs with
    | cons _ hs' =>
      obtain ⟨k, _, hk2, hk3⟩ := ih x b m hg.2 hs'
      refine ⟨k + 1, Nat.succ_le_succ (Nat.zero_le k), ?_, ?_⟩
      · rw [Int.natCast_succ, Int.add_mul, Int.one_mul]; omega
      · rw [Int.natCast_succ, Int.add_mul, Int.one_mul]; omega
    | cons_cons _ _ =>
      refine ⟨1, Nat.le_refl 1, ?_, ?_⟩
      · rw [Int.natCast_one, Int.one_mul]; exact hx.1
      · rw [Int.natCast_one, Int.one_mul]; exact hx.2

/-- **Sublists of a gap list.** If consecutive elements of `l` are `[lo, hi]` apart, consecutive elements of any
sublist of `l` are `k · [lo, hi]` apart for some `k ≥ 1` (in the proof, one more than the number of elements dropped in
between). -/
theorem multiGaps_of_sublist (lo hi : Int) : ∀ (l m : List Int), GapsIn lo hi l → m.Sublist l → MultiGaps lo hi m := by
  intro l
  induction l with
  | nil => intro m _ hs; cases hs; trivial
  | cons x l ih =>
    intro m hg hs
    have hg' := gapsIn_tail lo hi x l hg
    cases hs with
    | cons _ hs' => exact ih _ hg' hs'
    | cons_cons _ hs' =>
      rename_i m'
      cases m' with
      | nil => trivial
      | cons b m'' => exact ⟨gaps_reach lo hi l x b m'' hg hs', ih _ hg' hs'⟩

def GapsAtLeast (lo : Int) : List Int → Prop
  | [] => True
  | [_] => True
  | a :: b :: rest => lo ≤ b - a ∧ GapsAtLeast lo (b :: rest)

theorem multiGaps_atLeast (lo hi : Int) (hlo : 0 ≤ lo) : ∀ (m : List Int), MultiGaps lo hi m → GapsAtLeast lo m := by
  intro m
  induction m with
  | nil => intro _; trivial
  | cons a m ih =>
    intro h
    cases m with
    | nil => trivial
    | cons b r =>
      obtain ⟨⟨k, hk1, hk2, _⟩, hrest⟩ := h
      refine ⟨?_, ih hrest⟩
      have h1 : (1 : Int) * lo ≤ (k : Int) * lo := Int.mul_le_mul_of_nonneg_right (by omega) hlo
      rw [Int.one_mul] at h1
      omega

def ChainLe : List Nat → Prop
  | [] => True
  | [_] => True
  | a :: b :: r => a ≤ b ∧ ChainLe (b :: r)

theorem pairwise_of_chainLe : ∀ l : List Nat, ChainLe l → l.Pairwise (· ≤ ·)
  | [], _ => List.Pairwise.nil
  | [a], _ => List.pairwise_singleton _ _
  | a :: b :: r, h => by
    have ih := pairwise_of_chainLe (b :: r) h.2
    refine List.pairwise_cons.2 ⟨?_, ih⟩
    intro x hx
    rcases List.mem_cons.1 hx with rfl | hx
    · exact h.1
    · exact Nat.le_trans h.1 ((List.pairwise_cons.1 ih).1 x hx)

theorem add_succ_cast (t : Int) (n : Nat) : t + ((n + 1 : Nat) : Int) = t + 1 + (n : Int) := by omega

/-! `after`, `run`, `runOut`, `actTimes` are defined per agent by recursion over the input list; the facts below need only
their two defining equations, which each agent supplies by `rfl`. -/

section Iterate
variable {σ ι : Type} (f : σ → Int → ι → σ) (A : σ → Int → List ι → σ)
  (hnil : ∀ s t, A s t [] = s) (hcons : ∀ s t i is, A s t (i :: is) = A (f s t i) (t + 1) is)
include hnil hcons

theorem iter_append : ∀ (pre : List ι) (s : σ) (t : Int) (post : List ι),
    A s t (pre ++ post) = A (A s t pre) (t + pre.length) post := by
  intro pre
  induction pre with
  | nil => intro s t post; rw [List.nil_append, hnil, List.length_nil, Int.natCast_zero, Int.add_zero]
  | cons i is ih =>
    intro s t post
    rw [List.cons_append, hcons, hcons, ih, List.length_cons, add_succ_cast]

theorem iter_snoc (pre : List ι) (s : σ) (t : Int) (i : ι) : A s t (pre ++ [i]) = f (A s t pre) (t + pre.length) i := by
  rw [iter_append f A hnil hcons, hcons, hnil]

theorem iter_inv (W : σ → Int → Prop) (hstep : ∀ s t i, W s t → W (f s t i) (t + 1)) :
    ∀ (pre : List ι) (s : σ) (t : Int), W s t → W (A s t pre) (t + pre.length) := by
  intro pre
  induction pre with
  | nil => intro s t h; rw [hnil, List.length_nil, Int.natCast_zero, Int.add_zero]; exact h
  | cons i is ih =>
    intro s t h
    rw [hcons, List.length_cons, add_succ_cast]
    exact ih _ _ (hstep s t i h)

theorem iter_switch (g : σ → Bool) : ∀ (pre : List ι) (s : σ) (t : Int), g s = false → g (A s t pre) = true →
    ∃ pre1 i rest, pre = pre1 ++ i :: rest ∧ g (A s t pre1) = false ∧ g (f (A s t pre1) (t + pre1.length) i) = true := by
  intro pre
  induction pre with
  | nil => intro s t h0 h1; rw [hnil, h0] at h1; cases h1
  | cons i is ih =>
    intro s t h0 h1
    cases hc : g (f s t i) with
    | true =>
      refine ⟨[], i, is, rfl, by rw [hnil]; exact h0, ?_⟩
      rw [hnil, List.length_nil, Int.natCast_zero, Int.add_zero]; exact hc
    | false =>
      rw [hcons] at h1
      obtain ⟨pre1, j, rest, he, ha, hb⟩ := ih _ _ hc h1
      refine ⟨i :: pre1, j, rest, by rw [he]; rfl, by rw [hcons]; exact ha, ?_⟩
      rw [hcons, List.length_cons, add_succ_cast]; exact hb

theorem iter_fixed (D : σ → Prop) (hD : ∀ s t i, D s → f s t i = s) : ∀ (w : List ι) (s : σ) (t : Int), D s → A s t w = s := by
  intro w
  induction w with
  | nil => intro s t _; exact hnil s t
  | cons i is ih => intro s t hd; rw [hcons, hD s t i hd]; exact ih s (t + 1) hd

/-- A list to which every step that leaves the agent alive appends `r i` has grown by `pre.map r` over a run that leaves it
alive. -/
theorem iter_appended {β : Type} (dead : σ → Bool) (l : σ → List β) (r : ι → β)
    (hfix : ∀ w s t, dead s = true → A s t w = s)
    (hstep : ∀ s t i, dead (f s t i) = false → l (f s t i) = l s ++ [r i]) :
    ∀ (pre : List ι) (s : σ) (t : Int), dead (A s t pre) = false → l (A s t pre) = l s ++ pre.map r := by
  intro pre
  induction pre with
  | nil => intro s t _; rw [hnil, List.map_nil, List.append_nil]
  | cons i is ih =>
    intro s t hfin
    rw [hcons] at hfin ⊢
    -- a dead agent stays dead, so the agent was alive after the first tick as well
    have hd1 : dead (f s t i) = false := by
      cases hdd : dead (f s t i) with
      | false => rfl
      | true => rw [hfix is _ _ hdd, hdd] at hfin; cases hfin
    rw [ih _ _ hfin, hstep s t i hd1, List.map_cons, List.append_assoc]
    rfl

/-- Waiting for a threshold: as long as the tick is before `nx s` a step keeps `nx` and `K`; so after exactly
`max t (nx s) - t` steps the threshold is reached, with `nx` unchanged and `K` still true. -/
theorem iter_wait (nx : σ → Int) (K : σ → Int → Prop)
    (hidle : ∀ s t i, K s t → t < nx s → K (f s t i) (t + 1) ∧ nx (f s t i) = nx s) :
    ∀ (w : List ι) (s : σ) (t : Int), K s t → (w.length : Int) = max t (nx s) - t →
      K (A s t w) (t + w.length) ∧ nx (A s t w) = nx s ∧ nx s ≤ t + w.length := by
  intro w
  induction w with
  | nil =>
    intro s t hk hlen
    rw [hnil, List.length_nil, Int.natCast_zero, Int.add_zero]
    simp only [List.length_nil] at hlen
    exact ⟨hk, rfl, by omega⟩
  | cons i is ih =>
    intro s t hk hlen
    simp only [List.length_cons] at hlen
    obtain ⟨hk', hn⟩ := hidle s t i hk (by omega)
    rw [hcons, List.length_cons, add_succ_cast, ← hn]
    exact ih _ _ hk' (by rw [hn]; omega)

end Iterate

section Times
variable {σ ι ο : Type} (S : SchedSys σ ι) (out : σ → Int → ι → ο) (q : ο → Bool) (T : σ → Int → List ι → List Int)
  (hT0 : ∀ s t, T s t [] = [])
  (hT1 : ∀ s t i is, T s t (i :: is) =
    if q (out s t i) then t :: T (S.step s t i) (t + 1) is else T (S.step s t i) (t + 1) is)
include hT0 hT1

theorem times_eq (R : σ → Int → List ι → List (Int × ο)) (hR0 : ∀ s t, R s t [] = [])
    (hR1 : ∀ s t i is, R s t (i :: is) = (t, out s t i) :: R (S.step s t i) (t + 1) is) :
    ∀ (ins : List ι) (s : σ) (t : Int), T s t ins = ((R s t ins).filter fun p => q p.2).map Prod.fst := by
  intro ins
  induction ins with
  | nil => intro s t; rw [hT0, hR0]; rfl
  | cons i is ih =>
    intro s t
    rw [hT1, hR1, List.filter_cons, ih]
    cases q (out s t i) <;> rfl

theorem mem_times (R : σ → Int → List ι → List (Int × ο)) (hR0 : ∀ s t, R s t [] = [])
    (hR1 : ∀ s t i is, R s t (i :: is) = (t, out s t i) :: R (S.step s t i) (t + 1) is) (ins : List ι) (s : σ) (t x : Int) :
    x ∈ T s t ins ↔ ∃ o, (x, o) ∈ R s t ins ∧ q o = true := by
  rw [times_eq S out q T hT0 hT1 R hR0 hR1]
  simp

theorem times_sublist (hq : ∀ s t i, q (out s t i) = true → S.slot s t = true) :
    ∀ (ins : List ι) (s : σ) (t : Int), (T s t ins).Sublist (S.slots s t ins) := by
  intro ins
  induction ins with
  | nil => intro s t; rw [hT0]; exact List.nil_sublist _
  | cons i is ih =>
    intro s t
    have ih' := ih (S.step s t i) (t + 1)
    rw [hT1]
    simp only [SchedSys.slots]
    cases hn : q (out s t i) with
    | true =>
      simp only [hq s t i hn, if_true]
      exact List.Sublist.cons_cons _ ih'
    | false =>
      simp only [Bool.false_eq_true, if_false]
      split
      · exact List.Sublist.cons _ ih'
      · exact ih'

end Times

/-! `pyIndex` (Python's `l[i]`) on the indices the agents use: their own remembered timesteps, which are never negative. -/

theorem pyIndex_of_nonneg {α} (l : List α) (i : Int) (h : 0 ≤ i) : pyIndex l i = l[i.toNat]? := by
  unfold pyIndex
  rw [if_pos h]

theorem pyIndex_mem {α} (l : List α) (i : Int) (x : α) (h : pyIndex l i = some x) : x ∈ l := by
  unfold pyIndex at h
  split at h
  · exact List.mem_of_getElem? h
  · split at h
    · exact List.mem_of_getElem? h
    · cases h

theorem pyIndex_some {α} (l : List α) (x : Int) (h0 : 0 ≤ x) (hlt : x < l.length) : ∃ a, pyIndex l x = some a := by
  rw [pyIndex_of_nonneg l x h0]
  exact ⟨_, List.getElem?_eq_getElem (show x.toNat < l.length by omega)⟩

theorem pyIndex_append_eq {α} (l : List α) (a : α) (i : Int) (he : i = l.length) : pyIndex (l ++ [a]) i = some a := by
  rw [pyIndex_of_nonneg _ i (by omega), show i.toNat = l.length by omega]
  exact List.getElem?_concat_length

theorem pyIndex_resp {H I R : Type} (rh : H → R) (ri : I → R) (hist : List H) (pre : List I)
    (hm : hist.map rh = pre.map ri) (k : Int) (h0 : 0 ≤ k) (h : H) (hh : pyIndex hist k = some h) :
    ∃ j, pre[k.toNat]? = some j ∧ ri j = rh h := by
  rw [pyIndex_of_nonneg hist k h0] at hh
  have e : (pre.map ri)[k.toNat]? = some (rh h) := by rw [← hm, List.getElem?_map, hh]; rfl
  rw [List.getElem?_map] at e
  cases hp : pre[k.toNat]? with
  | none => rw [hp] at e; cases e
  | some j => rw [hp] at e; exact ⟨j, rfl, Option.some.inj e⟩

namespace Tap1

/-- `current_timestep`, `history` and the liveness flag of the model: what no method below `get_action` writes. -/
def St.trail (s : St) : Int × List Hist × Bool := (s.curT, s.hist, s.dead)

theorem trail_ite {p : Prop} [Decidable p] {a b s : St} (ha : a.trail = s.trail) (hb : b.trail = s.trail) :
    (if p then a else b).trail = s.trail := by
  split <;> assumption

theorem of_trail {a : St} {x : Int × List Hist × Bool} (h : a.trail = x) : a.curT = x.1 ∧ a.hist = x.2.1 ∧ a.dead = x.2.2 := by
  subst h; exact ⟨rfl, rfl, rfl⟩

/-- The trail is part of the frame, which the stage methods keep (`frame_bodies`). -/
theorem trail_of_frame {a b : St} (h : a.frame = b.frame) : a.trail = b.trail :=
  congrArg (fun f => (f.curT, f.hist, f.dead)) h

theorem tr_payload (c : Cfg) (i : In) (s : St) : (payload c i s).trail = s.trail := trail_of_frame (frame_payload c i s)

theorem tr_c2c (c : Cfg) (i : In) (s : St) : (c2c c i s).trail = s.trail := trail_of_frame (frame_c2c c i s)

theorem tr_bodies (c : Cfg) (i : In) (s : St) : (bodies c i s).trail = s.trail := trail_of_frame (frame_bodies c i s)

theorem tr_setNext (c : Cfg) (s : St) (b d : Int) : (setNext c s b d).trail = s.trail := trail_ite rfl rfl

theorem tr_returnHandler (c : Cfg) (h : Hist) (s : St) : (returnHandler c h s).trail = s.trail := trail_ite rfl rfl

theorem tr_outcomeHandler (c : Cfg) (s : St) : (outcomeHandler c s).trail = s.trail :=
  trail_ite (trail_ite rfl (trail_ite rfl rfl)) rfl

@[simp] theorem ct_payload (c : Cfg) (i : In) (s : St) : (payload c i s).curT = s.curT := (of_trail (tr_payload c i s)).1
@[simp] theorem ct_c2c (c : Cfg) (i : In) (s : St) : (c2c c i s).curT = s.curT := (of_trail (tr_c2c c i s)).1
theorem ct_setNext (c : Cfg) (s : St) (b d : Int) : (setNext c s b d).curT = s.curT := (of_trail (tr_setNext c s b d)).1
theorem ct_returnHandler (c : Cfg) (h : Hist) (s : St) : (returnHandler c h s).curT = s.curT :=
  (of_trail (tr_returnHandler c h s)).1
@[simp] theorem ct_outcomeHandler (c : Cfg) (s : St) : (outcomeHandler c s).curT = s.curT :=
  (of_trail (tr_outcomeHandler c s)).1

@[simp] theorem hs_payload (c : Cfg) (i : In) (s : St) : (payload c i s).hist = s.hist := (of_trail (tr_payload c i s)).2.1
@[simp] theorem hs_c2c (c : Cfg) (i : In) (s : St) : (c2c c i s).hist = s.hist := (of_trail (tr_c2c c i s)).2.1
theorem hs_setNext (c : Cfg) (s : St) (b d : Int) : (setNext c s b d).hist = s.hist := (of_trail (tr_setNext c s b d)).2.1
theorem hs_returnHandler (c : Cfg) (h : Hist) (s : St) : (returnHandler c h s).hist = s.hist :=
  (of_trail (tr_returnHandler c h s)).2.1
@[simp] theorem hs_outcomeHandler (c : Cfg) (s : St) : (outcomeHandler c s).hist = s.hist :=
  (of_trail (tr_outcomeHandler c s)).2.1

/-- The ways `get_action(t)` can go: not an execution slot; no history item to look back at (it raises); the previous
action passes and the stage methods run; it does not pass and the previous action is repeated.  The new state is a
variable `r`, so that a proof about it does not unfold the path. -/
theorem getAction_branches (c : Cfg) (s : St) (t : Int) (i : In) (P : St × Act → Prop)
    (hidle : executes s t = false → P (s, Act.nothing))
    (hnone : executes s t = true → lookBack s = none → P (s.raise, Act.nothing))
    (hmain : ∀ h, executes s t = true → lookBack s = some h → passes c h (returnHandler c h s) = true →
      ∀ r, r = mainPath c (returnHandler c h s) t i → P (r, r.chosen))
    (hfail : ∀ h, executes s t = true → lookBack s = some h → passes c h (returnHandler c h s) = false →
      ∀ r, r = failPath c (returnHandler c h s) t i → P (r, r.chosen)) :
    P (getAction c s t i) := by
  unfold getAction
  cases hex : executes s t with
  | false => exact hidle hex
  | true =>
    rw [if_neg (not_not_intro rfl)]
    cases hl : lookBack s with
    | none => exact hnone hex hl
    | some h =>
      dsimp only
      cases hp : passes c h (returnHandler c h s) with
      | true => rw [if_pos rfl]; exact hmain h hex hl hp _ rfl
      | false => rw [if_neg Bool.false_ne_true]; exact hfail h hex hl hp _ rfl

theorem getAction_trail (c : Cfg) (s : St) (t : Int) (i : In) :
    (getAction c s t i).1.trail = s.trail ∨ (getAction c s t i).1.trail = (t, s.hist, s.dead) :=
  getAction_branches c s t i (fun r => r.1.trail = s.trail ∨ r.1.trail = (t, s.hist, s.dead))
    (fun _ => Or.inl rfl) (fun _ _ => Or.inl rfl)
    (fun h _ _ _ r hr => Or.inr <| by
      rw [hr]
      unfold mainPath
      rw [tr_bodies, tr_outcomeHandler, tr_setNext]
      exact congrArg (fun x => (t, x.2)) (tr_returnHandler c h s))
    (fun h _ _ _ r hr => Or.inr <| by
      rw [hr]
      unfold failPath
      rw [tr_setNext]
      exact congrArg (fun x => (t, x.2))
        ((tr_outcomeHandler c _).trans ((tr_setNext c _ _ _).trans (tr_returnHandler c h s))))

theorem getAction_curT (c : Cfg) (s : St) (t : Int) (i : In) :
    (getAction c s t i).1.curT = s.curT ∨ (getAction c s t i).1.curT = t := by
  rcases getAction_trail c s t i with e | e
  · exact Or.inl (of_trail e).1
  · exact Or.inr (of_trail e).1

theorem getAction_hist (c : Cfg) (s : St) (t : Int) (i : In) : (getAction c s t i).1.hist = s.hist := by
  rcases getAction_trail c s t i with e | e <;> exact (of_trail e).2.1

theorem getAction_dead (c : Cfg) (s : St) (t : Int) (i : In) : (getAction c s t i).1.dead = s.dead := by
  rcases getAction_trail c s t i with e | e <;> exact (of_trail e).2.2

theorem step_cases (c : Cfg) (s : St) (t : Int) (i : In) (P : St × Out → Prop)
    (hdead : s.dead = true → P (s, .raised))
    (hraise : s.dead = false → (getAction c s t i).1.err = true → P ({ s with dead := true }, .raised))
    (hact : s.dead = false → (getAction c s t i).1.err = false →
      P ({ (getAction c s t i).1 with
            hist := (getAction c s t i).1.hist ++ [{ kind := (getAction c s t i).2.kind, resp := i.resp }] },
         .act (getAction c s t i).2)) :
    P (step c s t i) := by
  unfold step
  cases hd : s.dead with
  | true => exact hdead hd
  | false =>
    cases he : (getAction c s t i).1.err with
    | true => exact hraise hd he
    | false => exact hact hd he

theorem inv_returnHandler (c : Cfg) (x : Hist) (s : St) (hi : Inv s) : Inv (returnHandler c x s) :=
  ite_pres (Or.inl rfl) hi

theorem inv_head (c : Cfg) (s : St) (b d : Int) (hi : Inv s) : Inv (outcomeHandler c (setNext c s b d)) := by
  have hf := setNext_fields c s b d
  have hi2 : Inv (setNext c s b d) := by
    unfold Inv; rw [hf.1, hf.2.1]; exact hi
  generalize setNext c s b d = s2 at hi2
  exact ite_pres (ite_pres hi2 (ite_pres (Or.inr rfl) hi2)) hi2

/-- **An invariant of the skeleton's operations and of the stage methods is an invariant of the tick**, and what the tick
returns is do-nothing or the `chosen_action` of a state that has it.  (For the stage methods `Inv` may be assumed if it
held before the tick: the skeleton keeps it.) -/
theorem step_inv (c : Cfg) {P : St → Prop} {Q : Act → Prop} (s : St)
    (hset : ∀ s b d, P s → P (setNext c s b d)) (hout : ∀ s, P s → P (outcomeHandler c s))
    (hret : ∀ x s, P s → P (returnHandler c x s)) (hbod : ∀ i q, (Inv s → Inv q) → P q → P (bodies c i q))
    (hT : ∀ s t, P s → P { s with curT := t }) (hraise : ∀ s, P s → P s.raise)
    (hdead : ∀ s, P s → P { s with dead := true })
    (hpush : ∀ s a r, P s → Q a → P { s with hist := s.hist ++ [{ kind := a.kind, resp := r }] })
    (hch : ∀ s, P s → Q s.chosen) (hno : Q Act.nothing) (t : Int) (i : In) (h : P s) :
    P (step c s t i).1 ∧ ∀ a, (step c s t i).2 = .act a → Q a :=
  have hg : P (getAction c s t i).1 ∧ Q (getAction c s t i).2 :=
    getAction_branches c s t i (fun r => P r.1 ∧ Q r.2) (fun _ => ⟨h, hno⟩) (fun _ _ => ⟨hraise s h, hno⟩)
      (fun x _ _ _ r hr =>
        have hm : P r := by
          rw [hr]
          exact hbod i _ (fun hi => inv_head c _ _ _ (inv_returnHandler c x s hi)) (hout _ (hset _ _ _ (hT _ t (hret x s h))))
        ⟨hm, hch r hm⟩)
      (fun x _ _ _ r hr =>
        have hf : P r := by rw [hr]; exact hset _ _ _ (hT _ t (hout _ (hset _ _ _ (hret x s h))))
        ⟨hf, hch r hf⟩)
  step_cases c s t i (fun r => P r.1 ∧ ∀ a, r.2 = .act a → Q a)
    (fun _ => ⟨h, fun _ ha => Out.noConfusion ha⟩) (fun _ _ => ⟨hdead s h, fun _ ha => Out.noConfusion ha⟩)
    (fun _ _ => ⟨hpush _ _ _ hg.1 hg.2, fun a ha => by cases ha; exact hg.2⟩)

theorem step_of_act (c : Cfg) (s : St) (t : Int) (i : In) (hd : s.dead = false) (he : (getAction c s t i).1.err = false) :
    step c s t i = ({ (getAction c s t i).1 with
        hist := (getAction c s t i).1.hist ++ [{ kind := (getAction c s t i).2.kind, resp := i.resp }] },
      .act (getAction c s t i).2) :=
  step_cases c s t i (fun r => r = _) (fun h => by rw [hd] at h; cases h) (fun _ h => by rw [he] at h; cases h)
    (fun _ _ => rfl)

theorem step_resp (c : Cfg) (s : St) (t : Int) (i : In) (h1 : (step c s t i).1.dead = false) :
    s.dead = false ∧ (step c s t i).1.hist.map (·.resp) = s.hist.map (·.resp) ++ [i.resp] :=
  step_cases c s t i (fun r => r.1.dead = false → s.dead = false ∧ r.1.hist.map (·.resp) = s.hist.map (·.resp) ++ [i.resp])
    (fun hd h1 => by rw [hd] at h1; cases h1) (fun _ _ h1 => by cases h1)
    (fun hd _ _ => ⟨hd, by rw [List.map_append, getAction_hist]; rfl⟩) h1

theorem step_moves (c : Cfg) (s : St) (t : Int) (i : In) (x : Stage) (hne : x ≠ s.cur) (h : (step c s t i).1.cur = x) :
    s.dead = false ∧ (getAction c s t i).1.cur = x :=
  step_cases c s t i (fun r => r.1.cur = x → s.dead = false ∧ (getAction c s t i).1.cur = x)
    (fun _ h => absurd h.symm hne) (fun _ _ h => absurd h.symm hne) (fun hd _ h => ⟨hd, h⟩) h

def Stage.terminal : Stage → Bool
  | .succeeded | .failed => true
  | _ => false

theorem terminal_iff (x : Stage) : x.terminal = true ↔ (x = .succeeded ∨ x = .failed) := by
  cases x <;> simp [Stage.terminal]

def after (c : Cfg) : St → Int → List In → St
  | s, _, [] => s
  | s, t, i :: is => after c (step c s t i).1 (t + 1) is

theorem after_append (c : Cfg) : ∀ (pre : List In) (s : St) (t : Int) (post : List In),
    after c s t (pre ++ post) = after c (after c s t pre) (t + pre.length) post :=
  iter_append (fun s t i => (step c s t i).1) (after c) (fun _ _ => rfl) (fun _ _ _ _ => rfl)

theorem after_snoc (c : Cfg) (pre : List In) (s : St) (t : Int) (i : In) :
    after c s t (pre ++ [i]) = (step c (after c s t pre) (t + pre.length) i).1 :=
  iter_snoc (fun s t i => (step c s t i).1) (after c) (fun _ _ => rfl) (fun _ _ _ _ => rfl) pre s t i

theorem after_dead (c : Cfg) : ∀ (w : List In) (s : St) (t : Int), s.dead = true → after c s t w = s :=
  iter_fixed (fun s t i => (step c s t i).1) (after c) (fun _ _ => rfl) (fun _ _ _ _ => rfl) (fun s => s.dead = true)
    (fun s t i hd => congrArg Prod.fst (if_pos hd : step c s t i = (s, .raised)))

/-- What holds of every state a run from the constructor reaches (before tick `t`). -/
structure WF (c : Cfg) (s : St) (t : Int) : Prop where
  inv : Inv s
  conc : ConcInv c s
  var : 0 ≤ c.variance
  tpos : 0 ≤ t
  curT : 0 ≤ s.curT
  err : s.err = false
  /-- `current_timestep` is the timestep of an earlier call (strictly, once the agent has left NOT_STARTED) -/
  curT_le : s.curT ≤ t
  curT_lt : s.curT < t ∨ s.cur = .notStarted

theorem wf_init (c : Cfg) (d0 : Int) (k1 k2 : Nat) (s0 : St) (h0 : init c d0 k1 k2 = some s0) : WF c s0 0 := by
  obtain ⟨hv, rfl⟩ := init_some c d0 k1 k2 s0 h0
  exact ⟨Or.inr rfl, nofun, by simpa [randintOk] using hv.1, Int.le_refl 0, Int.le_refl 0, rfl, Int.le_refl 0, Or.inr rfl⟩

theorem wf_step (c : Cfg) (s : St) (t : Int) (i : In) (h : WF c s t) : WF c (step c s t i).1 (t + 1) := by
  have hinv := (C19_tap1_stage_step c s t i h.inv).2
  have hconc := step_concInv c s t i h.conc
  -- the tick leaves `current_timestep` alone or sets it to `t`; an agent that raised is dead, with its state kept
  obtain ⟨hct, herr⟩ : ((step c s t i).1.curT = s.curT ∨ (step c s t i).1.curT = t) ∧ (step c s t i).1.err = false :=
    step_cases c s t i (fun r => (r.1.curT = s.curT ∨ r.1.curT = t) ∧ r.1.err = false)
      (fun _ => ⟨Or.inl rfl, h.err⟩) (fun _ _ => ⟨Or.inl rfl, h.err⟩) (fun _ he => ⟨getAction_curT c s t i, he⟩)
  have h0 := h.tpos
  have h1 := h.curT
  have h2 := h.curT_le
  exact ⟨hinv, hconc, h.var, by omega, by omega, herr, by omega, Or.inl (by omega)⟩

theorem wf_after (c : Cfg) : ∀ (pre : List In) (s : St) (t : Int), WF c s t → WF c (after c s t pre) (t + pre.length) :=
  iter_inv (fun s t i => (step c s t i).1) (after c) (fun _ _ => rfl) (fun _ _ _ _ => rfl) (WF c) (wf_step c)

/-- In a reachable state the look-back never raises: `current_timestep` is a previous (non-negative) timestep. -/
theorem lookBack_some (s : St) (h : 0 ≤ s.curT) : ∃ x, lookBack s = some x := by
  unfold lookBack
  split
  · exact ⟨_, rfl⟩
  · exact pyIndex_some s.hist s.curT h (by omega)

theorem executes_false {s : St} {t : Int} (h : t < s.nextExec) : executes s t = false := by
  unfold executes; rw [decide_eq_true h]; rfl

theorem executes_true {s : St} {t : Int} (h1 : s.nextExec ≤ t) (h2 : s.concluded = false) : executes s t = true := by
  unfold executes; rw [decide_eq_false (Int.not_lt.2 h1), h2]; rfl

/-- What one tick does when it finds the chain ended (`s` = state before the tick, `t` = its timestep). -/
structure EndTick (c : Cfg) (s : St) (t : Int) (i : In) : Prop where
  /-- the agent does not act (and does not raise) -/
  quiet : (step c s t i).2 = .act Act.nothing ∧ (step c s t i).1.dead = false
  /-- not yet an execution slot: nothing changes -/
  waits : executes s t = false → (step c s t i).1.cur = s.cur ∧ (step c s t i).1.concluded = s.concluded ∧
    (step c s t i).1.nextExec = s.nextExec
  /-- repeat off: the first execution slot concludes the agent, the stage stays SUCCEEDED / FAILED -/
  stops : executes s t = true → c.repeatKillChain = false →
    (step c s t i).1.concluded = true ∧ (step c s t i).1.cur.terminal = true
  /-- repeat on: the first execution slot restarts the chain, the agent is not concluded -/
  restarts : executes s t = true → c.repeatKillChain = true →
    (step c s t i).1.concluded = false ∧ ((step c s t i).1.cur = .notStarted ∨ (step c s t i).1.cur = .download)

theorem end_tick (c : Cfg) (s : St) (t : Int) (i : In) (hw : WF c s t) (hterm : s.cur.terminal = true)
    (hd : s.dead = false) : EndTick c s t i := by
  have hterm' := (terminal_iff s.cur).1 hterm
  obtain ⟨h, hh⟩ := lookBack_some s hw.curT
  -- in an execution slot or not, `get_action` returns do-nothing and does not raise
  have hga : (getAction c s t i).2 = Act.nothing ∧ (getAction c s t i).1.err = s.err := by
    cases hex : executes s t with
    | false => rw [C19_tap1_idle_tick c s t i hex]; exact ⟨rfl, rfl⟩
    | true => exact ⟨(ended_slot c s t i h hterm' hex hh).1, (ended_slot c s t i h hterm' hex hh).2.1 hw.var⟩
  have hstep := step_of_act c s t i hd (by rw [hga.2]; exact hw.err)
  have hdead : (getAction c s t i).1.dead = false := by rw [getAction_dead]; exact hd
  refine ⟨?_, ?_, ?_, ?_⟩ <;> rw [hstep]
  · exact ⟨by rw [hga.1], hdead⟩
  · intro hex
    rw [C19_tap1_idle_tick c s t i hex]
    exact ⟨rfl, rfl, rfl⟩
  · intro hex hrep
    have := C19_tap1_stops c s t i h hrep hterm' hex hh
    exact ⟨this.1, (terminal_iff _).2 this.2.1⟩
  · intro hex hrep
    exact C19_tap1_restarts c s t i h hrep hterm' hex hh

/-- **A step back in stage order is a restart**: the sampled stage moves to a lower stage only with `repeat_kill_chain`,
only to NOT_STARTED or the first stage, and only from a finished chain (or, stages not being repeated, from the stage
that failed in the same tick). -/
theorem C19_tap1_descent_is_restart (c : Cfg) (a b : Stage) (h : Allowed c a b) (hlt : rank b < rank a) :
    c.repeatKillChain = true ∧ (b = .notStarted ∨ b = .download) ∧
    ((a = .succeeded ∨ a = .failed) ∨ c.repeatStages = false) := by
  rcases h with h | ⟨hc, h⟩ | h | ⟨ha, hb⟩ | ⟨hr, hterm, hb⟩ | ⟨hr, hrs, hb⟩
  · rw [h] at hlt; exact absurd hlt (Nat.lt_irrefl _)
  · rw [h] at hlt; exact absurd (rank_le_succ a hc) (Nat.not_le.2 hlt)
  · rw [h] at hlt; exact absurd (rank_le_failed a) (Nat.not_le.2 hlt)
  · rw [ha, hb] at hlt; exact absurd hlt (by decide)
  · exact ⟨hr, hb, Or.inl hterm⟩
  · exact ⟨hr, Or.inl hb, Or.inr hrs⟩

theorem rank_le_of_allowed (c : Cfg) (a b : Stage) (h : Allowed c a b) (hrep : c.repeatKillChain = false) :
    rank a ≤ rank b :=
  Nat.le_of_not_lt fun hlt => by
    have hr := (C19_tap1_descent_is_restart c a b h hlt).1
    rw [hrep] at hr; cases hr

theorem linked_chainLe (c : Cfg) (hrep : c.repeatKillChain = false) : ∀ (l : List St) (a : Stage),
    Linked (Allowed c) a l → ChainLe (rank a :: l.map (fun s => rank s.cur)) := by
  intro l
  induction l with
  | nil => intro a _; trivial
  | cons s r ih =>
    intro a h
    exact ⟨rank_le_of_allowed c a s.cur h.1 hrep, ih s.cur h.2⟩

/-- **The kill chain over a whole run (TAP001)** — one statement for every configuration, every first draw, every
sequence of schedule / trial / scan draws and simulator responses, every run length:

1. *order, no skipping*: each sampled stage is related to the previous one by `Allowed` (stay, the NEXT stage of the
   chain, FAILED, NOT_STARTED → first stage, or a restart that needs `repeat_kill_chain`);
2. *never backwards*: without `repeat_kill_chain` the stage ranks of the whole run are sorted
   (with it, a descent is a restart to NOT_STARTED / DOWNLOAD: `C19_tap1_descent_is_restart`);
3. at every tick of the run (`pre` = the ticks before it): `actions_concluded` is set only with repeat off and the
   chain ended; and a live agent that finds the chain SUCCEEDED or FAILED never acts, waits for its next execution
   slot, and in that slot stops for good (repeat off: concluded, stage still SUCCEEDED or FAILED) or restarts
   (repeat on: NOT_STARTED or straight into DOWNLOAD, never concluded) — failure branches included (`EndTick`). -/
theorem C19_tap1_kill_chain_run (c : Cfg) (d0 : Int) (k1 k2 : Nat) (s0 : St) (ins : List In) (h0 : init c d0 k1 k2 = some s0) :
    Linked (Allowed c) s0.cur (run c s0 0 ins) ∧
    (c.repeatKillChain = false → ((s0 :: run c s0 0 ins).map (fun s => rank s.cur)).Pairwise (· ≤ ·)) ∧
    (∀ (pre : List In) (i : In) (post : List In), ins = pre ++ i :: post →
      ((after c s0 0 pre).concluded = true →
        c.repeatKillChain = false ∧ (after c s0 0 pre).cur.terminal = true) ∧
      ((after c s0 0 pre).cur.terminal = true → (after c s0 0 pre).dead = false →
        EndTick c (after c s0 0 pre) pre.length i)) := by
  have hL := (C19_tap1_stage_monotone c d0 k1 k2 s0 ins h0).1
  refine ⟨hL, ?_, ?_⟩
  · intro hrep
    exact pairwise_of_chainLe _ (linked_chainLe c hrep _ _ hL)
  · intro pre i post _
    have hw := wf_after c pre s0 0 (wf_init c d0 k1 k2 s0 h0)
    rw [Int.zero_add] at hw
    refine ⟨?_, fun hterm hd => end_tick c _ _ i hw hterm hd⟩
    intro hc
    have := hw.conc hc
    exact ⟨this.1, (terminal_iff _).2 this.2⟩

/-- Non-vacuity: repeat on, stages not repeated, PROPAGATE.probability 0: the agent of `exCfg` fails in PROPAGATE, the next
execution slot finds the chain FAILED and restarts it straight into DOWNLOAD. -/
example :
    let c : Cfg := { exCfg with repeatKillChain := true, repeatStages := false, pPropagate := ⟨0, 1⟩ }
    ∃ s0, init c 0 0 0 = some s0 ∧
      (run c s0 0 (List.replicate 9 exIn)).map (·.cur)
        = [.notStarted, .download, .download, .install, .activate, .propagate, .failed, .download, .download] := by
  refine ⟨_, rfl, ?_⟩; decide +kernel

/-- **Waiting for the next slot.**  A live agent that has not concluded waits exactly until `max t next_execution_timestep`:
the ticks before change nothing of the stage and the schedule, and that tick IS an execution slot. -/
theorem wait_until_slot (c : Cfg) (w : List In) (s : St) (t : Int) (hw : WF c s t) (hd : s.dead = false)
    (hc : s.concluded = false) (hlen : (w.length : Int) = max t s.nextExec - t) :
    (after c s t w).cur = s.cur ∧ (after c s t w).concluded = false ∧ (after c s t w).nextExec = s.nextExec ∧
    (after c s t w).dead = false ∧ executes (after c s t w) (t + w.length) = true := by
  obtain ⟨⟨_, hd', hc', hx⟩, hn, hle⟩ := iter_wait (fun s t i => (step c s t i).1) (after c) (fun _ _ => rfl) (fun _ _ _ _ => rfl)
    (·.nextExec) (fun r t => WF c r t ∧ r.dead = false ∧ r.concluded = false ∧ r.cur = s.cur)
    (fun r t i ⟨hw, hd, hc, hx⟩ hlt => by
      have hex := executes_false hlt
      obtain ⟨h2, h3, h4⟩ := step_idle_fields c r t i hex
      refine ⟨⟨wf_step c r t i hw, ?_, h3.trans hc, h4.trans hx⟩, h2⟩
      -- a reachable agent does not raise in an idle tick
      rw [step_of_act c r t i hd (by rw [C19_tap1_idle_tick c r t i hex]; exact hw.err)]
      exact (getAction_dead c r t i).trans hd) w s t ⟨hw, hd, hc, rfl⟩ hlen
  exact ⟨hx, hc', hn, hd', executes_true (by rw [hn]; exact hle) hc'⟩

theorem C19_tap1_ends_at_first_slot (c : Cfg) (d0 : Int) (k1 k2 : Nat) (s0 : St) (h0 : init c d0 k1 k2 = some s0) (pre w : List In) (i : In)
    (hterm : (after c s0 0 pre).cur.terminal = true) (hd : (after c s0 0 pre).dead = false)
    (hc : (after c s0 0 pre).concluded = false)
    (hlen : (w.length : Int) = max (pre.length : Int) (after c s0 0 pre).nextExec - pre.length) :
    (after c s0 0 (pre ++ w)).cur = (after c s0 0 pre).cur ∧
    (c.repeatKillChain = false →
      (after c s0 0 (pre ++ w ++ [i])).concluded = true ∧ (after c s0 0 (pre ++ w ++ [i])).cur.terminal = true) ∧
    (c.repeatKillChain = true →
      (after c s0 0 (pre ++ w ++ [i])).concluded = false ∧
      ((after c s0 0 (pre ++ w ++ [i])).cur = .notStarted ∨ (after c s0 0 (pre ++ w ++ [i])).cur = .download)) := by
  have hw := wf_after c pre s0 0 (wf_init c d0 k1 k2 s0 h0)
  rw [Int.zero_add] at hw
  obtain ⟨h1, h2, h3, h4, h5⟩ := wait_until_slot c w _ _ hw hd hc hlen
  have hw2 := wf_after c w _ _ hw
  have e1 : after c s0 0 (pre ++ w) = after c (after c s0 0 pre) pre.length w := by
    rw [after_append, Int.zero_add]
  have e2 : after c s0 0 (pre ++ w ++ [i]) = (step c (after c s0 0 (pre ++ w)) ((pre.length : Int) + w.length) i).1 := by
    rw [after_snoc, List.length_append, Int.natCast_add, Int.zero_add]
  have he := end_tick c _ _ i hw2 (by rw [h1]; exact hterm) h4
  rw [e2, e1]
  exact ⟨h1, fun hr => he.stops h5 hr, fun hr => he.restarts h5 hr⟩

theorem step_concludes (c : Cfg) (s : St) (t : Int) (i : In) (ha : s.concluded = false)
    (hb : (step c s t i).1.concluded = true) :
    s.dead = false ∧ executes s t = true ∧ c.repeatKillChain = false ∧
      ((step c s t i).1.cur = .succeeded ∨ (step c s t i).1.cur = .failed) ∧ (step c s t i).2 = .act Act.nothing :=
  step_cases c s t i
    (fun r => r.1.concluded = true → s.dead = false ∧ executes s t = true ∧ c.repeatKillChain = false ∧
      (r.1.cur = .succeeded ∨ r.1.cur = .failed) ∧ r.2 = .act Act.nothing)
    (fun _ hb => by rw [ha] at hb; cases hb) (fun _ _ hb => by rw [ha] at hb; cases hb)
    (fun hd _ hb =>
      have h := C19_tap1_concluded_only_at_end c s t i ha hb
      ⟨hd, h.1, h.2.1, h.2.2.1, by rw [h.2.2.2]⟩)
    hb

/-- **`actions_concluded` over a whole run (TAP001): written at the end of the chain and nowhere else.**  If the flag is
set after the ticks `pre` of a run from the constructor, then there is such a tick in `pre`: the agent was
alive and not concluded, the tick was an execution slot, `repeat_kill_chain` is off, the stage after the tick is
SUCCEEDED or FAILED and the tick returned do-nothing. -/
theorem C19_tap1_concluded_run (c : Cfg) (d0 : Int) (k1 k2 : Nat) (s0 : St) (h0 : init c d0 k1 k2 = some s0) (pre : List In)
    (hc : (after c s0 0 pre).concluded = true) :
    ∃ pre1 i rest, pre = pre1 ++ i :: rest ∧
      (after c s0 0 pre1).concluded = false ∧ (after c s0 0 pre1).dead = false ∧
      executes (after c s0 0 pre1) pre1.length = true ∧ c.repeatKillChain = false ∧
      ((after c s0 0 (pre1 ++ [i])).cur = .succeeded ∨ (after c s0 0 (pre1 ++ [i])).cur = .failed) ∧
      (step c (after c s0 0 pre1) pre1.length i).2 = .act Act.nothing := by
  have hs0 : s0.concluded = false := by rw [(init_some c d0 k1 k2 s0 h0).2]
  obtain ⟨pre1, i, rest, he, ha, hb⟩ := iter_switch (fun s t i => (step c s t i).1) (after c) (fun _ _ => rfl)
    (fun _ _ _ _ => rfl) (·.concluded) pre s0 0 hs0 hc
  rw [Int.zero_add] at hb
  refine ⟨pre1, i, rest, he, ha, ?_⟩
  rw [after_snoc, Int.zero_add]
  exact step_concludes c _ _ i ha hb

def Out.nonIdle : Out → Bool
  | .act a => decide (a ≠ Act.nothing)
  | .raised => false

/-- The ticks of a run at which the agent returns an action other than do-nothing. -/
def actTimes (c : Cfg) : St → Int → List In → List Int
  | _, _, [] => []
  | s, t, i :: is =>
    if (step c s t i).2.nonIdle then t :: actTimes c (step c s t i).1 (t + 1) is
    else actTimes c (step c s t i).1 (t + 1) is

theorem nonIdle_iff (o : Out) : o.nonIdle = true ↔ ∃ a, o = .act a ∧ a ≠ Act.nothing := by
  cases o <;> simp [Out.nonIdle]

theorem mem_actTimes (c : Cfg) : ∀ (ins : List In) (s : St) (t x : Int),
    x ∈ actTimes c s t ins ↔ ∃ a, (x, Out.act a) ∈ runOut c s t ins ∧ a ≠ Act.nothing := by
  intro ins s t x
  rw [mem_times (sched c) (fun s t i => (step c s t i).2) Out.nonIdle (actTimes c) (fun _ _ => rfl) (fun _ _ _ _ => rfl)
    (runOut c) (fun _ _ => rfl) (fun _ _ _ _ => rfl)]
  simp only [nonIdle_iff]
  exact ⟨fun ⟨_, hm, a, e, hne⟩ => ⟨a, e ▸ hm, hne⟩, fun ⟨a, hm, hne⟩ => ⟨_, hm, a, rfl, hne⟩⟩

theorem nonIdle_slot (c : Cfg) (s : St) (t : Int) (i : In) (h : (step c s t i).2.nonIdle = true) :
    (sched c).slot s t = true := by
  obtain ⟨a, ha, hne⟩ := (nonIdle_iff _).1 h
  obtain ⟨hd, hex⟩ := step_act c s t i a ha hne
  rw [slot_iff, hd, hex]; rfl

/-- **Gaps between consecutive actions of TAP001, assembled over the whole run.**  In a run from the constructor with
all schedule draws in range, the ticks at which the agent returns an action other than do-nothing form a sublist of
its execution slots; none lies before `start_step + d0` (nor before step 0); consecutive ones are `k ≥ 1` slot gaps apart
(silent slots — failed trial, start tick, restart — in between make `k` larger), each slot gap in
`[max 1 (frequency − variance), max 1 (frequency + variance)]`; in particular the agent never acts twice within less
than `max 1 (frequency − variance)` steps. -/
theorem C19_tap1_action_gaps (c : Cfg) (d0 : Int) (k1 k2 : Nat) (s0 : St) (ins : List In) (h0 : init c d0 k1 k2 = some s0)
    (hins : DrawsIn c ins) :
    (actTimes c s0 0 ins).Sublist (slotTimes c s0 0 ins) ∧
    (∀ x ∈ actTimes c s0 0 ins, c.startStep + d0 ≤ x ∧ 0 ≤ x) ∧
    MultiGaps (max 1 (c.frequency - c.variance)) (max 1 (c.frequency + c.variance)) (actTimes c s0 0 ins) ∧
    GapsAtLeast (max 1 (c.frequency - c.variance)) (actTimes c s0 0 ins) := by
  have hsub := times_sublist (sched c) (fun s t i => (step c s t i).2) Out.nonIdle (actTimes c) (fun _ _ => rfl)
    (fun _ _ _ _ => rfl) (nonIdle_slot c) ins s0 0
  obtain ⟨_, hg, hge, _⟩ := C19_tap1_slot_gaps c d0 k1 k2 s0 ins h0 hins
  have hL := sched_law c (wf_init c d0 k1 k2 s0 h0).var
  have hm := multiGaps_of_sublist _ _ _ _ hg hsub
  refine ⟨hsub, ?_, hm, multiGaps_atLeast _ _ (by omega) _ hm⟩
  intro x hx
  have hx' := hsub.subset hx
  exact ⟨hge x hx', ((sched c).slots_ge hL ins s0 0 x hx').1⟩

/-- Non-vacuity: start 2, frequency 3, variance 1, draws +1 / −1: execution slots 2, 6, 8, 11; the slot of step 2 is the
silent start tick, the agent acts at 6, 8, 11. -/
example :
    let c : Cfg := { exCfg with startStep := 2, frequency := 3, variance := 1 }
    ∃ s0, init c 0 0 0 = some s0 ∧
      actTimes c s0 0 ((List.range 12).map fun j =>
        { exIn with d1 := if j = 2 then 1 else if j = 6 then -1 else 0 }) = [6, 8, 11] := by
  refine ⟨_, rfl, ?_⟩
  decide +kernel

/-- The responses stored in the history of a live agent are the responses the run fed it, in order. -/
theorem hist_after (c : Cfg) : ∀ (pre : List In) (s : St) (t : Int), (after c s t pre).dead = false →
    (after c s t pre).hist.map (·.resp) = s.hist.map (·.resp) ++ pre.map (·.resp) :=
  iter_appended (fun s t i => (step c s t i).1) (after c) (fun _ _ => rfl) (fun _ _ _ _ => rfl) (·.dead)
    (fun s => s.hist.map (·.resp)) (·.resp) (after_dead c) (fun s t i h => (step_resp c s t i h).2)

/-- **progress_only_after_success over a whole run (TAP001).**  Whenever a tick of a run from the constructor moves the stage
of the chain to its successor, that tick was an execution slot, and the response the run gave at the agent's previous
execution tick (`pre[current_timestep]`) was a success — except in PROPAGATE (which inspects its scan responses itself) and
in PAYLOAD in progress with `continue_on_failed_exfil` (as coded). -/
theorem C19_tap1_run_progress_only_after_success (c : Cfg) (d0 : Int) (k1 k2 : Nat) (s0 : St)
    (h0 : init c d0 k1 k2 = some s0) (pre : List In) (i : In) (hch : (after c s0 0 pre).cur.chain = true)
    (hadv : (after c s0 0 (pre ++ [i])).cur = (after c s0 0 pre).cur.succ) :
    executes (after c s0 0 pre) pre.length = true ∧
    ∃ j, pre[(after c s0 0 pre).curT.toNat]? = some j ∧
      (j.resp.ok = true ∨ (after c s0 0 pre).cur = .propagate ∨
        ((after c s0 0 pre).cur = .payload ∧ (after c s0 0 pre).prog = .inProgress ∧ c.continueOnFailedExfil = true)) := by
  have hw := wf_after c pre s0 0 (wf_init c d0 k1 k2 s0 h0)
  rw [Int.zero_add] at hw
  rw [after_snoc, Int.zero_add] at hadv
  have hs0 : s0.hist = [] := by rw [(init_some c d0 k1 k2 s0 h0).2]
  have hne : (after c s0 0 pre).cur.succ ≠ (after c s0 0 pre).cur := by
    revert hch; cases (after c s0 0 pre).cur <;> decide
  obtain ⟨hd, hadv'⟩ := step_moves c _ _ i _ hne hadv
  have hhist := hist_after c pre s0 0 hd
  rw [hs0] at hhist
  simp only [List.map_nil, List.nil_append] at hhist
  generalize after c s0 0 pre = s at *
  obtain ⟨hex, h, hh, hok⟩ := C19_tap1_progress_only_after_success c s pre.length i hch hadv'
  refine ⟨hex, ?_⟩
  have hlt : s.curT < pre.length := by
    rcases hw.curT_lt with h' | h'
    · exact h'
    · rw [h'] at hch; simp [Stage.chain] at hch
  have hlen : s.hist.length = pre.length := by
    have := congrArg List.length hhist
    simpa using this
  unfold lookBack at hh
  rw [if_neg (by omega)] at hh
  obtain ⟨j, hj, hr⟩ := pyIndex_resp (·.resp) (·.resp) s.hist pre hhist s.curT hw.curT h hh
  exact ⟨j, hj, by rw [hr]; exact hok⟩

end Tap1

namespace Tap3

/-- `current_timestep`, `history` and the liveness flag of the model: what no method below `get_action` writes
(the two pre-guard response handlers included). -/
def St.trail (s : St) : Int × List Hist × Bool := (s.curT, s.hist, s.dead)

theorem trail_ite {p : Prop} [Decidable p] {a b s : St} (ha : a.trail = s.trail) (hb : b.trail = s.trail) :
    (if p then a else b).trail = s.trail := by
  split <;> assumption

theorem of_trail {a : St} {x : Int × List Hist × Bool} (h : a.trail = x) : a.curT = x.1 ∧ a.hist = x.2.1 ∧ a.dead = x.2.2 := by
  subst h; exact ⟨rfl, rfl, rfl⟩

/-- The trail is part of the frame, which the stage methods and the pre-guard handlers keep. -/
theorem trail_of_frame {a b : St} (h : a.frame = b.frame) : a.trail = b.trail :=
  congrArg (fun f => (f.curT, f.hist, f.dead)) h

theorem tr_bodies (c : Cfg) (i : In) (s : St) : (bodies c i s).trail = s.trail := trail_of_frame (frame_bodies c i s)

theorem tr_preGuard (c : Cfg) (s : St) : (preGuardHandlers c s).trail = s.trail :=
  trail_of_frame (kept_preGuardHandlers c s).2.2

theorem tr_reasonCheck (h : Hist) (s : St) : (reasonCheck h s).trail = s.trail := trail_ite rfl rfl

theorem tr_setNext (c : Cfg) (s : St) (b d : Int) : (setNext c s b d).trail = s.trail := trail_ite rfl rfl

theorem tr_returnHandler (c : Cfg) (h : Hist) (s : St) : (returnHandler c h s).trail = s.trail := trail_ite rfl rfl

theorem tr_outcomeHandler (c : Cfg) (s : St) : (outcomeHandler c s).trail = s.trail :=
  trail_ite (trail_ite rfl (trail_ite rfl rfl)) rfl

@[simp] theorem ct_bodies (c : Cfg) (i : In) (s : St) : (bodies c i s).curT = s.curT := (of_trail (tr_bodies c i s)).1
theorem ct_setNext (c : Cfg) (s : St) (b d : Int) : (setNext c s b d).curT = s.curT := (of_trail (tr_setNext c s b d)).1
theorem ct_returnHandler (c : Cfg) (h : Hist) (s : St) : (returnHandler c h s).curT = s.curT :=
  (of_trail (tr_returnHandler c h s)).1
theorem ct_reasonCheck (h : Hist) (s : St) : (reasonCheck h s).curT = s.curT := (of_trail (tr_reasonCheck h s)).1
@[simp] theorem ct_outcomeHandler (c : Cfg) (s : St) : (outcomeHandler c s).curT = s.curT :=
  (of_trail (tr_outcomeHandler c s)).1
theorem ct_preGuard (c : Cfg) (s : St) : (preGuardHandlers c s).curT = s.curT := (of_trail (tr_preGuard c s)).1

/-- The ways `get_action(t)` can go after the two pre-guard response handlers: not an execution slot; no history item to
look back at (it raises); the previous action passes and the stage methods run; it does not pass.  The new state is a
variable `r`, so that a proof about it does not unfold the path. -/
theorem getActionCore_branches (c : Cfg) (s : St) (t : Int) (i : In) (P : St × Act → Prop)
    (hidle : executes s t = false → P (s, Act.nothing))
    (hnone : executes s t = true → lookBack s = none → P (s.raise, Act.nothing))
    (hmain : ∀ h, executes s t = true → lookBack s = some h → passes h (returnHandler c h s) = true →
      ∀ r, r = mainPath c (reasonCheck h (returnHandler c h s)) t i → P (r, r.chosen))
    (hfail : ∀ h, executes s t = true → lookBack s = some h → passes h (returnHandler c h s) = false →
      ∀ r, r = failPath c (returnHandler c h s) t i → P (r, r.chosen)) :
    P (getActionCore c s t i) := by
  unfold getActionCore
  cases hex : executes s t with
  | false => exact hidle hex
  | true =>
    rw [if_neg (not_not_intro rfl)]
    cases hl : lookBack s with
    | none => exact hnone hex hl
    | some h =>
      dsimp only
      cases hp : passes h (returnHandler c h s) with
      | true => rw [if_pos rfl]; exact hmain h hex hl hp _ rfl
      | false => rw [if_neg Bool.false_ne_true]; exact hfail h hex hl hp _ rfl

theorem getAction_trail (c : Cfg) (s : St) (t : Int) (i : In) :
    (getAction c s t i).1.trail = s.trail ∨ (getAction c s t i).1.trail = (t, s.hist, s.dead) := by
  have hp := tr_preGuard c s
  have hr : ∀ r : St, r.trail = (preGuardHandlers c s).trail → ({ r with curT := t } : St).trail = (t, s.hist, s.dead) :=
    fun r e => congrArg (fun x => (t, x.2)) (e.trans hp)
  refine getActionCore_branches c _ t i (fun r => r.1.trail = s.trail ∨ r.1.trail = (t, s.hist, s.dead))
    (fun _ => Or.inl hp) (fun _ _ => Or.inl hp) (fun h _ _ _ r e => Or.inr ?_) (fun h _ _ _ r e => Or.inr ?_)
  · rw [e]
    unfold mainPath
    rw [tr_bodies, tr_outcomeHandler, tr_setNext]
    exact hr _ ((tr_reasonCheck h _).trans (tr_returnHandler c h _))
  · rw [e]
    unfold failPath
    rw [tr_outcomeHandler, tr_setNext]
    exact hr _ (tr_returnHandler c h _)

theorem getAction_curT (c : Cfg) (s : St) (t : Int) (i : In) :
    (getAction c s t i).1.curT = s.curT ∨ (getAction c s t i).1.curT = t := by
  rcases getAction_trail c s t i with e | e
  · exact Or.inl (of_trail e).1
  · exact Or.inr (of_trail e).1

theorem getAction_hist (c : Cfg) (s : St) (t : Int) (i : In) : (getAction c s t i).1.hist = s.hist := by
  rcases getAction_trail c s t i with e | e <;> exact (of_trail e).2.1

theorem getAction_dead (c : Cfg) (s : St) (t : Int) (i : In) : (getAction c s t i).1.dead = s.dead := by
  rcases getAction_trail c s t i with e | e <;> exact (of_trail e).2.2

theorem step_cases (c : Cfg) (s : St) (t : Int) (i : In) (P : St × Out → Prop)
    (hdead : s.dead = true → P (s, .raised))
    (hraise : s.dead = false → (getAction c s t i).1.err = true → P ({ s with dead := true }, .raised))
    (hact : s.dead = false → (getAction c s t i).1.err = false →
      P ({ (getAction c s t i).1 with
            hist := (getAction c s t i).1.hist ++ [{ act := (getAction c s t i).2, resp := i.resp }] },
         .act (getAction c s t i).2)) :
    P (step c s t i) := by
  unfold step
  cases hd : s.dead with
  | true => exact hdead hd
  | false =>
    cases he : (getAction c s t i).1.err with
    | true => exact hraise hd he
    | false => exact hact hd he

/-- **An invariant of the skeleton's operations and of the stage methods is an invariant of the tick**, and what the tick
returns is do-nothing or the `chosen_action` of a state that has it. -/
theorem step_inv (c : Cfg) {P : St → Prop} {Q : Act → Prop}
    (hpre : ∀ s, P s → P (preGuardHandlers c s)) (hset : ∀ s b d, P s → P (setNext c s b d))
    (hout : ∀ s, P s → P (outcomeHandler c s)) (hret : ∀ x s, P s → P (returnHandler c x s))
    (hrc : ∀ x s, P s → P (reasonCheck x s)) (hbod : ∀ i s, P s → P (bodies c i s))
    (hT : ∀ s t, P s → P { s with curT := t }) (hraise : ∀ s, P s → P s.raise)
    (hdead : ∀ s, P s → P { s with dead := true })
    (hpush : ∀ s a r, P s → Q a → P { s with hist := s.hist ++ [{ act := a, resp := r }] })
    (hch : ∀ s, P s → Q s.chosen) (hno : Q Act.nothing) (s : St) (t : Int) (i : In) (h : P s) :
    P (step c s t i).1 ∧ ∀ a, (step c s t i).2 = .act a → Q a :=
  have h' := hpre s h
  have hg : P (getAction c s t i).1 ∧ Q (getAction c s t i).2 :=
    getActionCore_branches c _ t i (fun r => P r.1 ∧ Q r.2) (fun _ => ⟨h', hno⟩) (fun _ _ => ⟨hraise _ h', hno⟩)
      (fun x _ _ _ r hr =>
        have hm : P r := by
          rw [hr]; exact hbod i _ (hout _ (hset _ _ _ (hT _ t (hrc x _ (hret x _ h')))))
        ⟨hm, hch r hm⟩)
      (fun x _ _ _ r hr =>
        have hf : P r := by rw [hr]; exact hout _ (hset _ _ _ (hT _ t (hret x _ h')))
        ⟨hf, hch r hf⟩)
  step_cases c s t i (fun r => P r.1 ∧ ∀ a, r.2 = .act a → Q a)
    (fun _ => ⟨h, fun _ ha => Out.noConfusion ha⟩) (fun _ _ => ⟨hdead s h, fun _ ha => Out.noConfusion ha⟩)
    (fun _ _ => ⟨hpush _ _ _ hg.1 hg.2, fun a ha => by cases ha; exact hg.2⟩)

theorem step_of_act (c : Cfg) (s : St) (t : Int) (i : In) (hd : s.dead = false) (he : (getAction c s t i).1.err = false) :
    step c s t i = ({ (getAction c s t i).1 with
        hist := (getAction c s t i).1.hist ++ [{ act := (getAction c s t i).2, resp := i.resp }] },
      .act (getAction c s t i).2) :=
  step_cases c s t i (fun r => r = _) (fun h => by rw [hd] at h; cases h) (fun _ h => by rw [he] at h; cases h)
    (fun _ _ => rfl)

theorem step_resp (c : Cfg) (s : St) (t : Int) (i : In) (h1 : (step c s t i).1.dead = false) :
    s.dead = false ∧ (step c s t i).1.hist.map (·.resp) = s.hist.map (·.resp) ++ [i.resp] :=
  step_cases c s t i (fun r => r.1.dead = false → s.dead = false ∧ r.1.hist.map (·.resp) = s.hist.map (·.resp) ++ [i.resp])
    (fun hd h1 => by rw [hd] at h1; cases h1) (fun _ _ h1 => by cases h1)
    (fun hd _ _ => ⟨hd, by rw [List.map_append, getAction_hist]; rfl⟩) h1

theorem step_moves (c : Cfg) (s : St) (t : Int) (i : In) (x : Stage) (hne : x ≠ s.cur) (h : (step c s t i).1.cur = x) :
    s.dead = false ∧ (getAction c s t i).1.cur = x :=
  step_cases c s t i (fun r => r.1.cur = x → s.dead = false ∧ (getAction c s t i).1.cur = x)
    (fun _ h => absurd h.symm hne) (fun _ _ h => absurd h.symm hne) (fun hd _ h => ⟨hd, h⟩) h

def Stage.terminal : Stage → Bool
  | .succeeded | .failed => true
  | _ => false

theorem terminal_iff (x : Stage) : x.terminal = true ↔ (x = .succeeded ∨ x = .failed) := by
  cases x <;> simp [Stage.terminal]

def after (c : Cfg) : St → Int → List In → St
  | s, _, [] => s
  | s, t, i :: is => after c (step c s t i).1 (t + 1) is

theorem after_append (c : Cfg) : ∀ (pre : List In) (s : St) (t : Int) (post : List In),
    after c s t (pre ++ post) = after c (after c s t pre) (t + pre.length) post :=
  iter_append (fun s t i => (step c s t i).1) (after c) (fun _ _ => rfl) (fun _ _ _ _ => rfl)

theorem after_snoc (c : Cfg) (pre : List In) (s : St) (t : Int) (i : In) :
    after c s t (pre ++ [i]) = (step c (after c s t pre) (t + pre.length) i).1 :=
  iter_snoc (fun s t i => (step c s t i).1) (after c) (fun _ _ => rfl) (fun _ _ _ _ => rfl) pre s t i

theorem after_dead (c : Cfg) : ∀ (w : List In) (s : St) (t : Int), s.dead = true → after c s t w = s :=
  iter_fixed (fun s t i => (step c s t i).1) (after c) (fun _ _ => rfl) (fun _ _ _ _ => rfl) (fun s => s.dead = true)
    (fun s t i hd => congrArg Prod.fst (if_pos hd : step c s t i = (s, .raised)))

structure WF (c : Cfg) (s : St) (t : Int) : Prop where
  inv : Inv s
  conc : ConcInv c s
  var : 0 ≤ c.variance
  tpos : 0 ≤ t
  curT : 0 ≤ s.curT
  err : s.err = false
  /-- `current_timestep` is the timestep of an earlier call (strictly, once the agent has left NOT_STARTED) -/
  curT_le : s.curT ≤ t
  curT_lt : s.curT < t ∨ s.cur = .notStarted

theorem wf_init (c : Cfg) (d0 : Int) (k : Nat) (s0 : St) (h0 : init c d0 k = some s0) : WF c s0 0 := by
  obtain ⟨hv, rfl⟩ := init_some c d0 k s0 h0
  exact ⟨Or.inr rfl, nofun, by simpa [randintOk] using hv.1, Int.le_refl 0, Int.le_refl 0, rfl, Int.le_refl 0, Or.inr rfl⟩

theorem wf_step (c : Cfg) (s : St) (t : Int) (i : In) (h : WF c s t) : WF c (step c s t i).1 (t + 1) := by
  have hinv := (C19_tap3_stage_step c s t i h.inv).2
  have hconc := step_concInv c s t i h.conc
  -- the tick leaves `current_timestep` alone or sets it to `t`; an agent that raised is dead, with its state kept
  obtain ⟨hct, herr⟩ : ((step c s t i).1.curT = s.curT ∨ (step c s t i).1.curT = t) ∧ (step c s t i).1.err = false :=
    step_cases c s t i (fun r => (r.1.curT = s.curT ∨ r.1.curT = t) ∧ r.1.err = false)
      (fun _ => ⟨Or.inl rfl, h.err⟩) (fun _ _ => ⟨Or.inl rfl, h.err⟩) (fun _ he => ⟨getAction_curT c s t i, he⟩)
  have h0 := h.tpos
  have h1 := h.curT
  have h2 := h.curT_le
  exact ⟨hinv, hconc, h.var, by omega, by omega, herr, by omega, Or.inl (by omega)⟩

theorem wf_after (c : Cfg) : ∀ (pre : List In) (s : St) (t : Int), WF c s t → WF c (after c s t pre) (t + pre.length) :=
  iter_inv (fun s t i => (step c s t i).1) (after c) (fun _ _ => rfl) (fun _ _ _ _ => rfl) (WF c) (wf_step c)

theorem lookBack_some (s : St) (h : 0 ≤ s.curT) : ∃ x, lookBack s = some x := by
  unfold lookBack
  split
  · exact ⟨_, rfl⟩
  · exact pyIndex_some s.hist s.curT h (by omega)

theorem executes_false {s : St} {t : Int} (h : t < s.nextExec) : executes s t = false := by
  unfold executes; rw [decide_eq_true h]; rfl

theorem executes_true {s : St} {t : Int} (h1 : s.nextExec ≤ t) (h2 : s.concluded = false) : executes s t = true := by
  unfold executes; rw [decide_eq_false (Int.not_lt.2 h1), h2]; rfl

/-- What one tick does when it finds the chain ended (`s` = state before the tick, `t` = its timestep).  Unlike TAP001,
TAP003 runs two response handlers before its schedule guard; `_handle_login_response` raises `KeyError` on a successful
login response without `ip_address` / `username` — the only way such a tick can raise. -/
structure EndTick (c : Cfg) (s : St) (t : Int) (i : In) : Prop where
  /-- the agent does not act -/
  quiet : (step c s t i).2 = .act Act.nothing ∨ (step c s t i).2 = .raised
  /-- … and stays alive unless a pre-guard response handler raised -/
  alive : (preGuardHandlers c s).err = false → (step c s t i).1.dead = false
  /-- not yet an execution slot: nothing changes -/
  waits : executes s t = false → (step c s t i).1.cur = s.cur ∧ (step c s t i).1.concluded = s.concluded ∧
    (step c s t i).1.nextExec = s.nextExec
  /-- repeat off: the first execution slot concludes the agent, the stage stays SUCCEEDED / FAILED -/
  stops : executes s t = true → c.repeatKillChain = false → (step c s t i).1.dead = false →
    (step c s t i).1.concluded = true ∧ (step c s t i).1.cur.terminal = true
  /-- repeat on: the first execution slot restarts the chain, the agent is not concluded -/
  restarts : executes s t = true → c.repeatKillChain = true → (step c s t i).1.dead = false →
    (step c s t i).1.concluded = false ∧ ((step c s t i).1.cur = .notStarted ∨ (step c s t i).1.cur = .reconnaissance)

theorem end_tick (c : Cfg) (s : St) (t : Int) (i : In) (hw : WF c s t) (hterm : s.cur.terminal = true)
    (hd : s.dead = false) : EndTick c s t i := by
  have hterm' := (terminal_iff s.cur).1 hterm
  obtain ⟨h, hh⟩ := lookBack_some s hw.curT
  have hp := preGuard_fields c s
  -- in an execution slot or not, `get_action` returns do-nothing, and raises only if a pre-guard handler did
  have hga : (getAction c s t i).2 = Act.nothing ∧ (getAction c s t i).1.err = (preGuardHandlers c s).err := by
    cases hex : executes s t with
    | false => rw [getAction_idle c s t i hex]; exact ⟨rfl, rfl⟩
    | true =>
      exact ⟨(ended_slot c s t i h hterm' hex hh).1, (ended_slot c s t i h hterm' hex hh).2.1 hw.var⟩
  cases herr : (getAction c s t i).1.err with
  | true =>
    have hstep : step c s t i = ({ s with dead := true }, .raised) :=
      step_cases c s t i (fun r => r = _) (fun h => by rw [hd] at h; cases h) (fun _ _ => rfl)
        (fun _ h => by rw [herr] at h; cases h)
    refine ⟨?_, ?_, ?_, ?_, ?_⟩ <;> rw [hstep]
    · exact Or.inr rfl
    · intro h'; rw [← hga.2, herr] at h'; cases h'
    · exact fun _ => ⟨rfl, rfl, rfl⟩
    · intro _ _ h'; cases h'
    · intro _ _ h'; cases h'
  | false =>
    have hstep := step_of_act c s t i hd herr
    have hdead : (getAction c s t i).1.dead = false := by rw [getAction_dead]; exact hd
    refine ⟨?_, ?_, ?_, ?_, ?_⟩ <;> rw [hstep]
    · left; rw [hga.1]
    · exact fun _ => hdead
    · intro hex
      rw [getAction_idle c s t i hex]
      exact ⟨hp.1, hp.2.2.1, hp.2.2.2⟩
    · intro hex hrep _
      have := C19_tap3_stops c s t i h hrep hterm' hex hh
      exact ⟨this.1, (terminal_iff _).2 this.2.1⟩
    · intro hex hrep _
      exact C19_tap3_restarts c s t i h hrep hterm' hex hh

/-- Position in the kill chain (the enum members the agent never enters sit between EXPLOIT and the end). -/
def ord : Stage → Nat
  | .notStarted => 0 | .reconnaissance => 1 | .planning => 2 | .access => 3 | .manipulation => 4 | .exploit => 5
  | .embed => 6 | .conceal => 6 | .extract => 6 | .erase => 6 | .succeeded => 7 | .failed => 7

theorem ord_le_succ (a : Stage) (h : a.chain = true) : ord a ≤ ord a.succ := by
  revert h; cases a <;> decide

theorem ord_le_failed (a : Stage) : ord a ≤ ord .failed := by
  cases a <;> decide

/-- **A step back in stage order is a restart**: the sampled stage moves to a lower stage only with `repeat_kill_chain`,
only to NOT_STARTED or the first stage, and only from a finished chain (or, stages not being repeated, from the stage
that failed in the same tick). -/
theorem C19_tap3_descent_is_restart (c : Cfg) (a b : Stage) (h : Allowed c a b) (hlt : ord b < ord a) :
    c.repeatKillChain = true ∧ (b = .notStarted ∨ b = .reconnaissance) ∧
    ((a = .succeeded ∨ a = .failed) ∨ c.repeatStages = false) := by
  rcases h with h | ⟨hc, h⟩ | h | ⟨ha, hb⟩ | ⟨hr, hterm, hb⟩ | ⟨hr, hrs, hb⟩
  · rw [h] at hlt; exact absurd hlt (Nat.lt_irrefl _)
  · rw [h] at hlt; exact absurd (ord_le_succ a hc) (Nat.not_le.2 hlt)
  · rw [h] at hlt; exact absurd (ord_le_failed a) (Nat.not_le.2 hlt)
  · rw [ha, hb] at hlt; exact absurd hlt (by decide)
  · exact ⟨hr, hb, Or.inl hterm⟩
  · exact ⟨hr, Or.inl hb, Or.inr hrs⟩

theorem ord_le_of_allowed (c : Cfg) (a b : Stage) (h : Allowed c a b) (hrep : c.repeatKillChain = false) :
    ord a ≤ ord b :=
  Nat.le_of_not_lt fun hlt => by
    have hr := (C19_tap3_descent_is_restart c a b h hlt).1
    rw [hrep] at hr; cases hr

theorem linked_chainLe (c : Cfg) (hrep : c.repeatKillChain = false) : ∀ (l : List St) (a : Stage),
    Linked (Allowed c) a l → ChainLe (ord a :: l.map (fun s => ord s.cur)) := by
  intro l
  induction l with
  | nil => intro a _; trivial
  | cons s r ih =>
    intro a h
    exact ⟨ord_le_of_allowed c a s.cur h.1 hrep, ih s.cur h.2⟩

/-- **The kill chain over a whole run (TAP003)** — one statement for every configuration, every first draw, every
sequence of schedule / trial / scan draws and simulator responses, every run length:

1. *order, no skipping*: each sampled stage is related to the previous one by `Allowed` (stay, the NEXT stage of the
   chain, FAILED, NOT_STARTED → first stage, or a restart that needs `repeat_kill_chain`);
2. *never backwards*: without `repeat_kill_chain` the stage ranks of the whole run are sorted
   (with it, a descent is a restart to NOT_STARTED / RECONNAISSANCE: `C19_tap3_descent_is_restart`);
3. at every tick of the run (`pre` = the ticks before it): `actions_concluded` is set only with repeat off and the
   chain ended; and a live agent that finds the chain SUCCEEDED or FAILED never acts, waits for its next execution
   slot, and in that slot stops for good (repeat off: concluded, stage still SUCCEEDED or FAILED) or restarts
   (repeat on: NOT_STARTED or straight into RECONNAISSANCE, never concluded) — failure branches included (`EndTick`). -/
theorem C19_tap3_kill_chain_run (c : Cfg) (d0 : Int) (k : Nat) (s0 : St) (ins : List In) (h0 : init c d0 k = some s0) :
    Linked (Allowed c) s0.cur (run c s0 0 ins) ∧
    (c.repeatKillChain = false → ((s0 :: run c s0 0 ins).map (fun s => ord s.cur)).Pairwise (· ≤ ·)) ∧
    (∀ (pre : List In) (i : In) (post : List In), ins = pre ++ i :: post →
      ((after c s0 0 pre).concluded = true →
        c.repeatKillChain = false ∧ (after c s0 0 pre).cur.terminal = true) ∧
      ((after c s0 0 pre).cur.terminal = true → (after c s0 0 pre).dead = false →
        EndTick c (after c s0 0 pre) pre.length i)) := by
  have hL := (C19_tap3_stage_monotone c d0 k s0 ins h0).1
  refine ⟨hL, ?_, ?_⟩
  · intro hrep
    exact pairwise_of_chainLe _ (linked_chainLe c hrep _ _ hL)
  · intro pre i post _
    have hw := wf_after c pre s0 0 (wf_init c d0 k s0 h0)
    rw [Int.zero_add] at hw
    refine ⟨?_, fun hterm hd => end_tick c _ _ i hw hterm hd⟩
    intro hc
    have := hw.conc hc
    exact ⟨this.1, (terminal_iff _).2 this.2⟩

/-- Non-vacuity: repeat on, stages not repeated, ACCESS.probability 0: the agent of `exCfg` fails in ACCESS, the next
execution slot finds the chain FAILED and restarts it straight into RECONNAISSANCE. -/
example :
    let c : Cfg := { exCfg with repeatStages := false, pAccess := ⟨0, 1⟩ }
    ∃ s0, init c 0 0 = some s0 ∧
      (run c s0 0 (List.replicate 7 exIn)).map (·.cur)
        = [.notStarted, .reconnaissance, .planning, .access, .failed, .reconnaissance, .planning] := by
  refine ⟨_, rfl, ?_⟩; decide +kernel

/-- **Waiting for the next slot** (TAP003).  An idle tick keeps the stage, the schedule and `actions_concluded` even when a
pre-guard response handler raises in it (`step_idle_fields`), so the wait needs nothing of the agent but that it has not
concluded. -/
theorem wait_until_slot (c : Cfg) (w : List In) (s : St) (t : Int) (hc : s.concluded = false)
    (hlen : (w.length : Int) = max t s.nextExec - t) :
    (after c s t w).cur = s.cur ∧ (after c s t w).concluded = false ∧ (after c s t w).nextExec = s.nextExec ∧
    executes (after c s t w) (t + w.length) = true := by
  obtain ⟨⟨hc', hx⟩, hn, hle⟩ := iter_wait (fun s t i => (step c s t i).1) (after c) (fun _ _ => rfl) (fun _ _ _ _ => rfl)
    (·.nextExec) (fun r _ => r.concluded = false ∧ r.cur = s.cur)
    (fun r t i ⟨hc, hx⟩ hlt => by
      obtain ⟨h2, h3, h4⟩ := step_idle_fields c r t i (executes_false hlt)
      exact ⟨⟨h3.trans hc, h4.trans hx⟩, h2⟩) w s t ⟨hc, rfl⟩ hlen
  exact ⟨hx, hc', hn, executes_true (by rw [hn]; exact hle) hc'⟩

theorem step_concludes (c : Cfg) (s : St) (t : Int) (i : In) (ha : s.concluded = false)
    (hb : (step c s t i).1.concluded = true) :
    s.dead = false ∧ executes s t = true ∧ c.repeatKillChain = false ∧
      ((step c s t i).1.cur = .succeeded ∨ (step c s t i).1.cur = .failed) ∧ (step c s t i).2 = .act Act.nothing :=
  step_cases c s t i
    (fun r => r.1.concluded = true → s.dead = false ∧ executes s t = true ∧ c.repeatKillChain = false ∧
      (r.1.cur = .succeeded ∨ r.1.cur = .failed) ∧ r.2 = .act Act.nothing)
    (fun _ hb => by rw [ha] at hb; cases hb) (fun _ _ hb => by rw [ha] at hb; cases hb)
    (fun hd _ hb =>
      have h := C19_tap3_concluded_only_at_end c s t i ha hb
      ⟨hd, h.1, h.2.1, h.2.2.1, by rw [h.2.2.2]⟩)
    hb

/-- **`actions_concluded` over a whole run (TAP003): written at the end of the chain and nowhere else.** -/
theorem C19_tap3_concluded_run (c : Cfg) (d0 : Int) (k : Nat) (s0 : St) (h0 : init c d0 k = some s0) (pre : List In)
    (hc : (after c s0 0 pre).concluded = true) :
    ∃ pre1 i rest, pre = pre1 ++ i :: rest ∧
      (after c s0 0 pre1).concluded = false ∧ (after c s0 0 pre1).dead = false ∧
      executes (after c s0 0 pre1) pre1.length = true ∧ c.repeatKillChain = false ∧
      ((after c s0 0 (pre1 ++ [i])).cur = .succeeded ∨ (after c s0 0 (pre1 ++ [i])).cur = .failed) ∧
      (step c (after c s0 0 pre1) pre1.length i).2 = .act Act.nothing := by
  have hs0 : s0.concluded = false := by rw [(init_some c d0 k s0 h0).2]
  obtain ⟨pre1, i, rest, he, ha, hb⟩ := iter_switch (fun s t i => (step c s t i).1) (after c) (fun _ _ => rfl)
    (fun _ _ _ _ => rfl) (·.concluded) pre s0 0 hs0 hc
  rw [Int.zero_add] at hb
  refine ⟨pre1, i, rest, he, ha, ?_⟩
  rw [after_snoc, Int.zero_add]
  exact step_concludes c _ _ i ha hb

def Out.nonIdle : Out → Bool
  | .act a => decide (a ≠ Act.nothing)
  | .raised => false

/-- The ticks of a run at which the agent returns an action other than do-nothing. -/
def actTimes (c : Cfg) : St → Int → List In → List Int
  | _, _, [] => []
  | s, t, i :: is =>
    if (step c s t i).2.nonIdle then t :: actTimes c (step c s t i).1 (t + 1) is
    else actTimes c (step c s t i).1 (t + 1) is

theorem nonIdle_iff (o : Out) : o.nonIdle = true ↔ ∃ a, o = .act a ∧ a ≠ Act.nothing := by
  cases o <;> simp [Out.nonIdle]

theorem mem_actTimes (c : Cfg) : ∀ (ins : List In) (s : St) (t x : Int),
    x ∈ actTimes c s t ins ↔ ∃ a, (x, Out.act a) ∈ runOut c s t ins ∧ a ≠ Act.nothing := by
  intro ins s t x
  rw [mem_times (sched c) (fun s t i => (step c s t i).2) Out.nonIdle (actTimes c) (fun _ _ => rfl) (fun _ _ _ _ => rfl)
    (runOut c) (fun _ _ => rfl) (fun _ _ _ _ => rfl)]
  simp only [nonIdle_iff]
  exact ⟨fun ⟨_, hm, a, e, hne⟩ => ⟨a, e ▸ hm, hne⟩, fun ⟨a, hm, hne⟩ => ⟨_, hm, a, rfl, hne⟩⟩

theorem nonIdle_slot (c : Cfg) (s : St) (t : Int) (i : In) (h : (step c s t i).2.nonIdle = true) :
    (sched c).slot s t = true := by
  obtain ⟨a, ha, hne⟩ := (nonIdle_iff _).1 h
  obtain ⟨hd, hex⟩ := step_act c s t i a ha hne
  rw [slot_iff, hd, hex]; rfl

/-- **Gaps between consecutive actions of TAP003, assembled over the whole run.**  In a run from the constructor with
all schedule draws in range, the ticks at which the agent returns an action other than do-nothing form a sublist of
its execution slots; none lies before `start_step + d0` (nor before step 0); consecutive ones are `k ≥ 1` slot gaps apart
(silent slots — failed trial, start tick, restart — in between make `k` larger), each slot gap in
`[max 1 (frequency − variance), max 1 (frequency + variance)]`; in particular the agent never acts twice within less
than `max 1 (frequency − variance)` steps. -/
theorem C19_tap3_action_gaps (c : Cfg) (d0 : Int) (k : Nat) (s0 : St) (ins : List In) (h0 : init c d0 k = some s0)
    (hins : DrawsIn c ins) :
    (actTimes c s0 0 ins).Sublist (slotTimes c s0 0 ins) ∧
    (∀ x ∈ actTimes c s0 0 ins, c.startStep + d0 ≤ x ∧ 0 ≤ x) ∧
    MultiGaps (max 1 (c.frequency - c.variance)) (max 1 (c.frequency + c.variance)) (actTimes c s0 0 ins) ∧
    GapsAtLeast (max 1 (c.frequency - c.variance)) (actTimes c s0 0 ins) := by
  have hsub := times_sublist (sched c) (fun s t i => (step c s t i).2) Out.nonIdle (actTimes c) (fun _ _ => rfl)
    (fun _ _ _ _ => rfl) (nonIdle_slot c) ins s0 0
  obtain ⟨_, hg, hge, _⟩ := C19_tap3_slot_gaps c d0 k s0 ins h0 hins
  have hL := sched_law c (wf_init c d0 k s0 h0).var
  have hm := multiGaps_of_sublist _ _ _ _ hg hsub
  refine ⟨hsub, ?_, hm, multiGaps_atLeast _ _ (by omega) _ hm⟩
  intro x hx
  have hx' := hsub.subset hx
  exact ⟨hge x hx', ((sched c).slots_ge hL ins s0 0 x hx').1⟩

/-- Non-vacuity: same schedule as for TAP001. -/
example :
    let c : Cfg := { exCfg with startStep := 2, frequency := 3, variance := 1 }
    ∃ s0, init c 0 0 = some s0 ∧
      actTimes c s0 0 ((List.range 25).map fun j =>
        { exIn with d1 := if j = 2 then 1 else if j = 6 then -1 else 0 }) = [14, 17, 20, 23] := by
  refine ⟨_, rfl, ?_⟩
  decide +kernel

theorem C19_tap3_ends_at_first_slot (c : Cfg) (d0 : Int) (k : Nat) (s0 : St) (h0 : init c d0 k = some s0) (pre w : List In) (i : In)
    (hterm : (after c s0 0 pre).cur.terminal = true) (hd : (after c s0 0 pre).dead = false)
    (hc : (after c s0 0 pre).concluded = false)
    (hlen : (w.length : Int) = max (pre.length : Int) (after c s0 0 pre).nextExec - pre.length) :
    (after c s0 0 (pre ++ w ++ [i])).dead = true ∨
    ((after c s0 0 (pre ++ w)).cur = (after c s0 0 pre).cur ∧
     (c.repeatKillChain = false →
       (after c s0 0 (pre ++ w ++ [i])).concluded = true ∧ (after c s0 0 (pre ++ w ++ [i])).cur.terminal = true) ∧
     (c.repeatKillChain = true →
       (after c s0 0 (pre ++ w ++ [i])).concluded = false ∧
       ((after c s0 0 (pre ++ w ++ [i])).cur = .notStarted ∨ (after c s0 0 (pre ++ w ++ [i])).cur = .reconnaissance))) := by
  have hw := wf_after c pre s0 0 (wf_init c d0 k s0 h0)
  rw [Int.zero_add] at hw
  have e1 : after c s0 0 (pre ++ w) = after c (after c s0 0 pre) pre.length w := by
    rw [after_append, Int.zero_add]
  have e2 : after c s0 0 (pre ++ w ++ [i]) = (step c (after c s0 0 (pre ++ w)) ((pre.length : Int) + w.length) i).1 := by
    rw [after_snoc, List.length_append, Int.natCast_add, Int.zero_add]
  obtain ⟨h1, h2, h3, h5⟩ := wait_until_slot c w _ _ hc hlen
  cases h4 : (after c (after c s0 0 pre) pre.length w).dead with
  | true =>
    left
    rw [after_append, after_dead c [i] _ _ (by rw [e1]; exact h4), e1]
    exact h4
  | false =>
    have hw2 := wf_after c w _ _ hw
    have he := end_tick c _ _ i hw2 (by rw [h1]; exact hterm) h4
    rw [e2, e1]
    cases hdd : (step c (after c (after c s0 0 pre) pre.length w) ((pre.length : Int) + w.length) i).1.dead with
    | true => exact Or.inl rfl
    | false => exact Or.inr ⟨h1, fun hr => he.stops h5 hr hdd, fun hr => he.restarts h5 hr hdd⟩

/-- The responses stored in the history of a live agent are the responses the run fed it, in order. -/
theorem hist_after (c : Cfg) : ∀ (pre : List In) (s : St) (t : Int), (after c s t pre).dead = false →
    (after c s t pre).hist.map (·.resp) = s.hist.map (·.resp) ++ pre.map (·.resp) :=
  iter_appended (fun s t i => (step c s t i).1) (after c) (fun _ _ => rfl) (fun _ _ _ _ => rfl) (·.dead)
    (fun s => s.hist.map (·.resp)) (·.resp) (after_dead c) (fun s t i h => (step_resp c s t i h).2)

/-- **progress_only_after_success over a whole run (TAP003).**  In a run from the constructor, whenever a tick moves the
stage of the chain to its successor, that tick was an execution slot, and the simulator's response `pre[current_timestep]`
— the response the run gave to the action the agent returned in its previous execution slot — was a success
(except in PLANNING, as coded). -/
theorem C19_tap3_run_progress_only_after_success (c : Cfg) (d0 : Int) (k : Nat) (s0 : St) (h0 : init c d0 k = some s0)
    (pre : List In) (i : In) (hch : (after c s0 0 pre).cur.chain = true)
    (hadv : (after c s0 0 (pre ++ [i])).cur = (after c s0 0 pre).cur.succ) :
    executes (after c s0 0 pre) pre.length = true ∧
    ∃ j, pre[(after c s0 0 pre).curT.toNat]? = some j ∧
      (j.resp.ok = true ∨ (after c s0 0 pre).cur = .planning) := by
  have hw := wf_after c pre s0 0 (wf_init c d0 k s0 h0)
  rw [Int.zero_add] at hw
  rw [after_snoc, Int.zero_add] at hadv
  have hs0 : s0.hist = [] := by rw [(init_some c d0 k s0 h0).2]
  have hne : (after c s0 0 pre).cur.succ ≠ (after c s0 0 pre).cur := by
    revert hch; cases (after c s0 0 pre).cur <;> decide
  obtain ⟨hd, hadv'⟩ := step_moves c _ _ i _ hne hadv
  have hhist := hist_after c pre s0 0 hd
  rw [hs0] at hhist
  simp only [List.map_nil, List.nil_append] at hhist
  generalize after c s0 0 pre = s at *
  obtain ⟨hex, h, hh, hok⟩ := C19_tap3_progress_only_after_success c s pre.length i hch hadv'
  refine ⟨hex, ?_⟩
  have hlt : s.curT < pre.length := by
    rcases hw.curT_lt with h' | h'
    · exact h'
    · rw [h'] at hch; simp [Stage.chain] at hch
  have hlen : s.hist.length = pre.length := by
    have := congrArg List.length hhist
    simpa using this
  unfold lookBack at hh
  rw [if_neg (by omega)] at hh
  obtain ⟨j, hj, hr⟩ := pyIndex_resp (·.resp) (·.resp) s.hist pre hhist s.curT hw.curT h hh
  exact ⟨j, hj, by rw [hr]; exact hok⟩

/-- The invariant: while in EXPLOIT the stage progress is still PENDING (the entry trial has not been passed), and the
remembered `chosen_action` is not an ACL command. -/
def K (s : St) : Prop := (s.cur = .exploit → s.prog = .pending) ∧ s.chosen.kind ≠ .remoteAcl

theorem nothing_ne : Act.nothing.kind ≠ Kind.remoteAcl := by decide

theorem K_curT (s : St) (t : Int) (h : K s) : K { s with curT := t } := ⟨h.1, h.2⟩

theorem K_progress (s : St) (h : K s) : K (progress s) := by
  refine ite_pres ?_ (ite_pres ⟨fun _ => rfl, h.2⟩ ?_)
  · cases Stage.ofVal? (s.cur.val + 1) with
    | none => exact h
    | some _ => exact ⟨fun _ => rfl, h.2⟩
  · cases Stage.ofVal? (s.nxt.val + 1) with
    | none => exact h
    | some _ => exact ⟨fun _ => rfl, h.2⟩

theorem K_failStage (c : Cfg) (s : St) (h : K s) : K (failStage c s) := ite_pres h ⟨nofun, h.2⟩

theorem K_nothing (s : St) (h : K s) : K { s with chosen := Act.nothing } := ⟨h.1, nothing_ne⟩

/-- With `EXPLOIT.probability ≤ 0` the entry trial fails whenever it is made, and by `K` it is made whenever the stage runs. -/
theorem K_exploit (c : Cfg) (i : In) (s : St) (hp : c.pExploit.num ≤ 0) (h : K s) : K (exploit c i s) :=
  ite_pres_of (fun _ => h) fun hcur => by
    rw [if_pos ⟨h.1 (Decidable.not_not.1 hcur), by simp [C19_trial_zero_never_passes c.pExploit i.u hp]⟩]
    exact K_failStage c _ (K_nothing s h)

theorem manipAct_K (c : Cfg) (s : St) (h : s.chosen.kind ≠ .remoteAcl) :
    (manipAct c s).cur = s.cur ∧ (manipAct c s).chosen.kind ≠ .remoteAcl := by
  unfold manipAct
  rcases manipPick s with _ | ⟨a, q1⟩
  · exact ⟨rfl, h⟩
  · dsimp only
    refine ite_pres (P := fun x : St => x.cur = s.cur ∧ x.chosen.kind ≠ .remoteAcl) ?_ ?_
    · cases s.creds.get s.startNode with
      | none => exact ⟨rfl, h⟩
      | some _ => exact ⟨rfl, nofun⟩
    · cases s.creds.get a.host with
      | none => exact ⟨rfl, h⟩
      | some cr =>
        dsimp only [Option.bind_some]
        cases cr.ip with
        | none => exact ⟨rfl, h⟩
        | some _ => exact ite_pres (P := fun x : St => x.cur = s.cur ∧ x.chosen.kind ≠ .remoteAcl) ⟨rfl, nofun⟩ ⟨rfl, nofun⟩

/-- MANIPULATION never chooses an ACL command, and when it progresses it leaves MANIPULATION with progress PENDING. -/
theorem K_manipulation (c : Cfg) (i : In) (s : St) (h : K s) : K (manipulation c i s) :=
  ite_pres_of (fun _ => h) fun hcur =>
    ite_pres
      (by
        have hb : (manipBegin s).cur = s.cur ∧ (manipBegin s).chosen = s.chosen :=
          ite_pres (P := fun x : St => x.cur = s.cur ∧ x.chosen = s.chosen) ⟨rfl, rfl⟩ ⟨rfl, rfl⟩
        have ha := manipAct_K c (manipBegin s) (by rw [hb.2]; exact h.2)
        have hk : K (manipAct c (manipBegin s)) :=
          ⟨(fun hc => by rw [ha.1, hb.1, Decidable.not_not.1 hcur] at hc; cases hc), ha.2⟩
        exact ite_pres (K_progress _ hk) hk)
      (K_failStage c _ (K_nothing s h))

theorem K_access (c : Cfg) (i : In) (s : St) (h : K s) : K (access c i s) :=
  ite_pres h (ite_pres (K_nothing _ (K_progress s h)) (K_failStage c _ (K_nothing s h)))

theorem K_planning (c : Cfg) (i : In) (s : St) (h : K s) : K (planning c i s) :=
  ite_pres h (ite_pres (K_progress _ (ite_pres h h)) (K_failStage c _ (K_nothing s h)))

theorem K_reconnaissance (s : St) (h : K s) : K (reconnaissance s) := ite_pres h (K_progress _ (K_nothing s h))

theorem K_tapStart (s : St) (h : K s) : K (tapStart s) := by
  refine ite_pres h ?_
  cases Stage.ofVal? (Stage.reconnaissance.val + 1) with
  | none => exact h
  | some _ => exact ⟨nofun, nothing_ne⟩

theorem K_bodies (c : Cfg) (i : In) (s : St) (hp : c.pExploit.num ≤ 0) (h : K s) : K (bodies c i s) :=
  K_tapStart _ (K_reconnaissance _ (K_planning c i _ (K_access c i _ (K_manipulation c i _ (K_exploit c i s hp h)))))

theorem K_outcomeHandler (c : Cfg) (s : St) (h : K s) : K (outcomeHandler c s) :=
  ite_pres (ite_pres ⟨h.1, nothing_ne⟩ (ite_pres ⟨nofun, nothing_ne⟩ ⟨h.1, nothing_ne⟩)) h

theorem K_setNext (c : Cfg) (s : St) (b d : Int) (h : K s) : K (setNext c s b d) := ite_pres h h

theorem K_returnHandler (c : Cfg) (x : Hist) (s : St) (h : K s) : K (returnHandler c x s) := ite_pres ⟨nofun, h.2⟩ h

theorem K_reasonCheck (x : Hist) (s : St) (h : K s) : K (reasonCheck x s) := ite_pres h h

theorem K_preGuard (c : Cfg) (s : St) (h : K s) : K (preGuardHandlers c s) := by
  have hl : K (handleLogin s) := by
    unfold handleLogin
    cases s.hist.getLast? with
    | none => exact h
    | some x => exact ite_pres (ite_pres h h) h
  unfold preGuardHandlers
  generalize handleLogin s = s1 at hl ⊢
  unfold handleChangePw
  cases s1.hist.getLast? with
  | none => exact hl
  | some x =>
    dsimp only
    cases s1.chgPwTarget with
    | none => exact hl
    | some _ => exact ite_pres hl (ite_pres hl hl)

theorem K_step (c : Cfg) (s : St) (t : Int) (i : In) (hp : c.pExploit.num ≤ 0) (h : K s) :
    K (step c s t i).1 ∧ ∀ a, (step c s t i).2 = .act a → a.kind ≠ .remoteAcl :=
  step_inv c (K_preGuard c) (K_setNext c) (K_outcomeHandler c) (K_returnHandler c) K_reasonCheck
    (fun i s => K_bodies c i s hp) K_curT (fun _ h => h) (fun _ h => h) (fun _ _ _ h _ => h) (fun _ h => h.2) nothing_ne
    s t i h

/-- **`EXPLOIT.probability ≤ 0` ⇒ no ACL command, ever** (run level).  For every other setting, every draw and every
response sequence, an agent whose EXPLOIT probability is zero (or negative) never returns a
`node-send-remote-command … acl add_rule`: it never gets past the entry trial of EXPLOIT (stage progress PENDING
throughout). -/
theorem C19_tap3_exploit_probability_zero_never_acl (c : Cfg) (d0 : Int) (k : Nat) (s0 : St) (ins : List In)
    (h0 : init c d0 k = some s0) (hp : c.pExploit.num ≤ 0) :
    (∀ t a, (t, Out.act a) ∈ runOut c s0 0 ins → a.kind ≠ .remoteAcl) ∧
    (∀ s ∈ run c s0 0 ins, s.cur = .exploit → s.prog = .pending) := by
  have hk : K s0 := by rw [(init_some c d0 k s0 h0).2]; exact ⟨nofun, nothing_ne⟩
  refine ⟨fun t a hm => ?_, fun s hs => ?_⟩
  · exact iter_forall_mem (runOut c) (fun _ _ => rfl) (fun _ _ _ _ => rfl)
      K (fun x => ∀ a, x.2 = .act a → a.kind ≠ .remoteAcl) (fun s t i h => K_step c s t i hp h)
      ins s0 0 hk (t, .act a) hm a rfl
  · exact (run_inv c K (fun s t i h => (K_step c s t i hp h).1) ins s0 0 hk s hs).1

/-- Non-vacuity / sensitivity: with probability 1 the agent of `exCfg` does issue ACL commands. -/
example : ∃ s0, init exCfg 0 0 = some s0 ∧
    ((runOut exCfg s0 0 (List.replicate 16 exIn)).any fun x =>
      match x.2 with | .act a => a.kind == .remoteAcl | .raised => false) = true := by
  refine ⟨_, rfl, ?_⟩; decide +kernel

end Tap3
end Primaite.Agents
