/-
C16 — inactivity time-out at run level, and the inactivity clock.

* `C16_clock_step`: after ANY operation every session of every node is an identical record from before (same id, user, peer and
  the same `last_active_step`) or its clock reads the step the operation ran in; the two time-out parameters never change.
* `C16_clock_moves_only_by_accepted_command`: in a state with unique ids, the clock of an existing remote session is moved only by
  an accepted terminal command (`Carried`; the acceptance sets the clock of exactly the session the command travels on,
  `touch_exactly`).  Nothing else counts as activity: not a login of the same user, not a refused command, not a local command.
* `C16_local_clock_never_moves`: the clock of a local session is never moved by anything — a local session ends
  `local_session_timeout_steps` after its LOGIN however busy it is (the code never writes `last_active_step` of a local session).
* `C16_local_timeout_exact`: the local session survives the tick to `t+1` iff `t + 1 < last + local_session_timeout_steps`
  (the remote counterpart is `C16_timeout_exact` in Props/C16.lean): each kind with ITS OWN parameter.
* `NoStale` + `C16_no_stale_step/run`: for every operation sequence from a state without stale sessions (e.g. a fresh network), in
  every state reached every listed session — remote w.r.t. `remote_session_timeout_steps`, local w.r.t.
  `local_session_timeout_steps` — has been idle for fewer steps than ITS kind's time-out, or was created / used in the current step.
* `C16_command_session_within_timeout`: hence a remote command is only ever accepted on a session that is within its time-out.
-/
import PrimaiteModel.Props.C16Transport
namespace Primaite.Session

/-! ### the clock relation -/

/-- node `b'` (after) against node `b` (before), `t` = the step the operation runs in -/
structure ClockRel (t : Nat) (b b' : Node) : Prop where
  rto : b'.remoteTimeout = b.remoteTimeout
  lto : b'.localTimeout = b.localTimeout
  rem : ∀ s' ∈ b'.rem, s' ∈ b.rem ∨ s'.last = t
  loc : ∀ l', b'.loc = some l' → b.loc = some l' ∨ l'.last = t

def ClockR (t : Nat) : Nat → Node → Node → Prop := fun _ b b' => ClockRel t b b'

theorem clock_frame (t : Nat) : Frame (ClockR t) :=
  { refl := fun _ b => ⟨rfl, rfl, fun _ h => Or.inl h, fun _ h => Or.inl h⟩,
    trans := fun _ a b c h1 h2 => ⟨h2.rto.trans h1.rto, h2.lto.trans h1.lto,
      fun s hs => by
        rcases h2.rem s hs with h | h
        · exact h1.rem s h
        · exact Or.inr h,
      fun l hl => by
        rcases h2.loc l hl with h | h
        · exact h1.loc l h
        · exact Or.inr h⟩,
    shr := fun _ a b h => ⟨h.remoteTimeout, h.localTimeout, fun s hs => Or.inl (h.rem.subset hs), fun l hl => by
      rcases h.loc with g | g
      · exact Or.inl (g ▸ hl)
      · rw [g] at hl; cases hl⟩,
    data := fun _ a b h => ⟨data_remoteTimeout h, data_localTimeout h, fun s hs => Or.inl (data_rem h ▸ hs),
      fun l hl => Or.inl (data_loc h ▸ hl)⟩ }

/-- the relation between two networks used for the induction over nested commands: same time, nodes related at that time -/
structure Clock (n m : Net) : Prop where
  time : m.time = n.time
  rel : Net.Rel (ClockR n.time) n m

theorem Clock.refl (n : Net) : Clock n n := ⟨rfl, (clock_frame n.time).rel_refl n⟩

theorem Clock.trans {n m k : Net} (h1 : Clock n m) (h2 : Clock m k) : Clock n k :=
  ⟨h2.time.trans h1.time, (clock_frame n.time).rel_trans h1.rel (by rw [← h1.time]; exact h2.rel)⟩

theorem clock_of_shr {n m : Net} (h : n.Shr m) : Clock n m :=
  ⟨h.time, (clock_frame n.time).rel_shr (clock_frame n.time).shr ((clock_frame n.time).rel_refl n) h⟩

theorem clock_same (t : Nat) (b b' : Node) (h1 : b'.remoteTimeout = b.remoteTimeout) (h2 : b'.localTimeout = b.localTimeout)
    (h3 : b'.rem = b.rem) (h4 : b'.loc = b.loc) : ClockRel t b b' :=
  ⟨h1, h2, fun _ hs => Or.inl (h3 ▸ hs), fun _ hl => Or.inl (h4 ▸ hl)⟩

theorem clock_touch (n : Net) (y cid : Nat) : Clock n (n.upd y (Node.touch cid n.time)) :=
  ⟨rfl, rel_upd n y _ (clock_frame n.time).refl (fun _ _ => ⟨rfl, rfl, fun _ hs => touch_mem hs, fun _ hl => Or.inl hl⟩)⟩

theorem clock_localLogin (n : Net) (y : Nat) (u p : String) : Clock n (localLogin n y u p).1 := by
  refine ⟨(keeps_localLogin n y u p).time, ?_⟩
  rcases localLogin_cases n y u p with h | ⟨nd, _, _, h⟩ <;> rw [h]
  · exact (clock_frame n.time).rel_refl n
  · refine rel_bump (rel_upd n y _ (clock_frame n.time).refl (fun b _ => ?_)) _
    rcases localLoginCore_cases b u n.time n.nextId with ⟨h1, _⟩ | ⟨h1, _⟩ <;> rw [h1]
    · exact (clock_frame n.time).refl y b
    · exact ⟨rfl, rfl, fun _ hs => Or.inl hs, fun l hl => by
        simp only [Node.setLoc, Option.some.injEq] at hl; subst hl; exact Or.inr rfl⟩

theorem clock_addConn (n : Net) (y : Nat) (c : Conn) : Clock n (n.upd y (Node.addConn c)) :=
  ⟨rfl, rel_upd n y _ (clock_frame n.time).refl (fun _ _ => ⟨rfl, rfl, fun _ hs => Or.inl hs, fun _ hl => Or.inl hl⟩)⟩

theorem clock_exec (c : Cmd) (n : Net) (y : Nat) : Clock n (execCmd c n y).1 := by
  refine exec_induction_now Clock Clock.refl (fun _ _ _ h1 h2 => h1.trans h2) ?_
    (fun n y cid => clock_of_shr (shr_disconnect _ _ _ _)) clock_touch clock_localLogin
    (fun n y u p id _ => (clock_localLogin n y u p).trans (clock_addConn _ _ _)) c n y
  intro c hc n y
  cases hl : c.noLogin with
  | true =>
    exact ⟨(exec_keeps c n y).time, (clock_frame n.time).atomic (fun _ a _ => clock_same _ a _ rfl rfl rfl rfl)
      (fun _ a _ => clock_same _ a _ rfl rfl rfl rfl) (fun _ a _ => clock_same _ a _ rfl rfl rfl rfl)
      (fun _ a _ _ => clock_same _ a _ rfl rfl rfl rfl) c hc hl n y⟩
  | false =>
    -- an accepted login: the new session was last active in this step
    have hp := step_keepParams n (.req y c)
    rcases login_effect hc hl n y with h0 | ⟨y', s, hnew⟩
    · rw [h0]; exact Clock.refl n
    · refine ⟨(exec_keeps c n y).time, hp.len, fun j b hb => ?_⟩
      obtain ⟨a, ha, _⟩ := hp.node j b hb
      obtain ⟨b0, hb0, hk, hrem, hloc⟩ := hnew.node j a ha
      rw [hb] at hb0; cases hb0
      refine ⟨a, ha, hk.2.2, hk.2.1, fun s' hs' => ?_, fun l hl => Or.inl (hloc ▸ hl)⟩
      rw [hrem] at hs'
      split at hs'
      · rcases List.mem_append.mp hs' with h | h
        · exact Or.inl h
        · rw [List.mem_singleton.mp h]; exact Or.inr hnew.last
      · exact Or.inl hs'

/-- **C16, clock (any operation).** After any operation, every remote session of every node is an identical record from before the
operation (same id, user, peer and `last_active_step`) or its `last_active_step` is the step the operation ran in (it was created
or used by this operation); the same for the local session; the two time-out parameters are never changed. -/
theorem C16_clock_step (n : Net) (op : Op) : Net.Rel (ClockR n.time) n (step n op).1 := by
  have F := clock_frame n.time
  cases op with
  | req y c => exact (clock_exec c n y).rel
  | localLogin y u p => rw [step, opLocalLogin_fst]; exact (clock_localLogin n y u p).rel
  | _ => exact F.plain (fun _ a _ => clock_same _ a _ rfl rfl rfl rfl) n _ (fun _ _ _ a => clock_same _ a _ rfl rfl rfl rfl) nofun nofun

/-! ### nothing but an accepted command moves the clock of an existing session -/

/-- remote sessions (whole records) only disappear -/
def RemSame : Nat → Node → Node → Prop := fun _ a b => b.rem.Sublist a.rem

theorem remSame_frame : Frame RemSame :=
  { refl := fun _ _ => List.Sublist.refl _, trans := fun _ _ _ _ h1 h2 => List.Sublist.trans h2 h1,
    shr := fun _ _ _ h => h.rem, data := fun _ _ _ h => by unfold RemSame; rw [data_rem h]; exact List.Sublist.refl _ }

theorem atomic_remSame (c : Cmd) (hc : c.atomic = true) (hl : c.noLogin = true) (n : Net) (y : Nat) :
    Net.Rel RemSame n (execCmd c n y).1 :=
  remSame_frame.atomic (fun j a _ => remSame_frame.refl j a) (fun j a _ => remSame_frame.refl j a)
    (fun j a _ => remSame_frame.refl j a) (fun j a _ _ => remSame_frame.refl j a) c hc hl n y

/-- the acceptance of a command sets the clock of exactly the session it travels on: every other record is untouched, and the
record with that id keeps everything but `last` -/
theorem touch_exactly (b : Node) (cid t : Nat) :
    (∀ s ∈ b.rem, s.id ≠ cid → s ∈ (b.touch cid t).rem) ∧
    (∀ s ∈ b.rem, s.id = cid → ({ s with last := t } : RSession) ∈ (b.touch cid t).rem) ∧
    (b.touch cid t).rem.length = b.rem.length := by
  unfold Node.touch
  refine ⟨fun s hs hne => ?_, fun s hs he => ?_, by simp⟩
  · exact List.mem_map.mpr ⟨s, hs, by simp [hne]⟩
  · exact List.mem_map.mpr ⟨s, hs, by simp [he]⟩

/-- **C16, clock (what counts as activity).** In a state with unique session ids (every reachable state, `C16_fresh_ids_run`): if
after an operation node `y` lists a remote session with the id of a session it listed before but not the identical record — i.e.
its clock was moved — then the operation was a terminal command that was accepted (`Carried`).  A login of the same user, a refused
or rejected command, a logoff, user-manager / service / power requests, ticks and ACL edits never move a clock. -/
theorem C16_clock_moves_only_by_accepted_command (n : Net) (hf : FreshIds n) (op : Op) (y : Nat) (b a : Node)
    (hb : n.node y = some b) (ha : (step n op).1.node y = some a) (s s' : RSession) (hs : s ∈ b.rem) (hs' : s' ∈ a.rem)
    (hid : s'.id = s.id) (hne : s' ≠ s) : Carried n op := by
  obtain ⟨hlt, hnd⟩ := hf y b hb
  have contra : Net.Rel RemSame n (step n op).1 → False := fun h =>
    hne (eq_of_nodup_map (·.id) hnd ((h.of_nodes hb ha).subset hs') hs hid)
  -- a login only appends a session with the fresh id
  have login : ∀ x c, c.atomic = true → c.noLogin = false → op = .req x c → False := by
    intro x c hc hl hop
    subst hop
    rcases login_effect hc hl n x with h0 | ⟨y', snew, hnew⟩
    · rw [step, h0] at contra; exact contra (remSame_frame.rel_refl n)
    · obtain ⟨b0, hb0, _, hrem, _⟩ := hnew.node y a ha
      rw [hb] at hb0; cases hb0
      have hmem : s' ∈ b.rem ∨ s' = snew := by
        split at hrem <;> rw [hrem] at hs'
        · simpa using hs'
        · exact Or.inl hs'
      rcases hmem with h1 | h1
      · exact hne (eq_of_nodup_map (·.id) hnd h1 hs hid)
      · have := hlt s hs; rw [h1, hnew.id] at hid; omega
  have F := remSame_frame
  cases op with
  | localLogin y' u p =>
    refine (contra ?_).elim
    rw [step, opLocalLogin_fst]; exact F.toPre.localLogin n y' u p (fun a _ => F.refl y' a)
  | req x c =>
    cases c with
    | remoteCmd z c => exact (remoteCmd_rel_or_carried F n x z c).elim (fun h => (contra h).elim) id
    | localCmd u p c =>
      exact (localCmd_rel_or_carried F (fun j a _ => F.refl j a) (fun j a _ => F.refl j a) n x u p c).elim
        (fun h => (contra h).elim) id
    | remoteLogin y' u p => exact (login x _ rfl rfl rfl).elim
    | usmLogin u p peer => exact (login x _ rfl rfl rfl).elim
    | _ => exact (contra (atomic_remSame _ rfl rfl n x)).elim
  | _ => exact (contra (F.plain (fun j a _ => F.refl j a) n _ (fun y _ _ a => F.refl y a) nofun nofun)).elim

/-! ### the clock of a local session is never moved -/

/-- **C16, clock (local session).** In a reachable state (`ConnInv`: ids in use are below the counter) no operation moves the
clock of a local session: if the node's local session afterwards has the id of the one before, it is the identical record.  The code
never writes `last_active_step` of a local session — neither a local command nor a repeated login of the same user counts as
activity — so a local session ends `local_session_timeout_steps` after its login (`C16_local_timeout_exact`). -/
theorem C16_local_clock_never_moves (n : Net) (hi : ConnInv n) (op : Op) (y : Nat) (b a : Node) (hb : n.node y = some b)
    (ha : (step n op).1.node y = some a) (l l' : LSession) (hl : b.loc = some l) (hl' : a.loc = some l') (hid : l'.id = l.id) :
    l' = l := by
  obtain ⟨b0, hb0, _, hloc⟩ := (connStep_step n op).node y a ha
  rw [hb] at hb0; cases hb0
  rcases hloc l' hl' with h | h
  · rw [hl] at h; cases h; rfl
  · have := hi.locIds y b l hb hl; omega

/-! ### the local time-out is exact, with its own parameter -/

/-- **C16, time-out (local), exact, with ITS OWN parameter.** After the tick that makes the time `t + 1`, node `y` still has its
local session `l` iff `t + 1 < l.last + local_session_timeout_steps`; `remote_session_timeout_steps` plays no part.  (The remote
counterpart, with `remote_session_timeout_steps` only, is `C16_timeout_exact`.) -/
theorem C16_local_timeout_exact (n : Net) (y : Nat) (b : Node) (hb : n.node y = some b) (l : LSession) (hl : b.loc = some l) :
    ∃ a, (tick n).node y = some a ∧ a.localTimeout = b.localTimeout ∧
      (a.loc = if l.last + b.localTimeout ≤ n.time + 1 then none else some l) := by
  obtain ⟨a, ha, _, hlt, _, hloc, _⟩ := tick_sessions n hb
  refine ⟨a, ha, hlt, ?_⟩
  rw [hloc, hl]
  simp only [Node.localExpired, hl, decide_eq_true_eq]

/-! ### run level: no listed session is past ITS time-out -/

/-- Every listed session has been idle for fewer steps than the time-out of its own kind, or was created / used in the current
step (the second alternative only matters for a configured time-out of 0). -/
def NoStale (n : Net) : Prop :=
  ∀ y b, n.node y = some b →
    (∀ s ∈ b.rem, n.time < s.last + b.remoteTimeout ∨ s.last = n.time) ∧
    (∀ l, b.loc = some l → n.time < l.last + b.localTimeout ∨ l.last = n.time)

theorem noStale_of_clock {n m : Net} (ht : m.time = n.time) (h : Net.Rel (ClockR n.time) n m) (hs : NoStale n) : NoStale m := by
  intro y a ha
  obtain ⟨b, hb, hab⟩ := Net.Rel.back h ha
  obtain ⟨h1, h2⟩ := hs y b hb
  rw [ht, hab.rto, hab.lto]
  refine ⟨fun s hsm => ?_, fun l hl => ?_⟩
  · rcases hab.rem s hsm with h | h
    · exact h1 s h
    · exact Or.inr h
  · rcases hab.loc l hl with h | h
    · exact h2 l h
    · exact Or.inr h

/-- whatever the state before, after a tick no listed session is at or past its time-out -/
theorem noStale_tick (n : Net) : NoStale (tick n) := by
  intro y a ha
  obtain ⟨b, hb⟩ := step_node_back n .tick y a ha
  obtain ⟨a', ha', hrt, hlt, hrem, hloc, _⟩ := tick_sessions n hb
  rw [ha] at ha'; cases ha'
  rw [tick_time, hrt, hlt]
  refine ⟨fun s hs => Or.inl ?_, fun l hl => Or.inl ?_⟩
  · -- a listed record was there before and carries no timed-out id, its own included
    rw [hrem] at hs
    obtain ⟨hsb, hno⟩ := List.mem_filter.mp hs
    by_cases hexp : s.last + b.remoteTimeout ≤ n.time + 1
    · rw [(timesOut_iff b _ _).mpr ⟨s, hsb, hexp, rfl⟩] at hno; cases hno
    · omega
  · rw [hloc] at hl
    split at hl
    · cases hl
    · rename_i hexp
      simp only [Node.localExpired, hl, decide_eq_true_eq] at hexp
      omega

/-- **C16, time-out (invariant, one step).** -/
theorem C16_no_stale_step (n : Net) (op : Op) (h : NoStale n) : NoStale (step n op).1 := by
  by_cases ht : op = .tick
  · subst ht; exact noStale_tick n
  · exact noStale_of_clock (step_keeps n op ht).time (C16_clock_step n op) h

/-- **C16, time-out (run level).** For every operation sequence from a state without stale sessions (a fresh network has no
sessions at all), in every state reached every listed remote session has been idle for fewer than `remote_session_timeout_steps`
steps and the local session for fewer than `local_session_timeout_steps` steps — each kind measured against its own parameter — or
was created / used in the current step. -/
theorem C16_no_stale_run (ops : List Op) (n : Net) (h : NoStale n) : NoStale (run n ops) :=
  run_induction NoStale C16_no_stale_step ops n h

theorem noStale_init (n : Net) (h : ∀ j a, n.node j = some a → a.rem = [] ∧ a.loc = none) : NoStale n := by
  intro y b hb
  obtain ⟨h1, h2⟩ := h y b hb
  exact ⟨fun s hs => (by rw [h1] at hs; cases hs), fun l hl => (by rw [h2] at hl; cases hl)⟩

/-- **C16, time-out (commands).** In such a state a remote command that arrives is accepted only on a session the target lists
(`Carried`), and that session is within its time-out: a session idle for `remote_session_timeout_steps` or more steps runs no
command, in any reachable state. -/
theorem C16_command_session_within_timeout (n : Net) (h : NoStale n) (x z : Nat) (a b : Node) (cn : Conn)
    (arr : CmdArrives n x z a b cn) (hs : b.hasSession cn.id = true) :
    ∃ s ∈ b.rem, s.id = cn.id ∧ (n.time < s.last + b.remoteTimeout ∨ s.last = n.time) := by
  obtain ⟨s, hsm, hid⟩ := List.mem_map.mp ((hasSession_iff b cn.id).mp hs)
  exact ⟨s, hsm, hid, (h z b arr.dst).1 s hsm⟩

/-! ### non-vacuity -/

/-- local time-out 3, remote time-out 2 -/
def demoTo : Net := { nodes := [{ remoteTimeout := 2, localTimeout := 3 }, { remoteTimeout := 2, localTimeout := 3 }] }

example : NoStale demoTo :=
  noStale_init demoTo (fun _ _ ha => of_forall_nodes (P := fun a => a.rem = [] ∧ a.loc = none) (by decide) ha)
-- each kind with its own parameter: after 2 ticks the remote session is gone and the local one is still there; after 3 both
example : ((run demoTo [login01, .localLogin 1 "admin" "admin", .tick, .tick]).node 1).map (fun b => (b.rem.length, b.loc.isSome))
    = some (0, true) := by decide
example : ((run demoTo [login01, .localLogin 1 "admin" "admin", .tick, .tick, .tick]).node 1).map (fun b => (b.rem.length, b.loc.isSome))
    = some (0, false) := by decide
-- activity: an accepted command moves the clock of the session it travels on (used at step 1: gone after the third tick, not
-- the second) …
example : ((run demoTo [login01, .tick, cmd01 (.file 1), .tick, .tick]).node 1).map (·.rem.map (·.last)) = some [] := by decide
example : ((run demoTo [login01, .tick, cmd01 (.file 1), .tick]).node 1).map (·.rem.map (·.last)) = some [1] := by decide
-- … of that session only (two sessions 0→1; the command travels on the first connection)
example : ((run demoTo [login01, login01, .tick, cmd01 (.file 1)]).node 1).map (·.rem.map (·.last)) = some [1, 0] := by decide
-- … a second login of the same user, a refused command and a local command do not
example : ((run demoTo [login01, .tick, login01]).node 1).map (·.rem.map (·.last)) = some [0, 1] := by decide
example : ((run demoTo [.localLogin 1 "admin" "admin", .tick, .req 1 (.localCmd "admin" "admin" (.file 1)), .localLogin 1 "admin" "admin"]).node 1).map
    (fun b => b.loc.map (·.last)) = some (some 0) := by decide
-- hypotheses of C16_clock_moves_only_by_accepted_command: the clock really moves on the accepted command
example : ((run demoTo [login01, .tick]).node 1).map (·.rem.map (·.last)) = some [0] := by decide

end Primaite.Session
