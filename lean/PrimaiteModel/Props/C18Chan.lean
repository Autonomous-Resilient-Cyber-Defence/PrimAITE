/-
C18, continued — the budget of a wireless channel is the budget of the PHYSICAL channel (the frequency in hertz).

`AirSpace.transmit` hands a frame to the interfaces listed under the sender's `frequency_hz`: that is the channel the frame goes out
on.  Several frequency *names* may be registered for one hz (`AirSpace.register_frequency`; "they will share a bandwidth",
`AirSpaceFrequency`).  The model therefore has ONE load per hz (`Chan.load`) and one capacity per interface (`Chan.caps[i]` = the
capacity of the name interface `i` uses).  This file states the property for the physical channel whatever the number of names and
access points on it, shows what a budget kept per NAME does, and ties the index of the budget to the source.
-/
import PrimaiteModel.Props.C18

namespace Primaite.Link

/-- **One physical channel, any number of names and access points.**  If every interface on the hz is admitted against a capacity of
at most `C` (names that alias one hz with the same data rate: all equal `C`), then in every tick — whatever the traffic: any number
of senders under any of the names, nested sends, interfaces toggled, joining and leaving — the data sent on the hz is within `C`. -/
theorem C18_physical_channel_le_capacity (n : Net) (evs : List Ev) (c C : Nat) (ch : Chan)
    (hc : n.chans[c]? = some ch) (hC : ∀ x ∈ ch.caps, x ≤ C) :
    carriedOn true c (runEvs (tick n) evs).2 ≤ C := by
  have h := (C18_air_carried_le_capacity n evs c).2
  have hcap : capOf n c ≤ C := by
    unfold capOf
    rw [hc]
    exact foldr_max_le ch.caps C hC
  omega

/-- three access points under two names of capacity 10 on one hz: 4 + 4 are sent, the third sender's 4 is dropped at the sender
(`full`) although its own name has sent nothing yet -/
example :
    let n : Net := { links := [], chans := [{ caps := [10, 10, 10], load := 3, en := [true, true, true] }] }
    let r := runEvs (tick n) [.wsend 0 0 4 [], .wsend 0 1 4 [], .wsend 0 2 4 []]
    r.2.map (·.verdict) = [.carried, .carried, .full] ∧ carriedOn true 0 r.2 = 8 := by decide +kernel

/-! ### A budget kept per frequency NAME (never in the repository): what it would do

`sendsPerName cap loads sends`: the accounting with one counter per name (`loads[name]`), every name of capacity `cap`, all names on
one hz; `sends` = (name, size) in order.  Returns what went out on the hz. -/

def sendsPerName (cap : Nat) : List Nat → List (Nat × Nat) → Nat
  | _, [] => 0
  | loads, (nm, s) :: rest =>
    match loads[nm]? with
    | none => sendsPerName cap loads rest
    | some l =>
      if l + s ≤ cap then s + sendsPerName cap (loads.set nm (l + s)) rest   -- admitted against the NAME's own counter
      else sendsPerName cap loads rest

/-- The property for a budget kept per name: the hz carries at most the capacity. -/
def C18_Full_budget_per_name : Prop :=
  ∀ (cap : Nat) (names : Nat) (sends : List (Nat × Nat)), sendsPerName cap (List.replicate names 0) sends ≤ cap

/-- It is false: two names on one hz of capacity 10, each sends 8: the channel carries 16 (N names: up to N times the capacity). -/
theorem C18_budget_per_name_counterexample : ¬ C18_Full_budget_per_name := fun h =>
  absurd (h 10 2 [(0, 8), (1, 8)]) (by decide +kernel)

/-- The same traffic in the model of the code (one counter per hz): the second 8 is dropped at the sender. -/
example :
    let n : Net := { links := [], chans := [{ caps := [10, 10], load := 0, en := [true, true] }] }
    carriedOn true 0 (runEvs (tick n) [.wsend 0 0 8 [], .wsend 0 1 8 []]).2 = 8 := by decide +kernel

/-- The budget the admission test reads, the budget `transmit` adds to and the list of receivers `transmit` walks are all indexed
by the sender's `frequency_hz` — the budget is that of the channel the frame goes out on. -/
theorem C18_gen_air_keys :
    Gen.Link.airKeys = [("can_transmit_frame:budget", "frequency_hz"), ("transmit:budget", "frequency_hz"),
                        ("transmit:receivers", "frequency_hz")] := rfl

end Primaite.Link
