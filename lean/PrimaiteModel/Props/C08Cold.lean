/-
C08, part 8 — liveness with COLD caches on one switched LAN: the ARP resolution cascade (request flooded by a switch that has
learned nothing — past the other hosts on its at most 60 ports, which only log it and spend its shared TTL —, reply switched
back) turns a cold pair of hosts into a warm one, and the ping then succeeds.
On the way: the configuration is static at every fuel (`cAt`), the flood loop over silent / quiet ports, and the steps of an ARP
exchange as equations between interpreter calls; the steps, `Snap` and `arpMac_miss_ask_hit` are used by `C08ColdRouter.lean` and
`C08ColdApp.lean` as well, the example switch `clSwitch` at the end by `C08SwitchLearn.lean`.
-/
import PrimaiteModel.Lemmas.ForwardInv
import PrimaiteModel.Props.C08Liveness
namespace Primaite.Forward

/-- the interpreter never changes the configuration (no assumption on the log, unlike `G`). -/
structure CAt (fuel : Nat) : Prop where
  send : ∀ st n i f, cfgOf (sendFrame fuel st n i f).1 = cfgOf st
  recv : ∀ st n i f, cfgOf (ifaceRecv fuel st n i f).1 = cfgOf st
  sw : ∀ st n i f, cfgOf (switchRecv fuel st n i f).1 = cfgOf st
  flood : ∀ st n i f ports, cfgOf (floodPorts fuel st n i f ports).1 = cfgOf st
  host : ∀ st n i f, cfgOf (hostRecv fuel st n i f).1 = cfgOf st
  router : ∀ st n i f, cfgOf (routerRecv fuel st n i f).1 = cfgOf st
  process : ∀ st n i f, cfgOf (routerProcess fuel st n i f).1 = cfgOf st
  arpReply : ∀ st n pl, cfgOf (sendArpReply fuel st n pl) = cfgOf st
  arpPkt : ∀ st n pl d, cfgOf (sendArpPkt fuel st n pl d) = cfgOf st
  icmp : ∀ st n d pl, cfgOf (sendIcmp fuel st n d pl) = cfgOf st
  details : ∀ st n d, cfgOf (resolveDetails fuel st n d).1 = cfgOf st
  out : ∀ st n d, cfgOf (resolveOut fuel st n d).1 = cfgOf st
  mac : ∀ st n ip re gw, cfgOf (arpMac fuel st n ip re gw).1 = cfgOf st
  ifc : ∀ st n ip re gw, cfgOf (arpIfc fuel st n ip re gw).1 = cfgOf st
  req : ∀ st n t, cfgOf (sendArpReq fuel st n t) = cfgOf st


/-- none of the interpreter's effects (`Eff`) touches the configuration. -/
theorem cAt (fuel : Nat) : CAt fuel where
  send st n i f := ((eAt fuel).send st n i f).1 .refl |>.cfg
  recv st n i f := ((eAt fuel).recv st n i f).1 .refl |>.cfg
  sw st n i f := ((eAt fuel).sw st n i f).1 .refl |>.cfg
  flood st n i f ports := ((eAt fuel).flood st n i f ports).1 .refl |>.cfg
  host st n i f := ((eAt fuel).host st n i f).1 .refl |>.cfg
  router st n i f := ((eAt fuel).router st n i f).1 .refl |>.cfg
  process st n i f := ((eAt fuel).process st n i f).1 .refl |>.cfg
  arpReply st n pl := ((eAt fuel).arpReply st n pl .refl).cfg
  arpPkt st n pl d := ((eAt fuel).arpPkt st n pl d .refl).cfg
  icmp st n d pl := ((eAt fuel).icmp st n d pl .refl).cfg
  details st n d := ((eAt fuel).details st n d .refl).cfg
  out st n d := ((eAt fuel).out st n d .refl).cfg
  mac st n ip re gw := ((eAt fuel).mac st n ip re gw .refl).cfg
  ifc st n ip re gw := ((eAt fuel).ifc st n ip re gw .refl).cfg
  req st n t := ((eAt fuel).req st n t .refl).cfg

/-- port `p` of node `s` sends nothing: no interface, disabled, or no cable. -/
def SilentPort (st : St) (s p : Nat) : Prop :=
  ∀ pif, st.iface? s p = some pif → pif.enabled = false ∨ pif.peer = none

/-- one iteration of the flood loop (callee budget `fuel + 1`). -/
def floodStep (fuel s i : Nat) (acc : St × Frame) (p : Nat) : St × Frame :=
  match acc.1.iface? s p with
  | some pif => if pif.enabled && p != i then sendFrame (fuel + 1) acc.1 s p acc.2 else acc
  | none => acc

theorem floodPorts_eq (fuel : Nat) (st : St) (s i : Nat) (f : Frame) (ports : List Nat) :
    floodPorts (fuel + 2) st s i f ports = ports.foldl (floodStep fuel s i) (st, f) := by
  simp only [floodPorts]
  rfl

theorem silent_step (fuel : Nat) (X : St) (s i p : Nat) (g : Frame) (h : SilentPort X s p ∨ p = i) :
    floodStep fuel s i (X, g) p = (X, g) := by
  unfold floodStep
  split
  · rename_i pif hp
    rcases h with h | h
    · rcases h pif hp with h1 | h1
      · simp [h1]
      · split
        · simp only [sendFrame, hp, h1]
          split <;> rfl
        · rfl
    · simp [h]
  · rfl

theorem flood_silent (fuel : Nat) (st : St) (s i : Nat) (ports : List Nat)
    (hs : ∀ p ∈ ports, SilentPort st s p ∨ p = i) :
    ∀ (X : St) (g : Frame), cfgOf X = cfgOf st → ports.foldl (floodStep fuel s i) (X, g) = (X, g) := by
  induction ports with
  | nil => intro X g _; rfl
  | cons p ps ihp =>
    intro X g hX
    simp only [List.foldl_cons]
    have hp : SilentPort X s p ∨ p = i := by
      rcases hs p (List.mem_cons_self) with h | h
      · left; intro pif hpif; rw [iface?_of_cfgOf hX] at hpif; exact h pif hpif
      · exact Or.inr h
    rw [silent_step fuel X s i p g hp]
    exact ihp (fun q hq => hs q (List.mem_cons_of_mem _ hq)) X g hX

theorem live_step (fuel : Nat) (X : St) (s i p : Nat) (g : Frame) (sb : Iface) (hsb : X.iface? s p = some sb)
    (hen : sb.enabled = true) (hpi : p ≠ i) : floodStep fuel s i (X, g) p = sendFrame (fuel + 1) X s p g := by
  have hne : (p != i) = true := by simpa using hpi
  unfold floodStep
  simp only [hsb, hen, hne, Bool.and_self, if_true]

theorem split_at_port {ports : List Nat} {pb : Nat} (hnd : ports.Nodup) (hmem : pb ∈ ports) :
    ∃ pre post, ports = pre ++ pb :: post ∧ pb ∉ pre ∧ pb ∉ post := by
  obtain ⟨pre, post, rfl⟩ := List.append_of_mem hmem
  obtain ⟨_, hpost, hdisj⟩ := List.nodup_append.1 hnd
  exact ⟨pre, post, rfl, fun h => hdisj pb h pb List.mem_cons_self rfl, (List.nodup_cons.1 hpost).1⟩

theorem flood_one (fuel : Nat) (st : St) (s i pb : Nat) (f : Frame) (sb : Iface) (ports : List Nat)
    (hnd : ports.Nodup) (hmem : pb ∈ ports) (hpi : pb ≠ i) (hsb : st.iface? s pb = some sb) (hen : sb.enabled = true)
    (hs : ∀ p ∈ ports, p ≠ pb → SilentPort st s p ∨ p = i) :
    floodPorts (fuel + 2) st s i f ports = sendFrame (fuel + 1) st s pb f := by
  obtain ⟨pre, post, rfl, hpre, hpost⟩ := split_at_port hnd hmem
  rw [floodPorts_eq, List.foldl_append, List.foldl_cons,
    flood_silent fuel st s i pre (fun p hp => hs p (List.mem_append_left _ hp) (fun h => hpre (h ▸ hp))) st f rfl,
    live_step fuel st s i pb f sb hsb hen hpi]
  have hc := (cAt (fuel + 1)).send st s pb f
  generalize sendFrame (fuel + 1) st s pb f = r at hc ⊢
  obtain ⟨X, g⟩ := r
  exact flood_silent fuel st s i post
    (fun p hp => hs p (List.mem_append_right _ (List.mem_cons_of_mem _ hp)) (fun h => hpost (h ▸ hp))) X g hc

/-- port `p` of node `s` is quiet for frames addressed to `(dm, dip)`: silent, or cabled to an interface that is down, or
to the NIC of a host that does not accept such frames. -/
def QuietPort (st : St) (s p : Nat) (dm : Mac) (dip : Ip) : Prop :=
  ∀ pif, st.iface? s p = some pif → pif.enabled = false ∨ pif.peer = none ∨
    ∃ m j, pif.peer = some (m, j) ∧
      (st.iface? m j = none ∨ ∃ nif nd, st.iface? m j = some nif ∧ st.node? m = some nd ∧
        (nif.enabled = false ∨ (nd.kind = .host ∧ ∀ g : Frame, g.dstMac = dm → g.dstIp = dip → hostAccepts nd nif g = false)))

/-- `g'` is `g` after at most `k` receptions. -/
def Later (g g' : Frame) (k : Nat) : Prop :=
  g'.dstMac = g.dstMac ∧ g'.dstIp = g.dstIp ∧ g'.srcIp = g.srcIp ∧ g'.srcMac = g.srcMac ∧ g'.pl = g.pl ∧ g'.id = g.id ∧
    g'.ttl ≤ g.ttl ∧ g.ttl - k ≤ g'.ttl

theorem Later.refl (g : Frame) : Later g g 0 := ⟨rfl, rfl, rfl, rfl, rfl, rfl, Int.le_refl _, by omega⟩

theorem Later.step {g g' : Frame} {k : Nat} (h : Later g g' k) : Later g g'.dec (k + 1) := by
  obtain ⟨h1, h2, h3, h4, h5, h6, h7, h8⟩ := h
  refine ⟨h1, h2, h3, h4, h5, h6, ?_, ?_⟩
  · show g'.ttl - 1 ≤ g.ttl; omega
  · show g.ttl - ((k + 1 : Nat) : Int) ≤ g'.ttl - 1; omega

theorem Later.mono {g g' : Frame} {k k' : Nat} (h : Later g g' k) (hk : k ≤ k') : Later g g' k' := by
  obtain ⟨h1, h2, h3, h4, h5, h6, h7, h8⟩ := h
  exact ⟨h1, h2, h3, h4, h5, h6, h7, by omega⟩

theorem Later.trans {f g g' : Frame} {k k' : Nat} (h : Later f g k) (h' : Later g g' k') : Later f g' (k + k') := by
  obtain ⟨a1, a2, a3, a4, a5, a6, a7, a8⟩ := h
  obtain ⟨b1, b2, b3, b4, b5, b6, b7, b8⟩ := h'
  exact ⟨b1.trans a1, b2.trans a2, b3.trans a3, b4.trans a4, b5.trans a5, b6.trans a6, by omega, by omega⟩

theorem quiet_step (fuel : Nat) (X : St) (s i p : Nat) (g : Frame) (h : QuietPort X s p g.dstMac g.dstIp ∨ p = i) :
    ∃ L g', floodStep (fuel + 1) s i (X, g) p = ({ X with log := L ++ X.log }, g') ∧ Later g g' 1 := by
  have hid : ∃ L g', ((X, g) : St × Frame) = ({ X with log := L ++ X.log }, g') ∧ Later g g' 1 :=
    ⟨[], g, rfl, (Later.refl g).mono (by omega)⟩
  unfold floodStep
  split
  · rename_i pif hp
    rcases h with h | h
    · rcases h pif hp with h1 | h1 | ⟨m, j, hpeer, h1⟩
      · simpa [h1] using hid
      · split
        · simp only [sendFrame, hp, h1]
          split <;> exact hid
        · exact hid
      · split
        · rename_i hen
          have hen' : pif.enabled = true := by
            simp only [Bool.and_eq_true] at hen; exact hen.1
          rcases h1 with h1 | ⟨nif, nd, hnif, hnd, h1⟩
          · simp only [sendFrame, hp, hen', hpeer, h1, Bool.not_true, Bool.false_eq_true, if_false]
            exact hid
          · rcases h1 with h1 | ⟨hk, hacc⟩
            · simp only [sendFrame, hp, hen', hpeer, hnif, h1, Bool.not_true, Bool.false_eq_true, if_false, Bool.not_false, if_true]
              exact hid
            · cases hne : nif.enabled with
              | false =>
                simp only [sendFrame, hp, hen', hpeer, hnif, hne, Bool.not_true, Bool.false_eq_true, if_false, Bool.not_false, if_true]
                exact hid
              | true =>
                have hacc' : hostAccepts nd nif g.dec = false := hacc g.dec rfl rfl
                refine ⟨[.rx m j g.id g.ttl], g.dec, ?_, (Later.refl g).step⟩
                simp only [sendFrame, hp, hen', hpeer, hnif, hne, Bool.not_true, Bool.false_eq_true, if_false, ifaceRecv, hnd, hk, hacc']
                split <;> rfl
        · exact hid
    · simpa [h] using hid
  · exact hid

/-- `QuietPort`, read off the (static) configuration. -/
def QuietPortC (c : List NodeCfg) (s p : Nat) (dm : Mac) (dip : Ip) : Prop :=
  ∀ pif, (c[s]?).bind (fun nc => nc.ifaces[p]?) = some pif → pif.enabled = false ∨ pif.peer = none ∨
    ∃ m j, pif.peer = some (m, j) ∧
      ((c[m]?).bind (fun nc => nc.ifaces[j]?) = none ∨ ∃ nif nc, (c[m]?).bind (fun nc => nc.ifaces[j]?) = some nif ∧ c[m]? = some nc ∧
        (nif.enabled = false ∨ (nc.kind = .host ∧
          ∀ (nd : Node) (g : Frame), nd.ifaces = nc.ifaces → g.dstMac = dm → g.dstIp = dip → hostAccepts nd nif g = false)))

theorem quietPort_of_cfg {X : St} {c : List NodeCfg} (hc : cfgOf X = c) {s p : Nat} {dm : Mac} {dip : Ip}
    (h : QuietPortC c s p dm dip) : QuietPort X s p dm dip := by
  intro pif hp
  rw [iface?_eq_cfg, hc] at hp
  rcases h pif hp with h1 | h1 | ⟨m, j, hpeer, h1⟩
  · exact Or.inl h1
  · exact Or.inr (Or.inl h1)
  · refine Or.inr (Or.inr ⟨m, j, hpeer, ?_⟩)
    rcases h1 with h1 | ⟨nif, nc, hnif, hnc, h1⟩
    · left; rw [iface?_eq_cfg, hc]; exact h1
    · right
      obtain ⟨nd, hnd, hcfg⟩ := node?_of_cfgOf hc hnc
      refine ⟨nif, nd, by rw [iface?_eq_cfg, hc]; exact hnif, hnd, ?_⟩
      rcases h1 with h1 | ⟨hk, hacc⟩
      · exact Or.inl h1
      · right
        have hk' : nd.kind = .host := by rw [← hcfg] at hk; exact hk
        have hif : nd.ifaces = nc.ifaces := by rw [← hcfg]; rfl
        exact ⟨hk', fun g h1 h2 => hacc nd g hif h1 h2⟩

theorem quiet_fold (fuel : Nat) (c : List NodeCfg) (s i : Nat) (dm : Mac) (dip : Ip) (ports : List Nat)
    (hq : ∀ p ∈ ports, QuietPortC c s p dm dip ∨ p = i) :
    ∀ (X : St) (g : Frame), cfgOf X = c → g.dstMac = dm → g.dstIp = dip →
      ∃ L g', ports.foldl (floodStep (fuel + 1) s i) (X, g) = ({ X with log := L ++ X.log }, g') ∧ Later g g' ports.length := by
  induction ports with
  | nil => intro X g _ _ _; exact ⟨[], g, rfl, Later.refl g⟩
  | cons p ps ihp =>
    intro X g hX hm hd
    simp only [List.foldl_cons]
    have hp : QuietPort X s p g.dstMac g.dstIp ∨ p = i := by
      rcases hq p List.mem_cons_self with h | h
      · left; rw [hm, hd]; exact quietPort_of_cfg hX h
      · exact Or.inr h
    obtain ⟨L1, g1, e1, l1⟩ := quiet_step fuel X s i p g hp
    rw [e1]
    obtain ⟨L2, g2, e2, l2⟩ := ihp (fun q hq' => hq q (List.mem_cons_of_mem _ hq')) { X with log := L1 ++ X.log } g1 hX
      (by rw [l1.1]; exact hm) (by rw [l1.2.1]; exact hd)
    exact ⟨L2 ++ L1, g2, by rw [e2]; simp [List.append_assoc], (l1.trans l2).mono (by simp only [List.length_cons]; omega)⟩

/-- the flood loop over a switch with ONE port `pb` that matters besides the ingress, all others quiet: quiet receptions,
then the frame goes out of `pb` (its TTL lowered by at most the number of ports), then quiet receptions. -/
theorem flood_one_quiet (fuel : Nat) (st : St) (s i pb : Nat) (f : Frame) (sb : Iface) (ports : List Nat)
    (hnd : ports.Nodup) (hmem : pb ∈ ports) (hpi : pb ≠ i) (hsb : st.iface? s pb = some sb) (hen : sb.enabled = true)
    (hq : ∀ p ∈ ports, p ≠ pb → QuietPortC (cfgOf st) s p f.dstMac f.dstIp ∨ p = i) :
    ∃ (L1 : List Ev) (g1 : Frame) (post : List Nat), Later f g1 ports.length ∧ (∀ p ∈ post, QuietPortC (cfgOf st) s p f.dstMac f.dstIp ∨ p = i) ∧
      floodPorts (fuel + 3) st s i f ports =
        post.foldl (floodStep (fuel + 1) s i) (sendFrame (fuel + 2) { st with log := L1 ++ st.log } s pb g1) := by
  obtain ⟨pre, post, rfl, hpre, hpost⟩ := split_at_port hnd hmem
  obtain ⟨L1, g1, e1, l1⟩ := quiet_fold fuel (cfgOf st) s i f.dstMac f.dstIp pre
    (fun p hp => hq p (List.mem_append_left _ hp) (fun h => hpre (h ▸ hp))) st f rfl rfl rfl
  refine ⟨L1, g1, post, l1.mono (by simp only [List.length_append]; omega),
    fun p hp => hq p (List.mem_append_right _ (List.mem_cons_of_mem _ hp)) (fun h => hpost (h ▸ hp)), ?_⟩
  rw [floodPorts_eq, List.foldl_append, List.foldl_cons, e1,
    live_step (fuel + 1) { st with log := L1 ++ st.log } s i pb g1 sb hsb hen hpi]

def mkArpReq (X : St) (ifc : Iface) (t : Ip) : Frame :=
  { id := X.nextId, srcMac := ifc.mac, dstMac := bcastMac, srcIp := ifc.ip, dstIp := t, ttl := initTtl, pl := .arpReq ifc.ip ifc.mac t }

/-- a node asks, out of its interface `o`, for an on-link address it has not cached (`ARP.send_arp_request` is the same code on hosts
and routers: nothing here depends on the kind of node). -/
theorem router_arp_request (fuel : Nat) (X : St) (r o : Nat) (nd : Node) (oif : Iface) (t : Ip) (k0 : Nat)
    (hn : X.node? r = some nd) (hcold : nd.arpGet t = none) (hfi : firstIn nd.ifaces t 0 = some k0)
    (hfe : firstEnabledIn nd.ifaces t 0 = some o) (ho : X.iface? r o = some oif)
    (hnn : t ≠ oif.netAddr) (hnb : t ≠ oif.bcastAddr) :
    sendArpReq (fuel + 3) X r t = (sendFrame (fuel + 1) { X with nextId := X.nextId + 1 } r o (mkArpReq X oif t)).1 := by
  have hro : ∀ k, resolveOut (k + 1) X r t = (X, some o) := by intro k; simp only [resolveOut, hn, hfe]
  have h1 : (t == oif.netAddr) = false := by simpa using hnn
  have h2 : (t == oif.bcastAddr) = false := by simpa using hnb
  simp only [sendArpReq, hn, hcold, Option.isSome_none, Bool.false_eq_true, if_false, hfi, Option.isSome_some, if_true, hro, ho, h1, h2,
    Bool.or_self, sendArpPkt, targetOf, plDstMac, mkArpReq]

theorem host_arp_request (fuel : Nat) (X : St) (a : Nat) (nd : Node) (ifc : Iface) (t : Ip)
    (hn : X.node? a = some nd) (hifs : nd.ifaces = [ifc]) (hen : ifc.enabled = true)
    (hcold : nd.arpGet t = none) (hin : ifc.inNet t = true) (hnn : t ≠ ifc.netAddr) (hnb : t ≠ ifc.bcastAddr) :
    sendArpReq (fuel + 3) X a t = (sendFrame (fuel + 1) { X with nextId := X.nextId + 1 } a 0 (mkArpReq X ifc t)).1 :=
  router_arp_request fuel X a 0 nd ifc t 0 hn hcold (by rw [hifs]; exact firstIn_single ifc t hin)
    (by rw [hifs]; exact firstEnabledIn_single ifc t hin hen) (iface0_of X a nd ifc hn hifs) hnn hnb

theorem switch_floods (fuel : Nat) (X : St) (s i : Nat) (nd : Node) (ifc : Iface) (f : Frame)
    (hn : X.node? s = some nd) (hk : nd.kind = .switch) (hi : nd.ifaces[i]? = some ifc) (httl : 2 ≤ f.ttl)
    (hflood : f.dstMac = bcastMac ∨ (nd.learnMac f.srcMac i).macPort f.dstMac = none) :
    ifaceRecv (fuel + 3) X s i f = floodPorts (fuel + 1) ((X.emit (.rx s i f.id f.ttl)).modNode s (fun nd => nd.learnMac f.srcMac i))
      s i f.dec (List.range nd.ifaces.length) := by
  rw [switch_recv (fuel + 2) X s i nd ifc f hn hk hi httl]
  have hYn : ((X.emit (.rx s i f.id f.ttl)).modNode s (fun nd => nd.learnMac f.srcMac i)).node? s = _ := node?_modNode_self hn _
  simp only [switchRecv, show f.dec.srcMac = f.srcMac from rfl, hYn, learnMac_ifaces]
  rcases hflood with hb | hnone
  · have hb' : (f.dec.dstMac != bcastMac) = false := by simp [Frame.dec, hb]
    split
    · simp only [hb', Bool.false_eq_true, if_false]
    · rfl
  · simp only [show (nd.learnMac f.srcMac i).macPort f.dec.dstMac = none from hnone]

/-- a switch that has NOT learned the destination (or is handed a broadcast) and has one live port besides the ingress:
it learns the source on the ingress port and the frame leaves through that port. -/
theorem switch_flood_step (fuel : Nat) (X : St) (s i pb : Nat) (nd : Node) (ifc sb : Iface) (f : Frame)
    (hn : X.node? s = some nd) (hk : nd.kind = .switch) (hi : nd.ifaces[i]? = some ifc) (hsb : nd.ifaces[pb]? = some sb)
    (hen : sb.enabled = true) (hpi : pb ≠ i) (httl : 2 ≤ f.ttl)
    (hflood : f.dstMac = bcastMac ∨ (nd.learnMac f.srcMac i).macPort f.dstMac = none)
    (hs : ∀ p sp, nd.ifaces[p]? = some sp → p ≠ pb → p ≠ i → sp.enabled = false ∨ sp.peer = none) :
    ifaceRecv (fuel + 4) X s i f =
      sendFrame (fuel + 1) ((X.emit (.rx s i f.id f.ttl)).modNode s (fun nd => nd.learnMac f.srcMac i)) s pb f.dec := by
  rw [switch_floods (fuel + 1) X s i nd ifc f hn hk hi httl hflood]
  have hYi := iface?_learn (X.emit (.rx s i f.id f.ttl)) s i f.srcMac nd hn
  refine flood_one fuel _ s i pb f.dec sb _ List.nodup_range (List.mem_range.2 (List.getElem?_eq_some_iff.1 hsb).1) hpi
    (by rw [hYi]; exact hsb) hen ?_
  intro p _ hpb
  by_cases hpi' : p = i
  · exact Or.inr hpi'
  · left
    intro pif hpif
    rw [hYi] at hpif
    exact hs p pif hpif hpb hpi'

/-- the same with OTHER HOSTS on the switch: every other port is quiet for this frame. -/
theorem switch_flood_step_quiet (fuel : Nat) (X : St) (s i pb : Nat) (nd : Node) (ifc sb : Iface) (f : Frame)
    (hn : X.node? s = some nd) (hk : nd.kind = .switch) (hi : nd.ifaces[i]? = some ifc) (hsb : nd.ifaces[pb]? = some sb)
    (hen : sb.enabled = true) (hpi : pb ≠ i) (httl : 2 ≤ f.ttl)
    (hflood : f.dstMac = bcastMac ∨ (nd.learnMac f.srcMac i).macPort f.dstMac = none)
    (hq : ∀ p, p ≠ pb → p ≠ i → QuietPortC (cfgOf X) s p f.dstMac f.dstIp) :
    ∃ (L1 : List Ev) (g1 : Frame) (post : List Nat), Later f.dec g1 nd.ifaces.length ∧
      (∀ p ∈ post, QuietPortC (cfgOf X) s p f.dstMac f.dstIp ∨ p = i) ∧
      ifaceRecv (fuel + 5) X s i f = post.foldl (floodStep (fuel + 1) s i)
        (sendFrame (fuel + 2) { ((X.emit (.rx s i f.id f.ttl)).modNode s (fun nd => nd.learnMac f.srcMac i)) with
          log := L1 ++ ((X.emit (.rx s i f.id f.ttl)).modNode s (fun nd => nd.learnMac f.srcMac i)).log } s pb g1) := by
  rw [switch_floods (fuel + 2) X s i nd ifc f hn hk hi httl hflood]
  generalize hY : (X.emit (.rx s i f.id f.ttl)).modNode s (fun nd => nd.learnMac f.srcMac i) = Y
  have hYc : cfgOf Y = cfgOf X := by rw [← hY, cfgOf_learnMac, cfgOf_emit]
  have hYsb : Y.iface? s pb = some sb := by
    rw [← hY, iface?_learn (X.emit (.rx s i f.id f.ttl)) s i f.srcMac nd hn]; exact hsb
  obtain ⟨L1, g1, post, l1, hp, e3⟩ := flood_one_quiet fuel Y s i pb f.dec sb (List.range nd.ifaces.length) List.nodup_range
    (List.mem_range.2 (List.getElem?_eq_some_iff.1 hsb).1) hpi hYsb hen
    (by
      intro p _ hpb
      by_cases hpi' : p = i
      · exact Or.inr hpi'
      · left; rw [hYc]; exact hq p hpb hpi')
  rw [hYc] at hp
  exact ⟨L1, g1, post, by simpa using l1, hp, e3⟩

theorem host_arp_req (fuel : Nat) (X : St) (b : Nat) (nd : Node) (ifc : Iface) (f : Frame) (sIp : Ip) (sMac : Mac)
    (hn : X.node? b = some nd) (hk : nd.kind = .host) (hon : nd.on = true) (hifs : nd.ifaces = [ifc])
    (hpl : f.pl = .arpReq sIp sMac ifc.ip) (hb : f.dstMac = bcastMac) (hd : f.dstIp = ifc.ip) (httl : 2 ≤ f.ttl) :
    ifaceRecv (fuel + 2) X b 0 f =
      (sendArpReply fuel (((X.emit (.rx b 0 f.id f.ttl)).modNode b (fun nd => nd.addArp f.srcIp f.srcMac 0)).emit
        (.sw b f.id f.dstIp true)) b (.arpRep ifc.ip ifc.mac sIp sMac), f.dec) := by
  have hi := iface0_of X b nd ifc hn hifs
  have h1 : ¬ f.dec.ttl < 1 := by unfold Frame.dec; simp only; omega
  have hacc : hostAccepts nd ifc f.dec = true := by
    unfold hostAccepts
    simp [Frame.dec, hb, hd]
  have hbd : (f.dstMac == bcastMac) = true := by simp [hb]
  simp only [ifaceRecv, hn, hi, h1, if_false, hk, hacc, if_true, hostRecv, portClosed, Bool.false_eq_true, emit_node, emit_iface,
    Frame.dec_pl, Frame.dec_dstMac, hon, hpl, Bool.not_true, bne_self_eq_false, hbd]
  rfl

def mkArpRep (X : St) (ifc : Iface) (sip : Ip) (smac : Mac) (tip : Ip) (tmac : Mac) : Frame :=
  { id := X.nextId, srcMac := ifc.mac, dstMac := tmac, srcIp := ifc.ip, dstIp := tip, ttl := initTtl, pl := .arpRep sip smac tip tmac }

/-- the reply a node of any kind (as in `router_arp_request`) sends out of the interface `o` that `resolveOut` selects. -/
theorem router_arp_reply_send (fuel : Nat) (X : St) (r o : Nat) (nd : Node) (oif : Iface) (sip : Ip) (smac : Mac) (tip : Ip)
    (tmac : Mac) (hn : X.node? r = some nd) (hfe : firstEnabledIn nd.ifaces tip 0 = some o) (ho : X.iface? r o = some oif) :
    sendArpReply (fuel + 3) X r (.arpRep sip smac tip tmac) =
      (sendFrame (fuel + 1) { X with nextId := X.nextId + 1 } r o (mkArpRep X oif sip smac tip tmac)).1 := by
  have hro : ∀ k, resolveOut (k + 1) X r tip = (X, some o) := by intro k; simp only [resolveOut, hn, hfe]
  simp only [sendArpReply, targetOf, hro, sendArpPkt, ho, plDstMac, mkArpRep]

theorem host_arp_reply_send (fuel : Nat) (X : St) (b : Nat) (nd : Node) (ifc : Iface) (sip : Ip) (smac : Mac) (tip : Ip) (tmac : Mac)
    (hn : X.node? b = some nd) (hifs : nd.ifaces = [ifc]) (hen : ifc.enabled = true) (hin : ifc.inNet tip = true) :
    sendArpReply (fuel + 3) X b (.arpRep sip smac tip tmac) =
      (sendFrame (fuel + 1) { X with nextId := X.nextId + 1 } b 0 (mkArpRep X ifc sip smac tip tmac)).1 :=
  router_arp_reply_send fuel X b 0 nd ifc sip smac tip tmac hn (by rw [hifs]; exact firstEnabledIn_single ifc tip hin hen)
    (iface0_of X b nd ifc hn hifs)

/-- the requester learns the answer (twice: from the frame's source pair and from the ARP payload). -/
theorem host_arp_rep (fuel : Nat) (X : St) (a : Nat) (nd : Node) (ifc : Iface) (f : Frame) (sIp : Ip) (sMac : Mac) (tIp : Ip)
    (tMac : Mac) (hn : X.node? a = some nd) (hk : nd.kind = .host) (hon : nd.on = true) (hifs : nd.ifaces = [ifc])
    (hpl : f.pl = .arpRep sIp sMac tIp tMac) (hm : f.dstMac = ifc.mac) (hnb : ifc.mac ≠ bcastMac) (hd : f.dstIp = ifc.ip)
    (httl : 2 ≤ f.ttl) :
    ifaceRecv (fuel + 2) X a 0 f =
      ((((X.emit (.rx a 0 f.id f.ttl)).modNode a (fun nd => nd.addArp f.srcIp f.srcMac 0)).emit (.sw a f.id f.dstIp false)).modNode a
        (fun nd => nd.addArp sIp sMac 0), f.dec) := by
  rw [host_end (fuel + 1) X a nd ifc f hn hk hifs hm hnb hd httl]
  have hi := iface0_of X a nd ifc hn hifs
  have hbd : (f.dstMac == bcastMac) = false := by simp [hm, hnb]
  simp only [hostRecv, portClosed, Bool.false_eq_true, if_false, emit_node, emit_iface, Frame.dec_pl, Frame.dec_dstMac, hn, hi, hon,
    if_true, hpl, Bool.not_true, hbd]
  rfl

/-- what is tracked of a state along the exchange: the configuration and the three nodes involved. -/
structure Snap (X : St) (c : List NodeCfg) (a b s : Nat) (A B S : Node) : Prop where
  cfg : cfgOf X = c
  na : X.node? a = some A
  nb : X.node? b = some B
  ns : X.node? s = some S

theorem Snap.emit {X : St} {c : List NodeCfg} {a b s : Nat} {A B S : Node} (h : Snap X c a b s A B S) (e : Ev) :
    Snap (X.emit e) c a b s A B S := ⟨h.cfg, h.na, h.nb, h.ns⟩
theorem Snap.nextId {X : St} {c : List NodeCfg} {a b s : Nat} {A B S : Node} (h : Snap X c a b s A B S) (k : Nat) :
    Snap ({ X with nextId := k } : St) c a b s A B S := ⟨h.cfg, h.na, h.nb, h.ns⟩
theorem Snap.log {X : St} {c : List NodeCfg} {a b s : Nat} {A B S : Node} (h : Snap X c a b s A B S) (L : List Ev) :
    Snap ({ X with log := L } : St) c a b s A B S := ⟨h.cfg, h.na, h.nb, h.ns⟩
theorem Snap.modA {X : St} {c : List NodeCfg} {a b s : Nat} {A B S : Node} (h : Snap X c a b s A B S) (f : Node → Node)
    (hf : ∀ nd, (f nd).cfg = nd.cfg) (hab : a ≠ b) (has : a ≠ s) : Snap (X.modNode a f) c a b s (f A) B S :=
  ⟨(cfgOf_modNode X a f hf).trans h.cfg, node?_modNode_self h.na f, (node?_modNode_ne X hab f).trans h.nb,
    (node?_modNode_ne X has f).trans h.ns⟩
theorem Snap.modB {X : St} {c : List NodeCfg} {a b s : Nat} {A B S : Node} (h : Snap X c a b s A B S) (f : Node → Node)
    (hf : ∀ nd, (f nd).cfg = nd.cfg) (hab : a ≠ b) (hbs : b ≠ s) : Snap (X.modNode b f) c a b s A (f B) S :=
  ⟨(cfgOf_modNode X b f hf).trans h.cfg, (node?_modNode_ne X (Ne.symm hab) f).trans h.na, node?_modNode_self h.nb f,
    (node?_modNode_ne X hbs f).trans h.ns⟩
theorem Snap.modS {X : St} {c : List NodeCfg} {a b s : Nat} {A B S : Node} (h : Snap X c a b s A B S) (f : Node → Node)
    (hf : ∀ nd, (f nd).cfg = nd.cfg) (has : a ≠ s) (hbs : b ≠ s) : Snap (X.modNode s f) c a b s A B (f S) :=
  ⟨(cfgOf_modNode X s f hf).trans h.cfg, (node?_modNode_ne X (Ne.symm has) f).trans h.na,
    (node?_modNode_ne X (Ne.symm hbs) f).trans h.nb, node?_modNode_self h.ns f⟩

theorem Snap.iface {X Y : St} {c : List NodeCfg} {a b s : Nat} {A B S A' B' S' : Node} (hX : Snap X c a b s A B S)
    (hY : Snap Y c a b s A' B' S') (n i : Nat) : Y.iface? n i = X.iface? n i :=
  iface?_of_cfgOf (hY.cfg.trans hX.cfg.symm) n i

/-- two powered-on single-NIC hosts `a`, `b` of one subnet on ports `pa`, `pb` of switch `s` whose other ports are quiet (dead, uncabled, or
other hosts that drop the request); neither knows the other (cold ARP caches); the switch table is arbitrary. -/
structure ColdLan (st : St) (a b s pa pb : Nat) (ndA ndB ndS : Node) (ifA ifB sa sb : Iface) : Prop where
  nodeA : st.node? a = some ndA
  kindA : ndA.kind = .host
  onA : ndA.on = true
  ifsA : ndA.ifaces = [ifA]
  enA : ifA.enabled = true
  peerA : ifA.peer = some (s, pa)
  nodeB : st.node? b = some ndB
  kindB : ndB.kind = .host
  onB : ndB.on = true
  ifsB : ndB.ifaces = [ifB]
  enB : ifB.enabled = true
  peerB : ifB.peer = some (s, pb)
  nodeS : st.node? s = some ndS
  kindS : ndS.kind = .switch
  portA : ndS.ifaces[pa]? = some sa
  saEn : sa.enabled = true
  saPeer : sa.peer = some (a, 0)
  portB : ndS.ifaces[pb]? = some sb
  sbEn : sb.enabled = true
  sbPeer : sb.peer = some (b, 0)
  ab : a ≠ b
  as : a ≠ s
  bs : b ≠ s
  pab : pa ≠ pb
  /-- every other port of the switch is quiet for A's ARP request: dead, uncabled, or cabled to the NIC of a host with another
  address (which logs the reception and drops the frame) … -/
  quiet : ∀ p, p ≠ pb → p ≠ pa → QuietPortC (cfgOf st) s p bcastMac ifB.ip
  /-- … and there are few enough of them for the shared TTL to last until B's port is served. -/
  fewPorts : ndS.ifaces.length ≤ 60
  netAB : ifA.inNet ifB.ip = true
  netBA : ifB.inNet ifA.ip = true
  macA : ifA.mac ≠ bcastMac
  macB : ifB.mac ≠ bcastMac
  macAB : ifA.mac ≠ ifB.mac
  ipAB : ifA.ip ≠ ifB.ip
  coldA : ndA.arpGet ifB.ip = none
  coldB : ndB.arpGet ifA.ip = none
  notNet : ifB.ip ≠ ifA.netAddr
  notBc : ifB.ip ≠ ifA.bcastAddr

/-- THE ARP EXCHANGE on a cold LAN, as an equation: the request is flooded by the switch (which learns A's port), B learns A
and answers, the switch learns B's port and returns the reply to A's port, A learns B.  The conclusion tracks the configuration
and these three nodes (`Snap`). -/
theorem lan_arp_exchange (fuel : Nat) (st : St) (a b s pa pb : Nat) (ndA ndB ndS : Node) (ifA ifB sa sb : Iface)
    (h : ColdLan st a b s pa pb ndA ndB ndS ifA ifB sa sb) :
    ∃ Y, sendArpReq (fuel + 17) st a ifB.ip = Y ∧
      Snap Y (cfgOf st) a b s ((ndA.addArp ifB.ip ifB.mac 0).addArp ifB.ip ifB.mac 0) (ndB.addArp ifA.ip ifA.mac 0)
        ((ndS.learnMac ifA.mac pa).learnMac ifB.mac pb) := by
  have S0 : Snap st (cfgOf st) a b s ndA ndB ndS := ⟨rfl, h.nodeA, h.nodeB, h.nodeS⟩
  have ifA0 := iface0_of st a ndA ifA h.nodeA h.ifsA
  have ifB0 := iface0_of st b ndB ifB h.nodeB h.ifsB
  have ifSa : st.iface? s pa = some sa := (iface?_of_node h.nodeS pa).trans h.portA
  have ifSb : st.iface? s pb = some sb := (iface?_of_node h.nodeS pb).trans h.portB
  refine ⟨_, rfl, ?_⟩
  rw [host_arp_request (fuel + 14) st a ndA ifA ifB.ip h.nodeA h.ifsA h.enA h.coldA h.netAB h.notNet h.notBc]
  generalize hst1 : ({ st with nextId := st.nextId + 1 } : St) = st1
  have S1 : Snap st1 (cfgOf st) a b s ndA ndB ndS := by rw [← hst1]; exact S0.nextId _
  rw [link_step (fuel + 14) st1 a 0 s pa ifA sa _ (by rw [S0.iface S1]; exact ifA0) h.enA h.peerA (by rw [S0.iface S1]; exact ifSa) h.saEn]
  obtain ⟨L1, g1, post, lg, hpost, hfl⟩ := switch_flood_step_quiet (fuel + 9) st1 s pa pb ndS sa sb (mkArpReq st ifA ifB.ip) S1.ns
    h.kindS h.portA h.portB h.sbEn (Ne.symm h.pab) initTtl_ge (Or.inl rfl) (by rw [S1.cfg]; exact h.quiet)
  rw [hfl]
  obtain ⟨gm, gd, gs, gsm, gp, _, _, g1lo⟩ := lg
  have gttl : 2 ≤ g1.ttl := by
    have : (mkArpReq st ifA ifB.ip).dec.ttl = 63 := rfl
    have hf := h.fewPorts
    omega
  generalize hst3 : ({ nodes := _, log := L1 ++ _, nextId := _, oof := _ } : St) = st3
  have S3 : Snap st3 (cfgOf st) a b s ndA ndB (ndS.learnMac ifA.mac pa) := by
    rw [← hst3]
    exact ((S1.emit _).modS _ (fun nd => (learnMac_cfg nd _ _).1) h.as h.bs).log _
  rw [link_step (fuel + 10) st3 s pb b 0 sb ifB g1 (by rw [S0.iface S3]; exact ifSb) h.sbEn h.sbPeer (by rw [S0.iface S3]; exact ifB0) h.enB]
  rw [host_arp_req (fuel + 8) st3 b ndB ifB g1 ifA.ip ifA.mac S3.nb h.kindB h.onB h.ifsB gp gm gd gttl]
  generalize hst5 : ((st3.emit (.rx b 0 g1.id g1.ttl)).modNode b (fun nd => nd.addArp g1.srcIp g1.srcMac 0)).emit
    (.sw b g1.id g1.dstIp true) = st5
  have S5 : Snap st5 (cfgOf st) a b s ndA (ndB.addArp ifA.ip ifA.mac 0) (ndS.learnMac ifA.mac pa) := by
    rw [← hst5, gs, gsm]
    exact (((S3.emit _).modB _ (fun nd => addArp_cfg nd _ _ _) h.ab h.bs).emit _)
  -- the receptions after B's port only add log entries
  obtain ⟨L2, g2, e2, _⟩ := quiet_fold (fuel + 9) (cfgOf st) s pa bcastMac ifB.ip post
    (by intro p hp; have := hpost p hp; rw [S1.cfg] at this; exact this)
    (sendArpReply (fuel + 8) st5 b (.arpRep ifB.ip ifB.mac ifA.ip ifA.mac)) g1.dec
    (by rw [(cAt (fuel + 8)).arpReply]; exact S5.cfg) gm gd
  rw [e2]
  refine Snap.log ?_ _
  rw [host_arp_reply_send (fuel + 5) st5 b (ndB.addArp ifA.ip ifA.mac 0) ifB ifB.ip ifB.mac ifA.ip ifA.mac S5.nb
    (by rw [addArp_ifaces]; exact h.ifsB) h.enB h.netBA]
  generalize hst6 : ({ st5 with nextId := st5.nextId + 1 } : St) = st6
  have S6 : Snap st6 (cfgOf st) a b s ndA (ndB.addArp ifA.ip ifA.mac 0) (ndS.learnMac ifA.mac pa) := by
    rw [← hst6]; exact S5.nextId _
  rw [link_step (fuel + 5) st6 b 0 s pb ifB sb _ (by rw [S0.iface S6]; exact ifB0) h.enB h.peerB (by rw [S0.iface S6]; exact ifSb) h.sbEn]
  rw [switch_known_step (fuel + 2) st6 s pb pa (ndS.learnMac ifA.mac pa) sb (mkArpRep st5 ifB ifB.ip ifB.mac ifA.ip ifA.mac) S6.ns
    (by rw [learnMac_kind]; exact h.kindS) (by rw [learnMac_ifaces]; exact h.portB) initTtl_ge h.macA
    ((macPort_learn_other _ _ _ _ h.macAB).trans (macPort_learn_self ndS ifA.mac pa))]
  generalize hst8 : (st6.emit _).modNode s _ = st8
  have S8 : Snap st8 (cfgOf st) a b s ndA (ndB.addArp ifA.ip ifA.mac 0) ((ndS.learnMac ifA.mac pa).learnMac ifB.mac pb) := by
    rw [← hst8]; exact (S6.emit _).modS _ (fun nd => (learnMac_cfg nd _ _).1) h.as h.bs
  rw [link_step (fuel + 2) st8 s pa a 0 sa ifA _ (by rw [S0.iface S8]; exact ifSa) h.saEn h.saPeer (by rw [S0.iface S8]; exact ifA0) h.enA]
  rw [host_arp_rep fuel st8 a ndA ifA (mkArpRep st5 ifB ifB.ip ifB.mac ifA.ip ifA.mac).dec ifB.ip ifB.mac ifA.ip ifA.mac S8.na
    h.kindA h.onA h.ifsA rfl rfl h.macA rfl (by show (2 : Int) ≤ initTtl - 1; decide)]
  exact ((((S8.emit _).modA _ (fun nd => addArp_cfg nd _ _ _) h.ab h.as).emit _).modA _ (fun nd => addArp_cfg nd _ _ _) h.ab h.as)

theorem arpMac_miss_ask_hit {fuel : Nat} {st Y : St} {n : Nat} {nd nd' : Node} {ip t : Ip} {re gw re' gw' : Bool} {e : ArpEntry}
    (hn : st.node? n = some nd) (hmiss : nd.arpGet ip = none) (hnext : arpNext nd ip re gw true = .go t re' gw')
    (hY : sendArpReq (fuel + 1) st n t = Y) (hn' : Y.node? n = some nd') (he : nd'.arpGet t = some e) :
    arpMac (fuel + 2) st n ip re gw = (Y, some e.mac) := by
  rw [arpMac]
  simp only [hn, hmiss, hnext, hY]
  rw [arpMac]
  simp only [hn', he]

/-- **LIVENESS WITH COLD CACHES, one switched LAN.**  Two powered-on single-NIC hosts of one subnet on a switch (≤ 60 ports)
whose other ports are quiet — dead, uncabled, or cabled to the NICs of OTHER HOSTS, which log the flooded request, spend one
unit of its shared TTL each and drop it —, neither host knowing the other, the switch's MAC table in ANY state: `ping` (one
echo) returns `True`.
The ARP cascade is part of the statement: A's request is flooded (the switch learns A's port), B learns A and answers, the
switch learns B's port and returns the reply through A's port, A learns B; then the echo request and the echo reply are
switched (no flood) and the reply is counted.  For every fuel ≥ 20. -/
theorem C08_permitted_exchange_succeeds_cold_lan (fuel : Nat) (st : St) (a b s pa pb : Nat) (ndA ndB ndS : Node)
    (ifA ifB sa sb : Iface) (h : ColdLan st a b s pa pb ndA ndB ndS ifA ifB sa sb)
    (hrep : replyCount ndA.replies st.nextId = none) (hlo : isLoopback ifB.ip = false) :
    (ping (fuel + 20) st a ifB.ip 1).2 = true := by
  generalize hst0 : ({ st with nextId := st.nextId + 1 } : St) = st0
  -- `ColdLan` reads the node list only, not the identifier counter
  have h0 : ColdLan st0 a b s pa pb ndA ndB ndS ifA ifB sa sb := by rw [← hst0]; exact { h with }
  obtain ⟨Y, hY, SY⟩ := lan_arp_exchange fuel st0 a b s pa pb ndA ndB ndS ifA ifB sa sb h0
  -- what the exchange left behind: the three nodes with another cache / MAC table, every other field as `h` gives it
  have hwA : ifaceWithIp ndA.ifaces ifB.ip = none := by
    simp [ifaceWithIp, h.ifsA, h.ipAB]
  have hwB : ifaceWithIp ndB.ifaces ifA.ip = none := by
    simp [ifaceWithIp, h.ifsB]; exact fun h' => h.ipAB h'.symm
  have hgA : (ndA.addArp ifB.ip ifB.mac 0).arpGet ifB.ip = some { ip := ifB.ip, mac := ifB.mac, ifc := 0 } :=
    arpGet_addArp_new ndA ifB.ip ifB.mac 0 hwA h.coldA
  rw [addArp_known _ _ _ _ _ hgA] at SY
  have hgB : (ndB.addArp ifA.ip ifA.mac 0).arpGet ifA.ip = some { ip := ifA.ip, mac := ifA.mac, ifc := 0 } :=
    arpGet_addArp_new ndB ifA.ip ifA.mac 0 hwB h.coldB
  have fA : ((ndS.learnMac ifA.mac pa).learnMac ifB.mac pb).macTable.find? (fun e => e.1 == ifA.mac) = some (ifA.mac, pa) := by
    rw [find_learn_other _ _ _ _ h.macAB]; exact find_learn_self ndS ifA.mac pa
  have fB : ((ndS.learnMac ifA.mac pa).learnMac ifB.mac pb).macTable.find? (fun e => e.1 == ifB.mac) = some (ifB.mac, pb) :=
    find_learn_self _ ifB.mac pb
  obtain ⟨lA, hA⟩ := addArp_cache ndA ifB.ip ifB.mac 0
  obtain ⟨lB, hB⟩ := addArp_cache ndB ifA.ip ifA.mac 0
  obtain ⟨tS, hS⟩ : ∃ t, (ndS.learnMac ifA.mac pa).learnMac ifB.mac pb = { ndS with macTable := t } := by
    obtain ⟨t1, h1⟩ := learnMac_table ndS ifA.mac pa
    rw [h1]
    exact learnMac_table _ ifB.mac pb
  rw [hA, hB, hS] at SY
  rw [hA] at hgA
  rw [hB] at hgB
  rw [hS] at fA fB
  -- A's look-up: miss, request, hit
  obtain ⟨gw', hnext⟩ := hostArpNext_first ndA ifB.ip
  have hfe : firstEnabledIn ndA.ifaces ifB.ip 0 = some 0 := by rw [h.ifsA]; exact firstEnabledIn_single ifA _ h.netAB h.enA
  have hmac0 : arpMac (fuel + 18) st0 a ifB.ip false false = (Y, some ifB.mac) :=
    arpMac_miss_ask_hit h0.nodeA h.coldA (by rw [arpNext, h.kindA]; exact hnext) hY SY.na hgA
  have hifc : arpIfc (fuel + 18) Y a ifB.ip false false = (Y, some 0) := by
    simp only [arpIfc, SY.na, hgA]
  have hrd0 : resolveDetails (fuel + 19) st0 a ifB.ip = (Y, some ifB.mac, some 0) := by
    simp only [resolveDetails, h0.nodeA, hfe, hmac0, hifc]
  have hrdY : resolveDetails (fuel + 19) Y a ifB.ip = (Y, some ifB.mac, some 0) :=
    C08_host_resolves_direct (fuel + 17) Y a 0 _ ifB.ip _ SY.na h.kindA hfe hgA
  have hsame : sendIcmp (fuel + 20) st0 a ifB.ip (.echoReq st.nextId) = sendIcmp (fuel + 20) Y a ifB.ip (.echoReq st.nextId) := by
    simp only [sendIcmp, hrd0, hrdY]
  have nS : Y.nodes[s]? = some { ndS with macTable := tS } := SY.ns
  have nA : Y.nodes[a]? = some { ndA with arp := lA } := SY.na
  have nB : Y.nodes[b]? = some { ndB with arp := lB } := SY.nb
  have wA : WarmHost Y.nodes a _ ifA ifB.ip { ip := ifB.ip, mac := ifB.mac, ifc := 0 } s pa :=
    { node := nA, kind := h.kindA, on := h.onA, ifs := h.ifsA, enabled := h.enA, route := Or.inl ⟨h.netAB, hgA⟩, e0 := rfl,
      peer := h.peerA, peerUp := ⟨sa, by rw [nS]; exact h.portA, h.saEn⟩, knowsPeer := ⟨_, hgA⟩, macOk := h.macA, gwMacOk := h.macB }
  have wB : WarmHost Y.nodes b _ ifB ifA.ip { ip := ifA.ip, mac := ifA.mac, ifc := 0 } s pb :=
    { node := nB, kind := h.kindB, on := h.onB, ifs := h.ifsB, enabled := h.enB, route := Or.inl ⟨h.netBA, hgB⟩, e0 := rfl,
      peer := h.peerB, peerUp := ⟨sb, by rw [nS]; exact h.portB, h.sbEn⟩, knowsPeer := ⟨_, hgB⟩, macOk := h.macB, gwMacOk := h.macA }
  have hopAB : SwHop Y.nodes s pa ifA.mac ifB.mac b 0 :=
    ⟨⟨_, sa, pb, sb, ifB, nS, h.kindS, h.portA, fA, by unfold Node.macPort; rw [fB]; rfl, h.portB, h.sbEn, h.sbPeer,
      by rw [nB]; exact congrArg (·[0]?) h.ifsB, h.enB⟩⟩
  have hopBA : SwHop Y.nodes s pb ifB.mac ifA.mac a 0 :=
    ⟨⟨_, sb, pa, sa, ifA, nS, h.kindS, h.portB, fB, by unfold Node.macPort; rw [fA]; rfl, h.portA, h.saEn, h.saPeer,
      by rw [nA]; exact congrArg (·[0]?) h.ifsA, h.enA⟩⟩
  have pAB : Path Y.nodes (.echoReq st.nextId) ifA.ip ifB.ip s pa ifA.mac ifB.mac b 0 ifA.mac ifB.mac (0 + 3) (0 + 1) :=
    Path.switch hopAB Path.arrive
  have pBA : Path Y.nodes (.echoRep st.nextId) ifB.ip ifA.ip s pb ifB.mac ifA.mac a 0 ifB.mac ifA.mac (0 + 3) (0 + 1) :=
    Path.switch hopBA Path.arrive
  have hcore := warm_echo_core Y a b _ _ ifA ifB _ _ s pa s pb ifB.mac ifA.mac (0 + 3) (0 + 1) (0 + 3) (0 + 1) (fuel + 6) st.nextId
    wA wB pAB pBA (by omega) (by omega)
  have hfu : fuel + 6 + (0 + 3) + (0 + 3) + 8 = fuel + 20 := by omega
  rw [hfu, ← hsame] at hcore
  have hro : resolveOut (fuel + 20) st0 a ifB.ip = (st0, some 0) := by simp only [resolveOut, h0.nodeA, hfe]
  exact ping_one_counted h.nodeA h.onA hlo hst0 hro hcore (replyCount_bump ndA.replies st.nextId hrep)

/-! ### non-vacuity: a concrete cold LAN (three hosts on a four-port switch, one port uncabled, a stale table entry) -/

def clA : Iface := { mac := 11, ip := 0xC0A80102#32, plen := 24, enabled := true, peer := some (1, 0) }
def clB : Iface := { mac := 12, ip := 0xC0A80103#32, plen := 24, enabled := true, peer := some (1, 1) }
def clC : Iface := { mac := 13, ip := 0xC0A80104#32, plen := 24, enabled := true, peer := some (1, 2) }
def clS0 : Iface := { mac := 21, ip := 0#32, plen := 0, enabled := true, peer := some (0, 0) }
def clS1 : Iface := { mac := 22, ip := 0#32, plen := 0, enabled := true, peer := some (2, 0) }
def clS2 : Iface := { mac := 23, ip := 0#32, plen := 0, enabled := true, peer := some (3, 0) }
def clS3 : Iface := { mac := 24, ip := 0#32, plen := 0, enabled := true, peer := none }
def clHostA : Node := { kind := .host, ifaces := [clA] }
def clSwitch : Node := { kind := .switch, ifaces := [clS0, clS1, clS2, clS3], macTable := [(12, 3)] }  -- a stale entry for B
def clHostB : Node := { kind := .host, ifaces := [clB], gateway := some 0xC0A80101#32 }
def clHostC : Node := { kind := .host, ifaces := [clC] }
def clSt : St := { nodes := [clHostA, clSwitch, clHostB, clHostC] }

theorem clLan : ColdLan clSt 0 2 1 0 1 clHostA clHostB clSwitch clA clB clS0 clS1 :=
  { nodeA := rfl, kindA := rfl, onA := rfl, ifsA := rfl, enA := rfl, peerA := rfl, nodeB := rfl, kindB := rfl, onB := rfl,
    ifsB := rfl, enB := rfl, peerB := rfl, nodeS := rfl, kindS := rfl, portA := rfl, saEn := rfl, saPeer := rfl, portB := rfl,
    sbEn := rfl, sbPeer := rfl, ab := by decide, as := by decide, bs := by decide, pab := by decide,
    quiet := by
      intro p h1 h2 pif hp
      match p, hp with
      | 0, _ => exact absurd rfl h2
      | 1, _ => exact absurd rfl h1
      | 2, hp =>
        -- host C hears the request, logs it and drops it
        obtain rfl : clS2 = pif := Option.some.inj hp
        refine Or.inr (Or.inr ⟨3, 0, rfl, Or.inr ⟨clC, clHostC.cfg, rfl, rfl, Or.inr ⟨rfl, ?_⟩⟩⟩)
        intro nd g _ hm hd
        unfold hostAccepts
        rw [hm, hd]
        simp only [beq_self_eq_true, if_true]
        decide
      | 3, hp =>
        obtain rfl : clS3 = pif := Option.some.inj hp
        exact Or.inr (Or.inl rfl)
      | (k + 4), hp => exact absurd hp (by simp [cfgOf, clSt, clSwitch, Node.cfg]),
    fewPorts := by decide,
    netAB := by decide, netBA := by decide, macA := by decide, macB := by decide, macAB := by decide, ipAB := by decide,
    coldA := rfl, coldB := rfl, notNet := by decide, notBc := by decide }

/-- the theorem applies (cold caches, a third host on the switch, a stale switch entry for B on the wrong port) … -/
example : (ping 20 clSt 0 clB.ip 1).2 = true :=
  C08_permitted_exchange_succeeds_cold_lan 0 clSt 0 2 1 0 1 clHostA clHostB clSwitch clA clB clS0 clS1 clLan rfl (by decide)
/-- … and agrees with evaluation; with the NIC of B disabled the same ping fails (the hypotheses matter). -/
example : (ping 20 clSt 0 clB.ip 1).2 = true := by decide +kernel
example : (ping 200 { clSt with nodes := [clHostA, clSwitch, { clHostB with ifaces := [{ clB with enabled := false }] }, clHostC] }
    0 clB.ip 1).2 = false := by decide +kernel

end Primaite.Forward
