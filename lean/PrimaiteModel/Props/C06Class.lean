/-
C06: the cut theorem for *frame classes*.

* class-specific router rules (source exact / range, destination, protocol, port): `routerDenyC` — the router's list
  denies every packet of the class that circulates on the attacker side;
* firewall second-stage blocks: `fwDenyC` — on every attacker-facing port either the first list denies the class, or
  every second entry point the frame can be handed to either denies the class or is covered by an explicit hypothesis
  on what the firewall does there (forwarding into a zone that is not protected);
* the decidable scan `denyClassCheck` and the class-aware certificate `certifyC` are proved sound;
* a router's handling of genuine ARP packets (the only frames exempt from its list) is modelled concretely
  (`routerArpSoft`) and proved to stay on the attacker side — the ARP clause of the router roles' conditions (`RoleOK`,
  `RoleOKC`) is discharged;
* `ARP.send_arp_request` targets only an address of a local subnet or the default gateway (second half of
  `host_emits_own_src`), and the session manager stamps the ARP sender address.
-/
import PrimaiteModel.Model.FilterClass
import PrimaiteModel.Props.C06
import PrimaiteModel.Gen.FilterSoft
namespace Primaite.Filter
open Primaite Primaite.Acl Primaite.Cut

variable {W : Type}

theorem coversOpt_cases {α : Type} [DecidableEq α] (r c : Option α) (h : coversOpt r c = true) : r = none ∨ r = c := by
  unfold coversOpt at h
  cases r with
  | none => exact Or.inl rfl
  | some x => right; simpa using h

theorem covers_sound (r c : Rule) (p : Packet) (h : covers r c = true) (hc : c.hits? p = true) : r.hits? p = true := by
  simp only [covers, Bool.and_eq_true] at h
  obtain ⟨⟨⟨⟨h1, h2⟩, h3⟩, h4⟩, h5⟩ := h
  simp only [Rule.hits?, Bool.and_eq_true] at hc ⊢
  obtain ⟨⟨⟨⟨c1, c2⟩, c3⟩, c4⟩, c5⟩ := hc
  have addr : ∀ (rIp rWc cIp cWc : Option Ip) (x : Ip), (rIp.isNone || (rIp == cIp && rWc == cWc)) = true →
      addrMatches cIp cWc x = true → addrMatches rIp rWc x = true := by
    intro rIp rWc cIp cWc x hh hm
    cases rIp with
    | none => rfl
    | some b =>
      simp only [Option.isNone_some, Bool.false_or, Bool.and_eq_true, beq_iff_eq] at hh
      rw [hh.1, hh.2]; exact hm
  refine ⟨⟨⟨⟨?_, addr _ _ _ _ _ h2 c2⟩, addr _ _ _ _ _ h3 c3⟩, ?_⟩, ?_⟩
  · rcases coversOpt_cases _ _ h1 with h | h <;> rw [h]
    · rfl
    · exact c1
  · rcases coversOpt_cases _ _ h4 with h | h <;> rw [h]
    · rfl
    · exact c4
  · rcases coversOpt_cases _ _ h5 with h | h <;> rw [h]
    · rfl
    · exact c5

/-- **Soundness of the class scan**: a list that passes `denyClassCheck cs` denies every packet some pattern of
`cs` describes — whatever else the list holds behind the covering DENY rules. -/
theorem C06_denyClassCheck_sound (cs : List Rule) (a : Acl) (h : denyClassCheck cs a = true) :
    DeniesClass (fun p => clsHolds cs p = true) a := by
  intro p hp
  simp only [clsHolds, List.any_eq_true] at hp
  obtain ⟨c, hcm, hc⟩ := hp
  refine isPermitted_of_firstMatch_deny a p (firstMatch_deny_of_scan p a.implicit (denyScan c · a.implicit)
    (fun h => by simpa [denyScan] using h) (fun _ h => h) (fun r _ h => ?_) a.rules 0 (List.all_eq_true.mp h c hcm))
  simp only [denyScan, Bool.and_eq_true, Bool.or_eq_true, beq_iff_eq] at h
  exact ⟨h.1, h.2.imp_left (covers_sound r c p · hc)⟩

/-- the pattern with no field specified describes every packet: the any-any certificate is the special case -/
theorem clsHolds_any (p : Packet) : clsHolds [anyPattern] p = true := by
  simp [clsHolds, anyPattern, Rule.hits?, protoMatches, addrMatches, portMatches]

/-- rule shapes the scan accepts: a DENY rule in the first non-empty slot that *is* the pattern (source exact or range,
destination exact or range, protocol, ports — any combination) -/
theorem C06_denyScan_first_is_pattern (k : Nat) (c : Rule) (rest : List (Option Rule)) (imp : Action)
    (hd : c.action = .deny) : denyScan c (List.replicate k none ++ some c :: rest) imp = true := by
  induction k with
  | zero =>
    simp only [List.replicate_zero, List.nil_append, denyScan, hd, beq_self_eq_true, Bool.true_and, Bool.or_eq_true]
    left
    simp [covers, coversOpt]
  | succ k ih => simpa [List.replicate_succ, denyScan] using ih

theorem subjectToAcl_ttl (f : Frame) (x : Nat) : subjectToAcl { f with ttl := x } = subjectToAcl f := rfl

theorem exempt_arp (f : Frame) (h : subjectToAcl f = some false) : f.arp = true :=
  ((C06_router_exempt_iff f).mp h).2.1

theorem arpReply_exempt (o i : Iface) (f : Frame) : subjectToAcl (arpReplyFrame o i f) = some false := by
  simp [subjectToAcl, arpReplyFrame]

theorem arpRequest_exempt (o : Iface) (a : Ip) : subjectToAcl (arpRequestFrame o a) = some false := by
  simp [subjectToAcl, arpRequestFrame]

theorem secondEntry_mem (soft : Soft W) (e : FwEntry) (s : Node W) (f : Frame) (e2 : FwEntry)
    (h : secondEntry soft e s f = some e2) : e2 ∈ nextEntries e := by
  cases e <;> simp only [secondEntry] at h
  · injection h with h; subst h; split <;> simp [nextEntries]
  · cases h
  · cases h
  · injection h with h; subst h; split <;> simp [nextEntries]
  · cases h
  · split at h
    · cases h
    · split at h
      · split at h
        · injection h with h; subst h; simp [nextEntries]
        · split at h
          · injection h with h; subst h; simp [nextEntries]
          · cases h
      · cases h

section cutC
variable {N : Type} [DecidableEq N]

/-- frames admitted at `(n, p)`: arrived over a wire from the attacker side **and** in the class -/
def FromSideC (sys : Sys N Nat Frame (Node W)) (side : N → Bool) (Cl : N → Nat → Frame → Prop)
    (n : N) (p : Nat) (f : Frame) : Prop := SideFacing sys side n p ∧ Cl n p f

/-- every frame a script puts on a wire is in the class at the other end -/
def EmitsCl (sys : Sys N Nat Frame (Node W)) (Cl : N → Nat → Frame → Prop) (n : N) (a : Script W) : Prop :=
  Emits (fun _ q g => ∀ m r, sys.wire n q = some (m, r) → Cl m r g) a

inductive RoleC (W : Type)
  /-- all wires stay on the attacker side; the node may do anything *as long as what it emits is in the class* -/
  | interior
  | ifaceDown (soft : Soft W)
  | routerOff (soft : Soft W)
  /-- a router whose list denies every packet of class `Cp`; `ifs` = its (fixed) interfaces -/
  | routerDenyC (soft : Soft W) (Cp : Packet → Prop) (ifs : List Iface)
  /-- a firewall; `D` = the entry points whose list denies every packet of class `Cp`; `Z` = the second entry points
      for which the forwarding hypothesis is asked instead (zones that do not lead to the protected side) -/
  | fwDenyC (soft : Soft W) (Cp : Packet → Prop) (D : FwEntry → Bool) (Z : FwEntry → Prop)
  | frozen (soft : Soft W) (s0 : Node W)
  /-- an attacker-side PrimAITE element with *modelled* software (a host behind its session manager, a switch — see
      Props/C06Net.lean): it keeps invariant `J` (e.g. "these are my interfaces") and, from a `J`-state, turns class frames
      into class frames; nothing is assumed, the condition is `SafeAct` itself and is PROVED for the host / switch models -/
  | interiorI (soft : Soft W) (J : Node W → Prop)

def invC (sys : Sys N Nat Frame (Node W)) (side : N → Bool) (role : N → RoleC W) (n : N) (s : Node W) : Prop :=
  match role n with
  | .interior => True
  | .ifaceDown _ => BoundaryDown sys side n s
  | .routerOff _ => s.kind = .router ∧ s.on = false
  | .routerDenyC _ Cp ifs => s.kind = .router ∧ DeniesClass Cp (s.acls .router) ∧ s.ifaces = ifs
  | .fwDenyC _ Cp D _ => s.kind = .firewall ∧ ∀ e, D e = true → DeniesClass Cp (s.acls (entryAcl e))
  | .frozen _ s0 => s = s0 ∧ ∀ p, SideFacing sys side n p → portEnabled s0 p = false
  | .interiorI _ J => J s

/-- what remains a hypothesis at a firewall port whose *first* list does not deny the class -/
structure FwSecondOK (sys : Sys N Nat Frame (Node W)) (side : N → Bool) (Cl : N → Nat → Frame → Prop)
    (role : N → RoleC W) (n : N) (soft : Soft W) (Cp : Packet → Prop) (D : FwEntry → Bool) (Z : FwEntry → Prop)
    (p : Nat) (e : FwEntry) : Prop where
  /-- frames addressed to an open port of the firewall itself: its own software's answers stay on the attacker side -/
  session : ∀ s f, invC sys side role n s → Cp f.pkt →
    SafeAct sys side (FromSideC sys side Cl) (invC sys side role) n (guardSends portEnabled (soft.session s p f))
  /-- the ARP / route look-ups of the DMZ-outbound entry point emit nothing towards the protected side -/
  lookup : e = .dmzOut → ∀ s f, invC sys side role n s → Cp f.pkt →
    SafeAct sys side (FromSideC sys side Cl) (invC sys side role) n (guardSends portEnabled (soft.dmzLookup s p f))
  /-- a second entry point whose list does not deny the class: what the firewall does there (verdict, `process_frame`)
      stays on the attacker side — i.e. a frame resolved to a zone is forwarded into that zone only (C08's concern) -/
  final : ∀ s f e2, invC sys side role n s → Cp f.pkt → secondEntry soft e s f = some e2 → D e2 = false → Z e2 →
    SafeAct sys side (FromSideC sys side Cl) (invC sys side role) n (guardSends portEnabled (fwFinal soft e2 s p f))

def RoleOKC (sys : Sys N Nat Frame (Node W)) (side : N → Bool) (Cl : N → Nat → Frame → Prop)
    (role : N → RoleC W) (n : N) : Prop :=
  match role n with
  | .interior => (∀ q m r, sys.wire n q = some (m, r) → side m = true) ∧
      ∀ s p f, SideFacing sys side n p → Cl n p f → EmitsCl sys Cl n (sys.handler n s p f)
  | .ifaceDown soft => sys.handler n = nodeRx soft ∧ SoftKeeps soft (BoundaryDown sys side n) ∧
      ∀ s p f, SideFacing sys side n p → Cl n p f → EmitsCl sys Cl n (nodeRx soft s p f)
  | .routerOff soft => sys.handler n = nodeRx soft
  | .routerDenyC soft Cp _ => sys.handler n = nodeRx soft ∧
      (∀ p f, Cl n p f → subjectToAcl f = some true → Cp f.pkt) ∧
      -- the frames that skip the list (genuine ARP packets): discharged for `routerArpSoft` by `C06_router_arp_safe`
      ∀ s p i f f', invC sys side role n s → SideFacing sys side n p → Cl n p f → s.ifaces[p]? = some i →
        ifaceRx s.kind s.ifaces i f = .up f' → subjectToAcl f' = some false →
        SafeAct sys side (FromSideC sys side Cl) (invC sys side role) n (guardSends portEnabled (permitted soft s p f'))
  | .fwDenyC soft Cp D Z => sys.handler n = nodeRx soft ∧ (∀ p f, Cl n p f → Cp f.pkt) ∧
      ∀ p e, SideFacing sys side n p → portEntry p = some e →
        D e = true ∨ (FwSecondOK sys side Cl role n soft Cp D Z p e ∧ ∀ e2 ∈ nextEntries e, D e2 = true ∨ Z e2)
  | .frozen soft _ => sys.handler n = nodeRx soft
  | .interiorI soft J => sys.handler n = nodeRx soft ∧
      ∀ s p f, J s → SideFacing sys side n p → Cl n p f →
        SafeAct sys side (FromSideC sys side Cl) (invC sys side role) n (nodeRx soft s p f)

omit [DecidableEq N] in
theorem safe_of_interior_emits (sys : Sys N Nat Frame (Node W)) (side : N → Bool) (Cl : N → Nat → Frame → Prop)
    (I : N → Node W → Prop) (n : N) (hn : side n = true) (hI : ∀ s, I n s)
    (hw : ∀ q m r, sys.wire n q = some (m, r) → side m = true) :
    ∀ a : Script W, EmitsCl sys Cl n a → SafeAct sys side (FromSideC sys side Cl) I n a := by
  intro a
  induction a with
  | done s => intro _; exact SafeAct.done (hI s)
  | send s q g k ih =>
    intro h
    cases h with
    | send hq hk =>
      exact SafeAct.send (hI s) (fun m r hwq => ⟨hw q m r hwq, ⟨n, q, hn, hwq⟩, hq m r hwq⟩) (fun s' _ => ih s' (hk s'))

omit [DecidableEq N] in
theorem safe_of_guard_emits (sys : Sys N Nat Frame (Node W)) (side : N → Bool) (Cl : N → Nat → Frame → Prop)
    (I : N → Node W → Prop) (n : N) (hn : side n = true)
    (hw : ∀ s q m r, I n s → portEnabled s q = true → sys.wire n q = some (m, r) → side m = true) :
    ∀ a : Script W, Pres (I n) a → EmitsCl sys Cl n (guardSends portEnabled a) →
      SafeAct sys side (FromSideC sys side Cl) I n (guardSends portEnabled a) := by
  intro a
  induction a with
  | done s => intro h _; cases h with | done hp => exact SafeAct.done hp
  | send s q g k ih =>
    intro hp hE
    cases hp with
    | send hp hk =>
      unfold EmitsCl at hE
      simp only [guardSends] at hE ⊢
      split
      · rename_i hen
        simp only [hen, if_true] at hE
        cases hE with
        | send hq hE' =>
          exact SafeAct.send hp (fun m r hwq => ⟨hw s q m r hp hen hwq, ⟨n, q, hn, hwq⟩, hq m r hwq⟩)
            (fun s' hs' => ih s' (hk s' hs') (hE' s'))
      · rename_i hen
        simp only [hen] at hE
        exact ih s (hk s hp) hE

/-- a script that emits nothing is in every class -/
theorem emitsCl_done (sys : Sys N Nat Frame (Node W)) (Cl : N → Nat → Frame → Prop) (n : N) (s : Node W) :
    EmitsCl sys Cl n (.done s) := Emits.done

/-- **Cut theorem with a frame class.**  `Cl` = the frames that circulate on the attacker side.  If every attacker-side
node meets its role's condition — blocking elements need only deny *the class* — the system is a cut for the frames
of the class. -/
theorem C06_cut_class (sys : Sys N Nat Frame (Node W)) (side : N → Bool) (Cl : N → Nat → Frame → Prop)
    (role : N → RoleC W) (hroles : ∀ n, side n = true → RoleOKC sys side Cl role n) :
    IsCut sys side (FromSideC sys side Cl) (invC sys side role) := by
  constructor
  intro n s p f hn hI hK
  have hok := hroles n hn
  unfold RoleOKC at hok
  cases hr : role n with
  | interior =>
    simp only [hr] at hok
    exact safe_of_interior_emits sys side Cl _ n hn (fun s => by simp [invC, hr]) hok.1 _ (hok.2 s p f hK.1 hK.2)
  | ifaceDown soft =>
    simp only [hr] at hok
    obtain ⟨hh, hkeeps, hcl⟩ := hok
    have hfun : invC sys side role n = BoundaryDown sys side n := by funext s'; simp [invC, hr]
    rw [hh]
    refine nodeRx_closed (fun a => EmitsCl sys Cl n a → SafeAct sys side _ _ n a) soft s p f (fun _ => SafeAct.done hI)
      (fun _ _ _ => ?_) (hcl s p f hK.1 hK.2)
    apply safe_of_guard_emits sys side Cl _ n hn
    · rw [hfun]; exact boundaryDown_side sys side n
    · rw [hfun] at hI ⊢
      exact boundaryDown_layer_pres sys side n soft hkeeps s p _ hI
  | routerOff soft =>
    simp only [hr] at hok
    have hI' : s.kind = .router ∧ s.on = false := by simpa [invC, hr] using hI
    rw [hok, C06_router_off_inert soft s p f hI'.1 hI'.2]
    exact SafeAct.done hI
  | routerDenyC soft Cp ifs =>
    simp only [hr] at hok
    obtain ⟨hh, hcls, hex⟩ := hok
    have hinv : ∀ s', invC sys side role n s' ↔ (s'.kind = .router ∧ DeniesClass Cp (s'.acls .router) ∧ s'.ifaces = ifs) := by
      intro s'; simp [invC, hr]
    have hI' := (hinv s).mp hI
    rw [hh]
    refine nodeRx_closed _ soft s p f (SafeAct.done hI) (fun i hi hg => ?_)
    refine routerLayer_closed (SafeG sys side _ _ portEnabled n) _ (fun _ => SafeAct.done) soft s p _ hI'.1 hI
      (hex s p i f _ hI hK.1 hK.2 hi hg) (fun _ _ => ?_) (fun hsub hv => ?_)
    · exact (hinv _).mpr ⟨hI'.1, setAcl_bump_keeps _ (deniesClass_stable _) s _ _ _ hI'.2.1, hI'.2.2⟩
    · exact absurd (hI'.2.1 _ (hcls p f hK.2 hsub)) (by rw [hv]; simp)
  | fwDenyC soft Cp D Z =>
    simp only [hr] at hok
    obtain ⟨hh, hcls, hports⟩ := hok
    have hinv : ∀ s', invC sys side role n s' ↔
        (s'.kind = .firewall ∧ ∀ e, D e = true → DeniesClass Cp (s'.acls (entryAcl e))) := by
      intro s'; simp [invC, hr]
    have hbump : ∀ (s' : Node W) (e : FwEntry) (q : Packet), invC sys side role n s' →
        invC sys side role n (s'.setAcl (entryAcl e) (isPermitted (s'.acls (entryAcl e)) q).2.2) := by
      intro s' e q hs'
      have h' := (hinv s').mp hs'
      exact (hinv _).mpr ⟨h'.1, fun e' hD => setAcl_bump_keeps _ (deniesClass_stable _) s' _ _ q (h'.2 e' hD)⟩
    have hI' := (hinv s).mp hI
    have hcp : Cp f.pkt := hcls p f hK.2
    rw [hh]
    refine nodeRx_closed _ soft s p f (SafeAct.done hI) (fun _ _ _ => ?_)
    refine fwLayer_closed (SafeG sys side _ _ portEnabled n) _ (fun _ => SafeAct.done)
      (fun s' x h' => (hinv _).mpr ((hinv s').mp h')) (safe_guard_bind sys side _ _ n portEnabled) soft s p _ hI'.1 hI
      (fun e _ => hbump s e _ hI) ?_
    intro e hpe hv
    rcases hports p e hK.1 hpe with hD | ⟨ok, hnext⟩
    · exact absurd (hI'.2 e hD _ hcp) (by rw [hv]; simp)
    · refine ⟨fun s2 h2 => ok.session s2 _ h2 hcp, fun he s2 h2 => ok.lookup he s2 _ h2 hcp, fun s3 e2 h3 hsec => ?_⟩
      -- the selected second entry point denies the class, or is covered by the hypothesis
      cases hD2 : D e2 with
      | true =>
        exact fwFinal_closed (SafeG sys side _ _ portEnabled n) _ (fun _ => SafeAct.done) soft e2 s3 p _ (hbump s3 e2 _ h3)
          (fun hv2 => absurd (((hinv s3).mp h3).2 e2 hD2 _ hcp) (by rw [hv2]; simp))
      | false =>
        rcases hnext e2 (secondEntry_mem soft e s3 _ e2 hsec) with h | h
        · rw [hD2] at h; cases h
        · exact ok.final s3 _ e2 h3 hcp hsec hD2 h
  | frozen soft s0 =>
    simp only [hr] at hok
    have hI' : s = s0 ∧ ∀ p, SideFacing sys side n p → portEnabled s0 p = false := by simpa [invC, hr] using hI
    rw [hok, C06_iface_disabled_inert_rx soft s p f (by rw [hI'.1]; exact hI'.2 p hK.1)]
    exact SafeAct.done hI
  | interiorI soft J =>
    simp only [hr] at hok
    rw [hok.1]
    exact hok.2 s p f (by simpa [invC, hr] using hI) hK.1 hK.2

/-- **C06 for a frame class.**  In a class cut, any sequence of admissible operations on the attacker side (their
emissions in the class) leaves every protected node's state exactly as it was. -/
theorem C06_blocked_unchanged_class (sys : Sys N Nat Frame (Node W)) (side : N → Bool) (Cl : N → Nat → Frame → Prop)
    (role : N → RoleC W) (hroles : ∀ n, side n = true → RoleOKC sys side Cl role n)
    (ops : List (Nat × Op N Nat Frame (Node W)))
    (hops : ∀ o ∈ ops, SafeOp sys side (FromSideC sys side Cl) (invC sys side role) o.2)
    (σ : St N (Node W)) (hσ : ∀ n, side n = true → invC sys side role n (σ n)) :
    ∀ t, side t = false → runOps sys σ ops t = σ t :=
  (runOps_good sys side _ _ (C06_cut_class sys side Cl role hroles) ops σ hops hσ).2

/-- an operation on an interior node is admissible when what it emits is in the class — for a *source* class that is
`C06_host_emits_own_src` (below: `C06_localOp_src_class`) -/
theorem C06_safeOp_interior_class (sys : Sys N Nat Frame (Node W)) (side : N → Bool) (Cl : N → Nat → Frame → Prop)
    (role : N → RoleC W) (o : Op N Nat Frame (Node W)) (hn : side o.node = true) (hr : role o.node = .interior)
    (hw : ∀ q m r, sys.wire o.node q = some (m, r) → side m = true)
    (hcl : ∀ s, EmitsCl sys Cl o.node (o.script s)) :
    SafeOp sys side (FromSideC sys side Cl) (invC sys side role) o :=
  ⟨hn, fun s _ => safe_of_interior_emits sys side Cl _ o.node hn (fun s => by simp [invC, hr]) hw _ (hcl s)⟩

end cutC

theorem firstEnabledIn_some (ip : Ip) : ∀ (ifs : List Iface) (k q : Nat), firstEnabledIn ifs ip k = some q →
    k ≤ q ∧ ∃ j, ifs[q - k]? = some j ∧ j.inNet ip = true ∧ j.enabled = true := by
  intro ifs
  induction ifs with
  | nil => intro k q h; simp [firstEnabledIn] at h
  | cons i rest ih =>
    intro k q h
    simp only [firstEnabledIn] at h
    split at h
    · rename_i hc
      injection h with h
      subst h
      simp only [Bool.and_eq_true] at hc
      exact ⟨Nat.le_refl _, i, by simp, hc.1, hc.2⟩
    · obtain ⟨hle, j, hj, h1, h2⟩ := ih (k + 1) q h
      refine ⟨by omega, j, ?_, h1, h2⟩
      have : q - k = (q - (k + 1)) + 1 := by omega
      rw [this]; simpa using hj

theorem firstEnabledIn_ne_none (ip : Ip) : ∀ (ifs : List Iface) (k p : Nat) (i : Iface), ifs[p]? = some i →
    i.inNet ip = true → i.enabled = true → firstEnabledIn ifs ip k ≠ none := by
  intro ifs
  induction ifs with
  | nil => intro k p i h; simp at h
  | cons x rest ih =>
    intro k p i h h1 h2
    simp only [firstEnabledIn]
    split
    · simp
    · cases p with
      | zero =>
        simp only [List.getElem?_cons_zero, Option.some.injEq] at h
        subst h
        rename_i hc
        simp [h1, h2] at hc
      | succ p => exact ih (k + 1) p i (by simpa using h) h1 h2

section arp
variable {N : Type} [DecidableEq N]

/-- **A denying router's ARP handling stays on the attacker side.**
For the router software as modelled (`routerArpSoft`: session manager → ARP service → `_process_arp_request /
_process_arp_reply`, reply sent through `resolve_outbound_network_interface(sender address)`; `process_frame` drops
layer-2 broadcasts and frames for an own address), every genuine ARP packet that arrives on an attacker-facing
interface is handled without anything leaving through a boundary interface, provided
* ARP requests on the attacker side are broadcasts whose sender address lies in the network of the interface they
  arrive on, and ARP replies addressed to an interface's MAC are addressed to its IP (what `send_arp_request` /
  `generate_reply` build — `C06_arp_request_local`, `C06_localOp_stamps_arp_sender`),
* no boundary interface's network meets the network of an attacker-facing interface (`netsDisjoint`, checked by the
  certificate).
No hypothesis on the opaque parts of the software (`RouterArp`) at all. -/
theorem C06_router_arp_safe (sys : Sys N Nat Frame (Node W)) (side : N → Bool) (Cl : N → Nat → Frame → Prop)
    (role : N → RoleC W) (n : N) (r : RouterArp W) (base : Soft W) (Cp : Packet → Prop) (ifs : List Iface)
    (hr : role n = .routerDenyC (routerArpSoft r base) Cp ifs)
    (harp : ∀ p i f, SideFacing sys side n p → Cl n p f → subjectToAcl f = some false → ifs[p]? = some i →
      (f.arpReq = true → f.dstMac = bcastMac ∧ i.inNet f.arpSnd = true) ∧
      (f.arpReq = false → f.dstMac = i.mac → f.pkt.dstIp = i.ip))
    (hdisj : ∀ p i q j ip, SideFacing sys side n p → ifs[p]? = some i → ifs[q]? = some j → i.inNet ip = true →
      j.inNet ip = true → ∀ m r', sys.wire n q = some (m, r') → side m = true)
    (hreply : ∀ p f x q o i m r', SideFacing sys side n p → Cl n p f → subjectToAcl f = some false → f.arpReq = true →
      sys.wire n q = some (m, r') → Cl m r' (arpReplyFrame o i { f with ttl := x }))
    (hn : side n = true) :
    ∀ s p i f f', invC sys side role n s → SideFacing sys side n p → Cl n p f → s.ifaces[p]? = some i →
      ifaceRx s.kind s.ifaces i f = .up f' → subjectToAcl f' = some false →
      SafeAct sys side (FromSideC sys side Cl) (invC sys side role) n
        (guardSends portEnabled (permitted (routerArpSoft r base) s p f')) := by
  intro s p i f f' hI hsf hcl hi hg hsub
  have hinv : ∀ s', invC sys side role n s' ↔
      (s'.kind = .router ∧ DeniesClass Cp (s'.acls .router) ∧ s'.ifaces = ifs) := by intro s'; simp [invC, hr]
  have hI' := (hinv s).mp hI
  have hsw : ∀ (s' : Node W) (x : W), invC sys side role n s' → invC sys side role n { s' with sw := x } :=
    fun s' x hs' => (hinv _).mpr ((hinv s').mp hs')
  obtain ⟨rfl, hen⟩ := ifaceRx_up _ _ _ _ _ hg
  have hsub0 : subjectToAcl f = some false := hsub
  have hex : isArpExempt { f with ttl := f.ttl - 1 } = true := by simp [isArpExempt, hsub]
  have hi' : ifs[p]? = some i := by rw [← hI'.2.2]; exact hi
  obtain ⟨hreq, hrep⟩ := harp p i f hsf hcl hsub0 hi'
  have hmac : f.dstMac = i.mac ∨ f.dstMac = bcastMac := by
    rw [hI'.1] at hg; exact ifaceRx_router_mac _ _ _ _ hg
  have hI1 := hsw s ((routerArpSoft r base).learn s p { f with ttl := f.ttl - 1 }) hI
  simp only [permitted]
  split
  · -- session manager → ARP service
    simp only [routerArpSoft, hex, if_true]
    rcases arpSession_cases r _ p { f with ttl := f.ttl - 1 } with h | ⟨i2, q, o, hq, _, _, hres, _, h⟩ <;> rw [h]
    · exact SafeAct.done (hsw _ _ hI1)
    · refine safe_guard_send _ _ _ _ n portEnabled _ q _ (hsw _ _ hI1) (fun _ m r' hw => ?_)
      -- the reply leaves through an interface whose network contains the requester's address
      have hin := (hreq hq).2
      have hfe : firstEnabledIn ifs f.arpSnd 0 = some q := by
        unfold routerResolveOut at hres
        simp only [hI'.2.2] at hres
        cases hfe : firstEnabledIn ifs f.arpSnd 0 with
        | some q' => simp only [hfe, Option.some.injEq] at hres; rw [hres]
        | none => exact absurd hfe (firstEnabledIn_ne_none _ _ 0 p i hi' hin hen)
      obtain ⟨_, j, hj, hjin, _⟩ := firstEnabledIn_some _ _ 0 q hfe
      exact ⟨hdisj p i q j f.arpSnd hsf hi' hj hin hjin m r' hw, ⟨n, q, hn, hw⟩, hreply p f _ q o i2 m r' hsf hcl hsub0 hq hw⟩
  · -- `process_frame`: broadcast or addressed to the router itself → dropped
    simp only [routerArpSoft, hex, if_true]
    split
    · exact SafeAct.done hI1
    · rename_i hb
      split
      · exact SafeAct.done hI1
      · rename_i hown
        exfalso
        have hnb : f.dstMac ≠ bcastMac := by simpa using hb
        have hm : f.dstMac = i.mac := hmac.resolve_right hnb
        cases hq : f.arpReq with
        | true => exact hnb (hreq hq).1
        | false =>
          apply hown
          rw [List.any_eq_true]
          exact ⟨i, List.mem_of_getElem? hi, by simp [hrep hq hm]⟩

end arp

/-- an ARP request leaves with the outbound interface's address also as its ARP sender: `ARP.send_arp_request` writes it into the
packet, the session manager resolves the same interface (by the packet's target) to frame it -/
def ownArp (s : Node W) (q : Nat) (g : Frame) : Frame :=
  match s.ifaces[q]? with
  | some i => if g.arp && g.arpReq then { ownSrc s q g with arpSnd := i.ip } else ownSrc s q g
  | none => g

/-- **`host_emits_own_src`, ARP half (1)**: every ARP request a node's software puts on a wire carries the outbound
interface's own address as sender, so it lies in that interface's network. -/
theorem C06_localOp_stamps_arp_sender (a : Script W) :
    Emits (fun s q g => ∀ i, s.ifaces[q]? = some i → g.arp = true → g.arpReq = true → g.arpSnd = i.ip ∧ i.inNet g.arpSnd = true)
      (guardSends portEnabled (stampSends ownArp a)) := by
  refine emits_guard_stamp ownArp _ (fun s q g _ i hi ha hq => ?_) a
  have ha' : g.arp = true := by
    simp only [ownArp, hi] at ha; split at ha <;> simpa [ownSrc, hi] using ha
  have hq' : g.arpReq = true := by
    simp only [ownArp, hi] at hq; split at hq <;> simpa [ownSrc, hi] using hq
  simp [ownArp, hi, ha', hq', Iface.inNet]

/-- **`host_emits_own_src`, ARP half (2)**: the address `ARP.send_arp_request` really asks for is in the network of
one of the node's interfaces, or is the configured default gateway; for a cached address nothing is sent. -/
theorem C06_arp_request_local (ifaces : List Iface) (gw : Option Ip) (cached : Bool) (t t' : Ip)
    (h : arpRequestTarget ifaces gw cached t = some t') :
    cached = false ∧ ((∃ i ∈ ifaces, i.inNet t' = true) ∨ gw = some t') := by
  unfold arpRequestTarget at h
  cases cached with
  | true => simp at h
  | false =>
    refine ⟨rfl, ?_⟩
    simp only [Bool.false_eq_true, if_false] at h
    split at h
    · rename_i hany
      injection h with h
      subst h
      obtain ⟨i, hi, hin⟩ := List.any_eq_true.mp hany
      exact Or.inl ⟨i, hi, hin⟩
    · exact Or.inr h

/-- the request frame built for outbound interface `o` is a genuine (ACL-exempt) ARP packet, a broadcast, with `o`'s
own address as source and sender; when the target is in `o`'s network so is the whole exchange -/
theorem C06_arp_request_frame (o : Iface) (t : Ip) :
    subjectToAcl (arpRequestFrame o t) = some false ∧ (arpRequestFrame o t).dstMac = bcastMac ∧
    (arpRequestFrame o t).pkt.srcIp = o.ip ∧ (arpRequestFrame o t).arpSnd = o.ip ∧ o.inNet (arpRequestFrame o t).arpSnd = true := by
  refine ⟨arpRequest_exempt o t, rfl, rfl, rfl, ?_⟩
  simp [arpRequestFrame, Iface.inNet]

/-- source classes are closed under what hosts emit: when every interface address of the node (at the moment of
sending) satisfies the source part of the class, so does the source of the frame that leaves -/
theorem C06_localOp_src_class (srcOk : Ip → Prop) (a : Script W) :
    Emits (fun s _ g => (∀ i ∈ s.ifaces, srcOk i.ip) → srcOk g.pkt.srcIp) (localOp a) := by
  refine emits_guard_stamp ownSrc _ (fun s q g hen hp => ?_) a
  obtain ⟨i, hi, _⟩ := portEnabled_some hen
  simp only [ownSrc, hi]
  exact hp i (List.mem_of_getElem? hi)

theorem netsDisjoint_sound (i j : Iface) (ip : Ip) (h : netsDisjoint i j = true) (h1 : i.inNet ip = true)
    (h2 : j.inNet ip = true) : False := by
  simp only [netsDisjoint, bne_iff_ne, ne_eq] at h
  apply h
  simp only [Iface.inNet, beq_iff_eq] at h1 h2
  apply BitVec.eq_of_getLsbD_eq
  intro k _
  have a1 := congrArg (fun x => x.getLsbD k) h1
  have a2 := congrArg (fun x => x.getLsbD k) h2
  simp only [BitVec.getLsbD_and, BitVec.getLsbD_xor] at a1 a2 ⊢
  revert a1 a2
  cases ip.getLsbD k <;> cases i.ip.getLsbD k <;> cases j.ip.getLsbD k <;> cases i.mask.getLsbD k <;>
    cases j.mask.getLsbD k <;> simp

section certifyC
variable (t : TopoC) (softs : Nat → Soft W) (hInt : Nat → Node W → Nat → Frame → Script W)

def topoSysC : Sys Nat Nat Frame (Node W) :=
  { handler := fun n => match t.role n with
      | .interior => hInt n
      | _ => nodeRx (softs n),
    wire := t.wire }

def clsP (p : Packet) : Prop := clsHolds t.cls p = true

/-- the frames that circulate on the attacker side of a certified topology: packets of the class, and — when the
topology says so — genuine ARP packets -/
def ClT (_ : Nat) (_ : Nat) (f : Frame) : Prop :=
  clsHolds t.cls f.pkt = true ∨ (t.arpExempt = true ∧ subjectToAcl f = some false)

def topoRoleC (σ : St Nat (Node W)) (n : Nat) : RoleC W :=
  match t.role n with
  | .interior => .interior
  | .ifaceDown => .ifaceDown (softs n)
  | .routerOff => .routerOff (softs n)
  | .routerDenyC => .routerDenyC (softs n) (clsP t) (σ n).ifaces
  | .fwDenyC => .fwDenyC (softs n) (clsP t) (fun e => denyClassCheck t.cls ((σ n).acls (entryAcl e)))
      (fun e2 => t.finalToProtected n e2 = false)
  | .frozen => .frozen (softs n) (σ n)

theorem wire_memC (n q m r : Nat) (h : t.wire n q = some (m, r)) : ((n, q), (m, r)) ∈ t.wires :=
  wires_find_mem t.wires n q m r h

theorem side_lt (n : Nat) (hn : t.side n = true) : n < t.nodes.length := by
  unfold TopoC.side at hn
  cases hx : t.nodes[n]? with
  | none => simp [hx] at hn
  | some x => exact (List.getElem?_eq_some_iff.mp hx).1

theorem certifyC_node (σ : St Nat (Node W)) (hc : certifyC t σ = true) (n : Nat) (hn : t.side n = true) :
    certifyNodeC t n (σ n) = true := by
  unfold certifyC at hc
  have := List.all_eq_true.mp hc n (List.mem_range.mpr (side_lt t n hn))
  simpa [hn] using this

theorem interior_inside (σ : St Nat (Node W)) (hc : certifyC t σ = true) (n : Nat) (hn : t.side n = true) (hr : t.role n = .interior)
    (q m r : Nat) (hw : t.wire n q = some (m, r)) : t.side m = true := by
  have hcn := certifyC_node t σ hc n hn
  simp only [certifyNodeC, hr] at hcn
  have := List.all_eq_true.mp hcn _ (wire_memC t n q m r hw)
  simpa using this

/-- **Soundness of the class-aware certificate**: if `certifyC` accepts, every attacker-side node satisfies its role's
invariant; interior nodes have no wire leaving the attacker side; a class-denying router's boundary networks are
disjoint from its attacker-facing ones; at a firewall every attacker-facing port either has a class-denying first list
or every second entry point it can select has a class-denying list or guards a zone port with no wire to the protected
side — and no ARP exemption is assumed. -/
theorem C06_certifyC_sound (σ : St Nat (Node W)) (hc : certifyC t σ = true) (n : Nat) (hn : t.side n = true) :
    invC (topoSysC t softs hInt) t.side (topoRoleC t softs σ) n (σ n) ∧
    (t.role n = .interior → ∀ q m r, t.wire n q = some (m, r) → t.side m = true) ∧
    (t.role n = .routerDenyC → ∀ p i q j ip, SideFacing (topoSysC t softs hInt) t.side n p → (σ n).ifaces[p]? = some i →
      (σ n).ifaces[q]? = some j → i.inNet ip = true → j.inNet ip = true → ∀ m r', t.wire n q = some (m, r') → t.side m = true) ∧
    (t.role n = .fwDenyC → t.arpExempt = false ∧
      ∀ p e, SideFacing (topoSysC t softs hInt) t.side n p → portEntry p = some e →
        denyClassCheck t.cls ((σ n).acls (entryAcl e)) = true ∨
        ∀ e2 ∈ nextEntries e, denyClassCheck t.cls ((σ n).acls (entryAcl e2)) = true ∨ t.finalToProtected n e2 = false) := by
  have hcn := certifyC_node t σ hc n hn
  unfold certifyNodeC at hcn
  refine ⟨?_, interior_inside t σ hc n hn, fun hr p i q j ip hsf hi hj h1 h2 m r' hw => ?_, fun hr => ?_⟩
  · cases hr : t.role n with
    | interior => simp [invC, topoRoleC, hr]
    | ifaceDown =>
      simp only [hr] at hcn
      simp only [invC, topoRoleC, hr]
      intro q m r hw hm
      have := List.all_eq_true.mp hcn _ (wire_memC t n q m r hw)
      simpa [hm] using this
    | routerOff =>
      simp only [hr] at hcn
      simp only [invC, topoRoleC, hr]
      simpa using hcn
    | routerDenyC =>
      simp only [hr, Bool.and_eq_true, beq_iff_eq] at hcn
      simp only [invC, topoRoleC, hr]
      exact ⟨hcn.1.1, C06_denyClassCheck_sound _ _ hcn.1.2, trivial⟩
    | fwDenyC =>
      simp only [hr, Bool.and_eq_true, beq_iff_eq] at hcn
      simp only [invC, topoRoleC, hr]
      exact ⟨hcn.1.1, fun e he => C06_denyClassCheck_sound _ _ he⟩
    | frozen =>
      simp only [hr] at hcn
      simp only [invC, topoRoleC, hr, true_and]
      intro p hsf
      obtain ⟨n', q, hs', hw⟩ := hsf
      have := List.all_eq_true.mp hcn _ (wire_memC t n' q n p hw)
      simpa [hs'] using this
  · simp only [hr, Bool.and_eq_true] at hcn
    obtain ⟨n', q', hs', hw'⟩ := hsf
    cases hsm : t.side m with
    | true => rfl
    | false =>
      exfalso
      have ha := List.all_eq_true.mp hcn.2 _ (wire_memC t n' q' n p hw')
      simp only [bne_self_eq_false, hs', Bool.not_true, Bool.false_or] at ha
      have hb := List.all_eq_true.mp ha _ (wire_memC t n q m r' hw)
      simp only [bne_self_eq_false, hsm, Bool.false_or, hi, hj] at hb
      exact netsDisjoint_sound i j ip hb h1 h2
  · simp only [hr, Bool.and_eq_true, Bool.not_eq_true'] at hcn
    refine ⟨hcn.1.2, fun p e hsf hpe => ?_⟩
    obtain ⟨n', q', hs', hw'⟩ := hsf
    have ha := List.all_eq_true.mp hcn.2 _ (wire_memC t n' q' n p hw')
    simpa only [bne_self_eq_false, hs', Bool.not_true, Bool.false_or, hpe, fwDenySet, Bool.or_eq_true,
      List.all_eq_true, Bool.not_eq_true'] using ha

/-- **C06 for a scenario certified for a frame class.**  If `certifyC` accepts, then — for all software of the blocking
elements that keeps boundary interfaces down (`SoftKeeps`, see `C06_gen_enable_sites`), whose handling of a router's
ACL-exempt ARP packets stays on the attacker side (proved for `routerArpSoft`: `C06_router_arp_safe`), and, at a
firewall port whose first list lets the class pass, whose session replies, DMZ look-ups and forwarding *into zones that
have no wire to the protected side* stay on the attacker side — and for all attacker-side nodes that emit only frames
of the class, any sequence of operations on interior nodes leaves every protected node (and every frozen one) exactly
as in `σ`. -/
theorem C06_certifiedC_unchanged (σ : St Nat (Node W)) (hc : certifyC t σ = true)
    (hclosed : ∀ n, t.side n = true → (t.role n = .interior ∨ t.role n = .ifaceDown) → ∀ s p f,
      SideFacing (topoSysC t softs hInt) t.side n p → ClT t n p f →
      EmitsCl (topoSysC t softs hInt) (ClT t) n ((topoSysC t softs hInt).handler n s p f))
    (hkeep : ∀ n, t.side n = true → t.role n = .ifaceDown →
      SoftKeeps (softs n) (BoundaryDown (topoSysC t softs hInt) t.side n))
    (hexempt : ∀ n, t.side n = true → t.role n = .routerDenyC → ∀ s p i f f',
      invC (topoSysC t softs hInt) t.side (topoRoleC t softs σ) n s → SideFacing (topoSysC t softs hInt) t.side n p →
      ClT t n p f → s.ifaces[p]? = some i → ifaceRx s.kind s.ifaces i f = .up f' → subjectToAcl f' = some false →
      SafeAct (topoSysC t softs hInt) t.side (FromSideC (topoSysC t softs hInt) t.side (ClT t))
        (invC (topoSysC t softs hInt) t.side (topoRoleC t softs σ)) n (guardSends portEnabled (permitted (softs n) s p f')))
    (hfw : ∀ n, t.side n = true → t.role n = .fwDenyC → ∀ p e, SideFacing (topoSysC t softs hInt) t.side n p →
      portEntry p = some e → denyClassCheck t.cls ((σ n).acls (entryAcl e)) = false →
      FwSecondOK (topoSysC t softs hInt) t.side (ClT t) (topoRoleC t softs σ) n (softs n) (clsP t)
        (fun e => denyClassCheck t.cls ((σ n).acls (entryAcl e))) (fun e2 => t.finalToProtected n e2 = false) p e)
    (ops : List (Nat × Op Nat Nat Frame (Node W)))
    (hops : ∀ o ∈ ops, t.side o.2.node = true ∧ t.role o.2.node = .interior ∧
      ∀ s, EmitsCl (topoSysC t softs hInt) (ClT t) o.2.node (o.2.script s)) :
    ∀ m, (t.side m = false ∨ t.role m = .frozen) → runOps (topoSysC t softs hInt) σ ops m = σ m := by
  have hroles : ∀ n, t.side n = true → RoleOKC (topoSysC t softs hInt) t.side (ClT t) (topoRoleC t softs σ) n := by
    intro n hn
    have hs := C06_certifyC_sound t softs hInt σ hc n hn
    unfold RoleOKC
    cases hr : t.role n with
    | interior =>
      simp only [topoRoleC, hr]
      exact ⟨hs.2.1 hr, hclosed n hn (Or.inl hr)⟩
    | ifaceDown =>
      simp only [topoRoleC, hr]
      refine ⟨by simp [topoSysC, hr], hkeep n hn hr, ?_⟩
      intro s p f hsf hcl
      have := hclosed n hn (Or.inr hr) s p f hsf hcl
      simpa [topoSysC, hr] using this
    | routerOff => simp only [topoRoleC, hr]; simp [topoSysC, hr]
    | routerDenyC =>
      simp only [topoRoleC, hr]
      exact ⟨by simp [topoSysC, hr], fun p f hcl hsub => hcl.resolve_right (by simp [hsub]), hexempt n hn hr⟩
    | fwDenyC =>
      simp only [topoRoleC, hr]
      obtain ⟨harp, hports⟩ := hs.2.2.2 hr
      refine ⟨by simp [topoSysC, hr], fun p f hcl => hcl.resolve_right (by simp [harp]), ?_⟩
      intro p e hsf hpe
      cases hD : denyClassCheck t.cls ((σ n).acls (entryAcl e)) with
      | true => exact Or.inl rfl
      | false => exact Or.inr ⟨hfw n hn hr p e hsf hpe hD, (hports p e hsf hpe).resolve_left (by rw [hD]; simp)⟩
    | frozen => simp only [topoRoleC, hr]; simp [topoSysC, hr]
  have hσ : ∀ n, t.side n = true → invC (topoSysC t softs hInt) t.side (topoRoleC t softs σ) n (σ n) :=
    fun n hn => (C06_certifyC_sound t softs hInt σ hc n hn).1
  have hops' : ∀ o ∈ ops, SafeOp (topoSysC t softs hInt) t.side (FromSideC (topoSysC t softs hInt) t.side (ClT t))
      (invC (topoSysC t softs hInt) t.side (topoRoleC t softs σ)) o.2 := by
    intro o ho
    obtain ⟨h1, h2, h3⟩ := hops o ho
    exact C06_safeOp_interior_class _ _ _ _ o.2 h1 (by simp [topoRoleC, h2])
      (interior_inside t σ hc _ h1 h2) h3
  intro m hm
  cases hsm : t.side m with
  | false => exact C06_blocked_unchanged_class _ _ _ _ hroles ops hops' σ hσ m hsm
  | true =>
    rcases hm with hm | hm
    · rw [hsm] at hm; cases hm
    · have h := (runOps_good _ t.side _ _ (C06_cut_class _ t.side (ClT t) _ hroles) ops σ hops' hσ).1 m hsm
      have h0 := hσ m hsm
      simp only [invC, topoRoleC, hm] at h h0
      rw [h.1]

end certifyC

/-- the class-aware certificate generalises the any-any one: a list that passes `denyAllCheck` passes the class scan
for the pattern that describes every packet -/
theorem C06_denyAll_is_class_any (a : Acl) (h : denyAllCheck a = true) : denyClassCheck [anyPattern] a = true := by
  unfold denyAllCheck at h
  simp only [denyClassCheck, List.all_cons, List.all_nil, Bool.and_true]
  have key : ∀ rules : List (Option Rule),
      (match firstSome rules with | some r => anyAnyDeny r | none => a.implicit == .deny) = true →
      denyScan anyPattern rules a.implicit = true := by
    intro rules
    induction rules with
    | nil => intro h; simpa [firstSome, denyScan] using h
    | cons x rest ih =>
      cases x with
      | none => intro h; simpa [denyScan] using ih (by simpa [firstSome] using h)
      | some r =>
        intro h
        simp only [firstSome, anyAnyDeny, Bool.and_eq_true, beq_iff_eq, Option.isNone_iff_eq_none] at h
        obtain ⟨⟨⟨⟨⟨h1, h2⟩, h3⟩, h4⟩, h5⟩, h6⟩ := h
        simp [denyScan, h1, covers, coversOpt, h2, h3, h4, h5, h6]
  exact key a.rules h

/-- **The modelled router software never re-enables an interface**: `routerArpSoft` writes only states that differ from
the one it was given in the opaque software part, so every predicate that does not read `sw` (e.g. "the boundary
interfaces are disabled") is kept whenever the base software keeps it. -/
theorem C06_routerArpSoft_keeps (r : RouterArp W) (base : Soft W) (P : Node W → Prop)
    (hsw : ∀ s x, P s → P { s with sw := x }) (hb : SoftKeeps base P) : SoftKeeps (routerArpSoft r base) P := by
  refine ⟨?_, ?_, hb.dmzLookup, hb.switchFwd⟩
  · intro s p f hs
    simp only [routerArpSoft]
    split
    · rcases arpSession_cases r s p f with h | ⟨_, _, _, _, _, _, _, _, h⟩ <;> rw [h]
      · exact Pres.done (hsw _ _ hs)
      · exact Pres.send (hsw _ _ hs) (fun _ h' => Pres.done h')
    · exact hb.session s p f hs
  · intro s p f hs
    simp only [routerArpSoft]
    split
    · split
      · exact Pres.done hs
      · split
        · exact Pres.done hs
        · exact hb.process s p f hs
    · exact hb.process s p f hs

/-- **No software re-enables an interface while processing frames** (the `SoftKeeps` hypothesis, tied to the source):
the regenerated list of every `enable()` / `enable_port()` / `.enabled = True` site is the known one, and none of them
sits in a function reachable from a `receive_frame` (name-based call graph over simulator/, an over-approximation)
without passing the request dispatcher.  The dispatcher IS reachable (Terminal / C2 command execution): an attacker
who can log into the blocking element and issue requests is the application-level relay DESIGN excludes. -/
theorem C06_gen_enable_sites :
    Gen.FilterSoft.enableSitesOnFramePath = [] ∧ Gen.FilterSoft.requestDispatchOnFramePath = true ∧
    Gen.FilterSoft.enableSites = knownEnableSites := ⟨rfl, rfl, rfl⟩

/-- `ARP.send_arp_request` has the shape `arpRequestTarget` / `arpRequestFrame` model: cached → nothing; an address in no
interface network is replaced by the default gateway (or nothing is sent); network and broadcast addresses are refused;
the packet's sender is the outbound interface. -/
theorem C06_gen_send_arp_request : Gen.FilterSoft.sendArpRequest = sendArpRequestOrder := rfl

/-- `RouterARP._process_arp_request`, `ARP.send_arp_reply`, `RouterSessionManager.resolve_outbound_network_interface` and
the first two guards of `Router.process_frame` have the shape `routerArpSoft` models. -/
theorem C06_gen_router_arp : Gen.FilterSoft.routerArp = routerArpOrder := rfl

section examples

def exSrcRange : Rule := { anyPattern with srcIp := some 0x0A000100#32, srcWc := some 0x000000FF#32 }
def exPermitAny : Rule := { anyPattern with action := .permit }

/-- a 24-slot list: source-range DENY at position 3, PERMIT any-any at position 10 (the shape R-net builds) -/
def exClassAcl : Acl :=
  { rules := List.replicate 3 none ++ [some exSrcRange] ++ List.replicate 6 none ++ [some exPermitAny] ++ List.replicate 13 none,
    implicit := .deny }

def exPktFromA : Packet := { proto := .tcp, srcIp := 0x0A00010A#32, dstIp := 0x0A000214#32, ports := some (5432, 5432) }
def exPktFromB : Packet := { proto := .tcp, srcIp := 0x0A000214#32, dstIp := 0x0A00010A#32, ports := some (5432, 5432) }

/-- the scan accepts the list for the source-range class, a packet of A is in the class and is denied, a packet from B
is not in the class and is permitted (so the list is NOT a deny-everything list: `denyAllCheck` rejects it) -/
example : denyClassCheck [exSrcRange] exClassAcl = true ∧ clsHolds [exSrcRange] exPktFromA = true ∧
    (isPermitted exClassAcl exPktFromA).1 = false ∧ clsHolds [exSrcRange] exPktFromB = false ∧
    (isPermitted exClassAcl exPktFromB).1 = true ∧ denyAllCheck exClassAcl = false := by decide

/-- a PERMIT rule ahead of the DENY rule, or a class wider than the rule, fails the scan -/
example : denyClassCheck [exSrcRange] { exClassAcl with rules := [some exPermitAny] ++ exClassAcl.rules } = false ∧
    denyClassCheck [anyPattern] exClassAcl = false := by decide

def exIfA : Iface := { enabled := true, mac := 11, ip := 0x0A000101#32, mask := 0xFFFFFF00#32 }
def exIfB : Iface := { enabled := true, mac := 12, ip := 0x0A000201#32, mask := 0xFFFFFF00#32 }

def exRouterC : Node Unit :=
  { kind := .router, on := true, ifaces := [exIfA, exIfB], acls := fun _ => exClassAcl, sw := () }
def exHost (ip : Ip) : Node Unit :=
  { kind := .host, on := true, ifaces := [{ enabled := true, mac := 5, ip := ip, mask := 0xFFFFFF00#32 }],
    acls := fun _ => Acl.empty 0 .deny, sw := () }

/-- A (0) — R (1) — B (2), R's list as above -/
def exTopoC : TopoC :=
  { nodes := [(true, .interior), (true, .routerDenyC), (false, .interior)],
    wires := [((0, 0), (1, 0)), ((1, 0), (0, 0)), ((1, 1), (2, 0)), ((2, 0), (1, 1))],
    cls := [exSrcRange], arpExempt := true }
def exStatesC : Nat → Node Unit := fun n => if n = 1 then exRouterC else exHost (if n = 0 then 0x0A00010A#32 else 0x0A000214#32)

/-- the class-aware certificate accepts it; it rejects the same network when the rule is missing, when B's network
overlaps A's (the ARP condition), and when the router is declared interior -/
example : certifyC exTopoC exStatesC = true ∧
    certifyC exTopoC (fun n => if n = 1 then { exRouterC with acls := fun _ => Acl.empty 24 .permit } else exStatesC n) = false ∧
    certifyC exTopoC (fun n => if n = 1 then { exRouterC with ifaces := [exIfA, { exIfB with ip := 0x0A000102#32 }] } else exStatesC n) = false ∧
    certifyC { exTopoC with nodes := [(true, .interior), (true, .interior), (false, .interior)] } exStatesC = false := by decide

def exArpReq : Frame :=
  { srcMac := 5, dstMac := bcastMac, pkt := { proto := .udp, srcIp := 0x0A00010A#32, dstIp := 0x0A000101#32, ports := some (219, 219) },
    ttl := 63, arp := true, tag := 0, arpReq := true, arpSnd := 0x0A00010A#32, arpTgt := 0x0A000101#32 }

def exRouterArp : RouterArp Unit :=
  { arpOpen := fun _ => true, arpRuns := fun _ => true, sessRx := fun _ _ _ => (), route := fun _ _ => none, sent := fun _ _ => () }

/-- the ARP path is not vacuous: the frame skips the list (which would deny it), is handed to the ARP service, and the
router answers — on the port the request came from, not towards B -/
example : subjectToAcl exArpReq = some false ∧ (isPermitted exClassAcl exArpReq.pkt).1 = false ∧
    permitted (routerArpSoft exRouterArp exEchoSoft) exRouterC 0 exArpReq =
      .send exRouterC 0 (arpReplyFrame exIfA exIfA exArpReq) (fun s' => .done s') := by
  refine ⟨by decide, by decide, ?_⟩
  simp [permitted, routerArpSoft, isArpExempt, subjectToAcl, exArpReq, arpPort, exRouterC, exRouterArp, arpSession,
    routerResolveOut, firstEnabledIn, exIfA, exIfB, Iface.inNet, exEchoSoft]

/-- `send_arp_request`: an off-subnet target is replaced by the gateway; a cached one sends nothing -/
example : arpRequestTarget [exIfA] (some 0x0A0001FE#32) false 0x0A000214#32 = some 0x0A0001FE#32 ∧
    arpRequestTarget [exIfA] (some 0x0A0001FE#32) false 0x0A000107#32 = some 0x0A000107#32 ∧
    arpRequestTarget [exIfA] none false 0x0A000214#32 = none ∧
    arpRequestTarget [exIfA] (some 0x0A0001FE#32) true 0x0A000107#32 = none := by decide

end examples

end Primaite.Filter
