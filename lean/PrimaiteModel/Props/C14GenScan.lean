/-
C14 — the SCAN PATH, translated statement by statement from the source (Gen/HealthScan.lean, extractor
harness/extract/health_scan_tr.py), is EQUAL to the hand-written model for every state:

  Software.scan = Sw.scan, File.scan = File.scan, Folder.scan(instant) = Folder.instantScan, Folder.scan() = Folder.scan,
  Folder._scan_timestep = Folder.scanTick, FileSystem.scan(instant) = map instantScan, Node.scan = the `.osScan` update,
  the node-scan block of Node.apply_timestep = Node.scanPhase.

A semantic change of one of these bodies (for instance the blind change C14-g: the "scan already in progress" guard of
`Folder.scan` moved in front of the `instant_scan` branch) makes the corresponding theorem FALSE; `C14g_refuted` keeps the
counter-model of that change (a folder with its own timed scan pending when a whole-node scan completes).
-/
import PrimaiteModel.Lemmas.HealthEff
import PrimaiteModel.Gen.HealthScan
namespace Primaite.Health
open Primaite.Gen.HealthScan

/-- **Gen obligation.** `Software.scan` -/
theorem C14_gen_sw_scan (x : Sw) : swScan x = (x.scan, true) := rfl

/-- **Gen obligation.** `File.scan` (returns False for a deleted file) -/
theorem C14_gen_file_scan (f : File) : fileScan f = (f.scan, !f.deleted) := by
  cases hd : f.deleted <;> simp [fileScan, File.scan, hd]

/-- a loop whose body scans the file and leaves the folder alone -/
theorem loopLive_scan (body : Folder → File → Folder × File)
    (hb : ∀ (F : Folder) (x : File), x.deleted = false → body F x = (F, x.scan)) :
    ∀ (fs : List File) (F : Folder), loopLive body F fs = (F, fs.map File.scan) := by
  intro fs
  induction fs with
  | nil => intro F; rfl
  | cons x xs ih =>
    intro F
    cases hd : x.deleted
    · simp [loopLive, hd, hb F x hd, ih]
    · simp [loopLive, hd, ih, File.scan]

/-- a loop whose body scans the file and marks the folder visibly CORRUPT when the file (now) shows CORRUPT -/
theorem loopLive_instant (body : Folder → File → Folder × File)
    (hb : ∀ (F : Folder) (x : File), x.deleted = false →
      body F x = ((if x.actual = .corrupt then { F with visible := .corrupt } else F), x.scan)) :
    ∀ (fs : List File) (F : Folder), loopLive body F fs =
      ({ F with visible := if anyLiveCorrupt fs then .corrupt else F.visible }, fs.map File.scan) := by
  intro fs
  induction fs with
  | nil => intro F; simp [loopLive, anyLiveCorrupt]
  | cons x xs ih =>
    intro F
    cases hd : x.deleted
    · have hany : anyLiveCorrupt (x :: xs) = (decide (x.actual = .corrupt) || anyLiveCorrupt xs) := by
        simp [anyLiveCorrupt, hd]
      by_cases hc : x.actual = .corrupt
      · simp [loopLive, hd, hb F x hd, ih, hany, hc]
      · simp [loopLive, hd, hb F x hd, ih, hany, hc]
    · have hany : anyLiveCorrupt (x :: xs) = anyLiveCorrupt xs := by simp [anyLiveCorrupt, hd]
      simp [loopLive, hd, ih, hany, File.scan]

set_option linter.unusedSimpArgs false in
/-- **Gen obligation.** `Folder.scan`: with `instant_scan` it is the model's `instantScan` (the whole-node scan reaches EVERY live
folder, whatever its own countdown), without it the model's timed `scan`; it answers False exactly for a deleted folder -/
theorem C14_gen_folder_scan (F : Folder) :
    folderScan F true = (F.instantScan, !F.deleted) ∧ folderScan F false = (F.scan, !F.deleted) := by
  constructor
  · cases hd : F.deleted
    · -- whatever the shape of the loop body: it must scan the file and mark the folder when the file shows CORRUPT
      simp only [folderScan, hd, Bool.false_eq_true, if_false, if_true]
      rw [loopLive_instant]
      · simp [Folder.instantScan, hd]
      · intro F x hx
        by_cases hc : x.actual = .corrupt <;> simp [C14_gen_file_scan, File.scan, hx, hc]
    · simp [folderScan, hd, Folder.instantScan]
  · cases hd : F.deleted
    · -- either orientation of the countdown test (`<= 0` first, or the guard clause `> 0: return`)
      by_cases hc : F.scanCd ≤ 0
      · have h1 : ¬ F.scanCd > 0 := by omega
        simp [folderScan, hd, Folder.scan, hc, h1]
      · have h1 : F.scanCd > 0 := by omega
        simp [folderScan, hd, Folder.scan, hc, h1]
    · simp [folderScan, hd, Folder.scan]

/-- **Gen obligation.** `Folder._scan_timestep` -/
theorem C14_gen_folder_scan_timestep (F : Folder) : folderScanTimestep F = F.scanTick := by
  by_cases h1 : F.scanCd ≥ 0
  · by_cases h2 : F.scanCd - 1 = 0
    · simp only [folderScanTimestep, Folder.scanTick, h1, h2, if_true]
      rw [loopLive_scan]
      · simp only [worstLive_map_scan]
      · intro F x _
        simp [C14_gen_file_scan]
    · simp only [folderScanTimestep, Folder.scanTick, h1, h2, if_true, if_false]
  · simp only [folderScanTimestep, Folder.scanTick, h1, if_false]

/-- **Gen obligation.** `FileSystem.scan(instant_scan=True)` reaches every live folder with `instantScan` -/
theorem C14_gen_fs_scan (fo : List Folder) :
    fsScan fo true = fo.map Folder.instantScan ∧ fsScan fo false = fo.map Folder.scan := by
  constructor
  · simp only [fsScan]
    apply List.map_congr_left
    intro G _
    cases hd : G.deleted
    · simp [(C14_gen_folder_scan G).1]
    · simp [Folder.instantScan, hd]
  · simp only [fsScan]
    apply List.map_congr_left
    intro G _
    cases hd : G.deleted
    · simp [(C14_gen_folder_scan G).2]
    · simp [Folder.scan, hd]

/-- **Gen obligation.** `Node.scan` loads `max(node_scan_duration, 1)` unconditionally (= the `.osScan` case of `Node.apply`) -/
theorem C14_gen_node_scan_request (m : Node) (hon : m.power = .on) :
    nodeScanRequest m = (m.apply .osScan, true) := by
  simp [nodeScanRequest, Node.apply, hon]

/-- **Gen obligation.** the node-scan block of `Node.apply_timestep` is `Node.scanPhase`: decrement while positive; at 0 scan every
service, every application and — through `FileSystem.scan(instant_scan=True)` — every live folder -/
theorem C14_gen_node_scan_block (m : Node) : nodeScanBlock m = m.scanPhase := by
  by_cases h1 : m.scanCd > 0
  · by_cases h2 : m.scanCd - 1 = 0
    · simp only [nodeScanBlock, Node.scanPhase, h1, h2, if_true, Node.mapSws, Node.mapFolders, (C14_gen_fs_scan _).1,
        List.map_map]
      congr 1
      apply List.map_congr_left
      intro x _
      cases hx : x.isApp <;> simp [Function.comp, hx, C14_gen_sw_scan, Sw.scan]
    · simp only [nodeScanBlock, Node.scanPhase, h1, h2, if_true, if_false]
  · simp only [nodeScanBlock, Node.scanPhase, h1, if_false]

/-- `Folder.scan` as the blind change C14-g rewrote it: the "scan already in progress" guard stands BEFORE the `instant_scan` branch -/
def folderScanG (F : Folder) (instant_scan : Bool) : Folder × Bool :=
  if F.deleted = true then (F, false) else
  if F.scanCd > 0 then (F, true) else
  if instant_scan = true then (F.instantScan, true) else
  ({ F with scanCd := max F.scanDur 1 }, true)

/-- counter-model: a folder whose own timed scan is pending (countdown 3) with a file that turned CORRUPT since it was last seen -/
def cmFolderG : Folder :=
  { name := "docs", deleted := false, actual := .good, visible := .good, scanDur := 4, scanCd := 3, restoreDur := 3, restoreCd := 0,
    files := [{ name := "report.txt", actual := .corrupt, visible := .good, deleted := false }] }

def cmNodeG : Node :=
  { power := .on, startDur := 0, startCd := 0, shutDur := 0, shutCd := 0, resetting := false, scanDur := 2, scanCd := 1, sws := [],
    folders := [cmFolderG] }

/-- **C14-g is refuted.** The rewritten `Folder.scan` is NOT the model's: on the counter-model the completing whole-node scan skips the
folder (the file keeps showing GOOD although it is CORRUPT and a scan covering it has completed), while the model — to which
`C14_gen_folder_scan` proves the code as translated equal — shows CORRUPT; the timed path of the rewrite agrees with the model everywhere. -/
theorem C14g_refuted :
    folderScanG cmFolderG true ≠ (cmFolderG.instantScan, true) ∧
    ((folderScanG cmFolderG true).1.files.map (·.visible)) = [.good] ∧
    (cmFolderG.instantScan.files.map (·.visible)) = [.corrupt] ∧
    ((cmNodeG.tick.folders.map (fun G => G.files.map (·.visible)))) = [[.corrupt]] ∧
    (∀ F : Folder, folderScanG F false = (F.scan, !F.deleted)) := by
  refine ⟨by decide, by decide, by decide, by decide, ?_⟩
  intro F
  cases hd : F.deleted
  · by_cases hc : F.scanCd > 0
    · have : ¬ F.scanCd ≤ 0 := by omega
      simp [folderScanG, hd, Folder.scan, hc, this]
    · have : F.scanCd ≤ 0 := by omega
      simp [folderScanG, hd, Folder.scan, hc, this]
  · simp [folderScanG, hd, Folder.scan]

end Primaite.Health
