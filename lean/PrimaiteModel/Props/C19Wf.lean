/-
C19: the hypothesis `Resp.wf` of `C19_tap3_validated_never_raises` discharged as far as the agent's own
code allows.

`Resp.wf` asks of EVERY response: failure ⇒ `data["reason"]`, success ⇒ login data.  The simulator does not promise the
first half (`Terminal._remote_login` answers a failed login with `data={}`).  It is not needed: TAP003 reads
`data["reason"]` only in the PLANNING exception of `get_action`, and whenever the agent is in PLANNING at an execution slot
the action it looks back at is a do-nothing (`HL`, proved below: PLANNING is entered, and stayed in, only by slots that
chose do-nothing) — and the simulation answers do-nothing with success.  So what is left to assume of the simulator is

  `SimOk a r`:  (1) a do-nothing action is answered `success`;
                (2) a SUCCESSFUL `node-session-remote-login` carries `data["ip_address"]`, `data["username"]`.

Both are properties of two construction sites of `RequestResponse` (sim_container.py: the `do-nothing` request;
terminal.py: `_remote_login`), extracted by harness/extract/agents_ctl.py (Gen/AgentsCtl.lean) and checked by
`C19_gen_resp_wf_sites` (Props/C19Ctl.lean).
-/
import PrimaiteModel.Props.C19NoRaise
namespace Primaite.Agents
namespace Tap3

/-- What the theorem assumes of the response `r` the simulator gives to the action `a`. -/
def SimOk (a : Act) (r : Resp) : Prop :=
  (a.kind = .doNothing → r.ok = true) ∧ (a.kind = .remoteLogin → r.ok = true → r.hasLoginData = true)

/-- every do-nothing of the history was answered with success -/
def AllDN (s : St) : Prop := ∀ h ∈ s.hist, h.kind = .doNothing → h.resp.ok = true

/-- one history item per tick, and in PLANNING the item the return handler looks back at is a do-nothing -/
def HL (s : St) (t : Int) : Prop :=
  (s.hist.length : Int) = t ∧ (s.cur = .planning → ∀ h, pyIndex s.hist s.curT = some h → h.kind = .doNothing)

theorem reasonOk_of_HL (c : Cfg) (s : St) (t : Int) (hl : HL s t) (hdn : AllDN s) : ReasonOk c s := by
  intro x hx hp hok
  exfalso
  have hpl : s.cur = .planning := by
    unfold passes returnHandler at hp
    split at hp
    · simp [hok] at hp
    · simpa [hok] using hp
  unfold lookBack at hx
  split at hx
  · cases hx; cases hok
  · have hk := hl.2 hpl x hx
    have := hdn x (pyIndex_mem _ _ _ hx) hk
    rw [this] at hok; cases hok

theorem pyIndex_append_lt {α} (l : List α) (a : α) (i : Int) (h0 : 0 ≤ i) (hlt : i < l.length) :
    pyIndex (l ++ [a]) i = pyIndex l i := by
  rw [pyIndex_of_nonneg _ i h0, pyIndex_of_nonneg l i h0, List.getElem?_append_left (show i.toNat < l.length by omega)]

/-- The stage methods leave the agent in PLANNING only with do-nothing chosen. -/
theorem bodies_planning_nothing (c : Cfg) (i : In) (s : St) (h : NR c s) (hp : (bodies c i s).cur = .planning) :
    (bodies c i s).chosen = Act.nothing := by
  rcases bodies_cases c i s h.stage with ⟨e, hnc⟩ | ⟨hc, e⟩ | ⟨x, hx, hc, hn, e⟩
  · rw [e] at hp; rw [hp] at hnc; cases hnc
  · rw [e, tapStart_eq s hc]
  · have hres := bodyAt_fire c i x hx s hc hn
    rw [e] at hp ⊢
    cases x with
    | reconnaissance =>
      show (reconnaissance s).chosen = Act.nothing
      unfold reconnaissance
      rw [if_neg (fun e => e hc), progress_eq { s with chosen := Act.nothing } .reconnaissance rfl hn hc]
    | planning =>
      change (planning c i s).cur = .planning at hp
      show (planning c i s).chosen = Act.nothing
      unfold planning at hp ⊢
      rw [if_neg (fun e => e hc)] at hp ⊢
      split at hp
      · -- a passed trial leaves PLANNING
        rw [(progress_spec _ .planning rfl (by split <;> exact hn) (by split <;> exact hc)).1] at hp
        cases hp
      · rename_i htr
        rw [if_neg htr]
        unfold failStage
        split <;> rfl
    | access | manipulation | exploit =>
      -- these end in their own stage, its successor or FAILED: not PLANNING
      rcases hres with ⟨e1, _⟩ | ⟨e1, _⟩ | e1 <;> rw [hp] at e1 <;> cases e1
    | _ => cases hx

theorem chosen_setNext (c : Cfg) (s : St) (b d : Int) : (setNext c s b d).cur = s.cur := (setNext_fields c s b d).1

/-- An execution slot: `current_timestep` becomes the slot's timestep, the action returned is the chosen action, and a
slot that ends in PLANNING chose do-nothing. -/
theorem core_slot (c : Cfg) (s : St) (t : Int) (i : In) (ht : 0 ≤ t) (hn : NR c s) (hrs : ReasonOk c s)
    (hex : executes s t = true) :
    (getActionCore c s t i).1.curT = t ∧
    ((getActionCore c s t i).1.cur = .planning → (getActionCore c s t i).2 = Act.nothing) := by
  obtain ⟨x, hx⟩ := lookBack_some s hn.curT
  have hr2 := hrs x hx
  have hr := nr_returnHandler c x s hn
  rw [getActionCore_slot c s t i hex x hx]
  generalize returnHandler c x s = s1 at hr hr2 ⊢
  split
  · rename_i hpass
    dsimp only
    refine ⟨by unfold mainPath; simp only [ct_bodies, ct_outcomeHandler, ct_setNext], ?_⟩
    -- the stage methods run on what `failPath` computes
    exact bodies_planning_nothing c i _ (nr_failPath c _ t i ht (nr_reasonCheck c x s1 (hr2 hpass) hr))
  · rename_i hnp
    dsimp only
    refine ⟨by unfold failPath; simp only [ct_outcomeHandler, ct_setNext], fun hpl => ?_⟩
    exfalso
    unfold failPath at hpl
    rcases outcome_cur c (setNext c { s1 with curT := t } (t + c.frequency) i.d1) with e | e <;> rw [e] at hpl
    · rw [(setNext_fields c _ _ _).1] at hpl
      have hpl' : s1.cur = .planning := hpl
      simp [passes, hpl'] at hnp
    · cases hpl

theorem hl_step (c : Cfg) (s : St) (t : Int) (i : In) (hw : WF c s t) (hn : NR c s) (hl : HL s t) (hrs : ReasonOk c s)
    (hi : Hist.loginOk { act := (getAction c s t i).2, resp := i.resp }) (hd : s.dead = false) :
    HL (step c s t i).1 (t + 1) := by
  obtain ⟨_, _, _, hh, hcur, hct⟩ := nr_step c s t i hw.tpos hrs hi hd hn
  refine ⟨by rw [hh, List.length_append, ← hl.1]; rfl, ?_⟩
  rw [hh, hcur, hct]
  intro hpl x hx
  cases hex : executes s t with
  | false =>
    rw [getAction_idle c s t i hex] at hpl hx
    dsimp only at hpl hx
    rw [(preGuard_fields c s).1] at hpl
    rw [ct_preGuard] at hx
    have hlt : s.curT < t := by
      rcases hw.curT_lt with e | e
      · exact e
      · rw [e] at hpl; cases hpl
    rw [pyIndex_append_lt _ _ _ hw.curT (by rw [hl.1]; exact hlt)] at hx
    exact hl.2 hpl x hx
  | true =>
    have hcs := core_slot c (preGuardHandlers c s) t i hw.tpos (nr_preGuard c s hn) (reasonOk_preGuard c s hrs)
      (by rw [executes_preGuard]; exact hex)
    unfold getAction at hpl hx
    rw [hcs.1] at hx
    rw [pyIndex_append_eq _ _ _ hl.1.symm] at hx
    cases hx
    show (getActionCore c (preGuardHandlers c s) t i).2.kind = .doNothing
    rw [hcs.2 hpl]; rfl

/-- The responses of a run are what the simulator promises for the actions the agent actually returned. -/
def RunSimOk (c : Cfg) : St → Int → List In → Prop
  | _, _, [] => True
  | s, t, i :: is => SimOk (getAction c s t i).2 i.resp ∧ RunSimOk c (step c s t i).1 (t + 1) is

theorem run_sim (c : Cfg) : ∀ (ins : List In) (s : St) (t : Int), RunSimOk c s t ins → s.dead = false → NR c s → WF c s t →
    HL s t → AllDN s →
    (NR c (after c s t ins) ∧ (after c s t ins).dead = false) ∧ ∀ o ∈ runOut c s t ins, o.2 ≠ .raised := by
  intro ins
  induction ins with
  | nil => intro s t _ hd h _ _ _; exact ⟨⟨h, hd⟩, fun o ho => (by cases ho)⟩
  | cons i is ih =>
    intro s t hsim hd h hw hl hdn
    have hrs := reasonOk_of_HL c s t hl hdn
    have hi : Hist.loginOk { act := (getAction c s t i).2, resp := i.resp } := fun hk hok => hsim.1.2 hk hok
    obtain ⟨h1, hd1, ho1, hh1, _, _⟩ := nr_step c s t i hw.tpos hrs hi hd h
    have hl1 := hl_step c s t i hw h hl hrs hi hd
    have hdn1 : AllDN (step c s t i).1 := by
      unfold AllDN
      rw [hh1]
      exact List.forall_mem_append.2 ⟨hdn, List.forall_mem_singleton.2 hsim.1.1⟩
    obtain ⟨ha, hr⟩ := ih (step c s t i).1 (t + 1) hsim.2 hd1 h1 (wf_step c s t i hw) hl1 hdn1
    exact ⟨ha, List.forall_mem_cons.2 ⟨ho1 ▸ Out.noConfusion, hr⟩⟩

instance (a : Act) (r : Resp) : Decidable (SimOk a r) := by unfold SimOk; infer_instance

instance decRunSimOk (c : Cfg) : ∀ (ins : List In) (s : St) (t : Int), Decidable (RunSimOk c s t ins)
  | [], _, _ => isTrue trivial
  | i :: is, s, t => by
    unfold RunSimOk
    exact @instDecidableAnd _ _ inferInstance (decRunSimOk c is _ _)

/-- **A validated TAP003 never raises in the simulation.**  Same statement as `C19_tap3_validated_never_raises`, with the
hypothesis on the responses reduced to what the simulator's two construction sites give (`SimOk`, per action actually
returned): do-nothing is answered success; a successful remote login carries its data.  No assumption on failed responses. -/
theorem C19_tap3_validated_never_raises_sim (c : Cfg) (d0 : Int) (k : Nat) (s0 : St) (ins : List In)
    (h0 : init c d0 k = some s0) (hsim : RunSimOk c s0 0 ins) :
    (∀ o ∈ runOut c s0 0 ins, o.2 ≠ .raised) ∧ (after c s0 0 ins).dead = false ∧ NR c (after c s0 0 ins) := by
  have hinit := init_fields c d0 k s0 h0
  have hl : HL s0 0 := ⟨by rw [hinit.2.1]; rfl, fun hp => by rw [hinit.2.2] at hp; cases hp⟩
  have hdn : AllDN s0 := by intro x hx; rw [hinit.2.1] at hx; cases hx
  obtain ⟨⟨hn, hdd⟩, ho⟩ := run_sim c ins s0 0 hsim hinit.1 (nr_init c d0 k s0 h0) (wf_init c d0 k s0 h0) hl hdn
  exact ⟨ho, hdd, hn⟩

/-- Non-vacuity and necessity of (1): a run whose responses are all failures WITHOUT a reason but which answers
do-nothing with success cannot be built — the first action is a do-nothing; conversely a failed, reason-less answer to
the do-nothing of RECONNAISSANCE makes the PLANNING slot raise. -/
example : ∃ s0, init exCfg 0 0 = some s0 ∧
    (runOut exCfg s0 0 (List.replicate 2 exIn ++ List.replicate 4 { exIn with resp := { ok := false, hasReason := false } })).any
      (fun o => o.2 == .raised) = true := by
  refine ⟨_, rfl, by decide +kernel⟩

/-- … while failed logins without a reason (what `Terminal._remote_login` really answers) are harmless: `SimOk` holds
and nothing raises. -/
example : ∃ s0, init exCfg 0 0 = some s0 ∧
    RunSimOk exCfg s0 0 (List.replicate 5 exIn ++ List.replicate 6 { exIn with resp := { ok := false, hasReason := false } }) := by
  refine ⟨_, rfl, ?_⟩
  decide +kernel

end Tap3
end Primaite.Agents
