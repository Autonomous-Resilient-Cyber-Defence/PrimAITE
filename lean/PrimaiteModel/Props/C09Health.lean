/-
C09 — the simulator-side condition of the folder-cache invariant (`ScanCoherent`, `C09_folder_cache_tracks_visible`), proved about
C14's health model (`Model/Health.lean`, the item-wise form of its operations in `Lemmas/HealthEff.lean` and C14's one-step equation
`folderEff_visible` of `Props/C14.lean`; C14's rig validates that model against the real node on every run):

  a folder's `visible` health changes only inside a timestep, and only when a scan of it completes in that timestep
  (its own timed scan reaching 0, or the whole-node scan fanning out) — never through a request, a power event or a restore.

The two code sites where the model says it changes are exactly the two sites of `folder.py` that assign `visible_health_status`, and
both set `_scanned_this_step = True` (Gen tie `C09_gen_folder_flag`), which `pre_timestep` clears at the start of the next step.
-/
import PrimaiteModel.Props.C14
import PrimaiteModel.Gen.ObsCfgTables
import PrimaiteModel.Props.C09
namespace Primaite.Health
open Primaite.Gen

/-- every assignment to a folder's `visible_health_status` is followed, in the same function, by `_scanned_this_step = True`; the
flag is cleared in `pre_timestep` only; nothing else under simulator/ assigns a folder's visible health (files: `File.scan`, and
the database service restoring its own file) -/
theorem C09_gen_folder_flag :
    ObsCfgTables.folderVisibleWriters = [("_scan_timestep", true), ("scan", true)] ∧
    ObsCfgTables.folderFlagClearedIn = ["pre_timestep"] ∧
    ObsCfgTables.visibleHealthStatusAssignedIn =
      ["simulator/file_system/file.py:scan:self", "simulator/file_system/folder.py:_scan_timestep:self",
       "simulator/file_system/folder.py:scan:self", "simulator/system/services/database/database_service.py:restore_backup:self.db_file"] := by
  and_intros <;> rfl

/-- the visible health of the node's folders, by position -/
def Node.c09hVis (n : Node) : List FsH := n.folders.map (fun F => F.visible)

/-- **no request, power event or external write changes any folder's visible health** — only `tick` can -/
theorem C09_health_visible_unchanged_by_requests (n : Node) (op : Op) (h : op ≠ .tick) : (n.apply op).c09hVis = n.c09hVis := by
  unfold Node.c09hVis
  rw [apply_folders, List.map_map]
  exact List.map_congr_left fun G _ => (folderEff_quiet n op G h).visible

/-- the whole-node scan fans out in this timestep (`m` = the node after the power phase) -/
def c09h_nodeScanFires (m : Node) : Prop := m.scanCd > 0 ∧ m.scanCd - 1 = 0

/-- the folder's own timed scan completes in this timestep: `_scan_timestep` reaches 0 (the code then sets `_scanned_this_step`) -/
def c09h_timedScanCompletes (F : Folder) : Prop := F.deleted = false ∧ F.scanCd ≥ 0 ∧ F.scanCd - 1 = 0

theorem c09h_instantScan_fields (F : Folder) : F.instantScan.scanCd = F.scanCd ∧ F.instantScan.deleted = F.deleted :=
  ⟨F.instantScan_scanCd, F.instantScan_deleted⟩

/-- what one timestep does to one folder of a node that is ON after the power phase -/
def c09h_tickFolder (m : Node) (F : Folder) : Folder :=
  (fun G : Folder => if G.deleted then G else G.tick) (if m.scanCd > 0 ∧ m.scanCd - 1 = 0 then F.instantScan else F)

/-- **inside a timestep a folder's visible health changes only if a scan of it completes in that timestep** -/
theorem c09h_tickFolder_visible (m : Node) (F : Folder) (h : (c09h_tickFolder m F).visible ≠ F.visible) :
    (c09h_nodeScanFires m ∧ F.deleted = false) ∨ c09h_timedScanCompletes F := by
  cases hd : F.deleted with
  | true => simp [c09h_tickFolder, Folder.instantScan, hd] at h
  | false =>
    by_cases hf : m.scanCd > 0 ∧ m.scanCd - 1 = 0
    · exact Or.inl ⟨hf, rfl⟩
    · simp only [c09h_tickFolder, if_neg hf, hd, Bool.false_eq_true, if_false] at h
      have := (ite_changed F.tick_visible h).1
      exact Or.inr ⟨hd, by omega⟩

theorem c09h_mem_zip_map {α β} {f : α → β} : ∀ {l : List α} {p : α × β}, p ∈ l.zip (l.map f) → p.2 = f p.1
  | [], _, h => nomatch h
  | _ :: _, _, h => by
    rcases List.mem_cons.mp h with rfl | h
    · rfl
    · exact c09h_mem_zip_map h

/-- **the condition C09's folder-cache theorem assumes, for every operation of C14's node model**: position by position, a folder whose
visible health differs after the operation went through a timestep in which the node (after its power phase) was ON and a scan of that
folder completed — the node scan fanning out, or the folder's timed scan reaching 0.  In both places the code sets
`_scanned_this_step` (`C09_gen_folder_flag`), and the observation of that step reads the flag before `pre_timestep` clears it. -/
theorem C09_health_visible_changes_only_with_scan (n : Node) (op : Op) :
    ∀ p ∈ n.folders.zip (n.apply op).folders, p.2.visible ≠ p.1.visible →
      op = .tick ∧ n.powerPhase.power = .on ∧ ((c09h_nodeScanFires n.powerPhase ∧ p.1.deleted = false) ∨ c09h_timedScanCompletes p.1) := by
  intro p hp hne
  rw [apply_folders] at hp
  rw [c09h_mem_zip_map hp] at hne
  have hc := (ite_changed (folderEff_visible n op p.1) hne).1
  by_cases hop : op = .tick
  · subst hop
    simp only [folderScanCompletes, Bool.and_eq_true, Bool.or_eq_true, decide_eq_true_eq, Bool.not_eq_true'] at hc
    obtain ⟨⟨hon, hd⟩, h⟩ := hc
    refine ⟨rfl, hon, h.imp (fun h => ⟨?_, hd⟩) (fun h => ⟨hd, ?_⟩)⟩
    · unfold c09h_nodeScanFires; omega
    · omega
  · rw [folderScanCompletes_of_ne_tick n p.1 hop] at hc
    cases hc

/-! #### non-vacuity: a folder whose timed scan completes in the next tick changes its visible health; the same folder one tick
earlier does not -/

def c09h_exFolder (cd : Int) : Folder :=
  { name := "root", deleted := false, actual := .good, visible := .none, scanDur := 3, scanCd := cd, restoreDur := 3, restoreCd := -1,
    files := [{ name := "a", actual := .corrupt, visible := .none, deleted := false }] }

example : (c09h_exFolder 1).tick.visible = .corrupt ∧ (c09h_exFolder 2).tick.visible = .none ∧ c09h_timedScanCompletes (c09h_exFolder 1) := by
  refine ⟨by decide, by decide, by unfold c09h_timedScanCompletes; decide⟩

/-! ### the flag itself, and the bridge to C09's folder-cache theorem

C14's model has no `_scanned_this_step` field.  Here is the flag as the CODE sets it (`C09_gen_folder_flag`: cleared by `pre_timestep` at
the start of every step; set by `scan(instant_scan=True)` — the node scan fanning out over a live folder — and by `_scan_timestep` when a
live folder's countdown reaches 0), defined next to C14's tick, and the proof that it is true in every tick in which the visible health
moves.  A whole trajectory of environment steps — each one: any requests (they never touch the visible health), then the tick, on a
node that is ON or not — therefore satisfies `Obs.ScanCoherent`, the hypothesis of `C09_folder_cache_tracks_visible`. -/

/-- `_scanned_this_step` at the end of a tick starting from `m` (the node after its power phase, ON) -/
def c09h_flagAfterTick (m : Node) (F : Folder) : Bool :=
  (decide (m.scanCd > 0 ∧ m.scanCd - 1 = 0) && !F.deleted) || (!F.deleted && decide (F.scanCd ≥ 0 ∧ F.scanCd - 1 = 0))

/-- **whenever a tick changes a folder's visible health, the flag is set in that tick** -/
theorem C09_health_flag_set_when_visible_changes (m : Node) (F : Folder) (h : (c09h_tickFolder m F).visible ≠ F.visible) :
    c09h_flagAfterTick m F = true := by
  rcases c09h_tickFolder_visible m F h with ⟨hf, hd⟩ | ⟨hd, h1, h2⟩
  · unfold c09h_nodeScanFires at hf
    simp [c09h_flagAfterTick, hf.1, hf.2, hd]
  · simp [c09h_flagAfterTick, hd, h1, h2]

/-- one environment step as far as one folder is concerned: what the requests of the step do to it (anything that keeps the visible
health — `C09_health_visible_unchanged_by_requests`), the node after its power phase, and whether that node is ON (else nothing ticks) -/
structure c09h_Step where
  m : Node
  on : Bool
  r : Folder → Folder
  hr : ∀ F, (r F).visible = F.visible

def c09h_stepFolder (s : c09h_Step) (F : Folder) : Folder := if s.on then c09h_tickFolder s.m (s.r F) else s.r F
def c09h_stepFlag (s : c09h_Step) (F : Folder) : Bool := if s.on then c09h_flagAfterTick s.m (s.r F) else false

/-- what `describe_state()` shows of the folder after each step: visible health and `scanned_this_step` -/
def c09h_trace : Folder → List c09h_Step → List Primaite.Obs.FolderState
  | _, [] => []
  | F, s :: rest =>
    { health := (c09h_stepFolder s F).actual.value, visible := (c09h_stepFolder s F).visible.value, scanned := c09h_stepFlag s F, files := [] } ::
      c09h_trace (c09h_stepFolder s F) rest

theorem c09h_step_visible (s : c09h_Step) (F : Folder) (h : c09h_stepFlag s F = false) :
    (c09h_stepFolder s F).visible = F.visible := by
  unfold c09h_stepFlag at h
  unfold c09h_stepFolder
  cases hon : s.on with
  | false => exact s.hr F
  | true =>
    simp only [hon, if_true] at h ⊢
    rw [← s.hr F]
    by_cases hv : (c09h_tickFolder s.m (s.r F)).visible = (s.r F).visible
    · exact hv
    · rw [C09_health_flag_set_when_visible_changes s.m (s.r F) hv] at h
      cases h

/-- **every trajectory of C14's folder, with the flag set where the code sets it, is scan-coherent** -/
theorem C09_health_trace_scan_coherent : ∀ (steps : List c09h_Step) (F : Folder),
    Primaite.Obs.ScanCoherent F.visible.value (c09h_trace F steps)
  | [], _ => trivial
  | s :: rest, F => ⟨fun hflag => congrArg FsH.value (c09h_step_visible s F hflag),
      C09_health_trace_scan_coherent rest (c09h_stepFolder s F)⟩

/-- **the folder leaf of the observation equals the visible health of C14's folder at EVERY step of every such trajectory** (scanning
required, cache initially equal to the visible health — both 0 for a fresh object and a never-scanned folder) -/
theorem C09_folder_leaf_tracks_health_model (o : Primaite.Obs.FolderObs) (F : Folder) (steps : List c09h_Step)
    (hs : o.scan = true) (hc : o.cached = F.visible.value) :
    Primaite.Obs.folderRun o (c09h_trace F steps) = (c09h_trace F steps).map (fun f => f.visible) :=
  Primaite.Obs.C09_folder_cache_tracks_visible (c09h_trace F steps) o F.visible.value hs hc (C09_health_trace_scan_coherent steps F)

def c09h_exNode : Node :=
  { power := .on, startDur := 0, startCd := 0, shutDur := 0, shutCd := 0, resetting := false, scanDur := 3, scanCd := 0, sws := [], folders := [] }
def c09h_exStep : c09h_Step := { m := c09h_exNode, on := true, r := id, hr := fun _ => rfl }

/-- non-vacuity: a corrupt file, the folder's timed scan completing in the second step: visible NONE then CORRUPT, flag false then true -/
example : (c09h_trace (c09h_exFolder 2) [c09h_exStep, c09h_exStep, c09h_exStep]).map (fun f => (f.visible, f.scanned)) =
    [(FsH.none.value, false), (FsH.corrupt.value, true), (FsH.corrupt.value, false)] := by decide

end Primaite.Health
