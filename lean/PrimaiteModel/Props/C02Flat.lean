import PrimaiteModel.Props.C02Cfg
import PrimaiteModel.Model.ObsFlat

/-! # C02 — flattened observations in gymnasium's ORDER

Membership, flattenability and the flattened length do not depend on the order in which a `Dict` lists its children, so everything
proved about the space as PrimAITE builds it holds for the space as gymnasium stores it; and the flattened vector in gymnasium's own
order is a 0/1 vector of the declared length. -/

namespace Primaite.Obs
open Primaite.Gen

/-- only `NICObservation.space` builds its `Dict` incrementally (the one place where `Space.gym` keeps the order of construction) -/
theorem C02_gen_space_incremental : ObsTables.spaceBuiltIncrementally = ["NICObservation"] := rfl

theorem insertBy_perm {α} (lt : Key → Key → Bool) (p : Key × α) : ∀ l : List (Key × α), (insertBy lt p l).Perm (p :: l)
  | [] => List.Perm.refl _
  | q :: rest => by
    unfold insertBy
    split
    · exact List.Perm.refl _
    · exact ((insertBy_perm lt p rest).cons q).trans (List.Perm.swap p q rest)

theorem sortBy_perm {α} (lt : Key → Key → Bool) : ∀ l : List (Key × α), (sortBy lt l).Perm l
  | [] => List.Perm.refl _
  | p :: rest => by
    unfold sortBy
    exact (insertBy_perm lt p _).trans ((sortBy_perm lt rest).cons p)

/-- gymnasium's re-ordering loses and invents nothing -/
theorem gymOrder_perm {α} (l : List (Key × α)) : (gymOrder l).Perm l := by
  unfold gymOrder
  split
  · exact sortBy_perm _ l
  · split
    · exact sortBy_perm _ l
    · exact List.Perm.refl _

theorem gymL_eq_map (kvs : List (Key × Space)) : Space.gymL kvs = kvs.map (fun p => (p.1, p.2.gym)) := by
  induction kvs with
  | nil => rfl
  | cons p rest ih => simp [Space.gymL, ih]

theorem keysOf_gymL (kvs : List (Key × Space)) : keysOf (Space.gymL kvs) = keysOf kvs := by
  rw [gymL_eq_map]; simp [keysOf]

def slotOk (vs : List (Key × Val)) (p : Key × Space) : Bool :=
  match lookupK p.1 vs with
  | some v => contains p.2 v
  | none => false

theorem containsAll_eq_all (vs : List (Key × Val)) : ∀ ss : List (Key × Space), containsAll ss vs = ss.all (slotOk vs)
  | [] => by simp [containsAll]
  | p :: rest => by
    rw [containsAll, containsAll_eq_all vs rest]
    simp only [List.all_cons]
    rfl

theorem containsAll_perm {ss ss' : List (Key × Space)} (h : ss.Perm ss') (vs : List (Key × Val)) :
    containsAll ss vs = containsAll ss' vs := by
  rw [containsAll_eq_all, containsAll_eq_all]
  exact h.all_eq

theorem keysCovered_perm {ss ss' : List (Key × Space)} (h : ss.Perm ss') (vs : List (Key × Val)) :
    (keysOf vs).all (fun k => (keysOf ss).contains k) = (keysOf vs).all (fun k => (keysOf ss').contains k) :=
  congrArg (keysOf vs).all (funext fun _ => (h.map Prod.fst).contains_eq)

mutual
/-- membership does not depend on the order in which the `Dict`s list their children -/
theorem C02_contains_gym : ∀ (s : Space) (v : Val), contains s.gym v = contains s v
  | .discrete n, v => by simp [Space.gym]
  | .dict kvs, .int _ => by simp only [Space.gym]; split <;> simp [contains]
  | .dict kvs, .raised => by simp only [Space.gym]; split <;> simp [contains]
  | .dict kvs, .dict vs => by
    simp only [Space.gym]
    split
    · rfl
    simp only [contains]
    rw [containsAll_perm (gymOrder_perm (Space.gymL kvs)) vs, keysCovered_perm (gymOrder_perm (Space.gymL kvs)) vs,
        keysOf_gymL, C02_containsAll_gymL kvs vs]
theorem C02_containsAll_gymL : ∀ (kvs : List (Key × Space)) (vs : List (Key × Val)), containsAll (Space.gymL kvs) vs = containsAll kvs vs
  | [], _ => by simp [Space.gymL, containsAll]
  | p :: rest, vs => by
    simp only [Space.gymL, containsAll]
    rw [C02_containsAll_gymL rest vs]
    cases lookupK p.1 vs with
    | none => rfl
    | some v => simp only [C02_contains_gym p.2 v]
end

theorem flatDimL_eq_sum (l : List (Key × Space)) : flatDimL l = (l.map (fun p => flatDim p.2)).sum := by
  induction l with
  | nil => simp [flatDimL]
  | cons p rest ih => simp [flatDimL, ih]

theorem flattenableL_eq_all (l : List (Key × Space)) : flattenableL l = l.all (fun p => p.2.flattenable) := by
  induction l with
  | nil => simp [flattenableL]
  | cons p rest ih => simp [flattenableL, ih]

mutual
/-- the flattened length is the same in gymnasium's order -/
theorem C02_flatDim_gym : ∀ s : Space, flatDim s.gym = flatDim s
  | .discrete n => by simp [Space.gym]
  | .dict kvs => by
    simp only [Space.gym]
    split
    · rfl
    simp only [flatDim]
    rw [flatDimL_eq_sum, ((gymOrder_perm (Space.gymL kvs)).map _).sum_nat, ← flatDimL_eq_sum, C02_flatDimL_gymL kvs]
theorem C02_flatDimL_gymL : ∀ kvs : List (Key × Space), flatDimL (Space.gymL kvs) = flatDimL kvs
  | [] => by simp [Space.gymL]
  | p :: rest => by simp only [Space.gymL, flatDimL]; rw [C02_flatDim_gym p.2, C02_flatDimL_gymL rest]
end

mutual
/-- gymnasium can flatten the stored space exactly when the space as built has no empty `Dict` -/
theorem C02_flattenable_gym : ∀ s : Space, s.gym.flattenable = s.flattenable
  | .discrete n => by simp [Space.gym]
  | .dict kvs => by
    simp only [Space.gym]
    split
    · rfl
    simp only [Space.flattenable]
    rw [flattenableL_eq_all, (gymOrder_perm (Space.gymL kvs)).all_eq, ← flattenableL_eq_all, C02_flattenableL_gymL kvs,
        (gymOrder_perm (Space.gymL kvs)).isEmpty_eq, gymL_eq_map, List.isEmpty_map]
theorem C02_flattenableL_gymL : ∀ kvs : List (Key × Space), flattenableL (Space.gymL kvs) = flattenableL kvs
  | [] => by simp [Space.gymL]
  | p :: rest => by simp only [Space.gymL, flattenableL]; rw [C02_flattenable_gym p.2, C02_flattenableL_gymL rest]
end

/-- **the vector an RL agent receives** (gymnasium's own order): for a member of a space gymnasium can flatten, `flatten` does not
raise and gives a 0/1 vector whose length is `flatDim` of the space as PrimAITE declares it -/
theorem C02_gym_flatten_length (s : Space) (v : Val) (hf : s.flattenable = true) (hc : contains s v = true) :
    ∃ x, gymFlatten s v = some x ∧ x.length = flatDim s ∧ ∀ b ∈ x, b ≤ 1 := by
  obtain ⟨x, hx, hl, hb⟩ := C02_flatten_length_partial s.gym v (by rw [C02_flattenable_gym]; exact hf) (by rw [C02_contains_gym]; exact hc)
  exact ⟨x, hx, by rw [hl, C02_flatDim_gym], hb⟩

/-- the order is NOT the order of construction: ten and more hosts are sorted as strings, and the classes' `SERVICES` / `APPLICATIONS`
are sorted too; int keys stay numeric; mixed keys keep their insertion order -/
example : keysOf (gymOrder [(Key.si "HOST" 2, 0), (Key.si "HOST" 10, 1), (Key.si "HOST" 1, 2)]) = [.si "HOST" 1, .si "HOST" 10, .si "HOST" 2] ∧
    keysOf (gymOrder [(Key.s "SERVICES", 0), (Key.s "APPLICATIONS", 1)]) = [.s "APPLICATIONS", .s "SERVICES"] ∧
    keysOf (gymOrder [(Key.n 10, 0), (Key.n 2, 1)]) = [.n 2, .n 10] ∧
    keysOf (gymOrder [(Key.s "b", 0), (Key.n 1, 1), (Key.s "a", 2)]) = [.s "b", .n 1, .s "a"] := ⟨rfl, rfl, rfl, rfl⟩

/-- an interface's `Dict` keeps the order in which `NICObservation.space` adds its keys (`nic_status`, `NMNE`, `TRAFFIC`), although
`NMNE < TRAFFIC < nic_status` as strings; the host around it is sorted -/
example : (Space.dict [(.s "operating_status", .discrete 5), (.s "NICS", .dict [(.n 1, .dict [(.s "nic_status", .discrete 3), (.s "NMNE", .discrete 4)])])]).gym =
    .dict [(.s "NICS", .dict [(.n 1, .dict [(.s "nic_status", .discrete 3), (.s "NMNE", .discrete 4)])]), (.s "operating_status", .discrete 5)] := by
  rfl

end Primaite.Obs
