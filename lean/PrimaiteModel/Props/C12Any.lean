/-
C12: user sessions and power — the time-out sweep does not look at the node's power (and agrees with C16's model of it), no login
while not ON, and a session that survives a power cycle cannot be used while the node is not ON.
-/
import PrimaiteModel.Props.C12Cycle
import PrimaiteModel.Model.Session
namespace Primaite.Power

/-- the regenerated text of the sweep: it stamps `current_timestep`, collects the local session if
`last_active_step + local_session_timeout_steps <= timestep` and every remote session likewise, and times them out;
neither it nor `_timeout_session` mentions `operating_state` or `_can_perform_action`; `_login` starts with
`if not self._can_perform_action(): return None` -/
theorem C12_gen_session_shapes :
    Gen.Power.sessionShapes =
      [("pre_timestep", "self.current_timestep = timestep;inactive_sessions: list = [];if(self.local_session)[if(self.local_session.last_active_step + self.local_session_timeout_steps <= timestep)[inactive_sessions.append(self.local_session)]];for(session in self.remote_sessions)[remote_session = self.remote_sessions[session];if(remote_session.last_active_step + self.remote_session_timeout_steps <= timestep)[inactive_sessions.append(remote_session)]];for(sessions in inactive_sessions)[self._timeout_session(sessions)]"),
       ("login_guarded", "true"), ("sweep_power_blind", "true"),
       ("remote_limit", "return len(self.remote_sessions) >= self.max_remote_sessions")] := rfl

/-- the sweeps of the pre-timesteps `t, t+1, …, t+k-1` -/
def Sessions.preRun (s : Sessions) (t : Int) : Nat → Sessions
  | 0 => s
  | k + 1 => (s.pre t).preRun (t + 1) k

theorem Sessions.pre_loc (s : Sessions) (t : Int) :
    (s.pre t).loc = (match s.loc with | some l => if l + s.localTimeout ≤ t then none else some l | none => none) ∧
    (s.pre t).localTimeout = s.localTimeout ∧ (s.pre t).remoteTimeout = s.remoteTimeout := ⟨rfl, rfl, rfl⟩

/-- the local session over `k` consecutive sweeps starting at `t`: once gone it stays gone, and one last active at `a` is
kept exactly until the sweep of tick `a + timeout` -/
theorem Sessions.preRun_loc (s : Sessions) (t : Int) (k : Nat) :
    (s.preRun t k).loc = (match s.loc with
      | some a => if 0 < k ∧ a + s.localTimeout ≤ t + k - 1 then none else some a
      | none => none) := by
  induction k generalizing s t with
  | zero =>
    show s.loc = _
    cases s.loc <;> simp
  | succ k ih =>
    show ((s.pre t).preRun (t + 1) k).loc = _
    rw [ih]
    show (match (match s.loc with | some l => if l + s.localTimeout ≤ t then none else some l | none => none) with
      | some a => if 0 < k ∧ a + s.localTimeout ≤ t + 1 + k - 1 then none else some a
      | none => none) = _
    cases s.loc with
    | none => rfl
    | some a =>
      dsimp only
      by_cases h : a + s.localTimeout ≤ t
      · rw [if_pos h, if_pos ⟨by omega, by push_cast; omega⟩]
      · rw [if_neg h]
        dsimp only
        by_cases h2 : 0 < k ∧ a + s.localTimeout ≤ t + 1 + k - 1
        · rw [if_pos h2, if_pos ⟨by omega, by push_cast; omega⟩]
        · rw [if_neg h2, if_neg (fun h3 => h2 ⟨by omega, by have := h3.2; push_cast at this; omega⟩)]

/-- **when a session ends.** Whatever happens to the node in between — shutdown, OFF, boot, reset, any request — the
sweep is a function of the sessions and the time alone (`Sessions.pre` does not take the node), so over `k` consecutive
pre-timesteps starting at `t` a local session last active at `a` survives iff `t + k - 1 < a + timeout`, i.e. it is ended
by the pre-timestep of tick `a + timeout` exactly, on an OFF node as on an ON node. -/
theorem C12_session_ends_at_timeout (s : Sessions) (a t : Int) (k : Nat) (hl : s.loc = some a) (hk : 0 < k) :
    (s.preRun t k).loc = (if a + s.localTimeout ≤ t + k - 1 then none else some a) := by
  rw [Sessions.preRun_loc, hl]
  simp only [hk, true_and]

/-- the remote sessions likewise: the sweep keeps exactly those with `last_active + timeout > t` -/
theorem C12_remote_sessions_after_sweep (s : Sessions) (t : Int) :
    (s.pre t).rem = s.rem.filter (fun r => decide (t < r + s.remoteTimeout)) := by
  show s.rem.filter _ = _
  congr 1
  funext r
  by_cases h : r + s.remoteTimeout ≤ t <;> simp [h] <;> omega

/-- **no login while not ON**: `_login` begins with `_can_perform_action`, which needs the node ON and the service
RUNNING — and an OFF node has no RUNNING service anyway (`OffInvS`) -/
theorem C12_login_needs_on (n : Node) (i : Nat) (s : Sessions) (remote : Bool) (hne : n.st ≠ .on) :
    s.login (usmCanPerform n i) remote = (s, false) := by
  have : usmCanPerform n i = false := by
    unfold usmCanPerform
    split
    · rw [isOn_false hne]; rfl
    · rfl
  rw [this]; rfl

/-- **is that what the code should do?** C16's own model of `UserSessionManager.pre_timestep` (`Model/Session.lean`, tied to
the code by C16's rig, power events included) decides expiry by the same comparison and does not read the node's power
either; C16's property ("inactivity time-out … end[s] the ability to run commands on that session") and its theorem
`C16_timeout_expired_gone` carry no power hypothesis. So: yes — a session of a node that is OFF must be gone at
`last_active + timeout`, and it is. What a powered-down node does NOT do is accept a login (`C12_login_needs_on`) or let
the time-out notification of a remote session out of its disabled interface (`C12_not_on_no_traffic`). What neither
property asks for, and the code does not do, is end sessions AT shutdown: a session younger than the time-out survives a
power cycle (observed by the rig; recorded for C16, not a C12 matter). -/
theorem C12_session_expiry_agrees_with_C16 (nd : Primaite.Session.Node) (p : Primaite.Session.Power) (nic : Bool) (t : Nat) :
    ({ nd with power := p, nic := nic } : Primaite.Session.Node).localExpired t = nd.localExpired t ∧
    ({ nd with power := p, nic := nic } : Primaite.Session.Node).expired t = nd.expired t ∧
    (nd.localExpired t = true ↔ ∃ l, nd.loc = some l ∧
      (({ loc := some (l.last : Int), localTimeout := nd.localTimeout } : Sessions).pre t).loc = none) := by
  refine ⟨rfl, rfl, ?_⟩
  unfold Primaite.Session.Node.localExpired
  cases hl : nd.loc with
  | none => simp
  | some l =>
    simp only [Option.some.injEq, exists_eq_left', decide_eq_true_eq]
    rw [(Sessions.pre_loc _ _).1]
    simp only
    constructor
    · intro h; rw [if_pos (by exact_mod_cast h)]
    · intro h
      by_cases hc : (l.last : Int) + (nd.localTimeout : Int) ≤ (t : Int)
      · exact_mod_cast hc
      · rw [if_neg hc] at h; cases h

/-- non-vacuity: logged in at step 2 with time-out 3; the node is shut down at once; sweeps 3 and 4 keep the session,
sweep 5 ends it — the node is OFF all along -/
example : let s : Sessions := { now := 2, loc := some 2, localTimeout := 3 }
    ((s.preRun 3 2).loc, (s.preRun 3 3).loc) = (some 2, none) := by decide

/-- what can be done TO or WITH the sessions of a node from outside: a request to the node, a login attempt, a frame
arriving at an interface (a remote terminal command, a remote logoff, a remote login are frames), the sweep of a tick -/
inductive SOp
  | req (key : String) (sub : Sub)
  | login (usm : Nat) (remote : Bool)
  | frame (i : Nat)
  | sweep (t : Int)
deriving DecidableEq, Repr

/-- the visible outcome: the request's answer / whether the login succeeded / how far the frame climbed -/
inductive SOut
  | resp (r : Resp) | login (ok : Bool) | climbed (l : List Layer) | swept
deriving DecidableEq, Repr

def sstep (tbl : List Route) (ns : Node × Sessions) : SOp → (Node × Sessions) × SOut
  | .req key sub => (((request tbl ns.1 key sub).1, ns.2), .resp (request tbl ns.1 key sub).2)
  | .login j remote => ((ns.1, (ns.2.login (usmCanPerform ns.1 j) remote).1), .login (ns.2.login (usmCanPerform ns.1 j) remote).2)
  | .frame i => (ns, .climbed (frameClimbs ns.1 i))
  | .sweep t => ((ns.1, ns.2.pre t), .swept)

/-- **a surviving session is inert while its node is not ON.** Nothing in the code ends a session when its node shuts
down, so a session younger than the time-out is still in the (STOPPED) session manager when the node is OFF, and is
there again when the services come back. C12 does not forbid that: its text is about what a node that is not ON DOES —
no service RUNNING once OFF (the session manager is STOPPED: `C12_off_nothing_running`), every request but start-up
refused, no traffic processed — not about what a stopped service remembers. What C12 does demand holds: while the node is
not ON (interfaces down, as they are on every reachable state) the session can be neither used nor refreshed nor joined —
every request other than `startup` is refused and changes neither node nor sessions (`remote_logoff`, terminal and
user-manager requests included), every login is refused, every frame (remote command, remote login, remote logoff) stops
at the interface; the ONLY thing that happens to the sessions is the time-out sweep, which can only end them. -/
theorem C12_session_inert_while_not_on {tbl : List Route} (hg : allGuarded tbl = true) (n : Node) (s : Sessions)
    (hne : n.st ≠ .on) (hnic : NicInv n) (op : SOp) :
    (∀ key sub, op = .req key sub → key ≠ "startup" →
      (sstep tbl (n, s) op).1 = (n, s) ∧ ((sstep tbl (n, s) op).2 = .resp .failure ∨ (sstep tbl (n, s) op).2 = .resp .unreachable)) ∧
    (∀ j remote, op = .login j remote → sstep tbl (n, s) op = ((n, s), .login false)) ∧
    (∀ i, op = .frame i → sstep tbl (n, s) op = ((n, s), .climbed [.iface])) ∧
    (∀ t, op = .sweep t → (sstep tbl (n, s) op).1.1 = n ∧
      ((sstep tbl (n, s) op).1.2.loc = none ∨ (sstep tbl (n, s) op).1.2.loc = s.loc) ∧
      (∀ r ∈ (sstep tbl (n, s) op).1.2.rem, r ∈ s.rem)) := by
  refine ⟨?_, ?_, ?_, ?_⟩
  · rintro key sub rfl hk
    have := C12_refused_unless_startup hg n hne key sub hk
    simp only [sstep]
    rw [this]
    refine ⟨rfl, ?_⟩
    split
    · exact Or.inl rfl
    · exact Or.inr rfl
  · rintro j remote rfl
    simp only [sstep]
    rw [C12_login_needs_on n j s remote hne]
  · rintro i rfl
    simp [sstep, frameClimbs, nicPasses_of_nicsOff (hnic hne) i]
  · rintro t rfl
    refine ⟨rfl, ?_, ?_⟩
    · show (s.pre t).loc = none ∨ (s.pre t).loc = s.loc
      rw [(Sessions.pre_loc s t).1]
      cases hl : s.loc with
      | none => exact Or.inl rfl
      | some l =>
        simp only
        split
        · exact Or.inl rfl
        · exact Or.inr rfl
    · intro r hr
      have : r ∈ s.rem.filter (fun r => !decide (r + s.remoteTimeout ≤ t)) := hr
      exact (List.mem_filter.mp this).1

def srun (tbl : List Route) (ns : Node × Sessions) : List SOp → Node × Sessions
  | [] => ns
  | op :: ops => srun tbl (sstep tbl ns op).1 ops

/-- `s'` has no session that `s` has not: the local one is the same or gone, the remote ones are among those of `s` -/
def Shrunk (s s' : Sessions) : Prop := (s'.loc = none ∨ s'.loc = s.loc) ∧ ∀ x ∈ s'.rem, x ∈ s.rem

theorem Shrunk.refl (s : Sessions) : Shrunk s s := ⟨Or.inr rfl, fun _ h => h⟩

theorem Shrunk.trans {a b c : Sessions} (h1 : Shrunk a b) (h2 : Shrunk b c) : Shrunk a c :=
  ⟨h2.1.elim Or.inl (fun e => by rw [e]; exact h1.1), fun x hx => h1.2 x (h2.2 x hx)⟩

/-- one operation on a node that is not ON, a start-up request aside: the node stays, the sessions can only shrink -/
theorem sstep_not_on {tbl : List Route} (hg : allGuarded tbl = true) (n : Node) (s : Sessions) (hne : n.st ≠ .on)
    (hnic : NicInv n) (op : SOp) (hop : ∀ sub, op ≠ .req "startup" sub) :
    ∃ s', (sstep tbl (n, s) op).1 = (n, s') ∧ Shrunk s s' := by
  obtain ⟨c1, c2, c3, c4⟩ := C12_session_inert_while_not_on hg n s hne hnic op
  cases op with
  | req key sub => exact ⟨s, (c1 key sub rfl (fun hk => hop sub (by rw [hk]))).1, .refl s⟩
  | login j remote => exact ⟨s, by rw [c2 j remote rfl], .refl s⟩
  | frame i => exact ⟨s, by rw [c3 i rfl], .refl s⟩
  | sweep t => exact ⟨s.pre t, rfl, (c4 t rfl).2⟩

/-- and over a whole stay in non-ON states: along any sequence of such operations during which the node is never ON
(no start-up request among them: that is what ends the stay), no session is added and none is refreshed — the local
session is the one that was there or gone, the remote sessions are a sub-list of the ones that were there -/
theorem C12_sessions_only_shrink_while_not_on {tbl : List Route} (hg : allGuarded tbl = true) (n : Node) (s : Sessions)
    (hne : n.st ≠ .on) (hnic : NicInv n) (ops : List SOp) (hns : ∀ op ∈ ops, ∀ sub, op ≠ .req "startup" sub) :
    (srun tbl (n, s) ops).1 = n ∧ ((srun tbl (n, s) ops).2.loc = none ∨ (srun tbl (n, s) ops).2.loc = s.loc) ∧
    (∀ x ∈ (srun tbl (n, s) ops).2.rem, x ∈ s.rem) := by
  induction ops generalizing s with
  | nil => exact ⟨rfl, Shrunk.refl s⟩
  | cons op ops ih =>
    obtain ⟨s', e, h⟩ := sstep_not_on hg n s hne hnic op (hns op List.mem_cons_self)
    obtain ⟨r1, r2⟩ := ih s' (fun o ho => hns o (List.mem_cons_of_mem _ ho))
    rw [show srun tbl (n, s) (op :: ops) = srun tbl (n, s') ops from congrArg (srun tbl · ops) e]
    exact ⟨r1, h.trans r2⟩

/-- non-vacuity: a local and a remote session on a node that has just been shut down; a login, a terminal request and
a frame bounce; the sweeps keep the young sessions and end them at the time-out -/
example :
    let n := run baseRoutes exOn [shutdownOp]
    let s : Sessions := { now := 2, loc := some 2, rem := [2], localTimeout := 3, remoteTimeout := 3 }
    ((sstep baseRoutes (n, s) (.login 0 true)).2, (sstep baseRoutes (n, s) (.req "service" (.svc 0 .stop))).2,
     (sstep baseRoutes (n, s) (.frame 0)).2, (sstep baseRoutes (n, s) (.sweep 4)).1.2.rem, (sstep baseRoutes (n, s) (.sweep 5)).1.2.rem) =
    (.login false, .resp .failure, .climbed [.iface], [2], []) := by decide

end Primaite.Power
