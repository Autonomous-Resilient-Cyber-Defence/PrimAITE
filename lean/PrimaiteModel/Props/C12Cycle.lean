/-
C12: the composite timing statement as ONE theorem — a power cycle and a reset for ALL durations (a duration `<= 0` skips the
transitional state within the same operation), the timed cycle as the case of positive durations, exact tick numbers —, the exact
transitions of the direct API, the `startup` route, frames while a node is not ON.  Builds on Props/C12.lean and Props/C12Deep.lean.
-/
import PrimaiteModel.Props.C12Deep
namespace Primaite.Power

theorem ticksIn_append (a b : List Op) : ticksIn (a ++ b) = ticksIn a + ticksIn b := by
  induction a with
  | nil => simp [ticksIn]
  | cons op a ih =>
    cases op <;> simp [ticksIn, ih] <;> omega

theorem run_append (tbl : List Route) (n : Node) (a b : List Op) : run tbl n (a ++ b) = run tbl (run tbl n a) b := by
  induction a generalizing n with
  | nil => rfl
  | cons op a ih => exact ih _

theorem run_snoc_tick (tbl : List Route) (n : Node) (ops : List Op) :
    run tbl n (ops ++ [Op.tick]) = tick (run tbl n ops) := by
  rw [run_append]; rfl

theorem ticksIn_prefix_le {a' a : List Op} {d : Int} (h : a' <+: a) (hd : (ticksIn a : Int) = d) : (ticksIn a' : Int) ≤ d := by
  obtain ⟨t, rfl⟩ := h
  rw [ticksIn_append] at hd
  omega

def NoStartup (ops : List Op) : Prop := ∀ op ∈ ops, ∀ sub, op ≠ .request "startup" sub

theorem off_run_frozen {tbl : List Route} (hg : allGuarded tbl = true) (n : Node) (h : n.st = .off) (ops : List Op)
    (hns : NoStartup ops) : Frozen n (run tbl n ops) := by
  obtain ⟨a, b, e, _⟩ := run_idle hg n (by rw [h]; decide) ops (fun _ => hns)
    (fun hb => by rw [h] at hb; cases hb) (fun hs => by rw [h] at hs; cases hs)
  rw [e]
  exact ⟨rfl, rfl, rfl, rfl, rfl, rfl, rfl, rfl⟩

/-- the operations of one transitional phase: nothing if the duration is `<= 0` (the request completes the transition
itself), else the given operations (which must contain exactly `d` ticks) and one more tick -/
def phaseOps (d : Int) (X : List Op) : List Op := if 0 < d then X ++ [Op.tick] else []

/-- the assignments of one half: the transitional state only if the duration is positive -/
def viaIf (d : Int) (s : PState) : List PState := if 0 < d then [s] else []

theorem run_phaseOps (tbl : List Route) (n : Node) (d : Int) (X : List Op) :
    run tbl n (phaseOps d X) = if 0 < d then tick (run tbl n X) else n := by
  unfold phaseOps
  split
  · exact run_snoc_tick tbl n X
  · rfl

/-- `power_off` on an ON node and its phase: OFF has been assigned, after SHUTTING_DOWN exactly if the shut-down takes time -/
theorem powerOff_half {tbl : List Route} (hg : allGuarded tbl = true) (n : Node) (hst : n.st = .on) (A : List Op)
    (hA : 0 < n.downDur → (ticksIn A : Int) = n.downDur) :
    AfterOff n (viaIf n.downDur .shuttingDown ++ n.hist) (run tbl (powerOff n).1 (phaseOps n.downDur A)) := by
  obtain ⟨_, inst, timed⟩ := powerOff_timing hg n hst
  rw [run_phaseOps]
  unfold viaIf
  by_cases hd : 0 < n.downDur
  · rw [if_pos hd, if_pos hd]
    exact (timed hd).2 A (hA hd)
  · rw [if_neg hd, if_neg hd]
    exact inst (by omega)

/-- a started node and its phase: ON, after BOOTING exactly if the start-up takes time; everything is up -/
theorem started_half {tbl : List Route} (hg : allGuarded tbl = true) {n x : Node} {h0 : List PState}
    (h : StartedFrom n h0 x) (C : List Op) (hC : 0 < n.upDur → (ticksIn C : Int) = n.upDur) :
    (run tbl x (phaseOps n.upDur C)).st = .on ∧
    (run tbl x (phaseOps n.upDur C)).hist = .on :: (viaIf n.upDur .booting ++ h0) ∧
    AllUp (run tbl x (phaseOps n.upDur C)) := by
  obtain ⟨inst, timed⟩ := started_timing hg h
  rw [run_phaseOps]
  unfold viaIf
  by_cases hu : 0 < n.upDur
  · rw [if_pos hu, if_pos hu]
    obtain ⟨s, hh, _, all⟩ := (timed hu).2 C (hC hu)
    exact ⟨s, hh, all⟩
  · rw [if_neg hu, if_neg hu]
    obtain ⟨s, hh⟩ := inst (by omega)
    exact ⟨s, hh, h.2.2.2 s⟩

/-- **the shut-down half, any duration.** From ON (no reset pending): after the request and the phase, the node is OFF;
if `d_s > 0` it was SHUTTING_DOWN after the request and after every prefix of `A` -/
theorem shutdown_half {tbl : List Route} (hg : allGuarded tbl = true) (n : Node) (hst : n.st = .on) (hr : n.resetting = false)
    (h1 : (tbl.find? (fun r => r.key == "shutdown")).isSome = true) (sub : Sub)
    (A : List Op) (hA : 0 < n.downDur → (ticksIn A : Int) = n.downDur) :
    let n1 := (request tbl n "shutdown" sub).1
    let n3 := run tbl n1 (phaseOps n.downDur A)
    (0 < n.downDur → ∀ A', A' <+: A → (run tbl n1 A').st = .shuttingDown) ∧
    n3.st = .off ∧ n3.hist = .off :: (viaIf n.downDur .shuttingDown ++ n.hist) ∧ n3.upDur = n.upDur ∧ n3.downDur = n.downDur := by
  rw [request_shutdown hg n sub h1 hst]
  intro n1 n3
  obtain ⟨u3, d3, _, off3, _⟩ := powerOff_half hg n hst A hA
  obtain ⟨s3, hist3⟩ := off3 hr
  exact ⟨fun hd A' hp => (((powerOff_timing hg n hst).2.2 hd).1 A' (ticksIn_prefix_le hp (hA hd))).1, s3, hist3, u3, d3⟩

/-- **the start-up half, any duration.** From OFF: after the request and the phase the node is ON with everything up;
if `d_u > 0` it was BOOTING after the request and after every prefix of `C` -/
theorem startup_half {tbl : List Route} (hg : allGuarded tbl = true) (m : Node) (hst : m.st = .off)
    (h2 : (tbl.find? (fun r => r.key == "startup")).isSome = true) (sub : Sub)
    (C : List Op) (hC : 0 < m.upDur → (ticksIn C : Int) = m.upDur) :
    let n5 := (request tbl m "startup" sub).1
    let n7 := run tbl n5 (phaseOps m.upDur C)
    (0 < m.upDur → ∀ C', C' <+: C → (run tbl n5 C').st = .booting) ∧
    n7.st = .on ∧ n7.hist = .on :: (viaIf m.upDur .booting ++ m.hist) ∧ AllUp n7 := by
  rw [request_startup hg m sub h2 hst]
  intro n5 n7
  obtain ⟨_, hs, _⟩ := powerOn_from_off m hst
  obtain ⟨s7, hist7, all7⟩ := started_half hg hs C hC
  exact ⟨fun hu C' hp => (((started_timing hg hs).2 hu).1 C' (ticksIn_prefix_le hp (hC hu))).1, s7, hist7, all7⟩

/-- **one power cycle, ANY durations** (`C12_timed_power_cycle` is the case `d_s, d_u > 0`). A node that is ON with no
reset pending gets `shutdown`; if `shut_down_duration = d_s > 0`: any operations `A` with exactly `d_s` ticks and one more
tick (if `d_s <= 0` nothing: the request itself reaches OFF); any operations `B` without a start-up request; `startup`;
if `start_up_duration = d_u > 0`: any operations `C` with exactly `d_u` ticks and one more tick (if `d_u <= 0` nothing: the
request itself reaches ON). Then: a transitional state is visited — and held through every prefix of its phase — exactly
if its duration is positive, and skipped within the request otherwise; the node is OFF after the shut-down phase and
every prefix of `B`, ON at the end with everything up; `operating_state` was assigned exactly
`[SHUTTING_DOWN if d_s > 0] OFF [BOOTING if d_u > 0] ON`. -/
theorem C12_power_cycle_any_durations {tbl : List Route} (hg : allGuarded tbl = true) (n : Node) (hst : n.st = .on)
    (hr : n.resetting = false)
    (h1 : (tbl.find? (fun r => r.key == "shutdown")).isSome = true)
    (h2 : (tbl.find? (fun r => r.key == "startup")).isSome = true) (sub sub' : Sub)
    (A B C : List Op) (hA : 0 < n.downDur → (ticksIn A : Int) = n.downDur) (hB : NoStartup B)
    (hC : 0 < n.upDur → (ticksIn C : Int) = n.upDur) :
    let n1 := (request tbl n "shutdown" sub).1
    let n3 := run tbl n1 (phaseOps n.downDur A)
    let n5 := (request tbl (run tbl n3 B) "startup" sub').1
    let n7 := run tbl n5 (phaseOps n.upDur C)
    (0 < n.downDur → ∀ A', A' <+: A → (run tbl n1 A').st = .shuttingDown) ∧
    (∀ B', B' <+: B → (run tbl n3 B').st = .off) ∧
    (0 < n.upDur → ∀ C', C' <+: C → (run tbl n5 C').st = .booting) ∧
    n7.st = .on ∧
    n7.hist = .on :: (viaIf n.upDur .booting ++ (.off :: (viaIf n.downDur .shuttingDown ++ n.hist))) ∧ AllUp n7 := by
  intro n1 n3 n5 n7
  obtain ⟨a1, a2, a3, a4, _⟩ := shutdown_half hg n hst hr h1 sub A hA
  have heldB : ∀ B', B' <+: B → Frozen n3 (run tbl n3 B') := fun B' hp =>
    off_run_frozen hg n3 a2 B' (fun o ho => hB o (hp.subset ho))
  have fB := heldB B (List.prefix_refl B)
  have up4 : (run tbl n3 B).upDur = n.upDur := fB.upDur.trans a4
  obtain ⟨c1, c2, c3, c4⟩ := startup_half hg (run tbl n3 B) (fB.st.trans a2) h2 sub' C (by rw [up4]; exact hC)
  rw [up4] at c1 c2 c3 c4
  rw [fB.hist, a3] at c3
  exact ⟨a1, fun B' hp => (heldB B' hp).st.trans a2, c1, c2, c3, c4⟩

/-- **one reset, ANY durations**: `reset`; the shut-down phase (skipped if `d_s <= 0`); the start-up phase (skipped if
`d_u <= 0`): the automatic start happens in the very operation that reaches OFF, so OFF is never seen between two
operations; assignments `[SHUTTING_DOWN if d_s > 0] OFF [BOOTING if d_u > 0] ON`; flag clear and everything up at the end. -/
theorem C12_reset_any_durations {tbl : List Route} (hg : allGuarded tbl = true) (n : Node) (hst : n.st = .on)
    (h1 : (tbl.find? (fun r => r.key == "reset")).isSome = true) (sub : Sub)
    (A C : List Op) (hA : 0 < n.downDur → (ticksIn A : Int) = n.downDur) (hC : 0 < n.upDur → (ticksIn C : Int) = n.upDur) :
    let n1 := (request tbl n "reset" sub).1
    let n3 := run tbl n1 (phaseOps n.downDur A)
    let n7 := run tbl n3 (phaseOps n.upDur C)
    (0 < n.downDur → ∀ A', A' <+: A → (run tbl n1 A').st = .shuttingDown ∧ (run tbl n1 A').resetting = true) ∧
    n3.st = startTarget n ∧ n3.resetting = false ∧
    (0 < n.upDur → ∀ C', C' <+: C → (run tbl n3 C').st = .booting) ∧
    n7.st = .on ∧
    n7.hist = .on :: (viaIf n.upDur .booting ++ (.off :: (viaIf n.downDur .shuttingDown ++ n.hist))) := by
  rw [request_reset hg n sub h1 hst]
  intro n1 n3 n7
  obtain ⟨_, _, rs3, _, started3⟩ := powerOff_half hg { n with resetting := true } hst A hA
  obtain ⟨s7, hist7, _⟩ := started_half hg (started3 rfl) C hC
  exact ⟨fun hd A' hp => ((powerOff_timing hg { n with resetting := true } hst).2.2 hd).1 A' (ticksIn_prefix_le hp (hA hd)),
    (started3 rfl).1, rs3,
    fun hu C' hp => (((started_timing hg (started3 rfl)).2 hu).1 C' (ticksIn_prefix_le hp (hC hu))).1, s7, hist7⟩

/-- non-vacuity: the four duration patterns on the example node (durations set to 0/2, 2/0, 0/0; 3/2 is `exOn` itself, run in `Props/C12.lean`) -/
example :
    (run baseRoutes { exOn with downDur := 0, upDur := 2 } [shutdownOp, startupOp, .tick, .tick, .tick]).hist = [.on, .booting, .off] ∧
    (run baseRoutes { exOn with downDur := 2, upDur := 0 } [shutdownOp, .tick, .tick, .tick, startupOp]).hist = [.on, .off, .shuttingDown] ∧
    (run baseRoutes { exOn with downDur := 0, upDur := 0 } [shutdownOp, startupOp]).hist = [.on, .off] ∧
    (run baseRoutes { exOn with downDur := 0, upDur := 2 } [resetOp, .tick, .tick, .tick]).hist = [.on, .booting, .off] ∧
    (run baseRoutes { exOn with downDur := 2, upDur := 0 } [resetOp, .tick, .tick, .tick]).hist = [.on, .off, .shuttingDown] := by
  decide

/-- **one timed power cycle, start to finish.** A node that is ON (no reset pending) with `shut_down_duration = d_s > 0`
and `start_up_duration = d_u > 0` gets a `shutdown` request; then ANY operations `A` containing exactly `d_s` ticks
(requests, frames interleaved at will); one more tick; then ANY operations `B` that are not a `startup` request (any
number of ticks); a `startup` request; ANY operations `C` containing exactly `d_u` ticks; one more tick. Then:
the node is SHUTTING_DOWN after the request and after every prefix of `A`; OFF after the `(d_s+1)`-th tick and after
every prefix of `B`; BOOTING after the start-up request and after every prefix of `C`; ON after the `(d_u+1)`-th tick;
along the whole run `operating_state` was assigned exactly four times — SHUTTING_DOWN, OFF, BOOTING, ON, in this order —
and at the end every linked interface is enabled, no service is STOPPED and no application is CLOSED. -/
theorem C12_timed_power_cycle {tbl : List Route} (hg : allGuarded tbl = true) (n : Node) (hst : n.st = .on)
    (hr : n.resetting = false) (hds : 0 < n.downDur) (hdu : 0 < n.upDur)
    (h1 : (tbl.find? (fun r => r.key == "shutdown")).isSome = true)
    (h2 : (tbl.find? (fun r => r.key == "startup")).isSome = true) (sub sub' : Sub)
    (A B C : List Op) (hA : (ticksIn A : Int) = n.downDur) (hB : NoStartup B) (hC : (ticksIn C : Int) = n.upDur) :
    let n1 := (request tbl n "shutdown" sub).1
    let n3 := tick (run tbl n1 A)
    let n5 := (request tbl (run tbl n3 B) "startup" sub').1
    let n7 := tick (run tbl n5 C)
    (∀ A', A' <+: A → (run tbl n1 A').st = .shuttingDown) ∧
    (∀ B', B' <+: B → (run tbl n3 B').st = .off) ∧
    (∀ C', C' <+: C → (run tbl n5 C').st = .booting) ∧
    n7.st = .on ∧ n7.hist = [.on, .booting, .off, .shuttingDown] ++ n.hist ∧ AllUp n7 := by
  have h := C12_power_cycle_any_durations hg n hst hr h1 h2 sub sub' A B C (fun _ => hA) hB (fun _ => hC)
  simp only [phaseOps, viaIf, if_pos hds, if_pos hdu, run_snoc_tick] at h
  exact ⟨h.1 hds, h.2.1, h.2.2.1 hdu, h.2.2.2⟩

/-- **one timed reset, start to finish** = the same with the automatic start: after a `reset` request, any operations
`A` with exactly `d_s` ticks and one more tick the node is BOOTING (OFF is assigned and left within that tick), after
any operations `C` with exactly `d_u` ticks and one more tick it is ON; four assignments SHUTTING_DOWN, OFF, BOOTING, ON;
the pending-reset flag is set from the request until the tick that passes OFF and clear afterwards. -/
theorem C12_timed_reset {tbl : List Route} (hg : allGuarded tbl = true) (n : Node) (hst : n.st = .on)
    (hds : 0 < n.downDur) (hdu : 0 < n.upDur)
    (h1 : (tbl.find? (fun r => r.key == "reset")).isSome = true) (sub : Sub)
    (A C : List Op) (hA : (ticksIn A : Int) = n.downDur) (hC : (ticksIn C : Int) = n.upDur) :
    let n1 := (request tbl n "reset" sub).1
    let n3 := tick (run tbl n1 A)
    let n7 := tick (run tbl n3 C)
    (∀ A', A' <+: A → (run tbl n1 A').st = .shuttingDown ∧ (run tbl n1 A').resetting = true) ∧
    (∀ C', C' <+: C → (run tbl n3 C').st = .booting ∧ (run tbl n3 C').resetting = false) ∧
    n7.st = .on ∧ n7.hist = [.on, .booting, .off, .shuttingDown] ++ n.hist ∧ n7.resetting = false ∧ AllUp n7 := by
  rw [request_reset hg n sub h1 hst]
  intro n1 n3 n7
  obtain ⟨heldA, exitA⟩ := (powerOff_timing hg { n with resetting := true } hst).2.2 hds
  -- the tick after `A` passes OFF and starts the node again
  obtain ⟨_, _, rs3, _, started3⟩ := exitA A hA
  obtain ⟨heldC, exitC⟩ := (started_timing hg (started3 rfl)).2 hdu
  obtain ⟨s7, hist7, rs7, all7⟩ := exitC C hC
  exact ⟨fun A' hp => heldA A' (ticksIn_prefix_le hp hA),
    fun C' hp => ⟨(heldC C' (ticksIn_prefix_le hp hC)).1, (heldC C' (ticksIn_prefix_le hp hC)).2.trans rs3⟩,
    s7, hist7, rs7.trans rs3, all7⟩

/-- the power state after each operation of a sequence -/
def states (tbl : List Route) (n : Node) : List Op → List PState
  | [] => []
  | op :: ops => (step tbl n op).1.st :: states tbl (step tbl n op).1 ops

theorem states_append (tbl : List Route) (n : Node) (a b : List Op) :
    states tbl n (a ++ b) = states tbl n a ++ states tbl (run tbl n a) b := by
  induction a generalizing n with
  | nil => rfl
  | cons op a ih => simp only [List.cons_append, states, run, ih]

theorem states_of_prefixes (tbl : List Route) (n : Node) (ops : List Op) (s : PState)
    (h : ∀ a, a <+: ops → a ≠ [] → (run tbl n a).st = s) : states tbl n ops = List.replicate ops.length s := by
  induction ops generalizing n with
  | nil => rfl
  | cons op ops ih =>
    have h0 : (step tbl n op).1.st = s := h [op] ⟨ops, rfl⟩ (by simp)
    have hrest : ∀ a, a <+: ops → a ≠ [] → (run tbl (step tbl n op).1 a).st = s := by
      intro a ⟨t, ht⟩ _
      exact h (op :: a) ⟨t, by rw [List.cons_append, ht]⟩ (by simp)
    simp only [states, List.length_cons, List.replicate_succ, h0, ih _ hrest]

theorem ticksIn_replicate (k : Nat) : ticksIn (List.replicate k Op.tick) = k := by
  induction k with
  | zero => rfl
  | succ k ih => simp [List.replicate_succ, ticksIn, ih]

theorem noStartup_replicate (k : Nat) : NoStartup (List.replicate k Op.tick) := by
  intro op hop sub h
  rw [List.mem_replicate] at hop
  rw [hop.2] at h
  cases h

theorem step_request_fst (tbl : List Route) (n : Node) (key : String) (sub : Sub) :
    (step tbl n (.request key sub)).1 = (request tbl n key sub).1 := rfl

theorem step_tick_fst (tbl : List Route) (n : Node) : (step tbl n .tick).1 = tick n := rfl

/-- a phase as the list of states: the operation that enters it, then `k` ticks throughout which the state is held -/
theorem states_phase_append (tbl : List Route) (n : Node) (op : Op) (k : Nat) (s : PState) (rest : List Op)
    (h : ∀ a, a <+: List.replicate k Op.tick → (run tbl (step tbl n op).1 a).st = s) :
    states tbl n (op :: (List.replicate k Op.tick ++ rest)) =
      List.replicate (k + 1) s ++ states tbl (run tbl (step tbl n op).1 (List.replicate k Op.tick)) rest := by
  show (step tbl n op).1.st :: states tbl (step tbl n op).1 (List.replicate k Op.tick ++ rest) = _
  rw [states_append, states_of_prefixes tbl _ _ s (fun a ha _ => h a ha), List.length_replicate,
    show (step tbl n op).1.st = s from h [] List.nil_prefix]
  rfl

/-- **the exact tick numbers.** Shut down at some tick with `shut_down_duration = d_s ≥ 1`, left alone for `d_s + 1 + w`
ticks, started, left alone for `d_u + 1` ticks (`start_up_duration = d_u ≥ 1`): the power state after the request and
after each tick is SHUTTING_DOWN `d_s + 1` times (the request and `d_s` ticks), OFF `w + 1` times (tick `d_s + 1` and the
`w` waiting ticks), BOOTING `d_u + 1` times (the start-up request and `d_u` ticks), then ON (tick `d_u + 1`). -/
theorem C12_timed_power_cycle_ticks {tbl : List Route} (hg : allGuarded tbl = true) (n : Node) (hst : n.st = .on)
    (hr : n.resetting = false) (ds du w : Nat) (hds : n.downDur = (ds : Int) + 1) (hdu : n.upDur = (du : Int) + 1)
    (h1 : (tbl.find? (fun r => r.key == "shutdown")).isSome = true)
    (h2 : (tbl.find? (fun r => r.key == "startup")).isSome = true) (sub sub' : Sub) :
    states tbl n ([Op.request "shutdown" sub] ++ List.replicate (ds + 1) Op.tick ++ [Op.tick] ++ List.replicate w Op.tick ++
      [Op.request "startup" sub'] ++ List.replicate (du + 1) Op.tick ++ [Op.tick]) =
    List.replicate (ds + 2) .shuttingDown ++ List.replicate (w + 1) .off ++ List.replicate (du + 2) .booting ++ [.on] := by
  have hA : (ticksIn (List.replicate (ds + 1) Op.tick) : Int) = n.downDur := by rw [ticksIn_replicate, hds]; omega
  have hC : (ticksIn (List.replicate (du + 1) Op.tick) : Int) = n.upDur := by rw [ticksIn_replicate, hdu]; omega
  obtain ⟨cA, cB, cC, cOn, _, _⟩ := C12_timed_power_cycle hg n hst hr (by omega) (by omega) h1 h2 sub sub'
    (List.replicate (ds + 1) Op.tick) (List.replicate w Op.tick) (List.replicate (du + 1) Op.tick) hA (noStartup_replicate w) hC
  -- three phases, each entered by one operation and held through its ticks, then the tick that reaches ON
  simp only [List.append_assoc, List.cons_append, List.nil_append]
  rw [states_phase_append tbl n (.request "shutdown" sub) (ds + 1) .shuttingDown _ cA, step_request_fst,
    states_phase_append tbl _ .tick w .off _ cB, step_tick_fst,
    states_phase_append tbl _ (.request "startup" sub') (du + 1) .booting _ cC, step_request_fst]
  show _ ++ (_ ++ (_ ++ [(tick _).st])) = _
  rw [cOn]

/-- non-vacuity (`exOn`'s durations 3 / 2; two waiting ticks) -/
example : states baseRoutes exOn ([shutdownOp] ++ List.replicate 3 Op.tick ++ [Op.tick] ++ List.replicate 2 Op.tick ++
      [startupOp] ++ List.replicate 2 Op.tick ++ [Op.tick]) =
    [.shuttingDown, .shuttingDown, .shuttingDown, .shuttingDown, .off, .off, .off, .booting, .booting, .booting, .on] := by
  decide

/-- the same for `reset`: SHUTTING_DOWN `d_s + 1` times, then BOOTING `d_u + 1` times (OFF is passed inside tick
`d_s + 1` and never seen between two operations), then ON -/
theorem C12_timed_reset_ticks {tbl : List Route} (hg : allGuarded tbl = true) (n : Node) (hst : n.st = .on)
    (ds du : Nat) (hds : n.downDur = (ds : Int) + 1) (hdu : n.upDur = (du : Int) + 1)
    (h1 : (tbl.find? (fun r => r.key == "reset")).isSome = true) (sub : Sub) :
    states tbl n ([Op.request "reset" sub] ++ List.replicate (ds + 1) Op.tick ++ [Op.tick] ++
      List.replicate (du + 1) Op.tick ++ [Op.tick]) =
    List.replicate (ds + 2) .shuttingDown ++ List.replicate (du + 2) .booting ++ [.on] := by
  have hA : (ticksIn (List.replicate (ds + 1) Op.tick) : Int) = n.downDur := by rw [ticksIn_replicate, hds]; omega
  have hC : (ticksIn (List.replicate (du + 1) Op.tick) : Int) = n.upDur := by rw [ticksIn_replicate, hdu]; omega
  obtain ⟨cA, cC, cOn, _, _, _⟩ := C12_timed_reset hg n hst (by omega) (by omega) h1 sub
    (List.replicate (ds + 1) Op.tick) (List.replicate (du + 1) Op.tick) hA hC
  simp only [List.append_assoc, List.cons_append, List.nil_append]
  rw [states_phase_append tbl n (.request "reset" sub) (ds + 1) .shuttingDown _ (fun a ha => (cA a ha).1), step_request_fst,
    states_phase_append tbl _ .tick (du + 1) .booting _ (fun a ha => (cC a ha).1), step_tick_fst]
  show _ ++ (_ ++ [(tick _).st]) = _
  rw [cOn]

example : states baseRoutes exOn ([resetOp] ++ List.replicate 3 Op.tick ++ [Op.tick] ++ List.replicate 2 Op.tick ++ [Op.tick]) =
    [.shuttingDown, .shuttingDown, .shuttingDown, .shuttingDown, .booting, .booting, .booting, .on] := by decide

/-- **the transition table of the three power methods, called directly from ANY state.**
* `power_on()`: `start_up_duration <= 0` → ON from every state (ON is assigned even if the node is ON already);
  otherwise OFF → BOOTING and nothing from any other state.
* `power_off()`: `shut_down_duration <= 0` → OFF from every state, and on to the start target (BOOTING, or ON for
  `start_up_duration <= 0`) if a reset is pending; otherwise ON → SHUTTING_DOWN and nothing from any other state.
* `reset()`: sets the flag in every state (its test `self.operating_state.ON` is always truthy) and calls `power_off()`:
  `shut_down_duration <= 0` → OFF then the start target from every state, flag cleared; otherwise ON → SHUTTING_DOWN
  with the flag, and from any other state NOTHING but the flag, which stays set. -/
theorem C12_api_transition_table (n : Node) :
    (powerOn n).1.st = (if n.upDur ≤ 0 then .on else if n.st = .off then .booting else n.st) ∧
    (powerOff n).1.st = (if n.downDur ≤ 0 then (if n.resetting then startTarget n else .off)
                         else if n.st = .on then .shuttingDown else n.st) ∧
    (reset n).1.st = (if n.downDur ≤ 0 then startTarget n else if n.st = .on then .shuttingDown else n.st) ∧
    (reset n).1.resetting = (if n.downDur ≤ 0 then false else true) := by
  have off : ∀ m : Node,
      (powerOff m).1.st = (if m.downDur ≤ 0 then (if m.resetting then startTarget m else .off)
                           else if m.st = .on then .shuttingDown else m.st) ∧
      (m.resetting = true → (powerOff m).1.resetting = (if m.downDur ≤ 0 then false else true)) := by
    intro m
    rcases powerOff_cases m with ⟨hd, hr, e⟩ | ⟨hd, hr, e⟩ | ⟨hd, hst, e⟩ | ⟨hd, hst, e⟩ <;> rw [e]
    · rw [if_pos hd, hr]
      exact ⟨rfl, fun h => by cases h⟩
    · rw [if_pos hd, if_pos hd, hr]
      exact ⟨(powerOn_from_off _ rfl).2.1.1, fun _ => (powerOn_from_off _ rfl).2.2.2.2⟩
    · rw [if_neg (Int.not_le.mpr hd), if_neg (Int.not_le.mpr hd), if_pos hst]
      exact ⟨rfl, fun h => h⟩
    · rw [if_neg (Int.not_le.mpr hd), if_neg (Int.not_le.mpr hd), if_neg hst]
      exact ⟨rfl, fun h => h⟩
  exact ⟨powerOn_st n, (off n).1, (off { n with resetting := true }).1, (off { n with resetting := true }).2 rfl⟩

/-- `power_on()` / `power_off()` called directly (not through a request) are *not* guarded by the state when the
duration is 0: from SHUTTING_DOWN, `power_on()` jumps to ON. The property quantifies over requests, whose validators
exclude this; the fact is recorded because `Network.setup_for_episode` calls `power_on()` directly on every node, whatever its
state (`C12_setup_jump`; every caller is listed in `C12_gen_power_call_sites`). -/
theorem C12_api_power_on_unguarded :
    (powerOn { exInstant with st := .shuttingDown }).1.st = .on ∧ edge 0 0 .shuttingDown .on = false := by decide

/-- the condition under which a direct call stays inside the state machine: `power_on()` is harmless unless it is
instant and the node is ON or SHUTTING_DOWN; `power_off()` / `reset()` unless instant and the node is OFF or BOOTING -/
def apiOk (n : Node) : ApiCall → Bool
  | .powerOn => decide (0 < n.upDur) || n.st == .off || n.st == .booting
  | .powerOff => decide (0 < n.downDur) || n.st == .on || n.st == .shuttingDown
  | .reset => decide (0 < n.downDur) || n.st == .on || n.st == .shuttingDown
  | _ => true

/-- **direct-API legal moves, exactly.** A direct call of `power_on()` / `power_off()` / `reset()` (and any other API
call, which assigns nothing) keeps every assignment on an edge of ON→SHUTTING_DOWN→OFF→BOOTING→ON **iff** `apiOk`:
(→) under `apiOk` the history stays legal; -/
theorem C12_api_legal_moves {s0 : PState} (n : Node) (c : ApiCall) (h : HistOk s0 n) (hok : apiOk n c = true) :
    HistOk s0 (apiCall n c) := by
  cases c with
  | powerOn =>
    simp only [apiOk, Bool.or_eq_true, decide_eq_true_eq, beq_iff_eq, or_assoc] at hok
    exact powerOn_histOk_of n h hok
  | powerOff =>
    simp only [apiOk, Bool.or_eq_true, decide_eq_true_eq, beq_iff_eq, or_assoc] at hok
    exact powerOff_histOk_of n h hok
  | reset =>
    simp only [apiOk, Bool.or_eq_true, decide_eq_true_eq, beq_iff_eq, or_assoc] at hok
    exact powerOff_histOk_of { n with resetting := true } (histOk_of_same ⟨rfl, rfl, rfl, rfl⟩ h) hok
  | _ => exact histOk_of_same (apiCall_same n _ rfl) h

/-- (←) and when `apiOk` fails the call's first assignment is NOT an edge: `power_on()` with `start_up_duration <= 0`
assigns ON to a node that is ON (no move) or SHUTTING_DOWN (a jump); `power_off()` / `reset()` with
`shut_down_duration <= 0` assign OFF to a node that is OFF (no move) or BOOTING (a jump). These are the only ways the
API leaves the state machine. -/
theorem C12_api_illegal_moves_exact (n : Node) (c : ApiCall) (hbad : apiOk n c = false) :
    ∃ x later, (apiCall n c).hist = later ++ x :: n.hist ∧ edge n.upDur n.downDur n.st x = false ∧
      ((c = .powerOn ∧ x = .on ∧ n.upDur ≤ 0 ∧ (n.st = .on ∨ n.st = .shuttingDown)) ∨
       ((c = .powerOff ∨ c = .reset) ∧ x = .off ∧ n.downDur ≤ 0 ∧ (n.st = .off ∨ n.st = .booting))) := by
  -- `power_off()` and `reset()` (which is `power_off()` with the flag set) fail `apiOk` alike
  have off : ∀ m : Node, apiOk m .powerOff = false →
      ∃ later, (powerOff m).1.hist = later ++ .off :: m.hist ∧ edge m.upDur m.downDur m.st .off = false ∧
        m.downDur ≤ 0 ∧ (m.st = .off ∨ m.st = .booting) := by
    intro m hbad
    simp only [apiOk, Bool.or_eq_false_iff, decide_eq_false_iff_not, beq_eq_false_iff_ne] at hbad
    obtain ⟨⟨hd, hon⟩, hsd⟩ := hbad
    have hd' : m.downDur ≤ 0 := by omega
    obtain ⟨_, _, _, _, hf, ht⟩ := powerOff_instant m hd'
    refine ⟨if m.resetting then [startTarget m] else [], ?_, ?_, hd', ?_⟩
    · cases hr : m.resetting
      · exact (hf hr).2
      · exact (ht hr).2.1
    · exact Bool.eq_false_iff.mpr fun h => ((edge_off ..).mp h).elim hsd (fun h => hon h.1)
    · cases hs : m.st <;> simp_all
  cases c with
  | powerOn =>
    simp only [apiOk, Bool.or_eq_false_iff, decide_eq_false_iff_not, beq_eq_false_iff_ne] at hbad
    obtain ⟨⟨hu, hoff⟩, hb⟩ := hbad
    have hu' : n.upDur ≤ 0 := by omega
    refine ⟨.on, [], ?_, ?_, Or.inl ⟨rfl, rfl, hu', ?_⟩⟩
    · show (powerOn n).1.hist = _
      rw [powerOn_instant n hu']; rfl
    · exact Bool.eq_false_iff.mpr fun h => ((edge_on ..).mp h).elim hb (fun h => hoff h.1)
    · cases hs : n.st <;> simp_all
  | powerOff =>
    obtain ⟨later, h1, h2, h3, h4⟩ := off n hbad
    exact ⟨.off, later, h1, h2, Or.inr ⟨Or.inl rfl, rfl, h3, h4⟩⟩
  | reset =>
    obtain ⟨later, h1, h2, h3, h4⟩ := off { n with resetting := true } hbad
    exact ⟨.off, later, h1, h2, Or.inr ⟨Or.inr rfl, rfl, h3, h4⟩⟩
  | _ => cases hbad

def XOp.apiOkAt (n : Node) : XOp → Bool
  | .api c => apiOk n c
  | .setupEpisode => false
  | _ => true

def xrunOk (tbl : List Route) : Node → List XOp → Bool
  | _, [] => true
  | n, o :: os => XOp.apiOkAt n o && xrunOk tbl (xstep tbl n o) os

/-- so: any mix of requests, ticks, frames and direct API calls each of which satisfies `apiOk` when made keeps every
assignment legal — `C12_legal_moves` extended to the API -/
theorem C12_legal_moves_with_api {tbl : List Route} (hg : allGuarded tbl = true) {s0 : PState} (n : Node) (ops : List XOp)
    (h : HistOk s0 n) (hdur : ∀ o ∈ ops, ∀ u d, o ≠ .setDur u d) (hok : xrunOk tbl n ops = true) :
    HistOk s0 (xrun tbl n ops) := by
  induction ops generalizing n with
  | nil => exact h
  | cons o os ih =>
    simp only [xrunOk, Bool.and_eq_true] at hok
    apply ih _ _ (fun o' ho' => hdur o' (List.mem_cons_of_mem _ ho')) hok.2
    cases o with
    | op o => exact step_histOk hg n o h
    | preTick => exact h
    | setDur u d => exact absurd rfl (hdur _ (List.mem_cons_self) u d)
    | api c => exact C12_api_legal_moves n c h hok.1
    | setupEpisode => cases hok.1

example : apiOk exOn .powerOff = true ∧ apiOk exOff .powerOn = true ∧ apiOk exInstant .powerOn = false ∧
    apiOk { exInstant with st := .booting } .reset = false := by decide

/-- **`startup` is accepted iff the node is OFF** (under a guarded table that has the route): it answers `success` exactly
from OFF; from ON, BOOTING and SHUTTING_DOWN it answers `failure` and changes nothing — so it can neither cancel a
shutdown in progress nor cut a boot short, whatever the durations. With `C12_gen_validators` (the validator's meaning)
and `C12_gen_routes_guarded` / `C12_gen_schema_routes_guarded` (which validator sits on which route) this is a statement
about the code of every node class. -/
theorem C12_startup_accepted_iff_off {tbl : List Route} (hg : allGuarded tbl = true)
    (hin : (tbl.find? (fun r => r.key == "startup")).isSome = true) (n : Node) (sub : Sub) :
    ((request tbl n "startup" sub).2 = .success ↔ n.st = .off) ∧
    (n.st ≠ .off → request tbl n "startup" sub = (n, .failure)) := by
  constructor
  · constructor
    · intro hs
      by_cases hoff : n.st = .off
      · exact hoff
      · rw [C12_startup_only_from_off hg n hoff sub, hin] at hs
        cases hs
    · intro hoff
      exact (C12_boot_timing hg n hoff sub hin).1
  · intro hoff
    rw [C12_startup_only_from_off hg n hoff sub, hin]; rfl

theorem C12_startup_accepted_iff_off_all_classes (cls : String) (tbl : List Route)
    (hc : (cls, tbl) ∈ Gen.Power.classTables) (n : Node) (sub : Sub) :
    (request tbl n "startup" sub).2 = .success ↔ n.st = .off := by
  have hg := C12_all_classes_guarded cls tbl hc
  have hw := List.all_eq_true.mp C12_gen_routes_wellformed (cls, tbl) hc
  have hin : (tbl.find? (fun r => r.key == "startup")).isSome = true := by
    simp only [Bool.and_eq_true, List.all_eq_true] at hw
    have := hw.1 "startup" (by simp)
    rw [List.find?_isSome]
    simp only [List.contains_iff_mem, List.mem_map] at this
    obtain ⟨r, hr, hk⟩ := this
    exact ⟨r, hr, by simp [hk]⟩
  exact (C12_startup_accepted_iff_off hg hin n sub).1

example : (request baseRoutes { exOn with st := .shuttingDown, upDur := 0 } "startup" (.opaque .success)).2 = .failure := by decide

/-- the layers a frame climbs: the wire (a `Link` or the `AirSpace`), an interface's `receive_frame`, the node's
`receive_frame` (and its helpers), the session manager, the software manager, a service's / application's `receive` -/
inductive Layer | wire | iface | node | sess | swmgr | software
deriving DecidableEq, Repr

def layerEdge : String → Option (Layer × Layer)
  | "wire>iface" => some (.wire, .iface)
  | "iface>node" => some (.iface, .node)
  | "node>sess" => some (.node, .sess)
  | "sess>swmgr" => some (.sess, .swmgr)
  | "swmgr>software" => some (.swmgr, .software)
  | _ => none

/-- the regenerated hand-over calls as edges between layers, with "is under the caller's `if self.enabled`" -/
def entryEdges : List (Layer × Layer × Bool) :=
  Gen.Power.frameEntrySites.filterMap (fun e => (layerEdge e.2.1).map (fun p => (p.1, p.2, e.2.2.2)))

/-- layers reachable from `acc` along the given edges (6 layers: 6 rounds suffice) -/
def reachLayers (edges : List (Layer × Layer)) : Nat → List Layer → List Layer
  | 0, acc => acc
  | k + 1, acc => reachLayers edges k (acc ++ (edges.filter (fun e => acc.contains e.1 && !acc.contains e.2)).map (·.2))

/-- **every frame entry point of every node class is behind an enabled-interface test.** Over the regenerated table of
ALL calls of `receive_frame(` / `receive_payload_from_session_manager(` / software `.receive(` under `simulator/` and
`game/` (the extractor refuses a call it cannot classify): (a) every call is a hand-over to the next layer up or a call
of the base-class method; (b) every hand-over from an interface to its node — `NIC`, `RouterInterface`, `SwitchPort`,
the wireless router's `WirelessAccessPoint`, and the wireless base class — sits under `if self.enabled:`; (c) a layer
above the interface is entered only from the layer right below it; hence (d) with the guarded hand-overs removed,
nothing above the interface layer is reachable from the wire: a frame reaches a node's `receive_frame`, its session
manager, its software manager or any `receive` of its software ONLY through an interface that is enabled. -/
theorem C12_gen_frame_entry_points :
    Gen.Power.frameEntrySites.all (fun e => e.2.1 == "super" || (layerEdge e.2.1).isSome) = true ∧
    entryEdges.all (fun e => !(e.1 == .iface && e.2.1 == .node) || e.2.2) = true ∧
    entryEdges.all (fun e => (e.2.1 == .iface && e.1 == .wire) || (e.2.1 == .node && e.1 == .iface) ||
      (e.2.1 == .sess && e.1 == .node) || (e.2.1 == .swmgr && e.1 == .sess) || (e.2.1 == .software && e.1 == .swmgr)) = true ∧
    (reachLayers ((entryEdges.filter (fun e => !e.2.2)).map (fun e => (e.1, e.2.1))) 6 [.wire]).all
      (fun l => l == .wire || l == .iface) = true ∧
    [Layer.iface, .node, .sess, .swmgr, .software].all
      (fun l => (reachLayers (entryEdges.map (fun e => (e.1, e.2.1))) 6 [.wire]).contains l) = true ∧
    ((Gen.Power.frameEntrySites.filter (fun e => e.2.1 == "iface>node")).map (·.1)) =
      ["WirelessNetworkInterface.receive_frame@airspace.py", "NIC.receive_frame@host_node.py",
       "RouterInterface.receive_frame@router.py", "SwitchPort.receive_frame@switch.py",
       "WirelessAccessPoint.receive_frame@wireless_router.py"] := by decide +kernel

/-- how far up a frame handed to interface `i` of node `n` can get: past the interface only if the interface passes it
(what the node, the session manager and the software then do with it is C06/C08/C13's) -/
def frameClimbs (n : Node) (i : Nat) : List Layer :=
  if nicPasses n i then [.iface, .node, .sess, .swmgr, .software] else [.iface]

/-- **a node that is not ON processes no traffic.** For any route table, any start satisfying the interface invariant
(every loaded node does: `C12_load_inv`) and any sequence of requests, ticks, frames, pre-timesteps, duration changes,
episode set-ups and direct API calls: while the node is not ON, a frame arriving at any of its interfaces stops at the
interface — the node's `receive_frame`, its session manager, its software manager and the `receive` of its services and
applications are not reached (`C12_gen_frame_entry_points`: there is no other way in). -/
theorem C12_not_on_frame_stops_at_interface (tbl : List Route) (n : Node) (ops : List XOp) (h1 : NicInv n) (h2 : OffInvS n)
    (hne : (xrun tbl n ops).st ≠ .on) (i : Nat) : frameClimbs (xrun tbl n ops) i = [.iface] := by
  have := nicPasses_of_nicsOff ((C12_inv_all_entry_points tbl n ops h1 h2).1 hne) i
  simp [frameClimbs, this]

example : frameClimbs exOn 0 = [.iface, .node, .sess, .swmgr, .software] ∧ frameClimbs (run baseRoutes exOn [shutdownOp]) 0 = [.iface] := by
  decide

end Primaite.Power
