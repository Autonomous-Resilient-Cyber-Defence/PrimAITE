/-
C17 — the data-manipulation bot's stage machine, translated statement by statement (Gen/DatabaseBotTr.lean), equals the
closed form in which the model's `State.dmAttack` is written (`dmAdvance`, `dmRepeatRule`, and the order: client missing → FAILED /
overwrite the host client's address and password / stage test / trial / connect unless connected / query / SUCCEEDED or FAILED);
likewise the ransomware script's loop and the closed form of `State.ransom` (`rsLoopSpec`).
-/
import PrimaiteModel.Model.DatabaseBot
import PrimaiteModel.Gen.DatabaseBotTr
namespace Primaite.Database
open Primaite.Gen

/-- the closed form: exactly the decisions of `State.dmAttack` (Model/Database.lean), on the bot's own record -/
def dmLoopSpec (w : BotW) (scan atk : Bool) (newConn : Option Nat) (qok : Bool) : BotW :=
  let stage := dmAdvance w.stage scan
  if !w.hasClient then { w with stage := dmRepeatRule w.rep 5 }
  else
    let w1 := { w with ipSet := true, pwSet := true }
    if !(stage = 2 ∧ atk) then { w1 with stage := dmRepeatRule w.rep stage }
    else
      let conn := if w.conn.isSome then w.conn else newConn
      if conn.isSome then { w1 with conn := conn, queried := true, stage := dmRepeatRule w.rep (if qok then 4 else 5) }
      else { w1 with conn := conn, stage := dmRepeatRule w.rep stage }

/-- the enum values the model's stage numbers stand for -/
theorem C17_gen_dm_stages :
    DatabaseBotTr.stageValues = [("NOT_STARTED", 0), ("LOGON", 1), ("PORT_SCAN", 2), ("ATTACKING", 3), ("SUCCEEDED", 4), ("FAILED", 5)] := by
  decide

/-- `_logon` then `_perform_port_scan` = `dmAdvance` (the scan trial matters in stage LOGON only) -/
theorem C17_tr_dm_advance (w : BotW) (canAct scan atk : Bool) (newConn : Option Nat) (qok : Bool) :
    DatabaseBotTr.performPortScan (DatabaseBotTr.logon w canAct scan atk newConn qok) canAct scan atk newConn qok
      = { w with stage := dmAdvance w.stage scan } := by
  unfold DatabaseBotTr.performPortScan DatabaseBotTr.logon dmAdvance
  obtain ⟨stage, conn, hasClient, ip, payload, rep, ipSet, pwSet, queried⟩ := w
  by_cases h0 : stage = 0 <;> by_cases h1 : stage = 1 <;> cases scan <;> simp [h0, h1]

theorem performDataManipulation_eq (w : BotW) (canAct scan atk : Bool) (newConn : Option Nat) (qok : Bool) :
    DatabaseBotTr.performDataManipulation w canAct scan atk newConn qok =
      if !w.hasClient then { w with stage := 5 }
      else if !(w.stage = 2 ∧ atk) then { w with ipSet := true, pwSet := true }
      else if (if w.conn.isSome then w.conn else newConn).isSome then
        { w with ipSet := true, pwSet := true, conn := if w.conn.isSome then w.conn else newConn, queried := true,
                 stage := if qok then 4 else 5 }
      else { w with ipSet := true, pwSet := true, conn := if w.conn.isSome then w.conn else newConn } := by
  unfold DatabaseBotTr.performDataManipulation DatabaseBotTr.establishDbConnection
  cases hc : w.hasClient
  · rfl
  · by_cases hs : w.stage = 2
    · cases atk
      · simp [hs]
      · cases hcn : w.conn with
        | some c => cases qok <;> simp [hs]
        | none => cases newConn <;> cases qok <;> simp [hs]
    · simp [hs]

/-- the `repeat` test at the end of `_application_loop` = `dmRepeatRule` -/
theorem dmRepeat_eq (w : BotW) :
    (if (w.rep && ((w.stage == 4) || (w.stage == 5))) = true then { w with stage := 0 } else w)
      = { w with stage := dmRepeatRule w.rep w.stage } := by
  unfold dmRepeatRule
  by_cases h : w.rep = true ∧ (w.stage = 4 ∨ w.stage = 5)
  · simp [h]
  · have h' : (w.rep && ((w.stage == 4) || (w.stage == 5))) = false := by simpa using h
    simp [h, h']

/-- **The bot's application loop.** For every state of the bot and every outcome of the calls it makes: the translated
`_application_loop` = the closed form, and it answers True exactly when the bot can act and has a target and a payload. -/
theorem C17_tr_dm_loop (w : BotW) (canAct scan atk : Bool) (newConn : Option Nat) (qok : Bool) :
    DatabaseBotTr.applicationLoop w canAct scan atk newConn qok =
      if canAct && w.ip && w.payload then (dmLoopSpec w scan atk newConn qok, true) else (w, false) := by
  unfold DatabaseBotTr.applicationLoop
  cases canAct
  · simp
  · cases hip : w.ip <;> cases hpl : w.payload <;> simp only [Bool.not_true, Bool.false_eq_true, if_false, Bool.and_true, Bool.and_false,
      if_true]
    -- both branches of the `repeat` test return True: the pair is (the repeat rule applied, True)
    have hpair : ∀ v : BotW, (if (v.rep && ((v.stage == 4) || (v.stage == 5))) = true then ({ v with stage := 0 }, true) else (v, true))
        = ((if (v.rep && ((v.stage == 4) || (v.stage == 5))) = true then { v with stage := 0 } else v), true) := by
      intro v; split <;> rfl
    rw [C17_tr_dm_advance, hpair, dmRepeat_eq, performDataManipulation_eq]
    unfold dmLoopSpec
    dsimp only
    generalize (if w.conn.isSome = true then w.conn else newConn) = conn
    split
    · rfl
    · split
      · rfl
      · split <;> rfl

/-- non-vacuity: NOT_STARTED, scan succeeds, attack succeeds, no connection yet, the connect works, the query works: SUCCEEDED,
which the repeat rule turns into NOT_STARTED; with `repeat` off it stays SUCCEEDED; a failed query gives FAILED. -/
example :
    (DatabaseBotTr.applicationLoop {} true true true (some 7) true).1.stage = 0 ∧
    (DatabaseBotTr.applicationLoop { rep := false } true true true (some 7) true).1.stage = 4 ∧
    (DatabaseBotTr.applicationLoop { rep := false } true true true (some 7) false).1.stage = 5 ∧
    (DatabaseBotTr.applicationLoop { rep := false } true true true none true).1.stage = 2 ∧
    (DatabaseBotTr.applicationLoop { rep := false } true false true (some 7) true).1.stage = 1 ∧
    (DatabaseBotTr.applicationLoop { rep := false, hasClient := false } true true true (some 7) true).1 =
      { rep := false, hasClient := false, stage := 5 } := by decide

/-- the closed form: exactly the decisions of `State.ransom` (Model/Database.lean) after the application was run -/
def rsLoopSpec (w : BotW) (canAct : Bool) (newConn : Option Nat) (qok : Bool) : BotW × Bool :=
  if !canAct then (w, false)
  else if !(w.ip && w.payload) then (w, false)
  else if !w.hasClient then (w, false)
  else
    -- the script overwrites the host client's address and password with its own
    let w1 := { w with ipSet := true, pwSet := true }
    -- `if not self._db_connection: self._establish_db_connection()`
    let conn := if w.conn.isSome then w.conn else newConn
    if conn.isSome then ({ w1 with conn := conn, queried := true }, qok) else ({ w1 with conn := conn }, false)

/-- **The ransomware script's loop**, translated, = the closed form, for every state of the script and every outcome of its calls:
no payload is sent unless the script can act, has a target and a payload, a database client is on the host and a connection was
obtained; the answer is the query's. -/
theorem C17_tr_rs_loop (w : BotW) (canAct scan atk : Bool) (newConn : Option Nat) (qok : Bool) :
    DatabaseBotTr.rsApplicationLoop w canAct scan atk newConn qok = rsLoopSpec w canAct newConn qok := by
  unfold DatabaseBotTr.rsApplicationLoop DatabaseBotTr.rsPerformRansomwareEncrypt DatabaseBotTr.rsEstablishDbConnection rsLoopSpec
  cases canAct
  · rfl
  · by_cases hip : (w.ip && w.payload) = true
    · cases hc : w.hasClient
      · simp [hip]
      · cases hcn : w.conn with
        | some c => cases qok <;> simp [hip]
        | none => cases newConn <;> cases qok <;> simp [hip]
    · simp [hip]

example :
    (DatabaseBotTr.rsApplicationLoop {} true false false (some 3) true) = ({ conn := some 3, ipSet := true, pwSet := true, queried := true }, true) ∧
    (DatabaseBotTr.rsApplicationLoop {} true false false none true).2 = false ∧
    (DatabaseBotTr.rsApplicationLoop { hasClient := false } true false false (some 3) true) = ({ hasClient := false }, false) := by decide

end Primaite.Database
