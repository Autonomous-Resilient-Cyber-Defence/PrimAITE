/-
C08, part 13 — the SERVICE exchange with COLD caches across one router: a request of any application / service identified by its
(port, protocol) key — DNS look-up, database connect or query, HTTP request … — from host A to the server on host B, host —
router — host over direct cables, every ARP cache empty, and the answer back.  The same three ARP cascades as for the ping
(`C08ColdRouter.lean`) are part of the statement; what differs is who decides: the router's rule list must permit the service,
the port must be open on both hosts (`HostNode.receive_frame`), the server software must be there
(`port_protocol_mapping.get((port, protocol))`), and the answer goes to the request's source.
-/
import PrimaiteModel.Props.C08ColdRouter
namespace Primaite.Forward

/-- **A PERMITTED SERVICE EXCHANGE SUCCEEDS WITH COLD CACHES ACROSS ONE ROUTER.**  `ColdRouted` (host A — plain router — host B,
direct cables, different subnets, all three ARP caches empty), the service's port open on both hosts, its server software on B,
a rule for it on the router: `requestApp` (one request that is answered with a frame) returns `True` — A resolves its gateway,
the router resolves B while it holds the request, B's software is found under the key and answers to the request's source
through B's (already learned) gateway, the router forwards the answer from its cache, A's software records it.  Any service
key, every fuel ≥ 16. -/
theorem C08_permitted_app_exchange_succeeds_cold_routed (fuel : Nat) (st : St) (a r b ia ib : Nat) (ndA ndR ndB : Node)
    (ifA ifB ra rb ownA ownB : Iface) (h : ColdRouted st a r b ia ib ndA ndR ndB ifA ifB ra rb ownA ownB) (svc : Nat)
    (hpA : ndA.ports.contains svc = true) (hpB : ndB.ports.contains svc = true) (hsB : ndB.serves.contains svc = true)
    (hsR : ndR.serves.contains svc = true) :
    (requestApp (fuel + 16) st a ifB.ip svc true).2 = true := by
  have S0 : Snap st (cfgOf st) a b r ndA ndB ndR := ⟨rfl, h.nodeA, h.nodeB, h.nodeR⟩
  have cgA := arpGet_nil ndA h.coldA
  -- A resolves its gateway: `resolveDetails` asks ARP for the gateway's MAC
  obtain ⟨Y1, hY1, SY1, hgA⟩ := h.gateway_arp (fuel + 3) st S0
  have hfeA : firstEnabledIn ndA.ifaces ifB.ip 0 = none := by simp [h.ifsA, firstEnabledIn, h.offAB]
  obtain ⟨gw', hnext⟩ := hostArpNext_first ndA ra.ip
  have hany1 : (ndA.addArp ra.ip ra.mac 0).ifaces.any (·.enabled) = true := by simp [addArp_ifaces, h.ifsA, h.enA]
  have hmac0 : arpMac (fuel + 14) st a ra.ip false false = (Y1, some ra.mac) :=
    arpMac_miss_ask_hit S0.na (cgA ra.ip) (by rw [arpNext, h.kindA]; exact hnext) hY1 SY1.na hgA
  have hifc0 : arpIfc (fuel + 14) Y1 a ra.ip false false = (Y1, some 0) := by
    simp only [arpIfc, SY1.na, hgA]
  have hrd0 : resolveDetails (fuel + 15) st a ifB.ip = (Y1, some ra.mac, some 0) := by
    simp only [resolveDetails, S0.na, hfeA, h.kindA, h.gwA, hmac0, SY1.na, hany1, if_true, hifc0]
  have hrdY : resolveDetails (fuel + 15) Y1 a ifB.ip = (Y1, some ra.mac, some 0) :=
    C08_host_resolves_gateway (fuel + 13) Y1 a _ ifB.ip ra.ip _ SY1.na (by rw [addArp_kind]; exact h.kindA)
      (by rw [addArp_ifaces]; exact hfeA) (by rw [addArp_gateway]; exact h.gwA) hgA hany1
  have hsame : sendIcmp (fuel + 16) st a ifB.ip (.appReq svc true) = sendIcmp (fuel + 16) Y1 a ifB.ip (.appReq svc true) := by
    simp only [sendIcmp, hrd0, hrdY]
  -- the round trip; B's server software records the request and answers
  have hperm : ∀ pl, pl = .appReq svc true ∨ pl = .appRep svc → Permitted ndR.serves pl := by
    rintro pl (rfl | rfl) <;> exact ⟨by simp, by simp, by simpa [appDenied] using hsR⟩
  obtain ⟨X, G, hrt, hXa, Gp⟩ := cold_routed_round_trip fuel st a r b ia ib ndA ndR ndB ifA ifB ra rb ownA ownB h
    (.appReq svc true) (.appRep svc) (hperm _ (Or.inl rfl)) (hperm _ (Or.inr rfl))
    (fun X => X.modNode b (fun nd => { nd with acks := svc :: nd.acks })) (fun nd => { nd with acks := svc :: nd.acks })
    (fun S => S.modB _ (fun _ => rfl) h.ab h.br) (fun _ => ⟨rfl, fun _ => rfl⟩)
    (by
      intro k X B f e hn _ hon hifs hports hserves _ hpl _
      exact host_app_req (k + 2) X b B ifB f svc hn hon hifs hpl (by rw [hports]; exact hpB) (by rw [hserves]; exact hsB))
    Y1 SY1
  have hfinal : (sendIcmp (fuel + 16) st a ifB.ip (.appReq svc true)).node? a =
      some { ((ndA.addArp ra.ip ra.mac 0).addArp G.srcIp G.srcMac 0) with
        got := svc :: ((ndA.addArp ra.ip ra.mac 0).addArp G.srcIp G.srcMac 0).got } := by
    rw [hsame, hrt, host_app_rep fuel X a _ ifA G svc hXa (by rw [addArp_on]; exact h.onA) (by rw [addArp_ifaces]; exact h.ifsA) Gp
      (by rw [addArp_ports]; exact hpA)]
    simp only [node?_modNode, if_true, emit_node, hXa, Option.map_some]
  unfold requestApp
  simp only [h.nodeA, Option.any_some, h.onA, Bool.not_true, Bool.false_eq_true, if_false, hfinal, Option.map_some, Option.getD_some]
  rw [addArp_got, addArp_got]
  simp

/-! ### non-vacuity: `exNet` with a DNS-like service (key 53) on host 2, its port open on both hosts, a rule on the router -/

def caSt (routerRule clientPort server : Bool) : St :=
  { nodes := [
      { exNet.nodes[0] with ports := if clientPort then [53] else [] },
      { exNet.nodes[1] with serves := if routerRule then [53] else [] },
      { exNet.nodes[2] with ports := [53], serves := if server then [53] else [] } ] }

theorem caRouted : ColdRouted (caSt true true true) 0 1 2 0 1 (caSt true true true).nodes[0] (caSt true true true).nodes[1]
    (caSt true true true).nodes[2] crA crB crRa crRb crRa crRb :=
  -- `caSt` differs from `exNet` in `ports` and `serves` only, which `ColdRouted` does not read
  { crRouted with nodeA := rfl, nodeB := rfl, nodeR := rfl }

/-- the theorem applies at its smallest budget and agrees with evaluation; 15 levels are not enough; … -/
example : (requestApp 16 (caSt true true true) 0 crB.ip 53 true).2 = true :=
  C08_permitted_app_exchange_succeeds_cold_routed 0 _ 0 1 2 0 1 _ _ _ crA crB crRa crRb crRa crRb caRouted 53 rfl rfl rfl rfl
example : (requestApp 16 (caSt true true true) 0 crB.ip 53 true).2 = true := by decide +kernel
example : (requestApp 15 (caSt true true true) 0 crB.ip 53 true).1.oof = true := by decide +kernel
/-- … and every hypothesis matters: no rule on the router, the client's port closed, no server software — no answer. -/
example : (requestApp 200 (caSt false true true) 0 crB.ip 53 true).2 = false := by decide +kernel
example : (requestApp 200 (caSt true false true) 0 crB.ip 53 true).2 = false := by decide +kernel
example : (requestApp 200 (caSt true true false) 0 crB.ip 53 true).2 = false := by decide +kernel

end Primaite.Forward
