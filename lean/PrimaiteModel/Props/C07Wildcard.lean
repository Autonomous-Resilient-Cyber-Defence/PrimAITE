/-
C07 — wildcard masks as users read them.  `C07_wildcard_spec` (Props/C07.lean) is the bitwise meaning of
`ip_matches_masked_range`; here: the INTERVAL reading for contiguous masks (`0.0.0.255` ⇒ the /24 the base lies in), the
two extreme masks, the irrelevance of the base's masked-out bits, and the degenerate address fields as the code treats them
(mask without address: ignored; address without mask: exact match; `ALL`: no constraint).
-/
import PrimaiteModel.Props.C07
namespace Primaite.Acl

/-- a contiguous ("suffix") wildcard mask: the low `k` bits set — `0.0.0.255` is `lowMask 8`, `0.0.255.255` is `lowMask 16` -/
def lowMask (k : Nat) : Ip := BitVec.ofNat 32 (2 ^ k - 1)

theorem lowMask_bit (k i : Nat) (hi : i < 32) : (lowMask k).getLsbD i = decide (i < k) := by
  unfold lowMask
  rw [BitVec.getLsbD_ofNat, Nat.testBit_two_pow_sub_one]
  simp [hi]

/-- **Contiguous masks select the aligned block the base lies in**: with the low `k` bits wild, an address matches iff it
agrees with the base on everything above bit `k`, i.e. iff the two addresses have the same quotient by `2^k`. -/
theorem C07_wildcard_contiguous (k : Nat) (ip base : Ip) :
    ipMatches ip base (lowMask k) = true ↔ ip.toNat / 2 ^ k = base.toNat / 2 ^ k := by
  -- both sides say that `ip >>> k` and `base >>> k` agree bit by bit; beyond bit 31 both addresses have no bits
  rw [C07_wildcard_spec, ← Nat.shiftRight_eq_div_pow, ← Nat.shiftRight_eq_div_pow, ← BitVec.toNat_ushiftRight,
    ← BitVec.toNat_ushiftRight, BitVec.toNat_inj, BitVec.eq_of_getLsbD_eq_iff]
  simp only [BitVec.getLsbD_ushiftRight]
  constructor
  · intro h j _
    by_cases hj : k + j < 32
    · exact h _ hj (by rw [lowMask_bit k _ hj]; simp)
    · rw [BitVec.getLsbD_of_ge _ _ (by omega), BitVec.getLsbD_of_ge _ _ (by omega)]
  · intro h i hi hw
    rw [lowMask_bit k i hi, decide_eq_false_iff_not, Nat.not_lt] at hw
    have := h (i - k) (by omega)
    rwa [Nat.add_sub_cancel' hw] at this

/-- The interval reading: the matching addresses are exactly the `2^k` consecutive ones starting at the base rounded down
to a multiple of `2^k` — whatever low bits the base itself carries. -/
theorem C07_wildcard_interval (k : Nat) (ip base : Ip) :
    ipMatches ip base (lowMask k) = true ↔
      base.toNat / 2 ^ k * 2 ^ k ≤ ip.toNat ∧ ip.toNat < base.toNat / 2 ^ k * 2 ^ k + 2 ^ k := by
  rw [C07_wildcard_contiguous]
  have hp : 0 < 2 ^ k := Nat.two_pow_pos k
  constructor
  · intro h
    rw [← h]
    exact ⟨Nat.div_mul_le_self _ _, Nat.lt_div_mul_add hp⟩
  · rintro ⟨h1, h2⟩
    have hle : base.toNat / 2 ^ k ≤ ip.toNat / 2 ^ k := (Nat.le_div_iff_mul_le hp).mpr h1
    have hlt : ip.toNat / 2 ^ k < base.toNat / 2 ^ k + 1 := by
      rw [Nat.div_lt_iff_lt_mul hp, Nat.add_mul, Nat.one_mul]; exact h2
    omega

/-- `0.0.0.255`: the /24 network of the base — `192.168.1.77 / 0.0.0.255` means `192.168.1.0 … 192.168.1.255`. -/
theorem C07_wildcard_slash24 (ip base : Ip) :
    ipMatches ip base 0x000000FF#32 = true ↔
      base.toNat / 256 * 256 ≤ ip.toNat ∧ ip.toNat < base.toNat / 256 * 256 + 256 :=
  C07_wildcard_interval 8 ip base

/-- `0.0.255.255`: the /16 of the base -/
theorem C07_wildcard_slash16 (ip base : Ip) :
    ipMatches ip base 0x0000FFFF#32 = true ↔
      base.toNat / 65536 * 65536 ≤ ip.toNat ∧ ip.toNat < base.toNat / 65536 * 65536 + 65536 :=
  C07_wildcard_interval 16 ip base

/-- mask `0.0.0.0` is the exact match; mask `255.255.255.255` matches every address (the docs' "deny all" rule uses it) -/
theorem C07_wildcard_extremes (ip base : Ip) :
    (ipMatches ip base 0#32 = true ↔ ip = base) ∧ ipMatches ip base 0xFFFFFFFF#32 = true := by
  constructor
  · simp only [ipMatches, BitVec.not_zero, BitVec.and_allOnes, beq_iff_eq]
    exact eq_comm
  · have h : ~~~(0xFFFFFFFF#32 : Ip) = 0#32 := by decide
    simp [ipMatches, h]

/-- the base's masked-out bits are irrelevant: any base inside the range denotes the same range -/
theorem C07_wildcard_base_free (ip base base' wc : Ip)
    (h : ∀ i : Nat, i < 32 → wc.getLsbD i = false → base'.getLsbD i = base.getLsbD i) :
    ipMatches ip base' wc = ipMatches ip base wc := by
  rw [Bool.eq_iff_iff, C07_wildcard_spec, C07_wildcard_spec]
  exact forall_congr' fun i => forall_congr' fun hi => forall_congr' fun hw => by rw [h i hi hw]

/-- NOT every mask is an interval: with `0.0.255.0` the matching set has holes (why "shift away the wild bits" — the
seeded change C07-a — is wrong): `10.0.3.9` is outside `10.0.0.5 / 0.0.255.0` although it lies between two members. -/
theorem C07_wildcard_noncontiguous_example :
    ipMatches 0x0A000305#32 0x0A000005#32 0x0000FF00#32 = true ∧
    ipMatches 0x0A000309#32 0x0A000005#32 0x0000FF00#32 = false ∧
    ipMatches 0x0A00FF05#32 0x0A000005#32 0x0000FF00#32 = true := by decide

/-- `src_ip = ALL` (no address): the field matches everything, and a wildcard mask given WITHOUT an address is ignored;
an address WITHOUT a mask (`NONE`) is an exact match; with both, the masked range. -/
theorem C07_addr_field_cases (ip base wc : Ip) (owc : Option Ip) :
    addrMatches none owc ip = true ∧
    (addrMatches (some base) none ip = true ↔ ip = base) ∧
    addrMatches (some base) (some wc) ip = ipMatches ip base wc := by
  refine ⟨rfl, ?_, rfl⟩
  simp [addrMatches]

/-- non-vacuity of the interval reading on the documentation's own example (192.168.1.0 / 0.0.0.255) -/
example : ipMatches 0xC0A80117#32 0xC0A80100#32 0x000000FF#32 = true ∧
    ipMatches 0xC0A80217#32 0xC0A80100#32 0x000000FF#32 = false := by decide

end Primaite.Acl
