/-
Property C15: "never neither", across folders and across both layers.

`Keeps` (Lemmas/FileSystemState.lean) says that every file uuid stays with ITS folder; `move_file` takes a file out of its folder
by design, so `Keeps` does not hold for it, nor for runs that mix requests with API calls.  `GKeeps` is the
statement across folders: every folder uuid is still a folder uuid, and every file uuid is still a file uuid of SOME folder.
It holds for every request, tick, API call (`move_file` included) and node-level event, hence along every run; with `XDisj` and
`C15_partition` the place is unique: at every later moment every item ever created is in exactly one of the two sets of exactly
one owner.
-/
import PrimaiteModel.Props.C15Disjoint
namespace Primaite.FileSystem

/-- No folder uuid and no file uuid disappears (the file may have changed folder). -/
def GKeeps (s s' : State) : Prop :=
  (∀ g, g ∈ s.folders ∨ g ∈ s.deletedFolders → ∃ g', (g' ∈ s'.folders ∨ g' ∈ s'.deletedFolders) ∧ g'.id = g.id) ∧
  (∀ g, g ∈ s.folders ∨ g ∈ s.deletedFolders → ∀ f, f ∈ g.files ∨ f ∈ g.deletedFiles →
    ∃ g' f', (g' ∈ s'.folders ∨ g' ∈ s'.deletedFolders) ∧ (f' ∈ g'.files ∨ f' ∈ g'.deletedFiles) ∧ f'.id = f.id)

theorem GKeeps.refl (s : State) : GKeeps s s :=
  ⟨fun g hg => ⟨g, hg, rfl⟩, fun g hg f hf => ⟨g, f, hg, hf, rfl⟩⟩

theorem GKeeps.trans {a b c : State} (h1 : GKeeps a b) (h2 : GKeeps b c) : GKeeps a c := by
  refine ⟨?_, ?_⟩
  · intro g hg
    obtain ⟨g1, hg1, e1⟩ := h1.1 g hg
    obtain ⟨g2, hg2, e2⟩ := h2.1 g1 hg1
    exact ⟨g2, hg2, e2.trans e1⟩
  · intro g hg f hf
    obtain ⟨g1, f1, hg1, hf1, e1⟩ := h1.2 g hg f hf
    obtain ⟨g2, f2, hg2, hf2, e2⟩ := h2.2 g1 hg1 f1 hf1
    exact ⟨g2, f2, hg2, hf2, e2.trans e1⟩

theorem GKeeps.of_keeps {s s' : State} (h : Keeps s s') : GKeeps s s' := by
  refine ⟨?_, ?_⟩
  · intro g hg
    obtain ⟨g', hg', e, _⟩ := h g hg
    exact ⟨g', hg', e⟩
  · intro g hg f hf
    obtain ⟨g', hg', _, hk⟩ := h g hg
    obtain ⟨f', hf', e⟩ := hk f hf
    exact ⟨g', f', hg', hf', e⟩

/-- **`move_file` loses nothing**: every folder is still there, every file of every folder is still somewhere — the moved file in
the destination, all others where they were. -/
theorem gkeeps_apiMoveFile {s : State} (h : Inv s) (F x G : Name) : GKeeps s (apiMoveFile s F x G).1 := by
  refine apiMoveFile_cases h F x G (fun _ => GKeeps.refl s) (fun src f s1 dst hsrc hf hr h1 hs hd hfm hne => ?_)
  have k1 : GKeeps s s1 := by have := GKeeps.of_keeps ((change_getOrCreateFolder h G).keeps h); rwa [hr] at this
  split
  · exact k1
  · rename_i hc
    have hne := hne (Option.not_isSome_iff_eq_none.mp hc)
    let pop : Folder → Folder := fun g => { g with files := dictPop File.id g.files f.id }
    -- the second update, `add_file` on the destination, keeps every file with its folder
    have k2 : Keeps (updFolder s1 src.id pop) (updFolder (updFolder s1 src.id pop) dst.id (fun g => g.addFile f)) :=
      keeps_updFolder dst.id _ rfl rfl (fun g0 _ _ => ⟨rfl, folderKeeps_addFile g0 f⟩)
    refine k1.trans ⟨fun g hg => ?_, fun g hg y hy => ?_⟩
    · obtain ⟨g', hg', e, _⟩ := k2 _ (mem_updFolder_image (i := src.id) (t := pop) hg)
      exact ⟨g', hg', e.trans (by split <;> rfl)⟩
    · by_cases hy' : y.id = f.id
      · -- the moved file: in the destination, which the pop left alone
        refine ⟨_, f, mem_updFolder_image (mem_updFolder_image (Or.inl hd)), ?_, hy'.symm⟩
        have hb : (dst.id == src.id) = false := by simpa using hne
        simp only [hb, Bool.false_eq_true, if_false, beq_self_eq_true, if_true]
        exact Or.inl ((mem_dictSet File.id).mpr (Or.inl rfl))
      · -- any other file survives the pop where it is
        have hpop : y ∈ (if g.id == src.id then pop g else g).files ∨ y ∈ (if g.id == src.id then pop g else g).deletedFiles := by
          split
          · exact hy.imp (fun hl => (mem_dictPop File.id).mpr ⟨hl, hy'⟩) id
          · exact hy
        obtain ⟨g', hg', _, hk⟩ := k2 _ (mem_updFolder_image (i := src.id) (t := pop) hg)
        obtain ⟨y', hy'm, e⟩ := hk y hpop
        exact ⟨g', y', hg', hy'm, e⟩

theorem C15_no_item_lost_any_step {s : State} (h : Inv s) (op : AnyOp) : GKeeps s (stepAny s op).1 := by
  cases op with
  | req op => exact GKeeps.of_keeps (C15_no_item_lost h op)
  | api op =>
    by_cases hm : ∃ F x G, op = .moveFile F x G
    · obtain ⟨F, x, G, rfl⟩ := hm
      exact gkeeps_apiMoveFile h F x G
    · exact GKeeps.of_keeps (C15_api_no_item_lost h op (fun F x G e => hm ⟨F, x, G, e⟩))

/-- **No item is ever lost, in runs that mix requests, ticks and API calls (`move_file` included) in any order.** -/
theorem C15_no_item_lost_any_run {s : State} (h : Inv2 s) (ops : List AnyOp) : GKeeps s (runAny s ops).1 := by
  induction ops generalizing s with
  | nil => exact GKeeps.refl s
  | cons op ops ih => exact (C15_no_item_lost_any_step h.1 op).trans (ih (C15_inv2_any_step h op))

/-- From any reachable state onwards, along any continuation: every folder and every file that exists now exists at every
later moment, and (`C15_file_in_one_folder`, `C15_partition`) in exactly one place. -/
theorem C15_no_item_lost_any_reachable (d : Option Int) (ops1 ops2 : List AnyOp) :
    GKeeps (runAny (init d) ops1).1 (runAny (runAny (init d) ops1).1 ops2).1 :=
  C15_no_item_lost_any_run (C15_inv2_any_run (C15_inv2_init d) ops1) ops2

theorem C15_node_no_item_lost_step {n : NState} (h : Inv n.x.s) (op : NOp) : GKeeps n.x.s (nstep n op).1.x.s := by
  rcases nstep_structure n op with e | ⟨o, e⟩ | ⟨a, _, e⟩
  · rw [e]; exact GKeeps.refl _
  · rw [e]; exact C15_no_item_lost_any_step h (.req o)
  · rw [e]; exact C15_no_item_lost_any_step h (.api a)

theorem C15_node_no_item_lost_run {n : NState} (h : Inv2 n.x.s) (ops : List NOp) : GKeeps n.x.s (nrun n ops).1.x.s := by
  induction ops generalizing n with
  | nil => exact GKeeps.refl _
  | cons op ops ih => exact (C15_node_no_item_lost_step h.1 op).trans (ih (C15_node_inv2_step h op))

/-- Non-vacuity: a file is moved out of its folder — folder `fa` (uuid 1) holds the uuid 2 neither live nor deleted afterwards, so
`Keeps` fails for that folder — and is found in the destination. -/
example :
    let s := (runAny (init none) [.req (.createFile "fa" "a" false)]).1
    let s' := (stepAny s (.api (.moveFile "fa" "a" "fb"))).1
    (∀ g' ∈ s'.folders ++ s'.deletedFolders, g'.id = 1 → ∀ f' ∈ g'.files ++ g'.deletedFiles, f'.id ≠ 2) ∧
    (s'.folders.map fun g => (g.name, g.files.map File.id)) = [("root", []), ("fa", []), ("fb", [2])] := by
  decide

end Primaite.FileSystem
