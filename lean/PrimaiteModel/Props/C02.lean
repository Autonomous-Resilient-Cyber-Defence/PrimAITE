/-
C02 — every observation is a member of the declared space: well-formed simulation states (`WfState`), the invariants of
observation objects (`Obs.Ok`, `Obs.CfgOk`), and the in-space theorems class by class up to `C02_obs_in_space` and `C02_run_in_space`.
The model is `Model/Obs.lean`, generic dictionary lemmas are in `Lemmas/ObsDict.lean`.
-/
import PrimaiteModel.Lemmas.ObsDict
import PrimaiteModel.Gen.ObsEnums
import PrimaiteModel.Gen.ObsTables
namespace Primaite.Obs
open Primaite.Gen
open Primaite.Gen.ObsEnums

/-! ### translator tie: the model's constants are the ones the source declares today -/

/-- `space` properties: every `Discrete(...)` argument, per class and key. -/
theorem C02_gen_sizes :
    ObsTables.ServiceObservation_sizes = [("operating_status", .lit serviceOpSize), ("health_status", .lit softwareHealthSize)] ∧
    ObsTables.ApplicationObservation_sizes =
      [("operating_status", .lit appOpSize), ("health_status", .lit softwareHealthSize), ("num_executions", .lit numExecSize)] ∧
    ObsTables.FileObservation_sizes = [("health_status", .lit fileHealthSize), ("num_access", .lit numAccessSize)] ∧
    ObsTables.FolderObservation_sizes = [("health_status", .lit fileHealthSize)] ∧
    ObsTables.NICObservation_sizes =
      [("nic_status", .lit nicStatusSize), ("inbound", .lit nmneSize), ("outbound", .lit nmneSize),
       ("inbound", .lit trafficSize), ("outbound", .lit trafficSize)] ∧
    ObsTables.PortObservation_sizes = [("operating_status", .lit portOpSize)] ∧
    ObsTables.LinkObservation_sizes = [("ALL", .lit linkSize)] ∧
    ObsTables.ACLObservation_sizes =
      [("position", .numRules), ("permission", .lit permissionSize), ("source_ip_id", .distinct "ips" 2),
       ("source_wildcard_id", .distinct "wcs" 2), ("source_port_id", .distinct "ports" 2), ("dest_ip_id", .distinct "ips" 2),
       ("dest_wildcard_id", .distinct "wcs" 2), ("dest_port_id", .distinct "ports" 2), ("protocol_id", .distinct "protos" 2)] ∧
    ObsTables.HostObservation_sizes =
      [("operating_status", .lit hostOpSize), ("num_file_creations", .lit fileCountSize),
       ("num_file_deletions", .lit fileCountSize), ("local_login", .lit localLoginSize), ("remote_sessions", .lit (maxUsers + 1))] ∧
    ObsTables.RouterObservation_sizes = [("local_login", .lit localLoginSize), ("remote_sessions", .lit (maxUsers + 1))] ∧
    ObsTables.FirewallObservation_sizes = [("local_login", .lit localLoginSize), ("remote_sessions", .lit (maxUsers + 1))] ∧
    ObsTables.NullObservation_sizes = [("<self>", .lit 1)] := by
  and_intros <;> rfl

/-- clamps, bin formula, ON test, status codes, `max_users`, default literals. -/
theorem C02_gen_clamps :
    ObsTables.nicTrafficClamp = some trafficClamp ∧ ObsTables.linkClamp = some linkClamp ∧
    ObsTables.fileCreationsClamp = some fileCountClamp ∧ ObsTables.fileDeletionsClamp = some fileCountClamp ∧
    (ObsTables.nicTrafficMul, ObsTables.nicTrafficAdd) = (9, 1) ∧ (ObsTables.linkMul, ObsTables.linkAdd) = (9, 1) ∧
    ObsTables.HostObservation_maxUsers = maxUsers ∧ ObsTables.RouterObservation_maxUsers = maxUsers ∧
    ObsTables.FirewallObservation_maxUsers = maxUsers ∧
    ObsTables.HostObservation_remoteSessionsClampedByMaxUsers = true ∧
    ObsTables.RouterObservation_remoteSessionsClampedByMaxUsers = true ∧
    ObsTables.FirewallObservation_remoteSessionsClampedByMaxUsers = true ∧
    ObsTables.HostObservation_onValue = nodeOn ∧ ObsTables.RouterObservation_onValue = nodeOn ∧
    ObsTables.FirewallObservation_onValue = nodeOn ∧
    NodeOperatingState.T.ON.value = nodeOn ∧
    (ObsTables.nicEnabledCode, ObsTables.nicDisabledCode) = (nicEnabledCode, nicDisabledCode) ∧
    (ObsTables.portEnabledCode, ObsTables.portDisabledCode) = (nicEnabledCode, nicDisabledCode) ∧
    -- NMNE by cases: the counters are read exactly when the
    -- observation includes NMNE and the interface publishes them, into a dictionary created by this very call (never into the stored
    -- default); zeros are reported exactly when NMNE is included and nothing is captured — what `NicObs.val` does
    ObsTables.nmneTable = [true, false].flatMap (fun inc => [true, false].map (fun cap => (inc, cap, inc && cap, true, inc && !cap))) ∧
    ObsTables.nmneObserveReadsClassAttribute = false ∧
    ObsTables.aclSlotRead = ["acl_items.get(i)"] := by
  and_intros <;> rfl

/-- every `default_observation` literal is 0, and every `space` body reads only attributes assigned at construction
(so the space cannot depend on simulation state or episode). -/
theorem C02_gen_defaults_and_space_inputs :
    (ObsTables.ServiceObservation_defaultLeavesAllZero && ObsTables.ApplicationObservation_defaultLeavesAllZero &&
     ObsTables.FileObservation_defaultLeavesAllZero && ObsTables.FolderObservation_defaultLeavesAllZero &&
     ObsTables.NICObservation_defaultLeavesAllZero && ObsTables.PortObservation_defaultLeavesAllZero &&
     ObsTables.LinkObservation_defaultLeavesAllZero && ObsTables.ACLObservation_defaultLeavesAllZero &&
     ObsTables.HostObservation_defaultLeavesAllZero && ObsTables.RouterObservation_defaultLeavesAllZero &&
     ObsTables.FirewallObservation_defaultLeavesAllZero && ObsTables.NullObservation_defaultLeavesAllZero) = true ∧
    (ObsTables.ServiceObservation_spaceReadsOnlyInitAttrs && ObsTables.ApplicationObservation_spaceReadsOnlyInitAttrs &&
     ObsTables.FileObservation_spaceReadsOnlyInitAttrs && ObsTables.FolderObservation_spaceReadsOnlyInitAttrs &&
     ObsTables.NICObservation_spaceReadsOnlyInitAttrs && ObsTables.PortObservation_spaceReadsOnlyInitAttrs &&
     ObsTables.LinkObservation_spaceReadsOnlyInitAttrs && ObsTables.ACLObservation_spaceReadsOnlyInitAttrs &&
     ObsTables.HostObservation_spaceReadsOnlyInitAttrs && ObsTables.RouterObservation_spaceReadsOnlyInitAttrs &&
     ObsTables.FirewallObservation_spaceReadsOnlyInitAttrs && ObsTables.NullObservation_spaceReadsOnlyInitAttrs) = true := by
  and_intros <;> rfl

/-- the three threshold categorisers of the source are the model's `categorise`. -/
theorem C02_gen_categorisers (t : Thr) (n : Int) :
    ObsTables.catNumExecutions t.low t.med t.high n = categorise t n ∧
    ObsTables.catNumAccess t.low t.med t.high n = categorise t n ∧
    ObsTables.catMneCount t.low t.med t.high n = categorise t n := by
  simp only [ObsTables.catNumExecutions, ObsTables.catNumAccess, ObsTables.catMneCount, categorise, and_self]

/-- threshold defaults and validation as modelled. -/
theorem C02_gen_thresholds :
    ObsTables.ApplicationObservation_defaultThresholds = (({} : Thr).low, ({} : Thr).med, ({} : Thr).high) ∧
    ObsTables.FileObservation_defaultThresholds = (({} : Thr).low, ({} : Thr).med, ({} : Thr).high) ∧
    ObsTables.NICObservation_defaultThresholds = (({} : Thr).low, ({} : Thr).med, ({} : Thr).high) ∧
    ObsTables.thresholdsMustStrictlyAscend = true := by
  and_intros <;> rfl

/-! ### leaf facts over the regenerated enumerations: every member's value fits the `Discrete` that carries it -/

theorem C02_leaf_node_op : ∀ n ∈ NodeOperatingState.values, n < hostOpSize := by decide
theorem C02_leaf_service_op : ∀ n ∈ ServiceOperatingState.values, n < serviceOpSize := by decide
theorem C02_leaf_app_op : ∀ n ∈ ApplicationOperatingState.values, n < appOpSize := by decide
theorem C02_leaf_software_health : ∀ n ∈ SoftwareHealthState.values, n < softwareHealthSize := by decide
theorem C02_leaf_file_health : ∀ n ∈ FileSystemItemHealthStatus.values, n < fileHealthSize := by decide
theorem C02_leaf_acl_action : ∀ n ∈ ACLAction.values, n < permissionSize := by decide
theorem C02_leaf_enum_members :
    (∀ s : NodeOperatingState.T, s.value < hostOpSize) ∧ (∀ s : ServiceOperatingState.T, s.value < serviceOpSize) ∧
    (∀ s : ApplicationOperatingState.T, s.value < appOpSize) ∧ (∀ s : SoftwareHealthState.T, s.value < softwareHealthSize) ∧
    (∀ s : FileSystemItemHealthStatus.T, s.value < fileHealthSize) ∧ (∀ s : ACLAction.T, s.value < permissionSize) := by
  refine ⟨?_, ?_, ?_, ?_, ?_, ?_⟩ <;> intro s <;> cases s <;> decide

/-- every bin of a threshold categoriser fits `Discrete(4)`, whatever the thresholds and the count (negative included) -/
theorem C02_leaf_categorise (t : Thr) (n : Int) : categorise t n < 4 := by
  unfold categorise; repeat' split
  all_goals omega

/-- the utilisation bin is clamped: it never raises for a positive capacity and never exceeds the clamp -/
theorem C02_leaf_utilBin (c x b : Nat) (hb : 0 < b) : ∃ i, utilBin c x b = .int i ∧ i ≤ c := by
  unfold utilBin
  split
  · exact ⟨0, rfl, Nat.zero_le _⟩
  · rw [if_neg (by omega)]
    exact ⟨_, rfl, Nat.min_le_right _ _⟩

/-! ### well-formed simulation states: every enumerated quantity is the value of a member of its enumeration -/

def WfSvc (s : SoftwareState) : Prop :=
  s.op ∈ ServiceOperatingState.values ∧ s.healthActual ∈ SoftwareHealthState.values ∧ s.healthVisible ∈ SoftwareHealthState.values

def WfApp (s : SoftwareState) : Prop :=
  s.op ∈ ApplicationOperatingState.values ∧ s.healthActual ∈ SoftwareHealthState.values ∧
  s.healthVisible ∈ SoftwareHealthState.values

def WfFile (f : FileState) : Prop :=
  f.health ∈ FileSystemItemHealthStatus.values ∧ f.visible ∈ FileSystemItemHealthStatus.values

def WfFolder (f : FolderState) : Prop :=
  f.health ∈ FileSystemItemHealthStatus.values ∧ f.visible ∈ FileSystemItemHealthStatus.values ∧ ∀ p ∈ f.files, WfFile p.2

/-- an interface has a positive speed.  (There is no ill-formed NMNE combination to exclude: the observation follows the
interface's own `nmne` entry, so "capturing on, entry missing" cannot be expressed; finding F-10.) -/
def WfNic (n : NicState) : Prop := 0 < n.speed

def WfNode (n : NodeState) : Prop :=
  n.op ∈ NodeOperatingState.values ∧ (∀ p ∈ n.services, WfSvc p.2) ∧ (∀ p ∈ n.apps, WfApp p.2) ∧
  (∀ p ∈ n.folders, WfFolder p.2) ∧ (∀ p ∈ n.nics, WfNic p.2) ∧ n.usm.isSome = true ∧
  (∀ p ∈ n.acls, ∀ r ∈ p.2, ∀ x, r = some x → x.action ∈ ACLAction.values)

def WfState (st : SimState) : Prop :=
  (∀ p ∈ st.nodes, WfNode p.2) ∧ (∀ p ∈ st.links, 0 < p.2.bandwidth)

theorem WfState.node {st h n} (w : WfState st) (hn : st.node h = some n) : WfNode n :=
  w.1 (h, n) (lookupS_mem hn)

theorem WfState.bind_node {α} {st : SimState} (w : WfState st) {h : String} {f : NodeState → Option α} {x : α}
    (hf : (st.node h).bind f = some x) : ∃ n, WfNode n ∧ f n = some x := by
  cases hn : st.node h with
  | none => rw [hn] at hf; cases hf
  | some n => rw [hn] at hf; exact ⟨n, w.node hn, hf⟩

theorem ite_lt {p : Prop} [Decidable p] {a b n : Nat} (ha : a < n) (hb : b < n) : (if p then a else b) < n := by
  split <;> assumption

theorem ServiceObs.find_wf {o : ServiceObs} {st s} (w : WfState st) (hf : o.find st = some s) : WfSvc s := by
  unfold ServiceObs.find at hf
  split at hf
  · cases hf
  · obtain ⟨n, wn, hl⟩ := w.bind_node hf
    exact wn.2.1 _ (lookupS_mem hl)

theorem serviceDefault_in_space : contains serviceSpace serviceDefault = true := by decide

theorem C02_service_in_space (o : ServiceObs) (st : SimState) (w : WfState st) :
    contains serviceSpace (o.val st) = true := by
  unfold ServiceObs.val
  cases hf : o.find st with
  | none => exact serviceDefault_in_space
  | some s =>
    have ws := ServiceObs.find_wf w hf
    exact contains_dict_of_par
      (Par.cons (contains_int (C02_leaf_service_op _ ws.1))
        (Par.single (contains_int (ite_lt (C02_leaf_software_health _ ws.2.2) (C02_leaf_software_health _ ws.2.1)))))
      (by decide)

theorem AppObs.find_wf {o : AppObs} {st s} (w : WfState st) (hf : o.find st = some s) : WfApp s := by
  unfold AppObs.find at hf
  split at hf
  · cases hf
  · obtain ⟨n, wn, hl⟩ := w.bind_node hf
    exact wn.2.2.1 _ (lookupS_mem hl)

theorem appDefault_in_space : contains appSpace appDefault = true := by decide

theorem C02_application_in_space (o : AppObs) (st : SimState) (w : WfState st) :
    contains appSpace (o.val st) = true := by
  unfold AppObs.val
  cases hf : o.find st with
  | none => exact appDefault_in_space
  | some s =>
    have ws := AppObs.find_wf w hf
    exact contains_dict_of_par
      (Par.cons (contains_int (C02_leaf_app_op _ ws.1))
        (Par.cons (contains_int (ite_lt (C02_leaf_software_health _ ws.2.2) (C02_leaf_software_health _ ws.2.1)))
          (Par.single (contains_int (C02_leaf_categorise _ _)))))
      (by decide)

theorem FolderObs.find_wf {o st f} (w : WfState st) (hf : FolderObs.find o st = some f) : WfFolder f := by
  unfold FolderObs.find at hf
  split at hf
  · cases hf
  · obtain ⟨n, wn, hl⟩ := w.bind_node hf
    exact wn.2.2.2.1 _ (lookupS_mem hl)

theorem FileObs.find_wf {o st f} (w : WfState st) (hf : FileObs.find o st = some f) : WfFile f := by
  unfold FileObs.find at hf
  split at hf
  · cases hf
  · rw [Option.bind_assoc] at hf
    obtain ⟨n, wn, hl⟩ := w.bind_node hf
    obtain ⟨fs, hfs, hfi⟩ := Option.bind_eq_some_iff.mp hl
    exact (wn.2.2.2.1 _ (lookupS_mem hfs)).2.2 _ (lookupS_mem hfi)

theorem C02_file_default_in_space (o : FileObs) : contains o.space o.default = true :=
  contains_dict_of_par (Par.cons (by decide) (Par.opt _ _ (fun _ => by decide))) (nodup_keys_cons_opt (by decide) ..)

theorem C02_file_in_space (o : FileObs) (st : SimState) (w : WfState st) :
    contains o.space (o.val st) = true := by
  unfold FileObs.val
  cases hf : o.find st with
  | none => exact C02_file_default_in_space o
  | some f =>
    have wf := FileObs.find_wf w hf
    exact contains_dict_of_par
      (Par.cons (contains_int (ite_lt (C02_leaf_file_health _ wf.2) (C02_leaf_file_health _ wf.1)))
        (Par.opt _ _ (fun _ => contains_int (C02_leaf_categorise _ _))))
      (nodup_keys_cons_opt (by decide) ..)

/-- the folder object's memory is a legal health code (it starts at 0 and only ever stores a reported value) -/
def FolderObs.Ok (o : FolderObs) : Prop := o.cached ∈ FileSystemItemHealthStatus.values

theorem C02_folder_default_in_space (o : FolderObs) : contains o.space o.default = true :=
  contains_dict_of_par
    (Par.cons (by decide) (Par.opt _ _ (fun _ => enum_in_space _ _ _ (fun f _ => C02_file_default_in_space f))))
    (nodup_keys_cons_opt (by decide) ..)

theorem FolderObs.health_lt {o : FolderObs} {f : FolderState} (ok : o.Ok) (wf : WfFolder f) :
    o.health f ∈ FileSystemItemHealthStatus.values := by
  unfold FolderObs.health
  split
  · split
    · exact ok
    · exact wf.2.1
  · exact wf.1

theorem C02_folder_in_space (o : FolderObs) (st : SimState) (w : WfState st) (ok : o.Ok) :
    contains o.space (o.val st) = true := by
  unfold FolderObs.val
  cases hf : o.find st with
  | none => exact C02_folder_default_in_space o
  | some f =>
    exact contains_dict_of_par
      (Par.cons (contains_int (C02_leaf_file_health _ (FolderObs.health_lt ok (FolderObs.find_wf w hf))))
        (Par.opt _ _ (fun _ => enum_in_space _ _ _ (fun fo _ => C02_file_in_space fo st w))))
      (nodup_keys_cons_opt (by decide) ..)

theorem C02_folder_ok_next (o : FolderObs) (st : SimState) (w : WfState st) (ok : o.Ok) :
    (o.next st).Ok := by
  unfold FolderObs.next
  cases hf : o.find st with
  | none => exact ok
  | some f => exact FolderObs.health_lt ok (FolderObs.find_wf w hf)

theorem dedupN_sublist : ∀ l : List Nat, (dedupN l).Sublist l
  | [] => .slnil
  | x :: xs => by
    unfold dedupN
    split
    · exact (dedupN_sublist xs).cons _
    · exact (dedupN_sublist xs).cons_cons _

theorem dedupN_nodup : ∀ l : List Nat, (dedupN l).Nodup
  | [] => List.nodup_nil
  | x :: xs => by
    unfold dedupN
    split
    · exact dedupN_nodup xs
    · next hx => exact List.nodup_cons.mpr ⟨fun h => hx ((dedupN_sublist xs).subset h), dedupN_nodup xs⟩

/-- `monitored_traffic` is a dictionary: its protocol keys are distinct -/
def NicObs.Ok (o : NicObs) : Prop := (o.traffic.map Prod.fst).Nodup

theorem dirDict_in_space {s : Space} {a b : Val} (ha : contains s a = true) (hb : contains s b = true) :
    contains (.dict (dirDict s s)) (.dict (dirDict a b)) = true :=
  contains_dict_of_par (Par.cons ha (Par.single hb)) (show [Key.s "inbound", Key.s "outbound"].Nodup by decide)

theorem traffic_in_space (traffic : List (String × List Nat)) (leaf : String → Option Nat → Bool → Val)
    (hn : (traffic.map Prod.fst).Nodup) (hl : ∀ p q b, contains (.discrete trafficSize) (leaf p q b) = true) :
    contains (.dict (trafficEntries Space.dict traffic (fun _ _ _ => .discrete trafficSize)))
      (.dict (trafficEntries Val.dict traffic leaf)) = true := by
  have hk := nodup_map_of_inj (f := Key.s) (fun _ _ => Key.s.inj) hn
  rw [List.map_map] at hk
  refine map_in_space _ _ _ _ hk (fun pp _ => ?_)
  split
  · exact dirDict_in_space (hl _ _ _) (hl _ _ _)
  · exact map_in_space _ _ _ _ (nodup_map_of_inj (fun _ _ => Key.n.inj) (dedupN_nodup _))
      (fun port _ => dirDict_in_space (hl _ _ _) (hl _ _ _))

theorem C02_nic_default_in_space (o : NicObs) (ok : o.Ok) : contains o.space o.default = true :=
  contains_dict_of_par
    (Par.cons (by decide) (Par.append (Par.opt _ _ (fun _ => by decide))
      (Par.opt _ _ (fun _ => traffic_in_space _ _ ok (fun _ _ _ => by decide)))))
    (nodup_keys_cons_opt2 (by decide) ..)

theorem NicObs.find_wf {o st n} (w : WfState st) (hf : NicObs.find o st = some n) : WfNic n := by
  unfold NicObs.find at hf
  split at hf
  · cases hf
  · obtain ⟨nd, wn, hl⟩ := w.bind_node hf
    exact wn.2.2.2.2.1 _ (lookupN_mem hl)

theorem C02_nic_in_space (o : NicObs) (st : SimState) (w : WfState st) (ok : o.Ok) :
    contains o.space (o.val st) = true := by
  unfold NicObs.val
  cases hf : o.find st with
  | none => exact C02_nic_default_in_space o ok
  | some n =>
    refine contains_dict_of_par (Par.cons (contains_int (ite_lt (by decide) (by decide)))
      (Par.append (Par.opt _ _ (fun _ => ?_)) (Par.opt _ _ (fun _ => traffic_in_space _ _ ok (fun p q b => ?_)))))
      (nodup_keys_cons_opt2 (by decide) ..)
    · split
      · exact dirDict_in_space (by decide) (by decide)
      · exact dirDict_in_space (contains_int (C02_leaf_categorise _ _)) (contains_int (C02_leaf_categorise _ _))
    · obtain ⟨i, hi, hle⟩ := C02_leaf_utilBin trafficClamp (n.amount p q b) n.speed (NicObs.find_wf w hf)
      rw [NicObs.trafficLeaf, hi]
      exact contains_int (Nat.lt_succ_of_le hle)

theorem C02_nic_ok_next (o : NicObs) (st : SimState) (ok : o.Ok) : (o.next st).Ok := by
  unfold NicObs.next
  split
  · exact ok
  · split
    · split <;> exact ok
    · exact ok

theorem portDefault_in_space : contains portSpace portDefault = true := by decide

theorem C02_port_in_space (o : PortObs) (st : SimState) : contains portSpace (o.val st) = true := by
  unfold PortObs.val
  split
  · exact portDefault_in_space
  · exact contains_dict_of_par (Par.single (contains_int (ite_lt (by decide) (by decide)))) (by decide)

theorem LinkObs.find_wf {o : LinkObs} {st l} (w : WfState st) (hf : o.find st = some l) : 0 < l.bandwidth := by
  unfold LinkObs.find at hf
  split at hf
  · next h1 => cases hf; exact w.2 _ (lookupS_mem h1)
  · exact w.2 _ (lookupS_mem hf)

theorem linkDefault_in_space : contains linkSpace linkDefault = true := by decide

theorem C02_link_in_space (o : LinkObs) (st : SimState) (w : WfState st) :
    contains linkSpace (o.val st) = true := by
  unfold LinkObs.val
  cases hf : o.find st with
  | none => exact linkDefault_in_space
  | some l =>
    obtain ⟨i, hi, hle⟩ := C02_leaf_utilBin linkClamp l.load l.bandwidth (LinkObs.find_wf w hf)
    simp only [hi]
    exact contains_dict_of_par
      (Par.single (contains_dict_of_par (Par.single (contains_int (Nat.lt_succ_of_le hle))) (by decide))) (by decide)

theorem C02_links_in_space (os : List LinkObs) (st : SimState) (w : WfState st) :
    contains (Obs.links os).space ((Obs.links os).val st) = true :=
  enum_in_space (fun _ => linkSpace) (LinkObs.val · st) os (fun l _ => C02_link_in_space l st w)

theorem usersDefault_in_space : contains usersSpace usersDefault = true := by decide

theorem C02_users_in_space (u : UsmState) : contains usersSpace (usersVal (some u)) = true :=
  contains_dict_of_par
    (Par.cons (contains_int (ite_lt (by decide) (by decide)))
      (Par.single (contains_int (Nat.lt_succ_of_le (Nat.min_le_left _ _)))))
    (by decide)

/-- a well-formed node has a user-session manager, so the `users` leaf never raises -/
theorem users_in_space_of_wf {n : NodeState} (wn : WfNode n) : contains usersSpace (usersVal n.usm) = true := by
  cases hu : n.usm with
  | none => have := wn.2.2.2.2.2.1; rw [hu] at this; cases this
  | some u => exact C02_users_in_space u

theorem idOf_bounds {α} [DecidableEq α] (x : α) : ∀ (l : List α) (k i : Nat), idOf l x k = some i → k ≤ i ∧ i < k + l.length
  | [], _, _, h => nomatch h
  | y :: ys, k, i, h => by
    unfold idOf at h
    split at h
    · next hr =>
      cases h
      have := idOf_bounds x ys (k + 1) i hr
      simp only [List.length_cons]
      omega
    · split at h
      · cases h
        simp only [List.length_cons]
        omega
      · cases h

theorem idOf_of_mem {α} [DecidableEq α] (l : List α) (x : α) (hx : x ∈ l) : ∀ k, ∃ i, idOf l x k = some i := by
  induction l with
  | nil => simp at hx
  | cons y ys ih =>
    intro k
    simp only [idOf]
    cases hr : idOf ys x (k + 1) with
    | some j => exact ⟨j, rfl⟩
    | none =>
      rcases List.mem_cons.mp hx with h | h
      · exact ⟨k, by simp [h]⟩
      · obtain ⟨i, hi⟩ := ih h (k + 1); rw [hr] at hi; cases hi

theorem distinctCount_nodup {α} [DecidableEq α] : ∀ l : List α, l.Nodup → distinctCount l = l.length
  | [], _ => rfl
  | y :: ys, h => by
    rw [distinctCount, if_neg (List.nodup_cons.mp h).1, distinctCount_nodup ys (List.nodup_cons.mp h).2, List.length_cons]

/-- `.get(v, 1)` leaves: always an id inside `Discrete(len + 2)` when the configured list has no repeated entry -/
theorem getId_in_space {α} [DecidableEq α] (l : List α) (hn : l.Nodup) (x : Option α) :
    contains (.discrete (distinctCount l + 2)) (getId l x) = true := by
  rw [distinctCount_nodup l hn]
  cases x with
  | none => exact contains_int (by omega)
  | some v =>
    simp only [getId]
    cases h : idOf l v with
    | none => exact contains_int (by omega)
    | some i => exact contains_int (by have := idOf_bounds v l 2 i h; omega)

theorem rangeFrom_eq (k n : Nat) : rangeFrom k n = List.range' k n := by
  induction n generalizing k with
  | zero => rfl
  | succ n ih => simp [rangeFrom, ih, List.range'_succ]

theorem rangeKeys_nodup (k n : Nat) : ((rangeFrom k n).map Key.n).Nodup := by
  rw [rangeFrom_eq]
  exact nodup_map_of_inj (fun _ _ => Key.n.inj) List.nodup_range'

theorem mem_rangeFrom_zero {n i : Nat} (h : i ∈ rangeFrom 0 n) : i < n := by
  rw [rangeFrom_eq] at h
  have := (List.mem_range'_1.mp h).2
  omega

theorem aclRule_par {a b c d e f g h i : Space} {a' b' c' d' e' f' g' h' i' : Val}
    (ha : contains a a' = true) (hb : contains b b' = true) (hc : contains c c' = true) (hd : contains d d' = true)
    (he : contains e e' = true) (hf : contains f f' = true) (hg : contains g g' = true) (hh : contains h h' = true)
    (hi : contains i i' = true) :
    contains (.dict (aclRuleDict a b c d e f g h i)) (.dict (aclRuleDict a' b' c' d' e' f' g' h' i')) = true :=
  contains_dict_of_par
    (Par.cons ha (Par.cons hb (Par.cons hc (Par.cons hd (Par.cons he (Par.cons hf (Par.cons hg (Par.cons hh (Par.single hi)))))))))
    (show (aclRuleKeys.map Key.s).Nodup by decide)

theorem C02_acl_empty_rule_in_space (o : AclObs) (i : Nat) (hi : i < o.numRules) : contains o.ruleSpace (aclEmptyRule i) = true :=
  have h2 {n : Nat} : contains (.discrete (n + 2)) (.int 0) = true := contains_int (by omega)
  aclRule_par (contains_int hi) (by decide) h2 h2 h2 h2 h2 h2 h2

theorem C02_acl_default_in_space (o : AclObs) : contains o.space o.default = true :=
  map_in_space _ _ _ _ (rangeKeys_nodup _ _) (fun i hi => C02_acl_empty_rule_in_space o i (mem_rangeFrom_zero hi))

/-- invariant of construction: the id tables come from lists without repeated entry (`__init__` de-duplicates them; a repeated
entry would make `len(dict) + 2` too small — finding F-C02-1, fixed) -/
def AclObs.CfgOk (o : AclObs) : Prop := o.ips.Nodup ∧ o.wcs.Nodup ∧ o.ports.Nodup ∧ o.protos.Nodup

theorem dedupFirst_nodup {α} [DecidableEq α] (l : List α) : (dedupFirst l).Nodup := by
  induction l with
  | nil => simp [dedupFirst]
  | cons y ys ih =>
    simp only [dedupFirst, List.nodup_cons]
    exact ⟨by simp [List.mem_filter], List.Pairwise.filter _ ih⟩

/-- every ACL observation object built by the constructor satisfies the invariant, whatever lists are configured -/
theorem C02_acl_fromConfig_cfgOk (wh numRules) (ips wcs : List String) (ports : List Nat) (protos : List String) :
    (AclObs.fromConfig wh numRules ips wcs ports protos).CfgOk :=
  ⟨dedupFirst_nodup _, dedupFirst_nodup _, dedupFirst_nodup _, dedupFirst_nodup _⟩

theorem AclObs.find_wf {o st slots} (w : WfState st) (hf : AclObs.find o st = some slots) :
    ∀ r ∈ slots, ∀ x, r = some x → x.action ∈ ACLAction.values := by
  unfold AclObs.find at hf
  split at hf
  · cases hf
  · obtain ⟨n, wn, hl⟩ := w.bind_node hf
    exact wn.2.2.2.2.2.2 _ (lookupS_mem hl)

/-- ACL observation, **full**: every state, whatever the number of slots the ACL really has — a position beyond them reads as an
empty slot (F-6).  `CfgOk` is not an exclusion but an invariant of construction (`C02_acl_fromConfig_cfgOk`): it holds of
every object the constructor builds; an address outside `ip_list` encodes as 1 (F-7). -/
theorem C02_acl_in_space (o : AclObs) (st : SimState) (w : WfState st) (c : o.CfgOk) :
    contains o.space (o.val st) = true := by
  unfold AclObs.val
  cases hf : o.find st with
  | none => exact C02_acl_default_in_space o
  | some slots =>
    obtain ⟨hips, hwcs, hports, hprotos⟩ := c
    refine map_in_space _ _ _ _ (rangeKeys_nodup _ _) (fun i hi => ?_)
    have hi' := mem_rangeFrom_zero hi
    cases hget : slots[i]? with
    | none => exact C02_acl_empty_rule_in_space o i hi'
    | some slot =>
      cases slot with
      | none => exact C02_acl_empty_rule_in_space o i hi'
      | some r =>
        have hact := C02_leaf_acl_action _ (AclObs.find_wf w hf _ (List.mem_of_getElem? hget) r rfl)
        exact aclRule_par (contains_int hi') (contains_int hact) (getId_in_space _ hips _)
          (getId_in_space _ hwcs _) (getId_in_space _ hports _) (getId_in_space _ hips _) (getId_in_space _ hwcs _)
          (getId_in_space _ hports _) (getId_in_space _ hprotos _)

/-- The unrestricted ACL statement: whatever lists and `num_rules` are configured (repeats, more rules than slots), whatever the
well-formed state.  It was FALSE of the code (F-6, F-C02-1, F-7); all three are repaired and it is proved below (`C02_acl_full`). -/
def C02_FullAcl : Prop :=
  ∀ (wh : Option (String × String)) (numRules : Nat) (ips wcs : List String) (ports : List Nat) (protos : List String) (st : SimState),
    WfState st →
    contains (AclObs.fromConfig wh numRules ips wcs ports protos).space ((AclObs.fromConfig wh numRules ips wcs ports protos).val st) = true

def witnessRule (src : Option String) : RuleState :=
  { action := 1, proto := none, srcIp := src, srcWc := none, srcPort := none, dstIp := none, dstWc := none, dstPort := none }

def witnessState (slots : List (Option RuleState)) : SimState :=
  { nodes := [("r", { op := 1, services := [], apps := [], folders := [], nics := [], numCreations := 0, numDeletions := 0,
                       usm := some { localUser := false, remote := 0 }, acls := [("acl", slots)] })],
    links := [] }

theorem witnessState_wf (slots : List (Option RuleState)) (h : ∀ r ∈ slots, ∀ x, r = some x → x.action ∈ ACLAction.values) :
    WfState (witnessState slots) :=
  ⟨List.forall_mem_singleton.mpr
    ⟨(by decide : (1 : Nat) ∈ NodeOperatingState.values), nofun, nofun, nofun, nofun, rfl, List.forall_mem_singleton.mpr h⟩,
   nofun⟩

theorem witnessState_wf_of_rules (slots : List (Option RuleState)) (h : ∀ r ∈ slots, r = none ∨ ∃ a, r = some (witnessRule a)) :
    WfState (witnessState slots) :=
  witnessState_wf _ fun r hr x hx => by
    rcases h r hr with rfl | ⟨a, rfl⟩
    · cases hx
    · cases hx
      exact (by decide : (1 : Nat) ∈ ACLAction.values)

def f7Obs : AclObs := { wh := some ("r", "acl"), numRules := 1, ips := ["10.0.0.1"], wcs := [], ports := [], protos := [] }
def f7State : SimState := witnessState [some (witnessRule (some "10.0.0.9"))]
def f6Obs : AclObs := { wh := some ("r", "acl"), numRules := 2, ips := [], wcs := [], ports := [], protos := [] }
def f6State : SimState := witnessState [none]
def dupObs : AclObs := AclObs.fromConfig (some ("r", "acl")) 1 ["10.0.0.1", "10.0.0.1"] [] [] []
def dupState : SimState := witnessState [some (witnessRule (some "10.0.0.1"))]

/-- F-7 (fixed): a rule naming an address that is not in `ip_list` encodes that address as 1 and stays in the space. -/
theorem C02_acl_unknown_ip_fixed :
    WfState f7State ∧ (f7Obs.val f7State).raises = false ∧ contains f7Obs.space (f7Obs.val f7State) = true :=
  have w := witnessState_wf_of_rules _ (List.forall_mem_singleton.mpr (Or.inr ⟨_, rfl⟩))
  ⟨w, by decide, C02_acl_in_space _ _ w ⟨by decide, by decide, by decide, by decide⟩⟩

/-- F-6 (fixed): `num_rules` larger than the number of slots the ACL has — the surplus positions read as empty slots, in the space. -/
theorem C02_acl_too_many_rules_fixed :
    WfState f6State ∧ (f6Obs.val f6State).raises = false ∧ contains f6Obs.space (f6Obs.val f6State) = true :=
  have w := witnessState_wf_of_rules _ (List.forall_mem_singleton.mpr (Or.inl rfl))
  ⟨w, by decide, C02_acl_in_space _ _ w ⟨by decide, by decide, by decide, by decide⟩⟩

/-- F-C02-1 (fixed): with a repeated entry in `ip_list` the constructed object de-duplicates, and a listed address stays in
the space. (Without de-duplication the id was the LAST index + 2 while the space was sized by the number of DISTINCT entries + 2.) -/
theorem C02_acl_repeated_entry_fixed :
    WfState dupState ∧ (dupObs.val dupState).raises = false ∧ contains dupObs.space (dupObs.val dupState) = true :=
  have w := witnessState_wf_of_rules _ (List.forall_mem_singleton.mpr (Or.inr ⟨_, rfl⟩))
  ⟨w, by decide, C02_acl_in_space _ _ w (C02_acl_fromConfig_cfgOk ..)⟩

/-- **for every configured list (repeats included), every `num_rules` and every well-formed state, an ACL observation built by the
constructor is in its space** — no hypothesis on the configuration or on the number of slots -/
theorem C02_acl_fromConfig_in_space (wh numRules) (ips wcs : List String) (ports : List Nat) (protos : List String)
    (st : SimState) (w : WfState st) :
    contains (AclObs.fromConfig wh numRules ips wcs ports protos).space ((AclObs.fromConfig wh numRules ips wcs ports protos).val st) = true :=
  C02_acl_in_space _ st w (C02_acl_fromConfig_cfgOk _ _ _ _ _ _)

theorem C02_acl_full : C02_FullAcl := fun wh n ips wcs ports protos st w => C02_acl_fromConfig_in_space wh n ips wcs ports protos st w

/-- non-vacuity: a state with a real rule, observed with more positions than the ACL has slots -/
example :
    let o : AclObs := AclObs.fromConfig (some ("r", "acl")) 5 ["10.0.0.1", "10.0.0.2", "10.0.0.1"] ["0.0.0.1"] [80] ["tcp"]
    let st := witnessState [some (witnessRule (some "10.0.0.2")), none, none]
    (o.find st).isSome = true ∧ (o.val st).raises = false ∧ contains o.space (o.val st) = true := by
  intro o st
  exact ⟨by decide, by decide, C02_acl_fromConfig_in_space _ _ _ _ _ _ st (witnessState_wf_of_rules _
    (List.forall_mem_cons.mpr ⟨Or.inr ⟨_, rfl⟩, List.forall_mem_cons.mpr ⟨Or.inl rfl, List.forall_mem_singleton.mpr (Or.inl rfl)⟩⟩))⟩

def HostObs.Ok (o : HostObs) : Prop := (∀ f ∈ o.folders, f.Ok) ∧ (∀ n ∈ o.nics, n.Ok)

theorem hostKeys_nodup (b1 b2 b3 b4 b5 b6 : Bool) {α} (v0 v1 v2 v3 v4 v5 v6 v7 : α) :
    (keysOf ((Key.s "operating_status", v0) ::
      (optEntry b1 (.s "SERVICES") v1 ++ optEntry b2 (.s "APPLICATIONS") v2 ++ optEntry b3 (.s "FOLDERS") v3 ++
       optEntry b4 (.s "NICS") v4 ++ optEntry b5 (.s "num_file_creations") v5 ++ optEntry b5 (.s "num_file_deletions") v6 ++
       optEntry b6 (.s "users") v7))).Nodup := by
  simp only [keysOf_cons, keysOf_append]
  exact List.Nodup.sublist
    (.cons_cons (Key.s "operating_status") (((((((keysOf_optEntry_sublist ..).append (keysOf_optEntry_sublist ..)).append
      (keysOf_optEntry_sublist ..)).append (keysOf_optEntry_sublist ..)).append (keysOf_optEntry_sublist ..)).append
      (keysOf_optEntry_sublist ..)).append (keysOf_optEntry_sublist ..)))
    (by decide)

theorem par7 {a1 a2 a3 a4 a5 a6 a7 b1 b2 b3 b4 b5 b6 b7} (h1 : Par a1 b1) (h2 : Par a2 b2) (h3 : Par a3 b3) (h4 : Par a4 b4)
    (h5 : Par a5 b5) (h6 : Par a6 b6) (h7 : Par a7 b7) :
    Par (a1 ++ a2 ++ a3 ++ a4 ++ a5 ++ a6 ++ a7) (b1 ++ b2 ++ b3 ++ b4 ++ b5 ++ b6 ++ b7) :=
  (((((h1.append h2).append h3).append h4).append h5).append h6).append h7

/-- the `{**default}` observation of a host that is present but not ON, with any power code -/
theorem host_off_in_space (o : HostObs) (ok : o.Ok) (op : Nat) (hop : op < hostOpSize) :
    contains o.space (o.offVal op) = true :=
  contains_dict_of_par
    (Par.cons (contains_int hop) (par7
      (Par.opt _ _ fun _ => enum_in_space _ _ _ fun _ _ => serviceDefault_in_space)
      (Par.opt _ _ fun _ => enum_in_space _ _ _ fun _ _ => appDefault_in_space)
      (Par.opt _ _ fun _ => enum_in_space _ _ _ fun f _ => C02_folder_default_in_space f)
      (Par.opt _ _ fun _ => enum_in_space _ _ _ fun n hn => C02_nic_default_in_space n (ok.2 n hn))
      (Par.opt _ _ fun _ => by decide) (Par.opt _ _ fun _ => by decide) (Par.opt _ _ fun _ => usersDefault_in_space)))
    (hostKeys_nodup ..)

theorem C02_host_default_in_space (o : HostObs) (ok : o.Ok) : contains o.space o.default = true :=
  host_off_in_space o ok 0 (by decide)

theorem C02_host_in_space (o : HostObs) (st : SimState) (w : WfState st) (ok : o.Ok) :
    contains o.space (o.val st) = true := by
  unfold HostObs.val
  cases hf : o.find st with
  | none => exact C02_host_default_in_space o ok
  | some n =>
    have wn : WfNode n := by
      unfold HostObs.find at hf
      split at hf
      · cases hf
      · exact w.node hf
    have hop := C02_leaf_node_op _ wn.1
    simp only []
    split
    · exact contains_dict_of_par
        (Par.cons (contains_int hop) (par7
          (Par.opt _ _ fun _ => enum_in_space _ _ _ fun x _ => C02_service_in_space x st w)
          (Par.opt _ _ fun _ => enum_in_space _ _ _ fun x _ => C02_application_in_space x st w)
          (Par.opt _ _ fun _ => enum_in_space _ _ _ fun x hx => C02_folder_in_space x st w (ok.1 x hx))
          (Par.opt _ _ fun _ => enum_in_space _ _ _ fun x hx => C02_nic_in_space x st w (ok.2 x hx))
          (Par.opt _ _ fun _ => contains_int (Nat.lt_succ_of_le (Nat.min_le_right _ _)))
          (Par.opt _ _ fun _ => contains_int (Nat.lt_succ_of_le (Nat.min_le_right _ _)))
          (Par.opt _ _ fun _ => users_in_space_of_wf wn)))
        (hostKeys_nodup ..)
    · exact host_off_in_space o ok n.op hop

/-- construction invariant of a router observation: its ACL id tables have no repeated entry (true of every constructed object) -/
def RouterObs.CfgOk (o : RouterObs) : Prop := o.acl.CfgOk

theorem FirewallObs.acl_cfgOk (o : FirewallObs) (a : String) : (o.acl a).CfgOk := C02_acl_fromConfig_cfgOk _ _ _ _ _ _

theorem C02_router_default_in_space (o : RouterObs) : contains o.space o.default = true :=
  contains_dict_of_par
    (Par.cons (C02_acl_default_in_space _) (Par.append
      (Par.opt _ _ fun _ => enum_in_space _ _ _ fun _ _ => portDefault_in_space)
      (Par.opt _ _ fun _ => usersDefault_in_space)))
    (nodup_keys_cons_opt2 (by decide) ..)

theorem C02_router_in_space (o : RouterObs) (st : SimState) (w : WfState st) (c : o.CfgOk) :
    contains o.space (o.val st) = true := by
  unfold RouterObs.val
  split
  · exact C02_router_default_in_space o
  · rename_i n hn
    split
    · have wn : WfNode n := by
        split at hn
        · cases hn
        · exact w.node hn
      exact contains_dict_of_par
        (Par.cons (C02_acl_in_space _ st w c) (Par.append
          (Par.opt _ _ fun _ => enum_in_space _ _ _ fun x _ => C02_port_in_space x st)
          (Par.opt _ _ fun _ => users_in_space_of_wf wn)))
        (nodup_keys_cons_opt2 (by decide) ..)
    · exact C02_router_default_in_space o

theorem firewallAcl_in_space (f : String → Space) (g : String → Val) (h : ∀ a, contains (f a) (g a) = true) :
    contains (firewallAclDict Space.dict f) (firewallAclDict Val.dict g) = true :=
  have io : ∀ a b, contains (.dict [(.s "INBOUND", f a), (.s "OUTBOUND", f b)]) (.dict [(.s "INBOUND", g a), (.s "OUTBOUND", g b)]) = true :=
    fun a b => contains_dict_of_par (Par.cons (h a) (Par.single (h b))) (show [Key.s "INBOUND", Key.s "OUTBOUND"].Nodup by decide)
  contains_dict_of_par (Par.cons (io _ _) (Par.cons (io _ _) (Par.single (io _ _))))
    (show [Key.s "INTERNAL", Key.s "DMZ", Key.s "EXTERNAL"].Nodup by decide)

theorem firewallKeys_nodup (b : Bool) {α} (v0 v1 v2 : α) :
    (keysOf ((Key.s "PORTS", v0) :: (Key.s "ACL", v1) :: optEntry b (.s "users") v2)).Nodup :=
  List.Nodup.sublist (.cons_cons (Key.s "PORTS") (.cons_cons (Key.s "ACL") (keysOf_optEntry_sublist ..))) (by decide)

theorem C02_firewall_default_in_space (o : FirewallObs) : contains o.space o.default = true :=
  -- the three literal port slots are `[1, 2, 3].map …` up to unfolding `List.map`
  contains_dict_of_par
    (Par.cons (enum_in_space (fun _ => portSpace) (fun _ => portDefault) [1, 2, 3] fun _ _ => portDefault_in_space)
      (Par.cons (firewallAcl_in_space _ _ (fun _ => C02_acl_default_in_space _)) (Par.opt _ _ fun _ => usersDefault_in_space)))
    (firewallKeys_nodup ..)

/-- firewall observation, **full and unconditional in the configuration** (its six ACL observations are built by the constructor) -/
theorem C02_firewall_in_space (o : FirewallObs) (st : SimState) (w : WfState st) :
    contains o.space (o.val st) = true := by
  unfold FirewallObs.val
  cases hn : st.node o.wh with
  | none => exact C02_firewall_default_in_space o
  | some n =>
    simp only []
    split
    · exact contains_dict_of_par
        (Par.cons (enum_in_space (fun _ => portSpace) (fun i => (o.port i).val st) [1, 2, 3] fun i _ => C02_port_in_space _ st)
          (Par.cons (firewallAcl_in_space _ _ (fun a => C02_acl_in_space _ st w (o.acl_cfgOk a)))
            (Par.opt _ _ fun _ => users_in_space_of_wf (w.node hn))))
        (firewallKeys_nodup ..)
    · exact C02_firewall_default_in_space o

def NodesObs.Ok (o : NodesObs) : Prop := ∀ h ∈ o.hosts, h.Ok
def NodesObs.CfgOk (o : NodesObs) : Prop := ∀ r ∈ o.routers, r.CfgOk

theorem enumTag_keys_ne {α β} {p q : String} (h : p ≠ q) {k j : Nat} {xs : List α} {ys : List β} {x y : Key}
    (hx : x ∈ keysOf (enumTag p k xs)) (hy : y ∈ keysOf (enumTag q j ys)) : x ≠ y := by
  rw [keysOf_enumTag] at hx hy
  obtain ⟨i, _, rfl⟩ := List.mem_map.mp hx
  obtain ⟨i', _, rfl⟩ := List.mem_map.mp hy
  exact fun he => h (Key.si.inj he).1

theorem nodesKeys_nodup {α} (a b c : List α) :
    (keysOf (enumTag "HOST" 0 a ++ enumTag "ROUTER" 0 b ++ enumTag "FIREWALL" 0 c)).Nodup := by
  simp only [keysOf_append]
  exact List.nodup_append.mpr
    ⟨List.nodup_append.mpr ⟨nodup_keys_enumTag .., nodup_keys_enumTag .., fun _ hx _ hy => enumTag_keys_ne (by decide) hx hy⟩,
     nodup_keys_enumTag ..,
     fun _ hx _ hy => (List.mem_append.mp hx).elim (enumTag_keys_ne (by decide) · hy) (enumTag_keys_ne (by decide) · hy)⟩

theorem C02_nodes_default_in_space (o : NodesObs) (ok : o.Ok) : contains o.space o.default = true :=
  contains_dict_of_par ((Par.append (Par.enumTag _ _ _ _ _ (fun h hh => C02_host_default_in_space h (ok h hh)))
    (Par.enumTag _ _ _ _ _ (fun r _ => C02_router_default_in_space r))).append
    (Par.enumTag _ _ _ _ _ (fun f _ => C02_firewall_default_in_space f))) (nodesKeys_nodup _ _ _)

theorem C02_nodes_in_space (o : NodesObs) (st : SimState) (w : WfState st) (ok : o.Ok)
    (c : o.CfgOk) : contains o.space (o.val st) = true :=
  contains_dict_of_par ((Par.append (Par.enumTag _ _ _ _ _ (fun h hh => C02_host_in_space h st w (ok h hh)))
    (Par.enumTag _ _ _ _ _ (fun r hr => C02_router_in_space r st w (c r hr)))).append
    (Par.enumTag _ _ _ _ _ (fun f _ => C02_firewall_in_space f st w))) (nodesKeys_nodup _ _ _)

/-- with hosts only (no ACL-carrying component) the construction invariant `CfgOk` has nothing to say -/
theorem C02_hosts_in_space (hosts : List HostObs) (st : SimState) (w : WfState st)
    (ok : ∀ h ∈ hosts, h.Ok) :
    contains (NodesObs.space { hosts := hosts, routers := [], firewalls := [] })
      (NodesObs.val { hosts := hosts, routers := [], firewalls := [] } st) = true :=
  C02_nodes_in_space _ st w ok nofun

mutual
/-- memory / configuration invariant of an observation object: folder caches hold legal codes, dictionaries have distinct keys -/
def Obs.Ok : Obs → Prop
  | .folder o => o.Ok
  | .nic o => o.Ok
  | .host o => o.Ok
  | .nodes o => o.Ok
  | .nested cs => (cs.map Prod.fst).Nodup ∧ Obs.OkL cs
  | _ => True
def Obs.OkL : List (String × Obs) → Prop
  | [] => True
  | c :: cs => c.2.Ok ∧ Obs.OkL cs
end

mutual
/-- construction invariant of the ACL-carrying parts: id tables without repeated entry.  NOT an exclusion of states or configurations
(F-6 is repaired): it holds of everything the constructors build (`C02_acl_fromConfig_cfgOk`, `C02_raw_build_cfgOk`). -/
def Obs.CfgOk : Obs → Prop
  | .acl o => o.CfgOk
  | .router o => o.CfgOk
  | .nodes o => o.CfgOk
  | .nested cs => Obs.CfgOkL cs
  | _ => True
def Obs.CfgOkL : List (String × Obs) → Prop
  | [] => True
  | c :: cs => c.2.CfgOk ∧ Obs.CfgOkL cs
end

theorem keysOf_spaceL (cs : List (String × Obs)) : keysOf (Obs.spaceL cs) = (cs.map Prod.fst).map Key.s := by
  induction cs with
  | nil => rfl
  | cons c cs ih => simp [Obs.spaceL, keysOf_cons, ih]

theorem spaceL_nodup (cs : List (String × Obs)) (h : (cs.map Prod.fst).Nodup) : (keysOf (Obs.spaceL cs)).Nodup := by
  rw [keysOf_spaceL]
  exact nodup_map_of_inj (fun _ _ => Key.s.inj) h

mutual
/-- **C02, top level (full: `Ok` and `CfgOk` are invariants of construction, no state or configuration is excluded)**: for every observation object — any nesting of any
classes, any slot counts, thresholds and flags — and every well-formed simulation state, the value returned by `observe` is
a member of the declared `space`. -/
theorem C02_obs_in_space (st : SimState) (w : WfState st) :
    ∀ o : Obs, o.Ok → o.CfgOk → contains o.space (o.val st) = true
  | .null, _, _ => contains_int (by decide)
  | .service o, _, _ => C02_service_in_space o st w
  | .app o, _, _ => C02_application_in_space o st w
  | .file o, _, _ => C02_file_in_space o st w
  | .folder o, ok, _ => C02_folder_in_space o st w ok
  | .nic o, ok, _ => C02_nic_in_space o st w ok
  | .port o, _, _ => C02_port_in_space o st
  | .link o, _, _ => C02_link_in_space o st w
  | .links os, _, _ => C02_links_in_space os st w
  | .acl o, _, c => C02_acl_in_space o st w c
  | .host o, ok, _ => C02_host_in_space o st w ok
  | .router o, _, c => C02_router_in_space o st w c
  | .firewall o, _, _ => C02_firewall_in_space o st w
  | .nodes o, ok, c => C02_nodes_in_space o st w ok c
  | .nested cs, ok, c => contains_dict_of_par (C02_nested_par st w cs ok.2 c) (spaceL_nodup cs ok.1)
theorem C02_nested_par (st : SimState) (w : WfState st) :
    ∀ cs : List (String × Obs), Obs.OkL cs → Obs.CfgOkL cs → Par (Obs.spaceL cs) (Obs.valL st cs)
  | [], _, _ => Par.nil
  | c :: cs, ok, cp => Par.cons (C02_obs_in_space st w c.2 ok.1 cp.1) (C02_nested_par st w cs ok.2 cp.2)
end

mutual
/-- every `default_observation` is a member of the space (no hypothesis on any state) -/
theorem C02_default_in_space : ∀ o : Obs, o.Ok → contains o.space o.default = true
  | .null, _ => contains_int (by decide)
  | .service _, _ => serviceDefault_in_space
  | .app _, _ => appDefault_in_space
  | .file o, _ => C02_file_default_in_space o
  | .folder o, _ => C02_folder_default_in_space o
  | .nic o, ok => C02_nic_default_in_space o ok
  | .port _, _ => portDefault_in_space
  | .link _, _ => linkDefault_in_space
  | .links os, _ => enum_in_space (fun _ => linkSpace) (fun _ => linkDefault) os (fun _ _ => linkDefault_in_space)
  | .acl o, _ => C02_acl_default_in_space o
  | .host o, ok => C02_host_default_in_space o ok
  | .router o, _ => C02_router_default_in_space o
  | .firewall o, _ => C02_firewall_default_in_space o
  | .nodes o, ok => C02_nodes_default_in_space o ok
  | .nested cs, ok => contains_dict_of_par (C02_default_par cs ok.2) (spaceL_nodup cs ok.1)
theorem C02_default_par : ∀ cs : List (String × Obs), Obs.OkL cs → Par (Obs.spaceL cs) (Obs.defaultL cs)
  | [], _ => Par.nil
  | c :: cs, ok => Par.cons (C02_default_in_space c.2 ok.1) (C02_default_par cs ok.2)
end

/-! #### the space does not move: observing mutates the objects' memory, never their space -/

theorem FolderObs.space_next (o : FolderObs) (st : SimState) : (o.next st).space = o.space := by
  unfold FolderObs.next; split <;> rfl

theorem FolderObs.default_next (o : FolderObs) (st : SimState) : (o.next st).default = o.default := by
  unfold FolderObs.next; split <;> rfl

theorem NicObs.space_next (o : NicObs) (st : SimState) : (o.next st).space = o.space := by
  unfold NicObs.next; split
  · rfl
  · split
    · split <;> rfl
    · rfl

theorem HostObs.space_next (o : HostObs) (st : SimState) : (o.next st).space = o.space := by
  unfold HostObs.next; split
  · rfl
  · split
    · simp only [HostObs.space, List.isEmpty_map, List.map_map, Function.comp_def, FolderObs.space_next, NicObs.space_next]
    · rfl

theorem NodesObs.space_next (o : NodesObs) (st : SimState) : (o.next st).space = o.space := by
  simp only [NodesObs.next, NodesObs.space, List.map_map, Function.comp_def, HostObs.space_next]

mutual
/-- **space_const**: the declared space is the same after any number of `observe` calls, on any states. -/
theorem C02_space_const (st : SimState) : ∀ o : Obs, (o.next st).space = o.space
  | .null => rfl
  | .service _ => rfl
  | .app _ => rfl
  | .file _ => rfl
  | .folder o => FolderObs.space_next o st
  | .nic o => NicObs.space_next o st
  | .port _ => rfl
  | .link _ => rfl
  | .links _ => congrArg (fun l => Space.dict (enumFrom 1 l)) (List.map_map ..)
  | .acl _ => rfl
  | .host o => HostObs.space_next o st
  | .router _ => rfl
  | .firewall _ => rfl
  | .nodes o => NodesObs.space_next o st
  | .nested cs => congrArg Space.dict (C02_spaceL_const st cs)
theorem C02_spaceL_const (st : SimState) :
    ∀ cs : List (String × Obs), Obs.spaceL (Obs.nextL st cs) = Obs.spaceL cs
  | [] => rfl
  | c :: cs => by
    show (Key.s c.1, (c.2.next st).space) :: Obs.spaceL (Obs.nextL st cs) = (Key.s c.1, c.2.space) :: Obs.spaceL cs
    rw [C02_space_const st c.2, C02_spaceL_const st cs]
end

theorem HostObs.ok_next (o : HostObs) (st : SimState) (w : WfState st) (ok : o.Ok) :
    (o.next st).Ok := by
  unfold HostObs.next; split
  · exact ok
  · split
    · exact ⟨List.forall_mem_map.mpr fun g hg => C02_folder_ok_next g st w (ok.1 g hg),
        List.forall_mem_map.mpr fun g hg => C02_nic_ok_next g st (ok.2 g hg)⟩
    · exact ok

theorem nextL_labels (st : SimState) : ∀ cs : List (String × Obs),
    (Obs.nextL st cs).map Prod.fst = cs.map Prod.fst
  | [] => rfl
  | c :: cs => by simp [Obs.nextL, nextL_labels st cs]

mutual
theorem C02_ok_next (st : SimState) (w : WfState st) : ∀ o : Obs, o.Ok → (o.next st).Ok
  | .null, h => h
  | .service _, h => h
  | .app _, h => h
  | .file _, h => h
  | .folder o, h => C02_folder_ok_next o st w h
  | .nic o, h => C02_nic_ok_next o st h
  | .port _, h => h
  | .link _, _ => trivial
  | .links _, _ => trivial
  | .acl _, h => h
  | .host o, h => HostObs.ok_next o st w h
  | .router _, h => h
  | .firewall _, h => h
  | .nodes _, h => List.forall_mem_map.mpr fun g hg => HostObs.ok_next g st w (h g hg)
  | .nested cs, h => ⟨(nextL_labels st cs).symm ▸ h.1, C02_okL_next st w cs h.2⟩
theorem C02_okL_next (st : SimState) (w : WfState st) :
    ∀ cs : List (String × Obs), Obs.OkL cs → Obs.OkL (Obs.nextL st cs)
  | [], h => h
  | c :: cs, h => ⟨C02_ok_next st w c.2 h.1, C02_okL_next st w cs h.2⟩
end

mutual
theorem cfgOk_next (st : SimState) : ∀ o : Obs, o.CfgOk → (o.next st).CfgOk
  | .null, h => h
  | .service _, h => h
  | .app _, h => h
  | .file _, h => h
  | .folder _, _ => trivial
  | .nic _, _ => trivial
  | .port _, h => h
  | .link _, _ => trivial
  | .links _, _ => trivial
  | .acl _, h => h
  | .host _, _ => trivial
  | .router _, h => h
  | .firewall _, h => h
  | .nodes _, h => h
  | .nested cs, h => cfgOkL_next st cs h
theorem cfgOkL_next (st : SimState) :
    ∀ cs : List (String × Obs), Obs.CfgOkL cs → Obs.CfgOkL (Obs.nextL st cs)
  | [], h => h
  | c :: cs, h => ⟨cfgOk_next st c.2 h.1, cfgOkL_next st cs h.2⟩
end

/-- **C02 along a trajectory**: starting from any object satisfying the invariant (in particular a freshly built one), every
observation reported along ANY sequence of well-formed states is a member of the ONE space declared at the start. -/
theorem C02_run_in_space : ∀ (sts : List SimState) (o : Obs), o.Ok → o.CfgOk →
    (∀ st ∈ sts, WfState st) → ∀ v ∈ o.run sts, contains o.space v = true := by
  intro sts
  induction sts with
  | nil => intro _ _ _ _ _ hv; cases hv
  | cons st rest ih =>
    intro o ok c h v hv
    have ⟨hst, hrest⟩ := List.forall_mem_cons.mp h
    rcases List.mem_cons.mp hv with rfl | hv
    · exact C02_obs_in_space st hst o ok c
    · exact C02_space_const st o ▸ ih (o.next st) (C02_ok_next st hst o ok) (cfgOk_next st o c) hrest v hv

/-! #### non-vacuity: a concrete host observation on a concrete non-trivial state -/

def exHost : HostObs :=
  { wh := some "pc", services := [{ wh := some ("pc", "dns"), scan := true }, { wh := none, scan := true }],
    apps := [{ wh := some ("pc", "browser"), scan := false, thr := {} }],
    folders := [{ wh := some ("pc", "root"), scan := true, files := [{ wh := some ("pc", "root", "a.txt"), numAccess := true, scan := true, thr := {} }] }],
    nics := [{ wh := some ("pc", 1), includeNmne := true, traffic := [("icmp", []), ("tcp", [80, 80, 443])], thr := {} }],
    numAccess := true, users := true }

def exState : SimState :=
  { nodes := [("pc", { op := 1, services := [("dns", { op := 6, healthActual := 3, healthVisible := 1 })],
                        apps := [("browser", { op := 3, healthActual := 4, healthVisible := 0, numExec := 99 })],
                        folders := [("root", { health := 3, visible := 4, scanned := true,
                                               files := [("a.txt", { health := 4, visible := 2, numAccess := 50 })] })],
                        nics := [(1, { enabled := false, speed := 100, icmp := some { inb := 5, outb := 1000 },
                                       ports := [("tcp", [(80, { inb := 150, outb := 0 })])], nmne := some (40, 3) })],
                        numCreations := 17, numDeletions := 4, usm := some { localUser := true, remote := 9 }, acls := [] })],
    links := [] }

theorem exState_wf : WfState exState :=
  ⟨List.forall_mem_singleton.mpr
    ⟨by decide,
     List.forall_mem_singleton.mpr ⟨by decide, by decide, by decide⟩,
     List.forall_mem_singleton.mpr ⟨by decide, by decide, by decide⟩,
     List.forall_mem_singleton.mpr ⟨by decide, by decide, List.forall_mem_singleton.mpr ⟨by decide, by decide⟩⟩,
     List.forall_mem_singleton.mpr (by decide : 0 < 100),
     rfl, nofun⟩,
   nofun⟩

theorem exHost_ok : exHost.Ok :=
  ⟨List.forall_mem_singleton.mpr (by decide : (0 : Nat) ∈ FileSystemItemHealthStatus.values),
   List.forall_mem_singleton.mpr (by decide : (["icmp", "tcp"] : List String).Nodup)⟩

example : WfState exState ∧ (Obs.host exHost).Ok ∧ (Obs.host exHost).CfgOk ∧
    contains exHost.space (exHost.val exState) = true ∧ (exHost.val exState).raises = false :=
  ⟨exState_wf, exHost_ok, trivial, C02_host_in_space _ _ exState_wf exHost_ok, by decide⟩

end Primaite.Obs
