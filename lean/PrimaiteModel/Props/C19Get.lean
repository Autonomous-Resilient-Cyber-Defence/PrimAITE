/-
`get_action` of PeriodicAgent / ProbabilisticAgent and the construction of the probability vector
(`ProbabilisticAgent.probabilities`), TRANSLATED statement by statement from the sources (Gen/AgentsGet.lean,
regenerated on every run by harness/extract/agents_ctl.py), compute what the hand-written model computes — for EVERY
table / state / draw.

    ProbabilisticAgent.probabilities              = Table.vectorByKey          (C19_gen_prob_vector)
    ProbabilisticAgent.get_action                 = probAgentChoice .byKey     (C19_gen_prob_get_action)
    PeriodicAgent._set_next_execution_timestep,
    PeriodicAgent.get_action                      = periodicStep               (C19_gen_periodic_get_action)

The vector theorem is the one the seeded change C19-h refutes: a vector built from `action_probabilities.values()` is the
INSERTION-order vector (`C19_values_vector_is_insertion`), and that differs from the by-key vector on every table whose keys
are not written in ascending order and whose weights are not symmetric under the permutation
(`C19_insertion_vector_counter_model`: the table `[(1, 0), (0, 4)]`).
-/
import PrimaiteModel.Gen.AgentsGet
import PrimaiteModel.Model.Agents
set_option linter.unusedSimpArgs false
namespace Primaite.Agents
open Primaite.Gen.AgentsGet

theorem C19_gen_get_translated : Gen.AgentsGet.untranslated = [] := by decide

theorem forAppend_eq {α β} (f : α → Option β) : ∀ (xs : List α) (out : List β),
    forAppend xs f out = (xs.mapM f).map (out ++ ·) := by
  intro xs
  induction xs with
  | nil => intro out; simp [forAppend]
  | cons x r ih =>
    intro out
    unfold forAppend at ih ⊢
    rw [List.foldlM_cons, List.mapM_cons]
    cases hx : f x with
    | none => simp
    | some y =>
      simp only [Option.map_some, Option.bind_eq_bind, Option.bind_some, Option.pure_def]
      rw [ih]
      cases List.mapM f r <;> simp

theorem forAppend_nil {α β} (f : α → Option β) (xs : List α) : forAppend xs f [] = xs.mapM f := by
  rw [forAppend_eq]; cases List.mapM f xs <;> simp

theorem sub_eq_lookup (tb : Table) (k : Nat) : Dict.sub tb k = tb.lookup k := rfl

/-- **The probability vector is indexed by action number** — the translated `ProbabilisticAgent.probabilities`, on EVERY
table (covered or not, keys in any written order): entry `i` is the weight configured for key `i`, `KeyError` exactly when
the model says so. -/
theorem C19_gen_prob_vector (tb : Table) : probabilities tb = tb.vectorByKey := by
  simp [probabilities, Table.vectorByKey, sub_eq_lookup, rescale, forAppend_nil]
  try (split <;> simp_all)      -- a vector first bound to a local (`match … with | none => none | some v => some v`)

def optOf : ChoiceOut → Option Nat
  | .chose i => some i
  | .raised => none

/-- The translated `ProbabilisticAgent.get_action`, given numpy's `choice` as modelled, hands `action_manager.get_action`
the index the model says (`probAgentChoice` with the by-key vector). -/
theorem C19_gen_prob_get_action (tb : Table) (n : Nat) (u : Unif) :
    probGetAction (fun n p => optOf (choice n p u)) n tb = optOf (probAgentChoice .byKey tb n u) := by
  unfold probGetAction probAgentChoice Table.vector
  rw [C19_gen_prob_vector]
  cases tb.vectorByKey with
  | none => rfl
  | some ws => simp only []; cases choice n ws u <;> rfl

/-- What `…values()` gives is the model's insertion-order vector … -/
theorem C19_values_vector_is_insertion (tb : Table) : some (rescale (Dict.vals tb)) = tb.vector .insertion := rfl

/-- … and the insertion-order vector is NOT the by-key vector: a covered table whose keys are written in descending order
(the counter-model of the seeded change C19-h), with a draw that then selects an action of configured probability 0. -/
theorem C19_insertion_vector_counter_model :
    ∃ tb : Table, tb.covered = true ∧ tb.vector .insertion ≠ tb.vectorByKey ∧
      ∃ u : Unif, u.num < u.den ∧ ∃ i, probAgentChoice .insertion tb 2 u = .chose i ∧ tb.lookup i = some 0 :=
  ⟨[(1, 0), (0, 4)], by decide, by decide, ⟨1, 2⟩, by decide, 1, by decide, by decide⟩

def encP (s : PeriodicState) : Per := { next := s.next, numExec := s.numExec }

/-- The translated `PeriodicAgent.get_action` (with `_set_next_execution_timestep` translated as its callee) is the model's
`periodicStep`, on every state of a live agent whose start node can be selected: they raise together; otherwise the two
attributes agree, do-nothing / execute agree, and the parameters of the execute action are the pinned source expressions. -/
theorem C19_gen_periodic_get_action (c : PeriodicCfg) (s : PeriodicState) (t d : Int) (k : Nat) (hd : s.dead = false)
    (hk : s.startNode.isSome = true ∨ k < c.nStartNodes) :
    ((periodicGetAction c.maxExecutions c.frequency c.variance t d (encP s)).1.raised = true ↔ (periodicStep c s t d k).2 = .raised) ∧
    ((periodicGetAction c.maxExecutions c.frequency c.variance t d (encP s)).1.raised = false →
      (periodicGetAction c.maxExecutions c.frequency c.variance t d (encP s)).1.next = (periodicStep c s t d k).1.next ∧
      (periodicGetAction c.maxExecutions c.frequency c.variance t d (encP s)).1.numExec = (periodicStep c s t d k).1.numExec ∧
      (((periodicGetAction c.maxExecutions c.frequency c.variance t d (encP s)).2 = ("do-nothing", []) ∧ (periodicStep c s t d k).2 = .doNothing) ∨
       ((periodicGetAction c.maxExecutions c.frequency c.variance t d (encP s)).2 = ("node-application-execute", periodicActionParams) ∧
          ∃ n, (periodicStep c s t d k).2 = .execute n))) := by
  obtain ⟨nx, ne, sn, dead⟩ := s
  simp only at hd hk
  subst hd
  unfold periodicGetAction periodicStep periodicSetNext encP randintOk
  by_cases hg : t = nx ∧ ne < c.maxExecutions
  · by_cases hv : 0 ≤ c.variance
    · have hv' : -c.variance ≤ c.variance := by omega
      cases sn with
      | some n => simp [hg, hv, hv', periodicActionParams]
      | none =>
        have hk' : k < c.nStartNodes := by simpa using hk
        simp [hg, hv, hv', hk', periodicActionParams]
    · have hv' : ¬ (-c.variance ≤ c.variance) := by omega
      simp [hg, hv, hv']
  · have hg' : ((t == nx) && decide (ne < c.maxExecutions)) = false := by
      by_cases h1 : t = nx <;> by_cases h2 : ne < c.maxExecutions <;> simp_all
    simp [hg, hg']

/-- **`ScanSimOk` tie** (for `C19_tap1_validated_never_raises_sim`, Props/C19NoRaise1.lean).  Regenerated from nmap.py /
request.py / TAP001.py on every run: every SUCCESS response of the three NMAP request handlers carries either the dict literal
`{"live_hosts": results}` (ping scan) or the dictionary `results` the json-serialisable `port_scan` / `network_service_recon`
return (host ↦ protocol ↦ ports); every other site is `RequestResponse.from_bool(False)`, whose data is `{}`; each of the three
requests has a success site.  TAP001 touches the data of a response nowhere but in `_scan_handler` under
`previous_scan_response.status == "success"`, and `_scan_action_response_handler` uses it only through `.get("live_hosts")`,
`.get(target_ip, {}).items()`, iteration, comparison, or by passing it on — all total on the two shapes above (`ScanData.hosts`
/ `ScanData.ports`): a further use (a subscript, an attribute) or a further site breaks this theorem. -/
theorem C19_gen_scan_resp_sites :
    (∀ s ∈ nmapScanSites, s.2.2.1 = "success" →
        (s.1 = "ping_scan" ∧ s.2.2.2 = "{'live_hosts': results}" ∧ s.2.1 = "self.ping_scan/json") ∨
        (s.1 = "port_scan" ∧ s.2.2.2 = "results" ∧ s.2.1 = "self.port_scan/json") ∨
        (s.1 = "network_service_recon" ∧ s.2.2.2 = "results" ∧ s.2.1 = "self.network_service_recon/json")) ∧
    (∀ s ∈ nmapScanSites, s.2.2.1 ≠ "success" → s.2.2.2 = "{}") ∧ fromBoolData = ["{}"] ∧
    (∀ r ∈ ["ping_scan", "port_scan", "network_service_recon"], ∃ s ∈ nmapScanSites, s.1 = r ∧ s.2.2.1 = "success") ∧
    (∀ u ∈ tap1ScanUses, u ∈ ["for-in", "compare", "passed-on", ".get('live_hosts')",
        ".get(self.network_knowledge.get('target_ip'), {}).items()"]) ∧
    tap1ScanGuards = ["previous_scan_response.status == 'success'"] ∧ tap1OtherDataReaders = [] := by
  -- `String.reduceEq` decides each comparison of two literals from their first differing character
  refine ⟨?_, ?_, rfl, ?_, ?_, rfl, rfl⟩
  · simp only [nmapScanSites, List.forall_mem_cons, List.not_mem_nil, false_imp_iff, implies_true, and_true,
      String.reduceEq, and_self, or_true, or_false, and_false, imp_self]
  · simp only [nmapScanSites, List.forall_mem_cons, List.not_mem_nil, false_imp_iff, implies_true,
      String.reduceEq, and_self, imp_self, ne_eq, not_true_eq_false, not_false_eq_true]
  · simp only [List.forall_mem_cons, List.not_mem_nil, false_imp_iff, implies_true, and_true]
    exact ⟨⟨nmapScanSites[0], List.getElem_mem _, rfl, rfl⟩, ⟨nmapScanSites[2], List.getElem_mem _, rfl, rfl⟩,
      ⟨nmapScanSites[4], List.getElem_mem _, rfl, rfl⟩⟩
  · simp only [tap1ScanUses, List.forall_mem_cons, List.not_mem_nil, false_imp_iff, implies_true, and_true]
    simp only [List.mem_cons, String.reduceEq, true_or, or_true, false_or, and_self]

end Primaite.Agents
