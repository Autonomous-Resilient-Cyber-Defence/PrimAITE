import PrimaiteModel.Props.C09Cfg

/-! # C09 for what a scenario BUILDS: the construction invariants of `Obs.Faithful` discharged

`C09_observe_eq_spec` carries `Obs.Faithful`: folder memories coherent with the simulator (state-dependent, `Obs.Coh`), ACL id tables
without repeated entry (`Obs.CfgOk`, proved of every built object by `C02_raw_build_cfgOk`) and strictly ascending threshold triples
(proved of every built object by `C09_built_thr_valid`, through the translated `_validate_thresholds`).  Here the three are put
together: for the object `ObservationManager` builds from ANY accepted `observation_space` section and thresholds, the only
hypothesis left on the object is the coherence of its folder memories. -/

namespace Primaite.Obs

mutual
/-- the state-dependent part of `Obs.Faithful`: every folder memory agrees with the simulator's visible health -/
def Obs.Coh (t : Truth) : Obs → Prop
  | .folder o => o.Coherent t
  | .host o => o.Coherent t
  | .nodes o => ∀ h ∈ o.hosts, h.Coherent t
  | .nested cs => Obs.CohL t cs
  | _ => True
def Obs.CohL (t : Truth) : List (String × Obs) → Prop
  | [] => True
  | c :: cs => c.2.Coh t ∧ Obs.CohL t cs
end

theorem HostObs.thrOk_of_valid (o : HostObs) (h : o.thrValid = true) : o.ThrOk := by
  simp only [HostObs.thrValid, Bool.and_eq_true, List.all_eq_true] at h
  exact ⟨fun a ha => (Thr.valid_iff _).mp (h.1.1 a ha), fun f hf x hx => (Thr.valid_iff _).mp (h.1.2 f hf x hx),
         fun n hn => (Thr.valid_iff _).mp (h.2 n hn)⟩

mutual
theorem faithful_of_parts (t : Truth) : ∀ o : Obs, o.Coh t → o.CfgOk → o.thrValid = true → o.Faithful t
  | .null, _, _, _ => trivial
  | .service _, _, _, _ => trivial
  | .app _, _, _, hv => (Thr.valid_iff _).mp hv
  | .file _, _, _, hv => (Thr.valid_iff _).mp hv
  | .folder _, hc, _, hv => ⟨hc, fun x hx => (Thr.valid_iff _).mp (List.all_eq_true.mp hv x hx)⟩
  | .nic _, _, _, hv => (Thr.valid_iff _).mp hv
  | .port _, _, _, _ => trivial
  | .link _, _, _, _ => trivial
  | .links _, _, _, _ => trivial
  | .acl _, _, hk, _ => hk
  | .host o, hc, _, hv => ⟨hc, o.thrOk_of_valid hv⟩
  | .router _, _, hk, _ => hk
  | .firewall _, _, _, _ => trivial
  | .nodes _, hc, hk, hv => ⟨fun h hh => ⟨hc h hh, h.thrOk_of_valid (List.all_eq_true.mp hv h hh)⟩, hk⟩
  | .nested cs, hc, hk, hv => faithfulL_of_parts t cs hc hk hv
theorem faithfulL_of_parts (t : Truth) : ∀ cs : List (String × Obs), Obs.CohL t cs → Obs.CfgOkL cs → Obs.thrValidL cs = true → Obs.FaithfulL t cs
  | [], _, _, _ => trivial
  | c :: cs, hc, hk, hv =>
    have hv := Bool.and_eq_true_iff.mp hv
    ⟨faithful_of_parts t c.2 hc.1 hk.1 hv.1, faithfulL_of_parts t cs hc.2 hk.2 hv.2⟩
end

/-- **C09 from the scenario's words**: for the object built (constructors' validation included) from ANY `observation_space` section
and thresholds, and every ground truth with which its folder memories are coherent, `observe(describe_state())` is the documented
encoding of the objects — no hypothesis about thresholds or id tables is left -/
theorem C09_built_observe_eq_spec (thr : ThrCfg) (r : RawObs) (o : Obs) (hb : r.buildV thr = some o) (t : Truth) (wt : WfTruth t)
    (hc : o.Coh t) : o.val (describe t) = o.spec t := by
  obtain ⟨hbuild, hvalid⟩ := buildV_some thr r o hb
  exact C09_observe_eq_spec t wt o
    (faithful_of_parts t o hc (C02_raw_build_cfgOk thr r o hbuild) (C09_built_thr_valid thr r o hbuild hvalid))

/-! ### F-C09-4 / F-C09-5 (repaired by 59ceb16): the folder cache belongs to ONE folder object

The cache is tied to the uuid of the folder it was read from; nothing is reset while the name is absent. -/

/-- a cache read from folder object `u` is never used for another object under the same name: its own visible health is read -/
theorem C09_folder_cache_forgotten (o : FolderObs) (f : FolderState) (u : Nat) (hscan : o.scan = true)
    (hu : o.cachedFor = some u) (hne : f.uid ≠ some u) : o.health f = f.visible :=
  FolderObs.health_eq_visible o f hscan (fun _ hsame => by
    rcases hsame with h | h
    · rw [hu] at h; cases h
    · rw [hu] at h; exact absurd h.symm hne)

/-- observing a state in which the folder is not there changes nothing in the memory -/
theorem C09_absent_keeps_memory (o : FolderObs) (st : SimState) (h : o.find st = none) : o.next st = o := by
  simp [FolderObs.next, h]

/-- hence a folder created LATER under the name of a deleted one and not yet scanned (visible NONE = 0) reads as never scanned,
whatever the deleted folder's last-scanned health was — whether the name was seen absent in between (F-C09-4: `st`) or not (F-C09-5) -/
theorem C09_recreated_folder_reads_unscanned (o : FolderObs) (f : FolderState) (u : Nat) (hscan : o.scan = true)
    (hu : o.cachedFor = some u) (hne : f.uid ≠ some u) (hv : f.visible = 0) :
    o.health f = 0 ∧ ∀ st, o.find st = none → (o.next st).health f = 0 := by
  have h0 := C09_folder_cache_forgotten o f u hscan hu hne
  exact ⟨by rw [h0, hv], fun st h => by rw [C09_absent_keeps_memory o st h, h0, hv]⟩

/-- and the SAME folder, deleted (observed as absent) and restored, still reads its last-scanned health until its next scan -/
theorem C09_same_folder_restored_keeps_last_scanned (o : FolderObs) (st : SimState) (f : FolderState) (h : o.find st = none)
    (hscan : o.scan = true) (hu : o.cachedFor = f.uid) (hs : f.scanned = false) : (o.next st).health f = o.cached := by
  rw [C09_absent_keeps_memory o st h]
  have : o.sameFolder f = true := (o.sameFolder_iff f).mpr (Or.inr hu)
  simp [FolderObs.health, hscan, hs, this]

/-- non-vacuity: cache 1 (GOOD) read from object 7; a new object 8 with visible 0 reads 0, object 7 restored reads 1 -/
example : (({ wh := some ("h", "d"), scan := true, files := [], cached := 1, cachedFor := some 7 } : FolderObs).health
             { health := 1, visible := 0, scanned := false, files := [], uid := some 8 } = 0) ∧
          (({ wh := some ("h", "d"), scan := true, files := [], cached := 1, cachedFor := some 7 } : FolderObs).health
             { health := 1, visible := 1, scanned := false, files := [], uid := some 7 } = 1) := by decide

end Primaite.Obs
