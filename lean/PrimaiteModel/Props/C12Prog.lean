/-
C12 — the power methods, tied to the source BY MEANING.

`Gen/PowerProg.lean` holds the bodies of `Node.power_on`, `Node.power_off`, `Node.reset`, the part of `Node.apply_timestep`
outside the software block, `Node._start_up_actions` and `Node._shut_down_actions`, translated statement by statement from
the source on every run.  The theorems below say: for EVERY node, running the translated body (interpreter `exec` of
Model/PowerProg.lean) gives the node and the answer of the model's function, about which everything else in C12 is proved.
The callees of a body are bound to the translated bodies themselves (the `Procs` record each of `genOn`, `genOff`, `genReset`, `genTickPower` passes to `runBody`), bottom-up along the call graph
reset → power_off → power_on → actions, which `C12_gen_call_graph` shows to be acyclic.

The statements are proved of `exec` (one run of the body; `runBody` runs it once for the node and once for the answer). The
tick body is proved block by block: its first statement that does anything must be the whole start-up countdown block
(= `tickUp`), the rest the shut-down countdown block (= `tickDown`); inside a block any spelling with the same meaning checks,
but a source change that splits the start-up block into several top-level statements needs the split in `C12_gen_tick_power_sem`
moved.  Taking both blocks at once multiplies their case trees and is several times slower to check.
-/
import PrimaiteModel.Model.PowerProg
import PrimaiteModel.Gen.PowerProg
set_option linter.unusedSimpArgs false
namespace Primaite.Power
open Primaite.Gen.PowerProg

theorem bindR_running (n : Node) (k : Node → Node × Ret) : bindR (n, none) k = k n := rfl
theorem bindR_returned (n : Node) (v : Option Bool) (k : Node → Node × Ret) : bindR (n, some v) k = (n, some v) := rfl
theorem bindR_ite (c : Prop) {inst : Decidable c} (a b : Node × Ret) (k : Node → Node × Ret) :
    bindR (@ite _ c inst a b) k = @ite _ c inst (bindR a k) (bindR b k) := by split <;> rfl

theorem bindR_of_running {r : Node × Ret} {m : Node} (h : r = (m, none)) (k : Node → Node × Ret) : bindR r k = k m := by
  rw [h]; rfl

theorem runBody_of_exec {p : Procs} {prog : PStmt} {n m : Node} {r : Ret} (h : exec p prog n = (m, r)) :
    runBody p prog n = (m, r.getD none) := by
  unfold runBody; rw [h]

theorem intLe_eq (a b : Int) : intLe a b = decide (a ≤ b) := rfl
theorem intLt_eq (a b : Int) : intLt a b = decide (a < b) := rfl
theorem intEq_eq (a b : Int) : intEq a b = decide (a = b) := rfl
theorem stEq_eq (a b : PState) : stEq a b = decide (a = b) := rfl

/-- `disable()` always answers True: `all(i.disable() for i in …)` never stops early, it is the plain loop -/
theorem nicsQuant_all_disable (sc on : Bool) (cs : List Nic) :
    nicsQuant .all sc on .disable cs = (cs.map Nic.disable, true) := by
  induction cs with
  | nil => rfl
  | cons c cs ih => simp [nicsQuant, nicCall, ih]

/-- over a list comprehension every interface is called, whatever the answers: the interfaces afterwards are the plain loop's -/
theorem nicsQuant_nosc_enable (q : Quant) (on : Bool) (cs : List Nic) :
    (nicsQuant q false on .enable cs).1 = cs.map (Nic.enable on) := by
  induction cs with
  | nil => rfl
  | cons c cs ih => simp [nicsQuant, nicCall, ih]

theorem nicsQuant_nosc_disable (q : Quant) (on : Bool) (cs : List Nic) :
    (nicsQuant q false on .disable cs).1 = cs.map Nic.disable := by
  induction cs with
  | nil => rfl
  | cons c cs ih => simp [nicsQuant, nicCall, ih]

/-- unfold the interpreter on the (concrete) translated body into an `if`-tree over opaque conditions, then the conditions
and the model's function into tests of the node's fields, split every `if` on both sides, close each leaf by
simplification and linear arithmetic -/
macro "prog_equiv" "[" ds:Lean.Parser.Tactic.simpLemma,* "]" : tactic =>
  `(tactic| (
    simp only [$ds,*, runBody, exec, bindR_running, bindR_returned, bindR_ite, Procs.call]
    all_goals (try simp only [$ds,*, BExpr.eval, IExpr.eval, Cmp.eval, svcApply, appApply, startUpActions, shutDownActions,
      enableNics, disableNics, setSt, Node.isOn, intLe_eq, intLt_eq, intEq_eq, stEq_eq,
      nicsQuant_all_disable, nicsQuant_nosc_enable, nicsQuant_nosc_disable])
    all_goals (repeat' split)
    all_goals (first | rfl | (simp_all <;> omega) | grind)))

/- `genStart`, `genShut`, `genOn`, `genOff`, `genReset`, `genTickPower` (the translated bodies run by `runBody`, callees bound to the
translated callees) are defined in Gen/PowerProg.lean, so that the counter-model search of Drivers/C12Prog.lean uses the same. -/

/-- no recursion: the actions call nothing, `power_on` calls neither power method, `power_off` may call `power_on` only -/
theorem C12_gen_call_graph :
    startUpActionsProg.calls = [] ∧ shutDownActionsProg.calls = [] ∧
    startUpActionsProg.usesActions = false ∧ shutDownActionsProg.usesActions = false ∧
    powerOnProg.calls = [] ∧ powerOffProg.calls.all (· == .powerOn) = true := by decide

/-- `Node._start_up_actions` IS `startUpActions` -/
theorem C12_gen_start_up_actions_sem (n : Node) : genStart n = startUpActions n := by
  prog_equiv [genStart, startUpActionsProg]

/-- `Node._shut_down_actions` IS `shutDownActions` -/
theorem C12_gen_shut_down_actions_sem (n : Node) : genShut n = shutDownActions n := by
  prog_equiv [genShut, shutDownActionsProg]

theorem genStart_eq : genStart = startUpActions := funext C12_gen_start_up_actions_sem
theorem genShut_eq : genShut = shutDownActions := funext C12_gen_shut_down_actions_sem

/-- **`Node.power_on` IS `powerOn`**: same node afterwards (every assignment to `operating_state` included — the ghost
history is part of the node), same answer, never `None` -/
theorem C12_gen_power_on_sem (n : Node) : genOn n = ((powerOn n).1, some (powerOn n).2) := by
  refine runBody_of_exec (r := some (some (powerOn n).2)) ?_
  prog_equiv [genStart_eq, genShut_eq, powerOnProg, powerOn]

theorem genOnB_eq : genOnB = powerOn := by
  funext n; simp [genOnB, C12_gen_power_on_sem]

/-- **`Node.power_off` IS `powerOff`** -/
theorem C12_gen_power_off_sem (n : Node) : genOff n = ((powerOff n).1, some (powerOff n).2) := by
  refine runBody_of_exec (r := some (some (powerOff n).2)) ?_
  prog_equiv [genStart_eq, genShut_eq, genOnB_eq, powerOffProg, powerOff]

theorem genOffB_eq : genOffB = powerOff := by
  funext n; simp [genOffB, C12_gen_power_off_sem]

/-- **`Node.reset` IS `reset`** (in particular it answers True from every state: `self.operating_state.ON` is no test) -/
theorem C12_gen_reset_sem (n : Node) : genReset n = ((reset n).1, some (reset n).2) := by
  refine runBody_of_exec (r := some (some (reset n).2)) ?_
  prog_equiv [genStart_eq, genShut_eq, genOnB_eq, genOffB_eq, resetProg, reset]

/-- **the power part of `Node.apply_timestep` IS `tickDown ∘ tickUp`**, and it returns nothing -/
theorem C12_gen_tick_power_sem (n : Node) : genTickPower n = (tickDown (tickUp n), none) := by
  refine runBody_of_exec (r := none) ?_
  simp only [tickPowerProg, exec, bindR_running]
  refine (bindR_of_running (m := tickUp n) ?_ _).trans ?_
  · prog_equiv [genStart_eq, tickUp]
  · generalize tickUp n = m
    prog_equiv [genStart_eq, genShut_eq, genOnB_eq, tickDown]

/-- if every interface answers True to `enable()` (NICs and router interfaces always do; a switch port / access point only
when it came up), `all(i.enable() for i in …)` never stops early: the interfaces afterwards are the plain loop's, the answer True -/
theorem C12_all_enable_is_loop_when_all_answer (sc on : Bool) (cs : List Nic)
    (h : ∀ c ∈ cs, c.enableAnswer on = true) :
    nicsQuant .all sc on .enable cs = (cs.map (Nic.enable on), true) := by
  induction cs with
  | nil => rfl
  | cons c cs ih =>
    have hc : c.enableAnswer on = true := h c (List.mem_cons_self ..)
    have ih' := ih (fun d hd => h d (List.mem_cons_of_mem _ hd))
    simp [nicsQuant, nicCall, hc, ih']

/-- hence on a node whose interfaces are all NICs / router interfaces (hosts, routers, firewalls) the helper of seeded C12-g
is the plain loop -/
theorem C12_all_enable_is_loop_on_ip_interfaces (sc on : Bool) (cs : List Nic) (h : ∀ c ∈ cs, c.kind = .ipWired) :
    nicsQuant .all sc on .enable cs = (cs.map (Nic.enable on), true) :=
  C12_all_enable_is_loop_when_all_answer sc on cs (fun c hc => by simp [Nic.enableAnswer, h c hc])

/-- **but not on a switch**: three ports, the middle one with nothing plugged in; `all(…)` over a generator stops there and the
third port — plugged in, on a node that is ON — stays down, where the plain loop brings it up (the witness of C12-g) -/
theorem C12_short_circuit_counterexample :
    let ports : List Nic := [⟨false, true, .wired⟩, ⟨false, false, .wired⟩, ⟨false, true, .wired⟩]
    (nicsQuant .all true true .enable ports).1.map (·.enabled) = [true, false, false] ∧
    (ports.map (Nic.enable true)).map (·.enabled) = [true, false, true] ∧
    (nicsQuant .all false true .enable ports).1.map (·.enabled) = [true, false, true] := by decide

/-- and `any(…)` over a generator stops at the first interface that came up, on every node class -/
theorem C12_any_short_circuit_counterexample :
    let ports : List Nic := [⟨false, true, .ipWired⟩, ⟨false, true, .ipWired⟩]
    (nicsQuant .any true true .enable ports).1.map (·.enabled) = [true, false] := by decide

/-- An interface method reads the interface's two flags, whether there is a node, that node's state and `hello`: finitely
many contexts, each run by evaluation. No expression of the language reads the interface kind, and a method starts with
fresh locals, so these two stay variables. -/
macro "iface_cases" c:ident : tactic =>
  `(tactic| (
    obtain ⟨⟨e, l, k⟩, hn, st, hello, locs⟩ := $c
    cases e <;> cases l <;> cases hn <;> cases st <;> cases hello <;> rfl))

/-- the node's state as the interface sees it: ON only when there is a node and it is ON -/
def IfCtx.on (c : IfCtx) : Bool := c.hasNode && c.nodeSt == .on

theorem genWiredEnable_eq (c : IfCtx) :
    genWiredEnable c = (c.nic.enable c.on, some (some (c.nic.enable c.on).enabled)) := by
  iface_cases c

theorem genWirelessEnable_eq (c : IfCtx) :
    genWirelessEnable c = (c.nic.enableNoLink c.on, some (some (c.nic.enableNoLink c.on).enabled)) := by
  iface_cases c

/-- **`WiredNetworkInterface.enable` / `IPWiredNetworkInterface.enable` / `WirelessNetworkInterface.enable` /
`IPWirelessNetworkInterface.enable` ARE the model's `Nic.enable`**, for every interface, with or without a node, in every
node state, with or without a link: the interface afterwards is `Nic.enable (node is there and ON)` (without the link test
for the wireless classes), the call NEVER raises (the answer is `some …`), and it answers whether the interface is up —
except the IP wired classes (NIC, router interface), which answer True whatever happened. -/
theorem C12_gen_interface_enable_sem (c : IfCtx) :
    genWiredEnable c = (c.nic.enable c.on, some (some (c.nic.enable c.on).enabled)) ∧
    genIpWiredEnable c = (c.nic.enable c.on, some (some true)) ∧
    genWirelessEnable c = (c.nic.enableNoLink c.on, some (some (c.nic.enableNoLink c.on).enabled)) ∧
    genIpWirelessEnable c = (c.nic.enableNoLink c.on, some (some (c.nic.enableNoLink c.on).enabled)) := by
  refine ⟨genWiredEnable_eq c, ?_, genWirelessEnable_eq c, ?_⟩
  -- the `IP…` wrappers run against the closed form of the body their `super()` reaches, not against that body again
  · unfold genIpWiredEnable
    rw [funext genWiredEnable_eq]
    iface_cases c
  · unfold genIpWirelessEnable
    rw [funext genWirelessEnable_eq]
    iface_cases c

/-- **`WiredNetworkInterface.disable` / `WirelessNetworkInterface.disable` ARE `Nic.disable`**: whatever the node's state,
node or no node, link or no link, the interface is down afterwards, the answer is True, nothing raises -/
theorem C12_gen_interface_disable_sem (c : IfCtx) :
    genWiredDisable c = (c.nic.disable, some (some true)) ∧
    genWirelessDisable c = (c.nic.disable, some (some true)) := by
  refine ⟨?_, ?_⟩ <;> iface_cases c

/-- the wireless classes' `enable` is the model's when the model's convention `linked = true` for them holds -/
theorem Nic.enableNoLink_eq (on : Bool) (c : Nic) (h : c.linked = true) : c.enableNoLink on = c.enable on := by
  simp [Nic.enableNoLink, Nic.enable, h]

/-- the answers are the model's `enableAnswer` (what the `enable` request reports) for each interface kind -/
theorem C12_gen_interface_enable_answer (c : IfCtx) :
    (c.nic.kind = .wired → (genWiredEnable c).2 = some (some (c.nic.enableAnswer c.on))) ∧
    (c.nic.kind = .ipWired → (genIpWiredEnable c).2 = some (some (c.nic.enableAnswer c.on))) ∧
    (c.nic.kind = .wireless → c.nic.linked = true → (genIpWirelessEnable c).2 = some (some (c.nic.enableAnswer c.on))) := by
  obtain ⟨h1, h2, _, h4⟩ := C12_gen_interface_enable_sem c
  refine ⟨fun hk => ?_, fun hk => ?_, fun hk hl => ?_⟩
  · rw [h1]; simp [Nic.enableAnswer, hk]
  · rw [h2]; simp [Nic.enableAnswer, hk]
  · rw [h4, Nic.enableNoLink_eq _ _ hl]; simp [Nic.enableAnswer, hk]

/-- **enable refuses while the node is not ON** (any of the four classes, any interface that is down): it stays down -/
theorem C12_interface_enable_refused_unless_on (c : IfCtx) (hoff : c.nodeSt ≠ .on) (hd : c.nic.enabled = false) :
    (genWiredEnable c).1 = c.nic ∧ (genIpWiredEnable c).1 = c.nic ∧
    (genWirelessEnable c).1 = c.nic ∧ (genIpWirelessEnable c).1 = c.nic := by
  obtain ⟨h1, h2, h3, h4⟩ := C12_gen_interface_enable_sem c
  have hon : c.on = false := by
    cases hs : c.nodeSt <;> simp_all [IfCtx.on]
  rw [h1, h2, h3, h4]
  simp [Nic.enable, Nic.enableNoLink, hon, hd]

/-- **a wired interface with no link attached does not come up**, whatever the node's state -/
theorem C12_interface_enable_refused_without_link (c : IfCtx) (hl : c.nic.linked = false) (hd : c.nic.enabled = false) :
    (genWiredEnable c).1 = c.nic ∧ (genIpWiredEnable c).1 = c.nic := by
  obtain ⟨h1, h2, _, _⟩ := C12_gen_interface_enable_sem c
  rw [h1, h2]
  cases hon : c.on <;> simp [Nic.enable, hl, hd]

/-- **and it comes up exactly when it may**: node there and ON, link attached (wired) -/
theorem C12_interface_enable_when_on (c : IfCtx) (hn : c.hasNode = true) (hon : c.nodeSt = .on) (hl : c.nic.linked = true) :
    (genWiredEnable c).1.enabled = true ∧ (genIpWiredEnable c).1.enabled = true ∧
    (genWirelessEnable c).1.enabled = true ∧ (genIpWirelessEnable c).1.enabled = true := by
  obtain ⟨h1, h2, h3, h4⟩ := C12_gen_interface_enable_sem c
  have : c.on = true := by simp [IfCtx.on, hn, hon]
  rw [h1, h2, h3, h4]
  cases he : c.nic.enabled <;> simp [Nic.enable, Nic.enableNoLink, this, hl, he]

/-- none of the six methods ever raises (no dereference of a missing node / link on any path) -/
theorem C12_interface_methods_never_raise (c : IfCtx) :
    (genWiredEnable c).2.isSome ∧ (genIpWiredEnable c).2.isSome ∧ (genWirelessEnable c).2.isSome ∧
    (genIpWirelessEnable c).2.isSome ∧ (genWiredDisable c).2.isSome ∧ (genWirelessDisable c).2.isSome := by
  obtain ⟨h1, h2, h3, h4⟩ := C12_gen_interface_enable_sem c
  obtain ⟨h5, h6⟩ := C12_gen_interface_disable_sem c
  rw [h1, h2, h3, h4, h5, h6]; simp

/-- only the two IP classes call `super()`; the base classes' bodies stand alone (the binding of `super()` is sound) -/
theorem C12_gen_interface_super_calls :
    wiredEnableProg.callsSuper = false ∧ wiredDisableProg.callsSuper = false ∧
    wirelessEnableProg.callsSuper = false ∧ wirelessDisableProg.callsSuper = false := by decide

/-- non-vacuity: the interpreter DOES raise on a body that logs through a missing node before testing for it -/
example : (runI absIface (.seq .useNode (.ret (.lit true))) ⟨⟨false, true, .wired⟩, false, .on, false, []⟩).2 = none := by decide
/-- non-vacuity: a plugged-in switch port on an ON node comes up, on a BOOTING node it does not -/
example : (genWiredEnable ⟨⟨false, true, .wired⟩, true, .on, false, []⟩).1.enabled = true ∧
    (genWiredEnable ⟨⟨false, true, .wired⟩, true, .booting, false, []⟩).1.enabled = false := by decide

/-- the method a concrete interface of the given kind runs on `enable()`: switch port → `WiredNetworkInterface.enable`, NIC /
router interface → `IPWiredNetworkInterface.enable`, access point → `IPWirelessNetworkInterface.enable` (the inventory
`C12_gen_nic_enable_defs` shows no class below them defines its own) -/
def genEnableOf : NicKind → IfCtx → IOut
  | .wired => genWiredEnable
  | .ipWired => genIpWiredEnable
  | .wireless => genIpWirelessEnable

def genDisableOf : NicKind → IfCtx → IOut
  | .wired => genWiredDisable
  | .ipWired => genWiredDisable
  | .wireless => genWirelessDisable

/-- an interface as it sits in its node -/
def ctxIn (n : Node) (hello : Bool) (c : Nic) : IfCtx := ⟨c, true, n.st, hello, []⟩

/-- **`for i in self.network_interfaces.values(): i.enable()` of the translated power methods runs the translated interface
bodies**: the model's `enableNics` (which `C12_gen_power_on_sem` / `_tick_power_sem` speak about) is, interface by interface,
the translated `enable()` of that interface's class in the context "this node, in its present state" — for every node (the
model keeps `linked = true` for an access point, which needs no link) -/
theorem C12_enableNics_runs_translated_enable (n : Node) (hello : Bool)
    (hw : ∀ c ∈ n.nics, c.kind = .wireless → c.linked = true) :
    (enableNics n).nics = n.nics.map (fun c => (genEnableOf c.kind (ctxIn n hello c)).1) := by
  simp only [enableNics]
  apply List.map_congr_left
  intro c hc
  obtain ⟨h1, h2, _, h4⟩ := C12_gen_interface_enable_sem (ctxIn n hello c)
  have hon : (ctxIn n hello c).on = n.isOn := by simp [IfCtx.on, ctxIn, Node.isOn]
  have hnic : (ctxIn n hello c).nic = c := rfl
  cases hk : c.kind
  · simp only [genEnableOf]; rw [h2, hon, hnic]
  · simp only [genEnableOf]; rw [h1, hon, hnic]
  · simp only [genEnableOf]; rw [h4, hon, hnic]
    exact (Nic.enableNoLink_eq _ _ (hw c hc hk)).symm

theorem C12_disableNics_runs_translated_disable (n : Node) (hello : Bool) :
    (disableNics n).nics = n.nics.map (fun c => (genDisableOf c.kind (ctxIn n hello c)).1) := by
  simp only [disableNics]
  apply List.map_congr_left
  intro c _
  obtain ⟨h1, h2⟩ := C12_gen_interface_disable_sem (ctxIn n hello c)
  have hnic : (ctxIn n hello c).nic = c := rfl
  cases hk : c.kind <;> simp only [genDisableOf] <;> first | rw [h1, hnic] | rw [h2, hnic]

/-- **hence: while the node is not ON, no translated `enable()` of any class brings any of its interfaces up** (the loop of
`power_on` included, were it to run) — every interface that is down stays down -/
theorem C12_not_on_no_interface_comes_up (n : Node) (hello : Bool) (hne : n.st ≠ .on) (c : Nic) (hd : c.enabled = false) :
    (genEnableOf c.kind (ctxIn n hello c)).1 = c := by
  obtain ⟨h1, h2, _, h4⟩ := C12_interface_enable_refused_unless_on (ctxIn n hello c) hne hd
  cases hk : c.kind
  · simp only [genEnableOf]; exact h2
  · simp only [genEnableOf]; exact h1
  · simp only [genEnableOf]; exact h4

end Primaite.Power
