/-
C14 — obligations that tie the hand-written model (`Model/Health.lean`; the fresh items of `Model/HealthDyn.lean`; the observer
and `pre_timestep` of `Model/HealthObs.lean`) to tables regenerated from the source (`Gen/Health.lean`, extractor
harness/extract/health.py). A source change in any of these places makes one of these theorems fail to check.
-/
import PrimaiteModel.Model.HealthObs
import PrimaiteModel.Gen.Health
namespace Primaite.Health

def showSwHName : SwH → String
  | .unused => "UNUSED" | .good => "GOOD" | .fixing => "FIXING" | .compromised => "COMPROMISED" | .overwhelmed => "OVERWHELMED"
def showFsHName : FsH → String
  | .none => "NONE" | .good => "GOOD" | .compromised => "COMPROMISED" | .corrupt => "CORRUPT"
  | .restoring => "RESTORING" | .repairing => "REPAIRING"

def SwH.all : List SwH := [.unused, .good, .fixing, .compromised, .overwhelmed]
def SwH.pyName : SwH → String
  | .unused => "UNUSED" | .good => "GOOD" | .fixing => "FIXING" | .compromised => "COMPROMISED" | .overwhelmed => "OVERWHELMED"
def SwH.value : SwH → Nat
  | .unused => 0 | .good => 1 | .fixing => 2 | .compromised => 3 | .overwhelmed => 4
def FsH.all : List FsH := [.none, .good, .compromised, .corrupt, .restoring, .repairing]
def FsH.pyName : FsH → String
  | .none => "NONE" | .good => "GOOD" | .compromised => "COMPROMISED" | .corrupt => "CORRUPT"
  | .restoring => "RESTORING" | .repairing => "REPAIRING"
def OpSt.pyName : OpSt → String
  | .running => "RUNNING" | .stopped => "STOPPED" | .paused => "PAUSED" | .disabled => "DISABLED"
  | .installing => "INSTALLING" | .restarting => "RESTARTING" | .closed => "CLOSED"
def SwReq.all : List SwReq := [.close, .compromise, .disable, .enable, .execute, .fix, .pause, .restart, .resume, .scan, .start, .stop]
def SwReq.pyName : SwReq → String
  | .scan => "scan" | .fix => "fix" | .compromise => "compromise" | .stop => "stop" | .start => "start"
  | .pause => "pause" | .resume => "resume" | .restart => "restart" | .disable => "disable" | .enable => "enable"
  | .close => "close" | .execute => "execute"

theorem SwH.all_complete (h : SwH) : h ∈ SwH.all := by cases h <;> decide
theorem FsH.all_complete (h : FsH) : h ∈ FsH.all := by cases h <;> decide
theorem SwReq.all_complete (r : SwReq) : r ∈ SwReq.all := by cases r <;> decide

/-- the two health enums of the model are the source's, member for member and value for value -/
theorem C14_gen_enums :
    Gen.Health.swHealth = SwH.all.map (fun h => (h.pyName, h.value)) ∧
    Gen.Health.fsHealth = FsH.all.map (fun h => (h.pyName, h.value)) := ⟨rfl, rfl⟩

def probeSw (h : SwH) : Sw :=
  { name := "", isApp := false, op := .running, actual := h, visible := .unused, fixDur := 0, fixCd := none, auxDur := 0,
    auxCd := none }

/-- `Software.fix` accepts exactly the states `Sw.canFix` accepts, loads the configured duration, and the class
defaults are the ones the rig's fresh objects start from -/
theorem C14_gen_fix_guard :
    Gen.Health.fixAccepts = (SwH.all.filter (fun h => (probeSw h).canFix)).map SwH.pyName ∧
    Gen.Health.fixLoad.2 = "self.config.fixing_duration" ∧
    Gen.Health.swTickGuard = "self.health_state_actual == SoftwareHealthState.FIXING" ∧
    Gen.Health.swScanBody = ["self.health_state_visible = self.health_state_actual", "return True"] ∧
    Gen.Health.swVisibleDefault = "UNUSED" ∧ Gen.Health.itemVisibleDefault = "NONE" ∧
    Gen.Health.itemHealthDefault = "GOOD" := ⟨rfl, rfl, rfl, rfl, rfl, rfl, rfl⟩

/-- the countdown idioms the model follows:
fix / install: decrement, then `<= 0` completes (no guard);
folder scan / restore: guard `>= 0`, decrement, `== 0` completes; the restore loaded with `max(duration, 1)` only when `<= 0`
(the LOAD of the folder scan is not compared as text: `Folder.scan` is translated statement by statement and proved equal to
`Folder.scan` / `Folder.instantScan` for every state — `C14_gen_folder_scan` in Props/C14GenScan.lean — so that a guard-clause
rewrite of the same meaning does not break this obligation);
node scan: guard `> 0`, decrement, `== 0` fans out; loaded with `max(duration, 1)` unconditionally;
all countdowns start at 0. -/
theorem C14_gen_idioms :
    Gen.Health.fixIdiom = ("none", "dec-then-test", "<=") ∧
    Gen.Health.installIdiom = ("none", "dec-then-test", "<=") ∧
    Gen.Health.folderScanIdiom = (">=", "dec-then-test", "==") ∧
    Gen.Health.folderRestoreIdiom = (">=", "dec-then-test", "==") ∧
    Gen.Health.folderRestoreLoad = ("self.restore_countdown <= 0", "max(self.restore_duration, 1)") ∧
    Gen.Health.nodeScanIdiom = (">", "dec-then-test", "==") ∧
    Gen.Health.nodeScanLoad = ("none", "max(self.config.node_scan_duration, 1)") ∧
    Gen.Health.folderScanCountdownDefault = 0 ∧ Gen.Health.folderRestoreCountdownDefault = 0 ∧
    Gen.Health.nodeScanCountdownDefault = 0 := ⟨rfl, rfl, rfl, rfl, rfl, rfl, rfl, rfl, rfl, rfl⟩

/-- the reveal-to-red scan of a node as the model follows it (`Node.redPhase`, `Op.redScan`): guard `> 0`, decrement, `== 0`
completes; loaded with `node_scan_duration` (no `max(…, 1)`) unconditionally; starts at 0 -/
theorem C14_gen_red_scan :
    Gen.Health.redScanIdiom = (">", "dec-then-test", "==") ∧
    Gen.Health.redScanLoad = ("none", "self.config.node_scan_duration") ∧
    Gen.Health.redScanCountdownDefault = 0 := ⟨rfl, rfl, rfl⟩

/-- order inside a timestep: folder = scan, (reveal), restore; node (ON) = node scan with its fan-out, (red scan),
then processes, services, applications, file system -/
theorem C14_gen_tick_order :
    Gen.Health.folderTickOrder = ["_scan_timestep", "_reveal_to_red_timestep", "_restoring_timestep"] ∧
    Gen.Health.nodeTickOrder =
      ["node-scan",
       "fan-out:self.file_system.scan(instant_scan=True)|self.processes[process_id].scan()|self.services[service_id].scan()|self.applications[application_id].scan()",
       "red-scan", "tick:self.processes", "tick:self.services", "tick:self.applications", "tick:self.file_system"] :=
  ⟨rfl, rfl⟩

/-- the request guard tables of services and applications are `SwReq.known` / `SwReq.guard` -/
theorem C14_gen_request_guards :
    Gen.Health.serviceGuards =
      (SwReq.all.filter (SwReq.known false)).map (fun r => (r.pyName, (r.guard.map OpSt.pyName).getD "-")) ∧
    Gen.Health.applicationGuards =
      (SwReq.all.filter (SwReq.known true)).map (fun r => (r.pyName, (r.guard.map OpSt.pyName).getD "-")) := ⟨rfl, rfl⟩

/-- every `apply_timestep` override under simulator/system reaches `super().apply_timestep` (otherwise the fix and
install countdowns of that class never move — the data-manipulation-bot defect) -/
theorem C14_gen_tick_overrides_reach_super : Gen.Health.tickOverridesWithoutSuper = [] := rfl

/-- The inventory of writers of a health attribute in the whole source tree, and which model operation stands for
each. A new writer (or a changed value) breaks this obligation. -/
theorem C14_gen_writers : Gen.Health.writers = [
  -- File.corrupt / repair / restore / scan                          → Op.file … / folder … / fsRestoreFile
  "simulator/file_system/file.py:File.corrupt:self.health_status<-FileSystemItemHealthStatus.CORRUPT",
  "simulator/file_system/file.py:File.repair:self.health_status<-FileSystemItemHealthStatus.GOOD",
  "simulator/file_system/file.py:File.restore:self.health_status<-FileSystemItemHealthStatus.GOOD",
  "simulator/file_system/file.py:File.scan:self.visible_health_status<-self.health_status",
  -- Folder timed restore / timed scan / corrupt / repair / restore / instant scan
  "simulator/file_system/folder.py:Folder._restoring_timestep:self.health_status<-FileSystemItemHealthStatus.GOOD",
  "simulator/file_system/folder.py:Folder._scan_timestep:self.health_status<-FileSystemItemHealthStatus(max([f.health_status.value for f in self.files.values()] or [0]))",
  "simulator/file_system/folder.py:Folder._scan_timestep:self.visible_health_status<-self.health_status",
  "simulator/file_system/folder.py:Folder.corrupt:self.health_status<-FileSystemItemHealthStatus.CORRUPT",
  "simulator/file_system/folder.py:Folder.repair:self.health_status<-FileSystemItemHealthStatus.GOOD",
  "simulator/file_system/folder.py:Folder.repair:self.health_status<-FileSystemItemHealthStatus.GOOD",
  "simulator/file_system/folder.py:Folder.restore:self.health_status<-FileSystemItemHealthStatus.RESTORING",
  "simulator/file_system/folder.py:Folder.scan:self.visible_health_status<-FileSystemItemHealthStatus.CORRUPT",
  -- install completion (Sw.auxTick), first run (Sw.wake)
  "simulator/system/applications/application.py:Application.apply_timestep:self.health_state_actual<-SoftwareHealthState.GOOD",
  "simulator/system/applications/application.py:Application.run:set_health_state(SoftwareHealthState.GOOD)",
  -- external writers of file health                                  → Op.fileSet (folder health of the database folder: not a C14 observable)
  "simulator/system/services/database/database_service.py:DatabaseService._process_sql:database_folder.health_status<-FileSystemItemHealthStatus.CORRUPT",
  "simulator/system/services/database/database_service.py:DatabaseService._process_sql:self.db_file.health_status<-FileSystemItemHealthStatus.COMPROMISED",
  "simulator/system/services/database/database_service.py:DatabaseService._process_sql:self.db_file.health_status<-FileSystemItemHealthStatus.CORRUPT",
  -- database restore: the replacement file inherits the old visible value → DOp.dbReplace (Model/HealthDyn.lean, C14_dyn_db_replace)
  "simulator/system/services/database/database_service.py:DatabaseService.restore_backup:self.db_file.visible_health_status<-old_visible_state",
  "simulator/system/services/database/database_service.py:DatabaseService.restore_backup:set_health_state(SoftwareHealthState.GOOD)",
  "simulator/system/services/ftp/ftp_service.py:FTPServiceABC._store_data:file.health_status<-health_status",
  -- first start (Sw.wake)
  "simulator/system/services/service.py:Service.start:set_health_state(SoftwareHealthState.GOOD)",
  -- external writers of software health                              → Op.swSet (values GOOD / COMPROMISED / OVERWHELMED only)
  "simulator/system/services/web_server/web_server.py:WebServer._handle_get_request:set_health_state(SoftwareHealthState.COMPROMISED)",
  "simulator/system/services/web_server/web_server.py:WebServer._handle_get_request:set_health_state(SoftwareHealthState.GOOD)",
  "simulator/system/software.py:IOSoftware.add_connection:set_health_state(SoftwareHealthState.GOOD)",
  "simulator/system/software.py:IOSoftware.add_connection:set_health_state(SoftwareHealthState.OVERWHELMED)",
  -- construction (initial state read by the rig), compromise request, fix completion, fix start, scan, the setter itself
  "simulator/system/software.py:Software.__init__:self.health_state_actual<-self.config.starting_health_state",
  "simulator/system/software.py:Software._init_request_manager:set_health_state(SoftwareHealthState.COMPROMISED)",
  "simulator/system/software.py:Software._update_fix_status:set_health_state(SoftwareHealthState.GOOD)",
  "simulator/system/software.py:Software.fix:set_health_state(SoftwareHealthState.FIXING)",
  "simulator/system/software.py:Software.scan:self.health_state_visible<-self.health_state_actual",
  "simulator/system/software.py:Software.set_health_state:self.health_state_actual<-health_state"] := rfl

/-- **Gen obligation (dynamic layer).** The initial values the model gives to freshly created items are the class defaults of
the source: a new software object shows UNUSED, a created file is GOOD / shows NONE, a created folder is GOOD / shows NONE
with idle countdowns and the default scan / restore durations. -/
theorem C14_gen_fresh_items :
    (∀ s : SwSpec, showSwHName s.construct.visible = Gen.Health.swVisibleDefault) ∧
    showFsHName (freshFile "f").actual = Gen.Health.itemHealthDefault ∧
    showFsHName (freshFile "f").visible = Gen.Health.itemVisibleDefault ∧
    folderScanDefault = Gen.Health.folderScanDurationDefault ∧ folderRestoreDefault = Gen.Health.folderRestoreDurationDefault ∧
    (∀ d : DNode, (d.freshFolder "F").scanCd = Gen.Health.folderScanCountdownDefault ∧
      (d.freshFolder "F").restoreCd = Gen.Health.folderRestoreCountdownDefault ∧
      showFsHName (d.freshFolder "F").actual = Gen.Health.itemHealthDefault ∧
      showFsHName (d.freshFolder "F").visible = Gen.Health.itemVisibleDefault) := by
  refine ⟨fun _ => rfl, rfl, rfl, rfl, rfl, fun _ => ⟨rfl, rfl, rfl, rfl⟩⟩

/-- the state-dictionary entries the observer reads are the folder's actual / visible health, its refresh flag, and the LIVE folders
by name -/
theorem C14_gen_folder_observe :
    Gen.Health.stateKeys =
      [("FileSystemItemABC.describe_state", "health_status", "self.health_status.value"),
       ("FileSystemItemABC.describe_state", "visible_status", "self.visible_health_status.value"),
       ("Folder.describe_state", "scanned_this_step", "self._scanned_this_step"),
       ("FileSystem.describe_state", "folders", "{folder.name: folder.describe_state() for folder in self.folders.values()}")] :=
  rfl

/-- the MODEL's observer evaluated on the same 32 valuations, with probe values that tell the three sources apart (cached = CORRUPT,
visible = GOOD, actual = COMPROMISED; the folder has identity 0, a cache read from "another folder" identity 1) -/
def modelObserveTruth : List (List Bool × String × String × Bool × String) :=
  let bits : List Bool := [false, true]
  bits.flatMap fun absent => bits.flatMap fun rq => bits.flatMap fun scanned => bits.flatMap fun idNone => bits.map fun idSame =>
    let o : FolderObs := { name := "f", requiresScan := rq, cached := .corrupt,
                           cachedId := if idNone then none else if idSame then some 0 else some 1 }
    let G : Folder := { name := "f", deleted := false, actual := .compromised, visible := .good, scanDur := 1, scanCd := 0,
                        restoreDur := 1, restoreCd := 0, files := [], scanned := scanned }
    let r : FsH × FolderObs := o.see (if absent then none else some (0, G))
    let src : String := match r.1 with
      | FsH.corrupt => "self.cached_obs['health_status']" | FsH.good => "folder_state['visible_status']"
      | FsH.compromised => "folder_state['health_status']" | _ => "-"
    if absent then ([absent, rq, scanned, idNone, idSame], "self.default_observation", "-", false, "-")
    else ([absent, rq, scanned, idNone, idSame], "obs", src, decide (r.2.cached = r.1),
          if r.2.cachedId = some 0 then "folder_state.get('uuid')" else "-")

/-- SEMANTIC tie of the observer: `FolderObservation.observe`, executed symbolically by the extractor for every valuation of its five
Boolean inputs, does what `FolderObs.see` does — whatever the shape of the control flow in the source. -/
theorem C14_gen_folder_observe_truth : Gen.Health.folderObserveTruth = modelObserveTruth := rfl

/-- `pre_timestep` reaches every LIVE folder of every node unconditionally (whatever the node's power state) and no deleted folder
(= `Node.pre`); a game step is `pre_timestep; requests; apply_timestep; observe` (= `Node.gameStep`, then `FolderObs.observe`) -/
theorem C14_gen_pre_chain :
    (∀ r ∈ [("PrimaiteGame.pre_timestep", "self.simulation.pre_timestep", "", ""),
            ("Simulation.pre_timestep", "self.network.pre_timestep", "", ""),
            ("Network.pre_timestep", "node.pre_timestep", "for node in self.nodes.values()", ""),
            ("Node.pre_timestep", "self.file_system.pre_timestep", "", ""),
            ("FileSystem.pre_timestep", "folder.pre_timestep", "for folder in self.folders.values()", "")],
        r ∈ Gen.Health.preChain) ∧
    (Gen.Health.preChain.filter (fun r => r.1 = "FileSystem.pre_timestep" && r.2.1 != "super().pre_timestep")).length = 1 ∧
    Gen.Health.gameStepOrder = ["pre_timestep", "apply_agent_actions", "advance_timestep", "update_agents",
      "advance_timestep -> self.simulation.apply_timestep", "pre_timestep -> self.simulation.pre_timestep"] :=
  ⟨by decide, rfl, rfl⟩

end Primaite.Health
