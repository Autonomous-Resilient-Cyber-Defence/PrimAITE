/-
C17 — the dispatcher `DatabaseService.receive` with `_process_sql`, `_process_connect`, `IOSoftware.add_connection` and
`IOSoftware.terminate_connection`, TRANSLATED statement by statement from the source on every run (Gen/DatabaseTr.lean,
harness/extract/database_tr.py), are proved equal to the model's `Server.receive`, `processSql` and `processConnect` for every
server state and every argument; "the service runs queries only on connections it issued and has not closed" is then a theorem about the
translated dispatcher.  A changed guard, operator, key, status code, branch order, written value or answer in the
source changes the generated definition and these proofs stop checking.
-/
import PrimaiteModel.Props.C17
import PrimaiteModel.Gen.DatabaseTr
namespace Primaite.Database
open Primaite.Gen

/-- `_process_sql` as translated = the model's `processSql`, and an answer carries the query's uuid (which is what the
client counts as success) exactly when its status is 200. -/
theorem C17_tr_process_sql (s : Server) (q : Sql) :
    ((DatabaseTr.processSql s q).1, (DatabaseTr.processSql s q).2.1) = processSql s q ∧
    (DatabaseTr.processSql s q).2.2 = ((DatabaseTr.processSql s q).2.1 == 200) := by
  unfold DatabaseTr.processSql processSql
  cases hf : s.file with
  | none => simp
  | some fh =>
    by_cases hh : s.health = .good
    · cases q <;> cases fh <;> simp [hh]
    · simp [hh]

/-- `_process_connect` (with `add_connection` inlined) as translated = the model's `processConnect`, for every server
state in which the id about to be issued is not in the table (uuid4 freshness; `C17_tr_fresh_of_wf`); the id is visible
to the client only when `response` is true, and `response` is `status_code == 200`. -/
theorem C17_tr_process_connect (s : Server) (owner : Nat) (pw : Option Nat) (hfresh : s.hasConn s.nextId = false) :
    ((DatabaseTr.processConnect s owner pw).1, (DatabaseTr.processConnect s owner pw).2.1,
      if (DatabaseTr.processConnect s owner pw).2.2.1 then (DatabaseTr.processConnect s owner pw).2.2.2 else none)
      = processConnect s owner pw ∧
    (DatabaseTr.processConnect s owner pw).2.2.1 = ((DatabaseTr.processConnect s owner pw).2.1 == 200) := by
  unfold DatabaseTr.processConnect DatabaseTr.addConnection processConnect healthAcceptsConnect
  have hfresh' : Server.hasConn { s with nextId := s.nextId + 1 } s.nextId = false := hfresh
  by_cases h1 : s.op = .running
  · by_cases h3 : s.password = pw
    · by_cases h4 : s.maxSessions ≤ s.conns.length
      · cases s.health <;> simp [h1, h3, h4]
      · cases s.health <;> simp [h1, h3, h4, Server.hasConn] <;> simp_all [Server.hasConn]
    · cases s.health <;> simp [h1, h3]
  · simp [h1]

/-- `terminate_connection(id, send_disconnect=False)` as translated: the entries with that id are removed, nothing else. -/
theorem C17_tr_terminate (s : Server) (cid : Option Nat) :
    (DatabaseTr.terminateConnection s cid).1 =
      match cid with
      | some id => { s with conns := s.conns.filter (fun c => !(c.id == id)) }
      | none => s := by
  unfold DatabaseTr.terminateConnection
  cases cid with
  | none => simp
  | some id =>
    by_cases h : s.hasConn id = true
    · simp [h]
    · have hf : s.conns.filter (fun c => !(c.id == id)) = s.conns := by
        apply List.filter_eq_self.mpr
        intro c hc
        have : ¬ c.id = id := by
          intro hcid; exact h ((hasConn_iff s id).mpr ⟨c, hc, hcid⟩)
        simp [this]
      simp [h, hf]

/-- with distinct ids, "the address recorded for the id is `src`" = "some entry has that id and that address" -/
theorem find_owner_eq_any (l : List Conn) (hnd : (l.map (·.id)).Nodup) (id src : Nat) :
    ((l.find? (fun c => c.id == id)).map (·.owner) == some src) = l.any (fun c => c.id == id && c.owner == src) := by
  induction l with
  | nil => rfl
  | cons a t ih =>
    simp only [List.map_cons, List.nodup_cons] at hnd
    by_cases ha : a.id = id
    · have hnone : t.any (fun c => c.id == id && c.owner == src) = false := by
        apply Bool.eq_false_iff.mpr
        intro hany
        obtain ⟨c, hc, hcc⟩ := List.any_eq_true.mp hany
        simp only [Bool.and_eq_true, beq_iff_eq] at hcc
        apply hnd.1
        rw [ha, ← hcc.1]
        exact List.mem_map.mpr ⟨c, hc, rfl⟩
      simp [ha, hnone]
    · simp [ha, ih hnd.2]

/-- **The translated dispatcher = the model.**  For every server state whose table is well-formed (distinct ids below the
counter: an invariant of every run, `C17_table_wellformed_run`), every sender and every payload of the model - connect,
query, disconnect, and the three kinds of payload the dispatcher does not recognise - `receive` as translated from the
source returns the model's server, sends exactly the model's answer, and returns True iff it sent one. -/
theorem C17_tr_receive (s : Server) (hwf : s.WF) (src : Nat) (p : Payload) :
    DatabaseTr.receive s src p.raw = ((s.receive src p).1, RecvOut.ret (s.receive src p).2 (s.receive src p).2.isSome) := by
  unfold DatabaseTr.receive
  by_cases hc : s.canAct = true
  · cases p with
    | connect pw =>
      have ht := (C17_tr_process_connect s src pw (C17_tr_fresh_of_wf s hwf)).1
      obtain ⟨h1, h2, h3⟩ : (DatabaseTr.processConnect s src pw).1 = (processConnect s src pw).1 ∧
          (DatabaseTr.processConnect s src pw).2.1 = (processConnect s src pw).2.1 ∧
          (if (DatabaseTr.processConnect s src pw).2.2.1 then (DatabaseTr.processConnect s src pw).2.2.2 else none)
            = (processConnect s src pw).2.2 := by
        rw [← ht]; exact ⟨rfl, rfl, rfl⟩
      simp [Payload.raw, Server.receive, hc, h1, h2]
      exact h3
    | sql cid q =>
      have ht := (C17_tr_process_sql s q).1
      obtain ⟨h1, h2⟩ : (DatabaseTr.processSql s q).1 = (processSql s q).1 ∧ (DatabaseTr.processSql s q).2.1 = (processSql s q).2 := by
        rw [← ht]; exact ⟨rfl, rfl⟩
      cases cid with
      | none => simp [Payload.raw, Server.receive, hc]
      | some id =>
        by_cases hh : s.hasConn id = true
        · simp [Payload.raw, Server.receive, hc, hh, h1, h2]
        · simp [Payload.raw, Server.receive, hc, hh]
    | disconnect cid =>
      cases cid with
      | none => simp [Payload.raw, Server.receive, hc]
      | some id =>
        have hown := find_owner_eq_any s.conns hwf.2 id src
        by_cases hh : s.hasConn id = true
        · cases ho : s.conns.any (fun c => c.id == id && c.owner == src)
          · rw [ho] at hown
            simp [Payload.raw, Server.receive, hc, hh, ho, Server.ownerOf, hown]
          · rw [ho] at hown
            simp [Payload.raw, Server.receive, hc, hh, ho, Server.ownerOf, hown, C17_tr_terminate]
        · have ho' : s.conns.any (fun c => c.id == id && c.owner == src) = false := by
            apply Bool.eq_false_iff.mpr
            intro hany
            obtain ⟨c, hcm, hcc⟩ := List.any_eq_true.mp hany
            simp only [Bool.and_eq_true, beq_iff_eq] at hcc
            exact hh ((hasConn_iff s id).mpr ⟨c, hcm, hcc.1⟩)
          simp [Payload.raw, Server.receive, hc, hh, ho']
    | junk k => cases k <;> simp [Payload.raw, Server.receive, hc]
  · have hc' : s.canAct = false := by simpa using hc
    cases p <;> simp [Server.receive, hc']

/-- **Queries run only on live connections - the translated dispatcher.**  For EVERY payload whose type is `sql`, whatever
its other keys: unless its `connection_id` is an id that is in the connection table right now, the translated `receive`
does not reach `_process_sql`: it answers 401 (or nothing, when the service cannot act) and leaves the server exactly as
it was.  (Which ids are in the table: only ids issued by a correctly authenticated connect and not closed since,
`C17_table_grows_only_by_authorised_connect`, `C17_closed_stays_closed_run`.) -/
theorem C17_tr_sql_only_on_live (s : Server) (src : Nat) (raw : Raw) (hd : raw.isDict = true) (ht : raw.type = some .sql)
    (hno : ¬ ∃ id, raw.connId = some (some id) ∧ s.hasConn id = true) :
    DatabaseTr.receive s src raw = (s, if s.canAct then RecvOut.ret (some (401, none)) true else RecvOut.ret none false) := by
  unfold DatabaseTr.receive
  by_cases hc : s.canAct = true
  · cases hci : raw.connId with
    | none => simp [hc, ht, hd]
    | some x =>
      cases x with
      | none => simp [hc, ht, hd]
      | some id =>
        have : s.hasConn id = false := Bool.eq_false_iff.mpr (fun hh => hno ⟨id, hci, hh⟩)
        simp [hc, ht, hd, this]
  · have hc' : s.canAct = false := by simpa using hc
    simp [hc']

/-- **When the translated dispatcher raises** (a `KeyError` on a missing key): exactly for a `disconnect` without
`connection_id`, and for an `sql` payload on a LIVE connection without `sql` or `uuid` - and then nothing has changed. -/
theorem C17_tr_receive_raises (s : Server) (src : Nat) (raw : Raw) :
    ((DatabaseTr.receive s src raw).2 = RecvOut.raised ↔
      s.canAct = true ∧ raw.isDict = true ∧
        ((raw.type = some .disconnect ∧ raw.connId = none) ∨
         (raw.type = some .sql ∧ (∃ id, raw.connId = some (some id) ∧ s.hasConn id = true) ∧ (raw.sql = none ∨ raw.uuid = false)))) ∧
    ((DatabaseTr.receive s src raw).2 = RecvOut.raised → (DatabaseTr.receive s src raw).1 = s) := by
  unfold DatabaseTr.receive
  cases hc : s.canAct <;> cases hd : raw.isDict <;> cases ht : raw.type <;> simp
  rename_i t
  cases t <;> simp
  · -- disconnect
    cases hci : raw.connId with
    | none => simp
    | some x =>
      cases x with
      | none => simp
      | some id =>
        cases hh : s.hasConn id <;> simp [hh]
        split <;> simp
  · -- sql
    cases hci : raw.connId with
    | none => simp
    | some x =>
      cases x with
      | none => simp
      | some id =>
        cases hh : s.hasConn id <;> cases hq : raw.sql <;> cases hu : raw.uuid <;> simp [hh]

example : (DatabaseTr.receive ({ conns := [⟨0, 0⟩], nextId := 1 } : Server) 0 { type := some .sql, connId := some (some 0) }).2 = RecvOut.raised := by
  decide
example : (DatabaseTr.receive ({ conns := [⟨0, 0⟩], nextId := 1 } : Server) 1 (Payload.sql (some 0) .delete).raw).1.file = some FHealth.compromised := by
  decide
example : (DatabaseTr.receive ({ conns := [⟨0, 0⟩], nextId := 1 } : Server) 1 (Payload.sql (some 1) .delete).raw)
    = (({ conns := [⟨0, 0⟩], nextId := 1 } : Server), RecvOut.ret (some (401, none)) true) := by decide

/-! `backup_database` and `restore_backup` are translated statement by statement as well (the transfers themselves are the
model's `ftpSendFile` / `ftpRequestFile`).  In particular the ORDER of `restore_backup` is a proof obligation: the
leftover under downloads/ is removed BEFORE the backup is requested, the request is unconditional, the arrival of the copy
is checked BEFORE the live file is deleted (F-33), and the live file is replaced by what is under downloads/ then. -/

theorem C17_tr_backup (s : Server) (b : Backup) (pq big : Bool) :
    DatabaseTr.backupDatabase s b pq big = backupDatabase s b pq big := by
  unfold DatabaseTr.backupDatabase backupDatabase
  rw [Option.not_isSome, Option.not_isSome]
  refine ite_congr rfl (fun _ => rfl) (fun _ => ?_)
  refine ite_congr rfl (fun _ => rfl) (fun _ => ?_)
  refine ite_congr rfl (fun _ => rfl) (fun _ => ?_)
  refine ite_congr rfl (fun _ => rfl) (fun _ => ?_)
  dsimp only
  generalize ftpSendFile s b pq big = r
  obtain ⟨s', b', resp⟩ := r
  cases resp <;> rfl

theorem leftover_removed (s : Server) :
    (if s.downloads.isSome then { s with downloads := none, dlDeleted := s.dlDeleted ++ s.downloads.toList } else s)
      = { s with downloads := none, dlDeleted := s.dlDeleted ++ s.downloads.toList } := by
  cases hd : s.downloads with
  | some d => simp
  | none => simp only [Option.isSome_none, Bool.false_eq_true, if_false]; cases s; simp_all

/-- the replacement step as translated (arrival check, delete the live file unless it is deleted already, copy the download
in, check, set GOOD) = the model's -/
theorem restore_tail (s' : Server) :
    (if s'.downloads.isNone = true then (s', false)
     else
       (let s := if s'.file.isNone = true then s' else { s' with file := none, fileDeleted := s'.fileDeleted ++ s'.file.toList }
        let s := match s.downloads with | some d => { s with file := some d, folder := true } | none => s
        if s.file.isNone = true then (s, false) else (let s := { s with health := Health.good }; (s, true))))
    = (match s'.downloads with
       | none => (s', false)
       | some d => ({ s' with file := some d, folder := true, health := .good,
                              fileDeleted := s'.fileDeleted ++ s'.file.toList }, true)) := by
  cases hd : s'.downloads with
  | none => simp only [Option.isNone_none, if_true]
  | some d =>
    simp only [Option.isNone_some, Bool.false_eq_true, if_false]
    cases hf : s'.file with
    | none =>
      simp only [Option.isNone_none, if_true, hd, Option.isNone_some, Bool.false_eq_true, if_false, Option.toList_none, List.append_nil]
    | some h =>
      simp only [Option.isNone_some, Bool.false_eq_true, if_false, Option.toList_some]

theorem C17_tr_restore (s : Server) (b : Backup) (pq pr k : Bool) :
    DatabaseTr.restoreBackup s b pq pr k = restoreBackup s b pq pr k := by
  unfold DatabaseTr.restoreBackup restoreBackup
  rw [leftover_removed, Option.not_isSome]
  -- the three guards are the model's, in the model's order; behind them the transfer is opaque
  refine ite_congr rfl (fun _ => rfl) (fun _ => ?_)
  refine ite_congr rfl (fun _ => rfl) (fun _ => ?_)
  refine ite_congr rfl (fun _ => rfl) (fun _ => ?_)
  dsimp only
  generalize ftpRequestFile { s with downloads := none, dlDeleted := s.dlDeleted ++ s.downloads.toList } b pq pr k = r
  obtain ⟨s', resp⟩ := r
  cases resp
  · rfl
  · exact restore_tail s'

end Primaite.Database
