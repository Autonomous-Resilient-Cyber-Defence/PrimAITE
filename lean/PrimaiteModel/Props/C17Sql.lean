/-
C17 — what the property SAYS about `_process_sql`, stated directly on the TRANSLATED method
(Gen/DatabaseTr.lean), branch by branch, for every server state.  `C17_tr_process_sql` (Props/C17Recv.lean) is the equality with the
model; these are the property's own sentences ("destructive queries change the stored file's health (delete: compromised, encrypt:
corrupt) and reads of compromised data fail"), so that a change of ONE branch is refuted by the theorem that names it, and
`Props/C17SqlCm.lean` prints the server on which it fails (the counter-model search, 120 cells = the whole domain of the method).
-/
import PrimaiteModel.Model.Database
import PrimaiteModel.Gen.DatabaseTr
namespace Primaite.Database
open Primaite.Gen

/-- ENCRYPT on a live file of a healthy service: the file is CORRUPT afterwards WHATEVER its health was (also COMPROMISED, also
already CORRUPT), nothing else of the server changes, answer 200 with the query's uuid. -/
theorem C17_gen_process_sql_encrypt (s : Server) (fh : FHealth) (hf : s.file = some fh) (hh : s.health = .good) :
    DatabaseTr.processSql s .encrypt = ({ s with file := some .corrupt }, 200, true) := by
  unfold DatabaseTr.processSql
  cases fh <;> simp [hf, hh]

/-- DELETE: the file is COMPROMISED afterwards whatever its health was; 200 with the uuid. -/
theorem C17_gen_process_sql_delete (s : Server) (fh : FHealth) (hf : s.file = some fh) (hh : s.health = .good) :
    DatabaseTr.processSql s .delete = ({ s with file := some .compromised }, 200, true) := by
  unfold DatabaseTr.processSql
  cases fh <;> simp [hf, hh]

/-- SELECT never writes; it fails (404, no uuid) exactly on COMPROMISED data. -/
theorem C17_gen_process_sql_select (s : Server) (fh : FHealth) (hf : s.file = some fh) (hh : s.health = .good) :
    DatabaseTr.processSql s .select = (s, if fh = .compromised then 404 else 200, !(fh == .compromised)) := by
  unfold DatabaseTr.processSql
  cases fh <;> simp [hf, hh]

/-- INSERT, the pg_stat query and an unknown query never write; 200 / 200 / 500. -/
theorem C17_gen_process_sql_insert (s : Server) (fh : FHealth) (hf : s.file = some fh) (hh : s.health = .good) :
    DatabaseTr.processSql s .insert = (s, 200, true) ∧ DatabaseTr.processSql s .pgstat = (s, 200, true) ∧
    (DatabaseTr.processSql s .other).1 = s ∧ (DatabaseTr.processSql s .other).2.1 = 500 := by
  unfold DatabaseTr.processSql
  cases fh <;> simp [hf, hh]

/-- no live file, or a service whose health is not GOOD: nothing is written, whatever the query (404 / 500, no uuid). -/
theorem C17_gen_process_sql_refuses (s : Server) (q : Sql) (h : s.file = none ∨ s.health ≠ .good) :
    DatabaseTr.processSql s q = (s, if s.file = none then 404 else 500, false) := by
  unfold DatabaseTr.processSql
  cases hf : s.file with
  | none => simp
  | some fh =>
    have hh : s.health ≠ .good := by
      cases h with
      | inl h => rw [hf] at h; cases h
      | inr h => exact h
    simp [hh]

end Primaite.Database
