/-
C18, continued — *which* frames are accounted on a wired link.

In `Model/Link.lean` the answer of the far interface's `receive_frame` is an input (`acc`).  Here it is computed by the
acceptance model of C08 (`Model/Forward.lean`, read-only): the interface is enabled, the TTL survives the decrement, and the
interface kind's addressing test holds (`hostAccepts` / `routerAccepts`; a switch port takes everything).  The rig compares
`farAnswer` with what the real `receive_frame` answered for every frame that crossed a wired link.
-/
import PrimaiteModel.Model.LinkAccept
import PrimaiteModel.Props.C18

namespace Primaite.Link

/-- Tie to C08's model: when `farAnswer` is false on an enabled interface, C08's `ifaceRecv` does what the code does on the
`return False` paths — it logs the reception, decrements the TTL and stops: the node is not involved, nothing is sent. -/
theorem C18_farAnswer_false_is_C08_refusal (fuel : Nat) (st : Forward.St) (n i : Nat) (f : Forward.Frame)
    (nd : Forward.Node) (ifc : Forward.Iface) (hn : st.node? n = some nd) (hi : st.iface? n i = some ifc)
    (hen : ifc.enabled = true) (h : farAnswer nd ifc f = false) :
    Forward.ifaceRecv (fuel + 1) st n i f = (st.emit (.rx n i f.id f.ttl), f.dec) := by
  unfold farAnswer at h
  rw [Forward.ifaceRecv]
  simp only [hn, hi]
  by_cases httl : f.dec.ttl < 1
  · simp [httl]
  · simp only [httl, if_false]
    cases hk : nd.kind <;> simp_all

/-- **A frame that crossed the wire is accounted iff the far interface takes it.** On an up link with room for the frame:
* if the far interface refuses it (TTL exhausted, or not addressed to it — C08's acceptance test), the whole network state,
  every load included, is as before, nothing nested runs and the single record says `rejected`;
* if it accepts, the frame is `carried` and its size stays on the link: the load has grown by at least `s` when `send_frame`
  returns (exactly `s` plus what was carried over the same link during the delivery, `runEv_accounts`). -/
theorem C18_accounted_iff_accepted (n : Net) (k : Nat) (fromA : Bool) (s : Nat) (nested : List Ev) (l : Link)
    (nd : Forward.Node) (ifc : Forward.Iface) (f : Forward.Frame)
    (hl : n.links[k]? = some l) (hup : l.isUp = true) (hfit : l.load + s ≤ l.bw) :
    (farAnswer nd ifc f = false →
      (runEv n (.send k fromA s (farAnswer nd ifc f) nested)).1 = n ∧
      ∃ r, (runEv n (.send k fromA s (farAnswer nd ifc f) nested)).2 = [r] ∧ r.verdict = .rejected ∧ r.load = l.load) ∧
    (farAnswer nd ifc f = true →
      loadOf n k + s ≤ loadOf (runEv n (.send k fromA s (farAnswer nd ifc f) nested)).1 k ∧
      ∃ r ∈ (runEv n (.send k fromA s (farAnswer nd ifc f) nested)).2, r.verdict = .carried ∧ r.size = s ∧ r.k = k ∧
        r.wireless = false) := by
  rw [runEv_send_admitted n k fromA s _ nested l hl hup hfit]
  constructor
  · intro hacc
    rw [hacc]
    exact ⟨rfl, _, rfl, rfl, rfl⟩
  · intro hacc
    rw [hacc, if_pos rfl]
    refine ⟨?_, _, List.mem_append_right _ (List.mem_singleton.mpr rfl), rfl, rfl, rfl, rfl⟩
    rw [runEvs_accounts, loadOf_set n k k l _ hl, if_pos rfl, loadOf_eq n k l hl]
    exact Nat.le_add_right _ _

/-- A wireless access point answers exactly like a router interface. -/
theorem C18_wap_answers_like_a_router_interface (own : List Ip) (ifc : Forward.Iface) (f : Forward.Frame) :
    farAnswerWap ifc f = farAnswer (farNode .router own) ifc f := by
  simp [farAnswerWap, farAnswer, farNode]

/-- a host NIC refuses a unicast frame for another MAC (a flooded frame): the link's state is untouched -/
example :
    let nd : Forward.Node := { kind := .host, ifaces := [{ mac := 5, ip := 0xC0A80002#32, plen := 24, enabled := true }] }
    let ifc : Forward.Iface := { mac := 5, ip := 0xC0A80002#32, plen := 24, enabled := true }
    let other : Forward.Frame := { id := 0, srcMac := 7, dstMac := 6, srcIp := 0xC0A80003#32, dstIp := 0xC0A80004#32, ttl := 64, pl := .dataReq }
    let mine : Forward.Frame := { other with dstMac := 5, dstIp := 0xC0A80002#32 }
    let dead : Forward.Frame := { mine with ttl := 1 }
    farAnswer nd ifc other = false ∧ farAnswer nd ifc mine = true ∧ farAnswer nd ifc dead = false := by decide +kernel

end Primaite.Link
