/-
C09 — observations faithfully encode ground truth.
`observe cfg (describe truth) = spec cfg truth` for every observation class, where `describe` models `describe_state()` over the
simulator objects and `spec` is the documented encoding written directly over the objects (Model/ObsTruth.lean).
-/
import PrimaiteModel.Props.C02
import PrimaiteModel.Model.ObsTruth
namespace Primaite.Obs
open Primaite.Gen

/-! ### translator tie: which state key each health leaf reads under which switch -/

theorem C09_gen_scan_gates :
    ObsTables.serviceScanGate = ("health_state_visible", "health_state_actual") ∧
    ObsTables.applicationScanGate = ("health_state_visible", "health_state_actual") ∧
    ObsTables.fileScanGate = ("visible_status", "health_status") ∧
    -- repair 59ceb16: the cached health only for the folder object it was read from (`FolderObs.sameFolder`), the folder's own
    -- visible health in the step a scan completes OR for another object; the identity is updated with the cache on every present
    -- observation, starts as None, and the branch for an absent folder changes nothing (`FolderObs.next`)
    ObsTables.folderScanGate = ("cached-of-this-folder:health_status|scanned-or-other-folder:visible_status", "health_status") ∧
    ObsTables.folderCacheUpdated = true ∧
    ObsTables.folderCacheIdentity = ("None", "folder_state.get('uuid')", "return self.default_observation") := by
  and_intros <;> rfl

/-- the one `describe_state` override of an observed key: idle FTP services are described as STOPPED -/
theorem C09_gen_ftp_override :
    ObsTables.ftpIdleOverride = ("RUNNING", "STOPPED") ∧ ObsEnums.ServiceOperatingState.T.RUNNING.value = 1 ∧
    ObsEnums.ServiceOperatingState.T.STOPPED.value = 2 ∧
    ObsTables.observedKeysOverriddenIn = ["simulator/system/services/ftp/ftp_service.py"] := by
  and_intros <;> rfl

theorem describedOp_eq_specOp (s : SoftwareT) : describedOp s = specOp s := by
  unfold describedOp specOp
  by_cases h1 : s.idleFtp = true <;> by_cases h2 : s.op = 1 <;> simp [h1, h2]

/-! ### the documented bands (spec side) = the code's functions -/

/-- **counted occurrences**: with the thresholds an observation object can have (strictly ascending, `_validate_thresholds`), the table
"number of thresholds passed" is the code's if-chain `> high → 3, > medium → 2, > low → 1, else 0` -/
theorem C09_band_eq_code (t : Thr) (h : t.Ok) (n : Int) : specBand t n = categorise t n := by
  obtain ⟨h1, h2⟩ := h
  simp only [specBand, categorise, List.filter_cons, List.filter_nil, decide_eq_true_eq]
  repeat' split
  all_goals simp only [List.length_cons, List.length_nil]
  all_goals omega

/-- read from the bottom: with ascending thresholds the if-chain is the band table `≤ low | ≤ medium | ≤ high | above` -/
theorem categorise_ascending (t : Thr) (h : t.Ok) (n : Int) :
    categorise t n = (if n ≤ t.low then 0 else if n ≤ t.med then 1 else if n ≤ t.high then 2 else 3) := by
  obtain ⟨h1, h2⟩ := h
  unfold categorise
  repeat' split
  all_goals omega

theorem thrDefault_ok : ({} : Thr).Ok := by unfold Thr.Ok; decide

/-- with the documented defaults the table reads 0 | 1-5 | 6-10 | >10 -/
theorem C09_band_default_table (n : Int) :
    categorise {} n = (if n ≤ 0 then 0 else if n ≤ 5 then 1 else if n ≤ 10 then 2 else 3) :=
  categorise_ascending {} thrDefault_ok n

/-- without ascending thresholds the two readings differ — such an object cannot be constructed -/
theorem C09_band_needs_ascending : specBand { low := 5, med := 3, high := 10 } 4 ≠ categorise { low := 5, med := 3, high := 10 } 4 := by
  decide

theorem count_range_le (q : Nat) : ∀ n, ((List.range n).filter (fun v => decide (v + 1 ≤ q))).length = min n q := by
  intro n
  induction n with
  | zero => simp
  | succ n ih =>
    rw [List.range_succ, List.filter_append, List.length_append, ih]
    by_cases h : n + 1 ≤ q <;> simp [List.filter, h] <;> omega

/-- **utilisation**: the table "0 | one band per ninth | 10 from 100 % up" is the code's `min(int(x / b * 9) + 1, 10)` (0 for no traffic),
for every amount and every capacity -/
theorem C09_util_eq_code (x b : Nat) : specUtil x b = utilBin 10 x b := by
  unfold specUtil utilBin
  split
  · rfl
  · split
    · rfl
    · next hb =>
      have hb' : 0 < b := Nat.pos_of_ne_zero hb
      -- the ninths reached are those up to the quotient the code computes
      have hcount : ((List.range 9).filter (fun v => decide ((v + 1) * b ≤ 9 * x))).length = min 9 (x * 9 / b) := by
        rw [← count_range_le]
        congr 1
        apply List.filter_congr
        intro v _
        exact decide_eq_decide.mpr (by rw [Nat.le_div_iff_mul_le hb', Nat.mul_comm x 9])
      rw [hcount]
      split
      · have : 9 ≤ x * 9 / b := (Nat.le_div_iff_mul_le hb').mpr (by omega)
        congr 1
        omega
      · have : x * 9 / b < 9 := (Nat.div_lt_iff_lt_mul hb').mpr (by omega)
        congr 1
        omega

theorem describe_node (t : Truth) (h : String) : (describe t).node h = (t.node h).map (fun n => (describeNode n).2) := by
  unfold SimState.node describe Truth.node
  exact lookupS_map (fun n => n.hostname) (fun n => (describeNode n).2) h t.nodes

theorem describe_node_some {t : Truth} {h : String} {n : NodeT} (hn : t.node h = some n) :
    (describe t).node h = some (describeNode n).2 := by
  rw [describe_node, hn]; rfl

theorem lookupS_describeSoftware (k : String) (l : List SoftwareT) :
    lookupS k (l.map describeSoftware) = (l.find? (fun x => x.name = k)).map (fun x => (describeSoftware x).2) :=
  lookupS_map _ _ k l

theorem lookupS_describeFolder (k : String) (l : List FolderT) :
    lookupS k (l.map describeFolder) = (l.find? (fun x => x.name = k)).map (fun x => (describeFolder x).2) :=
  lookupS_map _ _ k l

/-! ### per class: the code's encoder on the described state is the specification on the objects -/

theorem C09_service_eq_spec (o : ServiceObs) (t : Truth) : o.val (describe t) = o.spec t := by
  unfold ServiceObs.val ServiceObs.find ServiceObs.spec
  cases o.wh with
  | none => rfl
  | some p =>
    obtain ⟨h, s⟩ := p
    simp only [describe_node]
    cases t.node h with
    | none => rfl
    | some n =>
      simp only [Option.map_some, Option.bind_some, describeNode]
      rw [lookupS_describeSoftware]
      cases n.services.find? (fun x => x.name = s) with
      | none => rfl
      | some sv => simp only [Option.map_some, describeSoftware, describedOp_eq_specOp]; rfl

theorem C09_application_eq_spec (o : AppObs) (t : Truth) (ht : o.thr.Ok) : o.val (describe t) = o.spec t := by
  unfold AppObs.val AppObs.find AppObs.spec
  simp only [C09_band_eq_code o.thr ht]
  cases o.wh with
  | none => rfl
  | some p =>
    obtain ⟨h, s⟩ := p
    simp only [describe_node]
    cases t.node h with
    | none => rfl
    | some n =>
      simp only [Option.map_some, Option.bind_some, describeNode]
      rw [lookupS_describeSoftware]
      cases n.apps.find? (fun x => x.name = s) with
      | none => rfl
      | some sv => simp only [Option.map_some, describeSoftware, describedOp_eq_specOp]; rfl

theorem folder_find_describe (o : FolderObs) (t : Truth) :
    o.find (describe t) = match o.wh with
      | none => none
      | some (h, fo) => (t.folder h fo).map (fun f => (describeFolder f).2) := by
  unfold FolderObs.find Truth.folder
  cases o.wh with
  | none => rfl
  | some p =>
    obtain ⟨h, fo⟩ := p
    simp only [describe_node]
    cases t.node h with
    | none => rfl
    | some n =>
      simp only [Option.map_some, Option.bind_some, describeNode]
      rw [lookupS_describeFolder]

theorem C09_file_eq_spec (o : FileObs) (t : Truth) (ht : o.thr.Ok) : o.val (describe t) = o.spec t := by
  unfold FileObs.val FileObs.find FileObs.spec Truth.file
  simp only [C09_band_eq_code o.thr ht]
  cases o.wh with
  | none => rfl
  | some p =>
    obtain ⟨h, fo, fi⟩ := p
    simp only [describe_node]
    cases t.node h with
    | none => rfl
    | some n =>
      simp only [Option.map_some, Option.bind_some, describeNode]
      rw [lookupS_describeFolder]
      cases n.folders.find? (fun x => x.name = fo) with
      | none => rfl
      | some f =>
        simp only [Option.map_some, Option.bind_some, describeFolder]
        rw [show f.files.map describeFile = f.files.map (fun x => (x.name, (describeFile x).2)) from rfl, lookupS_map]
        cases f.files.find? (fun x => x.name = fi) with
        | none => rfl
        | some x => rfl

/-- The folder object's memory agrees with the simulator: when scanning is required and no scan completed in this step, the
cached health is the folder's visible health. (It holds initially — both are 0 — and `C09_folder_coherent_step` shows every
observation re-establishes it.) -/
def FolderObs.Coherent (o : FolderObs) (t : Truth) : Prop :=
  o.scan = true → ∀ h fo f, o.wh = some (h, fo) → t.folder h fo = some f → f.scanned = false →
    (o.cachedFor = none ∨ o.cachedFor = f.uid) → o.cached = f.visible

theorem FolderObs.sameFolder_iff (o : FolderObs) (fs : FolderState) :
    o.sameFolder fs = true ↔ (o.cachedFor = none ∨ o.cachedFor = fs.uid) := by
  unfold FolderObs.sameFolder
  cases o.cachedFor with
  | none => simp
  | some u =>
    simp only [Option.isNone_some, Bool.false_or, beq_iff_eq, reduceCtorEq, false_or]
    exact eq_comm

/-- with scanning required, the leaf is the folder's visible health whenever the memory is coherent with it: a cache read from
ANOTHER folder object is never used (59ceb16), a cache read from this one is its last-scanned health -/
theorem FolderObs.health_eq_visible (o : FolderObs) (fs : FolderState) (hs : o.scan = true)
    (hc : fs.scanned = false → (o.cachedFor = none ∨ o.cachedFor = fs.uid) → o.cached = fs.visible) : o.health fs = fs.visible := by
  unfold FolderObs.health
  simp only [hs, if_true]
  cases hsc : fs.scanned with
  | true => simp
  | false =>
    cases hsame : o.sameFolder fs with
    | false => simp
    | true => simpa [hsame] using hc hsc ((o.sameFolder_iff fs).mp hsame)

theorem C09_folder_eq_spec (o : FolderObs) (t : Truth) (c : o.Coherent t) (ht : ∀ x ∈ o.files, x.thr.Ok) :
    o.val (describe t) = o.spec t := by
  unfold FolderObs.val FolderObs.spec
  rw [folder_find_describe]
  cases hw : o.wh with
  | none => rfl
  | some p =>
    obtain ⟨h, fo⟩ := p
    simp only []
    cases hf : t.folder h fo with
    | none => rfl
    | some f =>
      simp only [Option.map_some]
      have hh : o.health (describeFolder f).2 = (if o.scan = true then f.visible else f.health) := by
        cases hs : o.scan with
        | false => simp [FolderObs.health, describeFolder, hs]
        | true =>
          rw [FolderObs.health_eq_visible o _ hs (fun hsc hsame => c hs h fo f hw hf hsc hsame)]
          simp [describeFolder]
      rw [hh, List.map_congr_left (fun x hx => C09_file_eq_spec x t (ht x hx))]

theorem nic_lookup_describe (t : Truth) (h : String) (i : Nat) :
    ((describe t).node h).bind (fun n => lookupN i n.nics) = (t.nic h i).map (fun n => (describeNic n).2) := by
  simp only [describe_node, Truth.nic]
  cases t.node h with
  | none => rfl
  | some n =>
    simp only [Option.map_some, Option.bind_some, describeNode]
    rw [show n.nics.map describeNic = n.nics.map (fun x => (x.num, (describeNic x).2)) from rfl, lookupN_map]

theorem C09_nic_eq_spec (o : NicObs) (t : Truth) (ht : o.thr.Ok) : o.val (describe t) = o.spec t := by
  unfold NicObs.val NicObs.find NicObs.spec
  simp only [C09_band_eq_code o.thr ht, C09_util_eq_code]
  cases o.wh with
  | none => rfl
  | some p =>
    obtain ⟨h, i⟩ := p
    simp only [nic_lookup_describe]
    cases t.nic h i with
    | none => rfl
    | some n =>
      simp only [Option.map_some, describeNic]
      cases n.capturing <;> rfl

theorem C09_port_eq_spec (o : PortObs) (t : Truth) : o.val (describe t) = o.spec t := by
  unfold PortObs.val PortObs.spec
  cases o.wh with
  | none => rfl
  | some p =>
    obtain ⟨h, i⟩ := p
    simp only [nic_lookup_describe]
    cases t.nic h i with
    | none => rfl
    | some n => rfl

theorem C09_link_eq_spec (o : LinkObs) (t : Truth) : o.val (describe t) = o.spec t := by
  unfold LinkObs.val LinkObs.find LinkObs.spec describe
  simp only [C09_util_eq_code]
  rw [show t.links.map describeLink = t.links.map (fun l => (linkRef l.epA l.epB, (describeLink l).2)) from rfl, lookupS_map, lookupS_map]
  cases t.links.find? (fun l => linkRef l.epA l.epB = linkRef o.a o.b) with
  | some l => rfl
  | none =>
    simp only [Option.map_none]
    cases t.links.find? (fun l => linkRef l.epA l.epB = linkRef o.b o.a) with
    | some l => rfl
    | none => rfl

/-! #### ACL: the id of a listed value is its position + 2 -/

theorem idOf_none_of_not_mem {α} [DecidableEq α] (x : α) : ∀ l : List α, x ∉ l → ∀ k, idOf l x k = none
  | [], _, _ => rfl
  | y :: ys, h, k => by
    rw [idOf, idOf_none_of_not_mem x ys (List.not_mem_of_not_mem_cons h), if_neg (List.ne_of_not_mem_cons h)]

theorem idOf_eq_firstIdx {α} [DecidableEq α] (l : List α) (hn : l.Nodup) (x : α) :
    ∀ k, idOf l x k = (firstIdx l x).map (· + k) := by
  induction l with
  | nil => intro k; rfl
  | cons y ys ih =>
    intro k
    simp only [List.nodup_cons] at hn
    simp only [idOf, firstIdx]
    by_cases hx : x = y
    · subst hx
      simp [idOf_none_of_not_mem x ys hn.1]
    · rw [ih hn.2 (k + 1)]
      simp only [hx, if_false]
      cases firstIdx ys x with
      | none => rfl
      | some i => simp only [Option.map_some]; congr 1; omega

theorem getId_eq_spec {α} [DecidableEq α] (l : List α) (hn : l.Nodup) (x : Option α) : getId l x = specListId l x := by
  cases x with
  | none => rfl
  | some v =>
    simp only [getId, specListId]
    rw [idOf_eq_firstIdx l hn v 2]
    cases firstIdx l v with
    | none => rfl
    | some i => rfl

theorem AclObs.ruleVal_eq_spec (o : AclObs) (c : o.CfgOk) (i : Nat) : ∀ slot, o.ruleVal i slot = o.specRule i slot
  | none => rfl
  | some none => rfl
  | some (some r) => by
    simp only [AclObs.ruleVal, AclObs.specRule, getId_eq_spec _ c.1, getId_eq_spec _ c.2.1, getId_eq_spec _ c.2.2.1,
      getId_eq_spec _ c.2.2.2]

theorem C09_acl_eq_spec (o : AclObs) (t : Truth) (c : o.CfgOk) : o.val (describe t) = o.spec t := by
  unfold AclObs.val AclObs.find AclObs.spec
  cases o.wh with
  | none => rfl
  | some p =>
    obtain ⟨h, a⟩ := p
    simp only [describe_node]
    cases t.node h with
    | none => rfl
    | some n =>
      simp only [Option.map_some, Option.bind_some, describeNode]
      cases lookupS a n.acls with
      | none => rfl
      | some slots => simp only [AclObs.ruleVal_eq_spec o c]

/-- simulator-side well-formedness used by C09: a local session's user name is not the empty string (the code reports
`current_local_user` through its truthiness) -/
def WfTruth (t : Truth) : Prop := ∀ n ∈ t.nodes, n.localUser ≠ some ""

theorem Truth.node_mem {t : Truth} {h : String} {n : NodeT} (hn : t.node h = some n) : n ∈ t.nodes :=
  List.mem_of_find?_eq_some hn

theorem users_eq_spec (n : NodeT) (h : n.localUser ≠ some "") : usersVal (describeUsm n) = specUsers n := by
  unfold describeUsm specUsers
  cases n.hasUsm with
  | false => rfl
  | true =>
    simp only [if_true, usersVal]
    cases hl : n.localUser with
    | none => rfl
    | some u =>
      have : u ≠ "" := fun e => h (by rw [hl, e])
      simp [this, maxUsers]

def HostObs.Coherent (o : HostObs) (t : Truth) : Prop := ∀ f ∈ o.folders, f.Coherent t

/-- every threshold triple inside the host observation is strictly ascending (the constructors refuse anything else) -/
def HostObs.ThrOk (o : HostObs) : Prop :=
  (∀ a ∈ o.apps, a.thr.Ok) ∧ (∀ f ∈ o.folders, ∀ x ∈ f.files, x.thr.Ok) ∧ (∀ n ∈ o.nics, n.thr.Ok)

theorem C09_host_eq_spec (o : HostObs) (t : Truth) (wt : WfTruth t) (c : o.Coherent t) (ht : o.ThrOk) :
    o.val (describe t) = o.spec t := by
  unfold HostObs.val HostObs.find HostObs.spec
  cases o.wh with
  | none => rfl
  | some h =>
    simp only [describe_node]
    cases hn : t.node h with
    | none => rfl
    | some n =>
      simp only [Option.map_some, describeNode, nodeOn]
      by_cases hop : n.op = 1
      · simp only [hop, if_true, HostObs.onVal]
        rw [List.map_congr_left (fun x _ => C09_service_eq_spec x t),
          List.map_congr_left (fun x hx => C09_application_eq_spec x t (ht.1 x hx)),
          List.map_congr_left (fun x hx => C09_folder_eq_spec x t (c x hx) (ht.2.1 x hx)),
          List.map_congr_left (fun x hx => C09_nic_eq_spec x t (ht.2.2 x hx)),
          users_eq_spec n (wt n (Truth.node_mem hn))]
        rfl
      · simp only [hop, if_false]

theorem C09_router_eq_spec (o : RouterObs) (t : Truth) (wt : WfTruth t) (c : o.acl.CfgOk) : o.val (describe t) = o.spec t := by
  unfold RouterObs.val RouterObs.spec
  cases o.wh with
  | none => rfl
  | some h =>
    simp only [describe_node]
    cases hn : t.node h with
    | none => rfl
    | some n =>
      simp only [Option.map_some, describeNode, nodeOn]
      by_cases hop : n.op = 1
      · simp only [hop, if_true]
        rw [List.map_congr_left (fun x _ => C09_port_eq_spec x t), users_eq_spec n (wt n (Truth.node_mem hn)),
          C09_acl_eq_spec o.acl t c]
      · simp only [hop, if_false]

theorem C09_firewall_eq_spec (o : FirewallObs) (t : Truth) (wt : WfTruth t) : o.val (describe t) = o.spec t := by
  unfold FirewallObs.val FirewallObs.spec
  simp only [describe_node]
  cases hn : t.node o.wh with
  | none => rfl
  | some n =>
    simp only [Option.map_some, describeNode, nodeOn]
    by_cases hop : n.op = 1
    · simp only [hop, if_true]
      rw [users_eq_spec n (wt n (Truth.node_mem hn)), funext fun a => C09_acl_eq_spec (o.acl a) t (o.acl_cfgOk a),
        C09_port_eq_spec, C09_port_eq_spec, C09_port_eq_spec]
    · simp only [hop, if_false]

mutual
/-- what C09 needs of an observation object: folder memories coherent with the simulator, and the two invariants of construction — ACL
id tables without repeated entry, threshold triples strictly ascending -/
def Obs.Faithful (t : Truth) : Obs → Prop
  | .app o => o.thr.Ok
  | .file o => o.thr.Ok
  | .nic o => o.thr.Ok
  | .folder o => o.Coherent t ∧ ∀ x ∈ o.files, x.thr.Ok
  | .acl o => o.CfgOk
  | .host o => o.Coherent t ∧ o.ThrOk
  | .router o => o.acl.CfgOk
  | .nodes o => (∀ h ∈ o.hosts, h.Coherent t ∧ h.ThrOk) ∧ (∀ r ∈ o.routers, r.acl.CfgOk)
  | .nested cs => Obs.FaithfulL t cs
  | _ => True
def Obs.FaithfulL (t : Truth) : List (String × Obs) → Prop
  | [] => True
  | c :: cs => c.2.Faithful t ∧ Obs.FaithfulL t cs
end

mutual
/-- **C09, top level**: for every observation object and every ground truth, what the code's `observe` returns on
`describe_state()` of the objects is the documented encoding of those objects. -/
theorem C09_observe_eq_spec (t : Truth) (wt : WfTruth t) :
    ∀ o : Obs, o.Faithful t → o.val (describe t) = o.spec t
  | .null, _ => rfl
  | .service o, _ => C09_service_eq_spec o t
  | .app o, c => C09_application_eq_spec o t c
  | .file o, c => C09_file_eq_spec o t c
  | .folder o, c => C09_folder_eq_spec o t c.1 c.2
  | .nic o, c => C09_nic_eq_spec o t c
  | .port o, _ => C09_port_eq_spec o t
  | .link o, _ => C09_link_eq_spec o t
  | .links os, _ => congrArg (fun l => Val.dict (enumFrom 1 l)) (List.map_congr_left fun x _ => C09_link_eq_spec x t)
  | .acl o, c => C09_acl_eq_spec o t c
  | .host o, c => C09_host_eq_spec o t wt c.1 c.2
  | .router o, c => C09_router_eq_spec o t wt c
  | .firewall o, _ => C09_firewall_eq_spec o t wt
  | .nodes o, c => by
    show Val.dict (_ ++ _ ++ _) = Val.dict (_ ++ _ ++ _)
    rw [List.map_congr_left (fun x hx => C09_host_eq_spec x t wt (c.1 x hx).1 (c.1 x hx).2),
        List.map_congr_left (fun x hx => C09_router_eq_spec x t wt (c.2 x hx)),
        List.map_congr_left (fun x _ => C09_firewall_eq_spec x t wt)]
  | .nested cs, c => congrArg Val.dict (C09_nested_eq_spec t wt cs c)
theorem C09_nested_eq_spec (t : Truth) (wt : WfTruth t) :
    ∀ cs : List (String × Obs), Obs.FaithfulL t cs → Obs.valL (describe t) cs = Obs.specL t cs
  | [], _ => rfl
  | c :: cs, h => by
    show (Key.s c.1, c.2.val (describe t)) :: Obs.valL (describe t) cs = (Key.s c.1, c.2.spec t) :: Obs.specL t cs
    rw [C09_observe_eq_spec t wt c.2 h.1, C09_nested_eq_spec t wt cs h.2]
end

/-! ### scan gating: visible value exactly when scanning is required, true value otherwise (per component kind) -/

theorem C09_scan_gating_service (o : ServiceObs) (t : Truth) (h name : String) (n : NodeT) (s : SoftwareT)
    (hw : o.wh = some (h, name)) (hn : t.node h = some n) (hs : n.services.find? (fun x => x.name = name) = some s) :
    lookupK (.s "health_status") (match o.val (describe t) with | .dict kvs => kvs | _ => []) =
      some (.int (if o.scan then s.healthVisible else s.healthActual)) := by
  rw [C09_service_eq_spec]
  simp [ServiceObs.spec, hw, hn, hs, lookupK, specHealth]

theorem C09_scan_gating_application (o : AppObs) (t : Truth) (h name : String) (n : NodeT) (s : SoftwareT)
    (hw : o.wh = some (h, name)) (hn : t.node h = some n) (hs : n.apps.find? (fun x => x.name = name) = some s) (ht : o.thr.Ok) :
    lookupK (.s "health_status") (match o.val (describe t) with | .dict kvs => kvs | _ => []) =
      some (.int (if o.scan then s.healthVisible else s.healthActual)) := by
  rw [C09_application_eq_spec o t ht]
  simp [AppObs.spec, hw, hn, hs, lookupK, specHealth]

theorem C09_scan_gating_file (o : FileObs) (t : Truth) (h fo fi : String) (f : FileT)
    (hw : o.wh = some (h, fo, fi)) (hf : t.file h fo fi = some f) (ht : o.thr.Ok) :
    lookupK (.s "health_status") (match o.val (describe t) with | .dict kvs => kvs | _ => []) =
      some (.int (if o.scan then f.visible else f.health)) := by
  rw [C09_file_eq_spec o t ht]
  simp [FileObs.spec, hw, hf, lookupK]

theorem C09_scan_gating_folder (o : FolderObs) (t : Truth) (c : o.Coherent t) (h fo : String) (f : FolderT)
    (hw : o.wh = some (h, fo)) (hf : t.folder h fo = some f) (ht : ∀ x ∈ o.files, x.thr.Ok) :
    lookupK (.s "health_status") (match o.val (describe t) with | .dict kvs => kvs | _ => []) =
      some (.int (if o.scan then f.visible else f.health)) := by
  rw [C09_folder_eq_spec o t c ht]
  simp [FolderObs.spec, hw, hf, lookupK]

/-! ### absent components and nodes that are not ON read as the default encoding -/

theorem C09_absent_default_service (o : ServiceObs) (st : SimState) (h : o.find st = none) : o.val st = serviceDefault := by
  simp [ServiceObs.val, h]
theorem C09_absent_default_application (o : AppObs) (st : SimState) (h : o.find st = none) : o.val st = appDefault := by
  simp [AppObs.val, h]
theorem C09_absent_default_file (o : FileObs) (st : SimState) (h : o.find st = none) : o.val st = o.default := by
  simp [FileObs.val, h]
theorem C09_absent_default_folder (o : FolderObs) (st : SimState) (h : o.find st = none) : o.val st = o.default := by
  simp [FolderObs.val, h]
theorem C09_absent_default_nic (o : NicObs) (st : SimState) (h : o.find st = none) :
    o.val st = o.default := by
  simp [NicObs.val, h]
theorem C09_absent_default_host (o : HostObs) (st : SimState) (h : o.find st = none) :
    o.val st = o.default := by
  simp [HostObs.val, h]
/-- a deleted file is not among the folder's live files, so its observation is the default -/
theorem C09_deleted_file_default (o : FileObs) (t : Truth) (h fo fi : String) (hw : o.wh = some (h, fo, fi))
    (hf : t.file h fo fi = none) (ht : o.thr.Ok) : o.val (describe t) = o.default := by
  rw [C09_file_eq_spec o t ht]; simp [FileObs.spec, hw, hf]

/-- a host that is present but not ON: every component leaf is its default, `operating_status` is still the power state -/
theorem C09_not_on_default (o : HostObs) (st : SimState) (n : NodeState) (h : o.find st = some n)
    (hop : n.op ≠ nodeOn) : o.val st = o.offVal n.op ∧
      lookupK (.s "operating_status") (match o.offVal n.op with | .dict kvs => kvs | _ => []) = some (.int n.op) := by
  refine ⟨by simp [HostObs.val, h, hop], by simp [HostObs.offVal, lookupK]⟩

theorem C09_not_on_default_router (o : RouterObs) (st : SimState) (h : String) (n : NodeState) (hw : o.wh = some h)
    (hn : st.node h = some n) (hop : n.op ≠ nodeOn) : o.val st = o.default := by
  simp [RouterObs.val, hw, hn, hop]

theorem C09_not_on_default_firewall (o : FirewallObs) (st : SimState) (n : NodeState)
    (hn : st.node o.wh = some n) (hop : n.op ≠ nodeOn) : o.val st = o.default := by
  simp [FirewallObs.val, hn, hop]

/-! ### slot assignment: which configured component, padding object or ACL position each dictionary entry shows -/

theorem lookupK_enumFrom {α} : ∀ (xs : List α) (k i : Nat), lookupK (.n (k + i)) (enumFrom k xs) = xs[i]?
  | [], _, _ => rfl
  | x :: xs, k, 0 => by simp [Obs.enumFrom, lookupK]
  | x :: xs, k, j + 1 => by
    rw [Obs.enumFrom, lookupK, if_neg (fun h => by injection h; omega), List.getElem?_cons_succ,
      show k + (j + 1) = k + 1 + j by omega]
    exact lookupK_enumFrom xs (k + 1) j

/-- slot `i + 1` of a slot dictionary reads the `i`-th configured component (and nothing else) -/
theorem C09_slot_assignment {α} (xs : List α) (f : α → Val) (i : Nat) :
    lookupK (.n (i + 1)) (enumFrom 1 (xs.map f)) = xs[i]?.map f := by
  have := lookupK_enumFrom (xs.map f) 1 i
  rw [show 1 + i = i + 1 by omega] at this
  simp [this]

theorem padTo_length {α} (n : Nat) (d : α) (xs : List α) : (padTo n d xs).length = n :=
  padTo_len n d xs

/-- construction: the first `min n len` slots are the configured components in order, the rest are padding -/
theorem C09_slot_padding {α} (n : Nat) (d : α) (xs : List α) (i : Nat) (hi : i < n) :
    (padTo n d xs)[i]? = some (if h : i < xs.length then xs[i] else d) := by
  unfold padTo
  rw [List.getElem?_take_of_lt hi]
  by_cases h : i < xs.length
  · simp [h, List.getElem?_append_left h]
  · rw [List.getElem?_append_right (by omega)]
    simp only [h, dite_false]
    rw [List.getElem?_replicate]
    have : i - xs.length < n - xs.length := by omega
    simp [this]

theorem map_rangeFrom_eq_enumFrom {α} (f : Nat → α) (k n : Nat) :
    (rangeFrom k n).map (fun j => (Key.n j, f j)) = enumFrom k ((rangeFrom k n).map f) := by
  induction n generalizing k with
  | zero => rfl
  | succ n ih => simp only [rangeFrom, List.map_cons, Obs.enumFrom, ih]

theorem rangeFrom_lookup {α} (f : Nat → α) (k n i : Nat) (hi : i < n) :
    lookupK (.n (k + i)) ((rangeFrom k n).map (fun j => (Key.n j, f j))) = some (f (k + i)) := by
  rw [map_rangeFrom_eq_enumFrom, lookupK_enumFrom, rangeFrom_eq, List.getElem?_map, List.getElem?_range' hi, Nat.one_mul]
  rfl

/-- ACL: entry `i` of the observation (0-based — position 0 is slot 0) shows exactly the rule at position `i` of the list -/
theorem C09_acl_slot_assignment (o : AclObs) (st : SimState) (slots : List (Option RuleState)) (hf : o.find st = some slots)
    (i : Nat) (hi : i < o.numRules) :
    lookupK (.n i) (match o.val st with | .dict kvs => kvs | _ => []) = some (o.ruleVal i slots[i]?) := by
  simp only [AclObs.val, hf]
  have := rangeFrom_lookup (fun j => o.ruleVal j slots[j]?) 0 o.numRules i hi
  simpa using this

/-! ### the objects' memory: the folder cache and the NMNE counters from one observation to the next -/

/-- after observing a present folder, the cache is the value just reported and belongs to THAT folder object; if the object was
coherent it is the visible health -/
theorem C09_folder_coherent_step (o : FolderObs) (st : SimState) (f : FolderState) (hf : o.find st = some f) (hs : o.scan = true)
    (hc : f.scanned = false → (o.cachedFor = none ∨ o.cachedFor = f.uid) → o.cached = f.visible) :
    (o.next st).cached = f.visible ∧ (o.next st).cachedFor = f.uid := by
  simp only [FolderObs.next, hf]
  exact ⟨FolderObs.health_eq_visible o f hs hc, trivial⟩

/-- health leaves reported for a folder NAME that stays present, step after step (the object behind the name may change) -/
def folderRun (o : FolderObs) : List FolderState → List Nat
  | [] => []
  | f :: fs => o.health f :: folderRun { o with cached := o.health f, cachedFor := f.uid } fs

/-- the simulator changes a folder's visible health only in a step it flags with `scanned_this_step` -/
def ScanCoherent (v0 : Nat) : List FolderState → Prop
  | [] => True
  | f :: fs => (f.scanned = false → f.visible = v0) ∧ ScanCoherent f.visible fs

/-- the same, per folder OBJECT: a state whose uuid differs from the previous one (a folder created under the name of a deleted one)
may show any visible health; only the SAME object (or states without uuid) must keep it until a scan is flagged -/
def ScanCoherentId (v0 : Nat) (u0 : Option Nat) : List FolderState → Prop
  | [] => True
  | f :: fs => (f.scanned = false → (u0 = none ∨ u0 = f.uid) → f.visible = v0) ∧ ScanCoherentId f.visible f.uid fs

theorem scanCoherentId_of_scanCoherent : ∀ (fs : List FolderState) (v0 : Nat) (u0 : Option Nat), ScanCoherent v0 fs → ScanCoherentId v0 u0 fs
  | [], _, _, _ => trivial
  | f :: fs, _, _, h => ⟨fun hsc _ => h.1 hsc, scanCoherentId_of_scanCoherent fs f.visible f.uid h.2⟩

/-- **the cache tracks the visible health of whichever folder object bears the name** (repair 59ceb16): with scanning required,
starting with a cache equal to the visible health of the object it was read from, the folder leaf equals the visible health of the
folder that is there at EVERY step — the same object until its next scan (also across its deletion and restoration, during which
nothing is observed), and a NEW object of the same name from its first observation on (F-C09-4 / F-C09-5). -/
theorem C09_folder_cache_tracks_visible_id (fs : List FolderState) :
    ∀ (o : FolderObs) (v0 : Nat) (u0 : Option Nat), o.scan = true → o.cached = v0 → o.cachedFor = u0 → ScanCoherentId v0 u0 fs →
      folderRun o fs = fs.map (·.visible) := by
  induction fs with
  | nil => intro _ _ _ _ _ _ _; rfl
  | cons f fs ih =>
    intro o v0 u0 hs hc hu hco
    have hh : o.health f = f.visible :=
      FolderObs.health_eq_visible o f hs (fun hsc hsame => by rw [hc]; exact (hco.1 hsc (by rw [← hu]; exact hsame)).symm)
    simp only [folderRun, List.map_cons, hh]
    rw [ih { o with cached := f.visible, cachedFor := f.uid } f.visible f.uid hs rfl rfl hco.2]

/-- **the cache tracks the visible health along every trajectory** of one folder: with scanning required, starting with a cache
equal to the visible health, the folder leaf equals the folder's visible health at EVERY step (not only in the step a scan
completes — the defect F-17 of the unchanged code). -/
theorem C09_folder_cache_tracks_visible (fs : List FolderState) :
    ∀ (o : FolderObs) (v0 : Nat), o.scan = true → o.cached = v0 → ScanCoherent v0 fs →
      folderRun o fs = fs.map (·.visible) :=
  fun o v0 hs hc hco => C09_folder_cache_tracks_visible_id fs o v0 o.cachedFor hs hc rfl (scanCoherentId_of_scanCoherent fs v0 _ hco)

/-- NMNE memory: after observing a capturing interface the remembered counters are the current ones, so the next leaf is the
band of the events of the next step only -/
theorem C09_nmne_memory (o : NicObs) (st : SimState) (n : NicState) (i u : Nat) (hf : o.find st = some n)
    (hi : o.includeNmne = true) (hn : n.nmne = some (i, u)) :
    (o.next st).lastIn = i ∧ (o.next st).lastOut = u := by
  simp [NicObs.next, hf, hi, hn]

/-- **the NMNE leaves follow the OBSERVED interface's own network settings** (F-10 repaired): with `include_nmne`, an interface whose
settings capture shows the band of the events since its previous observation, an interface whose settings do not capture shows zeros
— whatever any other network, game or observation in the process is configured to do (no process-wide switch enters the statement) -/
theorem C09_nmne_follows_interface (o : NicObs) (t : Truth) (h : String) (i : Nat) (n : NicT)
    (hw : o.wh = some (h, i)) (hn : t.nic h i = some n) (hi : o.includeNmne = true) (ht : o.thr.Ok) :
    lookupK (.s "NMNE") (match o.val (describe t) with | .dict kvs => kvs | _ => []) =
      some (if n.capturing then
              .dict (dirDict (.int (specBand o.thr ((n.nmneIn : Int) - o.lastIn))) (.int (specBand o.thr ((n.nmneOut : Int) - o.lastOut))))
            else .dict (dirDict (.int 0) (.int 0))) := by
  rw [C09_nic_eq_spec o t ht]
  simp [NicObs.spec, hw, hn, hi, optEntry, lookupK]

def exTruth : Truth :=
  { nodes := [{ hostname := "pc", op := 1,
                services := [{ name := "dns", op := 6, healthActual := 3, healthVisible := 1 }],
                apps := [{ name := "browser", op := 3, healthActual := 4, healthVisible := 0, numExec := 99 }],
                folders := [{ name := "root", health := 3, visible := 4, scanned := false,
                              files := [{ name := "a.txt", health := 4, visible := 2, numAccess := 50 }], deletedFiles := [] }],
                deletedFolders := [],
                nics := [{ num := 1, enabled := false, speed := 100, icmp := some { inb := 5, outb := 1000 },
                           ports := [("tcp", [(80, { inb := 150, outb := 0 })])], capturing := true, nmneIn := 40, nmneOut := 3 }],
                numCreations := 17, numDeletions := 4, hasUsm := true, localUser := some "admin", remoteSessions := 9, acls := [] }],
    links := [] }

/-- the example host of C02, with a coherent folder cache, on a ground truth with compromised / fixing / over-threshold values -/
def exHost9 : HostObs := { exHost with folders := exHost.folders.map (fun f => { f with cached := 4 }) }

theorem exHost9_coherent : exHost9.Coherent exTruth :=
  List.forall_mem_singleton.mpr fun _ h fo f hw hfo _ _ => by
    cases hw
    simp [Truth.folder, Truth.node, exTruth] at hfo
    subst hfo
    rfl

theorem exHost9_thrOk : exHost9.ThrOk :=
  ⟨List.forall_mem_singleton.mpr thrDefault_ok,
   List.forall_mem_singleton.mpr (List.forall_mem_singleton.mpr thrDefault_ok),
   List.forall_mem_singleton.mpr thrDefault_ok⟩

example : WfTruth exTruth ∧ (Obs.host exHost9).Faithful exTruth ∧
    exHost9.val (describe exTruth) = exHost9.spec exTruth ∧ (exHost9.spec exTruth).raises = false := by
  have wt : WfTruth exTruth := List.forall_mem_singleton.mpr (by decide)
  exact ⟨wt, ⟨exHost9_coherent, exHost9_thrOk⟩,
    C09_observe_eq_spec exTruth wt (.host exHost9) ⟨exHost9_coherent, exHost9_thrOk⟩, by decide⟩

end Primaite.Obs
