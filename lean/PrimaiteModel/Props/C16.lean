/-
C16 — logins need valid credentials; remote commands need a live session.
The model is `Model/Session.lean`.  This file: the translator tie, `Carried` (what an accepted terminal command is) and the induction
over its nesting, the state-level and run-level property theorems, non-vacuity examples.  The other `Props/C16*.lean` build on it.
-/
import PrimaiteModel.Lemmas.SessionTick
import PrimaiteModel.Gen.Session
import PrimaiteModel.Lemmas.ListFacts
namespace Primaite.Session

/-! ### translator tie: what the model assumes about the source is what the translator read from it -/

def showSvcState : SvcState → String
  | .running => "RUNNING" | .stopped => "STOPPED" | .paused => "PAUSED" | .disabled => "DISABLED"
  | .installing => "INSTALLING" | .restarting => "RESTARTING"

def Verb.name : Verb → String
  | .stop => "stop" | .start => "start" | .pause => "pause" | .resume => "resume" | .restart => "restart"
  | .disable => "disable" | .enable => "enable"

def Verb.all : List Verb := [.stop, .start, .pause, .resume, .restart, .disable, .enable]

/-- defaults of `UserSessionManager` / `Service` are the defaults of the model's `Node` -/
theorem C16_gen_defaults :
    ({} : Node).localTimeout = Gen.Session.localTimeoutDefault ∧
    ({} : Node).remoteTimeout = Gen.Session.remoteTimeoutDefault ∧
    ({} : Node).maxRemote = Gen.Session.maxRemoteDefault ∧
    ({} : Node).restartDur = Gen.Session.restartDurationDefault := ⟨rfl, rfl, rfl, rfl⟩

/-- `pre_timestep` assigns `self.current_timestep = timestep`.  The comparisons themselves — time-out `last + timeout ≤ t`
(`Node.expired`, `Node.localExpired`), `validate_remote_session_uuid`, the limit `len ≥ max` — are not compared as text: the methods
are translated and proved equal to the model in Props/C16Tr.lean (`C16_gen_pre_timestep`, `C16_gen_session_validation`,
`C16_gen_login_guards`). -/
theorem C16_gen_comparisons :
    Gen.Session.preTimestepSetsCurrent = true := rfl

/-- what the model's `changePassword`, `logoutUser`, `adminCount` (the `admins` property; accounts are never deleted) and
`timeoutRemote` rely on.  `authenticate_user`, `_login`, `disable_user` /
`_is_last_admin` are not compared as text: they are translated statement by statement and proved equal to the model's tests in
Props/C16Tr.lean (`C16_gen_login_guards`, `C16_gen_disable_user`). -/
theorem C16_gen_guards :
    Gen.Session.chpwGuarded = true ∧
    Gen.Session.chpwTest = ["user", "user.password == current_password"] ∧
    Gen.Session.chpwSetsPasswordAndLogsOut = true ∧
    Gen.Session.logoutUserReturnsInsideLoop = false ∧
    Gen.Session.logoutUserIteratesSnapshotOfUsersSessions = true ∧
    Gen.Session.logoutUserForced = true ∧
    Gen.Session.logoutGuardSkippedOnlyWhenForced = true ∧
    Gen.Session.adminsExpr = "{k: v for k, v in self.users.items() if v.is_admin and (not v.disabled)}" ∧
    Gen.Session.userDeletions = [] ∧
    Gen.Session.timeoutToleratesMissingConnection = true := ⟨rfl, rfl, rfl, rfl, rfl, rfl, rfl, rfl, rfl, rfl⟩

/-- terminal: a command is executed only under `_check_client_connection`, which is "live session and known connection";
`send_remote_command` answers from the response to *this* command only; closed ports drop frames -/
theorem C16_gen_terminal :
    Gen.Session.executeOnlyUnderValidConnection = true ∧
    Gen.Session.remoteCommandClearsLastResponse = true ∧
    Gen.Session.remoteCommandAnswersFailureWithoutResponse = true ∧
    Gen.Session.hostDropsFramesForClosedPorts = true := ⟨rfl, rfl, rfl, rfl⟩

/-- the direct requests of the session manager (`opUsmLogin`, `opUsmLogout`), `enable_user` (`opEnableUser`: no guard, not a
request) and the zero-duration branches of `power_off` / `power_on` (`Node.powerOff`, `Node.powerOn`) are what the model says -/
theorem C16_gen_direct_requests :
    Gen.Session.usmLoginAnswersBool = true ∧ Gen.Session.usmLogoutHandler = true ∧
    Gen.Session.logoutPopTolerant = true ∧ Gen.Session.logoutDisconnectsThenPops = true ∧
    Gen.Session.userManagerRequests = ["add_user", "disable_user", "change_password"] ∧
    Gen.Session.enableUserShape = true ∧
    Gen.Session.powerOffZero = ["for: network_interface.disable()", "self._shut_down_actions()",
      "self.operating_state = NodeOperatingState.OFF",
      "if self.config.is_resetting: self.config.is_resetting = False; self.power_on()", "return True"] ∧
    Gen.Session.powerOnZero = ["self.operating_state = NodeOperatingState.ON", "self._start_up_actions()",
      "for: network_interface.enable()", "return True"] := ⟨rfl, rfl, rfl, rfl, rfl, rfl, rfl, rfl⟩

/-- the service verbs of the model carry the validators of `Service._init_request_manager` -/
theorem C16_gen_service_verbs :
    ∀ v ∈ Verb.all, (v.name, s!"self.{v.name}()", (match v.needs with | some q => showSvcState q | none => "-"))
      ∈ Gen.Session.serviceVerbs := by decide

/-- the states each lifecycle method accepts, and the enum, are the model's -/
theorem C16_gen_service_methods :
    Gen.Session.methodStates =
      [("stop", ["PAUSED", "RUNNING"]), ("start", ["STOPPED"]), ("pause", ["RUNNING"]), ("resume", ["PAUSED"]),
       ("restart", ["PAUSED", "RUNNING"]), ("enable", ["DISABLED"]), ("disable", [])] ∧
    Gen.Session.restartFinishTest = "self.restart_countdown <= 0" ∧
    Gen.Session.svcStates = [("RUNNING", 1), ("STOPPED", 2), ("PAUSED", 3), ("DISABLED", 4), ("INSTALLING", 5), ("RESTARTING", 6)] :=
  ⟨rfl, rfl, rfl⟩

/-! ### terminal commands: what an accepted command is -/

/-- The operation is a terminal command that was *accepted*; what happens next is the execution of the carried command `c`
as a request of its own (`step … (.req z c)`, so every theorem of this file applies to it again, to any depth) in a state
that differs from `n` only by the bookkeeping of the acceptance.
* `remote`: sent by `x` (ON, terminal RUNNING) over an open path on its first connection to `z`, whose id is at that moment
  a remote session of `z` **and** a connection of `z`'s terminal; the bookkeeping is the session's `last_active_step`.
* `local`: credentials passing `_login` on `y` (existing enabled account, current password, node ON, both managers RUNNING)
  while the terminal is RUNNING; the bookkeeping is the local login and its `LocalTerminalConnection`. -/
inductive Carried (n : Net) (op : Op) : Prop
  | remote (x z : Nat) (c : Cmd) (a' b' : Node) (cn : Conn) (hop : op = .req x (.remoteCmd z c))
      (arr : CmdArrives n x z a' b' cn) (hs : b'.hasSession cn.id = true) (hc : b'.hasConn cn.id = true)
      (heq : (step n op).1 = (step (n.upd z (Node.touch cn.id n.time)) (.req z c)).1)
  | local (y : Nat) (u p : String) (c : Cmd) (nd : Node) (id : Nat) (hop : op = .req y (.localCmd u p c))
      (hnd : n.node y = some nd) (hon : nd.isOn = true) (hok : nd.loginOk u p = true) (hrun : nd.term.running = true)
      (hid : (localLogin n y u p).2 = some id)
      (heq : (step n op).1 = (step ((localLogin n y u p).1.upd y (Node.addConn ⟨id, none⟩)) (.req y c)).1)

/-- **C16, remote commands.** A remote terminal command (whatever it carries) has exactly three outcomes: nothing happens;
the target tears the connection down because its id is not a live session (only sessions / connections disappear); or the
command was accepted on a live session and the carried command is executed. -/
theorem C16_remote_command_outcomes (n : Net) (x z : Nat) (c : Cmd) :
    ((step n (.req x (.remoteCmd z c))).1 = n ∧ (step n (.req x (.remoteCmd z c))).2 ≠ .success) ∨
    (n.Shr (step n (.req x (.remoteCmd z c))).1 ∧ (step n (.req x (.remoteCmd z c))).2 = .failure) ∨
    Carried n (.req x (.remoteCmd z c)) := by
  have hst : step n (.req x (.remoteCmd z c)) = opRemoteCmdK (fun m => execCmd c m z) n x z := by rw [step, execCmd]
  rcases opRemoteCmdK_cases (fun m => execCmd c m z) n x z with h | ⟨a, b, cn, arr, ⟨hs, hc, h0, _⟩ | ⟨_, h0, h1⟩⟩
  · rw [hst]; exact Or.inl h
  · exact Or.inr (Or.inr (Carried.remote x z c a b cn rfl arr hs hc (by rw [hst, step]; exact h0)))
  · rw [hst, h0, h1]; exact Or.inr (Or.inl ⟨shr_disconnect _ _ _ _, rfl⟩)

/-- **C16, local commands.** A local terminal command has four outcomes: nothing; a refused login; a login whose command is
not executed because the terminal is not RUNNING; or valid credentials, terminal RUNNING and the carried command executed. -/
theorem C16_local_command_outcomes (n : Net) (y : Nat) (u p : String) (c : Cmd) :
    (step n (.req y (.localCmd u p c))).1 = n ∨
    (step n (.req y (.localCmd u p c))).1 = (localLogin n y u p).1 ∨
    (∃ id, (step n (.req y (.localCmd u p c))).1 = (localLogin n y u p).1.upd y (Node.addConn ⟨id, none⟩)) ∨
    Carried n (.req y (.localCmd u p c)) := by
  have hst : step n (.req y (.localCmd u p c)) = opLocalCmdK (fun m => execCmd c m y) n y u p := by rw [step, execCmd]
  rcases opLocalCmdK_cases (fun m => execCmd c m y) n y u p with h0 | ⟨nd, hnd, hon, ⟨_, h0⟩ | ⟨id, hid, ⟨_, h0⟩ | ⟨hr, h0⟩⟩⟩
  · rw [hst]; exact Or.inl h0
  · rw [hst]; exact Or.inr (Or.inl h0)
  · rw [hst]; exact Or.inr (Or.inr (Or.inl ⟨id, h0⟩))
  · exact Or.inr (Or.inr (Or.inr (Carried.local y u p c nd id rfl hnd hon (localLogin_some_ok hnd hid) hr hid
      (by rw [hst, step]; exact h0))))

theorem Carried.req {n : Net} {op : Op} (h : Carried n op) : ∃ x c, op = .req x c ∧ c.atomic = false := by
  cases h with
  | remote x z c a' b' cn hop => exact ⟨x, _, hop, rfl⟩
  | «local» y u p c nd id hop => exact ⟨y, _, hop, rfl⟩

theorem not_carried_of_atomic {n : Net} {y : Nat} {c : Cmd} (hc : c.atomic = true) : ¬ Carried n (.req y c) := by
  intro h
  cases h with
  | remote x z c' a' b' cn hop => cases hop; cases hc
  | «local» y' u p c' nd id hop => cases hop; cases hc

/-- Induction over the nesting of accepted terminal commands.  `H` is what is known of an operation started in a state, `C` what is
claimed of it.  If `H` leaves only `C` or an accepted terminal command (`Carried`), and for an accepted command `C` follows from `H` and
from "`H` implies `C`" for the carried command in the state after the bookkeeping of the acceptance, then `H` implies `C` for every
operation, whatever the depth. -/
theorem carried_induction (H C : Net → Op → Prop) (base : ∀ n op, H n op → C n op ∨ Carried n op)
    (remote : ∀ n x z c a' b' cn, CmdArrives n x z a' b' cn → b'.hasSession cn.id = true → b'.hasConn cn.id = true →
      (step n (.req x (.remoteCmd z c))).1 = (step (n.upd z (Node.touch cn.id n.time)) (.req z c)).1 → H n (.req x (.remoteCmd z c)) →
      (H (n.upd z (Node.touch cn.id n.time)) (.req z c) → C (n.upd z (Node.touch cn.id n.time)) (.req z c)) →
      C n (.req x (.remoteCmd z c)))
    («local» : ∀ n y u p c nd id, n.node y = some nd → nd.isOn = true → nd.loginOk u p = true → nd.term.running = true →
      (localLogin n y u p).2 = some id →
      (step n (.req y (.localCmd u p c))).1 = (step ((localLogin n y u p).1.upd y (Node.addConn ⟨id, none⟩)) (.req y c)).1 →
      H n (.req y (.localCmd u p c)) →
      (H ((localLogin n y u p).1.upd y (Node.addConn ⟨id, none⟩)) (.req y c) →
        C ((localLogin n y u p).1.upd y (Node.addConn ⟨id, none⟩)) (.req y c)) →
      C n (.req y (.localCmd u p c))) :
    ∀ n op, H n op → C n op := by
  intro n op h
  cases op with
  | req x c =>
    induction c generalizing n x with
    | remoteCmd z c ih =>
      rcases base _ _ h with hc | hcar
      · exact hc
      · cases hcar with
        | «local» y' u p c' nd id hop => cases hop
        | remote x' z' c' a' b' cn hop arr hs hc heq => cases hop; exact remote n x z c a' b' cn arr hs hc heq h (ih _ z)
    | localCmd u p c ih =>
      rcases base _ _ h with hc | hcar
      · exact hc
      · cases hcar with
        | remote x' z' c' a' b' cn hop => cases hop
        | «local» y' u' p' c' nd id hop hnd hon hok hrun hid heq =>
          cases hop; exact «local» n x u p c nd id hnd hon hok hrun hid heq h (ih _ x)
    | _ => exact (base _ _ h).elim id (fun hcar => (not_carried_of_atomic rfl hcar).elim)
  | _ =>
    refine (base _ _ h).elim id (fun hcar => ?_)
    obtain ⟨_, _, hop, _⟩ := hcar.req
    cases hop

theorem remoteCmd_rel_or_carried {R : Nat → Node → Node → Prop} (F : Frame R) (n : Net) (x z : Nat) (c : Cmd) :
    Net.Rel R n (step n (.req x (.remoteCmd z c))).1 ∨ Carried n (.req x (.remoteCmd z c)) := by
  rcases C16_remote_command_outcomes n x z c with ⟨h0, _⟩ | ⟨h0, _⟩ | h0
  · rw [h0]; exact Or.inl (F.rel_refl n)
  · exact Or.inl (F.rel_shr F.shr (F.rel_refl n) h0)
  · exact Or.inr h0

theorem localCmd_rel_or_carried {R : Nat → Node → Node → Prop} (F : Frame R) (hLoc : ∀ j a l, R j a (a.setLoc l)) (hConn : ∀ j a c, R j a (a.addConn c))
    (n : Net) (x : Nat) (u p : String) (c : Cmd) :
    Net.Rel R n (step n (.req x (.localCmd u p c))).1 ∨ Carried n (.req x (.localCmd u p c)) := by
  have hl := F.toPre.localLogin n x u p (hLoc x)
  rcases C16_local_command_outcomes n x u p c with h0 | h0 | ⟨id, h0⟩ | h0
  · rw [h0]; exact Or.inl (F.rel_refl n)
  · rw [h0]; exact Or.inl hl
  · rw [h0]; exact Or.inl (F.rel_upd hl x _ (fun a => hConn x a _))
  · exact Or.inr h0

/-! ### commands are executed only on a live session (or with valid local credentials) -/

def KeepFiles : Nat → Node → Node → Prop := fun _ a b => b.files = a.files

theorem keepFiles_frame : Frame KeepFiles :=
  { refl := fun _ _ => rfl, trans := fun _ _ _ _ h1 h2 => Eq.trans h2 h1,
    shr := fun _ _ _ h => h.files, data := fun _ _ _ h => data_files h }

theorem keepFiles_edits : Edits KeepFiles := ⟨fun _ _ _ => rfl, fun _ _ _ _ => rfl, fun _ _ _ => rfl, fun _ _ _ _ => rfl⟩

theorem step_keepFiles (n : Net) (op : Op) (hf : op.noFile = true) : Net.Rel KeepFiles n (step n op).1 :=
  keepFiles_frame.step' keepFiles_edits (fun _ _ _ => rfl) (fun _ _ _ => rfl) (fun _ _ _ => rfl) n op (fun _ _ _ _ => rfl)
    (fun h => by rw [hf] at h; cases h)

/-- **C16, commands.** Whatever the operation, the files of node `y` change only if
* the operation is the direct file request to `y` (the agent's own action; `y` is ON, exactly that file is added), or
* the operation is a terminal command that was accepted (`Carried`: live session and known connection at the target, or valid
  local credentials) — and then the change is made by the carried command, executed as a request of its own, to which this
  theorem applies again. -/
theorem C16_command_runs_only_live (n : Net) (op : Op) (y : Nat) (b a : Node)
    (hb : n.node y = some b) (ha : (step n op).1.node y = some a) (hne : a.files ≠ b.files) :
    (∃ k, op = .req y (.file k) ∧ b.isOn = true ∧ a.files = b.files ++ [k]) ∨ Carried n op := by
  have contra : Net.Rel KeepFiles n (step n op).1 → False := fun h => hne (h.of_nodes hb ha)
  have F := keepFiles_frame
  cases op with
  | req y' c =>
    cases c with
    | file k =>
      rw [step, execCmd] at ha contra
      rcases opFile_cases n y' k with h0 | ⟨nd, hnd, hon, h0⟩
      · rw [h0] at contra; exact (contra (F.rel_refl n)).elim
      · rw [h0, node_upd_some hb] at ha
        cases ha
        by_cases hy : y' = y
        · subst hy; rw [hb] at hnd; cases hnd
          exact Or.inl ⟨k, rfl, hon, by rw [if_pos rfl]; rfl⟩
        · rw [if_neg hy] at hne; exact (hne rfl).elim
    | remoteCmd z c => exact (remoteCmd_rel_or_carried F n y' z c).elim (fun h => (contra h).elim) Or.inr
    | localCmd u p c =>
      exact (localCmd_rel_or_carried F (fun _ _ _ => rfl) (fun _ _ _ => rfl) n y' u p c).elim (fun h => (contra h).elim) Or.inr
    | _ => exact (contra (step_keepFiles n _ rfl)).elim
  | _ => exact (contra (step_keepFiles n _ rfl)).elim

/-- The simplest instance spelt out: a file command sent through a remote terminal changes the files of the target `y` only
if it arrived (sender ON, its terminal RUNNING, path open) on a connection whose id is at that moment a remote session of `y`
and a connection of `y`'s terminal, `y` ON; exactly the commanded file is added. -/
theorem C16_remote_file_command (n : Net) (x y k : Nat) (b a : Node)
    (hb : n.node y = some b) (ha : (step n (.req x (.remoteCmd y (.file k)))).1.node y = some a) (hne : a.files ≠ b.files) :
    ∃ a' cn, CmdArrives n x y a' b cn ∧ b.hasSession cn.id = true ∧ b.hasConn cn.id = true ∧ b.isOn = true ∧
      a.files = b.files ++ [k] := by
  rcases C16_command_runs_only_live n _ y b a hb ha hne with ⟨_, h, _⟩ | h
  · cases h
  · cases h with
    | «local» y' u p c' nd id hop => cases hop
    | remote x' z c' a' b' cn hop arr hs hc heq =>
      cases hop
      have hbb : b' = b := by have := arr.dst; rw [hb] at this; cases this; rfl
      subst hbb
      rw [heq] at ha
      have hb1 : (n.upd y (Node.touch cn.id n.time)).node y = some (b'.touch cn.id n.time) := by simp [hb]
      rcases C16_command_runs_only_live _ _ y _ a hb1 ha hne with ⟨k', hop, hon, hf⟩ | h2
      · cases hop
        exact ⟨a', cn, arr, hs, hc, hon, hf⟩
      · exact (not_carried_of_atomic rfl h2).elim

/-! ### sessions appear only through a valid login -/

/-- what `_login` demands: node ON, both managers RUNNING, an existing enabled account and its current password -/
structure AuthOK (nd : Node) (u p : String) : Prop where
  on : nd.power = .on
  usm : nd.usm.st = .running
  um : nd.um.st = .running
  user : ∃ w, nd.findUser u = some w ∧ w.disabled = false ∧ w.password = p

theorem findUser_some {nd : Node} {u : String} {w : User} (h : nd.findUser u = some w) : w ∈ nd.users ∧ w.name = u := by
  unfold Node.findUser at h
  exact ⟨List.mem_of_find?_eq_some h, by simpa using List.find?_some h⟩

theorem loginOk_iff (nd : Node) (u p : String) : nd.loginOk u p = true ↔ AuthOK nd u p := by
  unfold Node.loginOk Node.authenticate Node.canUsm Node.canUm Node.isOn Service.running
  constructor
  · intro h
    simp only [Bool.and_eq_true, beq_iff_eq] at h
    obtain ⟨⟨h1, h2⟩, ⟨_, h3⟩, h4⟩ := h
    refine ⟨h1, h2, h3, ?_⟩
    cases hf : nd.findUser u with
    | none => simp [hf] at h4
    | some w =>
      simp only [hf, Bool.and_eq_true, Bool.not_eq_true', beq_iff_eq] at h4
      exact ⟨w, rfl, h4.1, h4.2⟩
  · rintro ⟨h1, h2, h3, w, hw, hd, hp⟩
    simp [h1, h2, h3, hw, hd, hp]

def RemShrink : Nat → Node → Node → Prop := fun _ a b => (b.rem.map (·.id)).Sublist (a.rem.map (·.id))

theorem remShrink_frame : Frame RemShrink :=
  { refl := fun _ _ => List.Sublist.refl _, trans := fun _ _ _ _ h1 h2 => List.Sublist.trans h2 h1,
    shr := fun _ _ _ h => h.rem.map _, data := fun _ _ _ h => by unfold RemShrink; rw [data_rem h]; exact List.Sublist.refl _ }

theorem remShrink_edits : Edits RemShrink :=
  ⟨fun j a _ => remShrink_frame.refl j a, fun j a _ _ => remShrink_frame.refl j a, fun j a _ => remShrink_frame.refl j a,
   fun _ a cid t => by unfold RemShrink; rw [touch_ids]; exact List.Sublist.refl _⟩

theorem step_remShrink (n : Net) (op : Op) (hop : op.noLogin = true) : Net.Rel RemShrink n (step n op).1 :=
  remShrink_frame.step' remShrink_edits (fun j a _ => remShrink_frame.refl j a) (fun j a _ => remShrink_frame.refl j a)
    (fun j a _ => remShrink_frame.refl j a) n op (fun h => by rw [hop] at h; cases h) (fun _ j a _ => remShrink_frame.refl j a)

/-- session parameters are never changed by any operation -/
def KeepParams : Nat → Node → Node → Prop := fun _ a b =>
  b.maxRemote = a.maxRemote ∧ b.localTimeout = a.localTimeout ∧ b.remoteTimeout = a.remoteTimeout

theorem keepParams_frame : Frame KeepParams :=
  { refl := fun _ _ => ⟨rfl, rfl, rfl⟩,
    trans := fun _ _ _ _ h1 h2 => ⟨h2.1.trans h1.1, h2.2.1.trans h1.2.1, h2.2.2.trans h1.2.2⟩,
    shr := fun _ _ _ h => ⟨h.maxRemote, h.localTimeout, h.remoteTimeout⟩,
    data := fun _ _ _ h => ⟨data_maxRemote h, data_localTimeout h, data_remoteTimeout h⟩ }

theorem step_keepParams (n : Net) (op : Op) : Net.Rel KeepParams n (step n op).1 :=
  keepParams_frame.step' ⟨fun _ _ _ => ⟨rfl, rfl, rfl⟩, fun _ _ _ _ => ⟨rfl, rfl, rfl⟩, fun _ _ _ => ⟨rfl, rfl, rfl⟩,
    fun _ _ _ _ => ⟨rfl, rfl, rfl⟩⟩ (fun _ _ _ => ⟨rfl, rfl, rfl⟩) (fun _ _ _ => ⟨rfl, rfl, rfl⟩) (fun _ _ _ => ⟨rfl, rfl, rfl⟩) n op
    (fun _ _ _ _ => ⟨rfl, rfl, rfl⟩) (fun _ _ _ _ => ⟨rfl, rfl, rfl⟩)

theorem addConn_rem (c : Conn) (b : Node) : (b.addConn c).rem = b.rem := rfl

theorem afterLogin_rem (n : Net) (x y' : Nat) (u : String) (y : Nat) (b a : Node) (hb : n.node y = some b) {m : Net}
    (hm : m = afterLogin n x y' u ∨ m = (afterLogin n x y' u).upd x (Node.addConn ⟨n.nextId, some y'⟩)) (ha : m.node y = some a) :
    a.rem = (if y' = y then b.rem ++ [⟨n.nextId, u, n.time, x⟩] else b.rem) ∧ a.loc = b.loc := by
  have hA : (afterLogin n x y' u).node y =
      some (if y' = y then (b.addSession ⟨n.nextId, u, n.time, x⟩).addConn ⟨n.nextId, some x⟩ else b) := node_upd_some hb _ _
  rcases hm with rfl | rfl
  · rw [hA] at ha; cases ha
    split <;> exact ⟨rfl, rfl⟩
  · rw [node_upd_some hA] at ha; cases ha
    split <;> split <;> exact ⟨rfl, rfl⟩

theorem usmLogin_rem (n : Net) (y' : Nat) (s : RSession) (k : Nat) (y : Nat) (b a : Node) (hb : n.node y = some b)
    (ha : ((n.upd y' (Node.addSession s)).bump k).node y = some a) :
    a.rem = (if y' = y then b.rem ++ [s] else b.rem) ∧ a.loc = b.loc := by
  rw [node_bump, node_upd_some hb] at ha; cases ha
  split <;> exact ⟨rfl, rfl⟩

/-- `m` is `n` after a login was accepted in step `n.time`: the target `y'` — which had room for one more — lists the session `s`,
which carries the fresh id; no other session list, no local session and no session parameter has changed -/
structure NewSession (n m : Net) (y' : Nat) (s : RSession) : Prop where
  room : ∃ b', n.node y' = some b' ∧ b'.rem.length < b'.maxRemote
  id : s.id = n.nextId
  last : s.last = n.time
  nextId : m.nextId = n.nextId + 1
  node : ∀ y a, m.node y = some a → ∃ b, n.node y = some b ∧ KeepParams y b a ∧
    (a.rem = if y' = y then b.rem ++ [s] else b.rem) ∧ a.loc = b.loc

theorem login_effect {c : Cmd} (hc : c.atomic = true) (hl : c.noLogin = false) (n : Net) (x : Nat) :
    (execCmd c n x).1 = n ∨ ∃ y' s, NewSession n (execCmd c n x).1 y' s := by
  have back : ∀ y a, (execCmd c n x).1.node y = some a → ∃ b, n.node y = some b ∧ KeepParams y b a :=
    fun y a ha => Net.Rel.back (step_keepParams n (.req x c)) ha
  cases c with
  | remoteLogin y' u p =>
    rw [execCmd] at back ⊢
    rcases opRemoteLogin_cases n x y' u p with ⟨h0, _⟩ | ⟨_, b', _, _, _, hb', _, hlt, h0⟩
    · exact Or.inl h0
    · refine Or.inr ⟨y', ⟨n.nextId, u, n.time, x⟩, ⟨b', hb', hlt⟩, rfl, rfl, ?_, fun y a ha => ?_⟩
      · rcases h0 with ⟨h0, _⟩ | ⟨h0, _⟩ <;> rw [h0] <;> rfl
      · obtain ⟨b, hb, hp⟩ := back y a ha
        exact ⟨b, hb, hp, afterLogin_rem n x y' u y b a hb (h0.imp And.left And.left) ha⟩
  | usmLogin u p peer =>
    rw [execCmd] at back ⊢
    rcases opUsmLogin_cases n x u p peer with ⟨h0, _⟩ | ⟨b', hb', _, _, hlt, h0, _⟩
    · exact Or.inl h0
    · refine Or.inr ⟨x, ⟨n.nextId, u, n.time, peer⟩, ⟨b', hb', hlt⟩, rfl, rfl, by rw [h0]; rfl, fun y a ha => ?_⟩
      obtain ⟨b, hb, hp⟩ := back y a ha
      exact ⟨b, hb, hp, usmLogin_rem n x _ _ y b a hb (h0 ▸ ha)⟩
  | localCmd u p c => cases hc
  | remoteCmd z c => cases hc
  | _ => cases hl

theorem new_session_of_rem {b a : Node} {s s0 : RSession} {P : Prop} [Decidable P]
    (hrem : a.rem = if P then b.rem ++ [s0] else b.rem) (hs : s ∈ a.rem) (hnew : s.id ∉ b.rem.map (·.id)) :
    P ∧ s = s0 ∧ a.rem = b.rem ++ [s] := by
  split at hrem
  · rw [hrem, List.mem_append, List.mem_singleton] at hs
    rcases hs with hs | hs
    · exact (hnew (List.mem_map_of_mem hs)).elim
    · subst hs; exact ⟨‹P›, rfl, hrem⟩
  · rw [hrem] at hs; exact (hnew (List.mem_map_of_mem hs)).elim

/-- **C16, logins (remote), "only if".** If after any operation node `y` holds a remote session whose id it did not hold
before, then
* the operation was a remote login towards `y` from a powered-on node `x` over an open path, with the current password of an
  existing, enabled account of `y`, `y` ON with both managers RUNNING, and fewer than `max_remote_sessions` sessions open
  before; the new session is that login's, its id is the fresh one, and nothing else was added; or
* it was the direct `user-session-manager remote_login` request to `y` under the same conditions on `y`; or
* it was an accepted terminal command (`Carried`), and the session was created by the carried command, to which this theorem
  applies again. -/
theorem C16_remote_session_only_by_valid_login (n : Net) (op : Op) (y : Nat) (b a : Node)
    (hb : n.node y = some b) (ha : (step n op).1.node y = some a) (s : RSession) (hs : s ∈ a.rem)
    (hnew : s.id ∉ b.rem.map (·.id)) :
    (∃ x u p, op = .req x (.remoteLogin y u p) ∧ AuthOK b u p ∧ b.rem.length < b.maxRemote ∧ canDeliver n x y = true ∧
      (∃ c, n.node x = some c ∧ c.isOn = true) ∧ s = ⟨n.nextId, u, n.time, x⟩ ∧ a.rem = b.rem ++ [s]) ∨
    (∃ u p peer, op = .req y (.usmLogin u p peer) ∧ AuthOK b u p ∧ b.rem.length < b.maxRemote ∧
      s = ⟨n.nextId, u, n.time, peer⟩ ∧ a.rem = b.rem ++ [s]) ∨
    Carried n op := by
  have contra : Net.Rel RemShrink n (step n op).1 → False := fun h =>
    hnew ((h.of_nodes hb ha).subset (List.mem_map_of_mem hs))
  have quiet : op.noLogin = true → False := fun h => contra (step_remShrink n op h)
  have F := remShrink_frame
  cases op with
  | req x c =>
    cases c with
    | remoteLogin y' u p =>
      rw [step, execCmd] at ha
      rcases opRemoteLogin_cases n x y' u p with ⟨h0, _⟩ | ⟨c, b', hc, hcon, hdel, hb', hok, hlt, h0⟩
      · rw [h0, hb] at ha; cases ha; exact (hnew (List.mem_map_of_mem hs)).elim
      · obtain ⟨rfl, rfl, hrem⟩ := new_session_of_rem (afterLogin_rem n x y' u y b a hb (h0.imp And.left And.left) ha).1 hs hnew
        rw [hb] at hb'; cases hb'
        exact Or.inl ⟨x, u, p, rfl, (loginOk_iff _ _ _).mp hok, hlt, hdel, ⟨c, hc, hcon⟩, rfl, hrem⟩
    | usmLogin u p peer =>
      rw [step, execCmd] at ha
      rcases opUsmLogin_cases n x u p peer with ⟨h0, _⟩ | ⟨b', hb', _, hok, hlt, h0, _⟩
      · rw [h0, hb] at ha; cases ha; exact (hnew (List.mem_map_of_mem hs)).elim
      · rw [h0] at ha
        obtain ⟨rfl, rfl, hrem⟩ := new_session_of_rem (usmLogin_rem n x _ _ y b a hb ha).1 hs hnew
        rw [hb] at hb'; cases hb'
        exact Or.inr (Or.inl ⟨u, p, peer, rfl, (loginOk_iff _ _ _).mp hok, hlt, rfl, hrem⟩)
    | remoteCmd z c => exact (remoteCmd_rel_or_carried F n x z c).elim (fun h => (contra h).elim) (fun h => Or.inr (Or.inr h))
    | localCmd u p c =>
      exact (localCmd_rel_or_carried F (fun j a _ => F.refl j a) (fun j a _ => F.refl j a) n x u p c).elim
        (fun h => (contra h).elim) (fun h => Or.inr (Or.inr h))
    | _ => exact (quiet rfl).elim
  | _ => exact (quiet rfl).elim

/-! ### nodes and the id counter across one operation -/

theorem Net.Rel.nextId_of_shr {n m : Net} (h : n.Shr m) : m.nextId = n.nextId := h.nextId

theorem step_nextId_mono (n : Net) (op : Op) : n.nextId ≤ (step n op).1.nextId := by
  by_cases h : op = .tick
  · subst h; rw [step, tick_nextId]; exact Nat.le_refl _
  · exact (step_keeps n op h).nextId

/-- nodes are never created or destroyed -/
theorem step_node_some (n : Net) (op : Op) (y : Nat) (b : Node) (hb : n.node y = some b) :
    ∃ a, (step n op).1.node y = some a := by
  obtain ⟨a, ha, _⟩ := (step_keepParams n op).node y b hb; exact ⟨a, ha⟩

theorem step_node_back (n : Net) (op : Op) (y : Nat) (a : Node) (ha : (step n op).1.node y = some a) :
    ∃ b, n.node y = some b := by
  obtain ⟨b, hb, _⟩ := Net.Rel.back (step_keepParams n op) ha; exact ⟨b, hb⟩

/-! ### the two ways the session lists change -/

/-- the ids of the remote sessions only disappear, the maximum stays -/
def SessShrink : Nat → Node → Node → Prop := fun j a b => RemShrink j a b ∧ b.maxRemote = a.maxRemote

theorem sessShrink_same (j : Nat) (a b : Node) (hr : b.rem = a.rem) (hm : b.maxRemote = a.maxRemote) : SessShrink j a b :=
  ⟨by unfold RemShrink; rw [hr]; exact List.Sublist.refl _, hm⟩

theorem sessShrink_frame : Frame SessShrink :=
  { refl := fun j a => sessShrink_same j a a rfl rfl,
    trans := fun j _ _ _ h1 h2 => ⟨remShrink_frame.trans j _ _ _ h1.1 h2.1, h2.2.trans h1.2⟩,
    shr := fun j _ _ h => ⟨remShrink_frame.shr j _ _ h, h.maxRemote⟩,
    data := fun j a b h => sessShrink_same j a b (data_rem h) (data_maxRemote h) }

theorem Net.Rel.remShrink {n m : Net} (h : Net.Rel SessShrink n m) : Net.Rel RemShrink n m := h.mono (fun _ _ _ h => h.1)

/-- The session lists change in two ways only: ids disappear (`SessShrink`: every operation without a login, and the bookkeeping of
an accepted terminal command), or an accepted login appends the session with the fresh id (`NewSession`).  A property of the network
that survives both, the id counter not going back, survives every operation, nested commands included. -/
theorem step_sessions_induction (I : Net → Prop)
    (hShrink : ∀ {n m}, Net.Rel SessShrink n m → n.nextId ≤ m.nextId → I n → I m)
    (hLogin : ∀ {n m y' s}, NewSession n m y' s → I n → I m) (n : Net) (op : Op) (h : I n) : I (step n op).1 := by
  have F := sessShrink_frame
  have same : ∀ j (a b : Node), b.rem = a.rem → b.maxRemote = a.maxRemote → SessShrink j a b := sessShrink_same
  have touch : ∀ j (a : Node) cid t, SessShrink j a (a.touch cid t) := fun j a cid t => ⟨remShrink_edits.touch j a cid t, rfl⟩
  have quiet : ∀ n op, op.noLogin = true → Net.Rel SessShrink n (step n op).1 := fun n op hop =>
    F.step' ⟨fun j a _ => same j a _ rfl rfl, fun j a _ _ => same j a _ rfl rfl, fun j a _ => same j a _ rfl rfl, touch⟩
      (fun j a _ => same j a _ rfl rfl) (fun j a _ => same j a _ rfl rfl) (fun j a _ => same j a _ rfl rfl) n op
      (fun h => by rw [hop] at h; cases h) (fun _ j a _ => same j a _ rfl rfl)
  cases op with
  | req y' c =>
    refine exec_induction (fun n m => I n → I m) (fun _ h => h) (fun _ _ _ h1 h2 h => h2 (h1 h)) ?_
      (fun n m hs => hShrink (F.rel_shr F.shr (F.rel_refl n) hs) (Nat.le_of_eq hs.nextId.symm))
      (fun n y' c t => hShrink (F.rel_upd (F.rel_refl n) y' _ (fun a => touch y' a c t)) (Nat.le_refl _))
      (fun n y' u p => hShrink (F.toPre.localLogin n y' u p (fun a _ => same y' a _ rfl rfl)) (keeps_localLogin n y' u p).nextId)
      (fun n y' c => hShrink (F.rel_upd (F.rel_refl n) y' _ (fun a => same y' a _ rfl rfl)) (Nat.le_refl _)) c n y' h
    intro c hc n x h
    cases hl : c.noLogin with
    | true => exact hShrink (quiet n (.req x c) hl) (exec_keeps c n x).nextId h
    | false =>
      rcases login_effect hc hl n x with h0 | ⟨y', s, hnew⟩
      · rw [h0]; exact h
      · exact hLogin hnew h
  | _ => exact hShrink (quiet n _ rfl) (step_nextId_mono n _) h

/-! ### ids are fresh: an ended session never becomes valid again -/

/-- `cid` has been handed out and is not a remote session of node `y` -/
def Dead (y cid : Nat) (n : Net) : Prop := cid < n.nextId ∧ ∀ b, n.node y = some b → b.hasSession cid = false

theorem dead_of_remShrink {y cid : Nat} {n m : Net} (h : Net.Rel RemShrink n m) (hid : n.nextId ≤ m.nextId) (hd : Dead y cid n) :
    Dead y cid m := by
  refine ⟨Nat.lt_of_lt_of_le hd.1 hid, fun a ha => ?_⟩
  obtain ⟨b, hb, hsub⟩ := Net.Rel.back h ha
  cases hs : a.hasSession cid with
  | false => rfl
  | true =>
    have := (hasSession_iff b cid).mpr (hsub.subset ((hasSession_iff a cid).mp hs))
    rw [hd.2 b hb] at this; cases this

theorem step_dead_stays_dead (n : Net) (op : Op) (y cid : Nat) (hd : Dead y cid n) : Dead y cid (step n op).1 := by
  refine step_sessions_induction (Dead y cid) (fun h => dead_of_remShrink h.remShrink) (fun {n m y' s} hnew hd => ?_) n op hd
  refine ⟨by rw [hnew.nextId]; exact Nat.lt_succ_of_lt hd.1, fun a ha => ?_⟩
  obtain ⟨b, hb, _, hrem, _⟩ := hnew.node y a ha
  have hb0 : b.rem.any (fun s => s.id == cid) = false := hd.2 b hb
  unfold Node.hasSession
  rw [hrem]
  split
  · rw [List.any_append, hb0, List.any_cons, List.any_nil, hnew.id, Bool.or_false, Bool.false_or]
    exact beq_false_of_ne (Nat.ne_of_gt hd.1)
  · exact hb0

/-- **C16, ended stays ended.** Session ids are fresh: once an id that has already been handed out (`cid < nextId`) is
not (or no longer — after logoff, time-out or password change) a remote session of node `y`, it is never a remote session
of `y` again, whatever operations (nested commands included) follow. -/
theorem C16_ended_stays_ended (ops : List Op) (n : Net) (y cid : Nat) (hd : Dead y cid n) : Dead y cid (run n ops) :=
  run_induction (Dead y cid) (fun n op => step_dead_stays_dead n op y cid) ops n hd

/-- ... and a remote command — whatever it carries — sent on a connection carrying such an id is never accepted, at any later
time: nothing but sessions / connections being torn down happens anywhere, and the answer is not `success`. -/
theorem C16_command_on_ended_session_changes_nothing (ops : List Op) (n : Net) (y cid : Nat) (hd : Dead y cid n)
    (x : Nat) (c : Cmd) (a : Node) (cn : Conn) (hx : (run n ops).node x = some a)
    (hc : a.conns.find? (fun c => c.peer == some y) = some cn) (hcid : cn.id = cid) :
    (run n ops).Shr (step (run n ops) (.req x (.remoteCmd y c))).1 ∧ (step (run n ops) (.req x (.remoteCmd y c))).2 ≠ .success := by
  have hdead := C16_ended_stays_ended ops n y cid hd
  rcases C16_remote_command_outcomes (run n ops) x y c with ⟨h0, h1⟩ | ⟨h0, h1⟩ | h0
  · rw [h0]; exact ⟨Net.Shr.refl _, h1⟩
  · exact ⟨h0, by rw [h1]; simp⟩
  · cases h0 with
    | «local» y' u p c' nd id hop => cases hop
    | remote x' z c' a' b' cn' hop arr hs _ _ =>
      cases hop
      have := arr.src; rw [hx] at this; cases this
      have := arr.conn; rw [hc] at this; cases this
      rw [hcid, hdead.2 b' arr.dst] at hs; cases hs

/-! ### local sessions appear only through a valid local login -/

def LocShrink : Nat → Node → Node → Prop := fun _ a b => b.loc = a.loc ∨ b.loc = none

theorem locShrink_frame : Frame LocShrink :=
  { refl := fun _ _ => Or.inl rfl,
    trans := fun _ _ _ _ h1 h2 => same_or_none_trans h1 h2,
    shr := fun _ _ _ h => h.loc, data := fun _ _ _ h => Or.inl (data_loc h) }

theorem localLogin_new_loc {n : Net} {y' y : Nat} {u p : String} {b a : Node} {l : LSession} (hb : n.node y = some b)
    (ha : (localLogin n y' u p).1.node y = some a) (hl : a.loc = some l) (hnew : b.loc ≠ some l) :
    y' = y ∧ AuthOK b u p ∧ l = ⟨n.nextId, u, n.time⟩ := by
  obtain ⟨b0, hb0, h⟩ := localLogin_node n y' u p ha
  rw [hb] at hb0; cases hb0
  rcases h with rfl | ⟨hy, hok, rfl, _⟩
  · exact (hnew hl).elim
  · cases hl; exact ⟨hy.symm, (loginOk_iff _ _ _).mp hok, rfl⟩

theorem locShrink_edits : Edits LocShrink :=
  ⟨fun _ _ _ => Or.inl rfl, fun _ _ _ _ => Or.inl rfl, fun _ _ _ => Or.inl rfl, fun _ _ _ _ => Or.inl rfl⟩

theorem exec_locShrink (c : Cmd) (hl : c.noLocal = true) (n : Net) (y : Nat) : Net.Rel LocShrink n (execCmd c n y).1 :=
  locShrink_frame.exec locShrink_edits (fun n y u => locShrink_frame.toPre.disableUser n y u (fun _ => Or.inl rfl)) c
    (fun h => by rw [hl] at h; cases h) (fun _ _ _ _ => Or.inl rfl) (fun _ _ _ _ => Or.inl rfl) n y

/-- **C16, logins (local), "only if".** If after any operation node `y` holds a local session it did not hold before, then
the operation was a local login on `y` (`Node.local_login`, or the login inside `send_local_command`) with the current password
of an existing, enabled account, `y` ON and both managers RUNNING, the session is that user's and its id is fresh — or the
operation was an accepted terminal command and the session was opened by the carried command (to which this applies again). -/
theorem C16_local_session_only_by_valid_login (n : Net) (op : Op) (y : Nat) (b a : Node)
    (hb : n.node y = some b) (ha : (step n op).1.node y = some a) (l : LSession) (hl : a.loc = some l)
    (hnew : b.loc ≠ some l) :
    (∃ u p, (op = .localLogin y u p ∨ ∃ c, op = .req y (.localCmd u p c)) ∧ AuthOK b u p ∧ l = ⟨n.nextId, u, n.time⟩) ∨
    Carried n op := by
  have contra : Net.Rel LocShrink n (step n op).1 → False := fun h => by
    rcases h.of_nodes hb ha with hk | hk
    · exact hnew (hk ▸ hl)
    · rw [hk] at hl; cases hl
  have F := locShrink_frame
  cases op with
  | localLogin y' u p =>
    rw [step, opLocalLogin_fst] at ha
    obtain ⟨rfl, hauth, hid⟩ := localLogin_new_loc hb ha hl hnew
    exact Or.inl ⟨u, p, Or.inl rfl, hauth, hid⟩
  | req y' c =>
    cases c with
    | localCmd u p c =>
      -- the new session is there right after the login of the command; the connection put afterwards leaves it alone
      have login : ∀ a1, (localLogin n y' u p).1.node y = some a1 → a1.loc = some l →
          (∃ u1 p1, (Op.req y' (.localCmd u p c) = .localLogin y u1 p1 ∨ ∃ c', Op.req y' (.localCmd u p c) = .req y (.localCmd u1 p1 c')) ∧
            AuthOK b u1 p1 ∧ l = ⟨n.nextId, u1, n.time⟩) ∨ Carried n (.req y' (.localCmd u p c)) := fun a1 ha1 hl1 => by
        obtain ⟨rfl, hauth, hid⟩ := localLogin_new_loc hb ha1 hl1 hnew
        exact Or.inl ⟨u, p, Or.inr ⟨c, rfl⟩, hauth, hid⟩
      rcases C16_local_command_outcomes n y' u p c with h0 | h0 | ⟨id, h0⟩ | h0
      · rw [h0] at contra; exact (contra (F.rel_refl n)).elim
      · rw [h0] at ha; exact login a ha hl
      · rw [h0] at ha
        obtain ⟨b1, hb1, _⟩ := (keepParams_frame.toPre.localLogin n y' u p (fun _ _ => ⟨rfl, rfl, rfl⟩)).node y b hb
        rw [node_upd_some hb1] at ha; cases ha
        exact login b1 hb1 (by rw [← hl]; split <;> rfl)
      · exact Or.inr h0
    | remoteCmd z c => exact (remoteCmd_rel_or_carried F n y' z c).elim (fun h => (contra h).elim) Or.inr
    | _ => exact (contra (exec_locShrink _ rfl n y')).elim
  | _ => exact (contra (F.plain (fun _ _ _ => Or.inl rfl) n _ (fun _ _ _ _ => Or.inl rfl) nofun nofun)).elim

/-! ### a login succeeds exactly when it should -/

/-- **C16, logins (remote), both directions.** The remote-login request of node `x` towards `y` is answered `success`
iff `x` is ON, frames pass in both directions (NICs enabled, both terminals RUNNING, neither direction blocked on the way,
`x ≠ y` unless the topology sends a host's frames to itself back through its gateway), `y` is ON with both managers
RUNNING, the account exists, is enabled, the password is its current one, and fewer than `max_remote_sessions` sessions are
open on `y`.  ("Only if" = no login without valid credentials; "if" = every such attempt on an unblocked path succeeds.) -/
theorem C16_remote_login_ok_iff (n : Net) (x y : Nat) (u p : String) :
    (step n (.req x (.remoteLogin y u p))).2 = .success ↔
      ∃ a b, n.node x = some a ∧ n.node y = some b ∧ a.isOn = true ∧ canDeliver n x y = true ∧ canDeliver n y x = true ∧
        AuthOK b u p ∧ b.rem.length < b.maxRemote := by
  simp only [step, execCmd]
  constructor
  · intro h
    rcases opRemoteLogin_cases n x y u p with ⟨_, h0⟩ | ⟨a, b, ha, hon, hdel, hb, hok, hlt, ⟨_, _, h0⟩ | ⟨_, hback, _⟩⟩
    · exact (h0 h).elim
    · rw [h0] at h; cases h
    · rw [canDeliver_afterLogin] at hback
      exact ⟨a, b, ha, hb, hon, hdel, hback, (loginOk_iff _ _ _).mp hok, hlt⟩
  · rintro ⟨a, b, ha, hb, hon, hdel, hback, hauth, hlt⟩
    rw [opRemoteLogin_accepted ha hon hdel hb ((loginOk_iff _ _ _).mpr hauth) hlt, canDeliver_afterLogin, hback]
    rfl

/-- **C16, logins (local), both directions.** -/
theorem C16_local_login_ok_iff (n : Net) (y : Nat) (u p : String) :
    (step n (.localLogin y u p)).2 = .success ↔ ∃ b, n.node y = some b ∧ AuthOK b u p := by
  simp only [step, opLocalLogin]
  cases hb : n.node y with
  | none => simp
  | some b =>
    simp only [localLogin, hb]
    cases hok : b.loginOk u p with
    | true => simp [boolOut, (loginOk_iff b u p).mp hok]
    | false =>
      simp only [Bool.false_eq_true, if_false, Option.isSome_none, boolOut]
      constructor
      · intro h; cases h
      · rintro ⟨b', hb', hauth⟩; cases hb'; rw [(loginOk_iff _ _ _).mpr hauth] at hok; cases hok

/-- **C16, logins (direct request at the session manager), both directions.** -/
theorem C16_usm_login_ok_iff (n : Net) (y : Nat) (u p : String) (peer : Nat) :
    (step n (.req y (.usmLogin u p peer))).2 = .success ↔ ∃ b, n.node y = some b ∧ AuthOK b u p ∧ b.rem.length < b.maxRemote := by
  simp only [step, execCmd]
  constructor
  · intro h
    rcases opUsmLogin_cases n y u p peer with ⟨_, h0⟩ | ⟨b, hb, _, hok, hlt, _, _⟩
    · exact (h0 h).elim
    · exact ⟨b, hb, (loginOk_iff _ _ _).mp hok, hlt⟩
  · rintro ⟨b, hb, hauth, hlt⟩
    have hok := (loginOk_iff _ _ _).mpr hauth
    have hon : b.isOn = true := by simp [Node.isOn, hauth.on]
    unfold opUsmLogin
    simp [hb, hon, hok, hlt]

/-! ### the session limit -/

/-- no node holds more remote sessions than its `max_remote_sessions` -/
def WithinLimit (n : Net) : Prop := ∀ y b, n.node y = some b → b.rem.length ≤ b.maxRemote

theorem within_of_sessShrink {n m : Net} (h : Net.Rel SessShrink n m) (hw : WithinLimit n) : WithinLimit m := by
  intro y a ha
  obtain ⟨b, hb, hab⟩ := Net.Rel.back h ha
  have h1 := hab.1.length_le
  simp only [List.length_map] at h1
  rw [hab.2]; exact Nat.le_trans h1 (hw y b hb)

/-- **C16, limit (invariant).** Nested commands included. -/
theorem C16_limit_step (n : Net) (op : Op) (h : WithinLimit n) : WithinLimit (step n op).1 := by
  refine step_sessions_induction WithinLimit (fun h _ => within_of_sessShrink h) (fun {n m y' s} hnew h y a ha => ?_) n op h
  obtain ⟨b, hb, hp, hrem, _⟩ := hnew.node y a ha
  obtain ⟨b', hb', hlt⟩ := hnew.room
  rw [hrem, hp.1]
  split
  · rename_i hy; subst hy; rw [hb] at hb'; cases hb'
    rw [List.length_append, List.length_singleton]; omega
  · exact h y b hb

theorem C16_limit_run (ops : List Op) (n : Net) (h : WithinLimit n) : WithinLimit (run n ops) :=
  run_induction WithinLimit C16_limit_step ops n h

/-- **C16, limit (boundary).** With `max_remote_sessions` sessions open on `y`, a further remote login towards `y` is
refused whatever the credentials, and changes nothing; by `C16_remote_login_ok_iff` it succeeds again as soon as one
session has ended (`rem.length < maxRemote`).  The same for the direct request. -/
theorem C16_limit_boundary (n : Net) (x y : Nat) (u p : String) (b : Node) (hb : n.node y = some b)
    (hfull : b.maxRemote ≤ b.rem.length) :
    (step n (.req x (.remoteLogin y u p))).2 ≠ .success ∧ (step n (.req x (.remoteLogin y u p))).1 = n ∧
    (∀ peer, (step n (.req y (.usmLogin u p peer))).2 ≠ .success ∧ (step n (.req y (.usmLogin u p peer))).1 = n) := by
  simp only [step, execCmd]
  refine ⟨?_, ?_, fun peer => ?_⟩
  · rcases opRemoteLogin_cases n x y u p with ⟨_, h1⟩ | ⟨_, b', _, _, _, hb', _, hlt, _⟩
    · exact h1
    · rw [hb] at hb'; cases hb'; omega
  · rcases opRemoteLogin_cases n x y u p with ⟨h0, _⟩ | ⟨_, b', _, _, _, hb', _, hlt, _⟩
    · exact h0
    · rw [hb] at hb'; cases hb'; omega
  · rcases opUsmLogin_cases n y u p peer with ⟨h0, h1⟩ | ⟨b', hb', _, _, hlt, _, _⟩
    · exact ⟨h1, h0⟩
    · rw [hb] at hb'; cases hb'; omega

/-! ### the last enabled administrator -/

def User.enabledAdmin (w : User) : Bool := w.admin && !w.disabled

/-- `len(self.admins)` -/
def adminCount (l : List User) : Nat := (l.filter (fun v => v.admin && !v.disabled)).length

theorem adminCount_cons (v : User) (t : List User) :
    adminCount (v :: t) = (if v.enabledAdmin then 1 else 0) + adminCount t := by
  unfold adminCount User.enabledAdmin
  rw [List.filter_cons]
  split
  · rw [List.length_cons]; omega
  · omega

theorem updUser_disable_count (l : List User) (u : String) (w : User) (h : l.find? (fun v => v.name == u) = some w) :
    adminCount (updUser l u (fun v => { v with disabled := true })) + (if w.enabledAdmin then 1 else 0) = adminCount l := by
  induction l with
  | nil => simp at h
  | cons v t ih =>
    unfold updUser
    by_cases hv : (v.name == u) = true
    · simp only [List.find?_cons, hv, Option.some.injEq] at h
      subst h
      rw [if_pos hv, adminCount_cons, adminCount_cons]
      have : ({ v with disabled := true } : User).enabledAdmin = false := by simp [User.enabledAdmin]
      rw [this]
      simp only [Bool.false_eq_true, if_false]
      omega
    · simp only [List.find?_cons, hv] at h
      have := ih h
      rw [if_neg hv, adminCount_cons, adminCount_cons]
      omega

theorem updUser_password_count (l : List User) (u new : String) :
    adminCount (updUser l u (fun v => { v with password := new })) = adminCount l := by
  induction l with
  | nil => rfl
  | cons v t ih =>
    unfold updUser
    split
    · rw [adminCount_cons, adminCount_cons]
      have : ({ v with password := new } : User).enabledAdmin = v.enabledAdmin := rfl
      rw [this]
    · rw [adminCount_cons, adminCount_cons, ih]

theorem updUser_enable_count (l : List User) (u : String) :
    adminCount l ≤ adminCount (updUser l u (fun v => { v with disabled := false })) := by
  induction l with
  | nil => exact Nat.le_refl _
  | cons v t ih =>
    unfold updUser
    split
    · rw [adminCount_cons, adminCount_cons]
      have : v.enabledAdmin = true → ({ v with disabled := false } : User).enabledAdmin = true := by
        unfold User.enabledAdmin; simp; intro h _; exact h
      cases hv : v.enabledAdmin with
      | false => simp only [Bool.false_eq_true, if_false]; omega
      | true => rw [this hv]; exact Nat.le_refl _
    · rw [adminCount_cons, adminCount_cons]; omega

/-- an enabled administrator remains if there was one -/
def AdminKept : Nat → Node → Node → Prop := fun _ a b => 0 < adminCount a.users → 0 < adminCount b.users

theorem adminKept_frame : Frame AdminKept :=
  { refl := fun _ _ h => h, trans := fun _ _ _ _ h1 h2 h => h2 (h1 h),
    shr := fun _ _ _ h => by unfold AdminKept; rw [h.users]; exact id,
    data := fun _ _ _ h => by unfold AdminKept; rw [data_users h]; exact id }

theorem adminKept_edits : Edits AdminKept :=
  ⟨fun _ a w h => by
      show 0 < adminCount (a.users ++ [w])
      unfold adminCount at h ⊢; rw [List.filter_append, List.length_append]; omega,
   fun _ a u p h => by
      show 0 < adminCount (updUser a.users u _)
      rw [updUser_password_count]; exact h,
   fun _ _ _ h => h, fun _ _ _ _ h => h⟩

theorem adminKept_disable (n : Net) (y : Nat) (u : String) : Net.Rel AdminKept n (opDisableUser n y u).1 := by
  rcases opDisableUser_cases n y u with ⟨h0, _⟩ | ⟨nd, w, hnd, _, _, hw, hdis, hlast, h0, _⟩ <;> rw [h0]
  · exact adminKept_frame.rel_refl n
  · refine rel_upd n y _ adminKept_frame.refl (fun a ha hpos => ?_)
    rw [hnd] at ha; cases ha
    have hc := updUser_disable_count nd.users u w hw
    show 0 < adminCount (updUser nd.users u _)
    unfold Node.isLastAdmin at hlast
    by_cases hea : w.enabledAdmin = true
    · have hadm : w.admin = true := by unfold User.enabledAdmin at hea; simp at hea; exact hea.1
      simp only [hadm, Bool.true_and, beq_eq_false_iff_ne, ne_eq] at hlast
      simp only [hea, if_true] at hc
      unfold adminCount at hc hpos ⊢
      omega
    · simp only [hea, if_false, Bool.false_eq_true] at hc
      omega

/-- every node keeps at least one enabled administrator -/
def AdminRemains (n : Net) : Prop := ∀ y b, n.node y = some b → 0 < adminCount b.users

/-- **C16, last admin (one step).** Whatever the operation — `disable_user` sent directly, through a remote terminal command,
through a local terminal command, nested to any depth; `enable_user`; anything else. -/
theorem C16_last_admin_step (n : Net) (op : Op) (h : AdminRemains n) : AdminRemains (step n op).1 := by
  have key : Net.Rel AdminKept n (step n op).1 :=
    adminKept_frame.step adminKept_edits adminKept_disable
      (fun n y u p => adminKept_frame.toPre.localLogin n y u p (fun _ _ h => h))
      (fun _ a u h => Nat.lt_of_lt_of_le h (updUser_enable_count a.users u)) n op (fun _ _ _ _ h => h) (fun _ _ _ _ h => h)
  intro y a ha
  obtain ⟨b, hb, hab⟩ := Net.Rel.back key ha
  exact hab (h y b hb)

/-- **C16, last admin.** Over every operation sequence, every node keeps an enabled administrator account
(`disable_user` on the only enabled admin is refused, however it is sent; nothing else disables or removes accounts). -/
theorem C16_last_admin (ops : List Op) (n : Net) (h : AdminRemains n) : AdminRemains (run n ops) :=
  run_induction AdminRemains C16_last_admin_step ops n h

/-- the refusal itself: disabling the only enabled admin changes nothing (other administrator accounts may exist, disabled) -/
theorem C16_last_admin_refused (n : Net) (y : Nat) (u : String) (b : Node) (w : User) (hb : n.node y = some b)
    (hw : b.findUser u = some w) (hadm : w.admin = true) (hone : adminCount b.users = 1) :
    (step n (.req y (.disableUser u))).1 = n := by
  simp only [step, execCmd]
  rcases opDisableUser_cases n y u with ⟨h0, _⟩ | ⟨nd, w', hnd, _, _, hw', _, hlast, _, _⟩
  · exact h0
  · rw [hb] at hnd; cases hnd; rw [hw] at hw'; cases hw'
    unfold Node.isLastAdmin at hlast
    unfold adminCount at hone
    simp [hadm, hone] at hlast

/-! ### a password change ends every session of the user -/

theorem forceLogout_noSession (m : Net) (y cid : Nat) (a : Node) (ha : (forceLogout m y cid).node y = some a) :
    a.hasSession cid = false := by
  unfold forceLogout at ha
  simp only [node_upd, if_true] at ha
  cases h : (disconnect m.fuel m y cid).node y with
  | none => rw [h] at ha; cases ha
  | some a0 => rw [h] at ha; simp only [Option.map_some, Option.some.injEq] at ha; subst ha; exact dropSession_noSession a0 cid

theorem foldl_forceLogout_noSession (ids : List Nat) (m : Net) (y : Nat) :
    ∀ cid ∈ ids, ∀ a, (ids.foldl (fun m cid => forceLogout m y cid) m).node y = some a → a.hasSession cid = false := by
  induction ids generalizing m with
  | nil => intro cid h; cases h
  | cons c t ih =>
    intro cid hc a ha
    simp only [List.foldl_cons] at ha
    rcases List.mem_cons.mp hc with rfl | hc
    · have hshr := shr_foldl (fun m cid => forceLogout m y cid) (fun m cid => shr_forceLogout m y cid) t (forceLogout m y cid)
      obtain ⟨a1, ha1, h1⟩ := hshr.back ha
      exact noSession_of_shr h1 cid (forceLogout_noSession m y cid a1 ha1)
    · exact ih _ cid hc a ha

/-- **C16, password change.** After a successful `change_password` for user `u` on node `y`, node `y` holds no remote session
and no local session of `u` — whatever the number of sessions and whatever the state of the session-manager service.
(On the unrepaired code only the first session ended: DESIGN F-27; and none while the service was stopped.) -/
theorem C16_password_change_ends_sessions (n : Net) (y : Nat) (u old new : String)
    (h : (step n (.req y (.changePassword u old new))).2 = .success) (a : Node)
    (ha : (step n (.req y (.changePassword u old new))).1.node y = some a) :
    (∀ s ∈ a.rem, s.user ≠ u) ∧ (∀ l, a.loc = some l → l.user ≠ u) := by
  simp only [step, execCmd] at h ha
  rcases opChangePassword_cases n y u old new with ⟨_, h0⟩ | ⟨nd, w, hnd, _, _, _, _, h0, _⟩
  · exact (h0 h).elim
  · rw [h0] at ha
    unfold logoutUser at ha
    have hn1 : (n.upd y (Node.setPassword u new)).node y = some (nd.setPassword u new) := by simp [hnd]
    simp only [hn1] at ha
    -- the network after the forced remote logouts
    generalize hm : List.foldl (fun m cid => forceLogout m y cid) (n.upd y (Node.setPassword u new))
      (List.map (fun x => x.id) (List.filter (fun s => s.user == u) (nd.setPassword u new).rem)) = m at ha
    have hshr : (n.upd y (Node.setPassword u new)).Shr m := by
      rw [← hm]; exact shr_foldl _ (fun m cid => shr_forceLogout m y cid) _ _
    obtain ⟨a1, ha1, h1⟩ := hshr.node y _ hn1
    simp only [node_upd, if_true, ha1, Option.map_some, Option.some.injEq] at ha
    subst ha
    constructor
    · intro s hs hu
      have hs1 : s ∈ a1.rem := (shr_endLocalOf u a1).rem.subset hs
      have hs0 : s ∈ (nd.setPassword u new).rem := h1.rem.subset hs1
      have hid : s.id ∈ List.map (fun x => x.id) (List.filter (fun s => s.user == u) (nd.setPassword u new).rem) :=
        List.mem_map_of_mem (List.mem_filter.mpr ⟨hs0, by simpa using hu⟩)
      have := foldl_forceLogout_noSession _ (n.upd y (Node.setPassword u new)) y s.id hid a1 (by rw [hm]; exact ha1)
      rw [(hasSession_iff a1 s.id).mpr (List.mem_map_of_mem hs1)] at this
      cases this
    · intro l hl
      unfold Node.endLocalOf at hl
      split at hl
      · rename_i l' hl'
        split at hl
        · simp [Node.clearLoc] at hl
        · rename_i hne
          rw [hl'] at hl; cases hl; simpa using hne
      · rename_i hnone; rw [hnone] at hl; cases hl

/-! ### session ids are unique and below the counter (reachable-state invariant) -/

/-- every remote session id is below the fresh-id counter and no two sessions of a node share an id -/
def FreshIds (n : Net) : Prop :=
  ∀ y b, n.node y = some b → (∀ s ∈ b.rem, s.id < n.nextId) ∧ (b.rem.map (·.id)).Nodup

theorem fresh_of_remShrink {n m : Net} (h : Net.Rel RemShrink n m) (hid : n.nextId ≤ m.nextId) (hf : FreshIds n) : FreshIds m := by
  intro y a ha
  obtain ⟨b, hb, hsub⟩ := Net.Rel.back h ha
  obtain ⟨hlt, hnd⟩ := hf y b hb
  refine ⟨fun s hs => ?_, hsub.nodup hnd⟩
  obtain ⟨s', hs', hid'⟩ := List.mem_map.mp (hsub.subset (List.mem_map_of_mem hs))
  have := hlt s' hs'
  omega

theorem C16_fresh_ids_step (n : Net) (op : Op) (h : FreshIds n) : FreshIds (step n op).1 := by
  refine step_sessions_induction FreshIds (fun h => fresh_of_remShrink h.remShrink) (fun {n m y' s} hnew h y a ha => ?_) n op h
  obtain ⟨b, hb, _, hrem, _⟩ := hnew.node y a ha
  obtain ⟨hlt, hnd⟩ := h y b hb
  rw [hrem, hnew.nextId]
  split
  · -- the appended session carries the old counter: below the new one, and above every id listed before
    have hs := hnew.id
    refine ⟨fun t ht => ?_, ?_⟩
    · rcases List.mem_append.mp ht with ht | ht
      · have := hlt t ht; omega
      · simp only [List.mem_singleton] at ht; subst ht; omega
    · rw [List.map_append]
      refine nodup_snoc _ s.id hnd (fun hi => ?_)
      obtain ⟨s', hs', hid⟩ := List.mem_map.mp hi
      have := hlt s' hs'
      omega
  · exact ⟨fun s hs => Nat.lt_succ_of_lt (hlt s hs), hnd⟩

theorem C16_fresh_ids_run (ops : List Op) (n : Net) (h : FreshIds n) : FreshIds (run n ops) :=
  run_induction FreshIds C16_fresh_ids_step ops n h

/-! ### inactivity time-out -/

/-- **C16, time-out (remote).** A remote session of `y` whose last activity `t₀` satisfies `t₀ + timeout ≤ t + 1` is gone
after the tick that makes the time `t + 1` (the `pre_timestep` of that tick) — in particular a session idle since `t₀`
does not survive the `pre_timestep` of tick `t₀ + timeout`. -/
theorem C16_timeout_expired_gone (n : Net) (y : Nat) (b : Node) (s : RSession) (hb : n.node y = some b) (_hs : s ∈ b.rem)
    (hexp : s.last + b.remoteTimeout ≤ n.time + 1) (a : Node) (ha : (tick n).node y = some a) : s ∉ a.rem := by
  obtain ⟨a', ha', hno, _⟩ := tick_timesOut_gone n hb ((timesOut_iff b _ _).mpr ⟨s, _hs, hexp, rfl⟩)
  rw [ha] at ha'; cases ha'
  exact fun hs => by rw [(hasSession_iff a s.id).mpr (List.mem_map_of_mem hs)] at hno; cases hno

/-- **C16, time-out is exact (not earlier).** A remote session of `y` with `t₀ + timeout > t + 1` survives the tick that
makes the time `t + 1`, provided no *expired* session of `y` carries the same id (ids are unique in every reachable state:
they are fresh, `C16_remote_session_only_by_valid_login`).  With `C16_timeout_expired_gone`: a session idle since `t₀`
ends exactly at the `pre_timestep` of tick `t₀ + timeout`. -/
theorem C16_timeout_not_earlier (n : Net) (y : Nat) (b : Node) (s : RSession) (hb : n.node y = some b) (hs : s ∈ b.rem)
    (_hlive : n.time + 1 < s.last + b.remoteTimeout)
    (hne : ∀ s' ∈ b.rem, s'.last + b.remoteTimeout ≤ n.time + 1 → s'.id ≠ s.id) :
    ∃ a, (tick n).node y = some a ∧ s ∈ a.rem := by
  obtain ⟨a, ha, _, _, hrem, _⟩ := tick_sessions n hb
  refine ⟨a, ha, ?_⟩
  rw [hrem]
  refine List.mem_filter.mpr ⟨hs, ?_⟩
  cases hto : b.timesOut (n.time + 1) s.id with
  | false => rfl
  | true =>
    obtain ⟨s', hs', hexp, hid⟩ := (timesOut_iff b _ _).mp hto
    exact (hne s' hs' hexp hid).elim

/-- **C16, time-out is exact.** In a state with unique ids (every state reachable from a fresh network,
`C16_fresh_ids_run`), after the tick that makes the time `t + 1` the remote sessions of `y` are exactly those with
`last + timeout > t + 1`: a session idle since `t₀` ends at the `pre_timestep` of tick `t₀ + timeout`, not earlier, not later. -/
theorem C16_timeout_exact (n : Net) (hf : FreshIds n) (y : Nat) (b : Node) (hb : n.node y = some b) (s : RSession)
    (hs : s ∈ b.rem) :
    ∃ a, (tick n).node y = some a ∧ (s ∈ a.rem ↔ n.time + 1 < s.last + b.remoteTimeout) := by
  obtain ⟨a, ha, _, _, hrem, _⟩ := tick_sessions n hb
  refine ⟨a, ha, ?_⟩
  -- `s` stays iff no session with its id is past the time-out; ids being unique, that session is `s` itself
  rw [hrem, List.mem_filter, and_iff_right hs, Bool.not_eq_true', ← Bool.not_eq_true, timesOut_iff]
  constructor
  · intro h; exact Nat.lt_of_not_le (fun hl => h ⟨s, hs, hl, rfl⟩)
  · rintro hl ⟨s', hs', hexp, hid⟩
    cases eq_of_nodup_map (·.id) (hf y b hb).2 hs' hs hid
    omega

/-! ### the fuel of the disconnect recursion always suffices -/

/-- **C16, fuel (the recursion itself).** `Terminal._disconnect` and the "disconnect" messages it triggers form a recursion
through the terminals and session managers of several nodes.  The model runs it with fuel `3·(number of terminal connections in
the network) + 4`; in EVERY state (reachable or not) that is enough: the run ends without exhausting the fuel, and never adds a
connection.  (Every `_disconnect` that goes on has first removed a connection.) -/
theorem C16_fuel_disconnect (n : Net) (i cid : Nat) :
    (disconnect n.fuel n i cid).stuck = n.stuck ∧ (disconnect n.fuel n i cid).totalConns ≤ n.totalConns :=
  disconnect_fuel n i cid

/-- **C16, fuel (every operation).** No operation — password change with its forced logouts, logoff, rejected command, direct
logout, nested commands — ever exhausts the fuel: the `stuck` flag of the model is never set, from any state. -/
theorem C16_fuel_suffices (n : Net) (op : Op) : (step n op).1.stuck = n.stuck := by
  by_cases h : op = .tick
  · subst h; exact tick_not_stuck n
  · exact (step_keeps n op h).stuck

theorem C16_fuel_suffices_run (ops : List Op) (n : Net) : (run n ops).stuck = n.stuck :=
  run_induction (fun m => m.stuck = n.stuck) (fun m op h => (C16_fuel_suffices m op).trans h) ops n rfl

/-! ### non-vacuity: concrete states meeting the hypotheses, and the repaired behaviours on the witnesses of the findings -/

/-- three default nodes (admin/admin, everything running), short time-outs -/
def demoNet : Net :=
  { nodes := [{ remoteTimeout := 2, maxRemote := 2 }, { remoteTimeout := 2, maxRemote := 2 }, { remoteTimeout := 2, maxRemote := 2 }] }

def login01 : Op := .req 0 (.remoteLogin 1 "admin" "admin")
def cmd01 (c : Cmd) : Op := .req 0 (.remoteCmd 1 c)
def chpw1 : Op := .req 1 (.changePassword "admin" "admin" "pw1")

-- a valid login succeeds, a wrong password does not (C16_remote_login_ok_iff is not vacuous in either direction)
example : (step demoNet login01).2 = .success := by decide
example : (step demoNet (.req 0 (.remoteLogin 1 "admin" "nope"))).2 = .failure := by decide
-- hypotheses of C16_command_runs_only_live: a command over the live session changes the target's files
example : ((run demoNet [login01, cmd01 (.file 7)]).node 1).map (·.files) = some [7] := by decide
-- nested: 0 makes 1 log in to 2, then sends a file command through 1 to 2 (two accepted hops: `Carried` twice)
example : ((run demoNet [login01, cmd01 (.remoteLogin 2 "admin" "admin"), cmd01 (.remoteCmd 2 (.file 9))]).node 2).map (·.files)
    = some [9] := by decide
-- ... and without the second session nothing happens on 2
example : ((run demoNet [login01, cmd01 (.remoteCmd 2 (.file 9))]).node 2).map (·.files) = some [] := by decide
-- the initial state satisfies the invariants' hypotheses
example : WithinLimit demoNet := fun _ _ hb => of_forall_nodes (P := fun b => b.rem.length ≤ b.maxRemote) (by decide) hb
example : AdminRemains demoNet := fun _ _ hb => of_forall_nodes (P := fun b => 0 < adminCount b.users) (by decide) hb
example : FreshIds demoNet := fun _ _ hb =>
  of_forall_nodes (P := fun b => (∀ s ∈ b.rem, s.id < demoNet.nextId) ∧ (b.rem.map (·.id)).Nodup) (by decide) hb
-- F-27 witness on the model of the repaired code: two sessions, password change, no session left, commands refused
example : ((run demoNet [login01, login01, chpw1]).node 1).map (·.rem) = some [] := by decide
example : (step (run demoNet [login01, login01, chpw1]) (cmd01 (.file 9))).2 = .failure := by decide
-- ... also while the session manager of the target is stopped
example : ((run demoNet [login01, .req 1 (.svc .sessionManager .stop), chpw1]).node 1).map (·.rem) = some [] := by decide
-- hypotheses of C16_ended_stays_ended: after logoff, id 0 has been handed out and is not a session of node 1
example : (run demoNet [login01, .req 0 (.remoteLogoff 1)]).nextId = 1 ∧
    ((run demoNet [login01, .req 0 (.remoteLogoff 1)]).node 1).map (·.hasSession 0) = some false := by decide
-- limit boundary: third login refused at maxRemote = 2, accepted again after a logoff; the direct request counts too
example : (step (run demoNet [login01, login01]) login01).2 = .failure := by decide
example : (step (run demoNet [login01, login01, .req 0 (.remoteLogoff 1)]) login01).2 = .success := by decide
example : (step (run demoNet [login01, .req 1 (.usmLogin "admin" "admin" 2)]) login01).2 = .failure := by decide
example : (step (run demoNet [login01, .req 1 (.usmLogin "admin" "admin" 2), .req 1 (.usmLogout 1)]) login01).2 = .success := by decide
-- time-out: alive after 1 tick, gone after 2 (remoteTimeout = 2)
example : ((run demoNet [login01, .tick]).node 1).map (·.rem.length) = some 1 := by decide
example : ((run demoNet [login01, .tick, .tick]).node 1).map (·.rem.length) = some 0 := by decide
-- F-2 witness: target shut down, the command is answered `failure` (the unrepaired code repeated the last response, `success`)
example : (step (run demoNet [login01, cmd01 (.file 1), .req 1 .shutdown]) (cmd01 (.file 2))).2 = .failure := by decide
-- last admin: disabling the only enabled admin is refused — also when a second, disabled administrator exists, and also when
-- the request comes through a remote terminal command (the situation of seeded change C16-b)
example : (step demoNet (.req 1 (.disableUser "admin"))).2 = .failure := by decide
example : (step (run demoNet [.req 1 (.addUser "adm2" "pw2" true), .req 1 (.disableUser "adm2")]) (.req 1 (.disableUser "admin"))).2
    = .failure := by decide
example : ((run demoNet [.req 1 (.addUser "adm2" "pw2" true), .req 1 (.disableUser "adm2"), login01,
    cmd01 (.disableUser "admin")]).node 1).map (fun nd => nd.users.map (·.disabled)) = some [false, true] := by decide
-- the fuel bound was enough on all of these
example : (run demoNet [login01, login01, chpw1, .req 0 (.remoteLogoff 1), .tick, .tick]).stuck = false := by decide

end Primaite.Session
