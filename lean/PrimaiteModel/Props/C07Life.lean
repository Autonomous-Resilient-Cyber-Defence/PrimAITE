/-
C07, lifecycle: the list that is enforced is the CONFIGURED list.

* `C07_installAll_slot`, `C07_configured_list`: a device's list built from a scenario file holds, at every position, the LAST
  rule the file (after the device's own defaults) wrote there, with a zero counter — a file rule at 22 / 23 REPLACES the default
  ARP / ICMP permit, everything else stays as built.
* The model has no lifecycle operation: episode resets, time steps, power cycles and `setup_for_episode` are not in its
  operation alphabet (`Op`, Model/AclObj.lean), so by `C07_run_state` & co. they cannot change a list.  That the CODE agrees
  is a tie, not a theorem: `C07_gen_acl_writers` (every writer of an ACL in the package is one of the modelled ones,
  `_set_default_acl` is called from `Router.__init__` only) and `C07_gen_hooks_leave_acl_alone` (no lifecycle hook mentions an
  ACL), regenerated on every run, plus the rig family `episode` through the real environment.
-/
import PrimaiteModel.Props.C07State
import PrimaiteModel.Gen.AclWriters
namespace Primaite.Acl

/-- the last rule a sequence of writes leaves at position `p` -/
def lastWrite (p : Nat) : List (Nat × Rule) → Option Rule
  | [] => none
  | (q, r) :: rest =>
    match lastWrite p rest with
    | some r' => some r'
    | none => if q = p then some r else none

theorem lastWrite_append (p : Nat) (a b : List (Nat × Rule)) :
    lastWrite p (a ++ b) = match lastWrite p b with
      | some r => some r
      | none => lastWrite p a := by
  induction a with
  | nil => simp only [List.nil_append, lastWrite]; cases lastWrite p b <;> rfl
  | cons x xs ih =>
    obtain ⟨q, r⟩ := x
    simp only [List.cons_append, lastWrite, ih]
    cases lastWrite p b <;> rfl

theorem installAll_append (o : AclObj) (a b : List (Nat × Rule)) : installAll o (a ++ b) = installAll (installAll o a) b := by
  induction a generalizing o with
  | nil => rfl
  | cons x xs ih => obtain ⟨q, r⟩ := x; simp only [List.cons_append, installAll, ih]

/-- **Last write wins.**  After installing a sequence of in-range rules, position `p` holds the last rule written there
(zero counter), else what it held before; nothing else about the object changes. -/
theorem C07_installAll_slot (l : List (Nat × Rule)) (o : AclObj)
    (hb : ∀ qr ∈ l, qr.1 < o.core.rules.length ∧ (qr.1 : Int) < o.maxRules - 1) (p : Nat) :
    (installAll o l).core.rules[p]? = (match lastWrite p l with
      | some r => some (some { r with hits := 0 })
      | none => o.core.rules[p]?) ∧
    (installAll o l).core.rules.length = o.core.rules.length ∧ (installAll o l).maxRules = o.maxRules ∧
    (installAll o l).core.implicit = o.core.implicit ∧ (installAll o l).core.implicitHits = o.core.implicitHits ∧
    (installAll o l).ruleAction = o.ruleAction := by
  induction l generalizing o with
  | nil => exact ⟨rfl, rfl, rfl, rfl, rfl, rfl⟩
  | cons x xs ih =>
    obtain ⟨q, r⟩ := x
    obtain ⟨hq1, hq2⟩ := hb (q, r) List.mem_cons_self
    -- the first write succeeds; the object it leaves has the same slot count and bound, so the rest is in range for it
    obtain ⟨_, _, e3, _, e5, e6, e7, e8, e9, e10⟩ := C07_obj_addRule o r q
    obtain ⟨hs, ho⟩ := e5 (e3.mpr ⟨Int.natCast_nonneg q, hq2, hq1⟩)
    obtain ⟨h1, h2, h3, h4, h5, h6⟩ :=
      ih (o.addRule r q).1 (fun qr hm => by rw [e6, e10]; exact hb qr (List.mem_cons_of_mem _ hm))
    refine ⟨?_, h2.trans e6, h3.trans e10, h4.trans e7, h5.trans e8, h6.trans e9⟩
    show (installAll (o.addRule r q).1 xs).core.rules[p]? = _
    rw [h1]
    simp only [lastWrite]
    cases lastWrite p xs with
    | some r' => rfl
    | none =>
      by_cases hqp : q = p
      · subst hqp; simpa using hs
      · simpa [hqp] using ho p (Ne.symm hqp)

/-- file rules of a router: positions inside the 24 slots -/
def fileOk (cfg : List (Nat × Rule)) : Prop := ∀ qr ∈ cfg, qr.1 < 24

/-- **The configured list.**  A router (any device's router list) built with the default bound and then loaded with the file's
rules holds at every position the last of: the default rule of that position (22: ARP, 23: ICMP), the file's rules for it. -/
theorem C07_configured_list (cfg : List (Nat × Rule)) (h : fileOk cfg) (p : Nat) (hp : p < 24) :
    (installAll (routerList 25) cfg).core.rules[p]? =
      some ((lastWrite p (defaultRouterRules ++ cfg)).map (fun r => { r with hits := 0 })) ∧
    (installAll (routerList 25) cfg).core.implicit = .deny := by
  have hok : fileOk (defaultRouterRules ++ cfg) := List.forall_mem_append.mpr ⟨by decide, h⟩
  obtain ⟨h1, _, _, h4, _, _⟩ := C07_installAll_slot (defaultRouterRules ++ cfg) (AclObj.construct (some .deny) 25)
    (fun qr hm => ⟨hok qr hm, Int.ofNat_lt.mpr (hok qr hm)⟩) p
  rw [routerList, ← installAll_append, h1, h4]
  refine ⟨?_, rfl⟩
  cases lastWrite p (defaultRouterRules ++ cfg) with
  | some r => rfl
  | none =>
    exact (C07_construct_spec (some .deny) 25).2.2.2.2.1 p hp

/-- a file rule at 22 / 23 replaces the default permit of that position (and the other default stays) -/
theorem C07_file_rule_replaces_default (r : Rule) :
    (installAll (routerList 25) [(22, r)]).core.rules[22]? = some (some { r with hits := 0 }) ∧
    (installAll (routerList 25) [(23, r)]).core.rules[23]? = some (some { r with hits := 0 }) ∧
    (installAll (routerList 25) [(22, r)]).core.rules[23]? = (routerList 25).core.rules[23]? := by
  have a := (C07_configured_list [(22, r)] (by simp [fileOk]) 22 (by decide)).1
  have b := (C07_configured_list [(23, r)] (by simp [fileOk]) 23 (by decide)).1
  have c := (C07_configured_list [(22, r)] (by simp [fileOk]) 23 (by decide)).1
  refine ⟨by rw [a]; simp [defaultRouterRules, lastWrite], by rw [b]; simp [defaultRouterRules, lastWrite], ?_⟩
  rw [c]; simp [defaultRouterRules, lastWrite]; decide

-- non-vacuity: the scenario of the seeded change C07-g (DENY icmp from one host at 22, PERMIT icmp from its /24 at 23):
-- the host's ping is denied by position 22; with the defaults re-applied on top it would be permitted by 23
def exFile : List (Nat × Rule) :=
  [(22, { action := .deny, proto := some .icmp, srcIp := some 0xC0A80A16#32, srcWc := none, dstIp := none, dstWc := none, srcPort := none, dstPort := none }),
   (23, { action := .permit, proto := some .icmp, srcIp := some 0xC0A80A00#32, srcWc := some 0x000000FF#32, dstIp := none, dstWc := none,
          srcPort := none, dstPort := none })]
example : fileOk exFile := by intro qr h; simp [exFile] at h; rcases h with rfl | rfl <;> decide
example : let p : Packet := { proto := .icmp, srcIp := 0xC0A80A16#32, dstIp := 0xC0A8010C#32, ports := none }
    ((installAll (routerList 25) exFile).isPermitted p).1 = false ∧ ((installAll (routerList 25) exFile).isPermitted p).2.1 = .rule 22 ∧
    ((installAll (installAll (routerList 25) exFile) defaultRouterRules).isPermitted p).1 = true := by decide

open Primaite.Gen.AclWriters in
/-- WHEN a writer runs, by the function it sits in.  `none` = a writer the model does not know. -/
def writerPhase (file fn : String) : Option String :=
  if file = "simulator/network/hardware/nodes/network/router.py" then
    if fn = "AccessControlList.__init__" ∨ fn = "AccessControlList.add_rule" ∨ fn = "AccessControlList.remove_rule"
        ∨ fn = "AccessControlList.is_permitted" then some "primitive (an operation of the model)"
    else if fn = "AccessControlList._init_request_manager._add_rule_action"
        ∨ fn = "AccessControlList._init_request_manager._remove_rule_action" then some "request handler (calls the primitive)"
    else if fn = "Router.__init__" ∨ fn = "Router._set_default_acl" then some "construction of a new device"
    else if fn = "Router.from_config" then some "loader (new device from a scenario file)"
    else none
  else if file = "simulator/network/hardware/nodes/network/firewall.py" then
    if fn = "Firewall.from_config" then some "loader (new device from a scenario file)" else none
  else if file = "simulator/network/hardware/nodes/network/wireless_router.py" then
    if fn = "WirelessRouter.from_config" then some "loader (new device from a scenario file)" else none
  else if file = "simulator/network/networks.py" ∨ file = "simulator/network/creation.py" then some "builder of a NEW network"
  else if file = "game/agent/observations/firewall_observation.py" ∨ file = "game/agent/observations/router_observation.py" then
    if fn = "FirewallObservation.__init__" ∨ fn = "RouterObservation.__init__" ∨ fn = "RouterObservation.from_config"
    then some "an observation's own field of the same name (not a list of the simulation)" else none
  else none

/-- TIE: every place of the package that writes an access-control list is one the model knows, and runs when a NEW device /
network is built or as one of the model's operations; the default-rule helper is called from `Router.__init__` only. -/
theorem C07_gen_acl_writers :
    (Primaite.Gen.AclWriters.writers.all fun w => (writerPhase w.1 w.2.1).isSome) = true ∧
    Primaite.Gen.AclWriters.writers.filter (fun w => w.2.2 == "call:_set_default_acl") =
      [("simulator/network/hardware/nodes/network/router.py", "Router.__init__", "call:_set_default_acl")] ∧
    (Primaite.Gen.AclWriters.writers.filter (fun w => w.2.2 == "setitem:_acl" || w.2.2 == "assign:_acl")).map (·.2.1) =
      ["AccessControlList.__init__", "AccessControlList.add_rule", "AccessControlList.remove_rule"] := by
  -- `decide` would compare string literals through their UTF-8 bytes in the kernel; `String.reduceEq` proves each
  -- (dis)equality from the character lists, so `==` is turned into `=` first.  `delta`, because the equation lemma
  -- `simp [writerPhase]` would generate is slower to produce than all the rest.
  delta writerPhase
  refine ⟨?_, ?_, ?_⟩ <;> simp [Primaite.Gen.AclWriters.writers, -String.reduceBEq, Bool.beq_eq_decide_eq]

/-- TIE: no lifecycle hook of a device, a node, the network, the simulation, the game or an environment mentions an ACL
(the inventory is not empty: it contains the hooks the seeded change C07-g went through). -/
theorem C07_gen_hooks_leave_acl_alone :
    (Primaite.Gen.AclWriters.hooks.all fun h => h.2.2.isEmpty) = true ∧
    (Primaite.Gen.AclWriters.hooks.any fun h => h.2.1 == "Router.setup_for_episode") = true ∧
    (Primaite.Gen.AclWriters.hooks.any fun h => h.2.1 == "Node.power_on") = true ∧
    (Primaite.Gen.AclWriters.hooks.any fun h => h.2.1 == "PrimaiteGymEnv.reset") = true := by
  refine ⟨rfl, ?_, ?_, ?_⟩ <;> simp [Primaite.Gen.AclWriters.hooks, -String.reduceBEq, Bool.beq_eq_decide_eq]

end Primaite.Acl
