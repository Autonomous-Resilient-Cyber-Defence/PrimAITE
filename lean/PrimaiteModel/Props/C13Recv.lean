/-
C13 — the receive path (`Model/C13Recv.lean`): the software-manager functions translated from the source are the model's; only
RUNNING software is handed a payload or keeps a port open, on one node and along any exchange between two; what the modelled
classes (DNS / NTP client and server, web server and browser) do with a payload, alone and end to end; the transport
terminates, with a bound that follows from the class registry; connection bookkeeping.
-/
import PrimaiteModel.Model.C13Recv
import PrimaiteModel.Lemmas.RegistriesRep
import PrimaiteModel.Gen.SoftwareRecv
import PrimaiteModel.Gen.Software
namespace Primaite.C13
open Primaite.Lifecycle Primaite.Registries Primaite.Recv

/-- **The regenerated translations of `get_open_ports`, `check_port_is_open`, `receive_payload_from_session_manager` and of
the destination port chosen by `SessionManager.receive_frame` ARE the model's functions** (for all arguments). -/
theorem C13_gen_recv_translation :
    Gen.SoftwareRecv.getOpenPorts = Recv.getOpenPorts ∧
    Gen.SoftwareRecv.checkPortIsOpen = Recv.checkPortIsOpen ∧
    Gen.SoftwareRecv.receivePath = Recv.receivePath ∧
    Gen.SoftwareRecv.sessionDstPort = Recv.sessionDstPort := by
  refine ⟨?_, ?_, ?_, ?_⟩
  · funext vs; simp [Gen.SoftwareRecv.getOpenPorts, Recv.getOpenPorts]
  · funext p q vs; simp [Gen.SoftwareRecv.checkPortIsOpen, Recv.checkPortIsOpen]
  · funext a b c d e f
    cases a
    · simp only [Gen.SoftwareRecv.receivePath, Recv.receivePath]
      cases e (b, c) <;> simp
    · simp only [Gen.SoftwareRecv.receivePath, Recv.receivePath]
      cases d "nmap" <;> simp
  · funext fr; rfl

theorem view_some (n : Node) (u : Nat) (s : SwView) (h : view n u = some s) :
    s.uid = u ∧ s.running = n.isRunning u ∧
      ∃ m, n.metaOf u = some m ∧ s.name = m.cls.name ∧ s.port = m.cls.port ∧ s.protocol = m.cls.proto ∧ s.listen = m.listen := by
  unfold view at h
  cases hm : n.metaOf u with
  | none => simp [hm] at h
  | some m =>
    simp only [hm, Option.map_some, Option.some.injEq] at h
    subst h
    exact ⟨rfl, rfl, m, rfl, rfl, rfl, rfl, rfl⟩

theorem view_of_meta (n : Node) (u : Nat) (h : (n.metaOf u).isSome = true) : ∃ s, view n u = some s ∧ s.uid = u := by
  unfold view
  cases hm : n.metaOf u with
  | none => simp [hm] at h
  | some m => exact ⟨_, rfl, rfl⟩

theorem view_none_iff (n : Node) (u : Nat) : view n u = none ↔ n.metaOf u = none := by
  unfold view
  cases n.metaOf u <;> simp

/-- `get_open_ports` as translated from the source computes what `Node.openPorts` (the model the lifecycle theorems and the
rig's state line use) computes -/
theorem C13_open_ports_views_eq (n : Node) : openPortsV n = n.openPorts := by
  unfold openPortsV portMapValues getOpenPorts Node.openPorts
  induction n.portMap with
  | nil => rfl
  | cons e t ih =>
    simp only [List.filterMap_cons, List.flatMap_cons]
    cases hv : view n e.2 with
    | none =>
      have hm := (view_none_iff n e.2).mp hv
      have hr : n.isRunning e.2 = false := by
        unfold Node.metaOf at hm
        unfold Node.isRunning
        cases hs : n.findSvc e.2 with
        | some i => simp [hs] at hm
        | none =>
          simp only [hs] at hm
          cases ha : n.findApp e.2 with
          | some i => simp [ha] at hm
          | none => rfl
      simp only [hr]
      simpa using ih
    | some s =>
      obtain ⟨_, hrun, m, hm, _, hp, _, hl⟩ := view_some n e.2 s hv
      simp only [List.flatMap_cons, ih, hm, hrun, hp, hl]
      cases n.isRunning e.2 <;> cases hls : m.listen <;> simp

/-- **`get_open_ports()` lists a port only for RUNNING software**: every port it reports is the port, or a listening port,
of an object that owns a port-table entry and is RUNNING. -/
theorem C13_open_port_only_running (n : Node) (p : Nat) (h : p ∈ openPortsV n) :
    ∃ k u s, (k, u) ∈ n.portMap ∧ view n u = some s ∧ n.isRunning u = true ∧ (p = s.port ∨ p ∈ s.listen) := by
  unfold openPortsV portMapValues getOpenPorts at h
  simp only [List.mem_flatMap, List.mem_filterMap] at h
  obtain ⟨s, ⟨⟨k, u⟩, hmem, hv⟩, hp⟩ := h
  obtain ⟨_, hrun, _⟩ := view_some n u s hv
  cases hr : s.running with
  | false => simp [hr] at hp
  | true =>
    refine ⟨k, u, s, hmem, hv, by rw [← hrun, hr], ?_⟩
    simp only [hr, if_true] at hp
    cases hl : s.listen with
    | nil => simp [hl] at hp; exact Or.inl hp
    | cons a t =>
      simp [hl] at hp
      rcases hp with h1 | h2 | h3
      · exact Or.inl h1
      · exact Or.inr (by simp [h2])
      · exact Or.inr (by simp [h3])

/-- **`check_port_is_open(port, protocol)` is true exactly when some installed software with that port and protocol is
RUNNING** (both directions, every registry state). -/
theorem C13_check_port_open_iff (n : Node) (port proto : Nat) :
    portIsOpen n port proto = true ↔
      ∃ name u s, (name, u) ∈ n.software ∧ view n u = some s ∧ s.port = port ∧ s.protocol = proto ∧ n.isRunning u = true := by
  unfold portIsOpen checkPortIsOpen softwareValues
  simp only [List.any_eq_true, List.mem_filterMap, Bool.and_eq_true, beq_iff_eq]
  constructor
  · rintro ⟨s, ⟨⟨name, u⟩, hmem, hv⟩, ⟨hp, hq⟩, hr⟩
    obtain ⟨_, hrun, _⟩ := view_some n u s hv
    exact ⟨name, u, s, hmem, hv, hp, hq, by rw [← hrun, hr]⟩
  · rintro ⟨name, u, s, hmem, hv, hp, hq, hr⟩
    obtain ⟨_, hrun, _⟩ := view_some n u s hv
    exact ⟨s, ⟨(name, u), hmem, hv⟩, ⟨hp, hq⟩, by rw [hrun, hr]⟩

/-- hence: no software RUNNING ⇒ no port open, by either function -/
theorem C13_nothing_running_nothing_open (n : Node) (h : ∀ u, n.isRunning u = false) :
    openPortsV n = [] ∧ ∀ port proto, portIsOpen n port proto = false := by
  constructor
  · cases hl : openPortsV n with
    | nil => rfl
    | cons p t =>
      obtain ⟨_, u, _, _, _, hr, _⟩ := C13_open_port_only_running n p (by rw [hl]; simp)
      rw [h u] at hr; cases hr
  · intro port proto
    cases hb : portIsOpen n port proto with
    | false => rfl
    | true =>
      obtain ⟨_, u, _, _, _, _, _, hr⟩ := (C13_check_port_open_iff n port proto).mp hb
      rw [h u] at hr; cases hr

/-- The two functions are NOT the same question (observation, as the code is): `check_port_is_open` looks at every installed
software's own port, `get_open_ports` only at the owners of port-table slots (plus their listening ports).  web-server then
web-browser (both 80/tcp; the browser, installed later, owns the slot and is CLOSED): the nmap answer is "open", the frame
filter's is "closed". -/
example :
    let n := ({} : Node).run [.installSvc { name := "web-server", port := 80, proto := 1 } true [] .good 2,
                              .installApp { name := "web-browser", port := 80, proto := 1 } true [] .good 2]
    portIsOpen n 80 1 = true ∧ openPortsV n = [] := by decide +kernel

/-- **Routers and firewalls as hosts of software**: a frame is handed to a router's session manager only if it is addressed
to the router and is ICMP or aimed at a port with a RUNNING owner (`Router.check_send_frame_to_session_manager`). -/
theorem C13_router_frame_only_open (n : Node) (h : Hdr) (toRouter : Bool) (ha : n.routerAccepts h toRouter = true) :
    toRouter = true ∧ (h = .icmp ∨ ∃ p k u s, h.dstPort = some p ∧ (k, u) ∈ n.portMap ∧ view n u = some s ∧
      n.isRunning u = true ∧ (p = s.port ∨ p ∈ s.listen)) := by
  unfold Node.routerAccepts at ha
  simp only [Bool.and_eq_true, Bool.or_eq_true, beq_iff_eq] at ha
  refine ⟨ha.1, ?_⟩
  rcases ha.2 with h1 | h2
  · exact Or.inl h1
  · right
    cases hd : h.dstPort with
    | none => simp [hd] at h2
    | some p =>
      simp only [hd, List.contains_iff_mem] at h2
      have hp : p ∈ openPortsV n := by rw [C13_open_ports_views_eq]; exact h2
      obtain ⟨k, u, s, a, b, c, d⟩ := C13_open_port_only_running n p hp
      exact ⟨p, k, u, s, rfl, a, b, c, d⟩

/-- every registry entry refers to an existing object (holds on every reachable node: `wf_of_rep`) -/
def WF (n : Node) : Prop :=
  (∀ x ∈ n.software, (n.metaOf x.2).isSome = true) ∧ (∀ x ∈ n.portMap, (n.metaOf x.2).isSome = true)

theorem wf_of_rep (n : Node) (es : List Entry) (h : Rep n es) : WF n := by
  have key : ∀ e ∈ es, (n.metaOf e.uid).isSome = true := by
    intro e he
    have := rep_nameOf n es h e he
    unfold Node.nameOf at this
    cases hm : n.metaOf e.uid with
    | none => simp [hm] at this
    | some m => rfl
  constructor
  · intro x hx
    rw [h.software] at hx
    obtain ⟨e, he, rfl⟩ := List.mem_map.mp hx
    exact key e he
  · intro x hx
    obtain ⟨e, he, hu⟩ := h.portOwners x hx
    rw [← hu]; exact key e he

theorem view_eq_iff (n : Node) (u w : Nat) (s sw : SwView) (hu : view n u = some s) (hw : view n w = some sw) :
    s = sw ↔ u = w := by
  constructor
  · intro h
    rw [← (view_some n u s hu).1, ← (view_some n w sw hw).1, h]
  · intro h
    subst h
    rw [hu] at hw
    exact Option.some.inj hw

/-- the listeners computed over views are the listeners computed over uids -/
theorem listeners_eq (n : Node) (port : Nat) (main : Option Nat) (mainV : Option SwView)
    (hmain : (main = none ∧ mainV = none) ∨ (∃ w sw, main = some w ∧ mainV = some sw ∧ view n w = some sw))
    (l : List (String × Nat)) :
    (((l.filterMap fun e => view n e.2).filter fun s => s.listen.contains port && (some s != mainV)).map
        fun r => ((r, true) : SwView × Bool).1.uid) =
      (l.map (·.2)).filter (fun u =>
        (match n.metaOf u with
         | some m => m.listen.contains port
         | none => false) && main != some u) := by
  induction l with
  | nil => rfl
  | cons e t ih =>
    simp only [List.filterMap_cons, List.map_cons, List.filter_cons]
    cases hv : view n e.2 with
    | none =>
      have hm := (view_none_iff n e.2).mp hv
      simp only [hm, Bool.false_and]
      exact ih
    | some s =>
      obtain ⟨hu, _, m, hm, _, _, _, hl⟩ := view_some n e.2 s hv
      simp only [List.filter_cons, hm, hl]
      have hne : (some s != mainV) = (main != some e.2) := by
        rcases hmain with ⟨rfl, rfl⟩ | ⟨w, sw, rfl, rfl, h3⟩
        · rfl
        · rw [Bool.eq_iff_iff, bne_iff_ne, bne_iff_ne, Ne, Ne, Option.some.injEq, Option.some.injEq,
            view_eq_iff n e.2 w s sw hv h3, eq_comm]
      rw [hne]
      cases hc : (m.listen.contains port && main != some e.2)
      · simp only [Bool.false_eq_true, if_false]; exact ih
      · simp only [if_true, List.map_cons, hu]; rw [ih]

/-- **The receive path translated from the source is the model's `Node.receivers`** (which the lifecycle rig diffs
against the implementation) on every node whose registries refer to existing objects —
in particular on every reachable node (`wf_of_rep`, `C13_registries_agree`). -/
theorem C13_recv_path_eq_receivers (n : Node) (hwf : WF n) (port proto : Nat) (scan : Bool) :
    n.receivers port proto scan = some (recvUids n port proto scan) := by
  unfold Node.receivers recvUids recvCalls receivePath
  cases scan
  · simp only [Bool.false_eq_true, if_false]
    have hmain : (dget (port, proto) n.portMap = none ∧ portMapGet n (port, proto) = none) ∨
        (∃ w sw, dget (port, proto) n.portMap = some w ∧ portMapGet n (port, proto) = some sw ∧ view n w = some sw) := by
      unfold portMapGet
      cases hd : dget (port, proto) n.portMap with
      | none => exact Or.inl ⟨rfl, rfl⟩
      | some w =>
        obtain ⟨sw, hsw, _⟩ := view_of_meta n w (hwf.2 _ (dget_mem _ _ _ hd))
        exact Or.inr ⟨w, sw, rfl, by simp [hsw], hsw⟩
    have hl := listeners_eq n port _ _ hmain n.software
    rcases hmain with ⟨h1, h2⟩ | ⟨w, sw, h1, h2, h3⟩
    · simp only [h1, h2] at hl ⊢
      simp only [List.nil_append, List.append_nil, List.map_map]
      unfold softwareValues
      refine congrArg some ?_
      refine Eq.trans hl.symm ?_
      simp [Function.comp_def]
    · obtain ⟨hu, _⟩ := view_some n w sw h3
      simp only [h1, h2] at hl ⊢
      simp only [List.append_nil, List.map_append, List.map_cons, List.map_nil, List.map_map, hu]
      unfold softwareValues
      refine congrArg some ?_
      refine congrArg (fun l => [w] ++ l) ?_
      refine Eq.trans hl.symm ?_
      simp [Function.comp_def]
  · simp only [if_true]
    unfold softwareGet
    cases hd : dget "nmap" n.software with
    | none => simp
    | some u =>
      obtain ⟨s, hs, hu⟩ := view_of_meta n u (hwf.1 _ (dget_mem _ _ _ hd))
      simp [hs, hu]

/-- `WF` is an invariant: it holds on every node reachable from an empty node by ANY sequence of operations (installs of
anything — configured or bare, installed already or not —, uninstalls, requests, ticks, power events, payloads) -/
theorem C13_wf_reachable (p : Power) (up down : Int) (ops : List Op) :
    WF (Node.run { power := p, upDur := up, downDur := down } ops) := by
  obtain ⟨es, h⟩ := rep_run ops _ [] (C13_rep_init p up down)
  exact wf_of_rep _ es h

/-- … and one operation keeps it, from any node whose registries agree -/
theorem C13_wf_step (n : Node) (es : List Entry) (h : Rep n es) (op : Op) : WF (n.step op).1 := by
  obtain ⟨es', h'⟩ := rep_step n es h op
  exact wf_of_rep _ es' h'

/-- **On every reachable node the receive path translated from the source IS `Node.receivers`** — no hypothesis:
after any operation sequence from an empty node, for every port, protocol and payload kind, the objects whose `receive`
the model calls are exactly those the translation of `receive_payload_from_session_manager` names, in the same order. -/
theorem C13_recv_path_reachable (p : Power) (up down : Int) (ops : List Op) (port proto : Nat) (scan : Bool) :
    let n := Node.run { power := p, upDur := up, downDur := down } ops
    n.receivers port proto scan = some (recvUids n port proto scan) :=
  C13_recv_path_eq_receivers _ (C13_wf_reachable p up down ops) port proto scan

/- Payload processing may write `health_state_actual`, and nothing else of the lifecycle layer.
`forget n` blanks every `health_state_actual`.  Everything the receive path and the frame filters read — power, registries,
operating states, ports, listening ports — is a function of `forget n`. -/

theorem findSvc_forget (n : Node) (u : Nat) :
    (forget n).findSvc u = (n.findSvc u).map (fun i => { i with s := { i.s with sw := { i.s.sw with actual := .unused } } }) :=
  find_map_meta_svc n.svcs (fun i => { i.s with sw := { i.s.sw with actual := .unused } }) u

theorem findApp_forget (n : Node) (u : Nat) :
    (forget n).findApp u = (n.findApp u).map (fun i => { i with a := { i.a with sw := { i.a.sw with actual := .unused } } }) :=
  find_map_meta_app n.apps (fun i => { i.a with sw := { i.a.sw with actual := .unused } }) u

theorem isRunning_forget (n : Node) (u : Nat) : (forget n).isRunning u = n.isRunning u := by
  unfold Node.isRunning
  rw [findSvc_forget, findApp_forget]
  cases n.findSvc u <;> cases n.findApp u <;> rfl

theorem metaOf_forget (n : Node) (u : Nat) : (forget n).metaOf u = n.metaOf u := by
  unfold Node.metaOf
  rw [findSvc_forget, findApp_forget]
  cases n.findSvc u <;> cases n.findApp u <;> rfl

theorem handles_forget (n : Node) (u : Nat) : (forget n).handles u = n.handles u := by
  unfold Node.handles
  rw [isRunning_forget]; rfl

theorem view_forget (n : Node) (u : Nat) : view (forget n) u = view n u := by
  unfold view
  rw [metaOf_forget, isRunning_forget]

theorem recvCalls_forget (n : Node) (port proto : Nat) (scan : Bool) : recvCalls (forget n) port proto scan = recvCalls n port proto scan := by
  have h1 : softwareGet (forget n) = softwareGet n := by
    funext name; unfold softwareGet
    show (dget name n.software).bind (view (forget n)) = _
    cases dget name n.software <;> simp [view_forget]
  have h2 : portMapGet (forget n) = portMapGet n := by
    funext k; unfold portMapGet
    show (dget k n.portMap).bind (view (forget n)) = _
    cases dget k n.portMap <;> simp [view_forget]
  have h3 : softwareValues (forget n) = softwareValues n := by
    unfold softwareValues
    show n.software.filterMap (fun e => view (forget n) e.2) = _
    simp only [view_forget]
  unfold recvCalls
  rw [h1, h2, h3]

theorem openPorts_forget (n : Node) : (forget n).openPorts = n.openPorts := by
  unfold Node.openPorts
  show n.portMap.flatMap _ = n.portMap.flatMap _
  simp only [isRunning_forget, metaOf_forget]

theorem frameAccepted_forget (n : Node) (h : Hdr) (scan : Bool) : (forget n).frameAccepted h scan = n.frameAccepted h scan := by
  unfold Node.frameAccepted
  rw [openPorts_forget]
  have hn : ∀ u, ((forget n).findApp u).any (fun i => i.a.st == .running) = (n.findApp u).any (fun i => i.a.st == .running) := by
    intro u; rw [findApp_forget]; cases n.findApp u <;> rfl
  show (h == .icmp || _ || ((match dget "nmap" n.software with
        | some u => ((forget n).findApp u).any (fun i => i.a.st == .running)
        | none => false) && scan)) = _
  simp only [hn]
  rfl

theorem forget_setActual (n : Node) (u : Nat) (h : Health) : forget (setActual n u h) = forget n := by
  unfold forget setActual
  simp only [List.map_map, Function.comp_def]
  congr 1
  · apply List.map_congr_left
    intro i _
    by_cases hu : i.m.uid = u <;> simp [hu]
  · apply List.map_congr_left
    intro i _
    by_cases hu : i.m.uid = u <;> simp [hu]

theorem setActual_software (n : Node) (u : Nat) (h : Health) : (setActual n u h).software = n.software := rfl

theorem applyHealthWrite_isOn (n : Node) (u : Nat) (hw : HealthWrite) : (applyHealthWrite n u hw).isOn = n.isOn := by
  cases hw <;> rfl

theorem applyHealthWrite_none (n : Node) (u : Nat) : applyHealthWrite n u none = n := rfl

/-- two nodes that differ only in health values -/
def LifeEq (n n' : Node) : Prop := forget n' = forget n

theorem LifeEq.handles {n n' : Node} (h : LifeEq n n') (u : Nat) : n'.handles u = n.handles u := by
  rw [← handles_forget n', h, handles_forget]

theorem LifeEq.recvCalls {n n' : Node} (h : LifeEq n n') (port proto : Nat) (scan : Bool) :
    recvCalls n' port proto scan = recvCalls n port proto scan := by
  rw [← recvCalls_forget n', h, recvCalls_forget]

theorem LifeEq.frameAccepted {n n' : Node} (h : LifeEq n n') (hd : Hdr) (scan : Bool) :
    n'.frameAccepted hd scan = n.frameAccepted hd scan := by
  rw [← frameAccepted_forget n', h, frameAccepted_forget]

theorem LifeEq.isOn {n n' : Node} (h : LifeEq n n') : n'.isOn = n.isOn := by
  have : (forget n').isOn = (forget n).isOn := by rw [h]
  exact this

theorem LifeEq.isRunning {n n' : Node} (h : LifeEq n n') (u : Nat) : n'.isRunning u = n.isRunning u := by
  rw [← isRunning_forget n', h, isRunning_forget]

theorem LifeEq.software {n n' : Node} (h : LifeEq n n') : n'.software = n.software := by
  have : (forget n').software = (forget n).software := by rw [h]
  exact this

theorem LifeEq.refl (n : Node) : LifeEq n n := rfl
theorem LifeEq.trans {a b c : Node} (h1 : LifeEq a b) (h2 : LifeEq b c) : LifeEq a c := by
  unfold LifeEq at *; rw [h2, h1]

theorem actualOf_setActual_ne (n : Node) (u v : Nat) (h : Health) (hv : v ≠ u) : actualOf (setActual n u h) v = actualOf n v := by
  unfold actualOf
  have hs : (setActual n u h).findSvc v = (n.findSvc v).map
      (fun i => { i with s := if i.m.uid = u then { i.s with sw := { i.s.sw with actual := h } } else i.s }) :=
    find_map_meta_svc n.svcs _ v
  have ha : (setActual n u h).findApp v = (n.findApp v).map
      (fun i => { i with a := if i.m.uid = u then { i.a with sw := { i.a.sw with actual := h } } else i.a }) :=
    find_map_meta_app n.apps _ v
  rw [hs, ha]
  cases hf : n.findSvc v with
  | some i => simp [findSvc_uid hf, hv]
  | none =>
    cases hg : n.findApp v with
    | none => rfl
    | some i => simp [findApp_uid hg, hv]

/-- behind a closed running-guard `receive` does nothing: no state change, nothing sent, payload untouched, returns False —
for the DNS / NTP classes (`receive`) and for every modelled class (`receiveH`: no health write either) -/
theorem C13_receive_blocked (d : Data) (now : Nat) (p : Payload) : d.receive false now p = (d, .f, [], p) := rfl

/-- a web server that is not RUNNING (or whose node is not ON) answers nothing, records nothing, writes no health; a browser
that is not RUNNING keeps its `latest_response` — and so for every modelled class: `receiveH` behind a closed guard -/
theorem C13_web_not_running (d : Data) (now : Nat) (hasDb : Option Bool) (p : Payload) :
    d.receiveH false now hasDb p = ((d, .f, [], p), none) := rfl

/-- what one `receive` call may do to the lifecycle layer: nothing, or — only if the object may act — a write of its OWN
`health_state_actual` -/
def NStep (n : Node) (u : Nat) (n' : Node) : Prop := n' = n ∨ (n.handles u = true ∧ ∃ h, n' = setActual n u h)

theorem NStep.lifeEq {n n' : Node} {u : Nat} (h : NStep n u n') : LifeEq n n' := by
  rcases h with rfl | ⟨_, hh, rfl⟩
  · rfl
  · exact forget_setActual n u hh

theorem NStep.actualOf_ne {n n' : Node} {u : Nat} (h : NStep n u n') (v : Nat) (hv : v ≠ u) : actualOf n' v = actualOf n v := by
  rcases h with rfl | ⟨_, hh, rfl⟩
  · rfl
  · exact actualOf_setActual_ne n u v hh hv

/-- one `receive` call: registries, power and operating states untouched (`NStep`: at most the object's own health, and only
if it may act); other objects' data untouched; an object that may not act (node not ON, or not RUNNING) keeps its data, its
health and the whole node, sends nothing, leaves the payload alone and answers False (`none`: unmodelled class, only the guard
is known); whatever is sent is sent by the object itself. -/
theorem recvAt_spec (nn : NetNode) (u port proto : Nat) (p : Payload) :
    NStep nn.n u (nn.recvAt u port proto p).1.n ∧ (nn.recvAt u port proto p).1.now = nn.now ∧
    (nn.recvAt u port proto p).1.addr = nn.addr ∧
    (nn.recvAt u port proto p).2.1.uid = u ∧ (nn.recvAt u port proto p).2.1.handled = nn.n.handles u ∧
    (∀ v, v ≠ u → dget v (nn.recvAt u port proto p).1.data = dget v nn.data) ∧
    (nn.n.handles u = false →
      (nn.recvAt u port proto p).1.n = nn.n ∧
      dget u (nn.recvAt u port proto p).1.data = dget u nn.data ∧ (nn.recvAt u port proto p).2.2.1 = [] ∧
      (nn.recvAt u port proto p).2.2.2 = p ∧
      ((nn.recvAt u port proto p).2.1.ret = none ∨ (nn.recvAt u port proto p).2.1.ret = some .f)) ∧
    (∀ s ∈ (nn.recvAt u port proto p).2.2.1, s.src = u) := by
  unfold NetNode.recvAt
  cases hd : dget u nn.data with
  | none => simp [hd, NStep]
  | some d =>
    cases hc : nn.n.handles u with
    | false =>
      simp only [C13_web_not_running, NStep, applyHealthWrite]
      refine ⟨by simp, by simp, by simp, by simp, by simp, ?_, ?_, ?_⟩
      · intro v hv; rw [dget_dset]; simp [Ne.symm hv]
      · intro _
        refine ⟨by simp, ?_, by simp, by simp, by simp⟩
        rw [dget_dset]; simp
      · intro s hs; simp at hs
    | true =>
      rcases hr : d.receiveH true nn.now nn.dbVerdict p with ⟨⟨d', r, out, p'⟩, hw⟩
      simp only [hr]
      refine ⟨?_, by simp, by simp, by simp, by simp, ?_, ?_, ?_⟩
      · cases hw with
        | none => exact Or.inl rfl
        | some h => exact Or.inr ⟨hc, h, rfl⟩
      · intro v hv; rw [dget_dset]; simp [Ne.symm hv]
      · intro hh; cases hh
      · intro s hs
        simp only [List.mem_map] at hs
        obtain ⟨x, _, rfl⟩ := hs
        rfl

/-- one `receive` call leaves the data and the health of every object that may not act alone — the receiver included -/
theorem recvAt_blocked_other (nn : NetNode) (u port proto : Nat) (p : Payload) (v : Nat) (hv : nn.n.handles v = false) :
    dget v (nn.recvAt u port proto p).1.data = dget v nn.data ∧ actualOf (nn.recvAt u port proto p).1.n v = actualOf nn.n v := by
  obtain ⟨h1, _, _, _, _, h6, h7, _⟩ := recvAt_spec nn u port proto p
  by_cases hvu : v = u
  · subst hvu
    obtain ⟨e1, e2, _⟩ := h7 hv
    exact ⟨e2, by rw [e1]⟩
  · exact ⟨h6 v hvu, h1.actualOf_ne v hvu⟩

/-- a whole delivery (any list of `receive` calls, any port, protocol and payload) -/
theorem deliverList_spec (calls : List (Nat × Bool)) (nn : NetNode) (port proto : Nat) (p : Payload) :
    LifeEq nn.n (nn.deliverList port proto p calls).1.n ∧ (nn.deliverList port proto p calls).1.now = nn.now ∧
    (∀ v, nn.n.handles v = false → dget v (nn.deliverList port proto p calls).1.data = dget v nn.data ∧
        actualOf (nn.deliverList port proto p calls).1.n v = actualOf nn.n v) ∧
    (∀ v, v ∉ calls.map (·.1) → dget v (nn.deliverList port proto p calls).1.data = dget v nn.data ∧
        actualOf (nn.deliverList port proto p calls).1.n v = actualOf nn.n v) ∧
    (∀ s ∈ (nn.deliverList port proto p calls).2.2, nn.n.handles s.src = true ∧ s.src ∈ calls.map (·.1)) ∧
    (nn.deliverList port proto p calls).2.1.map (·.uid) = calls.map (·.1) ∧
    (∀ x ∈ (nn.deliverList port proto p calls).2.1,
      x.handled = nn.n.handles x.uid ∧ (x.handled = false → x.ret = none ∨ x.ret = some .f)) := by
  induction calls generalizing nn p with
  | nil => simp [NetNode.deliverList, LifeEq]
  | cons c us ih =>
    obtain ⟨u, copy⟩ := c
    obtain ⟨h1, h2, _, h4, h5, h6, h7, h8⟩ := recvAt_spec nn u port proto p
    have hle := h1.lifeEq
    simp only [NetNode.deliverList]
    obtain ⟨i1, i2, i3, i4, i5, i6, i7⟩ :=
      ih (nn.recvAt u port proto p).1 (if copy = true then p else (nn.recvAt u port proto p).2.2.2)
    have hh : ∀ v, (nn.recvAt u port proto p).1.n.handles v = nn.n.handles v := fun v => hle.handles v
    refine ⟨LifeEq.trans hle i1, i2.trans h2, ?_, ?_, ?_, ?_, ?_⟩
    · intro v hv
      obtain ⟨a, b⟩ := i3 v (by rw [hh]; exact hv)
      obtain ⟨c, d⟩ := recvAt_blocked_other nn u port proto p v hv
      exact ⟨a.trans c, b.trans d⟩
    · intro v hv
      simp only [List.map_cons, List.mem_cons, not_or] at hv
      obtain ⟨a, b⟩ := i4 v hv.2
      exact ⟨by rw [a, h6 v hv.1], by rw [b, h1.actualOf_ne v hv.1]⟩
    · intro s hs
      simp only [List.mem_append] at hs
      rcases hs with hs | hs
      · have hsrc := h8 s hs
        refine ⟨?_, by simp [hsrc]⟩
        cases hc : nn.n.handles u with
        | true => rw [hsrc, hc]
        | false => rw [(h7 hc).2.2.1] at hs; cases hs
      · obtain ⟨a, b⟩ := i5 s hs
        exact ⟨by rw [← hh]; exact a, by simp [b]⟩
    · simp [h4, i6]
    · intro x hx
      simp only [List.mem_cons] at hx
      rcases hx with rfl | hx
      · rw [h4, h5]
        exact ⟨rfl, fun hc => (h7 hc).2.2.2.2⟩
      · obtain ⟨a, b⟩ := i7 x hx
        exact ⟨by rw [a, hh], b⟩

/-- **Only RUNNING software is handed a payload.**  For every node state (registries, lifecycle states, power), every
port, protocol and payload, after `receive_payload_from_session_manager` has called `receive` on every receiver:
registries, power and every operating state are as before (`LifeEq`: only `health_state_actual` values may differ); the data
AND the health of every object that is not RUNNING (or whose node is not ON) are as before; every payload sent was sent by a
RUNNING object on an ON node that was a receiver; every `receive` of a not-running object answered False. -/
theorem C13_payload_only_running (nn : NetNode) (port proto : Nat) (p : Payload) :
    LifeEq nn.n (nn.deliver port proto p).1.n ∧
    (∀ v, ¬ (nn.n.isOn = true ∧ nn.n.isRunning v = true) →
      dget v (nn.deliver port proto p).1.data = dget v nn.data ∧ actualOf (nn.deliver port proto p).1.n v = actualOf nn.n v) ∧
    (∀ s ∈ (nn.deliver port proto p).2.2, nn.n.isOn = true ∧ nn.n.isRunning s.src = true ∧
        s.src ∈ recvUids nn.n port proto p.isScan) ∧
    (∀ x ∈ (nn.deliver port proto p).2.1, x.handled = (nn.n.isOn && nn.n.isRunning x.uid) ∧
        (x.handled = false → x.ret = none ∨ x.ret = some .f)) := by
  obtain ⟨h1, _, h3, _, h5, _, h7⟩ := deliverList_spec (recvCalls nn.n port proto p.isScan) nn port proto p
  refine ⟨h1, ?_, ?_, ?_⟩
  · intro v hv
    apply h3
    exact Bool.eq_false_iff.mpr (fun h => hv (Bool.and_eq_true_iff.mp h))
  · intro s hs
    obtain ⟨a, b⟩ := h5 s hs
    unfold Node.handles at a
    simp only [Bool.and_eq_true] at a
    exact ⟨a.1, a.2, by unfold recvUids; exact b⟩
  · intro x hx
    exact h7 x hx

/-- the same through `HostNode.receive_frame` + `SessionManager.receive_frame` -/
theorem C13_frame_payload_only_running (nn : NetNode) (h : Hdr) (p : Payload) (nn' : NetNode) (recs : List RecvRec)
    (sents : List Sent) (hf : nn.frame h p = some (nn', recs, sents)) :
    LifeEq nn.n nn'.n ∧
    (∀ v, ¬ (nn.n.isOn = true ∧ nn.n.isRunning v = true) → dget v nn'.data = dget v nn.data ∧ actualOf nn'.n v = actualOf nn.n v) ∧
    (∀ s ∈ sents, nn.n.isOn = true ∧ nn.n.isRunning s.src = true) := by
  unfold NetNode.frame at hf
  split at hf
  · split at hf
    · rename_i port _
      simp only [Option.some.injEq] at hf
      obtain ⟨a, b, c, _⟩ := C13_payload_only_running nn port h.proto p
      rw [hf] at a b c
      exact ⟨a, b, fun s hs => ⟨(c s hs).1, (c s hs).2.1⟩⟩
    · cases hf
  · cases hf

/-- non-vacuity, C13-a's shape and "a stopped owner + a running listener": dns-client (uid 0) owns 53/tcp and is STOPPED, a
dns-server (uid 1) installed under another port listens on 53 and is RUNNING; a DNS request for a registered name is handed to
both, only the RUNNING server processes it (and replies with the registered address). -/
example :
    let n := ({} : Node).run [.installSvc { cid := "DNSClient", name := "dns-client", port := 53, proto := 1 } true [] .good 2,
                              .svcReq "dns-client" .stop,
                              .installSvc { cid := "DNSServer", name := "dns-server", port := 5353, proto := 1 } true [53] .good 2]
    let nn : NetNode := (({ n := n } : NetNode).adopt).setData 1 (.dnsServer [("x.test", 7)])
    (nn.deliver 53 1 (.dns "x.test" none)).2 =
      ([{ uid := 0, handled := false, ret := some .f }, { uid := 1, handled := true, ret := some .t }],
       [{ src := 1, dst := .session, port := 53, proto := 1, payload := .dns "x.test" (some (some 7)) }]) := by decide +kernel

/-- `receive` of a modelled class puts nothing on the wire (payload untouched), or — only for a payload that does not itself carry a
reply — one reply along the session (the payload untouched or replaced by that reply) -/
theorem receiveH_wire (d : Data) (canAct : Bool) (now : Nat) (hasDb : Option Bool) (p : Payload) :
    ((d.receiveH canAct now hasDb p).1.2.2.1 = [] ∧ (d.receiveH canAct now hasDb p).1.2.2.2 = p) ∨
    ∃ q, q.isReply = true ∧ p.isReply = false ∧ (d.receiveH canAct now hasDb p).1.2.2.1 = [(.session, q)] ∧
      ((d.receiveH canAct now hasDb p).1.2.2.2 = p ∨ (d.receiveH canAct now hasDb p).1.2.2.2 = q) := by
  cases canAct
  · exact Or.inl ⟨rfl, rfl⟩
  · cases p with
    | junk | portScan | httpResp c => cases d <;> exact Or.inl ⟨rfl, rfl⟩
    | httpReq m pa i =>
      cases d with
      | webServer codes conn => cases m <;> exact Or.inr ⟨_, rfl, rfl, rfl, Or.inl rfl⟩
      | _ => exact Or.inl ⟨rfl, rfl⟩
    | dns name r =>
      cases r with
      | none => cases d with
        | dnsServer tbl => exact Or.inr ⟨_, rfl, rfl, rfl, Or.inr rfl⟩
        | _ => exact Or.inl ⟨rfl, rfl⟩
      | some o => cases d <;> cases o <;> exact Or.inl ⟨rfl, rfl⟩
    | ntp r =>
      cases r with
      | none => cases d with
        | ntpServer => exact Or.inr ⟨_, rfl, rfl, rfl, Or.inr rfl⟩
        | _ => exact Or.inl ⟨rfl, rfl⟩
      | some t => cases d <;> exact Or.inl ⟨rfl, rfl⟩

/-- **A reply is never answered** (so two servers cannot exchange packets without end):
whatever the class and its data, a payload that carries a reply (DNS reply, NTP reply, HTTP response) triggers no send and is
left as it is. -/
theorem C13_reply_never_answered (d : Data) (canAct : Bool) (now : Nat) (hasDb : Option Bool) (p : Payload) (hp : p.isReply = true) :
    (d.receiveH canAct now hasDb p).1.2.2.1 = [] ∧ (d.receiveH canAct now hasDb p).1.2.2.2 = p := by
  rcases receiveH_wire d canAct now hasDb p with h | ⟨_, _, hn, _⟩
  · exact h
  · rw [hp] at hn; cases hn

/-- … and everything a modelled class sends in reaction to a payload is a reply, sent back along the session; at most one;
the payload object afterwards is what it was or carries a reply -/
theorem C13_sends_are_replies (d : Data) (canAct : Bool) (now : Nat) (hasDb : Option Bool) (p : Payload) :
    (∀ x ∈ (d.receiveH canAct now hasDb p).1.2.2.1, x.1 = .session ∧ x.2.isReply = true) ∧
    (d.receiveH canAct now hasDb p).1.2.2.1.length ≤ 1 ∧
    ((d.receiveH canAct now hasDb p).1.2.2.2 = p ∨ (d.receiveH canAct now hasDb p).1.2.2.2.isReply = true) := by
  rcases receiveH_wire d canAct now hasDb p with ⟨h0, h1⟩ | ⟨q, hq, _, h0, h1⟩
  · rw [h0]; exact ⟨nofun, Nat.zero_le _, Or.inl h1⟩
  · rw [h0]
    refine ⟨fun x hx => ?_, Nat.le_refl _, h1.imp id (fun h => by rw [h]; exact hq)⟩
    rw [List.mem_singleton.mp hx]; exact ⟨rfl, hq⟩

/-- **DNS server**: a request is answered with exactly what the table holds for the requested name — the registered address,
or "none" — sent back along the session and written into the packet; the table is untouched; the return value says whether
an address was found.  A packet that already carries a reply, and any other payload, is refused without effect. -/
theorem C13_dns_server_receive (tbl : List (String × Nat)) (now : Nat) (p : Payload) :
    (Data.dnsServer tbl).receive true now p =
      match p with
      | .dns name none =>
        (.dnsServer tbl, Ret.ofBool (dget name tbl).isSome, [(.session, .dns name (some (dget name tbl)))],
         .dns name (some (dget name tbl)))
      | _ => (.dnsServer tbl, .f, [], p) := by
  cases p with
  | dns name r => cases r <;> rfl
  | _ => rfl

/-- `dns_register` then `dns_lookup`: the registered name answers the registered address, every other name answers what it
answered before; on a server that may not act (not RUNNING / node not ON) registering changes nothing and looking up
answers none. -/
theorem C13_dns_register_lookup (nn : NetNode) (u : Nat) (tbl : List (String × Nat)) (name : String) (ip : Nat)
    (hd : dget u nn.data = some (.dnsServer tbl)) :
    (nn.n.handles u = true →
      (nn.dnsRegister u name ip).dnsLookup u name = some ip ∧
      ∀ other, other ≠ name → (nn.dnsRegister u name ip).dnsLookup u other = nn.dnsLookup u other) ∧
    (nn.n.handles u = false → nn.dnsRegister u name ip = nn ∧ ∀ x, nn.dnsLookup u x = none) := by
  constructor
  · intro hh
    have hn : (nn.setData u (Data.dnsServer (dset name ip tbl))).n = nn.n := rfl
    constructor
    · simp [NetNode.dnsRegister, NetNode.dnsLookup, hd, hh, NetNode.setData, dget_dset]
    · intro other ho
      simp [NetNode.dnsRegister, NetNode.dnsLookup, hd, hh, NetNode.setData, dget_dset, Ne.symm ho]
  · intro hh
    simp [NetNode.dnsRegister, NetNode.dnsLookup, hd, hh]

/-- **DNS client**: it caches exactly what was answered — a reply carrying an address is stored under the requested name
(True); a reply without an address, a request, and any other payload leave the cache as it is (False). -/
theorem C13_dns_client_receive (cache : List (String × Nat)) (srv : Option Nat) (now : Nat) (p : Payload) :
    (Data.dnsClient cache srv).receive true now p =
      match p with
      | .dns name (some (some ip)) => (.dnsClient (dset name ip cache) srv, .t, [], p)
      | _ => (.dnsClient cache srv, .f, [], p) := by
  cases p with
  | dns name r =>
    cases r with
    | none => rfl
    | some o => cases o <;> rfl
  | _ => rfl

/-- **NTP server**: a request is answered with the clock reading (sent back along the session); a packet that carries a
reply, and any other payload, is refused.  **NTP client**: a reply sets the time to exactly the reading it carries; a
packet without a reply (another client's request) is refused, without raising. -/
theorem C13_ntp_receive (now : Nat) (t : Option Nat) (srv : Option Nat) (p : Payload) :
    (Data.ntpServer.receive true now p =
      match p with
      | .ntp none => (.ntpServer, .t, [(.session, .ntp (some now))], .ntp (some now))
      | _ => (.ntpServer, .f, [], p)) ∧
    ((Data.ntpClient t srv).receive true now p =
      match p with
      | .ntp (some r) => (.ntpClient (some r) srv, .t, [], p)
      | _ => (.ntpClient t srv, .f, [], p)) := by
  cases p with
  | ntp r => cases r <;> exact ⟨rfl, rfl⟩
  | _ => exact ⟨rfl, rfl⟩

/-- **Web server, status code.**  `GET` of the site root → 200; of a `users…` path → 200 with health GOOD when the database
answers the query, 404 with health COMPROMISED when the query fails, 500 (health untouched, nothing cached) when no database
connection can be had — a cached connection is reused, otherwise the node's database client is asked once and the connection
it hands out is cached; of any other path → 404. -/
theorem C13_web_get_status (path : PathKind) (conn db : Option Bool) :
    webGet path conn db =
      match path with
      | .root => (200, conn, none)
      | .other => (404, conn, none)
      | .users =>
        match (match conn with | some ok => some ok | none => db) with
        | none => (500, none, none)
        | some true => (200, some true, some .good)
        | some false => (404, some false, some .compromised) := by
  cases path with
  | root => rfl
  | other => rfl
  | users =>
    cases conn with
    | some ok => cases ok <;> rfl
    | none =>
      cases db with
      | none => rfl
      | some ok => cases ok <;> rfl

/-- **Web server, `receive`.**  A RUNNING web server answers every HTTP request with exactly one response, sent back along the
session, and records its status in `response_codes_this_timestep`: GET as `C13_web_get_status` says, POST and any other method
405 (every response carries a status); returns True iff the status is 200; health is written only by a `users…` GET that got
a connection.  Anything that is not an HTTP request is refused without effect. -/
theorem C13_web_server_receive (codes : List Nat) (conn : Option Bool) (now : Nat) (db : Option Bool) (p : Payload) :
    (Data.webServer codes conn).receiveH true now db p =
      match p with
      | .httpReq .get path _ =>
        ((.webServer (codes ++ [(webGet path conn db).1]) (webGet path conn db).2.1,
          Ret.ofBool ((webGet path conn db).1 == 200), [(.session, .httpResp (webGet path conn db).1)], p),
         (webGet path conn db).2.2)
      | .httpReq _ _ _ => ((.webServer (codes ++ [405]) conn, .f, [(.session, .httpResp 405)], p), none)
      | _ => ((.webServer codes conn, .f, [], p), none) := by
  cases p with
  | httpReq m path i => cases m <;> rfl
  | dns name r => cases r <;> rfl
  | ntp r => cases r <;> rfl
  | _ => rfl

/-- **Web browser, `receive`**: an HTTP response becomes `latest_response` (True); anything else is refused; history and the
configured target are not touched by `receive`. -/
theorem C13_web_browser_receive (latest : Option (Option Nat)) (hist : List (Nat × Option (Option Nat))) (tgt : Option Nat)
    (now : Nat) (db : Option Bool) (p : Payload) :
    (Data.webBrowser latest hist tgt).receiveH true now db p =
      match p with
      | .httpResp code => ((.webBrowser (some (some code)) hist tgt, .t, [], p), none)
      | _ => ((.webBrowser latest hist tgt, .f, [], p), none) := by
  cases p with
  | dns name r => cases r <;> rfl
  | ntp r => cases r <;> rfl
  | _ => rfl

theorem get_set_same (w : World) (side : Side) (nn : NetNode) : (w.set side nn).get side = nn := by
  cases side <;> rfl

theorem get_set_other (w : World) (side : Side) (nn : NetNode) : (w.set side nn).get side.other = w.get side.other := by
  cases side <;> rfl

theorem get_withLog (w : World) (l : List (Side × RecvRec)) (sd : Side) : ({ w with log := l } : World).get sd = w.get sd := by
  cases sd <;> rfl

theorem set_other_get (w : World) (side : Side) (nn : NetNode) : (w.set side.other nn).get side = w.get side := by
  cases side <;> rfl

theorem set_overflow (w : World) (sd : Side) (nn : NetNode) : (w.set sd nn).overflow = w.overflow := by
  cases sd <;> rfl

/-- what `World.run` may change: nothing of either node's lifecycle / registries, no data of an object that may not act -/
def Frame (w w' : World) : Prop :=
  (∀ side, LifeEq (w.get side).n (w'.get side).n ∧ (w'.get side).addr = (w.get side).addr ∧ (w'.get side).now = (w.get side).now) ∧
  (∀ side v, (w.get side).n.handles v = false →
    dget v (w'.get side).data = dget v (w.get side).data ∧ actualOf (w'.get side).n v = actualOf (w.get side).n v) ∧
  (∃ extra, w'.log = w.log ++ extra ∧ ∀ e ∈ extra, e.2.handled = (w.get e.1).n.handles e.2.uid ∧
      (e.2.handled = false → e.2.ret = none ∨ e.2.ret = some .f))

theorem Frame.refl (w : World) : Frame w w :=
  ⟨fun _ => ⟨LifeEq.refl _, rfl, rfl⟩, fun _ _ _ => ⟨rfl, rfl⟩, [], by simp, by simp⟩

theorem Frame.trans {w1 w2 w3 : World} (h12 : Frame w1 w2) (h23 : Frame w2 w3) : Frame w1 w3 := by
  obtain ⟨a1, b1, e1, c1, d1⟩ := h12
  obtain ⟨a2, b2, e2, c2, d2⟩ := h23
  refine ⟨fun side => ⟨LifeEq.trans (a1 side).1 (a2 side).1, (a2 side).2.1.trans (a1 side).2.1, (a2 side).2.2.trans (a1 side).2.2⟩,
    fun side v hv => ?_, e1 ++ e2, by rw [c2, c1, List.append_assoc], ?_⟩
  · obtain ⟨x1, x2⟩ := b1 side v hv
    obtain ⟨y1, y2⟩ := b2 side v (by rw [(a1 side).1.handles]; exact hv)
    exact ⟨y1.trans x1, y2.trans x2⟩
  · intro e he
    rcases List.mem_append.mp he with he | he
    · exact d1 e he
    · have := d2 e he
      rw [(a1 e.1).1.handles] at this
      exact this

/-- **The transport keeps the running-guard**: whatever is in flight and however long the exchange (any fuel, any stack of
pending frames and `receive` calls), no node's registries, power or operating states change (`LifeEq`), no object that may not
act has its data or its health changed, and every `receive` call made is recorded with `handled` = "node ON and RUNNING". -/
theorem C13_world_run_frame (f : Nat) (w : World) (items : List World.Item) : Frame w (World.run f w items) := by
  induction f, w, items using World.run.induct with
  | case1 f w => simp only [World.run]; exact Frame.refl w
  | case2 w i rest =>
    simp only [World.run]
    exact ⟨fun side => by cases side <;> exact ⟨LifeEq.refl _, rfl, rfl⟩, fun side v _ => by cases side <;> exact ⟨rfl, rfl⟩,
      [], by simp, by simp⟩
  | case3 f w side s rest hr ih => simp only [World.run, hr]; exact ih
  | case4 f w side s rest tgt hr ih => simp only [World.run, hr]; exact ih
  | case5 f w side port proto p rest ih => simp only [World.run]; exact ih
  | case6 f w side u copy us port proto p rest nn1 r s p' hR ih =>
    simp only [World.run, hR]
    refine Frame.trans ?_ ih
    obtain ⟨h1, h2, h3, h4, h5, _, h7, _⟩ := recvAt_spec (w.get side) u port proto p
    have hb := recvAt_blocked_other (w.get side) u port proto p
    simp only [hR] at h1 h2 h3 h4 h5 h7 hb
    refine ⟨fun sd => ?_, fun sd v hv => ?_, [(side, r)], rfl, ?_⟩
    · cases side <;> cases sd <;> first | exact ⟨h1.lifeEq, h3, h2⟩ | exact ⟨LifeEq.refl _, rfl, rfl⟩
    · cases side <;> cases sd <;> first | exact hb v hv | exact ⟨rfl, rfl⟩
    · intro e he
      rw [List.mem_singleton.mp he]
      show r.handled = (w.get side).n.handles r.uid ∧ _
      rw [h4]
      exact ⟨h5, fun hh => (h7 (h5 ▸ hh)).2.2.2.2⟩

/-- hence for every way of starting an exchange (a send, a DNS query, an NTP request, an injected frame) -/
theorem C13_world_only_running (w : World) (side : Side) (u ip port proto : Nat) (p : Payload) (name : String) (h : Hdr)
    (viaHost : Bool) :
    Frame w (w.send side u ip port proto p) ∧ Frame w (w.dnsQuery side u name).1 ∧ Frame w (w.ntpRequest side u) ∧
    Frame w (w.inject side viaHost h p).1 := by
  refine ⟨C13_world_run_frame _ _ _, ?_, ?_, ?_⟩
  · unfold World.dnsQuery
    split
    · exact Frame.refl w
    · exact Frame.refl w
    · exact C13_world_run_frame _ _ _
  · unfold World.ntpRequest
    split
    · exact C13_world_run_frame _ _ _
    · exact Frame.refl w
  · unfold World.inject
    split
    · exact Frame.refl w
    · split
      · exact Frame.refl w
      · exact C13_world_run_frame _ _ _

theorem handles_isOn (n : Node) (u : Nat) (h : n.handles u = true) : n.isOn = true := by
  unfold Node.handles at h
  simp only [Bool.and_eq_true] at h
  exact h.1

theorem hdrOf_udp (p : Nat) : World.hdrOf p 2 = some (.udp p) := by simp [World.hdrOf]

theorem hdrOf_tcp (p : Nat) : World.hdrOf p 1 = some (.tcp p) := by simp [World.hdrOf]

theorem setData_data (nn : NetNode) (x : Nat) (d : Data) : (nn.setData x d).data = dset x d nn.data := rfl

theorem setData_n (nn : NetNode) (x : Nat) (d : Data) : (nn.setData x d).n = nn.n := rfl

theorem isScan_of_isReply (p : Payload) (h : p.isReply = true) : p.isScan = false := by
  cases p <;> first | rfl | cases h

/-- what one `receive` call puts on the wire: nothing, or — only for a payload that does not itself carry a reply — one reply back
along the session on the port it came in on; the payload afterwards is what it was or carries a reply -/
theorem recvAt_wire (nn : NetNode) (u port proto : Nat) (p : Payload) :
    ((nn.recvAt u port proto p).2.2.1 = [] ∨
      ∃ q, q.isReply = true ∧ p.isReply = false ∧
        (nn.recvAt u port proto p).2.2.1 = [{ src := u, dst := .session, port := port, proto := proto, payload := q }]) ∧
    ((nn.recvAt u port proto p).2.2.2 = p ∨ (nn.recvAt u port proto p).2.2.2.isReply = true) := by
  unfold NetNode.recvAt
  cases hd : dget u nn.data with
  | none => exact ⟨Or.inl rfl, Or.inl rfl⟩
  | some d =>
    simp only
    rcases receiveH_wire d (nn.n.handles u) nn.now nn.dbVerdict p with ⟨h0, h1⟩ | ⟨q, hq, hp, h0, h1⟩
    · rw [h0]; exact ⟨Or.inl rfl, Or.inl h1⟩
    · rw [h0]
      exact ⟨Or.inr ⟨q, hq, hp, rfl⟩, h1.imp id (fun h => by rw [h]; exact hq)⟩

theorem route_some (w : World) (side : Side) (s : Sent) (hd : Hdr) (hh : World.hdrOf s.port s.proto = some hd)
    (ha : s.dst = .session ∨ s.dst = .ip (w.get side.other).addr)
    (h1 : (w.get side).n.isOn = true) (h2 : (w.get side.other).n.isOn = true)
    (h3 : (w.get side.other).n.frameAccepted hd s.payload.isScan = true) : w.route side s = some side.other := by
  unfold World.route
  rcases ha with ha | ha <;> simp [hh, ha, h1, h2, h3]

/-- one frame on the wire that reaches `tgt` and has a single receiver `v` there: the frame and the `receive` call are two steps -/
theorem run_tx_one (f : Nat) (w : World) (side tgt : Side) (s : Sent) (rest : List World.Item) (v : Nat) (copy : Bool)
    (nn' : NetNode) (r : RecvRec) (sents : List Sent) (p' : Payload)
    (hr : w.route side s = some tgt) (hp : recvCalls (w.get tgt).n s.port s.proto s.payload.isScan = [(v, copy)])
    (hR : (w.get tgt).recvAt v s.port s.proto s.payload = (nn', r, sents, p')) :
    World.run (f + 2) w (.tx side s :: rest) =
      World.run f { w.set tgt nn' with log := w.log ++ [(tgt, r)] }
        (sents.map (World.Item.tx tgt) ++ (.rx tgt [] s.port s.proto (if copy then s.payload else p') :: rest)) := by
  simp only [World.run, hr, hp, hR]

/-- **A request and its answer.**  A payload sent to the peer, which accepts the frame and has the single receiver `v`; whatever `v`
answers comes back to the single receiver `u`: the whole exchange is these two `receive` calls (a reply is never answered, so the
transport stops there).  `w` is the world the hypotheses speak of, `w'` the world the payload is sent in: the sender's class data may
differ (the browser presets its `latest_response` before it sends). -/
theorem send_round_trip (w w' : World) (side : Side) (src u v port proto : Nat) (p : Payload) (hd : Hdr)
    (nnB : NetNode) (rB : RecvRec) (sB : List Sent) (pB : Payload)
    (hA : (w'.get side).n = (w.get side).n) (hO : w'.get side.other = w.get side.other)
    (hh : World.hdrOf port proto = some hd)
    (hon1 : (w.get side).n.isOn = true) (hon : (w.get side.other).n.isOn = true)
    (hacc : (w.get side.other).n.frameAccepted hd p.isScan = true)
    (hpath : recvCalls (w.get side.other).n port proto p.isScan = [(v, false)])
    (hacc2 : (w.get side).n.frameAccepted hd false = true)
    (hpath2 : recvCalls (w.get side).n port proto false = [(u, false)])
    (hB : (w.get side.other).recvAt v port proto p = (nnB, rB, sB, pB)) :
    w'.send side src (w.get side.other).addr port proto p =
      match (generalizing := false) sB with
      | [] => { w'.set side.other nnB with log := w'.log ++ [(side.other, rB)] }
      | s :: _ =>
        { (w'.set side.other nnB).set side ((w'.get side).recvAt u port proto s.payload).1 with
          log := w'.log ++ [(side.other, rB), (side, ((w'.get side).recvAt u port proto s.payload).2.1)] } := by
  rw [← hO] at hon hacc hpath hB ⊢
  rw [← hA] at hon1 hacc2 hpath2
  have hle : LifeEq (w'.get side.other).n nnB.n := by
    have := (recvAt_spec (w'.get side.other) v port proto p).1.lifeEq
    rwa [hB] at this
  have hw := (recvAt_wire (w'.get side.other) v port proto p).1
  rw [hB] at hw
  unfold World.send
  rw [show World.fuel = 4094 + 2 from rfl,
    run_tx_one 4094 w' side side.other _ [] v false nnB rB sB pB (route_some w' side _ hd hh (Or.inr rfl) hon1 hon hacc) hpath hB]
  rcases hw with rfl | ⟨q, hq, _, rfl⟩
  · simp only [List.map_nil, List.nil_append, World.run]
  · simp only [List.map_cons, List.map_nil, List.cons_append, List.nil_append]
    have hsc := isScan_of_isReply q hq
    have hwA := (recvAt_wire (w'.get side) u port proto q).1
    rcases hRA : (w'.get side).recvAt u port proto q with ⟨nnA, rA, sA, pA⟩
    rw [hRA] at hwA
    -- the answer is a reply: `u` sends nothing, the exchange is over
    obtain rfl : sA = [] := hwA.resolve_right fun ⟨_, _, hn, _⟩ => by rw [hq] at hn; cases hn
    rw [show (4094 : Nat) = 4092 + 2 from rfl, run_tx_one 4092 _ side.other side _ _ u false nnA rA [] pA ?_ ?_
      (by rw [get_withLog, set_other_get]; exact hRA)]
    · simp only [List.map_nil, List.nil_append, World.run, List.append_assoc, List.cons_append]
      cases side <;> rfl
    · have := route_some { w'.set side.other nnB with log := w'.log ++ [(side.other, rB)] } side.other
        { src := v, dst := .session, port := port, proto := proto, payload := q } hd hh (Or.inl rfl)
      cases side <;> simp only [Side.other, World.get, World.set] at this hle hon hon1 hacc2 ⊢ <;>
        exact this (by rw [hle.isOn]; exact hon) hon1 (by rw [hsc]; exact hacc2)
    · simp only [get_withLog, set_other_get, hsc]; exact hpath2

/-- **A DNS lookup, end to end.**  A DNS client `u` on one node (RUNNING, node ON, name not cached, configured with the
peer's address), the peer's port 53/tcp owned by a DNS server `v` (the only receiver there), the client the only receiver
of 53/tcp on its own node, both frames accepted.  Then `check_domain_exists(name)`:
* if the server is RUNNING on an ON node: answers True iff the name is registered; the client's cache afterwards is the
  old cache plus exactly `name ↦ registered address` (unchanged when the name is not registered); the server's table is
  untouched; the exchange ends (the transport does not run out of fuel);
* if the server may not act (not RUNNING): answers False and the cache is unchanged. -/
theorem C13_dns_lookup_end_to_end (w : World) (side : Side) (u v : Nat) (name : String)
    (cache tbl : List (String × Nat)) (srv : Nat)
    (hcl : dget u (w.get side).data = some (.dnsClient cache (some srv)))
    (hact : (w.get side).n.handles u = true)
    (hmiss : dhas name cache = false)
    (haddr : srv = (w.get side.other).addr)
    (hon : (w.get side.other).n.isOn = true)
    (hacc : (w.get side.other).n.frameAccepted (.tcp 53) false = true)
    (hpath : recvCalls (w.get side.other).n 53 1 false = [(v, false)])
    (hsrv : dget v (w.get side.other).data = some (.dnsServer tbl))
    (hacc2 : (w.get side).n.frameAccepted (.tcp 53) false = true)
    (hpath2 : recvCalls (w.get side).n 53 1 false = [(u, false)]) :
    ((w.get side.other).n.handles v = true →
      (w.dnsQuery side u name).2 = (dget name tbl).isSome ∧
      dget u ((w.dnsQuery side u name).1.get side).data =
        some (.dnsClient (match dget name tbl with | some ip => dset name ip cache | none => cache) (some srv)) ∧
      dget v ((w.dnsQuery side u name).1.get side.other).data = some (.dnsServer tbl) ∧
      (w.dnsQuery side u name).1.overflow = w.overflow) ∧
    ((w.get side.other).n.handles v = false →
      (w.dnsQuery side u name).2 = false ∧
      dget u ((w.dnsQuery side u name).1.get side).data = some (.dnsClient cache (some srv))) := by
  subst haddr
  have hm : dget name cache = none := by simpa [dhas] using hmiss
  simp only [World.dnsQuery, NetNode.dnsLookupLocal, hcl, hact, hmiss, Bool.not_true, Bool.false_eq_true, if_false]
  rw [send_round_trip w w side u u v 53 1 (.dns name none) (.tcp 53) _ _ _ _ rfl rfl (hdrOf_tcp 53) (handles_isOn _ _ hact) hon
    hacc hpath hacc2 hpath2 rfl]
  -- the server's `receive`, then (if it answered) the client's
  cases hsact : (w.get side.other).n.handles v <;> cases hlk : dget name tbl <;>
    simp [NetNode.recvAt, hsrv, hact, hcl, hlk, hm, Data.receiveH, Data.receive, applyHealthWrite, get_withLog, get_set_same,
      set_other_get, get_set_other, NetNode.dnsCached, dget_dset, Ret.ofBool]
  all_goals rw [set_overflow, set_overflow]

/-- non-vacuity of `C13_dns_lookup_end_to_end`, and the lookup of an unregistered name: node a = a computer's dns-client
configured with b's address, node b = dns-client + dns-server (the server, installed later, owns 53/tcp). -/
example :
    let cl : Cls := { cid := "DNSClient", name := "dns-client", port := 53, proto := 1 }
    let sv : Cls := { cid := "DNSServer", name := "dns-server", port := 53, proto := 1 }
    let a : NetNode := (({ addr := 1, n := ({} : Node).run [.installSvc cl true [] .good 2] } : NetNode).adopt).setData 0
      (.dnsClient [] (some 2))
    let b : NetNode := (({ addr := 2, n := ({} : Node).run [.installSvc cl true [] .good 2, .installSvc sv true [] .good 2] } :
      NetNode).adopt).setData 1 (.dnsServer [("x.test", 77)])
    let w : World := { a := a, b := b }
    (w.dnsQuery .a 0 "x.test").2 = true ∧ (w.dnsQuery .a 0 "x.test").1.a.dnsCached 0 "x.test" = some 77 ∧
    (w.dnsQuery .a 0 "y.test").2 = false ∧ (w.dnsQuery .a 0 "y.test").1.a.data = a.data ∧
    (w.dnsQuery .a 0 "x.test").1.log.map (fun e => (e.1, e.2.uid, e.2.handled)) = [(.b, 1, true), (.a, 0, true)] := by decide +kernel

/-- **A frame for a closed port changes nothing**: when the peer does not accept the frame (its port has no RUNNING owner,
or a node is not ON), a send leaves the whole world as it was. -/
theorem C13_closed_port_drops (w : World) (side : Side) (u ip port proto : Nat) (p : Payload)
    (h : w.route side { src := u, dst := .ip ip, port := port, proto := proto, payload := p } = none) :
    w.send side u ip port proto p = w := by
  simp [World.send, World.fuel, World.run, h]

theorem route_none_of_closed (w : World) (side : Side) (s : Sent)
    (h : ∀ hd, World.hdrOf s.port s.proto = some hd → (w.get side.other).n.frameAccepted hd s.payload.isScan = false) :
    w.route side s = none := by
  unfold World.route
  cases hh : World.hdrOf s.port s.proto with
  | none => rfl
  | some hd => simp [h hd hh]

/-- **An NTP time request, end to end.**  An NTP client `u` configured with the peer's address, both nodes ON, 123/udp on
the peer owned by an NTP server `v` (the only receiver there), the client the only receiver of 123/udp on its own node,
both frames accepted.  After `request_time()`: if both the server and the client are RUNNING, the client's time is exactly the
server's clock reading; if either is not RUNNING, the client's time is what it was. -/
theorem C13_ntp_request_end_to_end (w : World) (side : Side) (u v : Nat) (t : Option Nat) (srv : Nat)
    (hcl : dget u (w.get side).data = some (.ntpClient t (some srv)))
    (haddr : srv = (w.get side.other).addr)
    (hon1 : (w.get side).n.isOn = true)
    (hon : (w.get side.other).n.isOn = true)
    (hacc : (w.get side.other).n.frameAccepted (.udp 123) false = true)
    (hpath : recvCalls (w.get side.other).n 123 2 false = [(v, false)])
    (hsrv : dget v (w.get side.other).data = some .ntpServer)
    (hacc2 : (w.get side).n.frameAccepted (.udp 123) false = true)
    (hpath2 : recvCalls (w.get side).n 123 2 false = [(u, false)]) :
    ((w.get side.other).n.handles v = true → (w.get side).n.handles u = true →
      ((w.ntpRequest side u).get side).ntpTime u = some (w.get side.other).now ∧
      (w.ntpRequest side u).overflow = w.overflow) ∧
    ((w.get side.other).n.handles v = false ∨ (w.get side).n.handles u = false →
      ((w.ntpRequest side u).get side).ntpTime u = t) := by
  subst haddr
  have hreq : w.ntpRequest side u = w.send side u (w.get side.other).addr 123 2 (.ntp none) := by
    unfold World.ntpRequest
    simp only [hcl]
  rw [hreq, send_round_trip w w side u u v 123 2 (.ntp none) (.udp 123) _ _ _ _ rfl rfl (hdrOf_udp 123) hon1 hon hacc hpath hacc2
    hpath2 rfl]
  -- the server's `receive`, then (if it answered) the client's
  cases hsact : (w.get side.other).n.handles v <;> cases hact : (w.get side).n.handles u <;>
    simp [NetNode.recvAt, hsrv, hact, hcl, Data.receiveH, Data.receive, applyHealthWrite, get_withLog, get_set_same,
      set_other_get, NetNode.ntpTime, dget_dset]
  rw [set_overflow, set_overflow]

/-- **A page fetch, end to end.**  A RUNNING web browser `u` on an ON node fetches a URL whose host name is in the cache of
the node's (RUNNING) DNS client and resolves to the peer's address; the peer is ON, the URL's port (80 by default) is owned
there by a web server `v` as the only receiver, and the browser is the only receiver of that port on its own node, both
frames accepted.  Then `get_webpage`:
* if the web server is RUNNING: the status is what `C13_web_get_status` says for the URL's path and the server's database
  situation; the browser's `latest_response` is that status, its history gains exactly `(url, LOADED status)`, the answer is
  True iff the status is 200; the server's `response_codes_this_timestep` gains exactly that status;
* if the web server may not act: nothing answers — `latest_response` stays at the preset 404, the history gains
  `(url, LOADED 404)`, the answer is False, the server's data is untouched. -/
theorem C13_browse_end_to_end (w : World) (side : Side) (u dc v : Nat) (url : World.Url) (name : String) (ip : Nat)
    (latest : Option (Option Nat)) (hist : List (Nat × Option (Option Nat))) (tgt : Option Nat)
    (cache : List (String × Nat)) (srv : Option Nat) (codes : List Nat) (conn : Option Bool)
    (hbr : dget u (w.get side).data = some (.webBrowser latest hist tgt))
    (hact : (w.get side).n.handles u = true)
    (hhost : url.host = .name name)
    (hdc : dget "dns-client" (w.get side).n.software = some dc) (hne : u ≠ dc)
    (hdcd : dget dc (w.get side).data = some (.dnsClient cache srv))
    (hdcact : (w.get side).n.handles dc = true)
    (hcached : dget name cache = some ip)
    (hip : ip = (w.get side.other).addr)
    (hon : (w.get side.other).n.isOn = true)
    (hacc : (w.get side.other).n.frameAccepted (.tcp (url.port.getD 80)) false = true)
    (hpath : recvCalls (w.get side.other).n (url.port.getD 80) 1 false = [(v, false)])
    (hsrv : dget v (w.get side.other).data = some (.webServer codes conn))
    (hacc2 : (w.get side).n.frameAccepted (.tcp (url.port.getD 80)) false = true)
    (hpath2 : recvCalls (w.get side).n (url.port.getD 80) 1 false = [(u, false)]) :
    let code := (webGet url.path conn (w.get side.other).dbVerdict).1
    ((w.get side.other).n.handles v = true →
      (w.browse side u (some url)).2 = .ret (code == 200) ∧
      dget u ((w.browse side u (some url)).1.get side).data =
        some (.webBrowser (some (some code)) (hist ++ [(url.id, some (some code))]) tgt) ∧
      dget v ((w.browse side u (some url)).1.get side.other).data =
        some (.webServer (codes ++ [code]) (webGet url.path conn (w.get side.other).dbVerdict).2.1)) ∧
    ((w.get side.other).n.handles v = false →
      (w.browse side u (some url)).2 = .ret false ∧
      dget u ((w.browse side u (some url)).1.get side).data =
        some (.webBrowser (some (some 404)) (hist ++ [(url.id, some (some 404))]) tgt) ∧
      dget v ((w.browse side u (some url)).1.get side.other).data = some (.webServer codes conn)) := by
  intro code
  have hon1 := handles_isOn _ _ hact
  subst hip
  have hc : dhas name cache = true := by simp [dhas, hcached]
  -- the request is sent in the world with `latest_response` preset to 404 and nothing else touched
  have hrt := send_round_trip w (w.set side ((w.get side).setData u (.webBrowser (some (some 404)) hist tgt))) side u u v
    (url.port.getD 80) 1 (.httpReq .get url.path url.id) (.tcp (url.port.getD 80)) _ _ _ _
    (by rw [get_set_same]; rfl) (get_set_other w side _) (hdrOf_tcp _) hon1 hon hacc hpath hacc2 hpath2 rfl
  cases hsact : (w.get side.other).n.handles v <;>
    simp [World.browse, hbr, hact, hdc, World.dnsQuery, NetNode.dnsLookupLocal, setData_data, setData_n, get_set_same, dget_dset, hne, hdcd,
      hdcact, hc, hhost, World.Host.text, NetNode.dnsCached, hcached, World.sendOk, get_set_other, hon, hon1, hrt,
      NetNode.recvAt, hsrv, hsact, Data.receiveH, applyHealthWrite, get_withLog, set_other_get, code]

/-- **Fetching on a node whose dns-client has been uninstalled** (`get_webpage` does not raise): nobody is
asked to resolve anything.  A URL whose host is a NAME fails the documented way — `latest_response` is the preset 404, the history
gains nothing, no `receive` call is made anywhere, the answer is False.  A URL whose host is a literal ADDRESS is fetched exactly
as on a node with a dns-client (minus the DNS traffic): same status, same history entry, same effect on the server. -/
theorem C13_browse_without_dns_client (w : World) (side : Side) (u v : Nat) (url : World.Url)
    (latest : Option (Option Nat)) (hist : List (Nat × Option (Option Nat))) (tgt : Option Nat)
    (codes : List Nat) (conn : Option Bool)
    (hbr : dget u (w.get side).data = some (.webBrowser latest hist tgt))
    (hact : (w.get side).n.handles u = true)
    (hdc : dget "dns-client" (w.get side).n.software = none) :
    (∀ name, url.host = .name name →
      (w.browse side u (some url)).2 = .ret false ∧
      dget u ((w.browse side u (some url)).1.get side).data = some (.webBrowser (some (some 404)) hist tgt) ∧
      (w.browse side u (some url)).1.log = w.log) ∧
    (∀ text, url.host = .addr (w.get side.other).addr text →
      (w.get side.other).n.isOn = true →
      (w.get side.other).n.frameAccepted (.tcp (url.port.getD 80)) false = true →
      recvCalls (w.get side.other).n (url.port.getD 80) 1 false = [(v, false)] →
      dget v (w.get side.other).data = some (.webServer codes conn) →
      (w.get side.other).n.handles v = true →
      (w.get side).n.frameAccepted (.tcp (url.port.getD 80)) false = true →
      recvCalls (w.get side).n (url.port.getD 80) 1 false = [(u, false)] →
      let code := (webGet url.path conn (w.get side.other).dbVerdict).1
      (w.browse side u (some url)).2 = .ret (code == 200) ∧
      dget u ((w.browse side u (some url)).1.get side).data =
        some (.webBrowser (some (some code)) (hist ++ [(url.id, some (some code))]) tgt) ∧
      dget v ((w.browse side u (some url)).1.get side.other).data =
        some (.webServer (codes ++ [code]) (webGet url.path conn (w.get side.other).dbVerdict).2.1)) := by
  have hon1 := handles_isOn _ _ hact
  constructor
  · intro name hhost
    simp [World.browse, hbr, hact, hdc, hhost, setData_data, setData_n, get_set_same, dget_dset]
    cases side <;> rfl
  · intro text hhost hon hacc hpath hsrv hsact hacc2 hpath2 code
    have hrt := send_round_trip w (w.set side ((w.get side).setData u (.webBrowser (some (some 404)) hist tgt))) side u u v
      (url.port.getD 80) 1 (.httpReq .get url.path url.id) (.tcp (url.port.getD 80)) _ _ _ _
      (by rw [get_set_same]; rfl) (get_set_other w side _) (hdrOf_tcp _) hon1 hon hacc hpath hacc2 hpath2 rfl
    simp [World.browse, hbr, hact, hdc, setData_data, setData_n, get_set_same, dget_dset, hhost, World.sendOk, get_set_other, hon, hon1, hrt,
      NetNode.recvAt, hsrv, hsact, Data.receiveH, applyHealthWrite, get_withLog, code]

theorem recvCalls_length_le (n : Node) (port proto : Nat) (scan : Bool) :
    (recvCalls n port proto scan).length ≤ n.software.length + 1 := by
  unfold recvCalls receivePath
  cases scan
  · simp only [Bool.false_eq_true, if_false, List.length_map, List.length_append, List.append_nil]
    have h2 : ∀ mr : Option SwView, ((softwareValues n).filter fun software =>
        software.listen.contains port && (some software != mr)).length ≤ n.software.length := fun mr =>
      Nat.le_trans (List.length_filter_le _ _) (by unfold softwareValues; exact List.length_filterMap_le _ _)
    cases hm : portMapGet n (port, proto) with
    | none => have := h2 none; simp only [List.length_nil]; omega
    | some x => have := h2 (some x); simp only [List.length_cons, List.length_nil]; omega
  · simp only [if_true, List.append_nil, List.length_map]
    cases softwareGet n "nmap" <;> simp

/-- cost of one `receive` call still to be made with payload `p`: the call itself, and — unless `p` carries a reply, which is
never answered — one reply on the wire (`K + 2`: the frame, at most `K` `receive` calls for it, the end of that delivery) -/
def callCost (K : Nat) (p : Payload) : Nat := if p.isReply then 1 else K + 3

def itemCost (K : Nat) : World.Item → Nat
  | .tx _ s => 2 + K * callCost K s.payload
  | .rx _ calls _ _ p => 1 + calls.length * callCost K p

def stackCost (K : Nat) : List World.Item → Nat
  | [] => 0
  | i :: t => itemCost K i + stackCost K t

theorem stackCost_append (K : Nat) (l1 l2 : List World.Item) : stackCost K (l1 ++ l2) = stackCost K l1 + stackCost K l2 := by
  induction l1 with
  | nil => simp [stackCost]
  | cons a t ih => simp [stackCost, ih, Nat.add_assoc]

theorem callCost_le (K : Nat) (p : Payload) : callCost K p ≤ K + 3 := by
  unfold callCost; split <;> omega

theorem callCost_pos (K : Nat) (p : Payload) : 1 ≤ callCost K p := by
  unfold callCost; split <;> omega

/-- every delivery on either node has at most `K` receivers -/
def Small (K : Nat) (w : World) : Prop := w.a.n.software.length + 1 ≤ K ∧ w.b.n.software.length + 1 ≤ K

/-- **The transport terminates.**  With at most `K - 1` programs installed per node, any stack of pending frames and
`receive` calls is worked off within `stackCost K` steps: `run` does not run out of fuel.  (Each step lowers the cost: a reply
is never answered, and anything else is answered by at most one reply.) -/
theorem C13_world_run_terminates (K : Nat) (f : Nat) (w : World) (items : List World.Item) (hs : Small K w)
    (hf : stackCost K items ≤ f) : (World.run f w items).overflow = w.overflow := by
  induction f, w, items using World.run.induct with
  | case1 f w => simp only [World.run]
  | case2 w i rest =>
    exfalso
    cases i <;> simp only [stackCost, itemCost] at hf <;> omega
  | case3 f w side s rest hr ih =>
    simp only [stackCost, itemCost] at hf
    simp only [World.run, hr]
    exact ih hs (by omega)
  | case4 f w side s rest tgt hr ih =>
    simp only [stackCost, itemCost] at hf
    simp only [World.run, hr]
    refine ih hs ?_
    simp only [stackCost, itemCost]
    have hlen : (recvCalls (w.get tgt).n s.port s.proto s.payload.isScan).length ≤ K := by
      have := recvCalls_length_le (w.get tgt).n s.port s.proto s.payload.isScan
      cases tgt
      · have := hs.1; simp only [World.get] at *; omega
      · have := hs.2; simp only [World.get] at *; omega
    have := Nat.mul_le_mul_right (callCost K s.payload) hlen
    omega
  | case5 f w side port proto p rest ih =>
    simp only [stackCost, itemCost] at hf
    simp only [World.run]
    exact ih hs (by omega)
  | case6 f w side u copy us port proto p rest nn' r sents p' hR ih =>
    simp only [stackCost, itemCost, List.length_cons] at hf
    obtain ⟨h1, _⟩ := recvAt_spec (w.get side) u port proto p
    obtain ⟨hw, hp'⟩ := recvAt_wire (w.get side) u port proto p
    simp only [hR] at h1 hw hp'
    simp only [World.run, hR]
    have hs' : Small K { w.set side nn' with log := w.log ++ [(side, r)] } := by
      cases side
      · exact ⟨by show nn'.n.software.length + 1 ≤ K; rw [h1.lifeEq.software]; exact hs.1, hs.2⟩
      · exact ⟨hs.1, by show nn'.n.software.length + 1 ≤ K; rw [h1.lifeEq.software]; exact hs.2⟩
    have hov : ({ w.set side nn' with log := w.log ++ [(side, r)] } : World).overflow = w.overflow := by
      cases side <;> rfl
    rw [← hov]
    refine ih hs' ?_
    rw [stackCost_append]
    simp only [stackCost, itemCost]
    -- the cost of what this call put on the wire, and of the remaining calls with the payload as it is now
    have hsent : stackCost K (sents.map (World.Item.tx side)) + 1 ≤ callCost K p ∧
        callCost K (if copy = true then p else p') ≤ callCost K p := by
      rcases hw with rfl | ⟨q, hq, hpn, rfl⟩
      · refine ⟨callCost_pos K p, ?_⟩
        split
        · exact Nat.le_refl _
        · rcases hp' with rfl | hp'
          · exact Nat.le_refl _
          · simp only [callCost, hp', if_true]; exact callCost_pos K p
      · have hcp : callCost K p = K + 3 := by simp [callCost, hpn]
        rw [hcp]
        exact ⟨by simp [stackCost, itemCost, callCost, hq]; omega, callCost_le K _⟩
    have hm := Nat.mul_le_mul_left us.length hsent.2
    have hexp : (us.length + 1) * callCost K p = us.length * callCost K p + callCost K p := by
      rw [Nat.add_mul, Nat.one_mul]
    omega

/-- in particular a single payload put on the wire by `send`, with everything it triggers, is worked off within
`2 + K * (K + 3)` steps -/
theorem C13_send_terminates (K : Nat) (w : World) (hs : Small K w) (side : Side) (u ip port proto : Nat) (p : Payload)
    (hfuel : 2 + K * (K + 3) ≤ World.fuel) : (w.send side u ip port proto p).overflow = w.overflow := by
  unfold World.send
  refine C13_world_run_terminates K _ w _ hs ?_
  simp only [stackCost, itemCost]
  have := Nat.mul_le_mul_left K (callCost_le K p)
  omega

/- The bound `Small K` follows from the class registry.
Software is installed from the shipped classes, each under its class's `name`, and a node never holds two programs under one
name (`Rep.namesNodup`): so a node holds at most as many programs as there are distinct shipped names — a constant
regenerated from the source (`Gen.Software.classes`). -/

/-- the names under which shipped classes install themselves (regenerated class table) -/
def shippedNames : List String := (Gen.Software.classes.map (·.2.1)).eraseDups

/-- the operation installs only software of a class named in `S` (every other operation qualifies) -/
def _root_.Primaite.Registries.Op.installsFrom (S : List String) : Op → Prop
  | .installSvc c _ _ _ _ => c.name ∈ S
  | .installApp c _ _ _ _ => c.name ∈ S
  | .reqInstall _ (some (c, _)) => c.name ∈ S
  | _ => True

theorem uninstall_software_sub (n n' : Node) (name : String) (h : n.uninstall name = some n') :
    ∀ x ∈ n'.software, x ∈ n.software := by
  rcases uninstall_some n n' name h with rfl | ⟨_, _, _, _, rfl⟩
  · exact fun _ hx => hx
  · exact fun x hx => mem_ddel _ _ x hx

theorem evict_software_sub (n n1 : Node) (name : String) (h : n.evict name = some n1) : ∀ x ∈ n1.software, x ∈ n.software := by
  rcases evict_some n n1 name h with rfl | h
  · exact fun _ hx => hx
  · exact uninstall_software_sub n n1 name h

/-- registering writes the new object under its class's name into what the eviction left of `software` -/
theorem registered_software (n n1 : Node) (c : Cls) (he : n.evict c.name = some n1) (x : String × Nat)
    (hx : x ∈ dset c.name n1.next n1.software) : x ∈ n.software ∨ x.1 = c.name := by
  rcases mem_dset _ _ _ x hx with hx | hx
  · exact Or.inl (evict_software_sub n n1 c.name he x hx)
  · exact Or.inr (by rw [hx])

theorem installSvc_software (n n' : Node) (c : Cls) (cfg : Bool) (l : List Nat) (hl : Health) (f : Int)
    (h : n.installSvc c cfg l hl f = some n') : ∀ x ∈ n'.software, x ∈ n.software ∨ x.1 = c.name := by
  rcases installSvc_some n n' c cfg l hl f h with rfl | ⟨n1, he, rfl⟩
  · exact fun x hx => Or.inl hx
  · exact registered_software n n1 c he

theorem installApp_software (n n' : Node) (c : Cls) (cfg : Bool) (l : List Nat) (hl : Health) (f : Int)
    (h : n.installApp c cfg l hl f = some n') : ∀ x ∈ n'.software, x ∈ n.software ∨ x.1 = c.name := by
  rcases installApp_some n n' c cfg l hl f h with rfl | ⟨n1, he, rfl⟩
  · exact fun x hx => Or.inl hx
  · exact registered_software n n1 c he

theorem step_software_names (S : List String) (n : Node) (op : Op) (hop : op.installsFrom S)
    (h : ∀ x ∈ n.software, x.1 ∈ S) : ∀ x ∈ (n.step op).1.software, x.1 ∈ S := by
  have k := step_kind n op
  generalize n.step op = r at k ⊢
  cases k with
  | idle p up down out _ | deliver p up down out _ => exact h
  | uninstall name n' out hu _ => exact fun x hx => h x (uninstall_software_sub n n' name hu x hx)
  | installSvc c cfg l hl f n' hop' hi _ =>
    subst hop'
    intro x hx
    rcases installSvc_software n n' c cfg l hl f hi x hx with hx | hx
    · exact h x hx
    · rw [hx]; exact hop
  | installApp c cfg l hl f n' out hop' hi _ =>
    have hc : c.name ∈ S := by rcases hop' with rfl | ⟨name, rfl⟩ <;> exact hop
    intro x hx
    rcases installApp_software n n' c cfg l hl f hi x hx with hx | hx
    · exact h x hx
    · rw [hx]; exact hc
  | reqInstall name c l n1 out hop' hi _ _ =>
    subst hop'
    intro x hx
    rcases installApp_software n n1 c false l .good 2 hi x hx with hx | hx
    · exact h x hx
    · rw [hx]; exact hop

theorem run_software_names (S : List String) (ops : List Op) (n : Node) (hops : ∀ op ∈ ops, op.installsFrom S)
    (h : ∀ x ∈ n.software, x.1 ∈ S) : ∀ x ∈ (n.run ops).software, x.1 ∈ S := by
  induction ops generalizing n with
  | nil => exact h
  | cons op ops ih =>
    exact ih _ (fun o ho => hops o (by simp [ho])) (step_software_names S n op (hops op (by simp)) h)

/-- **A node never holds more programs than there are names in the class registry**: after any operation sequence that
installs from `S`, the software list is no longer than `S`. -/
theorem C13_software_count_le (S : List String) (p : Power) (up down : Int) (ops : List Op)
    (hops : ∀ op ∈ ops, op.installsFrom S) :
    (Node.run { power := p, upDur := up, downDur := down } ops).software.length ≤ S.length := by
  obtain ⟨es, hr⟩ := rep_run ops _ [] (C13_rep_init p up down)
  have hn := run_software_names S ops { power := p, upDur := up, downDur := down } hops (by simp)
  have hnd : ((Node.run { power := p, upDur := up, downDur := down } ops).software.map (·.1)).Nodup := by
    rw [(C13_rep_names _ es hr).1]; exact hr.namesNodup
  have := List.Nodup.length_le_of_subset hnd (l₂ := S) (by
    intro y hy
    obtain ⟨x, hx, rfl⟩ := List.mem_map.mp hy
    exact hn x hx)
  simpa using this

/-- **Every exchange between two nodes built from shipped software terminates** — no bound assumed: both nodes reachable by
any operation sequences that install shipped classes (whatever their class data, clocks and addresses), any sender, any
destination, any payload: the transport does not run out of fuel.  The number of shipped names and `fuel` are constants
(`shippedNames` is regenerated from the source); the arithmetic is `decide`d. -/
theorem C13_send_terminates_shipped (w : World) (pa pb : Power) (ua da ub db : Int) (opsA opsB : List Op)
    (hA : w.a.n = Node.run { power := pa, upDur := ua, downDur := da } opsA)
    (hB : w.b.n = Node.run { power := pb, upDur := ub, downDur := db } opsB)
    (hopsA : ∀ op ∈ opsA, op.installsFrom shippedNames) (hopsB : ∀ op ∈ opsB, op.installsFrom shippedNames)
    (side : Side) (u ip port proto : Nat) (p : Payload) :
    (w.send side u ip port proto p).overflow = w.overflow := by
  have hs : Small (shippedNames.length + 1) w := by
    constructor
    · rw [hA]; exact Nat.succ_le_succ (C13_software_count_le _ pa ua da opsA hopsA)
    · rw [hB]; exact Nat.succ_le_succ (C13_software_count_le _ pb ub db opsB hopsB)
  exact C13_send_terminates _ w hs side u ip port proto p (by decide)

/-- non-vacuity: the two-node world of the DNS example is `Small 4`, and `2 + 4 * 7 ≤ fuel` -/
example : 2 + 4 * (4 + 3) ≤ World.fuel := by decide +kernel

/-- **Health becomes OVERWHELMED exactly when a connection is requested at capacity**: after `add_connection`, the health is
OVERWHELMED iff the connections had reached `max_sessions` — whatever the health was before (an OVERWHELMED software with room
again becomes GOOD on the next request) — and in that case the request is declined and the connections are unchanged. -/
theorem C13_conn_overwhelmed_iff (c : Conn) (id : String) :
    ((c.add id).1.health = .overwhelmed ↔ c.conns.length ≥ c.maxSessions) ∧
    (c.conns.length ≥ c.maxSessions → (c.add id).2 = false ∧ (c.add id).1.conns = c.conns) := by
  rcases c with ⟨conns, mx, health⟩
  by_cases h : conns.length ≥ mx
  · simp [Conn.add, h]
  · cases health <;> by_cases hm : id ∈ conns <;> simp [Conn.add, h, hm]

/-- a request below capacity: accepted iff the id is new, then it is the last connection; health OVERWHELMED → GOOD,
any other health is kept -/
theorem C13_conn_add_below_capacity (c : Conn) (id : String) (h : c.conns.length < c.maxSessions) :
    ((c.add id).2 = true ↔ id ∉ c.conns) ∧
    (c.add id).1.conns = (if id ∈ c.conns then c.conns else c.conns ++ [id]) ∧
    (c.add id).1.health = (if c.health = .overwhelmed then .good else c.health) := by
  rcases c with ⟨conns, mx, health⟩
  have hn : ¬ conns.length ≥ mx := by simp only at h; omega
  cases health <;> by_cases hm : id ∈ conns <;> simp [Conn.add, hn, hm]

theorem conn_add_shape (c : Conn) (id : String) :
    (c.add id).1.maxSessions = c.maxSessions ∧
    ((c.add id).1.conns = c.conns ∨
      ((c.add id).1.conns = c.conns ++ [id] ∧ id ∉ c.conns ∧ c.conns.length < c.maxSessions)) := by
  rcases c with ⟨conns, mx, health⟩
  by_cases h : conns.length ≥ mx
  · simp [Conn.add, h]
  · have hlt : conns.length < mx := by omega
    cases health <;> by_cases hm : id ∈ conns <;> simp [Conn.add, h, hm, hlt]

/-- the number of connections never exceeds `max_sessions`, and no id is held twice — after any sequence of
`add_connection` / `terminate_connection` calls -/
theorem C13_conn_bounded (ops : List Conn.COp) (c : Conn) (h : c.conns.length ≤ c.maxSessions) (hn : c.conns.Nodup) :
    (c.run ops).conns.length ≤ (c.run ops).maxSessions ∧ (c.run ops).conns.Nodup ∧ (c.run ops).maxSessions = c.maxSessions := by
  induction ops generalizing c with
  | nil => exact ⟨h, hn, rfl⟩
  | cons op ops ih =>
    simp only [Conn.run]
    have key : (c.step op).1.conns.length ≤ (c.step op).1.maxSessions ∧ (c.step op).1.conns.Nodup ∧
        (c.step op).1.maxSessions = c.maxSessions := by
      cases op with
      | add id =>
        obtain ⟨hmx, hshape⟩ := conn_add_shape c id
        show (c.add id).1.conns.length ≤ (c.add id).1.maxSessions ∧ (c.add id).1.conns.Nodup ∧ _
        rw [hmx]
        rcases hshape with he | ⟨he, hnm, hlt⟩
        · rw [he]; exact ⟨h, hn, hmx⟩
        · rw [he]
          exact ⟨by simp; omega, nodup_snoc _ _ hn hnm, hmx⟩
      | terminate id sd =>
        show (c.terminate id sd).1.conns.length ≤ (c.terminate id sd).1.maxSessions ∧ (c.terminate id sd).1.conns.Nodup ∧ _
        have hmx : (c.step (Conn.COp.terminate id sd)).1.maxSessions = c.maxSessions := by
          simp only [Conn.step, Conn.terminate]; split <;> rfl
        unfold Conn.terminate
        by_cases hc : c.conns.contains id = true
        · rw [if_pos hc]
          exact ⟨Nat.le_trans (List.length_filter_le _ _) h, hn.filter _, hmx⟩
        · rw [if_neg hc]
          exact ⟨h, hn, hmx⟩
    obtain ⟨k1, k2, k3⟩ := key
    obtain ⟨i1, i2, i3⟩ := ih (c.step op).1 k1 k2
    exact ⟨i1, i2, i3.trans k3⟩

/-- `terminate_connection` removes exactly that connection and does NOT touch the health: an OVERWHELMED software stays
OVERWHELMED until the next connection request finds room (observation about the code, not a defect of the property) -/
theorem C13_conn_terminate (c : Conn) (id : String) (sd : Bool) :
    (c.terminate id sd).1.health = c.health ∧ id ∉ (c.terminate id sd).1.conns ∧
    (∀ x, x ≠ id → (x ∈ (c.terminate id sd).1.conns ↔ x ∈ c.conns)) ∧
    ((c.terminate id sd).2 = true ↔ id ∈ c.conns ∧ sd = true) := by
  rcases c with ⟨conns, mx, health⟩
  by_cases hm : id ∈ conns
  · refine ⟨?_, ?_, ?_, ?_⟩ <;> simp [Conn.terminate, hm]
    intro x hx _; exact hx
  · refine ⟨?_, ?_, ?_, ?_⟩ <;> simp [Conn.terminate, hm]

/-- non-vacuity: capacity 2 — the third request overwhelms, a termination alone does not recover, the next request does -/
example :
    let c : Conn := { maxSessions := 2 }
    (c.run [.add "a", .add "b"]).health = .good ∧ (c.run [.add "a", .add "b", .add "c"]).health = .overwhelmed ∧
    (c.run [.add "a", .add "b", .add "c", .terminate "a" true]).health = .overwhelmed ∧
    (c.run [.add "a", .add "b", .add "c", .terminate "a" true, .add "c"]).health = .good ∧
    (c.run [.add "a", .add "b", .add "c", .terminate "a" true, .add "c"]).conns = ["b", "c"] := by decide +kernel

/-- the methods the payload model follows read, statement for statement (logging dropped), as the model assumes:
the running-guard first, the type check, "a reply is not a request" in both servers, "no reply, no time" in the NTP client,
the reply written into the packet that was handed in (`generate_reply` returns `self`), `request_time` without a guard of its
own and called by `apply_timestep` only while RUNNING, `add_connection` / `terminate_connection` as `Conn.add` /
`Conn.terminate`, `send` / `receive` of IOSoftware behind `_can_perform_action`, `HostNode.receive_frame` as
`Node.frameAccepted`, `Router.check_send_frame_to_session_manager` as `Node.routerAccepts`.  Any edit of one of these methods changes the regenerated list and this obligation no longer checks. -/
theorem C13_gen_method_bodies :
    Gen.SoftwareRecv.methodBodies = [
  ("DNSServer.receive", ["if not super().receive(payload=payload, session_id=session_id, **kwargs) { return False }", "if not isinstance(payload, DNSPacket) { return False }", "if payload.dns_reply is not None { return False }", "if payload.dns_request is not None { payload = payload.generate_reply(self.dns_lookup(payload.dns_request.domain_name_request)); self.send(payload, session_id); return payload.dns_reply.domain_name_ip_address is not None }", "return False"]),
  ("DNSServer.dns_lookup", ["if not self._can_perform_action() { return }", "return self.dns_table.get(target_domain)"]),
  ("DNSServer.dns_register", ["if not self._can_perform_action() { return }", "self.dns_table[domain_name] = domain_ip_address"]),
  ("DNSClient.receive", ["if not super().receive(payload=payload, session_id=session_id, **kwargs) { return False }", "if not isinstance(payload, DNSPacket) { return False }", "if payload.dns_reply is not None { if payload.dns_reply.domain_name_ip_address { self.dns_cache[payload.dns_request.domain_name_request] = payload.dns_reply.domain_name_ip_address; return True } }", "return False"]),
  ("DNSClient.add_domain_to_cache", ["if not self._can_perform_action() { return False }", "self.dns_cache[domain_name] = ip_address", "return True"]),
  ("DNSClient.check_domain_exists", ["if not self._can_perform_action() { return False }", "if target_domain in self.dns_cache { return True }", "if self.dns_server is None { return False }", "payload = DNSPacket(dns_request=DNSRequest(domain_name_request=target_domain))", "if is_reattempt { return False } else { software_manager: SoftwareManager = self.software_manager; software_manager.send_payload_to_session_manager(payload=payload, dest_ip_address=self.dns_server, dest_port=PORT_LOOKUP['DNS']); return self.check_domain_exists(target_domain=target_domain, session_id=session_id, is_reattempt=True) }"]),
  ("NTPServer.receive", ["if not super().receive(payload=payload, session_id=session_id, **kwargs) { return False }", "if not isinstance(payload, NTPPacket) { return False }", "if payload.ntp_reply is not None { return False }", "time = datetime.now()", "payload = payload.generate_reply(time)", "self.software_manager.session_manager.receive_payload_from_software_manager(payload=payload, src_port=self.port, dst_port=self.port, ip_protocol=self.protocol, session_id=session_id)", "return True"]),
  ("NTPClient.receive", ["if not super().receive(payload=payload, session_id=session_id, **kwargs) { return False }", "if not isinstance(payload, NTPPacket) { return False }", "if payload.ntp_reply is None { return False }", "if payload.ntp_reply.ntp_datetime { self.time = payload.ntp_reply.ntp_datetime; return True }"]),
  ("NTPClient.request_time", ["if self.config.ntp_server_ip { self.software_manager.session_manager.receive_payload_from_software_manager(payload=NTPPacket(), dst_ip_address=self.config.ntp_server_ip, src_port=self.port, dst_port=self.port, ip_protocol=self.protocol) }"]),
  ("NTPClient.apply_timestep", ["super().apply_timestep(timestep)", "if self.operating_state == ServiceOperatingState.RUNNING { self.request_time() }"]),
  ("DNSPacket.generate_reply", ["self.dns_reply = DNSReply(domain_name_ip_address=domain_ip_address)", "return self"]),
  ("NTPPacket.generate_reply", ["self.ntp_reply = NTPReply(ntp_datetime=ntp_server_time)", "return self"]),
  ("IOSoftware.add_connection", ["if len(self._connections) >= self.max_sessions { self.set_health_state(SoftwareHealthState.OVERWHELMED); return False } else { if self.health_state_actual == SoftwareHealthState.OVERWHELMED { self.set_health_state(SoftwareHealthState.GOOD) }; if not self._connections.get(connection_id) { session_details = None; if session_id { session_details = self._get_session_details(session_id) }; self._connections[connection_id] = {'session_id': session_id, 'ip_address': session_details.with_ip_address if session_details else None, 'time': datetime.now()}; return True }; return False }"]),
  ("IOSoftware.terminate_connection", ["if self.connections.get(connection_id) { connection_dict = self._connections.pop(connection_id); if send_disconnect { self.software_manager.send_payload_to_session_manager(payload={'type': 'disconnect', 'connection_id': connection_id}, session_id=connection_dict['session_id']); return True } }", "return False"]),
  ("IOSoftware.send", ["if not self._can_perform_action() { return False }", "return self.software_manager.send_payload_to_session_manager(payload=payload, dest_ip_address=dest_ip_address, dest_port=dest_port, ip_protocol=ip_protocol, session_id=session_id)"]),
  ("IOSoftware.receive", ["return self._can_perform_action()"]),
  ("HostNode.receive_frame", ["super().receive_frame(frame, from_network_interface)", "dst_port = None", "if frame.tcp { dst_port = frame.tcp.dst_port } else { if frame.udp { dst_port = frame.udp.dst_port } }", "can_accept_nmap = False", "if self.software_manager.software.get('nmap') { if self.software_manager.software['nmap'].operating_state == ApplicationOperatingState.RUNNING { can_accept_nmap = True } }", "accept_nmap = can_accept_nmap and frame.payload.__class__.__name__ == 'PortScanPayload'", "accept_frame = False", "if frame.icmp or dst_port in self.software_manager.get_open_ports() or accept_nmap { accept_frame = True }", "if accept_frame { self.session_manager.receive_frame(frame, from_network_interface) } else { pass }"]),
  ("Router.check_send_frame_to_session_manager", ["dst_ip_address = frame.ip.dst_ip_address", "dst_port = None", "if frame.ip.protocol == PROTOCOL_LOOKUP['TCP'] { dst_port = frame.tcp.dst_port } else { if frame.ip.protocol == PROTOCOL_LOOKUP['UDP'] { dst_port = frame.udp.dst_port } }", "if self.ip_is_router_interface(dst_ip_address) and (frame.icmp or dst_port in self.software_manager.get_open_ports()) { return True }", "return False"]),
  ("WebServer.receive", ["if not super().receive(payload=payload, session_id=session_id, **kwargs) { return False }", "if not isinstance(payload, HttpRequestPacket) { return False }", "return self._process_http_request(payload=payload, session_id=session_id)"]),
  ("WebServer._process_http_request", ["response = HttpResponsePacket()", "if payload.request_method == HttpRequestMethod.GET { response = self._handle_get_request(payload=payload) } else { if payload.request_method == HttpRequestMethod.POST { response.status_code = HttpStatusCode.METHOD_NOT_ALLOWED } else { response.status_code = HttpStatusCode.METHOD_NOT_ALLOWED } }", "self.send(payload=response, session_id=session_id)", "self.response_codes_this_timestep.append(response.status_code)", "return response.status_code == HttpStatusCode.OK"]),
  ("WebServer._handle_get_request", ["response = HttpResponsePacket(status_code=HttpStatusCode.NOT_FOUND, payload=payload)", "parsed_url = urlparse(payload.request_url)", "path = parsed_url.path.strip('/') if parsed_url and parsed_url.path else ''", "if len(path) < 1 { response.status_code = HttpStatusCode.OK }", "if path.startswith('users') { if not self._establish_db_connection() { response.status_code = HttpStatusCode.INTERNAL_SERVER_ERROR; return response }; if self.db_connection.query('SELECT') { self.set_health_state(SoftwareHealthState.GOOD); response.status_code = HttpStatusCode.OK } else { self.set_health_state(SoftwareHealthState.COMPROMISED) } }", "return response"]),
  ("WebServer._establish_db_connection", ["if self.db_connection { return True }", "db_client = self.software_manager.software.get('database-client')", "if db_client is None { return False }", "self.db_connection: DatabaseClientConnection = db_client.get_new_connection()", "return self.db_connection is not None"]),
  ("WebBrowser.receive", ["if not super().receive(payload=payload, session_id=session_id, **kwargs) { return False }", "if not isinstance(payload, HttpResponsePacket) { return False }", "self.latest_response = payload", "return True"]),
  ("WebBrowser.get_webpage", ["url = url or self.config.target_url", "if not self._can_perform_action() { return False }", "self.num_executions += 1", "self.latest_response = HttpResponsePacket(status_code=HttpStatusCode.NOT_FOUND)", "if not url { return False }", "try { parsed_url = urlparse(url) } except Exception { return False }", "dns_client: Optional[DNSClient] = self.software_manager.software.get('dns-client')", "if dns_client is None {  }", "domain_exists = dns_client is not None and dns_client.check_domain_exists(target_domain=parsed_url.hostname)", "if domain_exists { self.domain_name_ip_address = dns_client.dns_cache[parsed_url.hostname] } else { try { self.domain_name_ip_address = IPv4Address(parsed_url.hostname) } except Exception { return False } }", "payload = HttpRequestPacket(request_method=HttpRequestMethod.GET, request_url=url)", "if self.send(payload=payload, dest_ip_address=self.domain_name_ip_address, dest_port=parsed_url.port if parsed_url.port else PORT_LOOKUP['HTTP']) { self.history.append(WebBrowser.BrowserHistoryItem(url=url, status=self.BrowserHistoryItem._HistoryItemStatus.LOADED, response_code=self.latest_response.status_code)); return self.latest_response.status_code is HttpStatusCode.OK } else { self.history.append(WebBrowser.BrowserHistoryItem(url=url, status=self.BrowserHistoryItem._HistoryItemStatus.SERVER_UNREACHABLE)); return False }"])] := by
  rfl

/-- well-known ports the end-to-end theorems use, the default capacity of `Conn`, and: no class overrides the connection
bookkeeping of `IOSoftware` (so `Conn` is the bookkeeping of every shipped class) -/
theorem C13_gen_recv_constants :
    Gen.SoftwareRecv.portDNS = 53 ∧ Gen.SoftwareRecv.portNTP = 123 ∧ Gen.SoftwareRecv.portHTTP = 80 ∧
    Gen.SoftwareRecv.httpStatusCodes.lookup "OK" = some 200 ∧ Gen.SoftwareRecv.httpStatusCodes.lookup "NOT_FOUND" = some 404 ∧
    Gen.SoftwareRecv.httpStatusCodes.lookup "METHOD_NOT_ALLOWED" = some 405 ∧
    Gen.SoftwareRecv.httpStatusCodes.lookup "INTERNAL_SERVER_ERROR" = some 500 ∧
    Gen.SoftwareRecv.maxSessionsDefault = ({} : Conn).maxSessions ∧
    Gen.SoftwareRecv.connectionOverrides = [] := by decide +kernel

end Primaite.C13
