/-
C05 (permission rules) — every `RequestPermissionValidator.__call__`, translated from the source (Gen/RequestValidators.lean),
computes exactly the specification of the rule it is named after (`Guards.holds`, Model/RequestGuards.lean); hence the facts
about `failure` (`C05_failure_is_own_rule`, `C05_refusal_is_expected_guard`) can be stated over the TRANSLATED predicates
evaluated on the component each live validator is bound to: a refusal names a rule of the request's own route whose
translated predicate is false on its own component for the options it was given, all earlier rules of the route holding.
-/
import PrimaiteModel.Model.RequestGuards
import PrimaiteModel.Gen.RequestValidators
import PrimaiteModel.Props.C05Schema
namespace Primaite.Guards
open Primaite.Request
open Primaite.Schema (VAtom Validator)
open Primaite.Gen.RequestValidators

theorem find?_isSome_eq_any {α} (l : List α) (p : α → Bool) : (l.find? p).isSome = l.any p := by
  rw [Bool.eq_iff_iff, List.find?_isSome, List.any_eq_true]

theorem get_folder_spec (fs : FsS) (k : Key) (incl : Bool) : FileSystem_get_folder fs k incl = fs.folder? k incl := by
  unfold FileSystem_get_folder FsS.folder?
  cases h : fs.folders.find? (fun f => f.name == k) with
  | some f => rfl
  | none =>
    cases incl with
    | false => simp
    | true =>
      simp only [if_true]
      cases h' : fs.deleted_folders.find? (fun f => f.name == k) <;> rfl

theorem get_file_live_spec (fo : FolderS) (k : Key) : Folder_get_file fo k false = fo.file? k := by
  unfold Folder_get_file FolderS.file?
  cases h : fo.files.find? (fun f => f.name == k) with
  | some f => rfl
  | none => simp

/-- the translated length tests `len(request) < 1`, `len(request) < 2` on a request that has the elements -/
theorem not_short (n : Nat) : decide (n + 1 < 1) = false ∧ decide (n + 1 + 1 < 2) = false := by simp

theorem C05_validator_translation_meets_spec (a : VAtom) (self : VSelf) (req : List Key) (ctx : Context) :
    eval a self req ctx = holds a self req ctx := by
  cases a with
  | nodeIsOn | nodeIsOff | nicEnabled | nicDisabled | serviceState s | appState s => rfl
  | folderExists =>
    cases req with
    | nil => rfl
    | cons k rest =>
      simp only [eval, folderExists, holds, List.length_cons, List.getD_cons_zero, get_folder_spec, FsS.folder?,
        not_short, Bool.false_eq_true, if_false]
      rw [← find?_isSome_eq_any]
      cases fs : self.file_system.folders.find? (fun f => f.name == k) <;> simp
  | folderNotDeleted =>
    cases req with
    | nil => rfl
    | cons k rest =>
      simp only [eval, folderNotDeleted, holds, List.length_cons, List.getD_cons_zero, get_folder_spec,
        not_short, Bool.false_eq_true, if_false]
      cases self.file_system.folder? k true <;> rfl
  | fsFileExists =>
    cases req with
    | nil => rfl
    | cons k rest =>
      cases rest with
      | nil => rfl
      | cons k' rest' =>
        simp only [eval, fsFileExists, holds, List.length_cons, List.getD_cons_zero, List.getD_cons_succ,
          FileSystem_get_file, get_folder_spec, not_short, Bool.false_eq_true, if_false]
        cases hf : self.file_system.folder? k false with
        | none => rfl
        | some fo =>
          simp only [get_file_live_spec, FolderS.file?]
          rw [← find?_isSome_eq_any]
  | folderFileExists =>
    cases req with
    | nil => rfl
    | cons k rest =>
      simp only [eval, folderFileExists, holds, List.length_cons, List.getD_cons_zero, get_file_live_spec, FolderS.file?,
        not_short, Bool.false_eq_true, if_false]
      rw [← find?_isSome_eq_any]
  | fileNotDeleted =>
    cases req with
    | nil => rfl
    | cons k rest =>
      simp only [eval, fileNotDeleted, holds, List.length_cons, List.getD_cons_zero, get_file_live_spec,
        not_short, Bool.false_eq_true, if_false]
      cases self.folder.file? k <;> rfl
  | groupMember =>
    cases ctx with
    | none => rfl
    | some gs =>
      simp only [eval, groupMember, holds]
      rw [← find?_isSome_eq_any]
      cases self.allowed_groups.find? (fun g => gs.contains g.name) <;> rfl

/-- the valuation of the live validators induced by the TRANSLATED predicates: validator `v` consists of the rules `vn v` and
is bound to the component(s) `bind v`; it answers true iff every one of its rules' translated `__call__` does -/
def envOf (vn : VId → Validator) (bind : VId → VSelf) (ctx : Context) : Env :=
  fun v opts => (vn v).all (fun a => eval a (bind v) opts ctx)

/-- `C05_failure_is_own_rule` over the translated predicates: a `failure` names a validator on the request's own path at the
reported depth, and ONE OF ITS RULES is false — its translated `__call__`, equivalently its specification — on the component
that validator is bound to, for the options it was given; every rule of every earlier validator on the path holds. -/
theorem C05_failure_is_false_translated_rule (vn : VId → Validator) (bind : VId → VSelf) (ctx : Context)
    (kids : Kids) (p : List Key) (d d' : Nat) (v : VId)
    (h : dispatchK (envOf vn bind ctx) kids p d = .failure d' v) :
    d ≤ d' ∧ ∃ args a, (validatorsOnK kids p)[d' - d]? = some (v, args) ∧ a ∈ vn v ∧
      eval a (bind v) args ctx = false ∧ holds a (bind v) args ctx = false ∧
      ∀ j, j < d' - d → ∀ w a', (validatorsOnK kids p)[j]? = some (w, a') →
        ∀ b ∈ vn w, holds b (bind w) a' ctx = true := by
  obtain ⟨hle, args, hget, hfalse, hbefore⟩ := C05_failure_is_own_rule _ kids p d d' v h
  obtain ⟨a, ha, hev⟩ := List.all_eq_false.mp hfalse
  have hev' : eval a (bind v) args ctx = false := by simpa using hev
  refine ⟨hle, args, a, hget, ha, hev', by rw [← C05_validator_translation_meets_spec]; exact hev', ?_⟩
  intro j hj w a' hw b hb
  rw [← C05_validator_translation_meets_spec]
  exact List.all_eq_true.mp (hbefore j hj w a' hw) b hb

/-- the handler is reached iff the target exists and EVERY rule of EVERY validator on the path holds (specification) on the
component it is bound to -/
theorem C05_reaches_iff_rules_hold (vn : VId → Validator) (bind : VId → VSelf) (ctx : Context)
    (kids : Kids) (p : List Key) (d : Nat) :
    (dispatchK (envOf vn bind ctx) kids p d).isReached =
      (pathExistsK kids p && (validatorsOnK kids p).all (fun va => holdsAll (vn va.1) (bind va.1) va.2 ctx)) := by
  have hfun : (fun va : VId × List Key => envOf vn bind ctx va.1 va.2) =
      (fun va => holdsAll (vn va.1) (bind va.1) va.2 ctx) := by
    funext va
    simp only [envOf, holdsAll]
    congr 1
    funext a
    exact C05_validator_translation_meets_spec a _ _ _
  rw [C05_reaches_iff, hfun]

open Primaite.Schema in
open Primaite.Gen.RequestSchema (schema) in
open Primaite.Gen.ActionTemplates (templates) in
/-- For the REGENERATED schema and templates: when a request formed from an action whose parameters name present components
is refused, the refusing rule is one of the action's expected guards (`expectedGuards`, the contract) AND its translated
`__call__` is false on the component its validator is bound to — "only that operation's own permission rule can refuse it",
with the rule's meaning read from the source. -/
theorem C05_action_refusal_is_false_expected_guard (vn : VId → Validator) (bind : VId → VSelf) (ctx : Context)
    (inv : Inv) (kids : Kids) (hinst : Inst schema vn rootMgr inv kids) (t : Template) (ht : t ∈ templates) (c : String)
    (hc : c ∈ addressable schema t) (ρ : String → Key)
    (hpres : present schema (pickNode schema c) rootMgr inv t.segs ρ = true) (d d' : Nat) (v : VId)
    (h : dispatchK (envOf vn bind ctx) kids (instantiate ρ t.segs) d = .failure d' v) :
    ∃ args a, a ∈ (if t.fallback then [] else expectedGuards t.action) ∧ a ∈ vn v ∧
      holds a (bind v) args ctx = false := by
  obtain ⟨_, args, a, _, ha, _, hfalse, _⟩ := C05_failure_is_false_translated_rule vn bind ctx kids _ d d' v h
  exact ⟨args, a, C05_refusal_is_expected_guard vn inv kids hinst t ht c hc ρ hpres _ d d' v h a ha, ha, hfalse⟩

/-- the states named by the contract tables are members of the state enums the validators compare with -/
theorem C05_gen_contract_states_are_members :
    (∀ s ∈ ["RUNNING", "STOPPED", "PAUSED", "DISABLED"], s ∈ serviceStateMembers) ∧ "RUNNING" ∈ appStateMembers ∧
    "ON" ∈ nodeStateMembers ∧ "OFF" ∈ nodeStateMembers := by decide +kernel

def exFs : FsS :=
  { folders := [⟨"root", false, [], []⟩, ⟨"docs", false, [⟨"a.txt", false⟩, ⟨"b.txt", true⟩], [⟨"old.txt", true⟩]⟩],
    deleted_folders := [⟨"gone", true, [], [⟨"x.txt", true⟩]⟩, ⟨"docs", true, [], []⟩] }
def exSelf : VSelf := { node := ⟨"SHUTTING_DOWN"⟩, service := ⟨"PAUSED"⟩, file_system := exFs,
                        folder := ⟨"docs", false, [⟨"a.txt", false⟩, ⟨"b.txt", true⟩], [⟨"old.txt", true⟩]⟩ }

example : eval .nodeIsOn exSelf [] none = false ∧ eval .nodeIsOff exSelf [] none = false := by decide +kernel
example : eval (.serviceState "PAUSED") exSelf [] none = true ∧ eval (.serviceState "RUNNING") exSelf [] none = false := by decide +kernel
example : eval .folderExists exSelf ["docs", "x"] none = true ∧ eval .folderExists exSelf ["gone"] none = false ∧
    eval .folderExists exSelf [] none = false := by decide +kernel
/-- a live folder shadows a deleted namesake; a deleted folder is found and refused; an unknown one is refused -/
example : eval .folderNotDeleted exSelf ["docs"] none = true ∧ eval .folderNotDeleted exSelf ["gone"] none = false ∧
    eval .folderNotDeleted exSelf ["nope"] none = false := by decide +kernel
example : eval .fsFileExists exSelf ["docs", "a.txt"] none = true ∧ eval .fsFileExists exSelf ["docs", "old.txt"] none = false ∧
    eval .fsFileExists exSelf ["docs"] none = false ∧ eval .fsFileExists exSelf ["gone", "x.txt"] none = false := by decide +kernel
/-- a live file that carries the deleted flag exists but is refused by the not-deleted rule -/
example : eval .folderFileExists exSelf ["b.txt"] none = true ∧ eval .fileNotDeleted exSelf ["b.txt"] none = false ∧
    eval .fileNotDeleted exSelf ["a.txt"] none = true ∧ eval .fileNotDeleted exSelf ["old.txt"] none = false := by decide +kernel
example : eval .groupMember { exSelf with allowed_groups := [⟨"DOMAIN_ADMIN"⟩] } [] (some ["LOCAL_USER", "DOMAIN_ADMIN"]) = true ∧
    eval .groupMember { exSelf with allowed_groups := [⟨"DOMAIN_ADMIN"⟩] } [] none = false := by decide +kernel

end Primaite.Guards
