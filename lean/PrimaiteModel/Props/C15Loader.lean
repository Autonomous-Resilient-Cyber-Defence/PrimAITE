/-
Property C15: the initial state.  For EVERY configured folder list — folders listed twice, a file listed
twice, the same name in two folders, names that collide only after the extension is appended — the state `HostNode.__init__`
leaves (whether it completes or raises on the way) satisfies `Inv` and one-folder-per-file, and after `setup_for_episode` both
counters are zero: tick 0 starts like every other tick.
-/
import PrimaiteModel.Model.FileSystemLoader
import PrimaiteModel.Props.C15Keeps
namespace Primaite.FileSystem

theorem change_loaderCreateFile {s : State} (h : Inv s) (F given stored : Name) :
    Change s (loaderCreateFile s F given stored).1 := by
  unfold loaderCreateFile
  have cs := change_createFileStages h F stored
  rcases hT : createFileTarget s F with ⟨s1, _ | g⟩ <;> rw [hT] at cs
  · exact cs.1
  · simp only
    split
    · exact cs.1
    · exact cs.2 g rfl

theorem change_loadFiles {s : State} (h : Inv s) (F : Name) (fs : List (Name × Name)) : Change s (loadFiles s F fs).1 := by
  induction fs generalizing s with
  | nil => exact .refl s
  | cons p rest ih =>
    simp only [loadFiles]
    have c1 := change_loaderCreateFile h F p.1 p.2
    cases heq : loaderCreateFile s F p.1 p.2 with
    | mk s1 o =>
      rw [heq] at c1
      cases o <;> first | exact c1.trans (ih (c1.inv h)) | exact c1

theorem change_loadConfig {s : State} (h : Inv s) (cfs : List CfgFolder) : Change s (loadConfig s cfs).1 := by
  induction cfs generalizing s with
  | nil => exact .refl s
  | cons cf rest ih =>
    simp only [loadConfig]
    have c0 := change_createFolder h cf.name
    have c1 := c0.trans (change_loadFiles (c0.inv h) cf.name cf.files)
    cases heq : loadFiles (createFolder s cf.name).1 cf.name cf.files with
    | mk s1 o =>
      rw [heq] at c1
      cases o <;> first | exact c1.trans (ih (c1.inv h)) | exact c1

/-- The loader keeps `Inv2` for every configuration, whether it completes or stops at an exception. -/
theorem C15_loader_inv {s : State} (h : Inv2 s) (cfs : List CfgFolder) : Inv2 (loadConfig s cfs).1 :=
  (change_loadConfig h.1 cfs).inv2 h

theorem inv2_setupForEpisode {s : State} (h : Inv2 s) : Inv2 (setupForEpisode s) :=
  (Change.same (s := s) (s' := setupForEpisode s) rfl rfl rfl (Nat.le_refl _)).inv2 h

/-- **The initial state satisfies `Inv` (and one-folder-per-file) and starts tick 0 with both counters at zero, for EVERY
configured folder list**; and so does every state the host reaches from it (requests, agent actions, API calls, power changes,
ticks). -/
theorem C15_initial_state (d : Option Int) (cfs : List CfgFolder) :
    let s0 := setupForEpisode (loadConfig (init d) cfs).1
    Inv s0 ∧ XDisj s0 ∧ s0.numCreations = 0 ∧ s0.numDeletions = 0 ∧
    (describe s0).numCreations = 0 ∧ (describe s0).numDeletions = 0 ∧
    ∀ (sc : Option Int) (on : Bool) (dur : Nat) (ops : List NOp),
      Inv (nrun { ninit d sc on dur with x := { (ninit d sc on dur).x with s := s0 } } ops).1.x.s := by
  intro s0
  have h0 : Inv2 s0 := inv2_setupForEpisode (C15_loader_inv (C15_inv2_init d) cfs)
  exact ⟨h0.1, h0.2, rfl, rfl, rfl, rfl, fun sc on dur ops => (C15_node_inv2_run (n := { ninit d sc on dur with x := { (ninit d sc on dur).x with s := s0 } }) h0 ops).1⟩

/-- Why `setup_for_episode` has to reset (the repaired defect, in miniature): without it the configured files are
reported as creations of tick 0. -/
theorem C15_loader_counts_configured_files_counterexample :
    ∃ cfs, (loadConfig (init none) cfs).2 = .success ∧ (loadConfig (init none) cfs).1.numCreations ≠ 0 :=
  ⟨[{ name := "docs", files := [("a.txt", "a.txt"), ("report", "report.docx")] }], by decide, by decide⟩

/-- A folder listed again (with no files) changes nothing structural: `create_folder` is add-if-absent. -/
theorem C15_loader_duplicate_folder_noop {s : State} (h : Inv s) {g : Folder} (hg : g ∈ s.folders) :
    (loadConfig s [{ name := g.name, files := [] }]).2 = .success ∧ (loadConfig s [{ name := g.name, files := [] }]).1.core = s.core := by
  have := C15_create_existing_folder_noop h hg
  simp only [step] at this
  simp only [loadConfig, loadFiles]
  exact ⟨trivial, this.2.1⟩

/-- A file listed again — under the name as configured, or under a name that collides only once the extension is appended —
raises, and the files of that folder are exactly what they were: no duplicate. -/
theorem C15_loader_duplicate_file_raises {s : State} (h : Inv s) {g : Folder} (hg : g ∈ s.folders) (hroot : g.name ≠ "")
    {f : File} (hf : f ∈ g.files) (given stored : Name) (hdup : given = f.name ∨ stored = f.name) :
    loaderCreateFile s g.name given stored = (s, .raised) := by
  have hff := getFile_of_live (h.folder g (Or.inl hg)).1 hf
  have htarget := createFileTarget_of_live h hg g.name (if_neg hroot).symm
  unfold loaderCreateFile
  rw [htarget]
  rcases hdup with rfl | rfl <;> simp [hff]

/-- Non-vacuity: a folder listed twice, the same file name in two folders, a
typed file, an empty folder — loads; a file listed twice, or twice modulo the extension — raises. -/
example :
    (loadConfig (init none) [{ name := "docs", files := [("a.txt", "a.txt"), ("report", "report.docx")] }, { name := "docs", files := [] },
      { name := "root", files := [("a.txt", "a.txt")] }, { name := "empty", files := [] }]).2 = .success ∧
    ((loadConfig (init none) [{ name := "docs", files := [("a.txt", "a.txt"), ("report", "report.docx")] }, { name := "docs", files := [] },
      { name := "root", files := [("a.txt", "a.txt")] }, { name := "empty", files := [] }]).1.folders.map
        fun g => (g.name, g.files.map File.name)) = [("root", ["a.txt"]), ("docs", ["a.txt", "report.docx"]), ("empty", [])] ∧
    (loadConfig (init none) [{ name := "docs", files := [("a.txt", "a.txt"), ("a.txt", "a.txt")] }]).2 = .raised ∧
    (loadConfig (init none) [{ name := "docs", files := [("r", "r.docx"), ("r.docx", "r.docx")] }]).2 = .raised ∧
    (loadConfig (init none) [{ name := "docs", files := [("r", "r.docx")] }, { name := "docs", files := [("r", "r.docx")] }]).2 = .raised := by
  decide

end Primaite.FileSystem
