/-
C01 — the episode contract of step/reset, for every simulator that returns, every agent policy, every reward
function, every evaluation order without repetitions, and every finite action sequence; and, with C05's request layer as
the simulator, every recorded response carries a documented status provided every handler answers with one.
(That the real simulator returns — totality — is carried by the rig, not by these theorems.)
-/
import PrimaiteModel.Model.Episode
import PrimaiteModel.Gen.Episode
import PrimaiteModel.Props.C05
namespace Primaite.Episode

variable {σ Act Req Resp : Type}

def tsOf (ag : Agent Req Resp) : List Nat := ag.hist.map (·.timestep)

def rsum : List (Item Req Resp) → Int
  | [] => 0
  | it :: rest => it.reward.getD 0 + rsum rest

theorem rsum_append (a b : List (Item Req Resp)) : rsum (a ++ b) = rsum a + rsum b := by
  induction a with
  | nil => simp [rsum]
  | cons x xs ih => simp [rsum, ih]; omega

theorem setLastReward_append (h : List (Item Req Resp)) (it : Item Req Resp) (r : Int) :
    setLastReward (h ++ [it]) r = h ++ [{ it with reward := some r }] := by
  simp [setLastReward]

theorem setLastReward_map {β} (f : Item Req Resp → β) (hf : ∀ it r, f { it with reward := some r } = f it)
    (h : List (Item Req Resp)) (r : Int) : (setLastReward h r).map f = h.map f := by
  rcases List.eq_nil_or_concat h with rfl | ⟨pre, it, rfl⟩
  · rfl
  · simp [setLastReward_append, hf]

theorem updOne_hist_map {β} (f : Item Req Resp → β) (hf : ∀ it r, f { it with reward := some r } = f it)
    (sem : Sem σ Act Req Resp) (step : Nat) (s : σ) (i : Nat) (done) (ag : Agent Req Resp) :
    (updOne sem step s i done ag).hist.map f = ag.hist.map f := by
  unfold updOne
  split
  · split
    · exact setLastReward_map f hf _ _
    · rfl
  · rfl

theorem updOne_ts (sem : Sem σ Act Req Resp) (step : Nat) (s : σ) (i : Nat) (done) (ag : Agent Req Resp) :
    tsOf (updOne sem step s i done ag) = tsOf ag :=
  updOne_hist_map (·.timestep) (fun _ _ => rfl) sem step s i done ag

def Bal (ag : Agent Req Resp) : Prop := ag.total = rsum ag.hist

/-- what `updOne` needs of an agent to leave it balanced: at `step > 0` the newest item has no reward yet, so saving one
adds exactly what `total += current` adds; at `step = 0` nothing is saved, so `current` must be 0 -/
def Fresh (step : Nat) (ag : Agent Req Resp) : Prop :=
  Bal ag ∧ (step > 0 → ∃ pre it, ag.hist = pre ++ [it] ∧ it.reward = none) ∧ (step = 0 → ag.current = 0)

theorem updOne_bal (sem : Sem σ Act Req Resp) (step : Nat) (s : σ) (i : Nat) (done) (ag : Agent Req Resp)
    (h : Fresh step ag) : Bal (updOne sem step s i done ag) := by
  obtain ⟨hb, hpos, hzero⟩ := h
  unfold Bal at *
  unfold updOne
  by_cases hs : step > 0
  · obtain ⟨pre, it, hh, hr⟩ := hpos hs
    rw [hh] at hb
    simp only [hs, if_true, hh, List.getLast?_concat, setLastReward_append]
    simp only [rsum_append, rsum, hr, Option.getD_none, Option.getD_some] at hb ⊢
    omega
  · have h0 : step = 0 := by omega
    simp only [hs, if_false]
    rw [hzero h0]; simp; exact hb

theorem updateAgents_length (sem : Sem σ Act Req Resp) (step : Nat) (s : σ) (order : List Nat) (done)
    (ags : List (Agent Req Resp)) : (updateAgents sem step s order done ags).length = ags.length := by
  induction order generalizing done ags with
  | nil => simp [updateAgents]
  | cons i order ih =>
    simp only [updateAgents]
    cases h : ags[i]? with
    | none => simpa using ih done ags
    | some ag => simp only; rw [ih]; simp

theorem updateAgents_forall (sem : Sem σ Act Req Resp) (step : Nat) (s : σ) (P : Agent Req Resp → Prop)
    (hP : ∀ i done ag, P ag → P (updOne sem step s i done ag)) (order : List Nat) (done)
    (ags : List (Agent Req Resp)) (h : ∀ ag ∈ ags, P ag) :
    ∀ ag ∈ updateAgents sem step s order done ags, P ag := by
  fun_induction updateAgents sem step s order done ags with
  | case1 => exact h
  | case2 i order done ags hi ih => exact ih h
  | case3 i order done ags ag hi ag2 ih =>
    refine ih (fun a ha => ?_)
    rcases List.mem_or_eq_of_mem_set ha with h1 | rfl
    · exact h a h1
    · exact hP _ _ _ (h ag (List.mem_of_getElem? hi))

theorem updateAgents_bal (sem : Sem σ Act Req Resp) (step : Nat) (s : σ) (order : List Nat) (hnd : order.Nodup)
    (done) (ags : List (Agent Req Resp))
    (hfresh : ∀ j ∈ order, ∀ ag : Agent Req Resp, ags[j]? = some ag → Fresh step ag)
    (hbal : ∀ (j : Nat) (ag : Agent Req Resp), ags[j]? = some ag → Bal ag) :
    ∀ (j : Nat) (ag : Agent Req Resp), (updateAgents sem step s order done ags)[j]? = some ag → Bal ag := by
  fun_induction updateAgents sem step s order done ags with
  | case1 => exact hbal
  | case2 i order done ags hi ih =>
    exact ih (List.nodup_cons.mp hnd).2 (fun j hj => hfresh j (List.mem_cons_of_mem _ hj)) hbal
  | case3 i order done ags ag hi ag2 ih =>
    obtain ⟨hni, hnd'⟩ := List.nodup_cons.mp hnd
    refine ih hnd' (fun j hj a ha => ?_) (fun j a ha => ?_)
    · rw [List.getElem?_set_ne (fun (e : i = j) => hni (e ▸ hj))] at ha
      exact hfresh j (List.mem_cons_of_mem _ hj) a ha
    · by_cases hji : i = j
      · subst hji
        rw [List.getElem?_set_self (List.getElem?_eq_some_iff.mp hi).1] at ha
        cases ha
        exact updOne_bal sem step s i done ag (hfresh i List.mem_cons_self ag hi)
      · rw [List.getElem?_set_ne hji] at ha
        exact hbal j a ha

theorem applyActions_length (sem : Sem σ Act Req Resp) (t : Nat) (a : Act) (i : Nat) (ags : List (Agent Req Resp)) (s : σ) :
    (applyActions sem t a i ags s).1.length = ags.length := by
  induction ags generalizing i s with
  | nil => rfl
  | cons ag rest ih => simp [applyActions, ih]

theorem applyActions_mem (sem : Sem σ Act Req Resp) (t : Nat) (a : Act) (i : Nat) (ags : List (Agent Req Resp)) (s : σ) :
    ∀ ag' ∈ (applyActions sem t a i ags s).1, ∃ ag ∈ ags, ∃ (req : Req) (s' : σ),
      ag' = { ag with hist := ag.hist ++ [{ timestep := t, request := req, response := (sem.apply req s').2 }] } := by
  induction ags generalizing i s with
  | nil => simp [applyActions]
  | cons ag rest ih =>
    intro ag' hag'
    simp only [applyActions, List.mem_cons] at hag'
    rcases hag' with h | h
    · exact ⟨ag, List.mem_cons_self, sem.choose i t a s, s, h⟩
    · obtain ⟨ag0, hmem, req, s', he⟩ := ih (i + 1) _ ag' h
      exact ⟨ag0, List.mem_cons_of_mem _ hmem, req, s', he⟩

structure Inv (g : Game σ Req Resp) : Prop where
  ts : ∀ ag ∈ g.agents, tsOf ag = List.range g.step
  bal : ∀ ag ∈ g.agents, Bal ag

theorem envStep_ts (sem : Sem σ Act Req Resp) (order : List Nat) (g : Game σ Req Resp) (a : Act)
    (h : ∀ ag ∈ g.agents, tsOf ag = List.range g.step) :
    ∀ ag ∈ (envStep sem order g a).1.agents, tsOf ag = List.range (g.step + 1) := by
  simp only [envStep]
  apply updateAgents_forall sem (g.step + 1) _ (fun ag => tsOf ag = List.range (g.step + 1))
  · intro i done ag hag
    rw [updOne_ts]; exact hag
  · intro ag' hag'
    obtain ⟨ag, hmem, req, s', rfl⟩ := applyActions_mem sem g.step a 0 g.agents _ ag' hag'
    rw [List.range_succ, ← h ag hmem]
    simp [tsOf]

theorem envStep_inv (sem : Sem σ Act Req Resp) (order : List Nat) (hnd : order.Nodup)
    (g : Game σ Req Resp) (a : Act) (h : Inv g) : Inv (envStep sem order g a).1 := by
  have hfresh : ∀ ag' ∈ (applyActions sem g.step a 0 g.agents (sem.pre g.step g.sim)).1, Fresh (g.step + 1) ag' := by
    intro ag' hag'
    obtain ⟨ag, hmem, req, s', rfl⟩ := applyActions_mem sem g.step a 0 g.agents _ ag' hag'
    have hb := h.bal ag hmem
    refine ⟨?_, fun _ => ⟨ag.hist, _, rfl, rfl⟩, fun h0 => by omega⟩
    simp only [Bal, rsum_append, rsum, Option.getD_none] at hb ⊢
    omega
  refine ⟨envStep_ts sem order g a h.ts, ?_⟩
  intro ag hag
  simp only [envStep] at hag
  obtain ⟨j, hj⟩ := List.getElem?_of_mem hag
  exact updateAgents_bal sem (g.step + 1) _ order hnd [] _
    (fun j _ ag hj => hfresh ag (List.mem_of_getElem? hj)) (fun j ag hj => (hfresh ag (List.mem_of_getElem? hj)).1) j ag hj

theorem envStep_step (sem : Sem σ Act Req Resp) (order : List Nat) (g : Game σ Req Resp) (a : Act) :
    (envStep sem order g a).1.step = g.step + 1 ∧ (envStep sem order g a).1.maxLen = g.maxLen ∧
    (envStep sem order g a).1.agents.length = g.agents.length := by
  refine ⟨rfl, rfl, ?_⟩
  simp only [envStep]
  rw [updateAgents_length, applyActions_length]

theorem run_preserves (sem : Sem σ Act Req Resp) (order : List Nat) {P : Game σ Req Resp → Prop}
    (hstep : ∀ g a, P g → P (envStep sem order g a).1) : ∀ (as : List Act) (g : Game σ Req Resp), P g → P (run sem order g as)
  | [], _, h => h
  | a :: as, g, h => run_preserves sem order hstep as _ (hstep g a h)

/-- Each step advances simulated time by exactly one tick: after any action sequence the tick counter is the
number of actions taken. -/
theorem C01_step_counter (sem : Sem σ Act Req Resp) (order : List Nat) (g : Game σ Req Resp) (as : List Act) :
    (run sem order g as).step = g.step + as.length ∧ (run sem order g as).maxLen = g.maxLen ∧
    (run sem order g as).agents.length = g.agents.length := by
  induction as generalizing g with
  | nil => simp [run]
  | cons a as ih =>
    simp only [run, List.length_cons]
    obtain ⟨h1, h2, h3⟩ := ih (envStep sem order g a).1
    obtain ⟨e1, e2, e3⟩ := envStep_step sem order g a
    exact ⟨by omega, by rw [h2, e2], by rw [h3, e3]⟩

/-- Exactly one action and one response are recorded for every agent at every step (time stamps 0,1,…,n-1, so no
step is skipped or doubled), and every agent's episode total is the sum of its step rewards — for every action
sequence, from any state satisfying the invariant (in particular a freshly reset game). -/
theorem C01_history_and_totals (sem : Sem σ Act Req Resp) (order : List Nat) (hnd : order.Nodup)
    (g : Game σ Req Resp) (h : Inv g) (as : List Act) : Inv (run sem order g as) :=
  run_preserves sem order (envStep_inv sem order hnd) as g h

/-- `truncated` is reported exactly when the number of steps taken (this one included) has reached the configured
maximum; `terminated` is always false. -/
theorem C01_truncated_iff (sem : Sem σ Act Req Resp) (order : List Nat) (g : Game σ Req Resp) (a : Act) :
    (envStep sem order g a).2.truncated = decide (g.maxLen ≤ g.step + 1) ∧
    (envStep sem order g a).2.terminated = false := by
  simp [envStep, truncated]

/-- A reset yields an episode at tick 0 with no history and no accumulated reward, whatever happened before: the new
game is a function of the episode's configuration only (`envReset` does not even take the old game). -/
theorem C01_reset_fresh (sem : Sem σ Act Req Resp) (order : List Nat) (build : Nat → σ) (n maxLen ep : Nat) :
    let g := envReset sem order build n maxLen ep
    g.step = 0 ∧ g.agents.length = n ∧ (∀ ag ∈ g.agents, ag.hist = [] ∧ ag.total = 0 ∧ ag.current = 0) ∧ Inv g := by
  have hz : ∀ ag ∈ (envReset sem order build n maxLen ep).agents, ag.hist = [] ∧ ag.total = 0 ∧ ag.current = 0 := by
    simp only [envReset]
    apply updateAgents_forall sem 0 (build ep) (fun ag => ag.hist = [] ∧ ag.total = 0 ∧ ag.current = 0)
    · intro i done ag ⟨h1, h2, h3⟩
      simp [updOne, h1, h2, h3]
    · intro ag hag
      have := List.eq_of_mem_replicate hag
      subst this
      exact ⟨rfl, rfl, rfl⟩
  refine ⟨rfl, by simp [envReset, updateAgents_length], hz, ?_⟩
  constructor
  · intro ag hag
    have := (hz ag hag).1
    simp [tsOf, this, envReset]
  · intro ag hag
    obtain ⟨h1, h2, _⟩ := hz ag hag
    simp [Bal, h1, h2, rsum]

/-- Putting it together for whole runs: reset, then any number of steps. -/
theorem C01_episode_contract (sem : Sem σ Act Req Resp) (order : List Nat) (hnd : order.Nodup)
    (build : Nat → σ) (n maxLen ep : Nat) (as : List Act) :
    let g := run sem order (envReset sem order build n maxLen ep) as
    g.step = as.length ∧ g.agents.length = n ∧
    (∀ ag ∈ g.agents, tsOf ag = List.range as.length ∧ ag.hist.length = as.length ∧ ag.total = rsum ag.hist) := by
  obtain ⟨h0, hn, _, hinv⟩ := C01_reset_fresh sem order build n maxLen ep
  obtain ⟨h1, _, h3⟩ := C01_step_counter sem order (envReset sem order build n maxLen ep) as
  have hI := C01_history_and_totals sem order hnd _ hinv as
  refine ⟨by omega, by omega, ?_⟩
  intro ag hag
  have hts := hI.ts ag hag
  rw [h1, h0, Nat.zero_add] at hts
  refine ⟨hts, ?_, hI.bal ag hag⟩
  have := congrArg List.length hts
  simpa [tsOf] using this

/-- `info["agent_actions"][name] = agent.history[-1]` is well defined after every step and names the item of THIS
step: from a state satisfying the invariant, after `envStep` every agent's history is non-empty and its last item is
stamped with the tick the step started at. -/
theorem C01_info_last_item (sem : Sem σ Act Req Resp) (order : List Nat) (hnd : order.Nodup)
    (g : Game σ Req Resp) (h : Inv g) (a : Act) :
    ∀ ag ∈ (envStep sem order g a).1.agents, ∃ it, ag.hist.getLast? = some it ∧ it.timestep = g.step := by
  intro ag hag
  have hts := envStep_ts sem order g a h.ts ag hag
  rw [List.range_succ] at hts
  simpa [tsOf, List.getLast?_map] using congrArg List.getLast? hts

/-- Whole-run form of the truncation clause, including steps taken AFTER truncation: from a reset, the k-th step of the
episode (k = number of steps taken, this one included) reports `truncated` iff k ≥ max — so once the maximum has been
reached every further step of the same episode reports it again. -/
theorem C01_truncated_whole_run (sem : Sem σ Act Req Resp) (order : List Nat) (build : Nat → σ) (n maxLen ep : Nat)
    (as : List Act) (a : Act) :
    (envStep sem order (run sem order (envReset sem order build n maxLen ep) as) a).2.truncated
      = decide (maxLen ≤ as.length + 1) ∧
    (envStep sem order (run sem order (envReset sem order build n maxLen ep) as) a).2.terminated = false := by
  obtain ⟨h1, h2, _⟩ := C01_step_counter sem order (envReset sem order build n maxLen ep) as
  obtain ⟨t1, t2⟩ := C01_truncated_iff sem order (run sem order (envReset sem order build n maxLen ep) as) a
  refine ⟨?_, t2⟩
  rw [t1, h1, h2]
  simp [envReset]

def respOf (ag : Agent Req Resp) : List Resp := ag.hist.map (·.response)

theorem updOne_resp (sem : Sem σ Act Req Resp) (step : Nat) (s : σ) (i : Nat) (done) (ag : Agent Req Resp) :
    respOf (updOne sem step s i done ag) = respOf ag :=
  updOne_hist_map (·.response) (fun _ _ => rfl) sem step s i done ag

/-- `apply_agent_actions` appends to every agent exactly one item, whose response is what `apply_request` answered to
some request in some simulation state. -/
theorem applyActions_resp (sem : Sem σ Act Req Resp) (t : Nat) (a : Act) (i : Nat) (ags : List (Agent Req Resp)) (s : σ) :
    ∀ ag' ∈ (applyActions sem t a i ags s).1, ∃ ag ∈ ags, ∃ (req : Req) (s' : σ),
      respOf ag' = respOf ag ++ [(sem.apply req s').2] := by
  intro ag' hag'
  obtain ⟨ag, hmem, req, s', rfl⟩ := applyActions_mem sem t a i ags s ag' hag'
  exact ⟨ag, hmem, req, s', by simp [respOf]⟩

/-- A property of single responses that `apply_request` always guarantees is a property of every recorded response,
after any action sequence, for every agent. -/
theorem responses_invariant (sem : Sem σ Act Req Resp) (order : List Nat) (P : Resp → Prop)
    (hP : ∀ req s, P (sem.apply req s).2) (g : Game σ Req Resp)
    (hg : ∀ ag ∈ g.agents, ∀ r ∈ respOf ag, P r) (as : List Act) :
    ∀ ag ∈ (run sem order g as).agents, ∀ r ∈ respOf ag, P r := by
  refine run_preserves sem order (P := fun g' => ∀ ag ∈ g'.agents, ∀ r ∈ respOf ag, P r) (fun g a hg => ?_) as g hg
  simp only [envStep]
  apply updateAgents_forall sem (g.step + 1) _ (fun ag => ∀ r ∈ respOf ag, P r)
  · intro i done ag h
    rw [updOne_resp]; exact h
  · intro ag' hag' r hr
    obtain ⟨ag, hmem, req, s', he⟩ := applyActions_resp sem g.step a 0 g.agents (sem.pre g.step g.sim) ag' hag'
    rw [he] at hr
    rcases List.mem_append.mp hr with h | h
    · exact hg ag hmem r h
    · simp only [List.mem_singleton] at h
      rw [h]; exact hP req s'

/-- `ReqSim.apply` is C05's execution: with handlers that answer a status, it is `execK` (so everything C05 proves about
refused and reached requests applies to the responses recorded here). -/
theorem ReqSim_apply_eq_execK (R : ReqSim σ) (run' : Request.HId → List Request.Key → σ → σ × Request.Status)
    (hh : ∀ h a s, R.handler h a s = ((run' h a s).1, some (run' h a s).2)) (req : List Request.Key) (s : σ) :
    R.apply req s = ((Request.execK (R.env s) run' (R.kids s) req s).1,
                     some (Request.execK (R.env s) run' (R.kids s) req s).2) := by
  unfold ReqSim.apply
  rw [Request.C05_exec_follows_dispatch (R.env s) run' (R.kids s) req s 0]
  cases Request.dispatchK (R.env s) (R.kids s) req 0 with
  | unreachable d => rfl
  | failure d v => rfl
  | reached h args => simp [hh]

/-- One request: a refusal leaves the simulation untouched and is answered `unreachable` or `failure` by the manager
itself; otherwise the answer is the handler's. -/
theorem ReqSim_apply_cases (R : ReqSim σ) (req : List Request.Key) (s : σ) :
    (R.apply req s = (s, some .unreachable)) ∨ (R.apply req s = (s, some .failure)) ∨
    (∃ h args, Request.dispatchK (R.env s) (R.kids s) req 0 = .reached h args ∧ R.apply req s = R.handler h args s) := by
  unfold ReqSim.apply
  cases hd : Request.dispatchK (R.env s) (R.kids s) req 0 with
  | unreachable d => exact Or.inl rfl
  | failure d v => exact Or.inr (Or.inl rfl)
  | reached h args => exact Or.inr (Or.inr ⟨h, args, rfl, rfl⟩)

/-- Every agent history item carries a response with one of the four documented statuses — for every request tree,
every valuation of the validators, every agent policy and every action sequence — PROVIDED every handler answers with a
`RequestResponse` (refusals are built by the request manager and always do).  Starts from any game whose recorded
responses are documented, in particular a freshly reset one. -/
theorem C01_responses_documented (sem : Sem σ Act (List Request.Key) RawResp) (R : ReqSim σ)
    (happly : sem.apply = R.apply) (hhandlers : ∀ h args s, (R.handler h args s).2.isSome = true)
    (order : List Nat) (g : Game σ (List Request.Key) RawResp)
    (hg : ∀ ag ∈ g.agents, ∀ r ∈ respOf ag, r.isSome = true) (as : List Act) :
    ∀ ag ∈ (run sem order g as).agents, ∀ r ∈ respOf ag, ∃ st ∈ allStatuses, r = some st := by
  have key := responses_invariant sem order (fun r => r.isSome = true)
    (by
      intro req s
      rw [happly]
      rcases ReqSim_apply_cases R req s with h | h | ⟨hd, args, _, h⟩
      · rw [h]; rfl
      · rw [h]; rfl
      · rw [h]; exact hhandlers hd args s) g hg as
  intro ag hag r hr
  have := key ag hag r hr
  cases r with
  | none => simp at this
  | some st => exact ⟨st, by cases st <;> simp [allStatuses], rfl⟩

/-- … in particular from a reset (empty histories). -/
theorem C01_responses_documented_from_reset (sem : Sem σ Act (List Request.Key) RawResp) (R : ReqSim σ)
    (happly : sem.apply = R.apply) (hhandlers : ∀ h args s, (R.handler h args s).2.isSome = true)
    (order : List Nat) (build : Nat → σ) (n maxLen ep : Nat) (as : List Act) :
    ∀ ag ∈ (run sem order (envReset sem order build n maxLen ep) as).agents,
      (∀ r ∈ respOf ag, ∃ st ∈ allStatuses, r = some st) ∧ (respOf ag).length = as.length := by
  obtain ⟨h0, _, hz, hinv⟩ := C01_reset_fresh sem order build n maxLen ep
  intro ag hag
  refine ⟨C01_responses_documented sem R happly hhandlers order _ ?_ as ag hag, ?_⟩
  · intro ag0 h0 r hr
    have := (hz ag0 h0).1
    simp [respOf, this] at hr
  · -- one response per step: the time stamps are 0,…,n-1 (no hypothesis on the order is needed for them)
    have := congrArg List.length (run_preserves sem order (P := fun g => ∀ ag ∈ g.agents, tsOf ag = List.range g.step)
      (envStep_ts sem order) as _ hinv.ts ag hag)
    simpa [tsOf, respOf, h0, (C01_step_counter sem order _ as).1] using this

def badSim : ReqSim Nat where
  kids := fun _ => [("do", 0, .leaf 7)]
  env := fun _ _ _ => true
  handler := fun _ _ s => (s + 1, none)

def badSem : Sem Nat Nat (List Request.Key) RawResp where
  pre := fun _ s => s
  choose := fun _ _ _ _ => ["do"]
  apply := badSim.apply
  tick := fun _ s => s
  reward := fun _ _ _ _ => 0

/-- The hypothesis on the handlers is needed: with ONE handler that hands back something that is not a
`RequestResponse` (finding class F-2: handlers returning `None`), the very first step records an item without a
documented status. -/
theorem C01_handler_contract_needed :
    ¬ (∀ (sem : Sem Nat Nat (List Request.Key) RawResp) (R : ReqSim Nat), sem.apply = R.apply →
        ∀ (as : List Nat), ∀ ag ∈ (run sem [0] (envReset sem [0] (fun _ => 0) 1 5 0) as).agents,
          ∀ r ∈ respOf ag, ∃ st ∈ allStatuses, r = some st) := by
  intro h
  have := h badSem badSim rfl [0]
  simp [run, envStep, envReset, updateAgents, updOne, applyActions, badSem, badSim, ReqSim.apply, Request.dispatchK,
    Request.lookup, respOf, setLastReward] at this

/-- non-vacuity of `C01_responses_documented`: a tree with a validator that refuses, a missing target and a handler -/
def okSim : ReqSim Nat where
  kids := fun _ => [("node", 0, .node [("pc", 1, .node [("shutdown", 0, .leaf 3)])])]
  env := fun s v _ => v != 1 || s % 2 == 0
  handler := fun _ _ s => (s + 1, some .success)

def okSem : Sem Nat Nat (List Request.Key) RawResp where
  pre := fun _ s => s
  choose := fun i _ a _ => if a = 0 then ["node", "pc", "shutdown"] else if i = 0 then ["node", "nowhere"] else ["node", "pc", "shutdown"]
  apply := okSim.apply
  tick := fun _ s => s
  reward := fun _ _ _ _ => 0

example : ∀ h args s, (okSim.handler h args s).2.isSome = true := by intro _ _ _; rfl
example : ((run okSem [0, 1] (envReset okSem [0, 1] (fun _ => 0) 2 9 0) [0, 0, 1]).agents.map respOf) =
    [[some .success, some .failure, some .unreachable], [some .failure, some .failure, some .failure]] := by decide +kernel

open Primaite.Gen.Episode in
/-- The order of calls in `PrimaiteGymEnv.step`, `advance_timestep`, `apply_agent_actions`, `update_agents` and
`reset`, the comparator of `calculate_truncated`, the literal `terminated = False` and the single history append are
the ones `envStep` / `envReset` model; `PrimaiteRayMARLEnv.step/reset` call the same game methods in the same order
(that is what the rig's driver for scenarios with several RL agents mirrors); `PrimaiteGame.step` (scripted agents
only) is the same sequence without the stored action, plus an observation update at tick 0 that the bookkeeping does
not see. -/
theorem C01_gen_pipeline :
    stepPipeline = ["store_action", "pre_timestep", "apply_agent_actions", "advance_timestep", "get_sim_state",
                    "update_agents", "_get_obs", "calculate_truncated"] ∧
    advanceTimestep = ["step_counter += 1", "update_agent_loggers", "apply_timestep(step_counter)"] ∧
    applyAgentActions = ["get_action(timestep=step_counter)", "format_request", "apply_request",
                         "process_action_response(timestep=step_counter)"] ∧
    updateAgentsBody = ["if step_counter > 0", "update_reward", "save_reward_to_history", "update_observation",
                        "total_reward += current_reward"] ∧
    resetPipeline = ["episode_counter += 1", "from_config(episode_scheduler(episode_counter))", "setup_for_episode",
                     "get_sim_state", "update_agents", "_get_obs"] ∧
    terminatedLiteral = false ∧ historyAppendsPerResponse = 1 ∧
    (∀ s m : Nat, calculateTruncated s m = decide (s ≥ m)) ∧
    marlStepPipeline = stepPipeline ∧ marlResetPipeline = resetPipeline ∧ marlTerminatedLiteral = false ∧
    gameStepPipeline = ["pre_timestep", "if step_counter == 0", "get_sim_state", "update_observation",
                        "apply_agent_actions", "advance_timestep", "get_sim_state", "update_agents"] := by
  refine ⟨rfl, rfl, rfl, rfl, rfl, rfl, rfl, ?_, rfl, rfl, rfl, rfl⟩
  intro s m
  unfold calculateTruncated
  by_cases h : s ≥ m <;> simp [h]

open Primaite.Gen.Episode in
/-- Shape of one history record: `process_action_response` is the single statement
`self.history.append(AgentHistoryItem(timestep=…, action=…, parameters=…, request=…, response=…, observation=…))` with
every required field passed through unchanged, nobody overrides it (or `save_reward_to_history`, which writes only the
reward of the last item), the `response` field is a `RequestResponse`, and the `Literal` of `RequestResponse.status`
is exactly the four statuses of the model (`Item`, `setLastReward`, `allStatuses`). -/
theorem C01_gen_history_item :
    historyItemConstruction = [("timestep", "timestep"), ("action", "action"), ("parameters", "parameters"),
                               ("request", "request"), ("response", "response"), ("observation", "observation")] ∧
    historyItemRequired = ["timestep", "action", "parameters", "request", "response"] ∧
    (∀ f ∈ historyItemRequired, (f, f) ∈ historyItemConstruction) ∧
    historyItemFields.lookup "response" = some "RequestResponse" ∧
    historyItemFields.lookup "reward" = some "Optional[float]" ∧
    saveRewardBody = ["self.history[-1].reward = self.reward_function.current_reward"] ∧
    historyWriterOverrides = [] ∧
    responseStatusLiteral = allStatuses.map statusName ∧ responseModelForbidsExtra = true :=
  ⟨rfl, rfl, by decide, rfl, rfl, rfl, rfl, rfl, rfl⟩

def exSem : Sem Nat Nat Nat Nat where
  pre := fun _ s => s
  choose := fun i t a _ => i + t + a
  apply := fun r s => (s + r, r % 2)
  tick := fun t s => s + t
  reward := fun i s _ done => (s : Int) - i + done.length

example : (run exSem [1, 0] (envReset exSem [1, 0] (fun _ => 5) 2 3 0) [7, 8, 9]).step = 3 := by decide
example : (envStep exSem [1, 0] (run exSem [1, 0] (envReset exSem [1, 0] (fun _ => 5) 2 3 0) [7, 8]) 9).2.truncated = true := by
  decide
example : ((run exSem [1, 0] (envReset exSem [1, 0] (fun _ => 5) 2 3 0) [7, 8, 9]).agents.map (fun ag => ag.hist.length)) = [3, 3] := by
  decide

end Primaite.Episode
