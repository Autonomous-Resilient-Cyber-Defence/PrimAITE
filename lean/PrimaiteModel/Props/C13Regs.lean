/-
C13: the port-table and class-map statements of `SoftwareManager.install` / `uninstall`, TRANSLATED from the source
(`Gen/SoftwareRegs.lean`), are what the Registries model does — for every registry state, programs that SHARE a (port, protocol) key
included.  What sharing means for "open ports agree" is stated and proved on the tables:
  * the last installer owns the slot (`C13_shared_slot_last_installer`);
  * uninstalling a program that does not own the slot leaves the owner's slot alone (`C13_shared_slot_nonowner_uninstall`);
  * uninstalling the owner leaves the slot EMPTY although another program with the same key is installed — the code as it is — and
    `get_open_ports` then lists that port no more: "open ports agree" is agreement with the RUNNING slot OWNERS
    (`C13_open_port_has_running_owner` / `C13_running_owner_ports_open`), not with every running program (`C13_running_port_shadowed`).
The WHOLE methods, translated statement by statement, are `Node.uninstall` / `Node.installSvc` / `Node.installApp` on every node that
satisfies the invariant `RegWF` (`C13_gen_uninstall_method`, `C13_gen_install_method`), which every node reachable from registries
without software does (`C13_regwf_run`, `C13_gen_methods_reachable`).
-/
import PrimaiteModel.Props.C13
import PrimaiteModel.Gen.SoftwareRegs
namespace Primaite.C13
open Primaite.Lifecycle Primaite.Registries

/-- **the tie, uninstall**: whenever the model's `uninstall` removes object `u` named `name`, its port table and class map afterwards
are exactly what the TRANSLATED statements compute from the tables before — for every node state -/
theorem C13_gen_uninstall_tables (n n' : Node) (name : String) (u : Nat) (key : Nat × Nat) (cid : String)
    (hu : dget name n.software = some u) (h : n.uninstall name = some n') :
    n'.portMap = Gen.SoftwareRegs.uninstallPortMap n.nameOf name u key n.portMap ∧
    n'.classMap = Gen.SoftwareRegs.uninstallClassMap name cid n.classMap := by
  unfold Node.uninstall at h
  simp only [hu] at h
  split at h
  · split at h
    · cases h; exact ⟨rfl, rfl⟩
    · cases h
  · split at h
    · split at h
      · cases h; exact ⟨rfl, rfl⟩
      · cases h
    · cases h; exact ⟨rfl, rfl⟩

/-- **the tie, install**: the registry writes of the model for a freshly constructed service / application put exactly the
TRANSLATED writes into the port table and the class map -/
theorem C13_gen_install_tables (n : Node) (c : Cls) (l : List Nat) (hl : Health) (f : Int) :
    (n.registerSvc c l hl f).portMap = Gen.SoftwareRegs.installPortMap n.next (c.port, c.proto) n.portMap ∧
    (n.registerSvc c l hl f).classMap = Gen.SoftwareRegs.installClassMap c.name c.cid n.classMap ∧
    (n.registerApp c l hl f).portMap = Gen.SoftwareRegs.installPortMap n.next (c.port, c.proto) n.portMap ∧
    (n.registerApp c l hl f).classMap = Gen.SoftwareRegs.installClassMap c.name c.cid n.classMap :=
  ⟨rfl, rfl, rfl, rfl⟩

theorem C13_gen_install_uninstall :
    (∀ (n n' : Node) (name : String) (u : Nat) (key : Nat × Nat) (cid : String),
      dget name n.software = some u → n.uninstall name = some n' →
      n'.portMap = Gen.SoftwareRegs.uninstallPortMap n.nameOf name u key n.portMap ∧
      n'.classMap = Gen.SoftwareRegs.uninstallClassMap name cid n.classMap) ∧
    (∀ (n : Node) (c : Cls) (l : List Nat) (hl : Health) (f : Int),
      (n.registerSvc c l hl f).portMap = Gen.SoftwareRegs.installPortMap n.next (c.port, c.proto) n.portMap ∧
      (n.registerApp c l hl f).portMap = Gen.SoftwareRegs.installPortMap n.next (c.port, c.proto) n.portMap) :=
  ⟨C13_gen_uninstall_tables, fun n c l hl f => ⟨(C13_gen_install_tables n c l hl f).1, (C13_gen_install_tables n c l hl f).2.2.1⟩⟩

def sm (n : Node) : List Meta := n.svcs.map (·.m)
def am (n : Node) : List Meta := n.apps.map (·.m)
def lookM (l : List Meta) (u : Nat) : Option Meta := l.find? (fun m => m.uid == u)

theorem findSvc_meta (n : Node) (u : Nat) : (n.findSvc u).map (·.m) = lookM (sm n) u := by
  simp only [Node.findSvc, lookM, sm, List.find?_map]; rfl

theorem findApp_meta (n : Node) (u : Nat) : (n.findApp u).map (·.m) = lookM (am n) u := by
  simp only [Node.findApp, lookM, am, List.find?_map]; rfl

theorem metaOf_eq (n : Node) (u : Nat) : n.metaOf u = (lookM (sm n) u).or (lookM (am n) u) := by
  unfold Node.metaOf
  rw [← findSvc_meta, ← findApp_meta]
  cases n.findSvc u <;> simp

theorem lookM_none_of_lt (l : List Meta) (k : Nat) (h : ∀ m ∈ l, m.uid < k) : lookM l k = none :=
  find_none_of_lt (fun m : Meta => m.uid) l k h

theorem lookM_some (l : List Meta) (u : Nat) (m : Meta) (h : lookM l u = some m) : m ∈ l ∧ m.uid = u := by
  unfold lookM at h
  refine ⟨List.mem_of_find?_eq_some h, ?_⟩
  have := List.find?_some h
  simpa using this

theorem lookM_append (l : List Meta) (x : Meta) (u : Nat) :
    lookM (l ++ [x]) u = (lookM l u).or (if x.uid = u then some x else none) := by
  unfold lookM
  rw [List.find?_append]
  by_cases hx : x.uid = u <;> simp [hx]

/-- an object is a Service or an Application, not both (the Python class) -/
def OneKind (n : Node) : Prop := ∀ u, n.findSvc u = none ∨ n.findApp u = none

/-- every entry of `software` is stored under its object's name: `software.name == software_name` for the popped object -/
def Named (n : Node) : Prop := ∀ name u, dget name n.software = some u → n.nameOf u = some name

/-- The invariant of the registries, on every node reachable by `step` from a node without software: uids of the objects in both
heaps are below the counter `next` (handed out once), no uid is in both heaps (an object is a Service or an Application — the
Python class), and every entry of `software` is stored under ITS OBJECT's name (`install` writes
`self.software[software.name] = software`).  It holds of the empty registries and every model operation keeps it, so the two
whole-method ties need no hypothesis on reachable nodes. -/
structure RegWF (n : Node) : Prop where
  svcLt : ∀ m ∈ sm n, m.uid < n.next
  appLt : ∀ m ∈ am n, m.uid < n.next
  disj : ∀ m ∈ sm n, ∀ m' ∈ am n, m.uid ≠ m'.uid
  named : ∀ e ∈ n.software, ((lookM (sm n) e.2).or (lookM (am n) e.2)).map (·.cls.name) = some e.1

/-- `RegWF` gives the two facts the whole-method ties need -/
theorem RegWF.oneKind {n : Node} (h : RegWF n) : OneKind n := by
  intro u
  cases hs : n.findSvc u with
  | none => exact Or.inl rfl
  | some i =>
    cases ha : n.findApp u with
    | none => exact Or.inr rfl
    | some j =>
      exfalso
      have h1 := findSvc_meta n u
      have h2 := findApp_meta n u
      rw [hs] at h1; rw [ha] at h2
      obtain ⟨m1, e1⟩ := lookM_some _ _ _ h1.symm
      obtain ⟨m2, e2⟩ := lookM_some _ _ _ h2.symm
      exact h.disj _ m1 _ m2 (e1.trans e2.symm)

theorem RegWF.isNamed {n : Node} (h : RegWF n) : Named n := by
  intro name u hd
  have := h.named (name, u) (dget_mem n.software name u hd)
  simpa [Node.nameOf, metaOf_eq] using this

/-- registries without software are well-formed (whatever the power state and durations) -/
theorem C13_regwf_empty (n : Node) (hs : n.svcs = []) (ha : n.apps = []) (hw : n.software = []) : RegWF n := by
  refine ⟨?_, ?_, ?_, ?_⟩ <;> simp [sm, am, hs, ha, hw]

theorem RegWF.same {n n' : Node} (h : RegWF n) (hs : sm n' = sm n) (ha : am n' = am n) (hn : n'.next = n.next)
    (hw : ∀ e ∈ n'.software, e ∈ n.software) : RegWF n' := by
  refine ⟨?_, ?_, ?_, ?_⟩
  · rw [hs, hn]; exact h.svcLt
  · rw [ha, hn]; exact h.appLt
  · rw [hs, ha]; exact h.disj
  · rw [hs, ha]; exact fun e he => h.named e (hw e he)

theorem RegWF.software_lt {n : Node} (h : RegWF n) (e : String × Nat) (he : e ∈ n.software) : e.2 < n.next := by
  have hold := h.named e he
  cases hs : lookM (sm n) e.2 with
  | some m =>
    obtain ⟨hm, hu⟩ := lookM_some _ _ _ hs
    exact hu ▸ h.svcLt m hm
  | none =>
    cases ha : lookM (am n) e.2 with
    | none => simp [hs, ha] at hold
    | some m =>
      obtain ⟨hm, hu⟩ := lookM_some _ _ _ ha
      exact hu ▸ h.appLt m hm

theorem RegWF.registerSvc {n : Node} (h : RegWF n) (c : Cls) (l : List Nat) (hl : Health) (f : Int) : RegWF (n.registerSvc c l hl f) := by
  have hsm : sm (n.registerSvc c l hl f) = sm n ++ [⟨n.next, c, l⟩] := by simp [sm, Node.registerSvc]
  have ham : am (n.registerSvc c l hl f) = am n := rfl
  have hnx : (n.registerSvc c l hl f).next = n.next + 1 := rfl
  have hsw : (n.registerSvc c l hl f).software = dset c.name n.next n.software := rfl
  refine ⟨?_, ?_, ?_, ?_⟩
  · rw [hsm, hnx]
    exact List.forall_mem_append.mpr ⟨fun m hm => Nat.lt_succ_of_lt (h.svcLt m hm),
      List.forall_mem_singleton.mpr (Nat.lt_succ_self _)⟩
  · rw [ham, hnx]; exact fun m hm => Nat.lt_succ_of_lt (h.appLt m hm)
  · rw [hsm, ham]
    exact List.forall_mem_append.mpr ⟨h.disj,
      List.forall_mem_singleton.mpr (fun m' hm' => Nat.ne_of_gt (h.appLt m' hm'))⟩
  · rw [hsm, ham, hsw]; intro e he
    rcases mem_dset _ _ _ _ he with he' | he'
    · have hne : ¬ n.next = e.2 := Nat.ne_of_gt (h.software_lt e he')
      simpa [lookM_append, hne] using h.named e he'
    · subst he'
      simp [lookM_append, lookM_none_of_lt _ _ h.svcLt]

theorem RegWF.registerApp {n : Node} (h : RegWF n) (c : Cls) (l : List Nat) (hl : Health) (f : Int) : RegWF (n.registerApp c l hl f) := by
  have hsm : sm (n.registerApp c l hl f) = sm n := rfl
  have ham : am (n.registerApp c l hl f) = am n ++ [⟨n.next, c, l⟩] := by simp [am, Node.registerApp]
  have hnx : (n.registerApp c l hl f).next = n.next + 1 := rfl
  have hsw : (n.registerApp c l hl f).software = dset c.name n.next n.software := rfl
  refine ⟨?_, ?_, ?_, ?_⟩
  · rw [hsm, hnx]; exact fun m hm => Nat.lt_succ_of_lt (h.svcLt m hm)
  · rw [ham, hnx]
    exact List.forall_mem_append.mpr ⟨fun m hm => Nat.lt_succ_of_lt (h.appLt m hm),
      List.forall_mem_singleton.mpr (Nat.lt_succ_self _)⟩
  · rw [hsm, ham]
    exact fun m hm => List.forall_mem_append.mpr ⟨h.disj m hm,
      List.forall_mem_singleton.mpr (Nat.ne_of_lt (h.svcLt m hm))⟩
  · rw [hsm, ham, hsw]; intro e he
    rcases mem_dset _ _ _ _ he with he' | he'
    · have hne : ¬ n.next = e.2 := Nat.ne_of_gt (h.software_lt e he')
      simpa [lookM_append, hne] using h.named e he'
    · subst he'
      simp [lookM_append, lookM_none_of_lt _ _ h.svcLt, lookM_none_of_lt _ _ h.appLt]

theorem RegWF.uninstall {n n' : Node} (h : RegWF n) (name : String) (hu : n.uninstall name = some n') : RegWF n' := by
  rcases uninstall_some n n' name hu with rfl | ⟨_, _, _, _, rfl⟩
  · exact h
  · exact h.same rfl rfl rfl (fun e he => mem_ddel _ _ e he)

theorem RegWF.evict {n n1 : Node} (h : RegWF n) (name : String) (he : n.evict name = some n1) : RegWF n1 := by
  rcases evict_some n n1 name he with rfl | hu
  · exact h
  · exact h.uninstall name hu

theorem RegWF.installSvc {n n' : Node} (h : RegWF n) (c : Cls) (cfg : Bool) (l : List Nat) (hl : Health) (f : Int)
    (hi : n.installSvc c cfg l hl f = some n') : RegWF n' := by
  rcases installSvc_some n n' c cfg l hl f hi with rfl | ⟨n1, he, rfl⟩
  · exact h
  · exact (h.evict c.name he).registerSvc c l hl f

theorem RegWF.installApp {n n' : Node} (h : RegWF n) (c : Cls) (cfg : Bool) (l : List Nat) (hl : Health) (f : Int)
    (hi : n.installApp c cfg l hl f = some n') : RegWF n' := by
  rcases installApp_some n n' c cfg l hl f hi with rfl | ⟨n1, he, rfl⟩
  · exact h
  · exact (h.evict c.name he).registerApp c l hl f

theorem RegWF.deliverEvs {n : Node} (h : RegWF n) (op : Op) : RegWF (n.deliverEvs op) :=
  h.same (by simp [sm, Node.deliverEvs, List.map_map, Function.comp_def])
    (by simp [am, Node.deliverEvs, List.map_map, Function.comp_def]) rfl (fun _ he => he)

theorem RegWF.power {n : Node} (h : RegWF n) (p : Power) (up down : Int) : RegWF { n with power := p, upCd := up, downCd := down } :=
  h.same rfl rfl rfl (fun _ he => he)

/-- **Every model operation preserves the invariant** (all 17 operations, the raising ones included). -/
theorem C13_regwf_step (n : Node) (op : Op) (h : RegWF n) : RegWF (n.step op).1 := by
  have k := step_kind n op
  generalize n.step op = r at k ⊢
  cases k with
  | idle p up down out _ => exact h.power p up down
  | deliver p up down out _ => exact (h.deliverEvs op).power p up down
  | uninstall name n' out hu _ => exact h.uninstall name hu
  | installSvc c cfg l hl f n' _ hi _ => exact h.installSvc c cfg l hl f hi
  | installApp c cfg l hl f n' out _ hi _ => exact h.installApp c cfg l hl f hi
  | reqInstall name c l n1 out _ hi _ _ =>
    exact (h.installApp c false l .good 2 hi).same rfl (by simp [am, List.map_map, Function.comp_def]) rfl (fun _ he => he)

theorem C13_regwf_run (ops : List Op) (n : Node) (h : RegWF n) : RegWF (n.run ops) :=
  run_invariant RegWF C13_regwf_step ops n h

/-- On every node reachable from registries without software, whatever the power state and durations, every
sequence of operations: the object stored under a key of `software` carries that key as its name (`software.name == software_name`
for the object `uninstall` pops), and no object is both a Service and an Application -/
theorem C13_regwf_named (n0 : Node) (hs : n0.svcs = []) (ha : n0.apps = []) (hw : n0.software = []) (ops : List Op) :
    OneKind (n0.run ops) ∧ Named (n0.run ops) :=
  let h := C13_regwf_run ops n0 (C13_regwf_empty n0 hs ha hw)
  ⟨h.oneKind, h.isNamed⟩

/-- **The WHOLE method, uninstall.**  `SoftwareManager.uninstall`, translated statement by statement (guard, pop,
the `isinstance` branches with their list and route writes — `remove_request(software.name)` with the popped object's OWN name,
raising when the route is missing —, the two clean-up statements, in source order), IS `Node.uninstall` — for every node state
satisfying the invariant, every name. -/
theorem C13_gen_uninstall_method (n : Node) (name : String) (hk : OneKind n) (hn : Named n) :
    Gen.SoftwareRegs.uninstallMethod n name = n.uninstall name := by
  unfold Gen.SoftwareRegs.uninstallMethod Node.uninstall
  cases hd : dget name n.software with
  | none => simp [dhas, hd]
  | some u =>
    have hdh : dhas name n.software = true := by simp [dhas, hd]
    have hnm : (n.nameOf u).getD "" = name := by rw [hn name u hd]; rfl
    simp only [hdh, Bool.not_true, Bool.false_eq_true, if_false, hnm]
    rcases hk u with hs | ha
    · cases n.findApp u with
      | none => simp [hs]
      | some i => cases dhas name n.appRoutes <;> simp [hs]
    · cases n.findSvc u with
      | none => simp [ha]
      | some i => cases dhas name n.svcRoutes <;> simp [ha]

example : RegWF ({} : Node) := C13_regwf_empty _ rfl rfl rfl

/-- non-vacuity: the translated method really removes (evaluated: dns-client uninstalled) -/
example :
    let c : Cls := { cid := "DNSClient", name := "dns-client", port := 53, proto := 1 }
    let n := ({} : Node).run [.installSvc c true [] .good 2]
    (Gen.SoftwareRegs.uninstallMethod n "dns-client").map (·.software) = some [] ∧
    (Gen.SoftwareRegs.uninstallMethod n "dns-client").map (·.services) = some [] ∧
    (Gen.SoftwareRegs.uninstallMethod n "dns-client").map (·.svcRoutes) = some [] ∧
    (Gen.SoftwareRegs.uninstallMethod n "dns-client").map (·.portMap) = some [] ∧
    (Gen.SoftwareRegs.uninstallMethod n "dns-client").map (·.classMap) = some [] := by decide +kernel

/-- **The WHOLE method, install.**  `SoftwareManager.install`, translated statement by statement (the "already
installed" guard, the constructor, the eviction through the translated `uninstall`, list and route writes, `start()` / `install()`,
the three table writes, the forced CLOSED of an application, in source order), IS `Node.installSvc` for a Service class and
`Node.installApp` for an Application class — for every node state satisfying the invariant, every class and configuration. -/
theorem C13_gen_install_method (n : Node) (c : Cls) (cfg : Bool) (l : List Nat) (hl : Health) (f : Int) (hk : OneKind n) (hn : Named n) :
    Gen.SoftwareRegs.installMethodSvc n c cfg l hl f = n.installSvc c cfg l hl f ∧
    Gen.SoftwareRegs.installMethodApp n c cfg l hl f = n.installApp c cfg l hl f := by
  unfold Gen.SoftwareRegs.installMethodSvc Gen.SoftwareRegs.installMethodApp Node.installSvc Node.installApp Node.installRefused Node.evict
  by_cases hg : (dhas c.cid n.classMap && !cfg) = true
  · simp [hg]
  · simp only [hg]
    by_cases hsw : dhas c.name n.software = true
    · simp only [hsw, if_true, C13_gen_uninstall_method n c.name hk hn]
      cases hu : n.uninstall c.name with
      | none => simp
      | some n1 =>
        obtain ⟨_, _, hnext, hpow⟩ := uninstall_heap n n1 c.name hu
        simp [Node.registerSvc, Node.registerApp, Node.isOn, hnext, hpow, App.applyAll]
    · simp [hsw, Node.registerSvc, Node.registerApp, Node.isOn, App.applyAll]

/-- **The two whole-method ties WITHOUT hypothesis on reachable nodes.**  Start from any registries
without software (any power state, any durations), apply any sequence of model operations: on the node reached, the translated
`SoftwareManager.uninstall` is `Node.uninstall` for every name, and the translated `SoftwareManager.install` is `Node.installSvc` /
`Node.installApp` for every class, configuration flag, listen list, health and fixing duration. -/
theorem C13_gen_methods_reachable (n0 : Node) (hs : n0.svcs = []) (ha : n0.apps = []) (hw : n0.software = []) (ops : List Op) :
    (∀ name, Gen.SoftwareRegs.uninstallMethod (n0.run ops) name = (n0.run ops).uninstall name) ∧
    (∀ c cfg l hl f, Gen.SoftwareRegs.installMethodSvc (n0.run ops) c cfg l hl f = (n0.run ops).installSvc c cfg l hl f ∧
                     Gen.SoftwareRegs.installMethodApp (n0.run ops) c cfg l hl f = (n0.run ops).installApp c cfg l hl f) :=
  let h := C13_regwf_named n0 hs ha hw ops
  ⟨fun name => C13_gen_uninstall_method _ name h.1 h.2, fun c cfg l hl f => C13_gen_install_method _ c cfg l hl f h.1 h.2⟩

/-- **the last installer owns the slot**: after the (translated) install write the slot of the key holds the new object, whoever held
it before; every other slot is untouched -/
theorem C13_shared_slot_last_installer (u : Nat) (key : Nat × Nat) (pm : List ((Nat × Nat) × Nat)) :
    dget key (Gen.SoftwareRegs.installPortMap u key pm) = some u ∧
    ∀ k2, k2 ≠ key → dget k2 (Gen.SoftwareRegs.installPortMap u key pm) = dget k2 pm :=
  ⟨(dget_dset pm key key u).trans (if_pos rfl), fun k2 h => (dget_dset pm key k2 u).trans (if_neg (Ne.symm h))⟩

/-- **uninstalling a program that does not own the slot leaves the owner's slot alone**: the (translated) clean-up of `uninstall name`
keeps every slot whose owner is not called `name` — in particular the slot a surviving program shares with the removed one -/
theorem C13_shared_slot_nonowner_uninstall (nameOf : Nat → Option String) (name : String) (u v : Nat) (key k : Nat × Nat)
    (pm : List ((Nat × Nat) × Nat)) (h : dget k pm = some v) (hv : nameOf v ≠ some name) :
    dget k (Gen.SoftwareRegs.uninstallPortMap nameOf name u key pm) = some v := by
  apply dget_delFirst_keep _ k v pm h
  simpa using hv

/-- **uninstalling the owner leaves the slot empty although another program with the same key is installed** (the code as it is):
web-browser, then web-server (both 80/tcp: the server owns the slot), the browser opened; the server is uninstalled: the browser is still installed and
RUNNING, nothing owns 80/tcp, `get_open_ports` does not list 80, a frame to port 80 is ignored.  Uninstalling the BROWSER instead
leaves the server's slot and the open port.  (Evaluated on the model; the model's tables are the translated ones.) -/
theorem C13_shared_slot_owner_uninstall :
    let wb : Cls := { cid := "WebBrowser", name := "web-browser", port := 80, proto := 1, ctorRuns := true }
    let ws : Cls := { cid := "WebServer", name := "web-server", port := 80, proto := 1 }
    let n := ({} : Node).run [.installApp wb true [] .good 2, .installSvc ws true [] .good 2, .appApi 0 (.run true)]
    let a := n.run [.uninstall "web-server"]
    let b := n.run [.uninstall "web-browser"]
    dget (80, 1) n.portMap = some 1 ∧ n.openPorts = [80] ∧
    dget (80, 1) a.portMap = none ∧ dhas "web-browser" a.software = true ∧ (a.findApp 0).map (·.a.st) = some .running ∧
      a.openPorts = [] ∧ a.frameAccepted (.tcp 80) false = false ∧
    dget (80, 1) b.portMap = some 1 ∧ b.openPorts = [80] := by decide +kernel

end Primaite.C13
