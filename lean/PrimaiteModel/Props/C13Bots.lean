/-
C13 — the red applications' attack loops: only a RUNNING instance on an ON node acts.
-/
import PrimaiteModel.Model.C13Bots
import PrimaiteModel.Gen.SoftwareRecv
namespace Primaite.C13
open Primaite.Bots

/-- **A bot that may not act does nothing**: for the DoS bot, the data-manipulation bot and the ransomware script alike, with
`_can_perform_action()` false the attack loop makes no connection attempt, sends no query, draws no random trial, leaves the
attack stage and the cached connection as they were, and answers False — whatever the configuration, the stage, the database
situation and the would-be trial outcomes. -/
theorem C13_bots_act_only_when_running (configured rep trial : Bool) (sessions : Nat) (ds : DosStage) (db : DbEnv)
    (trials : List Bool) (conn : Option Bool) (ms : DmStage) :
    dosLoop false configured rep trial sessions ds = { stage := ds, connects := 0, trialsUsed := 0, ret := false } ∧
    dmLoop false configured rep db trials conn ms =
      { stage := ms, conn := conn, asked := 0, queries := 0, trialsUsed := 0, ret := false } ∧
    rwLoop false configured db conn = { conn := conn, asked := 0, queries := 0, ret := false } :=
  ⟨rfl, rfl, rfl⟩

/-- conversely, whenever a loop acted at all, the instance could act (and was configured) -/
theorem C13_bots_acted_implies_running (canAct configured rep trial : Bool) (sessions : Nat) (ds : DosStage) (db : DbEnv)
    (trials : List Bool) (conn : Option Bool) (ms : DmStage) :
    (0 < (dosLoop canAct configured rep trial sessions ds).connects → canAct = true ∧ configured = true) ∧
    (0 < (dmLoop canAct configured rep db trials conn ms).queries + (dmLoop canAct configured rep db trials conn ms).asked →
      canAct = true ∧ configured = true ∧ db.hasClient = true) ∧
    (0 < (rwLoop canAct configured db conn).queries + (rwLoop canAct configured db conn).asked →
      canAct = true ∧ configured = true ∧ db.hasClient = true) := by
  rcases db with ⟨hc, offer⟩
  -- a guard that fails returns with every counter at 0; with all of them passed there is nothing to show
  have zero : ¬ 0 < 0 := Nat.lt_irrefl 0
  refine ⟨?_, ?_, ?_⟩
  · cases canAct
    · exact fun h => absurd h zero
    cases configured
    · exact fun h => absurd h zero
    exact fun _ => ⟨rfl, rfl⟩
  · cases canAct
    · exact fun h => absurd h zero
    cases configured
    · exact fun h => absurd h zero
    cases hc
    · cases ms <;> exact fun h => absurd h zero
    · exact fun _ => ⟨rfl, rfl, rfl⟩
  · cases canAct
    · exact fun h => absurd h zero
    cases configured
    · exact fun h => absurd h zero
    cases hc
    · exact fun h => absurd h zero
    · exact fun _ => ⟨rfl, rfl, rfl⟩

/-- **DoS bot, one pass of the loop** (RUNNING, configured): from NOT_STARTED a successful port scan leads straight through
PORT_SCAN to the attack — `int(max_sessions · intensity)` connection attempts — and the stage ends NOT_STARTED when repeating,
COMPLETED otherwise; a failed scan makes no attempt and ends COMPLETED (also for a repeating bot: it does not try again — as
the code is); from PORT_SCAN the attack is made without a new scan; from ATTACKING / COMPLETED nothing is attempted. -/
theorem C13_dos_loop (rep trial : Bool) (sessions : Nat) (st : DosStage) :
    dosLoop true true rep trial sessions st =
      match st with
      | .notStarted =>
        if trial then { stage := if rep then .notStarted else .completed, connects := sessions, trialsUsed := 1, ret := true }
        else { stage := .completed, connects := 0, trialsUsed := 1, ret := true }
      | .portScan => { stage := if rep then .notStarted else .completed, connects := sessions, trialsUsed := 0, ret := true }
      | .attacking => { stage := if rep then .notStarted else .completed, connects := 0, trialsUsed := 0, ret := true }
      | .completed => { stage := .completed, connects := 0, trialsUsed := 0, ret := true } := by
  cases st <;> cases rep <;> cases trial <;> simp [dosLoop]

/-- a pass of the data-manipulation loop draws at most two trials: only the first two outcomes matter -/
theorem dmLoop_trials (canAct configured rep : Bool) (db : DbEnv) (trials : List Bool) (conn : Option Bool) (st : DmStage) :
    dmLoop canAct configured rep db trials conn st =
      dmLoop canAct configured rep db [trials.headD false, trials.tail.headD false] conn st := by
  cases canAct
  · rfl
  cases configured
  · rfl
  cases st <;> rfl

/-- **how many payload queries one pass sends**, for every input: one, exactly when the bot may act, is configured, a database
client is installed, the stage reaches PORT_SCAN in this pass (from NOT_STARTED / LOGON through a successful scan trial, or it
was PORT_SCAN already), the manipulation trial succeeds and a connection is cached or handed out; none otherwise -/
theorem dmLoop_queries (canAct configured rep : Bool) (db : DbEnv) (trials : List Bool) (conn : Option Bool) (st : DmStage) :
    (dmLoop canAct configured rep db trials conn st).queries =
      if canAct && configured && db.hasClient &&
          (match st with
           | .notStarted | .logon => trials.headD false && trials.tail.headD false
           | .portScan => trials.headD false
           | _ => false) &&
          (conn.isSome || db.offer.isSome) then 1 else 0 := by
  rw [dmLoop_trials]
  generalize trials.headD false = t1
  generalize trials.tail.headD false = t2
  cases canAct
  · rfl
  cases configured
  · rfl
  rcases db with ⟨hc, offer⟩
  cases hc
  · cases st <;> rfl
  -- from here on: may act, configured, a database client is installed
  have scanned : ∀ s, s = DmStage.notStarted ∨ s = .logon →
      (dmLoop true true rep ⟨true, offer⟩ [t1, t2] conn s).queries =
        if (t1 && t2 && (conn.isSome || offer.isSome)) then 1 else 0 := by
    intro s hs
    cases t1
    · rcases hs with rfl | rfl <;> rfl
    cases t2
    · rcases hs with rfl | rfl <;> rfl
    cases conn
    · cases offer <;> rcases hs with rfl | rfl <;> rfl
    · rcases hs with rfl | rfl <;> rfl
  cases st with
  | notStarted => exact scanned _ (Or.inl rfl)
  | logon => exact scanned _ (Or.inr rfl)
  | portScan =>
    cases t1
    · rfl
    cases conn
    · cases offer <;> rfl
    · rfl
  | _ => rfl

/-- **Data-manipulation bot**: the payload query is sent exactly when the bot may act, is configured, a database client is
installed, the stage — after the logon and the port scan of this very pass — is PORT_SCAN, the manipulation trial succeeds, and
a connection is cached or handed out; then it is sent once. -/
theorem C13_dm_query_iff (canAct configured rep : Bool) (db : DbEnv) (t1 t2 : Bool) (conn : Option Bool) (st : DmStage) :
    (dmLoop canAct configured rep db [t1, t2] conn st).queries ≤ 1 ∧
    ((dmLoop canAct configured rep db [t1, t2] conn st).queries = 1 →
      canAct = true ∧ configured = true ∧ db.hasClient = true ∧ (conn.isSome = true ∨ db.offer.isSome = true) ∧
      (st = .notStarted ∨ st = .logon ∨ st = .portScan)) := by
  have one_zero : ∀ (c : Prop) [Decidable c], (if c then 1 else 0) ≤ 1 ∧ ((if c then 1 else 0) = 1 → c) := by
    intro c _; by_cases h : c <;> simp [h]
  rw [dmLoop_queries]
  refine ⟨(one_zero _).1, fun hq => ?_⟩
  have h := (one_zero _).2 hq
  simp only [Bool.and_eq_true, Bool.or_eq_true] at h
  obtain ⟨⟨⟨⟨h1, h2⟩, h3⟩, h4⟩, h5⟩ := h
  refine ⟨h1, h2, h3, h5, ?_⟩
  cases st with
  | notStarted => exact Or.inl rfl
  | logon => exact Or.inr (Or.inl rfl)
  | portScan => exact Or.inr (Or.inr rfl)
  | _ => cases h4

/-- the whole kill chain in one pass: NOT_STARTED, both trials succeed, a database client that hands out a working connection:
LOGON → PORT_SCAN → one query → SUCCEEDED (NOT_STARTED again when repeating); a query that fails ends FAILED -/
theorem C13_dm_kill_chain (rep ok : Bool) :
    dmLoop true true rep { hasClient := true, offer := some ok } [true, true] none .notStarted =
      { stage := if rep then .notStarted else (if ok then .succeeded else .failed), conn := some ok, asked := 1, queries := 1,
        trialsUsed := 2, ret := true } := by
  cases rep <;> cases ok <;> rfl

/-- **Ransomware script**: one encrypt query per pass, exactly when it may act, is configured, a database client is installed
and a connection is cached or handed out; the answer is the query's verdict. -/
theorem C13_rw_loop (canAct configured : Bool) (db : DbEnv) (conn : Option Bool) :
    ((rwLoop canAct configured db conn).queries = 1 ↔
      canAct = true ∧ configured = true ∧ db.hasClient = true ∧ (conn.isSome = true ∨ db.offer.isSome = true)) ∧
    ((rwLoop canAct configured db conn).ret = true → (rwLoop canAct configured db conn).queries = 1) := by
  rcases db with ⟨hc, offer⟩
  cases canAct <;> cases configured <;> cases hc <;> cases conn <;> cases offer <;> simp [rwLoop] <;>
    (rename_i b; cases b <;> simp)

/-- the attack loops read, statement for statement (logging dropped), as `dosLoop` / `dmLoop` / `rwLoop` assume: the
running-guard first in every `_application_loop`, the configuration test, the stage tests in front of every trial and every
action, the connection cached in `_db_connection`; `attack()` / `run()` / `apply_timestep()` reach the loop only through that
guard; the stage enums carry the values the model's stages carry -/
theorem C13_gen_bot_bodies :
    Gen.SoftwareRecv.botBodies = [
  ("DoSBot._application_loop", ["if not self._can_perform_action() { return False }", "if not self.target_ip_address or not self.target_port { return False }", "self.clear_connections()", "self._perform_port_scan(p_of_success=self.port_scan_p_of_success)", "self._perform_dos()", "if self.repeat and self.attack_stage is DoSAttackStage.ATTACKING { self.attack_stage = DoSAttackStage.NOT_STARTED } else { self.attack_stage = DoSAttackStage.COMPLETED }", "return True"]),
  ("DoSBot._perform_port_scan", ["if self.attack_stage == DoSAttackStage.NOT_STARTED { if simulate_trial(p_of_success) { port_is_open = True; if port_is_open { self.attack_stage = DoSAttackStage.PORT_SCAN } } }"]),
  ("DoSBot._perform_dos", ["if not self.attack_stage == DoSAttackStage.PORT_SCAN { return }", "self.attack_stage = DoSAttackStage.ATTACKING", "self.server_ip_address = self.target_ip_address", "self.port = self.target_port", "dos_sessions = int(float(self.max_sessions) * self.dos_intensity)", "for i in range(dos_sessions) { self.connect() }"]),
  ("DoSBot.run", ["super().run()", "return self._application_loop()"]),
  ("DoSBot.apply_timestep", ["super().apply_timestep(timestep=timestep)", "self._application_loop()"]),
  ("DataManipulationBot._application_loop", ["if not self._can_perform_action() { return False }", "if self.server_ip_address and self.payload { self._logon(); self._perform_port_scan(p_of_success=self.port_scan_p_of_success); self._perform_data_manipulation(p_of_success=self.data_manipulation_p_of_success); if self.repeat and self.attack_stage in (DataManipulationAttackStage.SUCCEEDED, DataManipulationAttackStage.FAILED) { self.attack_stage = DataManipulationAttackStage.NOT_STARTED }; return True } else { return False }"]),
  ("DataManipulationBot._logon", ["if self.attack_stage == DataManipulationAttackStage.NOT_STARTED { self.attack_stage = DataManipulationAttackStage.LOGON }"]),
  ("DataManipulationBot._perform_port_scan", ["if self.attack_stage == DataManipulationAttackStage.LOGON { if simulate_trial(p_of_success) { port_is_open = True; if port_is_open { self.attack_stage = DataManipulationAttackStage.PORT_SCAN } } }"]),
  ("DataManipulationBot._perform_data_manipulation", ["if self._host_db_client is None { self.attack_stage = DataManipulationAttackStage.FAILED; return }", "self._host_db_client.server_ip_address = self.server_ip_address", "self._host_db_client.server_password = self.server_password", "if self.attack_stage == DataManipulationAttackStage.PORT_SCAN { if simulate_trial(p_of_success) { if not self._db_connection { self._establish_db_connection() }; if self._db_connection { attack_successful = self._db_connection.query(self.payload); if attack_successful { self.attack_stage = DataManipulationAttackStage.SUCCEEDED } else { self.attack_stage = DataManipulationAttackStage.FAILED } } } }"]),
  ("DataManipulationBot._establish_db_connection", ["self._db_connection = self._host_db_client.get_new_connection()", "return True if self._db_connection else False"]),
  ("DataManipulationBot.attack", ["if not self._can_perform_action() { self.run() }", "self.num_executions += 1", "return self._application_loop()"]),
  ("DataManipulationBot.run", ["super().run()"]),
  ("DataManipulationBot.apply_timestep", ["super().apply_timestep(timestep=timestep)"]),
  ("RansomwareScript._application_loop", ["if not self._can_perform_action() { return False }", "if self.server_ip_address and self.payload { if self._perform_ransomware_encrypt() { return True }; return False } else { return False }"]),
  ("RansomwareScript._perform_ransomware_encrypt", ["if self._host_db_client is None { return False }", "self._host_db_client.server_ip_address = self.server_ip_address", "self._host_db_client.server_password = self.server_password", "if not self._db_connection { self._establish_db_connection() }", "if self._db_connection { attack_successful = self._db_connection.query(self.payload); if attack_successful { return True } else {  }; return False } else { return False }"]),
  ("RansomwareScript._establish_db_connection", ["self._db_connection = self._host_db_client.get_new_connection()", "return True if self._db_connection else False"]),
  ("RansomwareScript.attack", ["self.run()", "if not self._can_perform_action() {  }", "self.num_executions += 1", "return self._application_loop()"]),
  ("RansomwareScript.run", ["super().run()", "return True"])] ∧
    Gen.SoftwareRecv.dosStages = [("NOT_STARTED", DosStage.notStarted.value), ("PORT_SCAN", DosStage.portScan.value),
      ("ATTACKING", DosStage.attacking.value), ("COMPLETED", DosStage.completed.value)] ∧
    Gen.SoftwareRecv.dmStages = [("NOT_STARTED", DmStage.notStarted.value), ("LOGON", DmStage.logon.value),
      ("PORT_SCAN", DmStage.portScan.value), ("ATTACKING", DmStage.attacking.value), ("SUCCEEDED", DmStage.succeeded.value),
      ("FAILED", DmStage.failed.value)] := by
  refine ⟨by rfl, by decide, by decide⟩

end Primaite.C13
