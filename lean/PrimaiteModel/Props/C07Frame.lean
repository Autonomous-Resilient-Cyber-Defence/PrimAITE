/-
C07 — frames, and the tie of the list object (Model/AclObj.lean) to the CURRENT source (Gen/AclState.lean, regenerated on
every run by harness/extract/acl.py:emit_state).

* the code matches a `Frame`, the theorems of Props/C07.lean speak about a `Packet`: `Frame.toPacket` is the projection
  the code performs (`frame.ip.protocol`, the two addresses, the ports of `frame.tcp` else `frame.udp` else none) and the
  theorems below are stated over frames, including the frames WITHOUT ports (ICMP, protocol "none") and ARP;
* `C07_gen_is_permitted`: the translated `AccessControlList.is_permitted` IS `AclObj.isPermitted ∘ toPacket`;
  `C07_gen_add_rule`, `C07_gen_remove_rule`: the translated edits ARE `AclObj.addRule` / `AclObj.removeRule`;
* `C07_gen_*`: constructor, readers of `describe_state`/`show`/`num_rules`, keyword plumbing of `add_rule`, positional layout
  of the request handler against the four agent actions, the eight loader blocks, device defaults, `subject_to_acl`,
  `Frame.__init__`.
-/
import PrimaiteModel.Props.C07State
import PrimaiteModel.Gen.AclState
namespace Primaite.Acl
open Primaite.Gen.AclMatch

/-- the part of a frame `permit_frame_check` reads -/
def Frame.view (f : Frame) : FrameView :=
  { proto := f.proto, srcIp := f.srcIp, dstIp := f.dstIp, tcp := f.tcp, udp := f.udp }

theorem toPacket_view (f : Frame) : toPacket f.view = f.toPacket := by
  simp only [toPacket, Frame.view, Frame.toPacket, Frame.ports]
  cases f.tcp <;> rfl

theorem portSpec_map (rp : Option Nat) (o : Option (Nat × Nat)) (sel : Nat × Nat → Nat) :
    PortSpec rp (o.map sel) ↔ ∀ n, rp = some n → ∃ hdr, o = some hdr ∧ sel hdr = n := by
  simp only [PortSpec, Option.map_eq_some_iff]

/-- **What "matches" means for a frame.**  A rule matches a frame iff its protocol (if specified) is the frame's IP
protocol, each specified address field holds of the frame's address (exactly, or bit-for-bit outside the wildcard), and
each specified port equals the corresponding port of the frame's TCP header — or, only if there is no TCP header, of its
UDP header.  A frame with neither header HAS no ports, so no specified port can equal them. -/
theorem C07_frame_matches_iff (r : Rule) (f : Frame) :
    (permitFrameCheck r f.view).2 = true ↔
      (∀ q, r.proto = some q → q = f.proto) ∧
      AddrSpec r.srcIp r.srcWc f.srcIp ∧ AddrSpec r.dstIp r.dstWc f.dstIp ∧
      (∀ n, r.srcPort = some n → ∃ hdr, f.ports = some hdr ∧ hdr.1 = n) ∧
      (∀ n, r.dstPort = some n → ∃ hdr, f.ports = some hdr ∧ hdr.2 = n) := by
  rw [C07_gen_permit_frame_check, toPacket_view]
  show r.hits? f.toPacket = true ↔ _
  rw [C07_matches_iff, portSpec_map, portSpec_map]
  rfl

/-- **A rule that specifies a port never matches a frame without ports** (an ICMP echo, a protocol-"none" frame): such a
rule neither permits nor denies it, whatever its action, protocol and addresses; the frame falls to later rules. -/
theorem C07_port_rule_skips_portless_frame (r : Rule) (f : Frame)
    (hr : r.srcPort.isSome = true ∨ r.dstPort.isSome = true) (ht : f.tcp = none) (hu : f.udp = none) :
    permitFrameCheck r f.view = (false, false) := by
  rw [C07_gen_permit_frame_check, toPacket_view]
  have hp : f.toPacket.ports = none := by simp [Frame.toPacket, Frame.ports, ht, hu]
  have : r.hits? f.toPacket = false := by
    rw [← Bool.not_eq_true, C07_matches_iff, hp]
    rintro ⟨_, _, _, h4, h5⟩
    rcases hr with h | h
    · obtain ⟨n, hn⟩ := Option.isSome_iff_exists.mp h
      cases h4 n hn
    · obtain ⟨n, hn⟩ := Option.isSome_iff_exists.mp h
      cases h5 n hn
  rw [this, Bool.and_false]

/-- which header supplies the ports: TCP wins over UDP; for frames `Frame.__init__` accepts, a TCP-protocol frame is
matched on its TCP header and a UDP-protocol frame on its UDP header. -/
theorem C07_frame_ports (f : Frame) :
    (∀ h, f.tcp = some h → f.ports = some h) ∧ (f.tcp = none → f.ports = f.udp) ∧
    (f.wf = true → f.proto = .tcp → ∃ h, f.tcp = some h ∧ f.ports = some h) ∧
    (f.wf = true → f.proto = .udp → ∃ h, f.udp = some h ∧ f.ports = some h) := by
  refine ⟨fun h e => by simp [Frame.ports, e], fun e => by simp [Frame.ports, e], ?_, ?_⟩
  · intro hw hp
    cases ht : f.tcp with
    | none => simp [Frame.wf, hp, ht] at hw
    | some h => exact ⟨h, rfl, by simp [Frame.ports, ht]⟩
  · intro hw hp
    cases hu : f.udp with
    | none => simp [Frame.wf, hp, hu] at hw
    | some h =>
      cases ht : f.tcp with
      | none => exact ⟨h, rfl, by simp [Frame.ports, ht, hu]⟩
      | some h' => simp [Frame.wf, hu, ht] at hw

/-- an ICMP frame as the ICMP service builds it (no transport header): a rule matches it iff it names no port, its
protocol is unspecified or ICMP, and its address fields hold. -/
theorem C07_icmp_frame_matches (r : Rule) (f : Frame) (hp : f.proto = .icmp) (ht : f.tcp = none) (hu : f.udp = none) :
    (permitFrameCheck r f.view).2 = true ↔
      (r.proto = none ∨ r.proto = some .icmp) ∧ r.srcPort = none ∧ r.dstPort = none ∧
      AddrSpec r.srcIp r.srcWc f.srcIp ∧ AddrSpec r.dstIp r.dstWc f.dstIp := by
  have hports : f.ports = none := by simp [Frame.ports, ht, hu]
  rw [C07_frame_matches_iff, hports, hp]
  cases r.proto <;> cases r.srcPort <;> cases r.dstPort <;> simp

theorem Frame.subjectToAcl_eq_false_iff (f : Frame) :
    f.subjectToAcl = false ↔ f.proto = .udp ∧ f.udp.map (·.2) = some arpPort ∧ f.arpPayload = true := by
  simp [Frame.subjectToAcl, and_assoc]

/-- **Routers exempt ARP**: a UDP frame to the ARP port carrying an `ARPPacket` is permitted without the list being asked
(no counter moves); every other frame — a UDP frame to port 219 with another payload included — gets the list's verdict. -/
theorem C07_router_arp_exempt (o : AclObj) (f : Frame) :
    (f.proto = .udp ∧ f.udp.map (·.2) = some arpPort ∧ f.arpPayload = true →
        o.routerVerdict f = (true, none, o)) ∧
    (¬ (f.proto = .udp ∧ f.udp.map (·.2) = some arpPort ∧ f.arpPayload = true) →
        o.routerVerdict f = ((o.isPermitted f.toPacket).1, some (o.isPermitted f.toPacket).2.1, (o.isPermitted f.toPacket).2.2)) := by
  unfold AclObj.routerVerdict
  rw [← f.subjectToAcl_eq_false_iff]
  constructor
  · intro h; rw [h]; rfl
  · intro h; rw [Bool.not_eq_false] at h; rw [h]; rfl

def ruleArp : Rule :=
  { action := .permit, proto := none, srcIp := none, srcWc := none, dstIp := none, dstWc := none,
    srcPort := some arpPort, dstPort := some arpPort }
def ruleIcmp : Rule :=
  { action := .permit, proto := some .icmp, srcIp := none, srcWc := none, dstIp := none, dstWc := none,
    srcPort := none, dstPort := none }

theorem defaultRouterRules_eq : defaultRouterRules = [(22, ruleArp), (23, ruleIcmp)] := rfl

theorem ruleArp_hits (f : Frame) : ruleArp.hits? f.toPacket = true ↔ f.ports = some (arpPort, arpPort) := by
  cases h : f.ports <;>
    simp [Rule.hits?, ruleArp, protoMatches, addrMatches, portMatches, Frame.toPacket, h, Prod.ext_iff, eq_comm (a := arpPort)]

theorem ruleIcmp_hits (f : Frame) : ruleIcmp.hits? f.toPacket = true ↔ f.proto = .icmp := by
  simp [Rule.hits?, ruleIcmp, protoMatches, addrMatches, portMatches, Frame.toPacket, eq_comm (a := Proto.icmp)]

/-- the two rules every router is born with: slot 22 matches exactly the frames whose header ports are both 219 (ARP),
slot 23 exactly the frames whose IP protocol is ICMP. -/
theorem C07_default_rules_meaning (f : Frame) :
    defaultRouterRules.map (·.1) = [22, 23] ∧
    (∀ r, (22, r) ∈ defaultRouterRules → ((permitFrameCheck r f.view).2 = true ↔ f.ports = some (arpPort, arpPort))) ∧
    (∀ r, (23, r) ∈ defaultRouterRules → ((permitFrameCheck r f.view).2 = true ↔ f.proto = .icmp)) := by
  rw [defaultRouterRules_eq]
  refine ⟨rfl, fun r hr => ?_, fun r hr => ?_⟩
  · obtain rfl : r = ruleArp := by simpa using hr
    rw [C07_gen_permit_frame_check, toPacket_view]
    exact ruleArp_hits f
  · obtain rfl : r = ruleIcmp := by simpa using hr
    rw [C07_gen_permit_frame_check, toPacket_view]
    exact ruleIcmp_hits f

/-- **A router as built** (implicit DENY, ARP rule at 22, ICMP rule at 23) permits exactly the frames whose header ports
are both 219 (rule 22) and the ICMP frames (rule 23); everything else falls to the implicit DENY.  (ARP packets proper never
reach the list: `C07_router_arp_exempt`.) -/
theorem C07_router_as_built (f : Frame) :
    ((routerList 25).isPermitted f.toPacket).1 = true ↔ (f.ports = some (arpPort, arpPort) ∨ f.proto = .icmp) := by
  have hr : (routerList 25).core.rules = List.replicate 22 none ++ [some ruleArp, some ruleIcmp] := by decide
  have hi : (routerList 25).core.implicit = .deny := rfl
  rw [AclObj.isPermitted_eq, ← ruleArp_hits, ← ruleIcmp_hits]
  unfold Acl.isPermitted
  rw [hr, hi]
  simp only [List.replicate, List.cons_append, List.nil_append, firstMatch]
  have pa : ruleArp.action = .permit := rfl
  have pb : ruleIcmp.action = .permit := rfl
  by_cases a : ruleArp.hits? f.toPacket = true <;> by_cases b : ruleIcmp.hits? f.toPacket = true <;>
    simp [a, b, pa, pb]

def exPing : Frame :=
  { proto := .icmp, srcIp := 0xC0A80202#32, dstIp := 0xC0A80102#32, tcp := none, udp := none, icmp := true, arpPayload := false }
def exArp : Frame :=
  { proto := .udp, srcIp := 0xC0A80202#32, dstIp := 0xC0A80201#32, tcp := none, udp := some (219, 219), icmp := false, arpPayload := true }
def exHttp : Frame :=
  { proto := .tcp, srcIp := 0xC0A80117#32, dstIp := 0x0A000001#32, tcp := some (5000, 80), udp := none, icmp := false, arpPayload := false }

example : exPing.wf = true ∧ exArp.wf = true ∧ exHttp.wf = true := by decide
/-- a DENY rule for destination port 80 does not touch a ping; it does deny the HTTP frame -/
example : permitFrameCheck { exRulePermitAll with action := .deny, dstPort := some 80 } exPing.view = (false, false) ∧
    permitFrameCheck { exRulePermitAll with action := .deny, dstPort := some 80 } exHttp.view = (false, true) := by decide
/-- a router with an EMPTY list and implicit DENY still lets ARP through, and counts nothing -/
example : ((AclObj.construct none 25).routerVerdict exArp).1 = true ∧
    ((AclObj.construct none 25).routerVerdict exArp).2.2.core.implicitHits = 0 ∧
    ((AclObj.construct none 25).routerVerdict exPing).1 = false ∧
    ((AclObj.construct none 25).routerVerdict exPing).2.2.core.implicitHits = 1 := by decide
/-- the same ARP frame through a firewall's default-deny list (firewalls do not exempt ARP) is denied -/
example : ((AclObj.construct (some .deny) 25).isPermitted exArp.toPacket).1 = false := by decide

end Primaite.Acl

namespace Primaite.Acl
open Primaite.Gen.AclMatch Primaite.Gen.AclState

theorem scan_spec (f : FrameView) (rules : List (Option Rule)) (i : Nat) (pm : Bool) :
    match firstMatch (toPacket f) rules i with
    | some (j, r) => scan f rules i (pm, none) = ((r.action == .permit), some (.rule j))
    | none => (scan f rules i (pm, none)).2 = none := by
  fun_induction firstMatch (toPacket f) rules i generalizing pm with
  | case1 => rfl
  | case2 rest i ih => simpa [scan] using ih pm
  | case3 r rest i hm => simp [scan, C07_gen_permit_frame_check, hm]
  | case4 r rest i hm ih => simpa [scan, C07_gen_permit_frame_check, hm] using ih false

/-- **The source of `is_permitted`, translated, is the model**: for every list object (whatever its implicit action, its
`implicit_rule`, its counters) and every frame, the translated loop + fall-through + increment computes exactly
`AclObj.isPermitted` on the frame's projection — same verdict, same decider, same counters.  A change of the scan
(another iterable, another order, no `break`), of what the fall-through reads (`implicit_rule.action` instead of
`implicit_action`), of the decider or of the increment breaks this theorem or the extractor. -/
theorem C07_gen_is_permitted (a : AclObj) (f : FrameView) :
    Primaite.Gen.AclState.isPermitted a f = a.isPermitted (toPacket f) := by
  have hs := scan_spec f a.core.rules 0 false
  unfold Primaite.Gen.AclState.isPermitted AclObj.isPermitted Acl.isPermitted
  cases hfm : firstMatch (toPacket f) a.core.rules 0 with
  | some jr =>
    obtain ⟨j, r⟩ := jr
    rw [hfm] at hs
    simp only [hs]
    simp [bumpRef, bump]
  | none =>
    rw [hfm] at hs
    simp only at hs
    simp only [hs]
    simp [bumpRef, Bool.beq_eq_decide_eq]

/-- constructor: the default implicit action, the `implicit_rule` built from exactly that action, the slot count -/
theorem C07_gen_construct (imp : Option Action) (n : Int) :
    (AclObj.construct imp n).core.implicit = imp.getD ctorDefaultImplicit ∧
    (AclObj.construct imp n).ruleAction = imp.getD ctorDefaultImplicit ∧
    ctorImplicitRuleKwargs = [("action", "kwargs['implicit_action']")] ∧
    (AclObj.construct imp n).core.rules.length = ctorSlots n ∧
    classMaxAclRules = Primaite.Gen.Acl.maxAclRules := by
  exact ⟨rfl, rfl, rfl, List.length_replicate, rfl⟩

/-- who reads which part of the state: `describe_state()["implicit_action"]` and the fall-through verdict read the SAME
attribute; the `implicit_rule` key, the last row of `show()` and `num_rules` read what the model says they read. -/
theorem C07_gen_state_readers :
    fallThroughReads = "self.implicit_action == ACLAction.PERMIT" ∧
    describeReads.lookup "implicit_action" = some "self.implicit_action.value" ∧
    describeReads.lookup "implicit_rule" = some "self.implicit_rule.describe_state()" ∧
    describeReads.lookup "max_acl_rules" = some "self.max_acl_rules" ∧
    describeReads.lookup "acl" =
      some "{i: r.describe_state() if isinstance(r, ACLRule) else None for i, r in enumerate(self._acl)}" ∧
    describeReads.length = 4 ∧
    showIterates = "enumerate(self.acl + [self.implicit_rule])" ∧
    numRulesIs = "len([rule for rule in self._acl if rule is not None])" :=
  ⟨rfl, rfl, rfl, rfl, rfl, rfl, rfl, rfl⟩

/-- `add_rule` stores every parameter under the field of the same name (no swapped source/destination), takes nothing
else but the position, and its accepted branch stores the new rule UNCONDITIONALLY (an occupied slot is at most logged:
`C07_addRule_replaces` is what the code does) -/
theorem C07_gen_add_rule_plumbing :
    addRuleBranch.filter (· ≠ "log-if-occupied") = ["store", "return True"] ∧
    (∀ kv, kv ∈ addRuleStores → kv.1 = kv.2) ∧
    addRuleStores.length = 8 ∧ (∀ p, p ∈ addRuleParams → p = "position" ∨ p ∈ addRuleStores.map (·.1)) ∧
    addRuleParams.length = 9 := by decide

theorem pyIndex_nonneg (len : Nat) (i : Int) (h : 0 ≤ i) :
    pyIndex len i = if i.toNat < len then some i.toNat else none :=
  if_pos h

/-- the shape both translated edits have — guard, the slot read through `pyIndex`, the slot written through `pyIndex` — is
the model's `edit` -/
theorem pyEdit_eq (a : AclObj) (pos : Int) (x : Option Rule) :
    (if (decide (0 ≤ pos) && decide (pos < a.maxRules - 1)) = true then
      match pyIndex a.core.rules.length pos with
      | none => (a, EditOut.indexError)
      | some _ =>
        match pyIndex a.core.rules.length pos with
        | none => (a, EditOut.indexError)
        | some k => (({ a with core := { a.core with rules := a.core.rules.set k x } } : AclObj), EditOut.ok)
    else (a, EditOut.valueError)) = a.edit pos x := by
  by_cases hb : 0 ≤ pos ∧ pos < a.maxRules - 1
  · rw [if_pos (by simpa using hb), pyIndex_nonneg _ _ hb.1]
    by_cases hl : pos.toNat < a.core.rules.length
    · rw [AclObj.edit_ok x hb hl, if_pos hl]
    · rw [AclObj.edit_indexError x hb (Nat.le_of_not_lt hl), if_neg hl]
  · rw [AclObj.edit_valueError x hb, if_neg (by simpa using hb)]

/-- **The source of `add_rule`, translated, is the model** — for every list object (whatever `max_acl_rules` has been
assigned), every rule and every position: same outcome (done / `ValueError` / `IndexError`), same object afterwards (on an
error: untouched), the stored rule carrying each parameter under its own field and a zero counter.  A changed guard, a
conditional or crossed store, a store at another index, or an early return breaks this theorem or the extractor. -/
theorem C07_gen_add_rule (a : AclObj) (r : Rule) (pos : Int) :
    Primaite.Gen.AclState.addRule a r pos = a.addRule r pos := by
  cases r
  exact pyEdit_eq a pos _

/-- **…and so is `remove_rule`.** -/
theorem C07_gen_remove_rule (a : AclObj) (pos : Int) :
    Primaite.Gen.AclState.removeRule a pos = a.removeRule pos := by
  exact pyEdit_eq a pos none

/-- Python's negative indices never come into play: the guard admits no negative position (what `pyIndex` would do with
one — count from the end — is therefore unreachable; a guard loosened to `position < bound` alone would make
`add_rule(position=-1)` overwrite the LAST slot, and the two theorems above would fail). -/
theorem C07_negative_position_refused (a : AclObj) (r : Rule) (pos : Int) (h : pos < 0) :
    a.addRule r pos = (a, .valueError) ∧ a.removeRule pos = (a, .valueError) ∧
    pyIndex 24 (-1) = some 23 := by
  have hb : ¬ (0 ≤ pos ∧ pos < a.maxRules - 1) := fun hb => by omega
  exact ⟨AclObj.edit_valueError _ hb, AclObj.edit_valueError _ hb, rfl⟩

/-- name of the action-schema field that carries an `add_rule` parameter -/
def actionField : String → String
  | "action" => "permission" | "protocol" => "protocol_name"
  | "src_ip_address" => "src_ip" | "src_wildcard_mask" => "src_wildcard" | "src_port" => "src_port"
  | "dst_ip_address" => "dst_ip" | "dst_wildcard_mask" => "dst_wildcard" | "dst_port" => "dst_port"
  | "position" => "position" | s => s

/-- what follows the request name in a formed request -/
def argsAfter (name : String) : List String → List String
  | [] => []
  | x :: rest => if x = name then rest else argsAfter name rest

/-- **Actions and request handler agree on the positional layout**: for both add-rule actions, the handler's parameter
read at `request[i]` is fed by the action field of that meaning at position `i` after `'add_rule'` (so source and
destination wildcards, ports and addresses cannot be crossed), the sentinels are `ALL` for addresses / ports / protocol and
`NONE` for wildcards, every `add_rule` parameter is fed, and the remove actions pass the position alone.  The routes are
`network/node/<router>/acl` and `network/node/<firewall>/<port>/<direction>/acl`. -/
theorem C07_gen_request_layout :
    (∀ act, act ∈ ["RouterACLAddRuleAction", "FirewallACLAddRuleAction"] →
      ∀ x, x ∈ requestLayout →
        ((actionRequests.lookup act).map (argsAfter "'add_rule'")).bind (·[x.2.1]?) = some (actionField x.1)) ∧
    requestLayout.map (·.1) = ["action", "protocol", "src_ip_address", "src_wildcard_mask", "src_port",
      "dst_ip_address", "dst_wildcard_mask", "dst_port", "position"] ∧
    requestLayout.map (·.2.2.1) = ["-", "ALL", "ALL", "NONE", "ALL", "ALL", "NONE", "ALL", "-"] ∧
    (actionRequests.lookup "RouterACLAddRuleAction").map (·.take 5) =
      some ["'network'", "'node'", "target_router", "'acl'", "'add_rule'"] ∧
    (actionRequests.lookup "FirewallACLAddRuleAction").map (·.take 7) =
      some ["'network'", "'node'", "target_firewall_nodename", "firewall_port_name", "firewall_port_direction", "'acl'", "'add_rule'"] ∧
    actionRequests.lookup "RouterACLRemoveRuleAction" =
      some ["'network'", "'node'", "target_router", "'acl'", "'remove_rule'", "position"] ∧
    actionRequests.lookup "FirewallACLRemoveRuleAction" =
      some ["'network'", "'node'", "target_firewall_nodename", "firewall_port_name", "firewall_port_direction", "'acl'",
            "'remove_rule'", "position"] :=
  ⟨by decide, rfl, rfl, rfl, rfl, rfl, rfl⟩

/-- the scenario key every loader block must read FIRST for a parameter, and the table it is looked up in -/
def loaderPrimary : List (String × String × String) :=
  [("action", "action", "ACLAction"), ("dst_ip_address", "dst_ip", "-"), ("dst_port", "dst_port", "PORT_LOOKUP"),
   ("dst_wildcard_mask", "dst_wildcard_mask", "-"), ("protocol", "protocol", "PROTOCOL_LOOKUP"),
   ("src_ip_address", "src_ip", "-"), ("src_port", "src_port", "PORT_LOOKUP"),
   ("src_wildcard_mask", "src_wildcard_mask", "-")]

/-- **Scenario loading installs each rule into the list it is written under, field by field**: `Router.from_config` has
one rule loop (into `router.acl`), `WirelessRouter.from_config` one (likewise), `Firewall.from_config` six — the loop over `config['acl'][X]` adds to `firewall.X`, for
exactly the six list fields of the class — all eight read the same keys for the same parameters (the keys the shipped
scenarios use first), and pass the mapping key as position. -/
theorem C07_gen_loader_blocks :
    (∀ b, b ∈ loaderBlocks → b.2.2.2 = (loaderBlocks.head?.map (·.2.2.2)).getD []) ∧
    (loaderBlocks.head?.map (fun b => (b.2.2.2.filter (·.2.1 ≠ [])).map (fun k => (k.1, k.2.1.head?.getD "", k.2.2)))) =
      some loaderPrimary ∧
    (loaderBlocks.head?.map (fun b => (b.2.2.2.filter (·.2.1 == [])).map (fun k => (k.1, k.2.2)))) =
      some [("position", "<mapping key>")] ∧
    (loaderBlocks.filter (·.1 == "Router")).map (fun b => (b.2.1, b.2.2.1)) = [("router.acl", "acl.items()")] ∧
    (loaderBlocks.filter (·.1 == "WirelessRouter")).map (fun b => (b.2.1, b.2.2.1)) =
      [("router.acl", "config['acl'].items()")] ∧
    loaderBlocks.length = 8 ∧
    (loaderBlocks.filter (·.1 == "Firewall")).map (fun b => (b.2.1, b.2.2.1)) =
      firewallLists.map (fun l => ("firewall." ++ l.1, "config['acl']['" ++ l.1 ++ "'].items()")) :=
  -- the eight blocks are syntactically the same term, and `rfl` compares string literals as literals; `decide` would
  -- compare them through their UTF-8 bytes in the kernel
  ⟨by simp [loaderBlocks], rfl, rfl, rfl, rfl, rfl,
    by simp [loaderBlocks, firewallLists, -String.reduceBEq, Bool.beq_eq_decide_eq]⟩

def loaderReadKeys : List String := ((loaderBlocks.head?.map (·.2.2.2)).getD []).flatMap (·.2.1)

/-- **Every rule key the documentation tells users to write is a key the loaders read** (so a rule written as documented is
installed with that field, not silently without it).  Before the repair recorded as F-C07r3-1 the docstring of
`Router.from_config` and the configuration pages' own example used `src_ip_address` / `dst_ip_address`, which the loaders
ignored: the documented example rule was installed as PERMIT-everything. -/
theorem C07_gen_documented_keys_read : ∀ k, k ∈ documentedRuleKeys → k ∈ loaderReadKeys := by
  simp [documentedRuleKeys, loaderReadKeys, loaderBlocks]

/-- device defaults: the six firewall lists with their documented implicit actions, the router list's DENY and its two
default rules -/
theorem C07_gen_device_defaults :
    firewallLists = [("internal_inbound_acl", firewallImplicit .intIn), ("internal_outbound_acl", firewallImplicit .intOut),
      ("dmz_inbound_acl", firewallImplicit .dmzIn), ("dmz_outbound_acl", firewallImplicit .dmzOut),
      ("external_inbound_acl", firewallImplicit .extIn), ("external_outbound_acl", firewallImplicit .extOut)] ∧
    routerImplicit = .deny ∧ routerDefaultRules = defaultRouterRules := ⟨rfl, rfl, rfl⟩

/-- `Router.subject_to_acl`, `Frame.is_arp` and the refusals of `Frame.__init__` are the model's -/
theorem C07_gen_frame (f : Frame) :
    Primaite.Gen.AclState.subjectToAcl f = f.subjectToAcl ∧ frameAccepted f = f.wf ∧
    Primaite.Gen.AclState.arpPort = Primaite.Acl.arpPort := by
  refine ⟨rfl, ?_, rfl⟩
  unfold frameAccepted Frame.wf
  cases f.proto <;> cases f.tcp.isSome <;> cases f.udp.isSome <;> cases f.icmp <;> rfl

end Primaite.Acl
