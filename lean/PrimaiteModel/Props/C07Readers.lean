/-
C07, readers of a rule: `ACLRule.describe_state()` and the row cells of `AccessControlList.show()`, translated from the current
source (Gen/AclDescribe.lean, regenerated on every run).

* `C07_gen_describe_rule`: `describe_state()` of a rule reports EXACTLY the rule — every field, the counter, port 0 as port 0
  (so `describe_state()["acl"]`, which observations and this check read, is a faithful picture of the slots);
* `C07_gen_show_cells`: a row of `show()` reports the rule except that a port 0 is displayed as ANY (a display quirk, the model's
  `showPortCell`), and nothing else is lost.
-/
import PrimaiteModel.Model.AclObj
import PrimaiteModel.Gen.AclDescribe
namespace Primaite.Acl
open Primaite.Gen.AclDescribe

theorem opt_keep {α} (o : Option α) : (if o.isSome then o else none) = o := by cases o <;> rfl

/-- TIE: `ACLRule.describe_state()` is the identity on the rule's fields (nothing dropped, nothing crossed). -/
theorem C07_gen_describe_rule (r : Rule) : describeRule r = r := by
  cases r; simp [describeRule, opt_keep]

/-- hence two rules with the same `describe_state()` are the same rule (the observable determines the slot) -/
theorem C07_describe_rule_faithful (r s : Rule) (h : describeRule r = describeRule s) : r = s := by
  rwa [C07_gen_describe_rule, C07_gen_describe_rule] at h

theorem port_cell (o : Option Nat) :
    (if (match o with | some n => decide (n ≠ 0) | none => false) then o else none) = showPortCell o := by
  cases o with
  | none => rfl
  | some n => cases n <;> simp [showPortCell]

/-- TIE: the cells of a `show()` row = the rule with its two port cells through `showPortCell` (port 0 shown as ANY). -/
theorem C07_gen_show_cells (r : Rule) :
    showCells r = { r with srcPort := showPortCell r.srcPort, dstPort := showPortCell r.dstPort } := by
  simp only [showCells, opt_keep]
  congr 1 <;> exact port_cell _

/-- the display quirk, concretely: a rule for port 0 is shown like a rule for any port, although it matches port 0 only -/
theorem C07_show_port_zero_example :
    let r : Rule := { action := .deny, proto := none, srcIp := none, srcWc := none, dstIp := none, dstWc := none, srcPort := some 0, dstPort := none }
    (showCells r).srcPort = none ∧ (describeRule r).srcPort = some 0 := by decide

end Primaite.Acl
