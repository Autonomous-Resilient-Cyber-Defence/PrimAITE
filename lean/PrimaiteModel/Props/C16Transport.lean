/-
C16 — transport: logins and commands across a path that may be blocked per direction (`Net.blocked`, router ACL) and the
"half-open" outcomes this creates: the request arrives, the reply is dropped.

Every theorem of Props/C16.lean and Props/C16Conn.lean is stated for ALL states, so it already covers every value of
`Net.blocked` / `Net.hairpin` and the operation `setBlock`.  This file adds what is specific to a path with two directions:
* the three outcomes of a remote login, with the exact condition of each (`C16_remote_login_outcomes`);
* what a half-open login leaves behind (`C16_half_open_login`): a session the target lists (it counts against
  `max_remote_sessions`), a server-side connection, nothing on the client, answer `failure`;
* nobody can ever use it: `Orphan y i` ("no node holds a client connection with id `i` towards `y`") is invariant under every
  operation sequence (`C16_orphan_run`), it holds right after a half-open login (`C16_half_open_is_orphan`), and under it no
  command is ever accepted on that session (`C16_orphan_session_never_carries`);
* a command whose answer is dropped is executed and answered `failure` (`C16_command_answer`), a command whose request
  is dropped changes nothing (`C16_command_request_dropped`).
-/
import PrimaiteModel.Props.C16Conn
namespace Primaite.Session

/-- what the rig's abstraction of the routers (`Medium` in harness/rigs/session.py) relies on: a router that is not ON drops every
frame first thing; ARP frames are exempt from the ACL, so a DENY rule for ARP closes no direction (the rig checks both on real routers) -/
theorem C16_gen_router_medium :
    Gen.Session.routerOffDropsEveryFrame = true ∧
    Gen.Session.routerSubjectToAcl =
      ["frame.ip.protocol == 'udp' and frame.is_arp and isinstance(frame.payload, ARPPacket) -> return False", "return True"] :=
  ⟨rfl, rfl⟩

/-! ### the outcomes of a remote login over a path with two directions -/

/-- **C16, transport (login).** A remote login of `x` towards `y` has exactly three outcomes:
* refused — nothing changes anywhere, answer ≠ success;
* **half-open** — the request arrived (`x` ON, direction `x → y` open), the credentials are valid and the limit is not reached,
  so `y` opened the session and its server-side connection, but the reply could not travel back (direction `y → x` closed: blocked,
  or `x`'s NIC / terminal down): answer `failure`, the client learns nothing;
* success — both directions open: additionally the client holds its connection. -/
theorem C16_remote_login_outcomes (n : Net) (x y : Nat) (u p : String) :
    ((step n (.req x (.remoteLogin y u p))).1 = n ∧ (step n (.req x (.remoteLogin y u p))).2 ≠ .success) ∨
    ∃ a b, n.node x = some a ∧ a.isOn = true ∧ canDeliver n x y = true ∧ n.node y = some b ∧ AuthOK b u p ∧
      b.rem.length < b.maxRemote ∧
      ((canDeliver n y x = false ∧ (step n (.req x (.remoteLogin y u p))).2 = .failure ∧
          (step n (.req x (.remoteLogin y u p))).1 = afterLogin n x y u) ∨
       (canDeliver n y x = true ∧ (step n (.req x (.remoteLogin y u p))).2 = .success ∧
          (step n (.req x (.remoteLogin y u p))).1 = (afterLogin n x y u).upd x (Node.addConn ⟨n.nextId, some y⟩))) := by
  simp only [step, execCmd]
  rcases opRemoteLogin_cases n x y u p with h0 | ⟨a, b, ha, hon, hdel, hb, hok, hlt, ⟨h1, h2, h3⟩ | ⟨h1, h2, h3⟩⟩
  · exact Or.inl h0
  · rw [canDeliver_afterLogin] at h2
    exact Or.inr ⟨a, b, ha, hon, hdel, hb, (loginOk_iff _ _ _).mp hok, hlt, Or.inl ⟨h2, h3, h1⟩⟩
  · rw [canDeliver_afterLogin] at h2
    exact Or.inr ⟨a, b, ha, hon, hdel, hb, (loginOk_iff _ _ _).mp hok, hlt, Or.inr ⟨h2, h3, h1⟩⟩

theorem afterLogin_node_ne (n : Net) (x y : Nat) (u : String) {j : Nat} (h : j ≠ y) : (afterLogin n x y u).node j = n.node j := by
  have h' : ¬ y = j := fun h' => h h'.symm
  simp [afterLogin, h']

theorem afterLogin_node (n : Net) (x y : Nat) (u : String) {b : Node} (hb : n.node y = some b) :
    (afterLogin n x y u).node y = some ((b.addSession ⟨n.nextId, u, n.time, x⟩).addConn ⟨n.nextId, some x⟩) := by
  simp [afterLogin, hb]

theorem half_open_result (n : Net) (x y : Nat) (u p : String) (a b : Node) (ha : n.node x = some a) (hon : a.isOn = true)
    (hb : n.node y = some b) (hreq : canDeliver n x y = true) (hrep : canDeliver n y x = false) (hauth : AuthOK b u p)
    (hlt : b.rem.length < b.maxRemote) : step n (.req x (.remoteLogin y u p)) = (afterLogin n x y u, .failure) := by
  rw [step, execCmd, opRemoteLogin_accepted ha hon hreq hb ((loginOk_iff _ _ _).mpr hauth) hlt, canDeliver_afterLogin, hrep]
  rfl

/-- **C16, transport (half-open login).** Request direction open, reply direction closed, valid credentials, limit not reached:
the login is answered `failure`; no node other than `y` changes (the client holds no connection); `y` lists the new session —
so it counts against `max_remote_sessions` (`C16_limit_boundary`) until it ends — and holds the server-side connection. -/
theorem C16_half_open_login (n : Net) (x y : Nat) (u p : String) (a b : Node) (ha : n.node x = some a) (hon : a.isOn = true)
    (hb : n.node y = some b) (hreq : canDeliver n x y = true) (hrep : canDeliver n y x = false) (hauth : AuthOK b u p)
    (hlt : b.rem.length < b.maxRemote) :
    (step n (.req x (.remoteLogin y u p))).2 = .failure ∧
    (step n (.req x (.remoteLogin y u p))).1.nextId = n.nextId + 1 ∧
    (∀ j, j ≠ y → (step n (.req x (.remoteLogin y u p))).1.node j = n.node j) ∧
    ∃ b', (step n (.req x (.remoteLogin y u p))).1.node y = some b' ∧ b'.rem = b.rem ++ [⟨n.nextId, u, n.time, x⟩] ∧
      (⟨n.nextId, some x⟩ : Conn) ∈ b'.conns ∧ b'.users = b.users := by
  rw [half_open_result n x y u p a b ha hon hb hreq hrep hauth hlt]
  refine ⟨rfl, by simp [afterLogin], fun j hj => afterLogin_node_ne n x y u hj, _, afterLogin_node n x y u hb, rfl, ?_, rfl⟩
  exact mem_putConn_self _ _

/-! ### nobody can use a session whose client never learnt of it -/

/-- `i` is an id already handed out and no node holds a *client* connection with id `i` towards `y`: nodes other than `y` hold no
connection with that id at all (and it is not their local-session id, from which a local connection could be made); a connection
of `y` itself with that id does not name `y` as its peer (it is the server-side object of somebody else's session). -/
structure Orphan (y i : Nat) (n : Net) : Prop where
  old : i < n.nextId
  others : ∀ x a, x ≠ y → n.node x = some a → (∀ c ∈ a.conns, c.id ≠ i) ∧ ∀ l, a.loc = some l → l.id ≠ i
  self : ∀ b, n.node y = some b → ∀ c ∈ b.conns, c.id = i → c.peer ≠ some y

/-- what one operation (or part of one) may do to the connection tables as far as old ids are concerned: every connection
afterwards was there before, or carries an id handed out since, or is a local connection made from the node's own (old) local
session; a local session afterwards is the old one or has a new id -/
structure ConnStep (n m : Net) : Prop where
  mono : n.nextId ≤ m.nextId
  node : ∀ j b', m.node j = some b' → ∃ b, n.node j = some b ∧
    (∀ c ∈ b'.conns, c ∈ b.conns ∨ n.nextId ≤ c.id ∨ (c.peer = none ∧ ∃ l, b.loc = some l ∧ l.id = c.id)) ∧
    (∀ l, b'.loc = some l → b.loc = some l ∨ n.nextId ≤ l.id)

theorem ConnStep.refl (n : Net) : ConnStep n n :=
  ⟨Nat.le_refl _, fun _ b' h => ⟨b', h, fun _ hc => Or.inl hc, fun _ hl => Or.inl hl⟩⟩

theorem ConnStep.trans {n m k : Net} (h1 : ConnStep n m) (h2 : ConnStep m k) : ConnStep n k := by
  refine ⟨Nat.le_trans h1.mono h2.mono, fun j b'' hb'' => ?_⟩
  obtain ⟨b', hb', hc2, hl2⟩ := h2.node j b'' hb''
  obtain ⟨b, hb, hc1, hl1⟩ := h1.node j b' hb'
  have hm := h1.mono
  refine ⟨b, hb, fun c hc => ?_, fun l hl => ?_⟩
  · rcases hc2 c hc with h | h | ⟨hp, l, hl, hid⟩
    · exact hc1 c h
    · exact Or.inr (Or.inl (by omega))
    · rcases hl1 l hl with h | h
      · exact Or.inr (Or.inr ⟨hp, l, h, hid⟩)
      · exact Or.inr (Or.inl (by omega))
  · rcases hl2 l hl with h | h
    · exact hl1 l h
    · exact Or.inr (by omega)

theorem orphan_of_connStep {y i : Nat} {n m : Net} (h : ConnStep n m) (ho : Orphan y i n) : Orphan y i m := by
  have hold := ho.old
  refine ⟨Nat.lt_of_lt_of_le ho.old h.mono, fun x a' hxy ha' => ?_, fun b' hb' c hc hid => ?_⟩
  · obtain ⟨a, ha, hc, hl⟩ := h.node x a' ha'
    obtain ⟨o1, o2⟩ := ho.others x a hxy ha
    refine ⟨fun c hcm hid => ?_, fun l hlm hid => ?_⟩
    · rcases hc c hcm with h1 | h1 | ⟨_, l, hl', hid'⟩
      · exact o1 c h1 hid
      · omega
      · exact o2 l hl' (hid'.trans hid)
    · rcases hl l hlm with h1 | h1
      · exact o2 l h1 hid
      · omega
  · obtain ⟨b, hb, hcs, _⟩ := h.node y b' hb'
    rcases hcs c hc with h1 | h1 | ⟨hp, _⟩
    · exact ho.self b hb c h1 hid
    · omega
    · rw [hp]; simp

theorem connStep_of_connShr {n m : Net} (h : Net.Rel ConnShr n m) (hid : n.nextId ≤ m.nextId) : ConnStep n m := by
  refine ⟨hid, fun j b' hb' => ?_⟩
  obtain ⟨b, hb, hab⟩ := Net.Rel.back h hb'
  refine ⟨b, hb, fun c hc => Or.inl (hab.1.subset hc), fun l hl => ?_⟩
  rcases hab.2 with g | g
  · exact Or.inl (g ▸ hl)
  · rw [g] at hl; cases hl

theorem connStep_localLogin (n : Net) (y : Nat) (u p : String) : ConnStep n (localLogin n y u p).1 := by
  refine ⟨(keeps_localLogin n y u p).nextId, fun j b' hb' => ?_⟩
  obtain ⟨b, hb, rfl | ⟨_, _, rfl, _⟩⟩ := localLogin_node n y u p hb'
  · exact ⟨b', hb, fun _ hc => Or.inl hc, fun _ hl => Or.inl hl⟩
  · exact ⟨b, hb, fun _ hc => Or.inl hc, fun l hl => Or.inr (by cases hl; exact Nat.le_refl _)⟩

/-- one more connection put into the terminal of node `y`, on top of an earlier part `n … m` of the same operation: its id was handed
out since the operation began, or it is a local connection made from the node's local session -/
theorem connStep_put {n m m' : Net} {y : Nat} {d : Conn} (h : ConnStep n m) (hput : PutAt m m' y d) (hK : m.nextId ≤ m'.nextId)
    (hd : n.nextId ≤ d.id ∨ (d.peer = none ∧ ∃ b l, m.node y = some b ∧ b.loc = some l ∧ l.id = d.id)) : ConnStep n m' := by
  refine ⟨Nat.le_trans h.mono hK, fun j b' hb' => ?_⟩
  obtain ⟨bm, hbm, hloc, hmem⟩ := hput.mem hb'
  obtain ⟨b, hb, hc1, hl1⟩ := h.node j bm hbm
  refine ⟨b, hb, fun c hc => ?_, fun l hl => hl1 l (hloc ▸ hl)⟩
  rcases hmem c hc with h1 | ⟨hj, h1⟩
  · exact hc1 c h1
  · subst h1
    rcases hd with h2 | ⟨hp, b0, l, hb0, hl, hid⟩
    · exact Or.inr (Or.inl h2)
    · subst hj; rw [hbm] at hb0; cases hb0
      rcases hl1 l hl with h3 | h3
      · exact Or.inr (Or.inr ⟨hp, l, h3, hid⟩)
      · exact Or.inr (Or.inl (hid ▸ h3))

theorem connStep_localConn (n : Net) (y : Nat) (u p : String) (id : Nat) (hid : (localLogin n y u p).2 = some id) :
    ConnStep n ((localLogin n y u p).1.upd y (Node.addConn ⟨id, none⟩)) := by
  obtain ⟨b, l, hb, hl, hlid⟩ := localLogin_id hid
  exact connStep_put (connStep_localLogin n y u p) (putAt_addConn _ y ⟨id, none⟩)
    (Nat.le_refl _) (Or.inr ⟨rfl, b, l, hb, hl, hlid⟩)

theorem connStep_remoteLogin (n : Net) (x y : Nat) (u p : String) : ConnStep n (opRemoteLogin n x y u p).1 := by
  rcases opRemoteLogin_cases n x y u p with ⟨h0, _⟩ | ⟨a, b, _, _, _, _, _, _, h0⟩
  · rw [h0]; exact ConnStep.refl n
  · have hA : ConnStep n (afterLogin n x y u) :=
      connStep_put (.refl n) (putAt_afterLogin n x y u) (Nat.le_succ _) (Or.inl (Nat.le_refl _))
    rcases h0 with ⟨h0, _⟩ | ⟨h0, _⟩ <;> rw [h0]
    · exact hA
    · -- the client's connection carries the id handed out by this login
      exact connStep_put hA (putAt_addConn _ x ⟨n.nextId, some y⟩) (Nat.le_refl _) (Or.inl (Nat.le_refl _))

theorem connStep_step (n : Net) (op : Op) : ConnStep n (step n op).1 :=
  step_of_connShr ConnStep ConnStep.refl (fun _ _ _ h1 h2 => h1.trans h2) (fun _ _ => connStep_of_connShr) connStep_localLogin
    connStep_localConn connStep_remoteLogin n op

/-- **C16, transport (orphan sessions, one step).** Nested commands included. -/
theorem C16_orphan_step (n : Net) (op : Op) (y i : Nat) (h : Orphan y i n) : Orphan y i (step n op).1 :=
  orphan_of_connStep (connStep_step n op) h

/-- **C16, transport (orphan sessions).** Over every operation sequence — whatever is blocked or opened again, whoever logs in
or out, whatever commands are nested — nobody ever comes to hold a client connection with that id towards `y`. -/
theorem C16_orphan_run (ops : List Op) (n : Net) (y i : Nat) (h : Orphan y i n) : Orphan y i (run n ops) :=
  run_induction (Orphan y i) (fun n op => C16_orphan_step n op y i) ops n h

/-- … so no remote command is ever accepted on that session: a command that arrives at `y` (from any node, `y` itself over the
gateway included) travels on a connection with another id.  With `C16_remote_command_outcomes` / `Carried`: the orphan session can
never run a command; it ends by time-out, password change or the target's own logout. -/
theorem C16_orphan_session_never_carries (ops : List Op) (n : Net) (y i : Nat) (h : Orphan y i n) (x : Nat) (a' b' : Node) (cn : Conn)
    (arr : CmdArrives (run n ops) x y a' b' cn) : cn.id ≠ i := by
  have ho := C16_orphan_run ops n y i h
  have hmem : cn ∈ a'.conns := List.mem_of_find?_eq_some arr.conn
  have hpeer : cn.peer = some y := by have := List.find?_some arr.conn; simpa using this
  by_cases hxy : x = y
  · subst hxy
    intro hid
    exact ho.self a' arr.src cn hmem hid hpeer
  · exact (ho.others x a' hxy arr.src).1 cn hmem

/-- **C16, transport (a half-open login leaves an orphan).** In a reachable state (`ConnInv`: every id in use has been handed out)
the session created by a half-open login is an orphan from the start — and by `C16_orphan_run` for ever. -/
theorem C16_half_open_is_orphan (n : Net) (hi : ConnInv n) (x y : Nat) (u p : String) (a b : Node) (ha : n.node x = some a)
    (hon : a.isOn = true) (hb : n.node y = some b) (hreq : canDeliver n x y = true) (hrep : canDeliver n y x = false)
    (hauth : AuthOK b u p) (hlt : b.rem.length < b.maxRemote) :
    Orphan y n.nextId (step n (.req x (.remoteLogin y u p))).1 := by
  obtain ⟨_, hnext, hother, b', hb', _, _, _⟩ := C16_half_open_login n x y u p a b ha hon hb hreq hrep hauth hlt
  have hxy : x ≠ y := by
    intro h; subst h; rw [hreq] at hrep; cases hrep
  have hres : (step n (.req x (.remoteLogin y u p))).1 = afterLogin n x y u := by
    rw [half_open_result n x y u p a b ha hon hb hreq hrep hauth hlt]
  refine ⟨by rw [hnext]; omega, fun z c hzy hc => ?_, fun b'' hb'' c hc hid => ?_⟩
  · rw [hother z hzy] at hc
    exact ⟨fun d hd hid => by have := hi.ids z c d hc hd; omega, fun l hl hid => by have := hi.locIds z c l hc hl; omega⟩
  · rw [hres, afterLogin_node n x y u hb] at hb''
    simp only [Option.some.injEq] at hb''
    subst hb''
    simp only [Node.addConn, Node.addSession] at hc
    rcases mem_putConn hc with h1 | h1
    · have := hi.ids y b c hb h1; omega
    · subst h1; simp only [ne_eq, Option.some.injEq]; exact hxy

/-! ### commands over a path with two directions -/

/-- **C16, transport (command, request dropped).** If the frame carrying the command cannot reach the target (direction blocked, a
NIC down, the target's terminal not RUNNING), nothing changes anywhere and the answer is not `success`. -/
theorem C16_command_request_dropped (n : Net) (x z : Nat) (c : Cmd) (h : canDeliver n x z = false) :
    (step n (.req x (.remoteCmd z c))).1 = n ∧ (step n (.req x (.remoteCmd z c))).2 ≠ .success := by
  rcases opRemoteCmdK_cases (fun m => execCmd c m z) n x z with h0 | ⟨_, _, _, arr, _⟩
  · exact h0
  · rw [arr.path] at h; cases h

/-- **C16, transport (command, answer).** For a command that arrived on a live session with a known connection, the state is that
of the carried command executed on the target after the session's clock was set, and the answer is the carried command's answer
*if the reply direction is open after the execution* (or the node commanded itself through its gateway: client and server are then
one Terminal object and no answer frame is needed) — otherwise `failure`, although the command was executed (the client cannot tell
a dropped answer from a refused command; `success` always means "executed and answered success"). -/
theorem C16_command_answer (n : Net) (x z : Nat) (c : Cmd) (a b : Node) (cn : Conn) (arr : CmdArrives n x z a b cn)
    (hs : b.hasSession cn.id = true) (hc : b.hasConn cn.id = true) :
    (step n (.req x (.remoteCmd z c))).1 = (step (n.upd z (Node.touch cn.id n.time)) (.req z c)).1 ∧
    (step n (.req x (.remoteCmd z c))).2 =
      if (x == z || canDeliver (step (n.upd z (Node.touch cn.id n.time)) (.req z c)).1 z x) = true
      then (step (n.upd z (Node.touch cn.id n.time)) (.req z c)).2 else .failure := by
  simp only [step, execCmd]
  unfold opRemoteCmdK
  simp only [arr.src, arr.srcOn, arr.conn, arr.srcTerm, arr.path, arr.dst, hs, hc, Bool.not_true, Bool.false_eq_true, if_false, if_true]
  exact ⟨trivial, rfl⟩

/-! ### the whole chain of a nested command, as one statement -/

/-- "Operation `op`, started in state `n`, creates file `k` on node `y` through a chain of accepted terminal commands": either the
direct file request to `y` (ON), or a remote command that arrived on a connection whose id is at that moment a remote session and a
connection of the next node — whose carried command is again such a chain, started in the state where only that session's clock
was set — or a local command with credentials passing `_login` on a node whose terminal is RUNNING, likewise. -/
inductive FileChain : Net → Op → Nat → Nat → Prop
  | direct (n : Net) (y k : Nat) (b : Node) (hb : n.node y = some b) (hon : b.isOn = true) : FileChain n (.req y (.file k)) y k
  | remote (n : Net) (x z : Nat) (c : Cmd) (a' b' : Node) (cn : Conn) (y k : Nat) (arr : CmdArrives n x z a' b' cn)
      (hs : b'.hasSession cn.id = true) (hc : b'.hasConn cn.id = true)
      (rest : FileChain (n.upd z (Node.touch cn.id n.time)) (.req z c) y k) : FileChain n (.req x (.remoteCmd z c)) y k
  | local (n : Net) (x : Nat) (u p : String) (c : Cmd) (nd : Node) (id : Nat) (y k : Nat) (hnd : n.node x = some nd)
      (hon : nd.isOn = true) (hok : nd.loginOk u p = true) (hrun : nd.term.running = true)
      (hid : (localLogin n x u p).2 = some id)
      (rest : FileChain ((localLogin n x u p).1.upd x (Node.addConn ⟨id, none⟩)) (.req x c) y k) :
      FileChain n (.req x (.localCmd u p c)) y k

/-- **C16, commands (closed form over the whole nesting).** If any operation changes the files of node `y`, then it is a
`FileChain`: at EVERY hop of the nested command the sender was ON with its terminal RUNNING, the path to the next node was open in
the request direction, and the connection used carried the id of a session the next node listed at that moment (or the hop was a
local command with valid credentials); exactly the commanded file was added.  No depth bound. -/
theorem C16_command_runs_only_live_closed (n : Net) (op : Op) (y : Nat) (b a : Node) (hb : n.node y = some b)
    (ha : (step n op).1.node y = some a) (hne : a.files ≠ b.files) : ∃ k, FileChain n op y k ∧ a.files = b.files ++ [k] := by
  -- along the chain the files of `y` are `b.files`, and the state at the end is the one `a` is taken from
  refine carried_induction (fun n op => ∃ b', n.node y = some b' ∧ b'.files = b.files ∧ (step n op).1.node y = some a)
    (fun n op => ∃ k, FileChain n op y k ∧ a.files = b.files ++ [k]) ?_ ?_ ?_ n op ⟨b, hb, rfl, ha⟩
  · rintro n op ⟨b', hb', hf, ha'⟩
    rcases C16_command_runs_only_live n op y b' a hb' ha' (by rw [hf]; exact hne) with ⟨k, rfl, hon, hfa⟩ | h
    · exact Or.inl ⟨k, FileChain.direct n y k b' hb' hon, by rw [hfa, hf]⟩
    · exact Or.inr h
  · rintro n x z c a' b'' cn arr hs hc heq ⟨b', hb', hf, ha'⟩ ih
    obtain ⟨b1, hb1, hf1⟩ := (keepFiles_frame.rel_upd (keepFiles_frame.rel_refl n) z
      (Node.touch cn.id n.time) (fun _ => rfl)).node y b' hb'
    obtain ⟨k, hch, hfa⟩ := ih ⟨b1, hb1, hf1.trans hf, heq ▸ ha'⟩
    exact ⟨k, FileChain.remote n x z c a' b'' cn y k arr hs hc hch, hfa⟩
  · rintro n x u p c nd id hnd hon hok hrun hid heq ⟨b', hb', hf, ha'⟩ ih
    obtain ⟨b1, hb1, hf1⟩ :=
      (keepFiles_frame.rel_upd (keepFiles_frame.toPre.localLogin n x u p (fun _ _ => rfl)) x (Node.addConn ⟨id, none⟩) (fun _ => rfl)).node y b' hb'
    obtain ⟨k, hch, hfa⟩ := ih ⟨b1, hb1, hf1.trans hf, heq ▸ ha'⟩
    exact ⟨k, FileChain.local n x u p c nd id y k hnd hon hok hrun hid hch, hfa⟩

/-! ### non-vacuity -/

/-- `demoNet` with the direction 1 → 0 blocked: requests of node 0 reach node 1, the replies are dropped -/
def demoBack : Net := { demoNet with blocked := [(1, 0)] }

-- the hypotheses of `C16_half_open_login` / `C16_half_open_is_orphan` are met
example : canDeliver demoBack 0 1 = true ∧ canDeliver demoBack 1 0 = false := by decide
example : ConnInv demoBack :=
  connInv_init demoBack (fun _ _ ha => of_forall_nodes (P := fun a => a.conns = [] ∧ a.loc = none) (by decide) ha)
-- half-open: answered failure, the target lists the session, the client holds nothing
example : (step demoBack login01).2 = .failure := by decide
example : ((step demoBack login01).1.node 1).map (fun b => (b.rem.length, b.conns.length)) = some (1, 1) := by decide
example : ((step demoBack login01).1.node 0).map (·.conns.length) = some 0 := by decide
-- it counts against the limit (maxRemote = 2): after two half-open logins a login over the re-opened path is refused …
example : (step (run demoBack [login01, login01, .setBlock 1 0 false]) login01).2 = .failure := by decide
-- … it cannot run commands, also after the path is open again …
example : (step (run demoBack [login01, .setBlock 1 0 false]) (cmd01 (.file 3))).2 = .failure := by decide
example : ((run demoBack [login01, .setBlock 1 0 false, cmd01 (.file 3)]).node 1).map (·.files) = some [] := by decide
-- … and it ends by its time-out (remoteTimeout = 2), after which a login succeeds again
example : ((run demoBack [login01, .tick, .tick]).node 1).map (·.rem.length) = some 0 := by decide
example : (step (run demoBack [login01, login01, .setBlock 1 0 false, .tick, .tick]) login01).2 = .success := by decide
-- a command whose answer is dropped: executed on the target, answered failure
example : (step (run demoNet [login01, .setBlock 1 0 true]) (cmd01 (.file 5))).2 = .failure ∧
    ((step (run demoNet [login01, .setBlock 1 0 true]) (cmd01 (.file 5))).1.node 1).map (·.files) = some [5] := by decide
-- a command whose request is dropped changes nothing
example : canDeliver (run demoNet [login01, .setBlock 0 1 true]) 0 1 = false := by decide
example : ((run demoNet [login01, .setBlock 0 1 true, cmd01 (.file 5)]).node 1).map (·.files) = some [] := by decide
-- a logoff whose message is dropped: the client's connection goes, the target keeps the session until its time-out
example : ((run demoNet [login01, .setBlock 0 1 true, .req 0 (.remoteLogoff 1)]).node 0).map (·.conns.length) = some 0 ∧
    ((run demoNet [login01, .setBlock 0 1 true, .req 0 (.remoteLogoff 1)]).node 1).map (·.rem.length) = some 1 := by decide
-- a time-out whose notification is dropped: the client keeps a stale connection; a command on it is rejected
example : ((run demoNet [login01, .setBlock 1 0 true, .tick, .tick]).node 0).map (·.conns.length) = some 1 ∧
    ((run demoNet [login01, .setBlock 1 0 true, .tick, .tick]).node 1).map (·.rem.length) = some 0 := by decide
example : (step (run demoNet [login01, .setBlock 1 0 true, .tick, .tick, .setBlock 1 0 false]) (cmd01 (.file 5))).2 = .failure := by decide
-- the hypotheses of the closed form are met by a two-hop nested command (node 2's files change)
example : ((run demoNet [login01, cmd01 (.remoteLogin 2 "admin" "admin")]).node 2).map (·.files) = some [] ∧
    ((run demoNet [login01, cmd01 (.remoteLogin 2 "admin" "admin"), cmd01 (.remoteCmd 2 (.file 9))]).node 2).map (·.files) = some [9] := by
  decide
-- the gateway hairpin: on a routed topology a node can open a session on itself (and only with valid credentials)
example : (step { demoNet with hairpin := true } (.req 1 (.remoteLogin 1 "admin" "admin"))).2 = .success := by decide
example : (step { demoNet with hairpin := true } (.req 1 (.remoteLogin 1 "admin" "nope"))).2 = .failure := by decide
example : (step demoNet (.req 1 (.remoteLogin 1 "admin" "admin"))).2 = .failure := by decide

end Primaite.Session
