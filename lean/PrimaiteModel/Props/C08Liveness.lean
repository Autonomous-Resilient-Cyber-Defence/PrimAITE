/-
C08, part 4 — liveness on warm paths: a permitted ping, and a permitted service request / reply, between two hosts joined
by paths of switches (tables learned), routers and firewalls (caches warm, every verdict permitting), in any order and number
within 62 TTL units each way, succeed (`Model/Forward.lean`).  PARTIAL with respect to the property's liveness clause: caches
and switch tables are assumed warm and hosts single-NIC.  The cold path (the ARP exchanges nested in the first ping) is proved
for one switched LAN (`C08Cold.lean`) and for host — router — host (`C08ColdRouter.lean`, `C08ColdApp.lean`), not in general;
beyond those it is validated against the implementation by R-net (oracle (d)) and shown by evaluation on the concrete network
below.
-/
import PrimaiteModel.Lemmas.ForwardLegs
namespace Primaite.Forward
open Primaite.Route (findBestRoute)

/-- what a warm router / firewall needs to pass a frame `src → dst` with payload `pl`, arriving on interface `i` for MAC `inMac`,
on to interface `(m, j)` with MACs `outSrc → outDst`; `e` is the cache entry it sends to.  Three cases: the destination is
off-link and not cached (`e` = the next hop of `find_best_route`), on-link and cached (`e` = its own entry), or off-link but cached
(`e` = the next hop all the same: `router_forward_cached`). -/
structure Hop (N : List Node) (pl : Pl) (src dst : Ip) (n i : Nat) (inMac : Mac) (m j : Nat) (outSrc outDst : Mac) : Prop where
  node : ∃ nd ifc es e oif pif, N[n]? = some nd ∧ nd.kind = .router ∧ transitOk nd i pl dst = true ∧ nd.ifaces[i]? = some ifc ∧
    ifc.mac = inMac ∧ nd.arpGet src = some es ∧ ifaceWithIp nd.ifaces dst = none ∧
    ((nd.arpGet dst = none ∧ firstIn nd.ifaces dst 0 = none ∧ (findBestRoute nd.routes dst).nextHop? = some e.ip ∧
        findBestRoute nd.routes dst ≠ .raised ∧ nd.arpGet e.ip = some e ∧ oif.inNet dst = false) ∨
     (nd.arpGet dst = some e ∧ oif.inNet dst = true) ∨
     -- the destination is remote but cached (learned from an earlier frame it sent through a neighbour)
     (∃ ed oif0, nd.arpGet dst = some ed ∧ nd.ifaces[ed.ifc]? = some oif0 ∧ oif0.enabled = true ∧ oif0.inNet dst = false ∧
        (findBestRoute nd.routes dst).nextHop? = some e.ip ∧ findBestRoute nd.routes dst ≠ .raised ∧
        nd.arpGet e.ip = some e ∧ oif.inNet dst = false)) ∧
    nd.ifaces[e.ifc]? = some oif ∧ oif.enabled = true ∧ oif.peer = some (m, j) ∧
    (N[m]?).bind (·.ifaces[j]?) = some pif ∧ pif.enabled = true ∧ outSrc = oif.mac ∧ outDst = e.mac

/-- a router that has the (remote) destination in its cache — learned from a frame the destination sent earlier through a
neighbour — still forwards along the route `find_best_route` returns, to the cached MAC of that route's next hop. -/
theorem router_forward_cached (fuel : Nat) (st : St) (n i : Nat) (f : Frame) (nd : Node) (ed e : ArpEntry) (oif0 oif : Iface)
    (hn : st.node? n = some nd) (hb : (f.dstMac == bcastMac) = false)
    (hed : nd.arpGet f.dstIp = some ed) (hif0 : st.iface? n ed.ifc = some oif0) (hen0 : oif0.enabled = true)
    (hnot0 : oif0.inNet f.dstIp = false)
    (hnh : (findBestRoute nd.routes f.dstIp).nextHop? = some e.ip) (hnr : findBestRoute nd.routes f.dstIp ≠ .raised)
    (he : nd.arpGet e.ip = some e) (hif : st.iface? n e.ifc = some oif) (hen : oif.enabled = true)
    (httl : ¬ f.dec.ttl < 1) :
    routerProcess (fuel + 3) st n i f =
      sendFrame (fuel + 2) (st.emit (.hop n f.id f.ttl)) n e.ifc (f.dec.stamp oif.mac e.mac) := by
  cases hres : findBestRoute nd.routes f.dstIp with
  | raised => exact absurd hres hnr
  | noRoute => rw [hres] at hnh; cases hnh
  | route idx r | default nh =>
    rw [hres] at hnh
    rw [← Option.some.inj hnh] at he
    simp only [routerProcess, hb, Bool.false_eq_true, if_false, arpIfc, arpMac, hn, hed, hif0, hen0, hnot0, hres, he, hif, hen,
      httl, Route.Result.nextHop?, Bool.not_true]

theorem hop_step (fuel : Nat) (st : St) (pl : Pl) (src dst : Ip) (n i : Nat) (inMac : Mac) (m j : Nat) (outSrc outDst : Mac)
    (h : Hop st.nodes pl src dst n i inMac m j outSrc outDst) (f : Frame)
    (hsrc : f.srcIp = src) (hdst : f.dstIp = dst) (hmac : f.dstMac = inMac) (hb : inMac ≠ bcastMac) (hpl : f.pl = pl)
    (httl : 3 ≤ f.ttl) :
    ifaceRecv (fuel + 5) st n i f =
      ifaceRecv (fuel + 1) ((st.emit (.rx n i f.id f.ttl)).emit (.hop n f.id f.dec.ttl)) m j (f.dec.dec.stamp outSrc outDst) := by
  obtain ⟨nd, ifc, es, e, oif, pif, hn, hk, hon, hi, himac, hes, hown, hcase, hoif, hen, hpeer, hpif, hpen, rfl, rfl⟩ := h.node
  subst hsrc hdst hpl himac
  have hn' : st.node? n = some nd := hn
  have hoif' : st.iface? n e.ifc = some oif := (iface?_of_node hn' _).trans hoif
  have h2 : ¬ f.dec.dec.ttl < 1 := by unfold Frame.dec; simp only; omega
  have hbm : (f.dstMac == bcastMac) = false := by rw [hmac]; simpa using hb
  rw [router_transit_known (fuel + 2) st n i nd ifc f es hn' hk ((iface?_of_node hn' i).trans hi) hmac hb (by omega) hon hown hes,
    ← link_step (fuel + 1) ((st.emit (.rx n i f.id f.ttl)).emit (.hop n f.id f.dec.ttl)) n e.ifc m j oif pif _ hoif' hen hpeer hpif hpen]
  rcases hcase with ⟨hmiss, hoff, hnh, hnr, he, hnot⟩ | ⟨he, hin⟩ | ⟨ed, oif0, hed, hoif0, hen0, hnot0, hnh, hnr, he, _⟩
  · exact router_forwards_off_link fuel _ n i f.dec nd e.ip e oif hn' hk hbm hmiss hoff hnh hnr he hoif' hen hnot h2
  · simp only [routerProcess, hbm, Bool.false_eq_true, if_false, arpIfc, arpMac, emit_node, emit_iface, hn', Frame.dec_dstIp, Frame.dec_dstMac, he, hoif',
      hen, hin, if_true, Bool.not_true, h2]
    rfl
  · exact router_forward_cached fuel _ n i f.dec nd ed e oif0 oif hn' hbm hed ((iface?_of_node hn' _).trans hoif0) hen0 hnot0 hnh hnr he
      hoif' hen h2

/-- a switch that has already learned the frame's source MAC on the ingress port `i` and its destination MAC on a port
whose link leads to interface `(m, j)`. -/
structure SwHop (N : List Node) (n i : Nat) (sm dm : Mac) (m j : Nat) : Prop where
  node : ∃ nd ifc p oif pif, N[n]? = some nd ∧ nd.kind = .switch ∧ nd.ifaces[i]? = some ifc ∧
    nd.macTable.find? (fun e => e.1 == sm) = some (sm, i) ∧ nd.macPort dm = some p ∧
    nd.ifaces[p]? = some oif ∧ oif.enabled = true ∧ oif.peer = some (m, j) ∧
    (N[m]?).bind (·.ifaces[j]?) = some pif ∧ pif.enabled = true

theorem sw_step (fuel : Nat) (st : St) (n i : Nat) (sm dm : Mac) (m j : Nat)
    (h : SwHop st.nodes n i sm dm m j) (f : Frame) (hsm : f.srcMac = sm) (hdm : f.dstMac = dm) (hb : dm ≠ bcastMac)
    (httl : 2 ≤ f.ttl) :
    ifaceRecv (fuel + 4) st n i f = ifaceRecv (fuel + 1) (st.emit (.rx n i f.id f.ttl)) m j f.dec := by
  obtain ⟨nd, ifc, p, oif, pif, hn, hk, hi, hsrc, hdst, hoif, hen, hpeer, hpif, hpen⟩ := h.node
  subst hsm hdm
  have hn' : st.node? n = some nd := hn
  have hl := learnMac_known nd _ _ hsrc
  rw [switch_known_step (fuel + 1) st n i p nd ifc f hn' hk hi httl hb (by rw [hl]; exact hdst),
    modNode_fix (st := st.emit (.rx n i f.id f.ttl)) hn' hl]
  exact link_step (fuel + 1) _ n p m j oif pif _ ((iface?_of_node hn' p).trans hoif) hen hpeer hpif hpen

/-- a warm path from interface `(n, i)` (a frame with source MAC `sm`, destination MAC `dm` arrives there) to interface
`(b, bi)` (the frame arrives there with MACs `fs`, `fd`), through any number of switches and routers / firewalls, in any
order; `c` = nesting depth it costs, `h` = TTL it costs (1 per switch, 2 per router). -/
inductive Path (N : List Node) (pl : Pl) (src dst : Ip) : Nat → Nat → Mac → Mac → Nat → Nat → Mac → Mac → Nat → Nat → Prop
  | arrive {b bi : Nat} {fs fd : Mac} : Path N pl src dst b bi fs fd b bi fs fd 0 0
  | router {n i : Nat} {sm dm : Mac} {m j : Nat} {os od : Mac} {b bi : Nat} {fs fd : Mac} {c h : Nat} :
      Hop N pl src dst n i dm m j os od → od ≠ bcastMac → Path N pl src dst m j os od b bi fs fd c h →
      Path N pl src dst n i sm dm b bi fs fd (c + 4) (h + 2)
  | switch {n i : Nat} {sm dm : Mac} {m j : Nat} {b bi : Nat} {fs fd : Mac} {c h : Nat} :
      SwHop N n i sm dm m j → Path N pl src dst m j sm dm b bi fs fd c h →
      Path N pl src dst n i sm dm b bi fs fd (c + 3) (h + 1)

theorem journey {N : List Node} {pl : Pl} {src dst : Ip} {n i : Nat} {sm dm : Mac} {b bi : Nat} {fs fd : Mac} {c h : Nat}
    (hp : Path N pl src dst n i sm dm b bi fs fd c h) :
    ∀ (fuel : Nat) (st : St) (f : Frame), st.nodes = N → f.srcIp = src → f.dstIp = dst → f.srcMac = sm → f.dstMac = dm →
      dm ≠ bcastMac → f.pl = pl → (h : Int) + 2 ≤ f.ttl →
      ∃ (L : List Ev) (f' : Frame),
        ifaceRecv (fuel + c + 1) st n i f = ifaceRecv (fuel + 1) { st with log := L ++ st.log } b bi f' ∧
        f'.srcIp = src ∧ f'.dstIp = dst ∧ f'.pl = pl ∧ f'.srcMac = fs ∧ f'.dstMac = fd ∧
        f'.ttl = f.ttl - h ∧ f'.id = f.id := by
  induction hp with
  | @arrive b bi fs fd =>
    intro fuel st f _ hs hd hsm hdm _ hpl _
    exact ⟨[], f, by simp, hs, hd, hpl, hsm, hdm, by simp, rfl⟩
  | @router n i sm dm m j os od b bi fs fd c h hop hod _ ih =>
    intro fuel st f hN hs hd _ hdm hb hpl ht
    subst hN
    have h1 := hop_step (fuel + c) st pl src dst n i dm m j os od hop f hs hd hdm hb hpl (by omega)
    obtain ⟨L, f', e1, e2, e3, e4, e5, e6, e7, e8⟩ := ih fuel ((st.emit (.rx n i f.id f.ttl)).emit (.hop n f.id f.dec.ttl))
      (f.dec.dec.stamp os od) rfl hs hd rfl rfl hod hpl (by simp [Frame.stamp, Frame.dec]; omega)
    refine ⟨L ++ [.hop n f.id f.dec.ttl, .rx n i f.id f.ttl], f', ?_, e2, e3, e4, e5, e6, ?_, ?_⟩
    · have hf : fuel + (c + 4) + 1 = fuel + c + 5 := by omega
      rw [hf, h1, e1]
      simp [St.emit]
    · rw [e7]; simp [Frame.stamp, Frame.dec]; omega
    · rw [e8]; rfl
  | @switch n i sm dm m j b bi fs fd c h hop _ ih =>
    intro fuel st f hN hs hd hsm hdm hb hpl ht
    subst hN
    have h1 := sw_step (fuel + c) st n i sm dm m j hop f hsm hdm hb (by omega)
    obtain ⟨L, f', e1, e2, e3, e4, e5, e6, e7, e8⟩ := ih fuel (st.emit (.rx n i f.id f.ttl)) f.dec rfl hs hd hsm hdm hb hpl
      (by simp [Frame.dec]; omega)
    refine ⟨L ++ [.rx n i f.id f.ttl], f', ?_, e2, e3, e4, e5, e6, ?_, ?_⟩
    · have hf : fuel + (c + 3) + 1 = fuel + c + 4 := by omega
      rw [hf, h1, e1]
      simp [St.emit]
    · rw [e7]; simp [Frame.dec]; omega
    · rw [e8]; rfl

/-- how a single-NIC host reaches `peerIp` with a warm cache: directly (on-link, the peer's own entry) or through its
on-link default gateway (off-link, the gateway's entry). `e` is the cache entry used. -/
def HostRoute (nd : Node) (ifc : Iface) (peerIp : Ip) (e : ArpEntry) : Prop :=
  (ifc.inNet peerIp = true ∧ nd.arpGet peerIp = some e) ∨
  (ifc.inNet peerIp = false ∧ ∃ g, nd.gateway = some g ∧ ifc.inNet g = true ∧ nd.arpGet g = some e)

theorem host_resolveOut_warm (fuel : Nat) (st : St) (n : Nat) (nd : Node) (ifc : Iface) (dst : Ip) (e : ArpEntry)
    (hn : st.node? n = some nd) (hk : nd.kind = .host) (hifs : nd.ifaces = [ifc]) (hen : ifc.enabled = true)
    (hr : HostRoute nd ifc dst e) :
    ∃ k, resolveOut (fuel + 2) st n dst = (st, some k) := by
  rcases hr with ⟨hin, _⟩ | ⟨hoff, g, hg, hgin, he⟩
  · exact ⟨0, by simp [resolveOut, hn, hifs, firstEnabledIn, hin, hen]⟩
  · have hne : (dst == g) = false := by
      apply beq_false_of_ne
      intro h; rw [h, hgin] at hoff; cases hoff
    exact ⟨e.ifc, by simp [resolveOut, hn, hifs, firstEnabledIn, hoff, hk, hg, hen, arpIfc, he, hne]⟩

theorem host_send_warm (fuel : Nat) (st : St) (n : Nat) (nd : Node) (ifc pif : Iface) (dst : Ip) (e : ArpEntry) (pl : Pl)
    (m j : Nat)
    (hn : st.node? n = some nd) (hk : nd.kind = .host) (hifs : nd.ifaces = [ifc]) (hen : ifc.enabled = true)
    (hr : HostRoute nd ifc dst e) (he0 : e.ifc = 0)
    (hpeer : ifc.peer = some (m, j)) (hpif : st.iface? m j = some pif) (hpen : pif.enabled = true) :
    sendIcmp (fuel + 3) st n dst pl =
      (ifaceRecv (fuel + 1) { st with nextId := st.nextId + 1 } m j (mkFrame st ifc e.mac dst pl)).1 := by
  have hi : st.iface? n e.ifc = some ifc := he0 ▸ iface0_of st _ nd ifc hn hifs
  have hl := link_step (fuel + 1) { st with nextId := st.nextId + 1 } n e.ifc m j ifc pif (mkFrame st ifc e.mac dst pl) hi hen hpeer hpif hpen
  rcases hr with ⟨hin, he⟩ | ⟨hoff, g, hg, _, he⟩
  · rw [C08_host_next_hop_direct fuel st n 0 nd dst pl e hn hk (by simp [hifs, firstEnabledIn, hin, hen]) he]
    simp only [hi]
    exact congrArg Prod.fst hl
  · rw [C08_host_next_hop_gateway fuel st n nd dst g pl e hn hk (by simp [hifs, firstEnabledIn, hoff]) hg he
      (by simp [hifs, hen])]
    simp only [hi]
    exact congrArg Prod.fst hl

theorem replyCount_bump (l : List (Nat × Nat)) (ident : Nat) (h : replyCount l ident = none) :
    replyCount (bumpReply l ident) ident = some 1 := by
  unfold replyCount at h ⊢
  unfold bumpReply
  cases hf : l.find? (fun e => e.1 == ident) with
  | some x => rw [hf] at h; simp at h
  | none =>
    simp only [List.find?_append, hf, Option.none_or]
    simp

theorem ping_one_counted {fuel : Nat} {st st0 Y : St} {n k : Nat} {nd nd' : Node} {target : Ip}
    (hn : st.node? n = some nd) (hon : nd.on = true) (hlo : isLoopback target = false)
    (hst0 : ({ st with nextId := st.nextId + 1 } : St) = st0) (hro : resolveOut fuel st0 n target = (Y, some k))
    (hcore : (sendIcmp fuel Y n target (.echoReq st.nextId)).node? n = some nd')
    (hcount : replyCount nd'.replies st.nextId = some 1) : (ping fuel st n target 1).2 = true := by
  unfold ping
  simp only [hn, hon, hlo, Bool.not_true, Bool.false_eq_true, if_false, List.range_one, List.foldl_cons, List.foldl_nil, hst0, hro, hcore,
    Bool.true_and, hcount]
  rfl

/-- what a powered-on single-NIC host needs for a warm exchange with the address `peerIp`: an enabled NIC whose link
leads to the enabled interface `(r, i)`, a warm route to the peer (`HostRoute`, direct or through the on-link gateway), and
the peer's address in the cache (so that receiving its frames teaches nothing new). -/
structure WarmHost (N : List Node) (n : Nat) (nd : Node) (ifc : Iface) (peerIp : Ip) (e : ArpEntry) (r i : Nat) : Prop where
  node : N[n]? = some nd
  kind : nd.kind = .host
  on : nd.on = true
  ifs : nd.ifaces = [ifc]
  enabled : ifc.enabled = true
  route : HostRoute nd ifc peerIp e
  e0 : e.ifc = 0
  peer : ifc.peer = some (r, i)
  peerUp : ∃ p, (N[r]?).bind (·.ifaces[i]?) = some p ∧ p.enabled = true
  knowsPeer : ∃ es, nd.arpGet peerIp = some es
  macOk : ifc.mac ≠ bcastMac
  gwMacOk : e.mac ≠ bcastMac

theorem WarmHost.node_at {N : List Node} {n : Nat} {nd : Node} {ifc : Iface} {peerIp : Ip} {e : ArpEntry} {r i : Nat}
    (h : WarmHost N n nd ifc peerIp e r i) {X : St} (hX : X.nodes = N) : X.node? n = some nd := by
  unfold St.node?
  rw [hX]
  exact h.node

/-- one leg of a warm exchange: what host A sends to host B's address travels the warm path and is handed to B's software,
in a state with the same nodes. -/
theorem warm_leg {N : List Node} {a b : Nat} {ndA ndB : Node} {ifA ifB : Iface} {eA eB : ArpEntry} {r1 i1 r2 i2 : Nat} {fs : Mac}
    {c h : Nat} {pl : Pl} (hA : WarmHost N a ndA ifA ifB.ip eA r1 i1) (hB : WarmHost N b ndB ifB ifA.ip eB r2 i2)
    (p : Path N pl ifA.ip ifB.ip r1 i1 ifA.mac eA.mac b 0 fs ifB.mac c h) (hh : h ≤ 62) (fuel : Nat) {F : Nat}
    (hF : F = fuel + c + 3) (X : St) (hX : X.nodes = N) :
    ∃ (Y : St) (f : Frame), Y.nodes = N ∧ f.srcIp = ifA.ip ∧ f.dstIp = ifB.ip ∧ f.pl = pl ∧
      sendIcmp F X a ifB.ip pl = (hostRecv fuel Y b 0 f).1 := by
  subst hF hX
  obtain ⟨pA, hpA, hpAen⟩ := hA.peerUp
  obtain ⟨L, f, j, fsrc, fdst, fpl, _, fmac, fttl, _⟩ := journey p fuel { X with nextId := X.nextId + 1 }
    (mkFrame X ifA eA.mac ifB.ip pl) rfl rfl rfl rfl rfl hA.gwMacOk rfl (by simp [mkFrame, initTtl]; omega)
  have s := host_send_warm (fuel + c) X a ndA ifA pA ifB.ip eA pl r1 i1 hA.node hA.kind hA.ifs hA.enabled hA.route hA.e0 hA.peer
    hpA hpAen
  -- the state of `host_end` is left to the rewrite (given `hB.node` at once it would be taken to be `X`)
  rw [j, host_end fuel _ b ndB ifB f ?_ hB.kind hB.ifs fmac hB.macOk fdst (by rw [fttl]; simp [mkFrame, initTtl]; omega)] at s
  · refine ⟨_, f.dec, ?_, fsrc, fdst, fpl, s⟩
    rfl
  · exact hB.node

/-- the warm exchange, for ANY identifier and from ANY state: the request reaches B's software, B answers, the reply reaches A's
software and is counted (`ping` below draws the identifier and reads the counter; the cold LAN of `C08Cold.lean` starts it from the
state its ARP exchange left). -/
theorem warm_echo_core (X : St) (a b : Nat) (ndA ndB : Node) (ifA ifB : Iface) (eA eB : ArpEntry)
    (r1 i1 r2 i2 : Nat) (fsA fsB : Mac) (c1 h1 c2 h2 fuel ident : Nat)
    (hA : WarmHost X.nodes a ndA ifA ifB.ip eA r1 i1) (hB : WarmHost X.nodes b ndB ifB ifA.ip eB r2 i2)
    (pAB : Path X.nodes (.echoReq ident) ifA.ip ifB.ip r1 i1 ifA.mac eA.mac b 0 fsB ifB.mac c1 h1)
    (pBA : Path X.nodes (.echoRep ident) ifB.ip ifA.ip r2 i2 ifB.mac eB.mac a 0 fsA ifA.mac c2 h2)
    (hh1 : h1 ≤ 62) (hh2 : h2 ≤ 62) :
    (sendIcmp (fuel + c1 + c2 + 8) X a ifB.ip (.echoReq ident)).node? a =
      some { ndA with replies := bumpReply ndA.replies ident } := by
  obtain ⟨esA, hesA⟩ := hA.knowsPeer
  obtain ⟨esB, hesB⟩ := hB.knowsPeer
  obtain ⟨Y1, f1, n1, f1s, f1d, f1p, s1⟩ := warm_leg hA hB pAB hh1 (fuel + c2 + 4 + 1) (F := fuel + c1 + c2 + 8) (by omega) X rfl
  rw [host_echo_req_any (fuel + c2 + 4) Y1 b ndB ifB f1 ident (hB.node_at n1) hB.on hB.ifs f1p f1d,
    addArp_fix (hB.node_at n1) (by rw [f1s]; exact hesB)] at s1
  generalize hst4 : Y1.emit (.sw b f1.id f1.dstIp (f1.dstMac == bcastMac)) = st4 at s1
  have n4 : st4.nodes = X.nodes := by rw [← hst4]; exact n1
  obtain ⟨kB, hro⟩ : ∃ k, resolveOut (fuel + c2 + 4) st4 b f1.srcIp = (st4, some k) := by
    rw [f1s]
    exact host_resolveOut_warm (fuel + c2 + 2) st4 b ndB ifB ifA.ip eB (hB.node_at n4) hB.kind hB.ifs hB.enabled hB.route
  simp only [hro] at s1
  obtain ⟨Y2, g, n2, gs, _, gp, s2⟩ := warm_leg hB hA pBA hh2 (fuel + 1) (F := fuel + c2 + 4) (by omega) st4 n4
  rw [f1s, s2, host_echo_rep_any fuel Y2 a ndA ifA g ident (hA.node_at n2) hA.on hA.ifs gp,
    addArp_fix (hA.node_at n2) (by rw [gs]; exact hesA)] at s1
  rw [s1]
  simp only [node?_modNode, if_true, emit_node, hA.node_at n2, Option.map_some]

/-- LIVENESS, warm caches, ICMP: two powered-on single-NIC hosts, each with a warm route to the other (direct, or through
its resolved on-link default gateway), joined by warm paths — any number of switches that have learned both MAC addresses
and of routers / firewalls whose caches are warm, whose routes (static or default, selected by `find_best_route`) lead
along the path and whose every verdict permits ICMP (`transitOk`), in any order; at most 62 TTL units each way.  Then one
`ping` returns `True`: the request reaches B's software, B answers, the reply reaches A's software and is counted. -/
theorem C08_permitted_exchange_succeeds_warm (st : St) (a b : Nat) (ndA ndB : Node) (ifA ifB : Iface) (eA eB : ArpEntry)
    (r1 i1 r2 i2 : Nat) (fsA fsB : Mac) (c1 h1 c2 h2 fuel : Nat)
    (hA : WarmHost st.nodes a ndA ifA ifB.ip eA r1 i1) (hB : WarmHost st.nodes b ndB ifB ifA.ip eB r2 i2)
    (hrep : replyCount ndA.replies st.nextId = none)
    (pAB : Path st.nodes (.echoReq st.nextId) ifA.ip ifB.ip r1 i1 ifA.mac eA.mac b 0 fsB ifB.mac c1 h1)
    (pBA : Path st.nodes (.echoRep st.nextId) ifB.ip ifA.ip r2 i2 ifB.mac eB.mac a 0 fsA ifA.mac c2 h2)
    (hh1 : h1 ≤ 62) (hh2 : h2 ≤ 62) (hlo : isLoopback ifB.ip = false) :
    (ping (fuel + c1 + c2 + 8) st a ifB.ip 1).2 = true := by
  have hcore := warm_echo_core { st with nextId := st.nextId + 1 } a b ndA ndB ifA ifB eA eB r1 i1 r2 i2 fsA fsB c1 h1 c2 h2 fuel
    st.nextId hA hB pAB pBA hh1 hh2
  obtain ⟨kA, hro1⟩ : ∃ k, resolveOut (fuel + c1 + c2 + 8) { st with nextId := st.nextId + 1 } a ifB.ip =
      ({ st with nextId := st.nextId + 1 }, some k) :=
    host_resolveOut_warm (fuel + c1 + c2 + 6) _ a ndA ifA ifB.ip eA (hA.node_at rfl) hA.kind hA.ifs hA.enabled hA.route
  exact ping_one_counted (hA.node_at rfl) hA.on hlo rfl hro1 hcore (replyCount_bump ndA.replies st.nextId hrep)

/-- LIVENESS, warm caches, the service request / reply exchange (`NTPClient.request_time` → `NTPServer` → reply): client A
(no reply recorded yet), server B (the service installed), the same kind of warm paths, every router on them carrying a
permit rule for the service and every firewall list on them permitting it (`transitOk` for the service class).  Then the
request reaches B's software, B answers to the request's source address, and the reply is recorded at A: the call
returns `True`. -/
theorem C08_permitted_service_exchange_succeeds_warm (st : St) (a b : Nat) (ndA ndB : Node) (ifA ifB : Iface) (eA eB : ArpEntry)
    (r1 i1 r2 i2 : Nat) (fsA fsB : Mac) (c1 h1 c2 h2 fuel : Nat)
    (hA : WarmHost st.nodes a ndA ifA ifB.ip eA r1 i1) (hB : WarmHost st.nodes b ndB ifB ifA.ip eB r2 i2)
    (hclient : ndA.flag = false) (hserved : ndA.served = false) (hserver : ndB.flag = true)
    (pAB : Path st.nodes .dataReq ifA.ip ifB.ip r1 i1 ifA.mac eA.mac b 0 fsB ifB.mac c1 h1)
    (pBA : Path st.nodes .dataRep ifB.ip ifA.ip r2 i2 ifB.mac eB.mac a 0 fsA ifA.mac c2 h2)
    (hh1 : h1 ≤ 62) (hh2 : h2 ≤ 62) :
    (requestService (fuel + c1 + c2 + 8) st a ifB.ip).2 = true := by
  obtain ⟨esA, hesA⟩ := hA.knowsPeer
  obtain ⟨esB, hesB⟩ := hB.knowsPeer
  have h0 : st.modNode a (fun nd => { nd with served := false }) = st :=
    modNode_fix (hA.node_at rfl) (by cases ndA; simp_all)
  obtain ⟨Y1, f1, n1, f1s, _, f1p, s1⟩ := warm_leg hA hB pAB hh1 (fuel + c2 + 4 + 1) (F := fuel + c1 + c2 + 8) (by omega) st rfl
  rw [host_data_req_any (fuel + c2 + 4) Y1 b ndB ifB f1 (hB.node_at n1) hB.on hserver hB.ifs f1p,
    addArp_fix (hB.node_at n1) (by rw [f1s]; exact hesB)] at s1
  obtain ⟨Y2, g, n2, gs, _, gp, s2⟩ := warm_leg hB hA pBA hh2 (fuel + 1) (F := fuel + c2 + 4) (by omega)
    (Y1.emit (.sw b f1.id f1.dstIp (f1.dstMac == bcastMac))) n1
  rw [f1s, s2, host_data_rep_any fuel Y2 a ndA ifA g (hA.node_at n2) hA.on hclient hA.ifs gp,
    addArp_fix (hA.node_at n2) (by rw [gs]; exact hesA)] at s1
  unfold requestService
  simp only [h0, hA.node_at (X := st) rfl, hA.on, Option.any_some, Bool.not_true, Bool.false_eq_true, if_false, s1]
  simp only [node?_modNode, if_true, emit_node, hA.node_at n2, Option.map_some]

/-! ### non-vacuity: host A — switch — firewall (internal → external) — router — host B, fully warm (the state after one
round trip: every router also holds the REMOTE hosts' addresses, learned from the frames that passed) -/

def lvA : Ip := 0xC0A80102#32   -- 192.168.1.2
def lvB : Ip := 0xC0A80202#32   -- 192.168.2.2
def everyList : List (Nat × Nat) := (List.range 6).flatMap (fun l => (List.range 3).map (fun c => (l, c)))

def lvHostA : Node :=
  { kind := .host, gateway := some 0xC0A80101#32,
    ifaces := [{ mac := 1, ip := lvA, plen := 24, enabled := true, peer := some (1, 0) }],
    arp := [{ ip := 0xC0A80101#32, mac := 21, ifc := 0 }, { ip := lvB, mac := 21, ifc := 0 }] }
def lvSw : Node :=
  { kind := .switch,
    ifaces := [{ mac := 10, ip := 0#32, plen := 0, enabled := true, peer := some (0, 0) },
               { mac := 11, ip := 0#32, plen := 0, enabled := true, peer := some (2, 1) }],
    macTable := [(1, 0), (21, 1)] }
def lvFw : Node :=
  { kind := .router, fw := some everyList,
    ifaces := [{ mac := 20, ip := 0x0A000001#32, plen := 30, enabled := true, peer := some (3, 0) },
               { mac := 21, ip := 0xC0A80101#32, plen := 24, enabled := true, peer := some (1, 1) },
               { mac := 22, ip := 0x7F000001#32, plen := 8, enabled := false }],
    routes := { routes := [{ addr := 0xC0A80200#32, mask := 0xFFFFFF00#32, nextHop := 0x0A000002#32, metric := 0 }] },
    arp := [{ ip := lvA, mac := 1, ifc := 1 }, { ip := 0x0A000002#32, mac := 30, ifc := 0 }, { ip := lvB, mac := 30, ifc := 0 }] }
def lvR : Node :=
  { kind := .router, flag := true,
    ifaces := [{ mac := 30, ip := 0x0A000002#32, plen := 30, enabled := true, peer := some (2, 0) },
               { mac := 31, ip := 0xC0A80201#32, plen := 24, enabled := true, peer := some (4, 0) }],
    routes := { routes := [], default := some 0x0A000001#32 },
    arp := [{ ip := 0x0A000001#32, mac := 20, ifc := 0 }, { ip := lvA, mac := 20, ifc := 0 }, { ip := lvB, mac := 40, ifc := 1 }] }
def lvHostB : Node :=
  { kind := .host, gateway := some 0xC0A80201#32, flag := true,
    ifaces := [{ mac := 40, ip := lvB, plen := 24, enabled := true, peer := some (3, 1) }],
    arp := [{ ip := 0xC0A80201#32, mac := 31, ifc := 0 }, { ip := lvA, mac := 31, ifc := 0 }] }
def lvSt : St := { nodes := [lvHostA, lvSw, lvFw, lvR, lvHostB] }

/-- forward path A → B: switch (learned), firewall (internal → external outbound, destination remote but cached, static
route), router (destination on-link and cached). -/
theorem lvPathAB (pl : Pl) (h1 : transitOk lvFw 1 pl lvB = true) (h2 : transitOk lvR 0 pl lvB = true) :
    Path lvSt.nodes pl lvA lvB 1 0 1 21 4 0 31 40 11 5 := by
  refine Path.switch (m := 2) (j := 1) (c := 8) (h := 4) ⟨⟨lvSw, lvSw.ifaces[0], 1, lvSw.ifaces[1], lvFw.ifaces[1], by decide⟩⟩ ?_
  refine Path.router (m := 3) (j := 0) (c := 4) (h := 2) (os := 20) (od := 30) ⟨⟨lvFw, lvFw.ifaces[1], { ip := lvA, mac := 1, ifc := 1 },
    { ip := 0x0A000002#32, mac := 30, ifc := 0 }, lvFw.ifaces[0], lvR.ifaces[0], by decide, by decide, h1, by decide, by decide,
    by decide, by decide, ?_, by decide⟩⟩ (by decide) ?_
  · exact Or.inr (Or.inr ⟨{ ip := lvB, mac := 30, ifc := 0 }, lvFw.ifaces[0], by decide⟩)
  refine Path.router (m := 4) (j := 0) (c := 0) (h := 0) (os := 31) (od := 40) ⟨⟨lvR, lvR.ifaces[0], { ip := lvA, mac := 20, ifc := 0 },
    { ip := lvB, mac := 40, ifc := 1 }, lvR.ifaces[1], lvHostB.ifaces[0], by decide, by decide, h2, by decide, by decide,
    by decide, by decide, Or.inr (Or.inl (by decide)), by decide⟩⟩ (by decide) Path.arrive

/-- backward path B → A: router (destination remote but cached, DEFAULT route), firewall (external inbound → internal
inbound, destination on-link), switch. -/
theorem lvPathBA (pl : Pl) (h1 : transitOk lvR 1 pl lvA = true) (h2 : transitOk lvFw 0 pl lvA = true) :
    Path lvSt.nodes pl lvB lvA 3 1 40 31 0 0 21 1 11 5 := by
  refine Path.router (m := 2) (j := 0) (c := 7) (h := 3) (os := 30) (od := 20) ⟨⟨lvR, lvR.ifaces[1], { ip := lvB, mac := 40, ifc := 1 },
    { ip := 0x0A000001#32, mac := 20, ifc := 0 }, lvR.ifaces[0], lvFw.ifaces[0], by decide, by decide, h1, by decide, by decide,
    by decide, by decide, ?_, by decide⟩⟩ (by decide) ?_
  · exact Or.inr (Or.inr ⟨{ ip := lvA, mac := 20, ifc := 0 }, lvR.ifaces[0], by decide⟩)
  refine Path.router (m := 1) (j := 1) (c := 3) (h := 1) (os := 21) (od := 1) ⟨⟨lvFw, lvFw.ifaces[0], { ip := lvB, mac := 30, ifc := 0 },
    { ip := lvA, mac := 1, ifc := 1 }, lvFw.ifaces[1], lvSw.ifaces[1], by decide, by decide, h2, by decide, by decide,
    by decide, by decide, Or.inr (Or.inl (by decide)), by decide⟩⟩ (by decide) ?_
  exact Path.switch (m := 0) (j := 0) (c := 0) (h := 0) ⟨⟨lvSw, lvSw.ifaces[1], 0, lvSw.ifaces[0], lvHostA.ifaces[0], by decide⟩⟩ Path.arrive

theorem lvWarmA : WarmHost lvSt.nodes 0 lvHostA lvHostA.ifaces[0] lvB { ip := 0xC0A80101#32, mac := 21, ifc := 0 } 1 0 :=
  ⟨by decide, by decide, by decide, by decide, by decide,
    Or.inr ⟨by decide, 0xC0A80101#32, by decide, by decide, by decide⟩, by decide, by decide,
    ⟨lvSw.ifaces[0], by decide, by decide⟩, ⟨{ ip := lvB, mac := 21, ifc := 0 }, by decide⟩, by decide, by decide⟩

theorem lvWarmB : WarmHost lvSt.nodes 4 lvHostB lvHostB.ifaces[0] lvA { ip := 0xC0A80201#32, mac := 31, ifc := 0 } 3 1 :=
  ⟨by decide, by decide, by decide, by decide, by decide,
    Or.inr ⟨by decide, 0xC0A80201#32, by decide, by decide, by decide⟩, by decide, by decide,
    ⟨lvR.ifaces[1], by decide, by decide⟩, ⟨{ ip := lvA, mac := 31, ifc := 0 }, by decide⟩, by decide, by decide⟩

/-- the hypotheses of the ICMP liveness theorem hold for this network, and the theorem gives the result … -/
example : (ping (0 + 11 + 11 + 8) lvSt 0 lvB 1).2 = true :=
  C08_permitted_exchange_succeeds_warm lvSt 0 4 lvHostA lvHostB lvHostA.ifaces[0] lvHostB.ifaces[0]
    { ip := 0xC0A80101#32, mac := 21, ifc := 0 } { ip := 0xC0A80201#32, mac := 31, ifc := 0 } 1 0 3 1 21 31 11 5 11 5 0
    lvWarmA lvWarmB (by decide) (lvPathAB _ (by decide) (by decide)) (lvPathBA _ (by decide) (by decide)) (by decide) (by decide)
    (by decide)

/-- … and so do those of the service theorem (the router carries the permit rule, every firewall list permits). -/
example : (requestService (0 + 11 + 11 + 8) lvSt 0 lvB).2 = true :=
  C08_permitted_service_exchange_succeeds_warm lvSt 0 4 lvHostA lvHostB lvHostA.ifaces[0] lvHostB.ifaces[0]
    { ip := 0xC0A80101#32, mac := 21, ifc := 0 } { ip := 0xC0A80201#32, mac := 31, ifc := 0 } 1 0 3 1 21 31 11 5 11 5 0
    lvWarmA lvWarmB (by decide) (by decide) (by decide) (lvPathAB _ (by decide) (by decide)) (lvPathBA _ (by decide) (by decide))
    (by decide) (by decide)

/-- a frame ENTERING THE FIREWALL ON ITS DMZ PORT (arrival port 2) is a transit frame, too, when the destination's cache entry
names an outbound port whose list permits (`_process_dmz_outbound_frame`): `Hop` / `journey` / both liveness theorems cover
paths through the DMZ port; remove the external-outbound permit and it is not. -/
example : transitOk lvFw 2 (.echoReq 0) lvB = true := by decide
example : transitOk { lvFw with fw := some (everyList.filter (· != (1, 1))) } 2 (.echoReq 0) lvB = false := by decide
/-- "every device on the path permits" is a real precondition: without the router's permit rule `transitOk` fails … -/
example : transitOk { lvR with flag := false } 0 .dataReq lvB = false := by decide
/-- … and so it does when the firewall's external-outbound list does not permit ICMP. -/
example : transitOk { lvFw with fw := some (everyList.filter (· != (1, 1))) } 1 (.echoReq 0) lvB = false := by decide

/-! ### the COLD path, by evaluation only (not a theorem): the same network with empty caches and tables — the ARP
exchanges nested inside the first ping (A ↔ firewall through the switch's flood, firewall ↔ router, router ↔ B) complete and the
ping, then the service exchange, succeed; the general cold case is validated on the implementation by R-net. -/
def lvCold : St := { nodes := lvSt.nodes.map (fun nd => { nd with arp := [], macTable := [] }) }
example : (ping 200 lvCold 0 lvB 1).2 = true := by decide +kernel
example : (requestService 200 lvCold 0 lvB).2 = true := by decide +kernel
example : (ping 200 lvCold 0 lvB 1).1.oof = false := by decide +kernel

end Primaite.Forward
