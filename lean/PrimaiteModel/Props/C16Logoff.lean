/-
Props.C16Logoff — the client logoff whose message reaches a target whose user-session-manager is not running, at REQUEST level:
the target drops its connection object, the session stays listed until its time-out.
-/
import PrimaiteModel.Props.C16Ends
namespace Primaite.Session

/-- the disconnect chain only shrinks, and it never removes a session of a node whose session manager cannot act -/
def KR (y : Nat) (n m : Net) : Prop :=
  n.Shr m ∧ ∀ b, n.node y = some b → b.canUsm = false → ∃ b', m.node y = some b' ∧ b'.rem = b.rem

theorem KR.refl (y : Nat) (n : Net) : KR y n n := ⟨Net.Shr.refl n, fun b hb _ => ⟨b, hb, rfl⟩⟩

theorem KR.trans {y : Nat} {n m k : Net} (h1 : KR y n m) (h2 : KR y m k) : KR y n k := by
  refine ⟨h1.1.trans h2.1, fun b hb hc => ?_⟩
  obtain ⟨b', hb', hr⟩ := h1.2 b hb hc
  obtain ⟨c, hc', hr'⟩ := h2.2 b' hb' (by rw [(h1.1.rel.of_nodes hb hb').canUsm]; exact hc)
  exact ⟨c, hc', hr'.trans hr⟩

theorem kr_upd (y : Nat) (n : Net) (i : Nat) (f : Node → Node) (hf : ∀ a : Node, a.Shr (f a)) (hr : ∀ a : Node, (f a).rem = a.rem) :
    KR y n (n.upd i f) := by
  refine ⟨shr_upd n i f hf, fun b hb _ => ?_⟩
  by_cases hij : i = y
  · subst hij; exact ⟨f b, by simp [hb], hr b⟩
  · exact ⟨b, by simp [hij, hb], rfl⟩

theorem kr_chain (y : Nat) (f : Nat) : ∀ (h : Hop) (n : Net) (i cid : Nat), KR y n (chain f h n i cid) := by
  refine chain_induction (KR y) (KR.refl y) KR.trans (fun n => ⟨shr_stuck n, fun b hb _ => ⟨b, hb, rfl⟩⟩)
    (fun n i cid => kr_upd y n i _ (shr_dropConn cid) (fun _ => rfl))
    (fun n i => kr_upd y n i _ shr_localLogout (fun a => by unfold Node.localLogout; split <;> rfl)) ?_ f
  intro n m i cid nd hnd hcu h0
  refine ⟨h0.1.trans (shr_upd _ i _ (shr_dropSession cid)), fun b hb hc => ?_⟩
  by_cases hiy : i = y
  · subst hiy; rw [hnd] at hb; cases hb; rw [hcu] at hc; cases hc
  · obtain ⟨b', hb', hr⟩ := h0.2 b hb hc
    exact ⟨b', by simp [hiy, hb'], hr⟩

/-- **C16, client logoff reaching a target whose session manager is down (request level).** Node `x` (ON) logs off from `y`; the
connection it finds has an id under which `x`'s dictionary holds a connection towards `y` (in reachable states: the very same
object), the message gets through, and the target lists the session and holds its server-side connection — but its
user-session-manager cannot act (not RUNNING, or the node not ON).  Then the request answers `success`, the target's connection
object with that id is GONE (no command is accepted on that id any more: `C16_command_runs_only_live` needs `hasConn`), and the
target's session list is exactly what it was: the session stays listed, counts against the limit, and ends by its time-out
(`C16_session_ends_at_timeout`, which needs no service). -/
theorem C16_client_logoff_target_manager_down (n : Net) (x y : Nat) (a b : Node) (cn c0 : Conn)
    (ha : n.node x = some a) (hb : n.node y = some b) (hxy : x ≠ y) (hon : a.isOn = true)
    (hcn : a.conns.find? (fun c => c.peer == some y) = some cn)
    (hc0 : a.conns.find? (fun d => d.id == cn.id) = some c0) (hp0 : c0.peer = some y)
    (hpath : canDeliver n x y = true)
    (hs : b.hasSession cn.id = true) (hc : b.hasConn cn.id = true) (hdown : b.canUsm = false) :
    (step n (.req x (.remoteLogoff y))).2 = .success ∧
    ∃ b', (step n (.req x (.remoteLogoff y))).1.node y = some b' ∧ b'.hasConn cn.id = false ∧ b'.rem = b.rem := by
  rw [remoteLogoff_accepted ha hon hcn]
  refine ⟨rfl, ?_⟩
  -- the network after x dropped its own connection
  have hn1y : (n.upd x (Node.dropConn cn.id)).node y = some b := by simp [hxy, hb]
  have hdel : canDeliver (n.upd x (Node.dropConn cn.id)) x y = true := by
    rw [canDeliver_shr (shr_upd n x _ (shr_dropConn cn.id))]; exact hpath
  have hf : n.fuel = ((3 * n.totalConns + 1) + 1 + 1) + 1 := rfl
  -- hop 1: `_disconnect` on x, the message travels to y
  have hop1 : disconnect n.fuel n x cn.id =
      chain ((3 * n.totalConns + 1) + 1 + 1) .onDisconnect (n.upd x (Node.dropConn cn.id)) y cn.id := by
    unfold disconnect
    rw [hf]
    conv => lhs; unfold chain
    simp only [ha, hc0, hp0, hdel, if_true]
  -- hop 2: y validates the id (session listed, connection held): `_disconnect` on y, then `remote_logout`
  have hop2 : chain ((3 * n.totalConns + 1) + 1 + 1) .onDisconnect (n.upd x (Node.dropConn cn.id)) y cn.id =
      chain ((3 * n.totalConns + 1) + 1) .remoteLogout
        (chain ((3 * n.totalConns + 1) + 1) .disconnect (n.upd x (Node.dropConn cn.id)) y cn.id) y cn.id := by
    conv => lhs; unfold chain
    simp only [hn1y, hs, hc, if_true]
  rw [hop1, hop2]
  obtain ⟨c', hc'⟩ := find_id_of_hasConn hc
  have hdrop := chain_disconnect_drops (3 * n.totalConns + 1) (n.upd x (Node.dropConn cn.id)) y cn.id b c' hn1y hc'
  have hkr := kr_chain y ((3 * n.totalConns + 1) + 1) .disconnect (n.upd x (Node.dropConn cn.id)) y cn.id
  obtain ⟨bm, hbm, hrem⟩ := hkr.2 b hn1y hdown
  -- y's node after its own `_disconnect`: connection gone, manager still down
  have hn2y : ((n.upd x (Node.dropConn cn.id)).upd y (Node.dropConn cn.id)).node y = some (b.dropConn cn.id) := by
    simp [hn1y]
  have hshr := hdrop.rel.of_nodes hn2y hbm
  have hcu : bm.canUsm = false := by rw [hshr.canUsm]; exact hdown
  rw [C16_remote_logout_hop_needs_manager (3 * n.totalConns + 1) _ y cn.id bm hbm hcu]
  exact ⟨bm, hbm, noConn_of_shr hshr cn.id (dropConn_noConn b cn.id), hrem⟩

-- non-vacuity: login 0 -> 1, the target's session manager stopped, logoff: answered success, the session is still listed, the
-- target's connection is gone
example : (let n := run demoLong [.req 0 (.remoteLogin 1 "admin" "admin"), .req 1 (.svc .sessionManager .stop)]
           let r := step n (.req 0 (.remoteLogoff 1))
           (r.2, (r.1.node 1).map (fun b => (b.rem.length, b.conns.length)))) = (.success, some (1, 0)) := by decide

end Primaite.Session
