/-
C05 (static part) — every registered action's request template resolves through the regenerated schematic request
tree, for every node class the action can address and every software class it can name; hence, on ANY live tree that
contains what the schema predicts for its inventory, a request formed from parameters naming present components is
never `unreachable`, the validators met on its way are exactly the ones the schema attaches to that route, and only
those can refuse it.

Two kinds of statements:
* GENERAL theorems (`C05_schema_route_exists`, `C05_action_never_unreachable`, `C05_action_refused_only_by_route_rule`,
  `C05_route_validators_in_schema`): for every schema, every inventory, every live tree that is an instance, every
  parameter assignment — proved by induction over the template, no enumeration.
* TABLE theorems over the regenerated Gen tables (`C05_action_templates_resolve`, `C05_route_guards`, `C05_gen_*`): the
  quantifier "every template x every class" ranges over a FINITE regenerated table and is discharged by `decide +kernel`
  (for the first two: one walk per template with every class admitted, `templates_walk_with_expected_guards`, from which
  each node class follows by `walk_of_subset` / `walkVals_subset`); it is re-checked against whatever the source says on
  every run.
-/
import PrimaiteModel.Model.Schema
import PrimaiteModel.Props.C05
import PrimaiteModel.Gen.RequestSchema
import PrimaiteModel.Gen.ActionTemplates
namespace Primaite.Schema
open Primaite.Request
open Primaite.Gen.RequestSchema (schema)
open Primaite.Gen.ActionTemplates (templates)

/-- what `walk` demands of the literal edge it looks up: the edge is there, and the walk goes on below a sub-manager -/
theorem walk_edge {S : Schema} {pick : SlotKind → List String} {rest : List TSeg} {o : Option (Validator × Target)}
    (h : (match o with
      | some (_, .leaf) => true
      | some (_, .sub m') => walk S pick m' rest
      | none => false) = true) :
    ∃ vs tgt, o = some (vs, tgt) ∧ ∀ m', tgt = .sub m' → walk S pick m' rest = true := by
  match o, h with
  | some (vs, .leaf), _ => exact ⟨vs, .leaf, rfl, fun _ e => by cases e⟩
  | some (vs, .sub m'), h => exact ⟨vs, .sub m', rfl, fun _ e => by cases e; exact h⟩

/-- On an instance of the schema, a template that walks through the schema, instantiated with parameters
naming present components, is a path of the live tree down to a handler, and the validators met on it are (by name)
the ones the schema lists for the concrete route. -/
theorem walk_sound (S : Schema) (vn : VId → Validator) (pick : SlotKind → List String) (ρ : String → Key) :
    ∀ (segs : List TSeg) (m : String) (inv : Inv) (kids : Kids),
      Inst S vn m inv kids → walk S pick m segs = true → present S pick m inv segs ρ = true →
      pathExistsK kids (instantiate ρ segs) = true ∧
      (validatorsOnK kids (instantiate ρ segs)).map (fun va => vn va.1) = routeVals S m inv segs ρ := by
  intro segs
  induction segs with
  | nil => intro m inv kids _ hw; simp [walk] at hw
  | cons seg rest ih =>
    intro m inv kids hinst hw hp
    cases hinst with
    | @static _ _ _ edges hm hleaf hsub hrec =>
      simp only [walk, hm] at hw
      simp only [present, hm] at hp
      simp only [routeVals, hm, instantiate, List.map_cons, pathExistsK, validatorsOnK]
      -- in every accepted case the key is a literal edge of the manager
      have key : ∃ vs tgt, lookupE (seg.key ρ) edges = some (vs, tgt) ∧
          (∀ m', tgt = .sub m' → walk S pick m' rest = true) := by
        cases seg with
        | lit k => exact walk_edge hw
        | choice f ty =>
          simp only [Bool.and_eq_true, List.all_eq_true] at hw
          simp only [Bool.and_eq_true, List.contains_iff_mem] at hp
          exact walk_edge (hw.2 (ρ f) hp.1)
        | slot f sk ty => simp at hw
        | opt d => simp at hw
      obtain ⟨vs, tgt, hl, hwalk⟩ := key
      cases tgt with
      | leaf =>
        obtain ⟨v, h, hlk, hvn⟩ := hleaf _ vs hl
        simp [hl, hlk, hvn]
      | sub m' =>
        obtain ⟨v, kids', hlk, hvn⟩ := hsub _ vs m' hl
        have hi := hrec _ vs m' v kids' hl hlk
        have hp' : present S pick m' inv rest ρ = true := by
          simp only [hl, Bool.and_eq_true] at hp; exact hp.2
        have := ih m' inv kids' hi (hwalk m' rfl) hp'
        simp only [instantiate] at this
        simp [hl, hlk, hvn, this.1, this.2]
    | @dynamic _ _ _ lv ty vs hm hkey hrec =>
      simp only [walk, hm, Bool.and_eq_true, List.all_eq_true] at hw
      simp only [present, hm] at hp
      simp only [routeVals, hm, instantiate, List.map_cons, pathExistsK, validatorsOnK]
      cases hf : findChild lv (seg.key ρ) inv.children with
      | none => simp [hf] at hp
      | some ci =>
        obtain ⟨c, inv'⟩ := ci
        simp only [hf, Bool.and_eq_true, List.contains_iff_mem] at hp
        obtain ⟨v, kids', hlk, hvn⟩ := hkey _ c inv' hf
        have hi := hrec _ c inv' v kids' hf hlk
        have := ih c inv' kids' hi (hw.2 c hp.1) hp.2
        simp only [instantiate] at this
        simp [hlk, hvn, this.1, this.2]

/-! `walk` and `walkVals` branch alike, and the statements below are proved along these branches (`walk.induct`): (1) the template
is exhausted; (2) there is no such manager; a literal at a static manager names (3) a leaf edge, (4) a sub-manager edge, (5) no
edge; (6) a choice slot at a static manager; (7) any other element at a static manager; (8) a dynamic manager. -/

/-- Schema-level view of the concrete route: its validator sequence is one of the alternatives `walkVals` enumerates
(one per admitted class combination / literal choice). No live tree involved. -/
theorem routeVals_mem_walkVals (S : Schema) (pick : SlotKind → List String) (ρ : String → Key) :
    ∀ (segs : List TSeg) (m : String) (inv : Inv),
      walk S pick m segs = true → present S pick m inv segs ρ = true →
      routeVals S m inv segs ρ ∈ walkVals S pick m segs := by
  intro segs m inv hw hp
  induction m, segs using walk.induct S generalizing inv with
  | case1 m => simp [walk] at hw
  | case2 m seg rest hm => simp [walk, hm] at hw
  | case3 m rest edges hm k vs hl => simp [routeVals, walkVals, hm, hl, TSeg.key]
  | case4 m rest edges hm k vs m' hl ih =>
    simp only [walk, present, hm, hl, TSeg.key, Bool.true_and] at hw hp
    simp only [routeVals, walkVals, hm, hl, TSeg.key]
    exact List.mem_map.mpr ⟨_, ih inv hw hp, rfl⟩
  | case5 m rest edges hm k hl => simp [walk, hm, hl] at hw
  | case6 m rest edges hm f ty ih =>
    simp only [walk, present, hm, TSeg.key, Bool.and_eq_true, List.all_eq_true, List.contains_iff_mem] at hw hp
    simp only [routeVals, walkVals, hm, TSeg.key]
    refine List.mem_flatMap.mpr ⟨ρ f, hp.1, ?_⟩
    have hwk := hw.2 (ρ f) hp.1
    have hpk := hp.2
    generalize lookupE (ρ f) edges = o at hwk hpk ⊢
    rcases o with _ | ⟨vs, _ | m'⟩
    · cases hwk
    · exact List.mem_singleton.mpr rfl
    · exact List.mem_map.mpr ⟨_, ih m' inv hwk hpk, rfl⟩
  | case7 m seg rest edges hm hl hc => cases seg <;> simp_all [walk]
  | case8 m seg rest lv ty vs hm ih =>
    simp only [walk, present, hm, Bool.and_eq_true, List.all_eq_true] at hw hp
    simp only [routeVals, walkVals, hm]
    cases hf : findChild lv (seg.key ρ) inv.children with
    | none => simp [hf] at hp
    | some ci =>
      obtain ⟨c, inv'⟩ := ci
      simp only [hf, Bool.and_eq_true, List.contains_iff_mem] at hp
      simp only [List.mem_flatMap, List.mem_map]
      exact ⟨c, hp.1, _, ih c inv' (hw.2 c hp.1) hp.2, rfl⟩

/-! ### the admitted classes: `walk` and `walkVals` for one node class from the walk with every class admitted

`pickNode S c` only removes classes at the node slots.  Fewer admitted classes mean fewer alternatives (`walkVals_subset`)
and, as long as no slot is left without any class, still a walk (`walk_of_subset`).  So one walk per template, with all classes
admitted, answers for every node class. -/

theorem segClasses_subset {S : Schema} {p p' : SlotKind → List String} (h : ∀ sk, p sk ⊆ p' sk)
    (lv : Level) (ty : KeyTy) (seg : TSeg) : segClasses S p lv ty seg ⊆ segClasses S p' lv ty seg := by
  cases seg with
  | slot f sk sty =>
    simp only [segClasses]
    split
    · exact h sk
    · exact List.Subset.refl _
  | lit k => exact List.Subset.refl _
  | choice f ty' => exact List.Subset.refl _
  | opt d => exact List.Subset.refl _

theorem walkVals_subset {S : Schema} {p p' : SlotKind → List String} (h : ∀ sk, p sk ⊆ p' sk)
    (segs : List TSeg) (m : String) : walkVals S p m segs ⊆ walkVals S p' m segs := by
  induction m, segs using walkVals.induct S with
  | case1 m => simp [walkVals]
  | case2 m seg rest hm => simp [walkVals, hm]
  | case3 m rest edges hm k vs hl => simp [walkVals, hm, hl]
  | case4 m rest edges hm k vs m' hl ih => simpa [walkVals, hm, hl] using List.map_subset _ ih
  | case5 m rest edges hm k hl => simp [walkVals, hm, hl]
  | case6 m rest edges hm f ty ih =>
    simp only [walkVals, hm]
    intro g hg
    obtain ⟨k, hk, hg⟩ := List.mem_flatMap.mp hg
    refine List.mem_flatMap.mpr ⟨k, hk, ?_⟩
    generalize lookupE k edges = o at hg ⊢
    rcases o with _ | ⟨vs, _ | m'⟩
    · exact hg
    · exact hg
    · exact List.map_subset _ (ih m') hg
  | case7 m seg rest edges hm hl hc => cases seg <;> simp_all [walkVals]
  | case8 m seg rest lv ty vs hm ih =>
    simp only [walkVals, hm]
    intro g hg
    obtain ⟨c, hc, hg⟩ := List.mem_flatMap.mp hg
    exact List.mem_flatMap.mpr ⟨c, segClasses_subset h lv ty seg hc, List.map_subset _ (ih c) hg⟩

theorem walk_of_subset {S : Schema} {p p' : SlotKind → List String} (h : ∀ sk, p sk ⊆ p' sk)
    (segs : List TSeg) (m : String) (hne : ∀ f sk ty, TSeg.slot f sk ty ∈ segs → p sk ≠ [])
    (hw : walk S p' m segs = true) : walk S p m segs = true := by
  induction m, segs using walk.induct S with
  | case1 m => exact hw
  | case2 m seg rest hm => simp [walk, hm] at hw
  | case3 m rest edges hm k vs hl => simp [walk, hm, hl]
  | case4 m rest edges hm k vs m' hl ih =>
    simp only [walk, hm, hl] at hw ⊢
    exact ih (fun f sk ty hs => hne f sk ty (List.mem_cons_of_mem _ hs)) hw
  | case5 m rest edges hm k hl => simp [walk, hm, hl] at hw
  | case6 m rest edges hm f ty ih =>
    simp only [walk, hm, Bool.and_eq_true, List.all_eq_true] at hw ⊢
    refine ⟨hw.1, fun k hk => ?_⟩
    have hwk := hw.2 k hk
    generalize lookupE k edges = o at hwk ⊢
    rcases o with _ | ⟨vs, _ | m'⟩
    · exact hwk
    · rfl
    · exact ih m' (fun f sk ty hs => hne f sk ty (List.mem_cons_of_mem _ hs)) hwk
  | case7 m seg rest edges hm hl hc => cases seg <;> simp_all [walk]
  | case8 m seg rest lv ty vs hm ih =>
    simp only [walk, hm, Bool.and_eq_true] at hw ⊢
    obtain ⟨h1, h2⟩ := hw
    refine ⟨?_, List.all_eq_true.mpr (fun c hc =>
      ih c (fun f sk ty hs => hne f sk ty (List.mem_cons_of_mem _ hs))
        (List.all_eq_true.mp h2 c (segClasses_subset h lv ty seg hc)))⟩
    cases seg with
    | lit k => exact h1
    | slot f sk sty =>
      simp only [segClasses] at h1 ⊢
      split
      · simpa [List.isEmpty_iff] using hne f sk sty List.mem_cons_self
      · rename_i hc; simp [hc] at h1
    | choice f ty' => simp [segClasses] at h1
    | opt d => simp [segClasses] at h1

theorem pickNode_subset (S : Schema) (c : String) (sk : SlotKind) : pickNode S c sk ⊆ S.slotClasses sk := by
  unfold pickNode
  split
  · exact fun x hx => (List.mem_filter.mp hx).1
  · exact List.Subset.refl _

/-- every node-level slot of the template has the kind `addressable` reads off, and every other slot kind has a class -/
def slotsFit (S : Schema) (segs : List TSeg) : Bool :=
  segs.all (fun s => match s with
    | .slot _ sk _ => if sk.level = .node then sk == (nodeSlot segs).getD .node else !(S.slotClasses sk).isEmpty
    | _ => true)

theorem pickNode_ne_nil {S : Schema} {t : Template} (hfit : slotsFit S t.segs = true) {c : String}
    (hc : c ∈ addressable S t) {f : String} {sk : SlotKind} {ty : KeyTy} (hs : TSeg.slot f sk ty ∈ t.segs) :
    pickNode S c sk ≠ [] := by
  have hfit := List.all_eq_true.mp hfit _ hs
  simp only at hfit
  unfold pickNode
  split at hfit
  · rename_i hl
    rw [if_pos hl]
    have hsk : sk = (nodeSlot t.segs).getD .node := by simpa using hfit
    exact List.ne_nil_of_mem (a := c) (List.mem_filter.mpr ⟨(hsk ▸ hc : c ∈ S.slotClasses sk), by simp⟩)
  · rename_i hl
    rw [if_neg hl]
    simpa [List.isEmpty_iff] using hfit

theorem lookupE_mem {k : Key} {edges : List Edge} {vs : Validator} {tgt : Target}
    (h : lookupE k edges = some (vs, tgt)) : (k, vs, tgt) ∈ edges := by
  fun_induction lookupE k edges <;> simp_all

theorem findChild_mem {lv : Level} {k : Key} {cs : List (Level × Key × String × Inv)} {c : String} {inv' : Inv}
    (h : findChild lv k cs = some (c, inv')) : (lv, k, c, inv') ∈ cs := by
  fun_induction findChild lv k cs <;> simp_all

theorem instB_sound (S : Schema) (vn : VId → Validator) :
    ∀ (fuel : Nat) (m : String) (inv : Inv) (kids : Kids), instB S vn fuel m inv kids = true → Inst S vn m inv kids := by
  intro fuel m inv kids h
  fun_induction instB S vn fuel m inv kids with
  | case1 | case2 => cases h
  | case3 fuel m inv kids edges hm ih =>
    simp only [List.all_eq_true] at h
    refine Inst.static hm ?_ ?_ ?_
    · intro k vs hl
      have hh := h _ (lookupE_mem hl)
      rcases hk : lookup k kids with _ | ⟨v, hid | ks⟩ <;> simp [hk] at hh
      exact ⟨v, hid, rfl, hh⟩
    · intro k vs m' hl
      have hh := h _ (lookupE_mem hl)
      rcases hk : lookup k kids with _ | ⟨v, hid | ks⟩ <;> simp [hk] at hh
      exact ⟨v, ks, rfl, hh.1⟩
    · intro k vs m' v kids' hl hk
      have hh := h _ (lookupE_mem hl)
      simp [hk] at hh
      exact ih m' kids' hh.2
  | case4 fuel m inv kids lv ty vs hm ih =>
    simp only [List.all_eq_true] at h
    refine Inst.dynamic hm ?_ ?_
    · intro k c inv' hf
      have hh := h _ (findChild_mem hf)
      rcases hk : lookup k kids with _ | ⟨v, hid | ks⟩ <;> simp [hk] at hh
      exact ⟨v, ks, rfl, hh.1⟩
    · intro k c inv' v kids' hf hk
      have hh := h _ (findChild_mem hf)
      simp [hk] at hh
      exact ih (lv, k, c, inv') kids' hh.2

/-- On every live tree that is an instance of the schema for an inventory, a template that resolves (for node class
`c`), instantiated with parameters naming components present in the inventory, is a path of the live tree that names
existing components down to a handler. -/
theorem C05_schema_route_exists (S : Schema) (vn : VId → Validator) (c : String) (t : Template) (inv : Inv)
    (kids : Kids) (ρ : String → Key)
    (hinst : Inst S vn rootMgr inv kids) (hres : resolves S c t = true)
    (hpres : present S (pickNode S c) rootMgr inv t.segs ρ = true) :
    pathExistsK kids (instantiate ρ t.segs) = true :=
  (walk_sound S vn (pickNode S c) ρ t.segs rootMgr inv kids hinst hres hpres).1

/-- `action_never_unreachable` (DESIGN §5/C05): ... hence dispatch of that request is never `unreachable`, whatever the
validators say and at whatever depth it starts. -/
theorem C05_action_never_unreachable (S : Schema) (vn : VId → Validator) (c : String) (t : Template) (inv : Inv)
    (kids : Kids) (ρ : String → Key)
    (hinst : Inst S vn rootMgr inv kids) (hres : resolves S c t = true)
    (hpres : present S (pickNode S c) rootMgr inv t.segs ρ = true) (env : Env) (d d' : Nat) :
    dispatchK env kids (instantiate ρ t.segs) d ≠ .unreachable d' :=
  C05_existing_target_never_unreachable env kids _ d
    (C05_schema_route_exists S vn c t inv kids ρ hinst hres hpres) d'

/-- ... the validators met along it are, by name and in order, exactly the ones the schema attaches to the edges of
the concrete route. -/
theorem C05_route_validators_in_schema (S : Schema) (vn : VId → Validator) (c : String) (t : Template) (inv : Inv)
    (kids : Kids) (ρ : String → Key)
    (hinst : Inst S vn rootMgr inv kids) (hres : resolves S c t = true)
    (hpres : present S (pickNode S c) rootMgr inv t.segs ρ = true) :
    (validatorsOnK kids (instantiate ρ t.segs)).map (fun va => vn va.1) = routeVals S rootMgr inv t.segs ρ :=
  (walk_sound S vn (pickNode S c) ρ t.segs rootMgr inv kids hinst hres hpres).2

/-- ... and if the request is refused (`failure`), the refusing rule is the schema's validator of the route edge at
the reported depth — no rule off the route can refuse it. -/
theorem C05_action_refused_only_by_route_rule (S : Schema) (vn : VId → Validator) (c : String) (t : Template)
    (inv : Inv) (kids : Kids) (ρ : String → Key)
    (hinst : Inst S vn rootMgr inv kids) (hres : resolves S c t = true)
    (hpres : present S (pickNode S c) rootMgr inv t.segs ρ = true) (env : Env) (d d' : Nat) (v : VId)
    (h : dispatchK env kids (instantiate ρ t.segs) d = .failure d' v) :
    d ≤ d' ∧ (routeVals S rootMgr inv t.segs ρ)[d' - d]? = some (vn v) := by
  obtain ⟨hle, args, hget, _, _⟩ := C05_failure_is_own_rule env kids _ d d' v h
  refine ⟨hle, ?_⟩
  rw [← C05_route_validators_in_schema S vn c t inv kids ρ hinst hres hpres]
  simp [List.getElem?_map, hget]

/-- `C05_action_templates_resolve` and `C05_route_guards` are read off the same walks, so they are evaluated together, with every
class admitted at every slot (`walk_of_subset`, `walkVals_subset` bring the node class back in). -/
theorem templates_walk_with_expected_guards :
    ∀ t ∈ templates, (addressable schema t) ≠ [] ∧ slotsFit schema t.segs = true ∧
      walk schema schema.slotClasses rootMgr t.segs = true ∧
      ∀ g ∈ (walkVals schema schema.slotClasses rootMgr t.segs).map List.flatten,
        g = (if t.fallback then [] else expectedGuards t.action) := by
  decide +kernel

/-- EVERY regenerated template resolves through the regenerated schema for EVERY node class it can address
(node_name-like fields: every registered Node subclass; target_router: Router and its subclasses; target_firewall_nodename:
Firewall), for every Service / Application class a service_name / application_name can denote, for the class that
registers under a literal software name ("nmap", "terminal", ...), and for every firewall port x direction. -/
theorem C05_action_templates_resolve :
    ∀ t ∈ templates, (addressable schema t) ≠ [] ∧ ∀ c ∈ addressable schema t, resolves schema c t = true :=
  fun t ht =>
    have ⟨h1, hfit, hw, _⟩ := templates_walk_with_expected_guards t ht
    ⟨h1, fun c hc => walk_of_subset (pickNode_subset schema c) t.segs rootMgr
      (fun _ _ _ hs => pickNode_ne_nil hfit hc hs) hw⟩

/-- (table) For every regenerated template, every addressable node class and EVERY combination of software classes /
firewall ports the walk admits, the non-trivial validators on the route are exactly `expectedGuards` (so they do not
depend on which subclass is addressed); the do-nothing fall-backs meet none. -/
theorem C05_route_guards :
    ∀ t ∈ templates, ∀ c ∈ addressable schema t, ∀ g ∈ guardsOf schema c t,
      g = (if t.fallback then [] else expectedGuards t.action) :=
  fun t ht c _ g hg =>
    (templates_walk_with_expected_guards t ht).2.2.2 g
      (List.map_subset _ (walkVals_subset (pickNode_subset schema c) t.segs rootMgr) hg)

/-- `only_own_validators` (DESIGN §5/C05): on every live tree that is an instance of the REGENERATED schema, for every regenerated
template, every addressable node class and every parameter assignment naming present components, the permission rules
met on the request's way are exactly the expected guards of that action — e.g. `node-service-stop` is guarded by
node-is-on and service-is-RUNNING and by nothing else. -/
theorem C05_only_own_validators (vn : VId → Validator) (inv : Inv) (kids : Kids)
    (hinst : Inst schema vn rootMgr inv kids) (t : Template) (ht : t ∈ templates) (c : String)
    (hc : c ∈ addressable schema t) (ρ : String → Key)
    (hpres : present schema (pickNode schema c) rootMgr inv t.segs ρ = true) :
    ((validatorsOnK kids (instantiate ρ t.segs)).map (fun va => vn va.1)).flatten =
      (if t.fallback then [] else expectedGuards t.action) := by
  have hres := (C05_action_templates_resolve t ht).2 c hc
  rw [C05_route_validators_in_schema schema vn c t inv kids ρ hinst hres hpres]
  apply C05_route_guards t ht c hc
  simp only [guardsOf, List.mem_map]
  exact ⟨_, routeVals_mem_walkVals schema (pickNode schema c) ρ t.segs rootMgr inv hres hpres, rfl⟩

/-- ... and a refusal (`failure`) of such a request names a rule all of whose atoms are among the action's expected
guards. -/
theorem C05_refusal_is_expected_guard (vn : VId → Validator) (inv : Inv) (kids : Kids)
    (hinst : Inst schema vn rootMgr inv kids) (t : Template) (ht : t ∈ templates) (c : String)
    (hc : c ∈ addressable schema t) (ρ : String → Key)
    (hpres : present schema (pickNode schema c) rootMgr inv t.segs ρ = true) (env : Env) (d d' : Nat) (v : VId)
    (h : dispatchK env kids (instantiate ρ t.segs) d = .failure d' v) :
    ∀ a ∈ vn v, a ∈ (if t.fallback then [] else expectedGuards t.action) := by
  intro a ha
  have hres := (C05_action_templates_resolve t ht).2 c hc
  obtain ⟨_, hget⟩ := C05_action_refused_only_by_route_rule schema vn c t inv kids ρ hinst hres hpres env d d' v h
  rw [← C05_only_own_validators vn inv kids hinst t ht c hc ρ hpres,
      C05_route_validators_in_schema schema vn c t inv kids ρ hinst hres hpres]
  exact List.mem_flatten.mpr ⟨vn v, List.mem_of_getElem? hget, ha⟩

/-- The whole of `action_never_unreachable` for the regenerated tables in one statement. -/
theorem C05_regenerated_action_never_unreachable (vn : VId → Validator) (inv : Inv) (kids : Kids)
    (hinst : Inst schema vn rootMgr inv kids) (t : Template) (ht : t ∈ templates) (c : String)
    (hc : c ∈ addressable schema t) (ρ : String → Key)
    (hpres : present schema (pickNode schema c) rootMgr inv t.segs ρ = true) (env : Env) (d d' : Nat) :
    dispatchK env kids (instantiate ρ t.segs) d ≠ .unreachable d' :=
  C05_action_never_unreachable schema vn c t inv kids ρ hinst ((C05_action_templates_resolve t ht).2 c hc) hpres env d d'

/-- level ↦ the component kind whose gates the classes of that level must carry (files carry none of their own: the
folder's `file` edge guards them) -/
def Level.root : Level → Option Root
  | .node => some .node | .nic => some .nic | .service => some .service | .application => some .application
  | .folder => some .folder | .file => none

def gatesHold (S : Schema) (c : String) (r : Root) : Bool :=
  match S.mgr c with
  | some (.static es) => es.all (fun e => (gate r e.1).all (fun a => e.2.1.contains a))
  | _ => false

def gatesExact (S : Schema) (c : String) (r : Root) : Bool :=
  match S.mgr c with
  | some (.static es) => es.all (fun e => decide (e.2.1 = gate r e.1))
  | _ => false

def noRules : Mgr → Bool
  | .static es => es.all (fun e => e.2.1.isEmpty)
  | .dynamic _ _ v => v.isEmpty

open Primaite.Gen.RequestSchema (rootOf) in
/-- (table) THE CONTRACT IS EXACT AND COMPLETE over the regenerated schema: every class / auxiliary manager of `rootOf` carries
on every edge exactly `gate kind key` — so the type-specific verbs, `compromise`, `disable`, `create`, `restore`, `access`
carry exactly NO rule — and every other manager of the schema (the dynamic levels, the firewall's port / direction managers,
`software_manager`, `AccessControlList`, `Simulation`, `Network`, files, …) carries no rule at all. -/
theorem C05_contract_exact :
    (∀ cr ∈ rootOf, gatesExact schema cr.1 cr.2 = true) ∧
    (∀ nm ∈ schema.mgrs, (rootOf.map (·.1)).contains nm.1 = false → noRules nm.2 = true) := by
  decide +kernel

theorem gatesHold_of_gatesExact {S : Schema} {c : String} {r : Root} (h : gatesExact S c r = true) :
    gatesHold S c r = true := by
  unfold gatesExact at h
  unfold gatesHold
  split at h
  · simp only [List.all_eq_true, decide_eq_true_eq, List.contains_iff_mem] at h ⊢
    intro e he a ha
    rw [h e he]
    exact ha
  · cases h

open Primaite.Gen.RequestSchema (rootOf) in
/-- (table) EVERY class the regenerated schema derives from Node / NetworkInterface / Service / Application / FileSystem /
Folder carries that kind's component gates on EVERY edge of its root manager — in particular every key a Node subclass adds
(router `acl`, firewall `internal` / `dmz` / `external`, …) is power-gated — and every class a dynamic level can lead to is
covered by the table. -/
theorem C05_component_gates :
    (∀ cr ∈ rootOf, gatesHold schema cr.1 cr.2 = true) ∧
    (∀ lv ∈ [Level.node, .nic, .service, .application, .folder], ∀ c ∈ schema.levelClasses lv,
        ∃ r, lv.root = some r ∧ (c, r) ∈ rootOf) ∧
    ("FileSystem", Root.fileSystem) ∈ rootOf :=
  ⟨fun cr h => gatesHold_of_gatesExact (C05_contract_exact.1 cr h), by decide +kernel, by decide +kernel⟩

theorem Inst.static_iff {S : Schema} {vn : VId → Validator} {m : String} {inv : Inv} {kids : Kids} {edges : List Edge}
    (hm : S.mgr m = some (.static edges)) :
    Inst S vn m inv kids ↔
      (∀ k vs, lookupE k edges = some (vs, .leaf) → ∃ v h, lookup k kids = some (v, .leaf h) ∧ vn v = vs) ∧
      (∀ k vs m', lookupE k edges = some (vs, .sub m') →
        ∃ v kids', lookup k kids = some (v, .node kids') ∧ vn v = vs ∧ Inst S vn m' inv kids') := by
  constructor
  · intro h
    cases h with
    | dynamic hm' _ _ => rw [hm] at hm'; cases hm'
    | static hm' hleaf hsub hrec =>
      rw [hm] at hm'
      cases hm'
      refine ⟨hleaf, fun k vs m' hk => ?_⟩
      obtain ⟨v, kids', hl, hv⟩ := hsub k vs m' hk
      exact ⟨v, kids', hl, hv, hrec k vs m' v kids' hk hl⟩
  · intro ⟨hleaf, hsub⟩
    refine Inst.static hm hleaf (fun k vs m' hk => ?_) (fun k vs m' v kids' hk hl => ?_)
    · obtain ⟨v, kids', hl, hv, _⟩ := hsub k vs m' hk
      exact ⟨v, kids', hl, hv⟩
    · obtain ⟨v2, kids2, hl2, _, hi⟩ := hsub k vs m' hk
      rw [hl] at hl2
      cases hl2
      exact hi

theorem Inst.dynamic_iff {S : Schema} {vn : VId → Validator} {m : String} {inv : Inv} {kids : Kids}
    {lv : Level} {ty : KeyTy} {vs : Validator} (hm : S.mgr m = some (.dynamic lv ty vs)) :
    Inst S vn m inv kids ↔ ∀ k c inv', findChild lv k inv.children = some (c, inv') →
      ∃ v kids', lookup k kids = some (v, .node kids') ∧ vn v = vs ∧ Inst S vn c inv' kids' := by
  constructor
  · intro h k c inv' hf
    cases h with
    | static hm' _ _ _ => rw [hm] at hm'; cases hm'
    | dynamic hm' hkey hrec =>
      rw [hm] at hm'
      cases hm'
      obtain ⟨v, kids', hl, hv⟩ := hkey k c inv' hf
      exact ⟨v, kids', hl, hv, hrec k c inv' v kids' hf hl⟩
  · intro h
    refine Inst.dynamic hm (fun k c inv' hf => ?_) (fun k c inv' v kids' hf hl => ?_)
    · obtain ⟨v, kids', hl, hv, _⟩ := h k c inv' hf
      exact ⟨v, kids', hl, hv⟩
    · obtain ⟨v2, kids2, hl2, _, hi⟩ := h k c inv' hf
      rw [hl] at hl2
      cases hl2
      exact hi

theorem Inst.lookup_of_edge {S : Schema} {vn : VId → Validator} {c : String} {inv : Inv} {kids : Kids}
    (hinst : Inst S vn c inv kids) {edges : List Edge} (hm : S.mgr c = some (.static edges))
    {k : Key} {vs : Validator} {tgt : Target} (hk : lookupE k edges = some (vs, tgt)) :
    ∃ v t, lookup k kids = some (v, t) ∧ vn v = vs := by
  obtain ⟨hleaf, hsub⟩ := (Inst.static_iff hm).mp hinst
  cases tgt with
  | leaf => obtain ⟨v, h, hl, hv⟩ := hleaf k vs hk; exact ⟨v, _, hl, hv⟩
  | sub m' => obtain ⟨v, kids', hl, hv, _⟩ := hsub k vs m' hk; exact ⟨v, _, hl, hv⟩

/-- (general) the other direction of `C05_gate_refuses`: on an instance of a schema whose class `c` carries EXACTLY the
gates, a request entering that class's root manager through `k` is NOT refused there when the rules `gate r k` hold — i.e.
when every validator named `gate r k` answers true for these options: no rule outside the contract can refuse it at this
edge (for a verb the table maps to `[]`: nothing can). -/
theorem C05_gate_exact_admits (S : Schema) (vn : VId → Validator) (c : String) (r : Root) (inv : Inv) (kids : Kids)
    (hinst : Inst S vn c inv kids) (hg : gatesExact S c r = true)
    (k : Key) (rest : List Key) (vs : Validator) (tgt : Target) (edges : List Edge)
    (hm : S.mgr c = some (.static edges)) (hk : lookupE k edges = some (vs, tgt)) (env : Env)
    (htrue : ∀ v, vn v = gate r k → env v rest = true) (d : Nat) :
    ∀ v, dispatchK env kids (k :: rest) d ≠ .failure d v := by
  have hvs : vs = gate r k := by
    simp only [gatesExact, hm, List.all_eq_true] at hg
    simpa using hg _ (lookupE_mem hk)
  obtain ⟨v, t, hlk, hvn⟩ := hinst.lookup_of_edge hm hk
  have hv := htrue v (hvn.trans hvs)
  intro v0
  cases t with
  | leaf h => simp [dispatchK, hlk, hv]
  | node kids' =>
    simp only [dispatchK, hlk, hv, if_true]
    intro hf
    have := (C05_depth_bounded env kids' rest (d + 1)).2 d v0 hf
    omega

/-- (general) On every live tree that is an instance of a schema whose class `c` carries the gates of kind `r`: a request
that enters the root manager of a component of class `c` through key `k` while one of the gate rules of `(r, k)` is false —
i.e. every live validator that contains that rule answers false for these options — is refused right there: `failure` at
this depth, by the validator of that very edge; the handler is not reached. -/
theorem C05_gate_refuses (S : Schema) (vn : VId → Validator) (c : String) (r : Root) (inv : Inv) (kids : Kids)
    (hinst : Inst S vn c inv kids) (hg : gatesHold S c r = true)
    (k : Key) (rest : List Key) (vs : Validator) (tgt : Target) (edges : List Edge)
    (hm : S.mgr c = some (.static edges)) (hk : lookupE k edges = some (vs, tgt))
    (a : VAtom) (ha : a ∈ gate r k) (env : Env)
    (hfalse : ∀ v, a ∈ vn v → env v rest = false) (d : Nat) :
    ∃ v, dispatchK env kids (k :: rest) d = .failure d v ∧ a ∈ vn v := by
  have hcontains : a ∈ vs := by
    simp only [gatesHold, hm, List.all_eq_true] at hg
    simpa using hg _ (lookupE_mem hk) a ha
  obtain ⟨v, t, hlk, hvn⟩ := hinst.lookup_of_edge hm hk
  have hav : a ∈ vn v := hvn ▸ hcontains
  exact ⟨v, by simp [dispatchK, hlk, hfalse v hav], hav⟩

open Primaite.Gen.RequestSchema (validatorBodies softwareNames softwareDiscriminators) in
/-- E6 (text of `__call__`): the state-free validators are the predicates their names say, and the two state validators
compare the component's operating state with the state they were constructed with. -/
theorem C05_gen_validator_predicates :
    validatorBodies.lookup "nodeIsOn" = some "return self.node.operating_state == NodeOperatingState.ON" ∧
    validatorBodies.lookup "nodeIsOff" = some "return self.node.operating_state == NodeOperatingState.OFF" ∧
    validatorBodies.lookup "nicEnabled" = some "return self.network_interface.enabled" ∧
    validatorBodies.lookup "nicDisabled" = some "return not self.network_interface.enabled" ∧
    validatorBodies.lookup "serviceState" = some "return self.service.operating_state == self.state" ∧
    validatorBodies.lookup "appState" = some "return self.application.operating_state == self.state" := by
  decide +kernel

open Primaite.Gen.RequestSchema (softwareNames softwareDiscriminators) in
/-- Every Service / Application class that declares a discriminator (what scenario files and `install` use) registers
its request key under exactly that name — so software installed by type `X` is addressed by the key `X`. -/
theorem C05_gen_names_are_discriminators : ∀ cd ∈ softwareDiscriminators, cd ∈ softwareNames := by
  decide +kernel

/-- The regenerated schema is closed: every sub-manager an edge points to is a manager of the table, every class a
dynamic level or a slot can denote has a root manager, manager names are unique, and every choice field has keys. -/
theorem C05_gen_schema_closed :
    (schema.mgrs.all (fun nm => match nm.2 with
      | .static es => es.all (fun e => match e.2.2 with | .leaf => true | .sub m => (schema.mgr m).isSome)
      | .dynamic _ _ _ => true)) = true ∧
    ([Level.node, .service, .application, .nic, .folder, .file].all
      (fun lv => !(schema.levelClasses lv).isEmpty && (schema.levelClasses lv).all (fun c => (schema.mgr c).isSome))) = true ∧
    ([SlotKind.node, .router, .firewall, .service, .application, .nic, .folder, .file].all
      (fun sk => (schema.slotClasses sk).all (fun c => (schema.levelClasses sk.level).contains c))) = true ∧
    (schema.mgrs.map (·.1)).Nodup ∧
    (schema.choices.all (fun fk => !fk.2.isEmpty)) = true := by
  decide +kernel

open Primaite.Gen.ActionTemplates (actions defaultedVerbs) in
/-- Every registered action has exactly one unconditional template, and every template belongs to a registered action. -/
theorem C05_gen_one_template_per_action :
    (∀ a ∈ actions, (templates.filter (fun t => t.action == a && !t.fallback)).length = 1) ∧
    (∀ t ∈ templates, t.action ∈ actions) := by
  decide +kernel

open Primaite.Gen.ActionTemplates (defaultedVerbs) in
/-- The only template literals that are a FIELD default (overridable through the action's options) rather than a
constant are the verbs of these actions; for them the theorems speak about the default verb. -/
theorem C05_gen_overridable_verbs :
    ∀ av ∈ defaultedVerbs, av.1 ∈ ["node-application-close", "node-application-execute", "node-application-fix",
      "node-application-install", "node-application-remove", "node-application-scan", "node-session-remote-logoff"] := by
  decide +kernel

/-! ### non-vacuity: the hypotheses are satisfiable for the REGENERATED schema with a non-trivial inventory -/

def exVid (v : Validator) : VId := schema.validatorTable.idxOf v
def exVn (i : VId) : Validator := (schema.validatorTable[i]?).getD []

def exInv : Inv := .mk [
  (.node, "pc", "Computer", .mk [
    (.service, "dns-client", "DNSClient", .mk []), (.application, "nmap", "NMAP", .mk []),
    (.nic, "i:1", "NIC", .mk []), (.folder, "root", "Folder", .mk [(.file, "a.txt", "File", .mk [])])]),
  (.node, "fw", "Firewall", .mk [(.nic, "i:1", "RouterInterface", .mk [])]),
  (.node, "r1", "Router", .mk [])]

def exKids : Kids := buildK schema exVid 12 rootMgr exInv

theorem exKids_inst : Inst schema exVn rootMgr exInv exKids :=
  instB_sound schema exVn 12 rootMgr exInv exKids (by decide +kernel)

def tmpl (action : String) : Template :=
  (templates.find? (fun t => t.action == action && !t.fallback)).getD ⟨"", false, [], []⟩

def exRho : String → Key := fun f =>
  if f = "node_name" then "pc" else if f = "service_name" then "dns-client" else if f = "application_name" then "nmap"
  else if f = "nic_num" then "i:1" else if f = "folder_name" then "root" else if f = "file_name" then "a.txt"
  else if f = "target_firewall_nodename" then "fw" else if f = "firewall_port_name" then "dmz"
  else if f = "firewall_port_direction" then "inbound" else if f = "target_router" then "r1" else "x"

def envAll : Env := fun _ _ => true
def envNodeOff : Env := fun v _ => !(exVn v).contains .nodeIsOn

example : present schema (pickNode schema "Computer") rootMgr exInv (tmpl "node-service-stop").segs exRho = true := by
  decide +kernel
theorem exStop_request :
    instantiate exRho (tmpl "node-service-stop").segs = ["network", "node", "pc", "service", "dns-client", "stop"] := by
  decide +kernel
example : instantiate exRho (tmpl "node-service-stop").segs = ["network", "node", "pc", "service", "dns-client", "stop"] :=
  exStop_request
example : dispatchK envAll exKids (instantiate exRho (tmpl "node-service-stop").segs) 0 = .reached 0 [] := by
  rw [exStop_request]; decide +kernel
/-- refused by the node-is-on rule on the `service` edge (depth 3) — a rule of the route -/
example : ∃ v, dispatchK envNodeOff exKids (instantiate exRho (tmpl "node-service-stop").segs) 0 = .failure 3 v ∧
    exVn v = [.nodeIsOn] := ⟨exVid [.nodeIsOn], by rw [exStop_request]; decide +kernel⟩
example : present schema (pickNode schema "Firewall") rootMgr exInv (tmpl "firewall-acl-add-rule").segs exRho = true := by
  decide +kernel
example : (dispatchK envAll exKids (instantiate exRho (tmpl "firewall-acl-add-rule").segs) 0).isReached = true := by
  decide +kernel
/-- ACL edits on a powered-off firewall / router are refused by node-is-on on the port / `acl` edge (depth 3) -/
example : ∃ v, dispatchK envNodeOff exKids (instantiate exRho (tmpl "firewall-acl-add-rule").segs) 0 = .failure 3 v ∧
    exVn v = [.nodeIsOn] := ⟨exVid [.nodeIsOn], by decide +kernel⟩
example : ∃ v, dispatchK envNodeOff exKids (instantiate exRho (tmpl "router-acl-remove-rule").segs) 0 = .failure 3 v ∧
    exVn v = [.nodeIsOn] := ⟨exVid [.nodeIsOn], by decide +kernel⟩
example : (dispatchK envAll exKids (instantiate exRho (tmpl "node-file-scan").segs) 0).isReached = true := by
  decide +kernel
example : (dispatchK envAll exKids (instantiate exRho (tmpl "node-application-execute").segs) 0).isReached = true := by
  decide +kernel
/-- `present` is needed: naming a service that is not installed is answered `unreachable` (at the service level) -/
example : present schema (pickNode schema "Computer") rootMgr exInv (tmpl "node-service-stop").segs
      (fun f => if f = "service_name" then "ftp-server" else exRho f) = false ∧
    dispatchK envAll exKids (instantiate (fun f => if f = "service_name" then "ftp-server" else exRho f)
      (tmpl "node-service-stop").segs) 0 = .unreachable 4 := by
  decide +kernel
/-- the node class matters: a router action aimed at a computer is not `present` (and is `unreachable`) -/
example : present schema (pickNode schema "Router") rootMgr exInv (tmpl "router-acl-remove-rule").segs
      (fun f => if f = "target_router" then "pc" else exRho f) = false ∧
    dispatchK envAll exKids (instantiate (fun f => if f = "target_router" then "pc" else exRho f)
      (tmpl "router-acl-remove-rule").segs) 0 = .unreachable 3 := by
  decide +kernel

/-! non-vacuity of `C05_gate_refuses`: the firewall's `internal` port route on a firewall that is not ON -/
def exFwInv : Inv := .mk [(.nic, "i:1", "RouterInterface", .mk [])]
def exFwKids : Kids := buildK schema exVid 10 "Firewall" exFwInv
def exFwEdges : List Edge := match schema.mgr "Firewall" with | some (.static es) => es | _ => []

theorem exFwKids_inst : Inst schema exVn "Firewall" exFwInv exFwKids :=
  instB_sound schema exVn 10 "Firewall" exFwInv exFwKids (by decide +kernel)

example : ∃ v, dispatchK envNodeOff exFwKids ("internal" :: ["inbound", "acl", "add_rule"]) 3 = .failure 3 v ∧
    VAtom.nodeIsOn ∈ exVn v :=
  C05_gate_refuses schema exVn "Firewall" .node exFwInv exFwKids exFwKids_inst
    (C05_component_gates.1 ("Firewall", .node) (by decide +kernel)) "internal" _ [.nodeIsOn]
    (.sub "Firewall._internal_acl_request_manager") exFwEdges (by decide +kernel) (by decide +kernel)
    .nodeIsOn (by decide) envNodeOff (by intro v hv; simp [envNodeOff, hv]) 3

/-! non-vacuity of `C05_gate_exact_admits`: `execute` of an application carries no rule — it is not refused at the
application's manager even when every application-state rule is false (the application is CLOSED) -/
def exNmapKids : Kids := buildK schema exVid 6 "NMAP" (.mk [])
def exNmapEdges : List Edge := match schema.mgr "NMAP" with | some (.static es) => es | _ => []
theorem exNmapKids_inst : Inst schema exVn "NMAP" (.mk []) exNmapKids :=
  instB_sound schema exVn 6 "NMAP" (.mk []) exNmapKids (by decide +kernel)
def envAppClosed : Env := fun v _ => !(exVn v).any (fun a => match a with | .appState _ => true | _ => false)

example : ∀ v, dispatchK envAppClosed exNmapKids ["execute"] 5 ≠ .failure 5 v :=
  C05_gate_exact_admits schema exVn "NMAP" .application (.mk []) exNmapKids exNmapKids_inst
    (C05_contract_exact.1 ("NMAP", .application) (by decide +kernel)) "execute" [] [] .leaf exNmapEdges
    (by decide +kernel) (by decide +kernel) envAppClosed (by intro v hv; simp [envAppClosed, hv, gate]) 5
/-- while `scan` IS refused there (its gate is application-is-RUNNING) -/
example : ∃ v, dispatchK envAppClosed exNmapKids ["scan"] 5 = .failure 5 v := ⟨exVid [.appState "RUNNING"], by decide +kernel⟩

end Primaite.Schema

