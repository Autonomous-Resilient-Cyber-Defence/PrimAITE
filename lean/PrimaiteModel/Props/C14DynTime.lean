/-
C14: the timing theorems over the DYNAMIC operations of `Model/HealthDyn.lean` — application install / uninstall requests,
`SoftwareManager.install / uninstall`, folder / file creation, `copy_file`, the database restore, and the timestep `tickDb` in which a
completing database fix restores its backup.

Software is followed BY NAME (`software_manager.software.get(name)`), because an uninstall of an earlier item shifts the positions of
the later ones: one dynamic step takes the item called `name` to `swEff` of itself or leaves it alone (`C14_dyn_step_named`), and
every one-step fact about `swEff` lifts to dynamic traces (`dyn_named_not_early`: fix and installation timing).
The node-scan countdown is a field of the node (`C14_dyn_step_scanCd`). Folders are followed BY POSITION: they are never removed and
new ones are appended (`C14_dyn_struct_pos`), and one dynamic step moves a running folder countdown like the base step
(`dyn_folder_cd_step`).
-/
import PrimaiteModel.Props.C14Dyn
import PrimaiteModel.Props.C14Life
namespace Primaite.Health

/-- `software_manager.software.get(name)`: the installed item of that name -/
def Node.swNamed (n : Node) (name : String) : Option Sw := n.sws.find? (fun x => x.name = name)

/-- does this operation contain a timestep that reaches the node's items? -/
def dEffTick (d : DNode) (op : DOp) : Bool :=
  match op.swBase with
  | some b => effTick d.n b
  | none => false

/-- number of timesteps of a dynamic trace that reach the node's items -/
def dEffTicks (d : DNode) : List DOp → Nat
  | [] => 0
  | op :: ops => (if dEffTick d op then 1 else 0) + dEffTicks (d.apply op) ops

/-- operations that write the health of the item called `name` from outside, re-install it — or UNINSTALL it -/
def dTouchesSw (name : String) : DOp → Bool
  | .base b => touchesSw name b
  | .appUninstallReq nm | .swUninstallApi nm => nm = name
  | _ => false

/-- operations that UNINSTALL the item called `name` -/
def dUninstalls (name : String) : DOp → Bool
  | .appUninstallReq nm | .swUninstallApi nm => nm = name
  | _ => false

theorem uninstalls_of_touches (name : String) (op : DOp) (h : dTouchesSw name op = false) : dUninstalls name op = false := by
  cases op <;> first | rfl | exact h

theorem find_eraseP_ne (l : List Sw) (name nm : String) (hne : nm ≠ name) :
    (l.eraseP (fun x => x.name = nm)).find? (fun x => x.name = name) = l.find? (fun x => x.name = name) := by
  induction l with
  | nil => rfl
  | cons a l ih =>
    by_cases ha : a.name = nm
    · simp [ha, hne]
    · simp [List.find?_cons, ha, ih]

theorem swNamed_name {n : Node} {name : String} {x : Sw} (h : n.swNamed name = some x) : x.name = name := by
  have := List.find?_some h
  simpa using this

theorem touches_of_swBase (name : String) (op : DOp) (b : Op) (hb : op.swBase = some b) (hq : dTouchesSw name op = false) :
    touchesSw name b = false := by
  cases op <;> simp only [DOp.swBase, reduceCtorEq, Option.some.injEq] at hb
  case base b' => subst hb; exact hq
  case tickDb pre dl => subst hb; rfl

/-- **C14 dyn (one step, by name).** What the item called `name` is after ANY dynamic operation that does not uninstall it: the
base effect `swEff` of itself for operations that act on software (base operations; `tickDb` = a timestep), itself for the
structural ones (an install appends, an uninstall of ANOTHER name shifts it, file-system operations do not reach software). -/
theorem C14_dyn_step_named (d : DNode) (op : DOp) (name : String) (x : Sw) (hx : d.n.swNamed name = some x)
    (hq : dUninstalls name op = false) :
    (d.apply op).n.swNamed name = some (match op.swBase with | some b => swEff d.n b x | none => x) := by
  cases hb : op.swBase with
  | some b =>
    simp only []
    unfold Node.swNamed at hx ⊢
    rw [dapply_swBase_sws d op b hb, apply_sws, find?_map_pres _ (swEff d.n b) _ (fun y => by rw [(swEff_id d.n b y).1]), hx]
    rfl
  | none =>
    simp only []
    unfold Node.swNamed at hx ⊢
    cases hfs : op.isFs
    · refine dapply_sw_cases (motive := fun m => m.sws.find? (fun x => x.name = name) = some x) d op hb hfs hx
        (fun _ _ => by rw [List.find?_append, hx]; rfl) (fun nm hop => ?_)
      have hne : nm ≠ name := by rcases hop with rfl | rfl <;> simpa [dUninstalls] using hq
      exact (find_eraseP_ne _ _ _ hne).trans hx
    · rw [dapply_fs_sws d op hfs]; exact hx

theorem dEffTick_of_swBase (d : DNode) (op : DOp) (b : Op) (hb : op.swBase = some b) : dEffTick d op = effTick d.n b := by
  unfold dEffTick; rw [hb]

theorem dEffTick_of_none (d : DNode) (op : DOp) (hb : op.swBase = none) : dEffTick d op = false := by
  unfold dEffTick; rw [hb]

theorem dCounted : Counted DNode.apply dEffTick DNode.run dEffTicks :=
  ⟨fun _ => rfl, fun _ _ _ => rfl, fun _ => rfl, fun _ _ _ => rfl⟩

/-- A one-step fact about `swEff` on a counting state `Q x c` of one software item, lifted to every dynamic trace BY NAME: the trace
must not uninstall the item (`ok` implies that), and what it must not do to it as a base operation (`okb`) follows from `ok`. -/
theorem dyn_named_not_early (Q : Sw → Int → Prop) (okb : String → Op → Prop) (ok : String → DOp → Prop)
    (hun : ∀ name op, ok name op → dUninstalls name op = false)
    (hokb : ∀ name op b, op.swBase = some b → ok name op → okb name b)
    (hbase : ∀ n b x c, Q x c → okb x.name b →
      (effTick n b = true → 1 < c → Q (swEff n b x) (c - 1)) ∧ (effTick n b = false → Q (swEff n b x) c))
    (ops : List DOp) (d : DNode) (name : String) (x : Sw) (c : Int)
    (hx : d.n.swNamed name = some x) (hQ : Q x c) (hq : ∀ op ∈ ops, ok name op) (hk : (dEffTicks d ops : Int) < max 1 c) :
    ∃ x', (d.run ops).n.swNamed name = some x' ∧ Q x' (c - dEffTicks d ops) := by
  refine dCounted.not_early (fun d c => ∃ x', d.n.swNamed name = some x' ∧ Q x' c) (ok name) ?_ ops d c ⟨x, hx, hQ⟩ hq hk
  intro d op c ⟨x', h1, h2⟩ hq
  have hx1 := C14_dyn_step_named d op name x' h1 (hun name op hq)
  cases hb : op.swBase with
  | none =>
    rw [hb] at hx1
    rw [dEffTick_of_none d op hb]
    exact ⟨fun he => absurd he Bool.false_ne_true, fun _ => ⟨x', hx1, h2⟩⟩
  | some b =>
    rw [hb] at hx1
    rw [dEffTick_of_swBase d op b hb]
    have hs := hbase d.n b x' c h2 (by rw [swNamed_name h1]; exact hokb name op b hb hq)
    exact ⟨fun he hc => ⟨_, hx1, hs.1 he hc⟩, fun he => ⟨_, hx1, hs.2 he⟩⟩

/-- **C14 dyn fix timing, part 1 (not early), every dynamic trace, by name.** Let the item called `name` be FIXING with `c` left and
let the trace — base operations, installs, uninstalls of OTHER items, file-system creation and copies, database restores,
timesteps with a database restore inside — neither hit it from outside nor uninstall it. As long as fewer than `max(1,c)` timesteps
have reached the node's items, the item of that name is still FIXING and its countdown is `c` minus that number. -/
theorem C14_dyn_fix_not_early (ops : List DOp) : ∀ (d : DNode) (name : String) (x : Sw) (c : Int),
    d.n.swNamed name = some x → x.Fixing c → (∀ op ∈ ops, dTouchesSw name op = false) →
    (dEffTicks d ops : Int) < max 1 c →
    ∃ x', (d.run ops).n.swNamed name = some x' ∧ x'.Fixing (c - dEffTicks d ops) := by
  intro d name x c hx hf hq hk
  exact dyn_named_not_early Sw.Fixing (fun nm b => touchesSw nm b = false) (fun nm op => dTouchesSw nm op = false)
    uninstalls_of_touches touches_of_swBase
    (fun n b x c hf hq => ⟨fun he hc => ((swEff_fixing n b x c hf hq).1 he).2 hc, (swEff_fixing n b x c hf hq).2⟩)
    ops d name x c hx hf hq hk

/-- **C14 dyn fix timing, part 2 (on time).** … and the `max(1,c)`-th timestep that reaches the node's items — a plain one or one
in which a completing database fix restores its backup (`tk.swBase = some .tick`) — makes the item of that name GOOD. -/
theorem C14_dyn_fix_completes_on_time (ops : List DOp) (d : DNode) (name : String) (x : Sw) (c : Int)
    (hx : d.n.swNamed name = some x) (hf : x.Fixing c) (hq : ∀ op ∈ ops, dTouchesSw name op = false)
    (hk : (dEffTicks d ops : Int) + 1 = max 1 c) (tk : DOp) (htk : tk.swBase = some .tick)
    (ht : effTick (d.run ops).n .tick = true) :
    ∃ x', ((d.run ops).apply tk).n.swNamed name = some x' ∧ x'.actual = .good := by
  obtain ⟨x1, h1, h3⟩ := C14_dyn_fix_not_early ops d name x c hx hf hq (by omega)
  have hqt : dTouchesSw name tk = false := by
    cases tk <;> simp only [DOp.swBase, reduceCtorEq, Option.some.injEq] at htk
    case base b => subst htk; rfl
    case tickDb pre dl => rfl
  have h2 := C14_dyn_step_named (d.run ops) tk name x1 h1 (uninstalls_of_touches name tk hqt)
  rw [htk] at h2
  simp only [] at h2
  exact ⟨_, h2, ((swEff_fixing (d.run ops).n .tick x1 _ h3 rfl).1 ht).1 (by omega)⟩

/-- **C14 dyn fix timing (exact), by name.** After an accepted `fix` request on the item called `name` (RUNNING, GOOD or
COMPROMISED, node ON), for every dynamic continuation that neither hits nor uninstalls it: FIXING while fewer than
`max(1, fixing_duration)` timesteps have reached it, GOOD at the `max(1, fixing_duration)`-th. -/
theorem C14_dyn_fix_exact (d : DNode) (name : String) (x : Sw) (ops : List DOp) (tk : DOp)
    (hx : d.n.swNamed name = some x) (hon : d.n.power = .on) (hr : x.op = .running) (hc : x.canFix = true)
    (hq : ∀ op ∈ ops, dTouchesSw name op = false) (htk : tk.swBase = some .tick) :
    let d1 := d.apply (.base (.sw x.isApp name .fix))
    ((dEffTicks d1 ops : Int) < max 1 x.fixDur → ∃ x', (d1.run ops).n.swNamed name = some x' ∧ x'.actual = .fixing) ∧
    ((dEffTicks d1 ops : Int) + 1 = max 1 x.fixDur → effTick (d1.run ops).n .tick = true →
      ∃ x', ((d1.run ops).apply tk).n.swNamed name = some x' ∧ x'.actual = .good) := by
  intro d1
  obtain rfl := swNamed_name hx
  have h1 : d1.n.swNamed x.name = some (swEff d.n (.sw x.isApp x.name .fix) x) :=
    C14_dyn_step_named d (.base (.sw x.isApp x.name .fix)) x.name x hx rfl
  have hf := swEff_fix_accepted d.n x hon hr hc
  refine ⟨fun hlt => ?_, fun heq ht => ?_⟩
  · obtain ⟨x', g1, g3⟩ := C14_dyn_fix_not_early ops d1 _ _ x.fixDur h1 hf hq hlt
    exact ⟨x', g1, g3.1⟩
  · exact C14_dyn_fix_completes_on_time ops d1 _ _ x.fixDur h1 hf hq heq tk htk ht

/-- **C14 dyn install timing, part 1 (not early).** An application called `name` that is INSTALLING with `c` left stays so, with `c`
minus the number of timesteps that reached the node's items, as long as that number is below `max(1,c)` — for EVERY dynamic trace
that does not uninstall it (attacks, external writes, lifecycle requests, power loss, other installs and uninstalls, file-system
operations, database restores are all allowed). -/
theorem C14_dyn_install_not_early (ops : List DOp) : ∀ (d : DNode) (name : String) (x : Sw) (c : Int),
    d.n.swNamed name = some x → x.Installing c → (∀ op ∈ ops, dUninstalls name op = false) →
    (dEffTicks d ops : Int) < max 1 c →
    ∃ x', (d.run ops).n.swNamed name = some x' ∧ x'.Installing (c - dEffTicks d ops) := by
  intro d name x c hx hi hq hk
  exact dyn_named_not_early Sw.Installing (fun _ _ => True) (fun nm op => dUninstalls nm op = false)
    (fun _ _ h => h) (fun _ _ _ _ _ => trivial)
    (fun n b x c hi _ => ⟨fun he hc => ((swEff_installing n b x c hi).1 he).2 hc, (swEff_installing n b x c hi).2⟩)
    ops d name x c hx hi hq hk

/-- the install REQUEST for an application that is known and not yet installed, on a powered-on node, leaves an item of that name
that is INSTALLING with the configured `install_duration` on its countdown -/
theorem C14_dyn_install_request (d : DNode) (s : SwSpec) (hon : d.n.power = .on) (hnew : d.n.hasSw s.name = false) :
    ∃ x, (d.apply (.appInstallReq s true)).n.swNamed s.name = some x ∧ x.Installing s.auxDur := by
  refine ⟨{ s with isApp := true }.freshReq, ?_, ?_⟩
  · have hnone : d.n.sws.find? (fun x => x.name = s.name) = none := by
      rw [List.find?_eq_none]
      intro y hy
      unfold Node.hasSw at hnew
      rw [List.any_eq_false] at hnew
      exact hnew y hy
    simp only [DNode.apply, hon, hnew, and_self, if_true, Node.swNamed]
    rw [List.find?_append, hnone]
    simp [SwSpec.freshReq, SwSpec.freshApi, SwSpec.construct, Sw.install]
  · simp [Sw.Installing, SwSpec.freshReq, SwSpec.freshApi, SwSpec.construct, Sw.install]

/-- **C14 dyn install timing (exact), from the request on.** After an accepted application install request, for EVERY dynamic
continuation that does not uninstall the application: it is INSTALLING while fewer than `max(1, install_duration)` timesteps have
reached the node's items, and the `max(1, install_duration)`-th such timestep (plain, or with a database restore inside) makes it
RUNNING and GOOD. -/
theorem C14_dyn_install_exact (d : DNode) (s : SwSpec) (ops : List DOp) (tk : DOp) (hon : d.n.power = .on)
    (hnew : d.n.hasSw s.name = false) (hq : ∀ op ∈ ops, dUninstalls s.name op = false) (htk : tk.swBase = some .tick) :
    let d1 := d.apply (.appInstallReq s true)
    ((dEffTicks d1 ops : Int) < max 1 s.auxDur → ∃ x', (d1.run ops).n.swNamed s.name = some x' ∧ x'.op = .installing) ∧
    ((dEffTicks d1 ops : Int) + 1 = max 1 s.auxDur → effTick (d1.run ops).n .tick = true →
      ∃ x', ((d1.run ops).apply tk).n.swNamed s.name = some x' ∧ x'.op = .running ∧ x'.actual = .good) := by
  intro d1
  obtain ⟨x, hx, hi⟩ := C14_dyn_install_request d s hon hnew
  refine ⟨fun hlt => ?_, fun heq ht => ?_⟩
  · obtain ⟨x', g1, g3⟩ := C14_dyn_install_not_early ops d1 s.name x s.auxDur hx hi hq hlt
    exact ⟨x', g1, g3.2.1⟩
  · obtain ⟨x1, g1, g3⟩ := C14_dyn_install_not_early ops d1 s.name x s.auxDur hx hi hq (by omega)
    have hqt : dUninstalls s.name tk = false := by
      cases tk <;> simp only [DOp.swBase, reduceCtorEq, Option.some.injEq] at htk <;> rfl
    have h2 := C14_dyn_step_named (d1.run ops) tk s.name x1 g1 hqt
    rw [htk] at h2
    simp only [] at h2
    exact ⟨_, h2, ((swEff_installing (d1.run ops).n .tick x1 _ g3).1 ht).1 (by omega)⟩

/-! non-vacuity: the item being fixed is SECOND in the list; the first one is uninstalled meanwhile (positions shift), another is
installed, a folder is created; the fix (duration 2) is over at the second timestep -/
example :
    let a : Sw := { name := "a", isApp := false, op := .running, actual := .good, visible := .unused, fixDur := 1, fixCd := none,
                    auxDur := 0, auxCd := none }
    let b : Sw := { a with name := "b", actual := .compromised, fixDur := 2 }
    let d : DNode := { n := { power := .on, startDur := 0, startCd := 0, shutDur := 0, shutCd := 0, resetting := false, scanDur := 3,
                              scanCd := 0, sws := [a, b], folders := [] }, defScan := none, defRestore := none }
    let d1 := d.apply (.base (.sw false "b" .fix))
    let ops : List DOp := [.swUninstallApi "a", .base .tick, .fsCreateFolder "x",
                           .swInstallApi { name := "c", isApp := false, fixDur := 1, auxDur := 0, h0 := .good }]
    (dEffTicks d1 ops = 1) ∧ ((d1.run ops).n.swNamed "b").map (·.actual) = some .fixing ∧
      (((d1.run ops).apply (.tickDb false none)).n.swNamed "b").map (·.actual) = some .good := by decide +kernel

/-! non-vacuity (install): the request on a node with one other item; that item is uninstalled meanwhile; install_duration 2 -/
example :
    let a : Sw := { name := "a", isApp := false, op := .running, actual := .good, visible := .unused, fixDur := 1, fixCd := none,
                    auxDur := 0, auxCd := none }
    let d : DNode := { n := { power := .on, startDur := 0, startCd := 0, shutDur := 0, shutCd := 0, resetting := false, scanDur := 3,
                              scanCd := 0, sws := [a], folders := [] }, defScan := none, defRestore := none }
    let s : SwSpec := { name := "web-browser", isApp := true, fixDur := 2, auxDur := 2, h0 := .good }
    let d1 := d.apply (.appInstallReq s true)
    let ops : List DOp := [.swUninstallApi "a", .base .tick, .base (.swSet "web-browser" .compromised)]
    d.n.hasSw s.name = false ∧ dEffTicks d1 ops = 1 ∧ ((d1.run ops).n.swNamed "web-browser").map (·.op) = some .installing ∧
      (((d1.run ops).apply (.base .tick)).n.swNamed "web-browser").map (fun x => (x.op, x.actual)) = some (.running, .good) := by decide +kernel

theorem tickDb_scanCd (d : DNode) (pre : Bool) (dl : Option FsH) : (d.tickDb pre dl).n.scanCd = d.n.tick.scanCd := by
  simp only [DNode.tickDb, Node.tick]
  split
  · simp only [mapFolders_scanCd, Node.itemPhase, mapSws_scanCd]
    split
    · exact (sansFolders_scanCd (dbRestore_rest { d with n := d.n.powerPhase.scanPhase.redPhase.mapSws Sw.tick } pre dl) :)
    · rfl
  · rfl

/-- **C14 dyn (one step, node scan countdown).** Every dynamic operation moves `node_scan_countdown` like the base operation it
amounts to (`DOp.swBase`: itself for a base operation, `tick` for `tickDb`) — or not at all (every structural operation). -/
theorem C14_dyn_step_scanCd (d : DNode) (op : DOp) :
    (d.apply op).n.scanCd = match op.swBase with | some b => (d.n.apply b).scanCd | none => d.n.scanCd := by
  cases hb : op.swBase with
  | some b =>
    cases op <;> simp only [DOp.swBase, reduceCtorEq, Option.some.injEq] at hb
    case base b' => subst hb; rfl
    case tickDb pre dl => subst hb; exact tickDb_scanCd d pre dl
  | none =>
    cases hfs : op.isFs
    · exact dapply_sw_cases (motive := fun m => m.scanCd = d.n.scanCd) d op hb hfs rfl (fun _ _ => rfl) (fun _ _ => rfl)
    · exact sansFolders_scanCd (dapply_fs_rest d op hfs)

/-- a new `os scan` request (the only operation that reloads a running node-scan countdown) -/
def dIsOsScan : DOp → Bool
  | .base .osScan => true
  | _ => false

/-- **C14 dyn node scan timing, part 1 (not early), every dynamic trace.** With `c` on the node-scan countdown and no new
`os scan` request in the trace — installs, uninstalls, folder / file creation, copies, database restores, `tickDb` all allowed —
the countdown is `c` minus the number of timesteps (plain or `tickDb`) that reached the node's items, while that number is below
`c`. -/
theorem C14_dyn_node_scan_not_early (ops : List DOp) : ∀ (d : DNode) (c : Int),
    d.n.scanCd = c → (∀ op ∈ ops, dIsOsScan op = false) → (dEffTicks d ops : Int) < c →
    (d.run ops).n.scanCd = c - dEffTicks d ops := by
  intro d c hc hq hk
  have h0 := Int.natCast_nonneg (dEffTicks d ops)
  refine (dCounted.not_early (fun d c => 1 ≤ c ∧ d.n.scanCd = c) (fun op => dIsOsScan op = false) ?_ ops d c ⟨by omega, hc⟩ hq
    (by omega)).2
  intro d op c ⟨hc1, h⟩ hop
  have hstep := C14_dyn_step_scanCd d op
  cases hb : op.swBase with
  | none =>
    rw [hb] at hstep
    rw [dEffTick_of_none d op hb]
    exact ⟨fun he => absurd he Bool.false_ne_true, fun _ => ⟨hc1, hstep.trans h⟩⟩
  | some b =>
    rw [hb] at hstep
    have hbn : b ≠ .osScan := by
      intro e
      subst e
      cases op <;> simp only [DOp.swBase, reduceCtorEq, Option.some.injEq] at hb
      case base b' => subst hb; simp [dIsOsScan] at hop
    rw [dEffTick_of_swBase d op b hb]
    have hs := hstep.trans (apply_scanCd_running d.n b (by omega) hbn)
    exact ⟨fun he _ => ⟨by omega, by rw [hs, if_pos he, h]⟩, fun he => ⟨hc1, by rw [hs, he, h]; rfl⟩⟩

/-- **C14 dyn node scan timing, part 2 (on time).** … and at the next timestep that reaches the node's items (`tk`: a plain
timestep or a `tickDb`) the scan fans out: the countdown stands at 1, `Node.scanFires` holds on the state after the power phase, and
the timestep returns the countdown to 0. -/
theorem C14_dyn_node_scan_completes_on_time (ops : List DOp) (d : DNode) (c : Int) (hc : d.n.scanCd = c)
    (hq : ∀ op ∈ ops, dIsOsScan op = false) (hk : (dEffTicks d ops : Int) + 1 = c) (tk : DOp) (htk : tk.swBase = some .tick)
    (ht : effTick (d.run ops).n .tick = true) :
    (d.run ops).n.scanCd = 1 ∧ (d.run ops).n.powerPhase.scanFires = true ∧ ((d.run ops).apply tk).n.scanCd = 0 := by
  have h1 : (d.run ops).n.scanCd = 1 := by rw [C14_dyn_node_scan_not_early ops d c hc hq (by omega)]; omega
  have hb := node_scan_done (d.run ops).n h1 ht
  refine ⟨h1, hb.1, ?_⟩
  have hs := C14_dyn_step_scanCd (d.run ops) tk
  rw [htk] at hs
  exact hs.trans hb.2

/-- **C14 dyn node scan timing (exact).** After an accepted `os scan` request on a powered-on node, for EVERY dynamic continuation
without a new `os scan` request (installs, uninstalls, folder / file creation, copies, database restores, timesteps with a database
restore inside are all allowed): while fewer than `max(node_scan_duration, 1)` timesteps have reached the node's items the countdown
is `max(node_scan_duration, 1)` minus that number (no fan-out yet), and the `max(node_scan_duration, 1)`-th such timestep `tk` (plain
or `tickDb`) is the one in which the scan fans out (`Node.scanFires` after its power phase) and the countdown returns to 0. -/
theorem C14_dyn_node_scan_exact (d : DNode) (ops : List DOp) (tk : DOp) (hon : d.n.power = .on)
    (hq : ∀ op ∈ ops, dIsOsScan op = false) (htk : tk.swBase = some .tick) :
    let d1 := d.apply (.base .osScan)
    ((dEffTicks d1 ops : Int) < max d.n.scanDur 1 → (d1.run ops).n.scanCd = max d.n.scanDur 1 - dEffTicks d1 ops) ∧
    ((dEffTicks d1 ops : Int) + 1 = max d.n.scanDur 1 → effTick (d1.run ops).n .tick = true →
      (d1.run ops).n.powerPhase.scanFires = true ∧ ((d1.run ops).apply tk).n.scanCd = 0) := by
  intro d1
  have h : d1.n.scanCd = max d.n.scanDur 1 := C14_node_scan_request d.n hon
  refine ⟨fun hlt => C14_dyn_node_scan_not_early ops d1 _ h hq hlt, fun heq ht => ?_⟩
  have := C14_dyn_node_scan_completes_on_time ops d1 _ h hq heq tk htk ht
  exact ⟨this.2.1, this.2.2⟩

/-! non-vacuity (node scan): node_scan_duration 2; between the two timesteps an application is installed and a folder is created;
the second timestep is a `tickDb` -/
example :
    let a : Sw := { name := "a", isApp := false, op := .running, actual := .good, visible := .unused, fixDur := 1, fixCd := none,
                    auxDur := 0, auxCd := none }
    let d : DNode := { n := { power := .on, startDur := 0, startCd := 0, shutDur := 0, shutCd := 0, resetting := false, scanDur := 2,
                              scanCd := 0, sws := [a], folders := [] }, defScan := none, defRestore := none }
    let d1 := d.apply (.base .osScan)
    let ops : List DOp := [.base .tick, .appInstallReq { name := "c", isApp := true, fixDur := 1, auxDur := 1, h0 := .good } true,
                           .fsCreateFolder "x"]
    (∀ op ∈ ops, dIsOsScan op = false) ∧ dEffTicks d1 ops = 1 ∧ (d1.run ops).n.scanCd = 1 ∧
      (d1.run ops).n.powerPhase.scanFires = true ∧ ((d1.run ops).apply (.tickDb false none)).n.scanCd = 0 := by decide +kernel

/-! Folders are never removed from `Node.folders` and new ones are APPENDED, so the position `j` of a folder is stable under every
dynamic operation (unlike software, where an uninstall shifts positions): the base statements `folders[j]? = some G` lift as they
are. Every structural operation keeps name, `deleted` flag and both countdowns of every existing folder (`Folder.CdSame`). -/

def Folder.CdSame (G' G : Folder) : Prop :=
  G'.name = G.name ∧ G'.deleted = G.deleted ∧ G'.scanCd = G.scanCd ∧ G'.restoreCd = G.restoreCd

/-- position stability: every folder of `n` is, at the same position of `n'`, a folder with the same name / flag / countdowns -/
def PosOk (n n' : Node) : Prop :=
  ∀ (j : Nat) (G : Folder), n.folders[j]? = some G → ∃ G', n'.folders[j]? = some G' ∧ G'.CdSame G

theorem PosOk.refl (n : Node) : PosOk n n := fun _ G h => ⟨G, h, rfl, rfl, rfl, rfl⟩

theorem PosOk.of_folders_eq {n n' n'' : Node} (h : PosOk n n') (e : n''.folders = n'.folders) : PosOk n n'' := by
  intro j G hG; rw [e]; exact h j G hG

theorem PosOk.mapFolders {n n' : Node} (h : PosOk n n') (g : Folder → Folder) (hg : ∀ G, (g G).CdSame G) :
    PosOk n (n'.mapFolders g) := by
  intro j G hG
  obtain ⟨G', h1, a', b', c', e'⟩ := h j G hG
  obtain ⟨a, b, c, e⟩ := hg G'
  exact ⟨g G', by rw [mapFolders_folders, List.getElem?_map, h1]; rfl, a.trans a', b.trans b', c.trans c', e.trans e'⟩

theorem PosOk.mapLiveFolder {n n' : Node} (h : PosOk n n') (F : String) (g : Folder → Folder) (hg : ∀ G, (g G).CdSame G) :
    PosOk n (n'.mapLiveFolder F g) := by
  apply h.mapFolders
  intro G
  split
  · exact hg G
  · exact ⟨rfl, rfl, rfl, rfl⟩

theorem PosOk.append {n n' : Node} (h : PosOk n n') (H : Folder) : PosOk n { n' with folders := n'.folders ++ [H] } := by
  intro j G hG
  obtain ⟨G', h1, h2⟩ := h j G hG
  refine ⟨G', ?_, h2⟩
  have hlt : j < n'.folders.length := (List.getElem?_eq_some_iff.mp h1).1
  simp only []
  rw [List.getElem?_append_left hlt]; exact h1

theorem PosOk.addFile {n n' : Node} (h : PosOk n n') (F : String) (x : File) : PosOk n (n'.addFile F x) :=
  h.mapLiveFolder F _ (fun _ => ⟨rfl, rfl, rfl, rfl⟩)

theorem PosOk.deleteFile {n n' : Node} (h : PosOk n n') (F f : String) :
    PosOk n (n'.mapLiveFolder F (fun G => G.delLive f)) :=
  h.mapLiveFolder F _ (fun _ => ⟨rfl, rfl, rfl, rfl⟩)

theorem PosOk.createFolder {n : Node} {d : DNode} (h : PosOk n d.n) (F : String) : PosOk n (d.createFolder F).n := by
  unfold DNode.createFolder
  split
  · exact h.mapLiveFolder F _ (fun _ => ⟨rfl, rfl, rfl, rfl⟩)
  · exact h.append _

theorem PosOk.addNewFile {n : Node} {d : DNode} (h : PosOk n d.n) (F f : String) : PosOk n (d.addNewFile F f).n := by
  unfold DNode.addNewFile
  split
  · split
    · exact h
    · exact h.addFile F _
  · exact h

theorem PosOk.createFile {n : Node} {d : DNode} (h : PosOk n d.n) (F f : String) : PosOk n (d.createFile F f).n := by
  unfold DNode.createFile
  apply PosOk.addNewFile
  split
  · exact h
  · exact h.createFolder F

theorem PosOk.copyFile {n : Node} {d : DNode} (h : PosOk n d.n) (sF f dF : String) : PosOk n (d.copyFile sF f dF).n := by
  unfold DNode.copyFile
  split
  · exact h
  · simp only []
    split
    · exact (h.deleteFile dF f).addFile dF _
    · exact ((h.createFolder dF).deleteFile dF f).addFile dF _

theorem PosOk.dbReplace {n : Node} {d : DNode} (h : PosOk n d.n) (F f sF : String) : PosOk n (d.dbReplace F f sF).n := by
  unfold DNode.dbReplace
  split
  · exact h
  · split
    · split
      · exact h
      · exact (h.deleteFile F f).addFile F _
    · split
      · exact h
      · split
        · exact h
        · exact (h.createFolder F).addFile F _

theorem PosOk.dbRestore {n : Node} {d : DNode} (h : PosOk n d.n) (pre : Bool) (dl : Option FsH) :
    PosOk n (d.dbRestore pre dl).n := by
  have h1 : PosOk n (d.dlClear pre).n := by
    unfold DNode.dlClear
    split
    · exact h.deleteFile dlFolder dbFile
    · exact h
  unfold DNode.dbRestore
  cases dl with
  | none => exact h1
  | some hh =>
    simp only []
    apply PosOk.dbReplace
    unfold DNode.dlArrive
    split
    · exact h1
    · simp only []
      split
      · exact h1.addFile dlFolder _
      · exact (h1.createFolder dlFolder).addFile dlFolder _

/-- **C14 dyn (position stability).** After a structural operation (install / uninstall / create / copy / database restore /
external folder write) every folder is still at its position, with the same name, `deleted` flag and countdowns. -/
theorem C14_dyn_struct_pos (d : DNode) (op : DOp) (hs : op.swBase = none) : PosOk d.n (d.apply op).n := by
  have h0 := PosOk.refl d.n
  cases hfs : op.isFs
  · exact dapply_sw_cases d op hs hfs h0 (fun _ _ => h0) (fun _ _ => h0)
  · exact dapply_fs_cases (motive := PosOk d.n) d op hfs h0 h0.createFolder h0.createFile h0.copyFile h0.dbReplace
      (fun F hh _ => h0.mapFolders _ (fun G => by split <;> exact ⟨rfl, rfl, rfl, rfl⟩)) (fun pre dl _ => h0.dbRestore pre dl)

/-- does this dynamic operation contain a timestep that reaches folder `G` (a plain timestep or a `tickDb`; node ON after its power
phase; folder not deleted)? -/
def dFolderTicking (d : DNode) (op : DOp) (G : Folder) : Bool :=
  match op.swBase with
  | some b => folderTicking d.n b G
  | none => false

theorem dFolderTicking_of_swBase (d : DNode) (op : DOp) (b : Op) (G : Folder) (hb : op.swBase = some b) :
    dFolderTicking d op G = folderTicking d.n b G := by unfold dFolderTicking; rw [hb]

/-- number of timesteps of a dynamic trace that reach the `j`-th folder -/
def dEffFolderTicks (d : DNode) (j : Nat) : List DOp → Nat
  | [] => 0
  | op :: ops =>
    (match d.n.folders[j]? with
     | some G => if dFolderTicking d op G then 1 else 0
     | none => 0) + dEffFolderTicks (d.apply op) j ops

/-- **C14 dyn (one step, folder countdowns, by position).** While a countdown `cd` (scan or restore) of the `j`-th folder runs, ANY
dynamic operation leaves a folder of the same name at position `j`, whose countdown went down by one if the operation contains a
timestep that reaches the folder (plain, or `tickDb` with the database restore between software and folder ticks) and is unchanged
otherwise. -/
theorem dyn_folder_cd_step (cd : Folder → Int)
    (hstep : ∀ n op G, 1 ≤ cd G → cd (folderEff n op G) = if folderTicking n op G then cd G - 1 else cd G)
    (hsame : ∀ G' G : Folder, G'.CdSame G → cd G' = cd G)
    (htick : ∀ G : Folder, 1 ≤ cd G → cd G.tick = cd G - 1)
    (d : DNode) (op : DOp) (j : Nat) (G : Folder) (hG : d.n.folders[j]? = some G) (h1 : 1 ≤ cd G) :
    ∃ G', (d.apply op).n.folders[j]? = some G' ∧ G'.name = G.name ∧
      cd G' = if dFolderTicking d op G then cd G - 1 else cd G := by
  have hbase : ∀ b : Op, ∃ G', (d.n.apply b).folders[j]? = some G' ∧ G'.name = G.name ∧
      cd G' = if folderTicking d.n b G then cd G - 1 else cd G := fun b =>
    ⟨folderEff d.n b G, by exact apply_folders_getElem _ hG, folderEff_name _ _ _, hstep _ _ _ h1⟩
  cases hb : op.swBase with
  | none =>
    obtain ⟨G', g1, g2⟩ := C14_dyn_struct_pos d op hb j G hG
    refine ⟨G', g1, g2.1, ?_⟩
    unfold dFolderTicking; rw [hb]
    simp only [Bool.false_eq_true, if_false]
    exact hsame _ _ g2
  | some b =>
    rw [dFolderTicking_of_swBase d op b G hb]
    cases op <;> simp only [DOp.swBase, reduceCtorEq, Option.some.injEq] at hb
    case base b' => subst hb; exact hbase b'
    case tickDb pre dl =>
      subst hb
      by_cases hon : d.n.powerPhase.power = .on
      · cases hfix : d.n.powerPhase.scanPhase.redPhase.dbFixCompletes with
        | false =>
          rw [C14_tickdb_eq_tick d pre dl (Or.inl hfix)]
          exact hbase .tick
        | true =>
          rw [(C14_tickdb_phases d pre dl hon hfix).1]
          have hp1 : PosOk d.n (d.n.powerPhase.scanPhase.redPhase.mapSws Sw.tick) := by
            apply ((PosOk.refl d.n).mapFolders (fun G => if d.n.powerPhase.scanCd = 1 then G.instantScan else G) ?_).of_folders_eq
            · rw [mapSws_folders, redPhase_folders, scanPhase_folders, (powerPhase_swStep d.n).folders]; rfl
            · intro G0
              split
              · exact ⟨Folder.instantScan_name _, Folder.instantScan_deleted _, Folder.instantScan_scanCd _,
                  Folder.instantScan_restoreCd _⟩
              · exact ⟨rfl, rfl, rfl, rfl⟩
          have hp2 := PosOk.dbRestore (d := { d with n := d.n.powerPhase.scanPhase.redPhase.mapSws Sw.tick }) hp1 pre dl
          obtain ⟨G2, g1, g2⟩ := hp2 j G hG
          have hcd2 : cd G2 = cd G := hsame _ _ g2
          refine ⟨if G2.deleted then G2 else G2.tick, by rw [mapFolders_folders, List.getElem?_map, g1]; rfl, ?_, ?_⟩
          · split
            · exact g2.1
            · exact (Folder.tick_name G2).trans g2.1
          · by_cases hd : G.deleted = true
            · have hd2 : G2.deleted = true := g2.2.1.trans hd
              simp [folderTicking, hon, hd, hd2, hcd2]
            · have hd' : G.deleted = false := by simpa using hd
              have hd2 : G2.deleted = false := g2.2.1.trans hd'
              simp only [folderTicking, hon, hd', hd2, decide_true, Bool.true_and, Bool.not_false, if_true,
                Bool.false_eq_true, if_false]
              rw [htick G2 (by omega), hcd2]
      · have e : (d.apply (.tickDb pre dl)).n = d.n.apply .tick := by
          simp only [DNode.apply, DNode.tickDb, Node.apply, Node.tick, hon, if_false]
        rw [e]
        exact hbase .tick

theorem dFolderCounted (j : Nat) :
    Counted DNode.apply (fun d op => match d.n.folders[j]? with | some G => dFolderTicking d op G | none => false) DNode.run
      (fun d => dEffFolderTicks d j) :=
  ⟨fun _ => rfl, fun _ _ _ => rfl, fun _ => rfl, fun d op ops => by
    simp only [dEffFolderTicks]; cases d.n.folders[j]? <;> rfl⟩

theorem dyn_folder_cd_not_early (cd : Folder → Int)
    (hstep : ∀ n op G, 1 ≤ cd G → cd (folderEff n op G) = if folderTicking n op G then cd G - 1 else cd G)
    (hsame : ∀ G' G : Folder, G'.CdSame G → cd G' = cd G)
    (htick : ∀ G : Folder, 1 ≤ cd G → cd G.tick = cd G - 1)
    (ops : List DOp) : ∀ (d : DNode) (j : Nat) (G : Folder) (c : Int),
    d.n.folders[j]? = some G → cd G = c → (dEffFolderTicks d j ops : Int) < c →
    ∃ G', (d.run ops).n.folders[j]? = some G' ∧ G'.name = G.name ∧ cd G' = c - dEffFolderTicks d j ops := by
  intro d j G c hG hc hk
  have h0 := Int.natCast_nonneg (dEffFolderTicks d j ops)
  refine ((dFolderCounted j).not_early (fun d c => 1 ≤ c ∧ ∃ G', d.n.folders[j]? = some G' ∧ G'.name = G.name ∧ cd G' = c)
    (fun _ => True) ?_ ops d c ⟨by omega, G, hG, rfl, hc⟩ (fun _ _ => trivial) (by omega)).2
  intro d op c ⟨hc1, G', h1, h2, h3⟩ _
  obtain ⟨G1, hG1, hn1, hs⟩ := dyn_folder_cd_step cd hstep hsame htick d op j G' h1 (by omega)
  simp only [h1]
  exact ⟨fun he _ => ⟨by omega, G1, hG1, hn1.trans h2, by rw [hs, if_pos he, h3]⟩,
    fun he => ⟨hc1, G1, hG1, hn1.trans h2, by rw [hs, he, h3]; rfl⟩⟩

/-- **C14 dyn folder scan timing, part 1 (not early), every dynamic trace, by position.** With `c` on the scan countdown of the
`j`-th folder, for ANY dynamic trace (second scan requests, deletion / restore of the folder, power loss, installs, uninstalls,
folder / file creation, copies, database restores, `tickDb`): while fewer than `c` timesteps have reached the folder, the countdown
is `c` minus that number. -/
theorem C14_dyn_folder_scan_not_early (ops : List DOp) (d : DNode) (j : Nat) (G : Folder) (c : Int)
    (hG : d.n.folders[j]? = some G) (hc : G.scanCd = c) (hk : (dEffFolderTicks d j ops : Int) < c) :
    ∃ G', (d.run ops).n.folders[j]? = some G' ∧ G'.name = G.name ∧ G'.scanCd = c - dEffFolderTicks d j ops :=
  dyn_folder_cd_not_early (·.scanCd) folderEff_scanCd_running (fun _ _ h => h.2.2.1) Folder.tick_scanCd ops d j G c hG hc hk

/-- **C14 dyn folder restore timing, part 1 (not early), every dynamic trace, by position.** -/
theorem C14_dyn_folder_restore_not_early (ops : List DOp) (d : DNode) (j : Nat) (G : Folder) (c : Int)
    (hG : d.n.folders[j]? = some G) (hc : G.restoreCd = c) (hk : (dEffFolderTicks d j ops : Int) < c) :
    ∃ G', (d.run ops).n.folders[j]? = some G' ∧ G'.name = G.name ∧ G'.restoreCd = c - dEffFolderTicks d j ops :=
  dyn_folder_cd_not_early (·.restoreCd) folderEff_restoreCd_running (fun _ _ h => h.2.2.2) Folder.tick_restoreCd ops d j G c hG hc hk

/-- **C14 dyn folder scan timing, part 2 (on time).** The `c`-th timestep that reaches the folder completes the scan: for EVERY
timestep operation `tk` (plain or `tickDb`) the countdown returns to 0; and for the plain timestep the base statement holds in full
(the folder shows the worst health of its live files, every live file shows its actual health). (With `tickDb` the database restore
may replace a file of this very folder between the software ticks and the folder tick, so what is scanned is the folder after that
replacement.) -/
theorem C14_dyn_folder_scan_completes_on_time (ops : List DOp) (d : DNode) (j : Nat) (G : Folder) (c : Int)
    (hG : d.n.folders[j]? = some G) (hc : G.scanCd = c) (hk : (dEffFolderTicks d j ops : Int) + 1 = c) :
    ∃ G', (d.run ops).n.folders[j]? = some G' ∧ G'.scanCd = 1 ∧
      (folderTicking (d.run ops).n .tick G' = true →
        (∀ tk : DOp, tk.swBase = some .tick →
          ∃ G'', ((d.run ops).apply tk).n.folders[j]? = some G'' ∧ G''.name = G.name ∧ G''.scanCd = 0) ∧
        ∃ G'', ((d.run ops).apply (.base .tick)).n.folders[j]? = some G'' ∧ G''.name = G.name ∧ G''.scanCd = 0 ∧
          G''.visible = worstLive G'.files ∧
          G''.files.map (·.visible) = G'.files.map (fun f => if f.deleted then f.visible else f.actual)) := by
  obtain ⟨G', h1, h2, h3⟩ := C14_dyn_folder_scan_not_early ops d j G c hG hc (by omega)
  have hcd : G'.scanCd = 1 := by rw [h3]; omega
  refine ⟨G', h1, hcd, fun ht => ⟨fun tk htk => ?_,
    _, apply_folders_getElem (n := (d.run ops).n) .tick h1, (folderEff_name _ _ _).trans h2, folderEff_scan_done _ G' hcd ht⟩⟩
  obtain ⟨G'', a, b, e⟩ := dyn_folder_cd_step (·.scanCd) folderEff_scanCd_running (fun _ _ h => h.2.2.1) Folder.tick_scanCd
    (d.run ops) tk j G' h1 (show (1 : Int) ≤ G'.scanCd by omega)
  rw [dFolderTicking_of_swBase _ _ _ _ htk, ht, if_pos rfl] at e
  exact ⟨G'', a, b.trans h2, by have e' : G''.scanCd = G'.scanCd - 1 := e; omega⟩

/-- **C14 dyn folder restore timing, part 2 (on time).** The `c`-th timestep that reaches the folder completes the restore: for
EVERY timestep operation `tk` (plain or `tickDb`) the countdown returns to 0; for the plain timestep the base statement holds in
full (files live again, CORRUPT live files GOOD, folder no longer CORRUPT / RESTORING). -/
theorem C14_dyn_folder_restore_completes_on_time (ops : List DOp) (d : DNode) (j : Nat) (G : Folder) (c : Int)
    (hG : d.n.folders[j]? = some G) (hc : G.restoreCd = c) (hk : (dEffFolderTicks d j ops : Int) + 1 = c) :
    ∃ G', (d.run ops).n.folders[j]? = some G' ∧ G'.restoreCd = 1 ∧
      (folderTicking (d.run ops).n .tick G' = true →
        (∀ tk : DOp, tk.swBase = some .tick →
          ∃ G'', ((d.run ops).apply tk).n.folders[j]? = some G'' ∧ G''.name = G.name ∧ G''.restoreCd = 0) ∧
        ∃ G'', ((d.run ops).apply (.base .tick)).n.folders[j]? = some G'' ∧ G''.name = G.name ∧ G''.restoreCd = 0 ∧
          G''.actual ≠ .corrupt ∧ G''.actual ≠ .restoring ∧
          G''.files.map (fun f => (f.deleted, f.actual)) =
            G'.files.map (fun f => (f.deleted && (hasLive f.name G'.files || !firstDeleted G'.files f),
              if (f.deleted = false ∨ File.twiceRestored G'.files f = true) ∧ f.actual = .corrupt then FsH.good
              else f.actual))) := by
  obtain ⟨G', h1, h2, h3⟩ := C14_dyn_folder_restore_not_early ops d j G c hG hc (by omega)
  have hcd : G'.restoreCd = 1 := by rw [h3]; omega
  refine ⟨G', h1, hcd, fun ht => ⟨fun tk htk => ?_,
    _, apply_folders_getElem (n := (d.run ops).n) .tick h1, (folderEff_name _ _ _).trans h2, folderEff_restore_done _ G' hcd ht⟩⟩
  obtain ⟨G'', a, b, e⟩ := dyn_folder_cd_step (·.restoreCd) folderEff_restoreCd_running (fun _ _ h => h.2.2.2)
    Folder.tick_restoreCd (d.run ops) tk j G' h1 (show (1 : Int) ≤ G'.restoreCd by omega)
  rw [dFolderTicking_of_swBase _ _ _ _ htk, ht, if_pos rfl] at e
  exact ⟨G'', a, b.trans h2, by have e' : G''.restoreCd = G'.restoreCd - 1 := e; omega⟩

/-- **C14 dyn folder scan timing (exact), by position.** After a `scan` request on an idle live folder (the `j`-th) of a powered-on
node, for EVERY dynamic continuation (nothing is excluded: a second scan request is ignored, deleting / restoring the folder or power
loss only pause the countdown — such timesteps do not count as reaching it —, and installs, uninstalls, folder / file creation,
copies, database restores, `tickDb` keep position and countdown): the countdown is `max(scan_duration, 1)` minus the number of
timesteps that reached the folder while that number is smaller, and the `max(scan_duration, 1)`-th such timestep completes the scan
(countdown 0 for a plain timestep or a `tickDb`; the full base statement for the plain one). BY POSITION: positions of folders are
stable under all dynamic operations (folders are only appended), so no by-name form is needed. -/
theorem C14_dyn_folder_scan_exact (d : DNode) (j : Nat) (G : Folder) (ops : List DOp)
    (hG : d.n.folders[j]? = some G) (hon : d.n.power = .on) (hl : G.deleted = false) (hidle : G.scanCd ≤ 0) :
    let d1 := d.apply (.base (.folder G.name .scan))
    ((dEffFolderTicks d1 j ops : Int) < max G.scanDur 1 →
      ∃ G', (d1.run ops).n.folders[j]? = some G' ∧ G'.name = G.name ∧
        G'.scanCd = max G.scanDur 1 - dEffFolderTicks d1 j ops) ∧
    ((dEffFolderTicks d1 j ops : Int) + 1 = max G.scanDur 1 →
      ∃ G', (d1.run ops).n.folders[j]? = some G' ∧ G'.scanCd = 1 ∧
        (folderTicking (d1.run ops).n .tick G' = true →
          (∀ tk : DOp, tk.swBase = some .tick →
            ∃ G'', ((d1.run ops).apply tk).n.folders[j]? = some G'' ∧ G''.name = G.name ∧ G''.scanCd = 0) ∧
          ∃ G'', ((d1.run ops).apply (.base .tick)).n.folders[j]? = some G'' ∧ G''.name = G.name ∧ G''.scanCd = 0 ∧
            G''.visible = worstLive G'.files ∧
            G''.files.map (·.visible) = G'.files.map (fun f => if f.deleted then f.visible else f.actual))) := by
  intro d1
  have h0 : d1.n.folders[j]? = some (folderEff d.n (.folder G.name .scan) G) := by
    show (d.n.apply (.folder G.name .scan)).folders[j]? = _
    exact apply_folders_getElem _ hG
  have hcd : (folderEff d.n (.folder G.name .scan) G).scanCd = max G.scanDur 1 := by
    rw [C14_folder_scan_request]; simp [hon, hl, hidle]
  -- the folder keeps its name through the request: the statements for the folder after the request are the ones wanted
  rw [← folderEff_name d.n (.folder G.name .scan) G]
  exact ⟨C14_dyn_folder_scan_not_early ops d1 j _ _ h0 hcd, C14_dyn_folder_scan_completes_on_time ops d1 j _ _ h0 hcd⟩

/-- **C14 dyn folder restore timing (exact), by position.** After a `restore` request that reaches the `j`-th folder while no
restore is running (folder route on a live folder; or file-system route `restore folder`, which reaches the live folder of that name,
else the first deleted one in deletion order) on a powered-on node, for EVERY dynamic continuation: the restore countdown is
`max(restore_duration, 1)` minus the number of timesteps that reached the folder while that number is smaller (not early), and the
`max(restore_duration, 1)`-th such timestep completes the restore (on time: countdown 0 for a plain timestep or a `tickDb`; the
full base statement for the plain one). BY POSITION (stable, see above). -/
theorem C14_dyn_folder_restore_exact (d : DNode) (j : Nat) (G : Folder) (ops : List DOp) (rq : Op)
    (hG : d.n.folders[j]? = some G) (hon : d.n.power = .on) (hidle : G.restoreCd ≤ 0)
    (hrq : (rq = .folder G.name .restore ∧ G.deleted = false) ∨
      (rq = .fsRestoreFolder G.name ∧
        (G.deleted = false ∨ (hasLiveFolder G.name d.n.folders = false ∧ firstDeletedFolder d.n.folders G = true)))) :
    let d1 := d.apply (.base rq)
    ((dEffFolderTicks d1 j ops : Int) < max G.restoreDur 1 →
      ∃ G', (d1.run ops).n.folders[j]? = some G' ∧ G'.name = G.name ∧
        G'.restoreCd = max G.restoreDur 1 - dEffFolderTicks d1 j ops) ∧
    ((dEffFolderTicks d1 j ops : Int) + 1 = max G.restoreDur 1 →
      ∃ G', (d1.run ops).n.folders[j]? = some G' ∧ G'.restoreCd = 1 ∧
        (folderTicking (d1.run ops).n .tick G' = true →
          (∀ tk : DOp, tk.swBase = some .tick →
            ∃ G'', ((d1.run ops).apply tk).n.folders[j]? = some G'' ∧ G''.name = G.name ∧ G''.restoreCd = 0) ∧
          ∃ G'', ((d1.run ops).apply (.base .tick)).n.folders[j]? = some G'' ∧ G''.name = G.name ∧ G''.restoreCd = 0 ∧
            G''.actual ≠ .corrupt ∧ G''.actual ≠ .restoring ∧
            G''.files.map (fun f => (f.deleted, f.actual)) =
              G'.files.map (fun f => (f.deleted && (hasLive f.name G'.files || !firstDeleted G'.files f),
                if (f.deleted = false ∨ File.twiceRestored G'.files f = true) ∧ f.actual = .corrupt then FsH.good
                else f.actual)))) := by
  intro d1
  have h0 : d1.n.folders[j]? = some (folderEff d.n rq G) := by
    show (d.n.apply rq).folders[j]? = _
    exact apply_folders_getElem _ hG
  have hcd : (folderEff d.n rq G).restoreCd = max G.restoreDur 1 := by
    have hr := C14_folder_restore_request d.n G.name G hon rfl
    rcases hrq with ⟨e, hl⟩ | ⟨e, hreach⟩
    · rw [e, hr.2 hl, if_pos hidle]
    · rw [e, hr.1 hreach, if_pos hidle]
  rw [← folderEff_name d.n rq G]
  exact ⟨C14_dyn_folder_restore_not_early ops d1 j _ _ h0 hcd, C14_dyn_folder_restore_completes_on_time ops d1 j _ _ h0 hcd⟩

end Primaite.Health
