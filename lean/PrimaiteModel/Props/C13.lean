/-
C13 — services and applications follow their lifecycle; only running software works; registries agree.

Property theorems (named `C13_*`) about `Model/Lifecycle.lean` (one instance) and `Model/Registries.lean`
(a node's software layer), in this order:

  Gen obligations        the tables regenerated from the source say what the model assumes
  lifecycle moves         every event / every node operation moves an instance only along documented transitions
  acceptance              a request succeeds exactly in its documented source states; refused ⇒ nothing changes
  timing                  restart completes at tick d+1, install at tick max(1,d); ticks only while the node is ON
  no TypeError            `apply_timestep` never meets a `None` countdown on reachable states
  ports and payloads      open port ⇒ RUNNING owner; payload past the guard ⇒ RUNNING
  registries              the four registries agree (`Rep`, Lemmas/RegistriesRep.lean)
-/
import PrimaiteModel.Model.Registries
import PrimaiteModel.Lemmas.RegistriesRep
import PrimaiteModel.Lemmas.HealthCountdown
import PrimaiteModel.Gen.Software
namespace Primaite.C13
open Primaite.Lifecycle Primaite.Registries

/-- enum members and values as in the source -/
theorem C13_gen_enums :
    Gen.Software.SvcStateValues = SvcState.all.map (fun s => (s, s.value)) ∧
    Gen.Software.AppStateValues = AppState.all.map (fun s => (s, s.value)) ∧
    Gen.Software.HealthValues =
      [Health.unused, .good, .fixing, .compromised, .overwhelmed].map (fun h => (h, h.value)) := ⟨rfl, rfl, rfl⟩

/-- defaults the model's structures carry -/
theorem C13_gen_defaults :
    Gen.Software.restartDuration = ({ sw := { actual := .good } } : Svc).dur ∧
    Gen.Software.installDuration = ({ sw := { actual := .good } } : App).dur ∧
    Gen.Software.fixingDuration = ({ actual := .good } : Soft).fixDur ∧
    Gen.Software.svcInitial = ({ sw := { actual := .good } } : Svc).st ∧
    Gen.Software.appInitial = ({ sw := { actual := .good } } : App).st := ⟨rfl, rfl, rfl, rfl, rfl⟩

/-- what a row of the regenerated guard table says a method does to the operating state and returns -/
def rowSpec {σ} [DecidableEq σ] (row : String × Bool × Option (List σ) × σ × String × String) (st : σ) (nodeOn : Bool) :
    σ × String :=
  let (_, needsOn, sources, target, acc, ref) := row
  if (!needsOn || nodeOn) && (match sources with | none => true | some l => l.contains st) then (target, acc)
  else (st, ref)

def svcMethodEv (nodeOn : Bool) : String → Option SvcEv
  | "start" => some (.start nodeOn) | "stop" => some .stop | "pause" => some .pause | "resume" => some .resume
  | "restart" => some .restart | "disable" => some .disable | "enable" => some .enable | _ => none

def appMethodEv (nodeOn : Bool) : String → Option AppEv
  | "run" => some (.run nodeOn) | "close" => some .close | "install" => some .install | _ => none

def showRet (b : Bool) : String := if b then "True" else "False"

/-- The lifecycle methods of `Service`, as read from the source (guard, source states, target, return values),
are the model's methods — for every service state, every value of the other fields, node ON or not. -/
theorem C13_gen_service_methods (s : Svc) (nodeOn : Bool) :
    ∀ row ∈ Gen.Software.svcMethods, ∃ ev, svcMethodEv nodeOn row.1 = some ev ∧
      ((s.apply ev).1.st, showRet (s.apply ev).2) = rowSpec row s.st nodeOn := by
  intro row hrow
  simp only [Gen.Software.svcMethods, List.mem_cons, List.not_mem_nil, or_false] at hrow
  rcases s with ⟨st, cd, dur, sw⟩
  rcases hrow with rfl | rfl | rfl | rfl | rfl | rfl | rfl <;>
    refine ⟨_, rfl, ?_⟩ <;> cases st <;> cases nodeOn <;> rfl

/-- `Application.run/close/install` as read from the source are the model's (`run`/`install` return `None`,
which the model reports as `true` and never turns into a response). -/
theorem C13_gen_application_methods (a : App) (nodeOn : Bool) :
    ∀ row ∈ Gen.Software.appMethods, ∃ ev, appMethodEv nodeOn row.1 = some ev ∧
      (a.apply ev).1.st = (rowSpec row a.st nodeOn).1 := by
  intro row hrow
  simp only [Gen.Software.appMethods, List.mem_cons, List.not_mem_nil, or_false] at hrow
  rcases a with ⟨st, cd, dur, sw⟩
  rcases hrow with rfl | rfl | rfl <;>
    refine ⟨_, rfl, ?_⟩ <;> cases st <;> cases nodeOn <;> rfl

def SvcReq.name : SvcReq → String
  | .scan => "scan" | .stop => "stop" | .start => "start" | .pause => "pause" | .resume => "resume"
  | .restart => "restart" | .disable => "disable" | .enable => "enable" | .fix => "fix" | .compromise => "compromise"

def AppReq.name : AppReq → String
  | .scan => "scan" | .close => "close" | .execute => "execute" | .fix => "fix" | .compromise => "compromise"

/-- what the route's handler does, as the extractor names it (`execute` is the local handler `self.run()` then
`from_bool(self.operating_state == RUNNING)`; the others are `from_bool(self.<method>())`) -/
def AppReq.handler : AppReq → String
  | .execute => "run-then-RUNNING" | r => AppReq.name r

/-- The routes and validators of `Service._init_request_manager` / `Application._init_request_manager`
(plus the unvalidated `compromise` inherited from `Software`) are the model's request tables, in source order. -/
theorem C13_gen_routes :
    Gen.Software.svcRoutes = (SvcReq.all.filter (· ≠ .compromise)).map (fun r => (SvcReq.name r, r.validator, SvcReq.name r)) ∧
    Gen.Software.appRoutes = (AppReq.all.filter (· ≠ .compromise)).map (fun r => (AppReq.name r, r.validator, AppReq.handler r)) ∧
    ("compromise", "set_health_state(SoftwareHealthState.COMPROMISED)") ∈ Gen.Software.softwareRoutes ∧
    SvcReq.validator .compromise = none ∧ AppReq.validator .compromise = none := ⟨rfl, rfl, by decide, rfl, rfl⟩

/-- restart: test `<= 0`, then decrement; install: decrement, then test `<= 0` — the idioms `Svc.tick` / `App.tick` implement -/
theorem C13_gen_idioms :
    Gen.Software.restartIdiom = "test-then-decrement" ∧ Gen.Software.installIdiom = "decrement-then-test" := ⟨rfl, rfl⟩

/-- For every shipped class: its `apply_timestep` chain reaches `Service/Application.apply_timestep`; every `run`
override starts with `super().run()`; applications are registered under their own name (the install request looks
the instance up by the registry key); and no subclass overrides a lifecycle method with different state logic. -/
theorem C13_gen_classes :
    (Gen.Software.classes.all fun (_, name, disc, isApp, _, _, _, _, ticks, runOk, _, _) =>
        ticks && runOk && (!isApp || disc == name)) = true ∧
    Gen.Software.lifecycleOverrides = [] := ⟨by decide +kernel, rfl⟩

/-- **Every `apply_timestep` override below `Software` — of every Service / Application subclass and of the abstract bases in
between — calls `super().apply_timestep(…)` on every path through its body** (no `return` / `raise` in front of it, not only in
one branch, not inside a loop or a `try`): the restart, install and fix countdowns of `Svc.tick` / `App.tick` / `Soft.tick` run
for every class in every state, which is what lets the timing theorems speak about every shipped class.  (The `ticks` column of
`C13_gen_classes` is computed with the same path analysis along each class's own chain.) -/
theorem C13_gen_tick_overrides : Gen.Software.tickOverridesSkippingSuper = [] := rfl

/-- **every shipped class's `receive` begins with the running-guard** (`_can_perform_action` / a `super().receive` chain
that ends in it) — which is why `Node.handles` has no per-class flag (finding F-23, repaired).  A class that loses its
guard, or a new class without one, breaks this obligation. -/
theorem C13_gen_all_guarded : ∀ c ∈ Gen.Software.classes, c.2.2.2.2.2.2.1 ≠ "none" := by decide +kernel

/-- `SoftwareManager.install` (finding F-22, repaired): the only writer of the class map in the whole package is `install` itself
(class ↦ name, after the `software` write) — `Node.registerSvc/App`.  The "already installed" guard (`class in map and no config`,
`Node.installRefused`) and what `uninstall` pops (the map entry and the port-table entry of the uninstalled name) are covered by the
whole-method ties: `SoftwareManager.install` / `uninstall` are translated statement by statement and proved equal to the model —
`C13_gen_install_method`, `C13_gen_uninstall_method` in Props/C13Regs.lean. -/
theorem C13_gen_install_guard :
    Gen.Software.classMapWriters =
      ["simulator/system/core/software_manager.py:install:self._software_class_to_name_map[software_class] = software.name"] := rfl

/-- a PortScanPayload goes to `software["nmap"]` if there is one and is dropped otherwise (`Node.receivers`); the constructor
loads the fixing countdown of software configured FIXING (`Soft.configured`) -/
theorem C13_gen_delivery_and_ctor :
    Gen.Software.portScanDelivery = "nmap-if-installed" ∧ Gen.Software.ctorLoadsFixingCountdown = true := ⟨rfl, rfl⟩

/-- the shape of `get_open_ports`: the ports of the RUNNING owners of port-table slots (`Node.openPorts`) -/
theorem C13_gen_install_order :   -- (the statement order of `install` itself: `C13_gen_install_method`, Props/C13Regs.lean)
    Gen.Software.openPortsFromRunningPortMapOwners = true := rfl

def svcStateName : SvcState → String
  | .running => "RUNNING" | .stopped => "STOPPED" | .paused => "PAUSED" | .disabled => "DISABLED"
  | .installing => "INSTALLING" | .restarting => "RESTARTING"
def appStateName : AppState → String
  | .running => "RUNNING" | .closed => "CLOSED" | .installing => "INSTALLING"

/-- docs/source/action_masking.rst: every service / application request documented there needs the node ON and
exactly the software state the route's validator tests. -/
theorem C13_gen_docs :
    ((SvcReq.all.filter (· ≠ .compromise)).all fun r =>
        Gen.Software.docMask.contains ("node-service-" ++ SvcReq.name r, true, r.validator.map svcStateName)) = true ∧
    ((AppReq.all.filter (· ≠ .compromise)).all fun r =>
        Gen.Software.docMask.contains ("node-application-" ++ AppReq.name r, true, r.validator.map appStateName)) = true ∧
    Gen.Software.docMask.contains ("node-application-install", true, none) = true ∧
    Gen.Software.docMask.contains ("node-application-remove", true, none) = true := by decide +kernel

/-- The documented transition relation of a service (docstrings of `Service`, masking table, `apply_timestep`):
start, stop (also from PAUSED through the API), pause, resume, restart (also from PAUSED through the API) and its
timed completion, disable (from anywhere), enable. -/
def svcDoc : SvcState → SvcState → Bool
  | .stopped, .running => true       -- start
  | .running, .stopped => true       -- stop
  | .paused, .stopped => true        -- stop (API)
  | .running, .paused => true        -- pause
  | .paused, .running => true        -- resume
  | .running, .restarting => true    -- restart
  | .paused, .restarting => true     -- restart (API)
  | .restarting, .running => true    -- restart completes
  | _, .disabled => true             -- disable
  | .disabled, .stopped => true      -- enable
  | _, _ => false

/-- documented transitions of an application: run, close, install and its timed completion -/
def appDoc : AppState → AppState → Bool
  | .closed, .running => true        -- run
  | .running, .closed => true        -- close
  | .closed, .installing => true     -- install
  | .installing, .running => true    -- install completes
  | _, _ => false

/-- which event may cause which documented move -/
def svcEvDoc : SvcEv → SvcState → SvcState → Bool
  | .start _, .stopped, .running => true
  | .stop, .running, .stopped => true
  | .stop, .paused, .stopped => true
  | .pause, .running, .paused => true
  | .resume, .paused, .running => true
  | .restart, .running, .restarting => true
  | .restart, .paused, .restarting => true
  | .tick, .restarting, .running => true
  | .disable, _, .disabled => true
  | .enable, .disabled, .stopped => true
  | _, _, _ => false

theorem svcEvDoc_sub (e : SvcEv) (a b : SvcState) (h : svcEvDoc e a b = true) : svcDoc a b = true := by
  -- row by row: every row of the event table is a row of the state table (`disable` from any state)
  unfold svcEvDoc at h
  split at h <;> first | rfl | (cases a <;> rfl) | cases h

theorem svc_apply_fix (s : Svc) : s.apply .fix = ({ s with sw := s.sw.fix.1 }, s.sw.fix.2) := rfl

theorem app_apply_fix (a : App) : a.apply .fix = ({ a with sw := a.sw.fix.1 }, a.sw.fix.2) := rfl

theorem svc_tick_restarting (c dur : Int) (sw : Soft) :
    (Svc.apply ⟨.restarting, some c, dur, sw⟩ .tick).1 = ⟨if c ≤ 0 then .running else .restarting, some (c - 1), dur, sw.tick⟩ := rfl

theorem app_tick_installing (c dur : Int) (sw : Soft) :
    (App.apply ⟨.installing, some c, dur, sw⟩ .tick).1 =
      if c - 1 ≤ 0 then ⟨.running, none, dur, { sw.tick with actual := .good }⟩ else ⟨.installing, some (c - 1), dur, sw.tick⟩ := rfl

/-- **Every method of a service either leaves the operating state alone or makes the documented move of that method.** -/
theorem C13_service_event_moves (s : Svc) (e : SvcEv) :
    (s.apply e).1.st = s.st ∨ svcEvDoc e s.st (s.apply e).1.st = true := by
  rcases s with ⟨st, cd, dur, sw⟩
  cases e with
  | start on => cases on <;> cases st <;> first | exact Or.inl rfl | exact Or.inr rfl
  | tick =>
    cases st with
    | restarting =>
      cases cd with
      | none => exact Or.inl rfl
      | some c =>
        rw [svc_tick_restarting]
        show (if c ≤ 0 then SvcState.running else .restarting) = _ ∨ svcEvDoc _ _ (if c ≤ 0 then SvcState.running else .restarting) = true
        split
        · exact Or.inr rfl
        · exact Or.inl rfl
    | _ => exact Or.inl rfl
  | fix => rw [svc_apply_fix]; exact Or.inl rfl
  | _ => cases st <;> first | exact Or.inl rfl | exact Or.inr rfl

def appEvDoc : AppEv → AppState → AppState → Bool
  | .run _, .closed, .running => true
  | .close, .running, .closed => true
  | .install, .closed, .installing => true
  | .tick, .installing, .running => true
  | _, _, _ => false

theorem appEvDoc_sub (e : AppEv) (a b : AppState) (h : appEvDoc e a b = true) : appDoc a b = true := by
  unfold appEvDoc at h
  split at h <;> first | rfl | cases h

/-- `forceClosed` is the one undocumented write (`SoftwareManager.install` resets a freshly constructed
application to CLOSED); the model offers it to an installed application only as the direct write `.appApi u .forceClosed`,
which `C13_application_moves` excludes. -/
theorem C13_application_event_moves (a : App) (e : AppEv) (he : e ≠ .forceClosed) :
    (a.apply e).1.st = a.st ∨ appEvDoc e a.st (a.apply e).1.st = true := by
  rcases a with ⟨st, cd, dur, sw⟩
  cases e with
  | forceClosed => exact absurd rfl he
  | run on => cases on <;> cases st <;> simp [App.apply, App.run, appEvDoc]
  | tick =>
    cases st <;> cases cd <;> simp [App.apply, App.tick, appEvDoc]
    rename_i c
    by_cases h : c - 1 ≤ 0 <;> simp [h]
  | _ => cases st <;> simp [App.apply, App.close, App.install, appEvDoc]

theorem fanSvc_shape (n : Node) (op : Op) :
    n.fanSvc op = [] ∨ n.fanSvc op = [SvcEv.start true] ∨ n.fanSvc op = [SvcEv.stop] := by
  unfold Node.fanSvc; cases n.fan op <;> simp

theorem fanApp_shape (n : Node) (op : Op) :
    n.fanApp op = [] ∨ n.fanApp op = [AppEv.run true] ∨ n.fanApp op = [AppEv.close] := by
  unfold Node.fanApp; cases n.fan op <;> simp

theorem ticks_iff (n : Node) (op : Op) : n.ticks op = true ↔ op = .tick ∧ n.powerTick.1 = .on := by
  cases op <;> simp [Node.ticks]

/-- what an operation delivers to one service: one event (a request's method, or the method called directly — a tick only as the
direct call of `apply_timestep`), or the fan-out of a power event followed by the tick (only `Node.apply_timestep` on a node that
is ON after its countdowns, to an object in `node.services`) -/
theorem svcEvs_shape (n : Node) (op : Op) (i : SvcInst) :
    (∃ e, n.svcEvs op i = [e] ∧ (e = .tick → op = .svcApi i.m.uid .tick)) ∨
    (∃ f, (f = [] ∨ f = [SvcEv.start true] ∨ f = [SvcEv.stop]) ∧
      ∃ t : Bool, n.svcEvs op i = f ++ (if t then [SvcEv.tick] else []) ∧
        (t = true → op = .tick ∧ n.services.contains i.m.uid = true ∧ n.powerTick.1 = .on)) := by
  by_cases h1 : ∃ name r, op = .svcReq name r
  · obtain ⟨name, r, rfl⟩ := h1
    rw [svcEvs_req]
    split
    · exact Or.inl ⟨_, rfl, by cases r <;> exact nofun⟩
    · exact Or.inr ⟨[], Or.inl rfl, false, rfl, nofun⟩
  by_cases h2 : ∃ u e, op = .svcApi u e
  · obtain ⟨u, e, rfl⟩ := h2
    simp only [Node.svcEvs]
    split
    · rename_i hu
      split
      · exact Or.inl ⟨_, rfl, nofun⟩
      · exact Or.inl ⟨_, rfl, fun h => by rw [hu, h]⟩
    · exact Or.inr ⟨[], Or.inl rfl, false, rfl, nofun⟩
  · rw [Node.svcEvs.eq_4 n op i (fun name r h => h1 ⟨name, r, h⟩) (fun u e h => h2 ⟨u, e, h⟩)]
    right
    split
    · rename_i hc
      exact ⟨_, fanSvc_shape n op, n.ticks op, rfl, fun ht => ⟨((ticks_iff n op).1 ht).1, hc, ((ticks_iff n op).1 ht).2⟩⟩
    · exact ⟨[], Or.inl rfl, false, rfl, nofun⟩

/-- **`service_moves ⊆ Doc`.**  Whatever the node state and whatever the operation (requests, API calls, ticks, power
events, install/uninstall of anything, payloads), a service's operating state after the operation is its state
before, or one documented transition away. -/
theorem C13_service_moves (n : Node) (op : Op) (i : SvcInst) :
    (i.s.applyAll (n.svcEvs op i)).st = i.s.st ∨ svcDoc i.s.st (i.s.applyAll (n.svcEvs op i)).st = true := by
  rcases svcEvs_shape n op i with ⟨e, he, _⟩ | ⟨f, hf, t, ht, _⟩
  · rw [he]
    rcases C13_service_event_moves i.s e with h | h
    · exact Or.inl h
    · exact Or.inr (svcEvDoc_sub _ _ _ h)
  · rw [ht]
    generalize i.s = s
    rcases s with ⟨st, cd, dur, sw⟩
    cases st with
    | restarting =>
      -- `start` / `stop` leave a RESTARTING service alone; the tick completes the restart or counts down
      rcases hf with rfl | rfl | rfl <;> cases t <;> cases cd <;> first | exact Or.inl rfl | skip
      all_goals
        rename_i c
        show (if c ≤ 0 then SvcState.running else .restarting) = _ ∨ svcDoc _ (if c ≤ 0 then SvcState.running else .restarting) = true
        split
        · exact Or.inr rfl
        · exact Or.inl rfl
    | _ =>
      -- from any other state the fan-out event makes its move (or none) and the tick leaves the state alone
      rcases hf with rfl | rfl | rfl <;> cases t <;> first | exact Or.inl rfl | exact Or.inr rfl

theorem appEvs_shape (n : Node) (op : Op) (i : AppInst) :
    (∃ e, n.appEvs op i = [e] ∧ (e = .forceClosed → ∃ u, op = .appApi u .forceClosed) ∧ (e = .tick → op = .appApi i.m.uid .tick)) ∨
    (∃ f, (f = [] ∨ f = [AppEv.run true] ∨ f = [AppEv.close]) ∧
      ∃ t : Bool, n.appEvs op i = f ++ (if t then [AppEv.tick] else []) ∧
        (t = true → op = .tick ∧ n.applications.contains i.m.uid = true ∧ n.powerTick.1 = .on)) := by
  by_cases h1 : ∃ name r, op = .appReq name r
  · obtain ⟨name, r, rfl⟩ := h1
    rw [appEvs_req]
    split
    · exact Or.inl ⟨_, rfl, by cases r <;> exact nofun, by cases r <;> exact nofun⟩
    · exact Or.inr ⟨[], Or.inl rfl, false, rfl, nofun⟩
  by_cases h2 : ∃ u e, op = .appApi u e
  · obtain ⟨u, e, rfl⟩ := h2
    simp only [Node.appEvs]
    split
    · rename_i hu
      split
      · exact Or.inl ⟨_, rfl, nofun, nofun⟩
      · exact Or.inl ⟨_, rfl, fun h => ⟨u, by rw [h]⟩, fun h => by rw [hu, h]⟩
    · exact Or.inr ⟨[], Or.inl rfl, false, rfl, nofun⟩
  · rw [Node.appEvs.eq_4 n op i (fun name r h => h1 ⟨name, r, h⟩) (fun u e h => h2 ⟨u, e, h⟩)]
    right
    split
    · rename_i hc
      exact ⟨_, fanApp_shape n op, n.ticks op, rfl, fun ht => ⟨((ticks_iff n op).1 ht).1, hc, ((ticks_iff n op).1 ht).2⟩⟩
    · exact ⟨[], Or.inl rfl, false, rfl, nofun⟩

/-- **`application_moves ⊆ Doc`** for every node state and every operation the code offers
(`forceClosed` is not a method; it only occurs inside `SoftwareManager.install` on the object being constructed). -/
theorem C13_application_moves (n : Node) (op : Op) (i : AppInst) (hop : ∀ u, op ≠ .appApi u .forceClosed) :
    (i.a.applyAll (n.appEvs op i)).st = i.a.st ∨ appDoc i.a.st (i.a.applyAll (n.appEvs op i)).st = true := by
  rcases appEvs_shape n op i with ⟨e, he, hfc, _⟩ | ⟨f, hf, t, ht, _⟩
  · rw [he]
    have hne : e ≠ .forceClosed := fun h => by
      obtain ⟨u, hu⟩ := hfc h
      exact hop u hu
    rcases C13_application_event_moves i.a e hne with h | h
    · exact Or.inl h
    · exact Or.inr (appEvDoc_sub _ _ _ h)
  · rw [ht]
    generalize i.a = a
    rcases a with ⟨st, cd, dur, sw⟩
    cases st with
    | installing =>
      rcases hf with rfl | rfl | rfl <;> cases t <;> cases cd <;> first | exact Or.inl rfl | skip
      all_goals
        rename_i c
        show (App.apply ⟨.installing, some c, dur, sw⟩ .tick).1.st = _ ∨ appDoc _ (App.apply ⟨.installing, some c, dur, sw⟩ .tick).1.st = true
        rw [app_tick_installing]
        split
        · exact Or.inr rfl
        · exact Or.inl rfl
    | _ => rcases hf with rfl | rfl | rfl <;> cases t <;> first | exact Or.inl rfl | exact Or.inr rfl

theorem find_map_svc (l : List SvcInst) (u : Nat) (g : SvcInst → Svc) (i : SvcInst)
    (h : l.find? (fun i => i.m.uid == u) = some i) :
    (l.map (fun i => { i with s := g i })).find? (fun i => i.m.uid == u) = some { i with s := g i } := by
  rw [find_map_meta_svc, h]; rfl

theorem find_map_app (l : List AppInst) (u : Nat) (g : AppInst → App) (i : AppInst)
    (h : l.find? (fun i => i.m.uid == u) = some i) :
    (l.map (fun i => { i with a := g i })).find? (fun i => i.m.uid == u) = some { i with a := g i } := by
  rw [find_map_meta_app, h]; rfl

theorem findSvc_deliver (n : Node) (op : Op) (u : Nat) (i : SvcInst) (h : n.findSvc u = some i) :
    (n.deliverEvs op).findSvc u = some { i with s := i.s.applyAll (n.svcEvs op i) } :=
  find_map_svc n.svcs u (fun i => i.s.applyAll (n.svcEvs op i)) i h

theorem findApp_deliver (n : Node) (op : Op) (u : Nat) (i : AppInst) (h : n.findApp u = some i) :
    (n.deliverEvs op).findApp u = some { i with a := i.a.applyAll (n.appEvs op i) } :=
  find_map_app n.apps u (fun i => i.a.applyAll (n.appEvs op i)) i h

theorem svc_applyAll_nil_eta (i : SvcInst) : ({ i with s := i.s.applyAll [] } : SvcInst) = i := rfl

theorem uninstall_heap (n n' : Node) (name : String) (hu : n.uninstall name = some n') :
    n'.svcs = n.svcs ∧ n'.apps = n.apps ∧ n'.next = n.next ∧ n'.power = n.power := by
  rcases uninstall_some n n' name hu with rfl | ⟨_, _, _, _, rfl⟩ <;> exact ⟨rfl, rfl, rfl, rfl⟩

theorem evict_heap (n n1 : Node) (name : String) (h : n.evict name = some n1) :
    n1.svcs = n.svcs ∧ n1.apps = n.apps ∧ n1.next = n.next ∧ n1.power = n.power := by
  rcases evict_some n n1 name h with rfl | h
  · exact ⟨rfl, rfl, rfl, rfl⟩
  · exact uninstall_heap n n1 name h

/-- the object `SoftwareManager.install` constructs for a service class -/
def newSvc (n : Node) (c : Cls) (l : List Nat) (hl : Health) (f : Int) : SvcInst :=
  { m := { uid := n.next, cls := c, listen := l }, s := ((({ sw := Soft.configured hl f } : Svc).start n.isOn).1) }

def newApp (n : Node) (c : Cls) (l : List Nat) (hl : Health) (f : Int) : AppInst :=
  { m := { uid := n.next, cls := c, listen := l },
    a := (if c.ctorRuns then ({ sw := Soft.configured hl f } : App).run n.isOn
          else ({ sw := Soft.configured hl f } : App)).applyAll [.install, .forceClosed] }

/-- an install never touches an existing object: the heap is unchanged (refused) or gets the new object appended -/
theorem installSvc_heap (n n' : Node) (c : Cls) (cfg : Bool) (l : List Nat) (hl : Health) (f : Int)
    (h : n.installSvc c cfg l hl f = some n') :
    (n'.svcs = n.svcs ∨ n'.svcs = n.svcs ++ [newSvc n c l hl f]) ∧ n'.apps = n.apps ∧ n'.power = n.power := by
  rcases installSvc_some n n' c cfg l hl f h with rfl | ⟨n1, he, rfl⟩
  · exact ⟨Or.inl rfl, rfl, rfl⟩
  · obtain ⟨h1, h2, h3, h4⟩ := evict_heap n n1 c.name he
    refine ⟨Or.inr ?_, h2, h4⟩
    -- the object is built from the counter and the power state, which the eviction leaves alone
    show n1.svcs ++ [newSvc n1 c l hl f] = _
    unfold newSvc Node.isOn
    rw [h1, h3, h4]

theorem installApp_heap (n n' : Node) (c : Cls) (cfg : Bool) (l : List Nat) (hl : Health) (f : Int)
    (h : n.installApp c cfg l hl f = some n') :
    n'.svcs = n.svcs ∧ (n'.apps = n.apps ∨ (n'.apps = n.apps ++ [newApp n c l hl f] ∧ n'.next = n.next + 1)) ∧
      n'.power = n.power := by
  rcases installApp_some n n' c cfg l hl f h with rfl | ⟨n1, he, rfl⟩
  · exact ⟨rfl, Or.inl rfl, rfl⟩
  · obtain ⟨h1, h2, h3, h4⟩ := evict_heap n n1 c.name he
    refine ⟨h1, Or.inr ⟨?_, congrArg (· + 1) h3⟩, h4⟩
    show n1.apps ++ [newApp n1 c l hl f] = _
    unfold newApp Node.isOn
    rw [h2, h3, h4]

/-- **Refinement.** Unless the operation raises, the service object `u` after `step` is the object before with
exactly the events `svcEvs` applied — for every operation, including installs/uninstalls of other software
(which deliver nothing).  Objects are never destroyed or renamed. -/
theorem C13_step_service (n : Node) (op : Op) (u : Nat) (i : SvcInst) (h : n.findSvc u = some i)
    (hr : (n.step op).2 ≠ .raised) :
    (n.step op).1.findSvc u = some { i with s := i.s.applyAll (n.svcEvs op i) } := by
  have k := step_kind n op
  generalize n.step op = r at k hr ⊢
  have same : ∀ n' : Node, n'.svcs = n.svcs → Quiet n op →
      n'.findSvc u = some { i with s := i.s.applyAll (n.svcEvs op i) } := by
    intro n' hs q
    rw [q.1 i]
    show n'.svcs.find? _ = _
    rw [hs]; exact h
  cases k with
  | idle p up down out hq => exact same _ rfl (hq.resolve_left hr)
  | deliver p up down out _ => exact findSvc_deliver n op u i h
  | uninstall name n' out hu q => exact same n' (uninstall_heap n n' name hu).1 q
  | installSvc c cfg l hl f n' _ hi q =>
    rw [q.1 i]
    show n'.svcs.find? _ = _
    rcases (installSvc_heap n n' c cfg l hl f hi).1 with hs | hs <;> rw [hs]
    · exact h
    · exact find_append_found _ _ _ _ h
  | installApp c cfg l hl f n' out _ hi q => exact same n' (installApp_heap n n' c cfg l hl f hi).1 q
  | reqInstall name c l n1 out _ hi q _ => exact same _ (installApp_heap n n1 c false l .good 2 hi).1 q

theorem find_append_map_app (l : List AppInst) (x : AppInst) (u : Nat) (g : AppInst → App) (i : AppInst)
    (h : l.find? (fun i => i.m.uid == u) = some i) :
    ((l ++ [x]).map (fun i => { i with a := g i })).find? (fun i => i.m.uid == u) = some { i with a := g i } :=
  find_map_app _ u g i (find_append_found _ _ _ _ h)

theorem installApp_findApp {n n' : Node} {c : Cls} {cfg : Bool} {l : List Nat} {hl : Health} {f : Int} {u : Nat} {i : AppInst}
    (hi : n.installApp c cfg l hl f = some n') (h : n.findApp u = some i) : n'.findApp u = some i := by
  show n'.apps.find? _ = _
  rcases (installApp_heap n n' c cfg l hl f hi).2.1 with hs | ⟨hs, _⟩ <;> rw [hs]
  · exact h
  · exact find_append_found _ _ _ _ h

/-- Refinement for applications (objects created so far have uids below `next`: `Rep.heapAppLt`, kept by `rep_step`). -/
theorem C13_step_application (n : Node) (op : Op) (u : Nat) (i : AppInst) (h : n.findApp u = some i)
    (hfresh : u < n.next) (hr : (n.step op).2 ≠ .raised) :
    (n.step op).1.findApp u = some { i with a := i.a.applyAll (n.appEvs op i) } := by
  have k := step_kind n op
  generalize n.step op = r at k hr ⊢
  have same : ∀ n' : Node, n'.apps = n.apps → Quiet n op →
      n'.findApp u = some { i with a := i.a.applyAll (n.appEvs op i) } := by
    intro n' hs q
    rw [q.2 i]
    show n'.apps.find? _ = _
    rw [hs]; exact h
  cases k with
  | idle p up down out hq => exact same _ rfl (hq.resolve_left hr)
  | deliver p up down out _ => exact findApp_deliver n op u i h
  | uninstall name n' out hu q => exact same n' (uninstall_heap n n' name hu).2.1 q
  | installSvc c cfg l hl f n' _ hi q => exact same n' (installSvc_heap n n' c cfg l hl f hi).2.1 q
  | installApp c cfg l hl f n' out _ hi q => rw [q.2 i]; exact installApp_findApp hi h
  | reqInstall name c l n1 out _ hi q _ =>
    rw [q.2 i]
    -- `install()` goes to the object just created, whose uid is the counter: not `u`
    refine (find_map_app n1.apps u (fun i => if i.m.uid = n.next then i.a.install else i.a) i
      (installApp_findApp hi h)).trans ?_
    have hne : ¬ i.m.uid = n.next := by rw [findApp_uid h]; omega
    rw [if_neg hne]; rfl

/-- documented source states of each service request (masking table; `disable`/`compromise` have no state condition) -/
def svcSources : SvcReq → List SvcState
  | .scan => [.running] | .stop => [.running] | .start => [.stopped] | .pause => [.running]
  | .resume => [.paused] | .restart => [.running] | .enable => [.disabled] | .fix => [.running]
  | .disable => SvcState.all | .compromise => SvcState.all

def appSources : AppReq → List AppState
  | .scan => [.running] | .close => [.running] | .fix => [.running] | .compromise => AppState.all
  | .execute => AppState.all   -- "Node is on." only

/-- the documented sources are the validators of the routes -/
theorem C13_sources_are_validators :
    (∀ r st, st ∈ svcSources r ↔ SvcReq.passes r st = true) ∧ (∀ r st, st ∈ appSources r ↔ AppReq.passes r st = true) := by
  constructor <;> intro r st <;> cases r <;> cases st <;> decide

theorem ofBool_success (b : Bool) : Status.ofBool b = .success ↔ b = true := by cases b <;> decide

/-- `Software.fix` answers True exactly from GOOD / COMPROMISED, and writes nothing when it answers False -/
theorem soft_fix_ret (w : Soft) :
    (w.fix.2 = true ↔ w.actual = .good ∨ w.actual = .compromised) ∧ (w.fix.2 = false → w.fix.1 = w) := by
  rcases w with ⟨actual, visible, fixCd, fixDur, fixCount⟩
  cases actual <;> exact ⟨by simp [Soft.fix], fun h => by first | rfl | cases h⟩

theorem svc_request_eq (s : Svc) (r : SvcReq) :
    s.request r = if r.passes s.st = true then ((s.apply r.ev).1, Status.ofBool (s.apply r.ev).2) else (s, .failure) := rfl

/-- behind its validator a method cannot fail: the validator tests the one state from which the method moves (`fix` apart, which
also looks at the health) -/
theorem svc_behind_validator (s : Svc) (r : SvcReq) (hr : r ≠ .fix) (hp : r.passes s.st = true) : (s.apply r.ev).2 = true := by
  rcases s with ⟨st, cd, dur, sw⟩
  cases r <;> first
    | exact absurd rfl hr
    | rfl
    | (simp only [SvcReq.passes, SvcReq.validator, beq_iff_eq] at hp; cases hp; rfl)

/-- **A lifecycle request that reached a service on an ON node succeeds iff the service is in a documented source
state of that request** (both directions, every state, every value of the other fields). -/
theorem C13_service_request_accepted_iff (s : Svc) (r : SvcReq) (hr : r ≠ .fix) :
    (s.request r).2 = .success ↔ s.st ∈ svcSources r := by
  rw [C13_sources_are_validators.1 r s.st, svc_request_eq]
  split
  · rename_i hp
    simp only [ofBool_success, svc_behind_validator s r hr hp, hp]
  · rename_i hp
    exact ⟨nofun, fun h => absurd h hp⟩

/-- `fix` additionally needs something to fix: health GOOD or COMPROMISED (`Software.fix`). -/
theorem C13_service_fix_accepted_iff (s : Svc) :
    (s.request .fix).2 = .success ↔ s.st = .running ∧ (s.sw.actual = .good ∨ s.sw.actual = .compromised) := by
  rw [svc_request_eq]
  have hp : SvcReq.passes .fix s.st = true ↔ s.st = .running := by simp [SvcReq.passes, SvcReq.validator]
  split
  · rename_i h
    show Status.ofBool (s.apply .fix).2 = _ ↔ _
    rw [ofBool_success, svc_apply_fix, (soft_fix_ret s.sw).1]
    exact ⟨fun h2 => ⟨hp.1 h, h2⟩, fun h2 => h2.2⟩
  · rename_i h
    exact ⟨nofun, fun h2 => absurd (hp.2 h2.1) h⟩

/-- a request that reached an application: validator, then the method; `execute` answers "RUNNING afterwards" -/
theorem app_request_eq (a : App) (r : AppReq) :
    a.request r = if r.passes a.st = true then
        ((a.apply r.ev).1, Status.ofBool (if r = .execute then (a.apply r.ev).1.st == .running else (a.apply r.ev).2))
      else (a, .failure) := by
  cases r <;> rfl

/-- every application method but `fix` answers True (or None) -/
theorem app_behind_validator (a : App) (r : AppReq) (hr : r ≠ .fix) : (a.apply r.ev).2 = true := by
  cases r <;> first | exact absurd rfl hr | rfl

theorem C13_application_request_accepted_iff (a : App) (r : AppReq) (hr : r ≠ .fix) (hx : r ≠ .execute) :
    (a.request r).2 = .success ↔ a.st ∈ appSources r := by
  rw [C13_sources_are_validators.2 r a.st, app_request_eq]
  split
  · rename_i hp
    simp only [ofBool_success, app_behind_validator a r hr, hp]
  · rename_i hp
    exact ⟨nofun, fun h => absurd h hp⟩

/-- the generic `execute` opens the application: it succeeds iff the application is RUNNING afterwards, i.e. iff it
was RUNNING or CLOSED (an INSTALLING application cannot be run: `failure`, nothing changes) -/
theorem C13_application_execute_accepted_iff (a : App) :
    (a.request .execute).2 = .success ↔ a.st ≠ .installing := by
  -- no validator; `run` on an ON node leaves RUNNING, opens CLOSED and leaves INSTALLING
  rw [app_request_eq]
  rcases a with ⟨st, cd, dur, sw⟩
  show _ ↔ st ≠ .installing
  cases st <;> first
    | exact ⟨fun _ => by decide, fun _ => rfl⟩
    | exact ⟨nofun, fun h => absurd rfl h⟩

/-- … and after a successful generic `execute` the application is RUNNING -/
theorem C13_application_execute_runs (a : App) (h : (a.request .execute).2 = .success) :
    (a.request .execute).1.st = .running := by
  rw [app_request_eq] at h ⊢
  exact beq_iff_eq.mp ((ofBool_success _).1 h)

theorem C13_application_fix_accepted_iff (a : App) :
    (a.request .fix).2 = .success ↔ a.st = .running ∧ (a.sw.actual = .good ∨ a.sw.actual = .compromised) := by
  rw [app_request_eq]
  have hp : AppReq.passes .fix a.st = true ↔ a.st = .running := by simp [AppReq.passes, AppReq.validator]
  split
  · rename_i h
    show Status.ofBool (a.apply .fix).2 = _ ↔ _
    rw [ofBool_success, app_apply_fix, (soft_fix_ret a.sw).1]
    exact ⟨fun h2 => ⟨hp.1 h, h2⟩, fun h2 => h2.2⟩
  · rename_i h
    exact ⟨nofun, fun h2 => absurd (hp.2 h2.1) h⟩

/-- a refused request changes nothing in the instance -/
theorem C13_service_refused_unchanged (s : Svc) (r : SvcReq) (h : (s.request r).2 ≠ .success) : (s.request r).1 = s := by
  rw [svc_request_eq] at h ⊢
  split
  · -- the validator let it through, so the method answered False: it was `fix`, which then writes nothing
    rename_i hp
    rw [if_pos hp] at h
    have hb : (s.apply r.ev).2 = false := Bool.eq_false_iff.mpr fun hh => h ((ofBool_success _).2 hh)
    by_cases hr : r = .fix
    · subst hr
      rw [show SvcReq.fix.ev = SvcEv.fix from rfl, svc_apply_fix] at hb ⊢
      show ({ s with sw := s.sw.fix.1 } : Svc) = s
      rw [(soft_fix_ret s.sw).2 hb]
    · rw [svc_behind_validator s r hr hp] at hb; cases hb
  · rfl

theorem C13_application_refused_unchanged (a : App) (r : AppReq) (h : (a.request r).2 ≠ .success) : (a.request r).1 = a := by
  rw [app_request_eq] at h ⊢
  split
  · rename_i hp
    rw [if_pos hp] at h
    by_cases hx : r = .execute
    · -- `execute` answers "RUNNING afterwards": refused means INSTALLING, which `run` leaves alone
      subst hx
      rcases a with ⟨st, cd, dur, sw⟩
      cases st <;> first | rfl | exact absurd rfl h
    · rw [if_neg hx] at h
      have hb : (a.apply r.ev).2 = false := Bool.eq_false_iff.mpr fun hh => h ((ofBool_success _).2 hh)
      by_cases hr : r = .fix
      · subst hr
        rw [show AppReq.fix.ev = AppEv.fix from rfl, app_apply_fix] at hb ⊢
        show ({ a with sw := a.sw.fix.1 } : App) = a
        rw [(soft_fix_ret a.sw).2 hb]
      · rw [app_behind_validator a r hr] at hb; cases hb
  · rfl

/-- **Node level, both directions:** the request `[…, 'service', name, r]` answers `success` iff the node is ON, the
name is routed to a service object whose request manager carries the generic routes, and that object is in a
documented source state of `r`.  (Otherwise: `failure` when the node is not ON or the state is wrong,
`unreachable` when nothing is routed under the name.) -/
theorem C13_accepted_iff_source (n : Node) (name : String) (r : SvcReq) (hr : r ≠ .fix) :
    n.svcReqOut name r = .status .success ↔
      n.isOn = true ∧ ∃ u i, dget name n.svcRoutes = some u ∧ n.findSvc u = some i ∧ i.m.cls.baseRoutes = true ∧
        i.s.st ∈ svcSources r := by
  unfold Node.svcReqOut
  cases hon : n.isOn
  · simp
  · cases hd : dget name n.svcRoutes with
    | none => simp
    | some u =>
      cases hf : n.findSvc u with
      | none => simp [hf]
      | some i =>
        cases hb : i.m.cls.baseRoutes
        · simp [hf, hb]
        · simp [hf, hb, C13_service_request_accepted_iff i.s r hr]

theorem C13_application_accepted_iff_source (n : Node) (name : String) (r : AppReq) (hr : r ≠ .fix) (hx : r ≠ .execute) :
    n.appReqOut name r = .status .success ↔
      n.isOn = true ∧ ∃ u i, dget name n.appRoutes = some u ∧ n.findApp u = some i ∧ i.m.cls.baseRoutes = true ∧
        i.a.st ∈ appSources r := by
  unfold Node.appReqOut
  cases hon : n.isOn
  · simp
  · cases hd : dget name n.appRoutes with
    | none => simp
    | some u =>
      cases hf : n.findApp u with
      | none => simp [hf]
      | some i =>
        cases hb : i.m.cls.baseRoutes
        · simp [hf, hb]
        · simp [hf, hb, hx, C13_application_request_accepted_iff i.a r hr hx]

/-- **A refused service request changes nothing** (node level): whenever `[…,'service',name,r]` does not answer `success`
— node not ON, nothing routed, wrong state, or `fix` with nothing to fix — the events it delivers leave every service
object exactly as it was. -/
theorem C13_refused_changes_nothing (n : Node) (name : String) (r : SvcReq) (i : SvcInst)
    (hi : n.findSvc i.m.uid = some i) (h : n.svcReqOut name r ≠ .status .success) :
    i.s.applyAll (n.svcEvs (.svcReq name r) i) = i.s := by
  rw [svcEvs_req]
  split
  · -- the request reached `i`: its answer is the answer of `i`'s request manager, which refused
    rename_i hc
    obtain ⟨hon, hd, hb, hp⟩ := hc
    have hout : n.svcReqOut name r = .status (i.s.request r).2 := by
      simp [Node.svcReqOut, hon, hd, hi, hb]
    have hne : (i.s.request r).2 ≠ .success := fun hh => h (by rw [hout, hh])
    have := C13_service_refused_unchanged i.s r hne
    simp only [Svc.request, hp, if_true] at this
    simpa [Svc.applyAll] using this
  · rfl

/-- **A refused application request changes nothing** (node level; the counterpart of `C13_refused_changes_nothing`): whenever
`[…,'application',name,r]` does not answer `success` — node not ON, nothing routed, wrong state, `fix` with nothing to
fix, the generic `execute` on an INSTALLING application — the events it delivers leave every application object exactly as
it was.  (`unmodelled` = the class registers its own `execute`: that operation is outside this model and excluded.) -/
theorem C13_application_refused_changes_nothing (n : Node) (name : String) (r : AppReq) (i : AppInst)
    (hi : n.findApp i.m.uid = some i) (h : n.appReqOut name r ≠ .status .success) (hx : n.appReqOut name r ≠ .unmodelled) :
    i.a.applyAll (n.appEvs (.appReq name r) i) = i.a := by
  rw [appEvs_req]
  split
  · rename_i hc
    obtain ⟨hon, hd, hb, hg, hp⟩ := hc
    have hout : n.appReqOut name r = .status (i.a.request r).2 := by
      unfold Node.appReqOut
      simp only [hon, Bool.not_true, Bool.false_eq_true, if_false, hd, hi, hb]
      by_cases hr : r = .execute
      · simp [hr, hg hr]
      · simp [hr]
    have hne : (i.a.request r).2 ≠ .success := fun hh => h (by rw [hout, hh])
    have := C13_application_refused_unchanged i.a r hne
    simp only [App.request, hp, if_true] at this
    cases r <;> simpa [App.applyAll] using this
  · rfl

/-- the heap holds one object per uid (true of every reachable node: uids are handed out by a counter) -/
def HeapDistinct (n : Node) : Prop :=
  (∀ i ∈ n.svcs, n.findSvc i.m.uid = some i) ∧ (∀ i ∈ n.apps, n.findApp i.m.uid = some i)

/-- **A refused request leaves the WHOLE node as it was** — every service, every application, every registry, the power
state: for service requests and for application requests alike. -/
theorem C13_refused_node_unchanged (n : Node) (hd : HeapDistinct n) (name : String) :
    (∀ r : SvcReq, n.svcReqOut name r ≠ .status .success → (n.step (.svcReq name r)).1 = n) ∧
    (∀ r : AppReq, n.appReqOut name r ≠ .status .success → n.appReqOut name r ≠ .unmodelled →
      (n.step (.appReq name r)).1 = n) := by
  constructor
  · intro r h
    simp only [Node.step, Node.deliverEvs]
    have h1 : n.svcs.map (fun i => { i with s := i.s.applyAll (n.svcEvs (.svcReq name r) i) }) = n.svcs :=
      map_eq_self (fun i hi => by rw [C13_refused_changes_nothing n name r i (hd.1 i hi) h])
    have h2 : n.apps.map (fun i => { i with a := i.a.applyAll (n.appEvs (.svcReq name r) i) }) = n.apps :=
      map_eq_self (fun i _ => by
        rw [appEvs_nil_of_fan_none n _ i (by intros; simp) (by intros; simp) rfl rfl]; rfl)
    rw [h1, h2]
  · intro r h hx
    simp only [Node.step, Node.deliverEvs]
    have h1 : n.svcs.map (fun i => { i with s := i.s.applyAll (n.svcEvs (.appReq name r) i) }) = n.svcs :=
      map_eq_self (fun i _ => by
        rw [svcEvs_nil_of_fan_none n _ i (by intros; simp) (by intros; simp) rfl rfl]; rfl)
    have h2 : n.apps.map (fun i => { i with a := i.a.applyAll (n.appEvs (.appReq name r) i) }) = n.apps :=
      map_eq_self (fun i hi => by rw [C13_application_refused_changes_nothing n name r i (hd.2 i hi) h hx])
    rw [h1, h2]

def HeapNodup (n : Node) : Prop := (n.svcs.map (·.m.uid)).Nodup ∧ (n.apps.map (·.m.uid)).Nodup

theorem heapDistinct_of_nodup (n : Node) (h : HeapNodup n) : HeapDistinct n :=
  ⟨fun i hi => find?_key_of_nodup (fun j : SvcInst => j.m.uid) n.svcs h.1 i hi,
   fun i hi => find?_key_of_nodup (fun j : AppInst => j.m.uid) n.apps h.2 i hi⟩

theorem heapNodup_step (n : Node) (es : List Entry) (hr : Rep n es) (h : HeapNodup n) (op : Op) : HeapNodup (n.step op).1 := by
  have k := step_kind n op
  generalize n.step op = r at k ⊢
  -- uids are handed out by the counter, which is above every uid in the heaps
  have freshS : n.next ∉ n.svcs.map (·.m.uid) := fun hx => by
    obtain ⟨i, hi, e⟩ := List.mem_map.mp hx
    exact Nat.lt_irrefl _ (e ▸ hr.heapSvcLt i hi)
  have freshA : n.next ∉ n.apps.map (·.m.uid) := fun hx => by
    obtain ⟨i, hi, e⟩ := List.mem_map.mp hx
    exact Nat.lt_irrefl _ (e ▸ hr.heapAppLt i hi)
  have same : ∀ n' : Node, n'.svcs = n.svcs → n'.apps = n.apps → HeapNodup n' := fun n' h1 h2 => by
    unfold HeapNodup; rw [h1, h2]; exact h
  have installed : ∀ (n' : Node) c cfg l hl f, n.installApp c cfg l hl f = some n' → HeapNodup n' := by
    intro n' c cfg l hl f hi
    obtain ⟨hs, ha, _⟩ := installApp_heap n n' c cfg l hl f hi
    rcases ha with ha | ⟨ha, _⟩
    · exact same n' hs ha
    · unfold HeapNodup
      rw [hs, ha, List.map_append]
      exact ⟨h.1, nodup_snoc _ _ h.2 freshA⟩
  cases k with
  | idle p up down out _ => exact h
  | deliver p up down out _ =>
    unfold HeapNodup Node.deliverEvs
    simp only [List.map_map]
    exact h
  | uninstall name n' out hu _ => exact same n' (uninstall_heap n n' name hu).1 (uninstall_heap n n' name hu).2.1
  | installSvc c cfg l hl f n' _ hi _ =>
    obtain ⟨hs, ha, _⟩ := installSvc_heap n n' c cfg l hl f hi
    rcases hs with hs | hs
    · exact same n' hs ha
    · unfold HeapNodup
      rw [hs, ha, List.map_append]
      exact ⟨nodup_snoc _ _ h.1 freshS, h.2⟩
  | installApp c cfg l hl f n' out _ hi _ => exact installed n' c cfg l hl f hi
  | reqInstall name c l n1 out _ hi _ _ =>
    -- `install()` on the new object does not touch uids
    have := installed n1 c false l .good 2 hi
    unfold HeapNodup at this ⊢
    simp only [List.map_map]
    exact this

theorem heapNodup_run (ops : List Op) (n : Node) (es : List Entry) (hr : Rep n es) (h : HeapNodup n) : HeapNodup (n.run ops) :=
  (run_invariant (fun n => (∃ es, Rep n es) ∧ HeapNodup n)
    (fun n op ⟨⟨es, hr⟩, h⟩ => ⟨rep_step n es hr op, heapNodup_step n es hr h op⟩) ops n ⟨⟨es, hr⟩, h⟩).2

/-- **On every node reachable from the empty one, a refused request — service or application — leaves the whole node as
it was** (`HeapDistinct` is an invariant: uids are handed out by a counter). -/
theorem C13_refused_changes_nothing_reachable (p : Power) (up down : Int) (ops : List Op) (name : String) :
    let n := Node.run { power := p, upDur := up, downDur := down } ops
    (∀ r : SvcReq, n.svcReqOut name r ≠ .status .success → (n.step (.svcReq name r)).1 = n) ∧
    (∀ r : AppReq, n.appReqOut name r ≠ .status .success → n.appReqOut name r ≠ .unmodelled →
      (n.step (.appReq name r)).1 = n) := by
  intro n
  have hn : HeapNodup n := heapNodup_run ops _ [] (C13_rep_init p up down) ⟨by simp, by simp⟩
  exact C13_refused_node_unchanged n (heapDistinct_of_nodup n hn) name

/-- non-vacuity: an INSTALLING application refuses `close` and the generic `execute`, a CLOSED one refuses `scan`; the node is
unchanged each time -/
example :
    let c : Cls := { name := "database-client", port := 5432, proto := 1 }
    let n := ({} : Node).run [.reqInstall "database-client" (some (c, []))]
    n.appReqOut "database-client" .close = .status .failure ∧ n.appReqOut "database-client" .execute = .status .failure ∧
    ((n.step (.appReq "database-client" .execute)).1.findApp 0).map (·.a.st) = some .installing := by decide +kernel

/-- non-vacuity: a RUNNING service routed on an ON node accepts `pause`, refuses `start` -/
example :
    let n : Node := ({} : Node).registerSvc { name := "dns-client", port := 53, proto := 1 } [] .good 2
    n.svcReqOut "dns-client" .pause = .status .success ∧ n.svcReqOut "dns-client" .start = .status .failure ∧
    n.svcReqOut "nope" .pause = .status .unreachable := by decide +kernel

/-- the events of a list applied one after the other, and the ticks among them: the trace `Health.Counted.not_early` counts along -/
theorem svcCounted :
    Health.Counted (fun (s : Svc) e => (s.apply e).1) (fun _ e => e == .tick) Svc.applyAll (fun _ evs => evs.count .tick) :=
  ⟨fun _ => rfl, fun _ _ _ => rfl, fun _ => rfl, fun _ _ _ => by rw [List.count_cons, Nat.add_comm]⟩

theorem appCounted :
    Health.Counted (fun (a : App) e => (a.apply e).1) (fun _ e => e == .tick) App.applyAll (fun _ evs => evs.count .tick) :=
  ⟨fun _ => rfl, fun _ _ _ => rfl, fun _ => rfl, fun _ _ _ => by rw [List.count_cons, Nat.add_comm]⟩

theorem svc_applyAll_append (l1 l2 : List SvcEv) (s : Svc) : s.applyAll (l1 ++ l2) = (s.applyAll l1).applyAll l2 := by
  induction l1 generalizing s with
  | nil => rfl
  | cons e t ih => simp only [List.cons_append, Svc.applyAll]; exact ih _

theorem svc_restarting_inert (s : Svc) (e : SvcEv) (hs : s.st = .restarting) (h1 : e ≠ .disable) (h2 : e ≠ .tick) :
    (s.apply e).1.st = .restarting ∧ (s.apply e).1.cd = s.cd := by
  rcases s with ⟨st, cd, dur, sw⟩
  cases hs
  cases e <;> first
    | exact absurd rfl h1
    | exact absurd rfl h2
    | (rename_i on; cases on <;> simp [Svc.apply, Svc.start])
    | simp [Svc.apply, Svc.stop, Svc.pause, Svc.resume, Svc.restart, Svc.enable]
    | (simp only [Svc.apply]; split; simp)

theorem svc_restarting_tick (s : Svc) (c : Int) (hs : s.st = .restarting) (hc : s.cd = some c) :
    (s.apply .tick).1.cd = some (c - 1) ∧ (s.apply .tick).1.st = (if c ≤ 0 then .running else .restarting) := by
  rcases s with ⟨st, cd, dur, sw⟩
  cases hs; cases hc
  simp [Svc.apply, Svc.tick]

/-- **`restart_timing`.**  A service RESTARTING with countdown `c` (= `restart_duration` at the moment of the restart),
under *any* sequence of events that does not `disable` it: it stays RESTARTING through its first `max(c,0)` ticks,
counting down, whatever else is called on it in between … -/
theorem C13_restart_timing_before (evs : List SvcEv) (s : Svc) (c : Int) (hs : s.st = .restarting) (hc : s.cd = some c)
    (hd : SvcEv.disable ∉ evs) (hk : (evs.count .tick : Int) ≤ max c 0) :
    (s.applyAll evs).st = .restarting ∧ (s.applyAll evs).cd = some (c - evs.count .tick) := by
  -- restart tests before it decrements: the process stands at `c + 1`
  have := svcCounted.not_early (fun s c' => s.st = .restarting ∧ s.cd = some (c' - 1)) (· ≠ .disable) ?_ evs s (c + 1)
    ⟨hs, by simpa using hc⟩ (fun e he h => hd (h ▸ he)) (by omega)
  · exact ⟨this.1, this.2.trans (congrArg some (by omega))⟩
  · intro s e c' ⟨h1, h2⟩ hne
    refine ⟨fun he hc' => ?_, fun he => ?_⟩
    · rw [beq_iff_eq.mp he]
      obtain ⟨g1, g2⟩ := svc_restarting_tick s _ h1 h2
      exact ⟨by rw [g2, if_neg (by omega)], g1⟩
    · obtain ⟨g1, g2⟩ := svc_restarting_inert s e h1 hne (by simpa using he)
      exact ⟨g1, g2.trans h2⟩

/-- … and the tick after those, i.e. tick number `max(c,0) + 1` (= `d + 1` for `restart_duration = d ≥ 0`), makes it RUNNING. -/
theorem C13_restart_timing_completes (pre : List SvcEv) (s : Svc) (c : Int) (hs : s.st = .restarting) (hc : s.cd = some c)
    (hd : SvcEv.disable ∉ pre) (hk : (pre.count .tick : Int) = max c 0) :
    (s.applyAll (pre ++ [.tick])).st = .running := by
  obtain ⟨h1, h2⟩ := C13_restart_timing_before pre s c hs hc hd (by omega)
  rw [svc_applyAll_append]
  show ((s.applyAll pre).apply .tick).1.st = _
  obtain ⟨_, h4⟩ := svc_restarting_tick (s.applyAll pre) _ h1 h2
  rw [h4]
  have : c - (pre.count .tick : Int) ≤ 0 := by omega
  simp [this]

/-- non-vacuity and the concrete figure: `restart_duration = 2`: RESTARTING after 2 ticks (with unrelated calls in
between), RUNNING after the 3rd -/
example :
    let s : Svc := ((({ st := .running, dur := 2, sw := { actual := .good } } : Svc).apply .restart).1)
    (s.applyAll [.tick, .pause, .scan, .tick]).st = .restarting ∧ (s.applyAll [.tick, .pause, .scan, .tick, .tick]).st = .running := by
  decide +kernel

theorem app_applyAll_append (l1 l2 : List AppEv) (a : App) : a.applyAll (l1 ++ l2) = (a.applyAll l1).applyAll l2 := by
  induction l1 generalizing a with
  | nil => rfl
  | cons e t ih => simp only [List.cons_append, App.applyAll]; exact ih _

theorem app_installing_inert (a : App) (e : AppEv) (hs : a.st = .installing) (h1 : e ≠ .forceClosed) (h2 : e ≠ .tick) :
    (a.apply e).1.st = .installing ∧ (a.apply e).1.cd = a.cd := by
  rcases a with ⟨st, cd, dur, sw⟩
  cases hs
  cases e <;> first
    | exact absurd rfl h1
    | exact absurd rfl h2
    | (rename_i on; cases on <;> simp [App.apply, App.run])
    | simp [App.apply, App.close, App.install]
    | (simp only [App.apply]; split; simp)

theorem app_installing_tick (a : App) (c : Int) (hs : a.st = .installing) (hc : a.cd = some c) :
    (a.apply .tick).1.st = (if c - 1 ≤ 0 then .running else .installing) ∧
    (a.apply .tick).1.cd = (if c - 1 ≤ 0 then none else some (c - 1)) ∧
    (c - 1 ≤ 0 → (a.apply .tick).1.sw.actual = .good) := by
  rcases a with ⟨st, cd, dur, sw⟩
  cases hs; cases hc
  rw [app_tick_installing]
  split
  · exact ⟨rfl, rfl, fun _ => rfl⟩
  · exact ⟨rfl, rfl, fun h => absurd h ‹_›⟩

/-- **`install_timing`.**  An application INSTALLING with countdown `c` (= `install_duration`), under any sequence of
method calls: still INSTALLING while fewer than `max(1,c)` ticks have reached it … -/
theorem C13_install_timing_before (evs : List AppEv) (a : App) (c : Int) (hs : a.st = .installing) (hc : a.cd = some c)
    (hd : AppEv.forceClosed ∉ evs) (hk : (evs.count .tick : Int) < max c 1) :
    (a.applyAll evs).st = .installing ∧ (a.applyAll evs).cd = some (c - evs.count .tick) := by
  refine appCounted.not_early (fun a c => a.st = .installing ∧ a.cd = some c) (· ≠ .forceClosed) ?_ evs a c
    ⟨hs, hc⟩ (fun e he h => hd (h ▸ he)) (by omega)
  intro a e c ⟨h1, h2⟩ hne
  refine ⟨fun he hc' => ?_, fun he => ?_⟩
  · rw [beq_iff_eq.mp he]
    obtain ⟨g1, g2, _⟩ := app_installing_tick a c h1 h2
    rw [if_neg (by omega)] at g1 g2
    exact ⟨g1, g2⟩
  · obtain ⟨g1, g2⟩ := app_installing_inert a e h1 hne (by simpa using he)
    exact ⟨g1, g2.trans h2⟩

/-- … and tick number `max(1,c)` makes it RUNNING with health GOOD and the countdown cleared. -/
theorem C13_install_timing_completes (pre : List AppEv) (a : App) (c : Int) (hs : a.st = .installing) (hc : a.cd = some c)
    (hd : AppEv.forceClosed ∉ pre) (hk : (pre.count .tick : Int) = max c 1 - 1) :
    (a.applyAll (pre ++ [.tick])).st = .running ∧ (a.applyAll (pre ++ [.tick])).cd = none ∧
    (a.applyAll (pre ++ [.tick])).sw.actual = .good := by
  obtain ⟨h1, h2⟩ := C13_install_timing_before pre a c hs hc hd (by omega)
  rw [app_applyAll_append]
  show ((a.applyAll pre).apply .tick).1.st = _ ∧ ((a.applyAll pre).apply .tick).1.cd = _ ∧ ((a.applyAll pre).apply .tick).1.sw.actual = _
  obtain ⟨h3, h4, h5⟩ := app_installing_tick (a.applyAll pre) _ h1 h2
  have : c - (pre.count .tick : Int) - 1 ≤ 0 := by omega
  simp only [this, if_true] at h3 h4
  exact ⟨h3, h4, h5 this⟩

example :
    let a : App := ((({ st := .closed, dur := 2, sw := { actual := .good } } : App).apply .install).1)
    (a.applyAll [.tick, .scan]).st = .installing ∧ (a.applyAll [.tick, .scan, .tick]).st = .running := by decide +kernel

/-- `install_duration = 0` (and negative values) still take one tick: the first tick completes the install -/
example : ((({ st := .closed, dur := 0, sw := { actual := .good } } : App).apply .install).1.applyAll [.tick]).st = .running := by
  decide +kernel

/-- **Ticks reach a service only from `Node.apply_timestep` while the node is ON after its power countdowns (and the
service is in `node.services`), or from a direct call of its `apply_timestep`**: the countdown is suspended while
the node is not ON. -/
theorem C13_tick_delivered_iff (n : Node) (op : Op) (i : SvcInst) :
    SvcEv.tick ∈ n.svcEvs op i ↔
      (op = .tick ∧ n.services.contains i.m.uid = true ∧ n.powerTick.1 = .on) ∨ op = .svcApi i.m.uid .tick := by
  constructor
  · intro h
    rcases svcEvs_shape n op i with ⟨e, he, hte⟩ | ⟨f, hf, t, ht, htt⟩
    · rw [he] at h; exact Or.inr (hte (List.mem_singleton.mp h).symm)
    · cases t
      · rw [ht] at h; rcases hf with rfl | rfl | rfl <;> simp at h
      · exact Or.inl (htt rfl)
  · rintro (⟨rfl, hc, hp⟩ | rfl)
    · simpa [Node.svcEvs, Node.ticks, hp] using hc
    · simp [Node.svcEvs]

/-- **Unrelated requests deliver nothing**: a service request routed to another object (or to nothing, or sent
while the node is not ON) leaves this service without any event; application requests, install/uninstall of
anything, payloads and frames never deliver a service event at all. -/
theorem C13_unrelated_delivers_nothing (n : Node) (i : SvcInst) :
    (∀ name r, dget name n.svcRoutes ≠ some i.m.uid → n.svcEvs (.svcReq name r) i = []) ∧
    (∀ name r, n.svcEvs (.appReq name r) i = []) ∧
    (∀ u e, n.svcEvs (.appApi u e) i = []) ∧
    (∀ c g l h f, n.svcEvs (.installSvc c g l h f) i = [] ∧ n.svcEvs (.installApp c g l h f) i = []) ∧
    (∀ name c, n.svcEvs (.reqInstall name c) i = [] ∧ n.svcEvs (.reqUninstall name) i = [] ∧ n.svcEvs (.uninstall name) i = []) ∧
    (∀ p pr sc h, n.svcEvs (.deliver p pr sc) i = [] ∧ n.svcEvs (.frame h sc) i = []) := by
  refine ⟨?_, ?_, ?_, ?_, ?_, ?_⟩
  · intro name r hne
    rw [svcEvs_req, if_neg (fun h => hne h.2.1)]
  all_goals (intros; simp [Node.svcEvs, Node.fanSvc, Node.fan, Node.ticks])

/- `svcTrace n u ops` is the sequence of lifecycle events that the run `ops`, started in node state `n`, delivers to the
service object `u` (an operation that raises delivers nothing and leaves the node as it was). -/

/-- the events operation `op` delivers to service object `u` in node state `n` (none when `op` raises) -/
def svcEvsOf (n : Node) (u : Nat) (op : Op) : List SvcEv :=
  match n.findSvc u with
  | some i => if (n.step op).2 = .raised then [] else n.svcEvs op i
  | none => []

def svcTrace (n : Node) (u : Nat) : List Op → List SvcEv
  | [] => []
  | op :: ops => svcEvsOf n u op ++ svcTrace (n.step op).1 u ops

/-- is a tick delivered to service `u` by `op` in state `n`: `Node.apply_timestep` with the node ON after its power
countdowns and `u` in `node.services`, or `apply_timestep` called on the object itself -/
def tickOp (n : Node) (u : Nat) : Op → Bool
  | .tick => n.services.contains u && (n.powerTick.1 == .on)
  | .svcApi v e => v == u && e == .tick
  | _ => false

def tickTo (n : Node) (u : Nat) (op : Op) : Bool :=
  tickOp n u op && !((n.step op).2 == .raised) && (n.findSvc u).isSome

theorem tickOp_iff (n : Node) (u : Nat) (op : Op) :
    tickOp n u op = true ↔ (op = .tick ∧ n.services.contains u = true ∧ n.powerTick.1 = .on) ∨ op = .svcApi u .tick := by
  cases op <;> simp [tickOp]

def ticksTo (n : Node) (u : Nat) : List Op → Nat
  | [] => 0
  | op :: ops => (if tickTo n u op then 1 else 0) + ticksTo (n.step op).1 u ops

theorem step_raised_findSvc (n : Node) (op : Op) (u : Nat) (i : SvcInst) (h : n.findSvc u = some i)
    (hr : (n.step op).2 = .raised) : (n.step op).1.findSvc u = some i := by
  have k := step_kind n op
  generalize n.step op = r at k hr ⊢
  have same : ∀ n' : Node, n'.svcs = n.svcs → n'.findSvc u = some i := by
    intro n' hs; show n'.svcs.find? _ = _; rw [hs]; exact h
  cases k with
  | idle p up down out _ => exact same _ rfl
  | deliver p up down out hq =>
    have hd := findSvc_deliver n op u i h
    rw [(hq hr).1 u i h] at hd
    exact hd
  | uninstall name n' out hu _ => exact same n' (uninstall_heap n n' name hu).1
  | installSvc c cfg l hl f n' _ hi _ => cases hr
  | installApp c cfg l hl f n' out _ hi _ => exact same n' (installApp_heap n n' c cfg l hl f hi).1
  | reqInstall name c l n1 out _ hi _ _ => exact same _ (installApp_heap n n1 c false l .good 2 hi).1

theorem step_service_total (n : Node) (op : Op) (u : Nat) (i : SvcInst) (h : n.findSvc u = some i) :
    (n.step op).1.findSvc u = some { i with s := i.s.applyAll (svcEvsOf n u op) } := by
  unfold svcEvsOf
  rw [h]
  by_cases hr : (n.step op).2 = .raised
  · simp only [hr, if_true]
    exact step_raised_findSvc n op u i h hr
  · simp only [hr, if_false]
    exact C13_step_service n op u i h hr

/-- **Refinement along a whole run.**  For every node state, every service object `u` and EVERY operation sequence
(raising operations included), the object after the run is the object before with exactly `svcTrace` applied. -/
theorem C13_run_service (ops : List Op) (n : Node) (u : Nat) (i : SvcInst) (h : n.findSvc u = some i) :
    (n.run ops).findSvc u = some { i with s := i.s.applyAll (svcTrace n u ops) } := by
  induction ops generalizing n i with
  | nil => exact h
  | cons op ops ih =>
    have h1 := step_service_total n op u i h
    have := ih (n.step op).1 _ h1
    simp only [Node.run, svcTrace]
    rw [this, svc_applyAll_append]

theorem svcEvs_tick_last (n : Node) (op : Op) (i : SvcInst) :
    SvcEv.tick ∉ n.svcEvs op i ∨
    ∃ pre, n.svcEvs op i = pre ++ [SvcEv.tick] ∧ SvcEv.tick ∉ pre ∧ SvcEv.disable ∉ pre := by
  rcases svcEvs_shape n op i with ⟨e, he, _⟩ | ⟨f, hfs, t, ht, _⟩
  · by_cases hte : e = .tick
    · exact Or.inr ⟨[], by rw [he, hte]; rfl, by simp, by simp⟩
    · exact Or.inl (by rw [he]; simpa using fun h => hte h.symm)
  · cases t
    · left; rw [ht]; rcases hfs with rfl | rfl | rfl <;> simp
    · right; refine ⟨f, by rw [ht]; rfl, ?_, ?_⟩ <;> rcases hfs with rfl | rfl | rfl <;> simp

theorem count_tick_svcEvsOf (n : Node) (u : Nat) (op : Op) :
    (svcEvsOf n u op).count .tick = if tickTo n u op then 1 else 0 := by
  unfold svcEvsOf tickTo
  cases hf : n.findSvc u with
  | none => simp
  | some i =>
    have hiu : i.m.uid = u := findSvc_uid hf
    by_cases hr : (n.step op).2 = .raised
    · simp [hr]
    · have hmem := C13_tick_delivered_iff n op i
      rw [hiu] at hmem
      have hb : tickOp n u op = true ↔ SvcEv.tick ∈ n.svcEvs op i := by
        rw [hmem]; exact tickOp_iff n u op
      have hcnt : (n.svcEvs op i).count .tick = if SvcEv.tick ∈ n.svcEvs op i then 1 else 0 := by
        rcases svcEvs_tick_last n op i with hno | ⟨pre, hp, hpre, _⟩
        · rw [if_neg hno]; exact List.count_eq_zero.mpr hno
        · rw [hp, List.count_append, List.count_eq_zero.mpr hpre]; simp
      simp only [hr, if_false, Option.isSome_some, Bool.and_true, hcnt]
      have hr' : ((n.step op).2 == Out.raised) = false := by simpa using hr
      simp only [hr', Bool.not_false, Bool.and_true]
      by_cases hm : SvcEv.tick ∈ n.svcEvs op i
      · rw [if_pos hm, if_pos (hb.mpr hm)]
      · rw [if_neg hm, if_neg (fun h => hm (hb.mp h))]

theorem count_tick_svcTrace (ops : List Op) (n : Node) (u : Nat) :
    (svcTrace n u ops).count .tick = ticksTo n u ops := by
  induction ops generalizing n with
  | nil => rfl
  | cons op ops ih => simp only [svcTrace, ticksTo, List.count_append, count_tick_svcEvsOf, ih]

/-- **`restart_timing` at node level, one theorem over `Node.run`.**  Service object `u` is RESTARTING with countdown `c`
(`= restart_duration` when the restart was accepted).  For EVERY operation sequence `ops` — requests to this or any other
software, API calls, installs/uninstalls, power events, payloads, raising operations — that never delivers it a `disable`:
* while the run has delivered it at most `max(c,0)` ticks (ticks = `apply_timestep` of the node while it is ON after its
  power countdowns and `u` is in `node.services`, or `apply_timestep` of the object), it is still RESTARTING and its
  countdown is `c −` that number: the restart is suspended while the node is not ON, unaffected by anything else;
* the operation that delivers tick number `max(c,0)+1` makes it RUNNING. -/
theorem C13_node_restart_timing (ops : List Op) (n : Node) (u : Nat) (i : SvcInst) (c : Int)
    (h : n.findSvc u = some i) (hs : i.s.st = .restarting) (hc : i.s.cd = some c)
    (hd : SvcEv.disable ∉ svcTrace n u ops) :
    ((ticksTo n u ops : Int) ≤ max c 0 →
      ∃ j, (n.run ops).findSvc u = some j ∧ j.m = i.m ∧ j.s.st = .restarting ∧ j.s.cd = some (c - ticksTo n u ops)) ∧
    (∀ op, (ticksTo n u ops : Int) = max c 0 → tickTo (n.run ops) u op = true →
      ∃ j, ((n.run ops).step op).1.findSvc u = some j ∧ j.m = i.m ∧ j.s.st = .running) := by
  have hrun := C13_run_service ops n u i h
  have hcount := count_tick_svcTrace ops n u
  constructor
  · intro hk
    obtain ⟨h1, h2⟩ := C13_restart_timing_before (svcTrace n u ops) i.s c hs hc hd (by rw [hcount]; exact hk)
    exact ⟨_, hrun, rfl, h1, by rw [h2, hcount]⟩
  · intro op hk ht
    have hstep := step_service_total (n.run ops) op u _ hrun
    refine ⟨_, hstep, rfl, ?_⟩
    -- the events of `op` are some fan-out events (no tick, no disable) followed by the tick
    have hc1 : (svcEvsOf (n.run ops) u op).count .tick = 1 := by rw [count_tick_svcEvsOf, ht]; rfl
    obtain ⟨pre, hsplit, hpre, hdpre⟩ :
        ∃ pre, svcEvsOf (n.run ops) u op = pre ++ [SvcEv.tick] ∧ SvcEv.tick ∉ pre ∧ SvcEv.disable ∉ pre := by
      unfold svcEvsOf at hc1 ⊢
      rw [hrun] at hc1 ⊢
      simp only at hc1 ⊢
      split at hc1
      · simp at hc1
      · rename_i hnr
        rw [if_neg hnr]
        rcases svcEvs_tick_last (n.run ops) op _ with hno | hyes
        · rw [List.count_eq_zero.mpr hno] at hc1; cases hc1
        · exact hyes
    show (Svc.applyAll _ (svcEvsOf (n.run ops) u op)).st = .running
    rw [hsplit, ← svc_applyAll_append, ← List.append_assoc]
    apply C13_restart_timing_completes (svcTrace n u ops ++ pre) i.s c hs hc
    · simp only [List.mem_append, not_or]; exact ⟨hd, hdpre⟩
    · rw [List.count_append, hcount, List.count_eq_zero.mpr hpre]; simpa using hk

/-- non-vacuity and the concrete figure at node level: dns-client with `restart_duration` 5 (default) on an ON node is
restarted; a shutdown/startup cycle and unrelated operations in between; the ticks delivered while the node is not ON do
not count: RESTARTING as long as at most 5 ticks reached it, RUNNING with the 6th. -/
example :
    let c : Cls := { cid := "DNSClient", name := "dns-client", port := 53, proto := 1 }
    let n0 := ({ upDur := 1, downDur := 1 } : Node).run [.installSvc c true [] .good 2, .svcReq "dns-client" .restart]
    let ops : List Op := [.tick, .svcReq "dns-client" .pause, .reqShutdown, .tick, .tick, .reqStartup, .tick, .tick,
                          .installApp { cid := "NMAP", name := "nmap", port := 0, proto := 0 } false [] .good 2, .tick, .tick, .tick]
    ticksTo n0 0 ops = 5 ∧ ((n0.run ops).findSvc 0).map (·.s.st) = some .restarting ∧
    tickTo (n0.run ops) 0 .tick = true ∧ (((n0.run ops).step .tick).1.findSvc 0).map (·.s.st) = some .running := by decide +kernel

theorem soft_tick_ok (w : Soft) (h : w.tickOk = true) : w.tick.tickOk = true := by
  rcases w with ⟨actual, visible, fixCd, fixDur, fixCount⟩
  cases actual <;> cases fixCd <;> first | exact h | skip
  -- FIXING with a countdown: the fix completes (GOOD) or the countdown stays set
  rename_i c
  show Soft.tickOk (if c - 1 ≤ 0 then _ else _) = true
  split <;> rfl

theorem soft_goodIfUnused_ok (w : Soft) (h : w.tickOk = true) : w.goodIfUnused.tickOk = true := by
  rcases w with ⟨actual, visible, fixCd, fixDur, fixCount⟩
  cases actual <;> first | exact h | rfl

/-- `fix` enters FIXING only together with loading the countdown -/
theorem soft_fix_ok (w : Soft) (h : w.tickOk = true) : w.fix.1.tickOk = true := by
  rcases w with ⟨actual, visible, fixCd, fixDur, fixCount⟩
  cases actual <;> first | exact h | rfl

theorem soft_configured_ok (hl : Health) (f : Int) : (Soft.configured hl f).tickOk = true := by
  cases hl <;> rfl

/-- `Service.apply_timestep` meets no `None`: the `Software` part does not, and a RESTARTING service has its countdown set. -/
theorem svc_tickOk_iff (s : Svc) : s.tickOk = true ↔ s.sw.tickOk = true ∧ (s.st = .restarting → s.cd.isSome = true) := by
  rcases s with ⟨st, cd, dur, sw⟩
  cases st <;> cases cd <;> simp [Svc.tickOk]

/-- every service method keeps "`apply_timestep` would not raise": the only way into RESTARTING sets the countdown, the only
way into FIXING sets the fixing countdown, and nothing clears a countdown while it is needed -/
theorem svc_tickOk_preserved (s : Svc) (e : SvcEv) (h : s.tickOk = true) : (s.apply e).1.tickOk = true := by
  rw [svc_tickOk_iff] at h ⊢
  obtain ⟨hw, hc⟩ := h
  rcases s with ⟨st, cd, dur, sw⟩
  cases e with
  | start on =>
    cases on
    · exact ⟨hw, hc⟩
    · cases st with
      | stopped => exact ⟨soft_goodIfUnused_ok sw hw, nofun⟩
      | _ => exact ⟨hw, hc⟩
  | stop | pause | resume | enable =>
    -- these leave a RESTARTING service alone, and lead nowhere near RESTARTING from any other state
    cases st with
    | restarting => exact ⟨hw, hc⟩
    | _ => exact ⟨hw, nofun⟩
  | restart => cases st with
    | running => exact ⟨hw, fun _ => rfl⟩
    | paused => exact ⟨hw, fun _ => rfl⟩
    | _ => exact ⟨hw, hc⟩
  | disable => exact ⟨hw, nofun⟩
  | scan | setDur r f => exact ⟨hw, hc⟩
  | fix => rw [svc_apply_fix]; exact ⟨soft_fix_ok sw hw, hc⟩
  | compromise => exact ⟨rfl, hc⟩
  | tick =>
    have hw' := soft_tick_ok sw hw
    cases st with
    | restarting => cases cd with
      | none => exact ⟨hw', hc⟩
      | some c => exact ⟨hw', fun _ => rfl⟩
    | _ => exact ⟨hw', hc⟩

theorem app_tickOk_iff (a : App) : a.tickOk = true ↔ a.sw.tickOk = true ∧ (a.st = .installing → a.cd.isSome = true) := by
  rcases a with ⟨st, cd, dur, sw⟩
  cases st <;> cases cd <;> simp [App.tickOk]

theorem app_tickOk_preserved (a : App) (e : AppEv) (h : a.tickOk = true) : (a.apply e).1.tickOk = true := by
  rw [app_tickOk_iff] at h ⊢
  obtain ⟨hw, hc⟩ := h
  rcases a with ⟨st, cd, dur, sw⟩
  cases e with
  | run on =>
    cases on
    · exact ⟨hw, hc⟩
    · cases st with
      | closed => exact ⟨soft_goodIfUnused_ok sw hw, nofun⟩
      | _ => exact ⟨hw, hc⟩
  | close => cases st with
    | installing => exact ⟨hw, hc⟩
    | _ => exact ⟨hw, nofun⟩
  | install => cases st with
    | closed => exact ⟨hw, fun _ => rfl⟩
    | _ => exact ⟨hw, hc⟩
  | forceClosed => exact ⟨hw, nofun⟩
  | scan | setDur r f => exact ⟨hw, hc⟩
  | fix => rw [app_apply_fix]; exact ⟨soft_fix_ok sw hw, hc⟩
  | compromise => exact ⟨rfl, hc⟩
  | tick =>
    have hw' := soft_tick_ok sw hw
    cases st with
    | installing => cases cd with
      | none => exact ⟨hw', hc⟩
      | some c =>
        -- the install completes (RUNNING, health forced GOOD) or counts down with the countdown still set
        rw [app_tick_installing]
        split
        · exact ⟨rfl, nofun⟩
        · exact ⟨hw', fun _ => rfl⟩
    | _ => exact ⟨hw', hc⟩

theorem svc_tickOk_applyAll (evs : List SvcEv) (s : Svc) (h : s.tickOk = true) : (s.applyAll evs).tickOk = true := by
  induction evs generalizing s with
  | nil => exact h
  | cons e es ih => exact ih _ (svc_tickOk_preserved s e h)

theorem app_tickOk_applyAll (evs : List AppEv) (a : App) (h : a.tickOk = true) : (a.applyAll evs).tickOk = true := by
  induction evs generalizing a with
  | nil => exact h
  | cons e es ih => exact ih _ (app_tickOk_preserved a e h)

/-- every object on the node could be ticked without `TypeError` -/
def WellTimed (n : Node) : Prop := (∀ i ∈ n.svcs, i.s.tickOk = true) ∧ (∀ i ∈ n.apps, i.a.tickOk = true)

theorem wellTimed_deliver (n : Node) (op : Op) (h : WellTimed n) : WellTimed (n.deliverEvs op) := by
  constructor
  · intro i hi
    simp only [Node.deliverEvs, List.mem_map] at hi
    obtain ⟨j, hj, rfl⟩ := hi
    exact svc_tickOk_applyAll _ _ (h.1 j hj)
  · intro i hi
    simp only [Node.deliverEvs, List.mem_map] at hi
    obtain ⟨j, hj, rfl⟩ := hi
    exact app_tickOk_applyAll _ _ (h.2 j hj)

theorem wellTimed_of_heap_eq (n n' : Node) (h : WellTimed n) (h1 : n'.svcs = n.svcs) (h2 : n'.apps = n.apps) : WellTimed n' := by
  unfold WellTimed; rw [h1, h2]; exact h

theorem wellTimed_installSvc (n n' : Node) (c cfg l hl f) (h : WellTimed n)
    (hi : n.installSvc c cfg l hl f = some n') : WellTimed n' := by
  obtain ⟨hs, ha, _⟩ := installSvc_heap n n' c cfg l hl f hi
  unfold WellTimed
  rw [ha]
  refine ⟨?_, h.2⟩
  rcases hs with hs | hs
  · rw [hs]; exact h.1
  · rw [hs]
    exact List.forall_mem_append.mpr ⟨h.1, List.forall_mem_singleton.mpr
      (svc_tickOk_preserved _ (.start n.isOn) ((svc_tickOk_iff _).2 ⟨soft_configured_ok hl f, nofun⟩))⟩

theorem wellTimed_installApp (n n' : Node) (c cfg l hl f) (h : WellTimed n)
    (hi : n.installApp c cfg l hl f = some n') : WellTimed n' := by
  obtain ⟨hs, ha, _⟩ := installApp_heap n n' c cfg l hl f hi
  unfold WellTimed
  rw [hs]
  refine ⟨h.1, ?_⟩
  rcases ha with ha | ⟨ha, _⟩
  · rw [ha]; exact h.2
  · rw [ha]
    refine List.forall_mem_append.mpr ⟨h.2, List.forall_mem_singleton.mpr ?_⟩
    have h0 : ({ sw := Soft.configured hl f } : App).tickOk = true := (app_tickOk_iff _).2 ⟨soft_configured_ok hl f, nofun⟩
    apply app_tickOk_applyAll
    cases c.ctorRuns
    · exact h0
    · exact app_tickOk_preserved _ (.run n.isOn) h0

/-- **Invariant:** no operation produces an object whose `apply_timestep` would raise. -/
theorem C13_wellTimed_preserved (n : Node) (op : Op) (h : WellTimed n) : WellTimed (n.step op).1 := by
  have k := step_kind n op
  generalize n.step op = r at k ⊢
  cases k with
  | idle p up down out _ => exact h
  | deliver p up down out _ => exact wellTimed_deliver n op h
  | uninstall name n' out hu _ =>
    exact wellTimed_of_heap_eq n n' h (uninstall_heap n n' name hu).1 (uninstall_heap n n' name hu).2.1
  | installSvc c cfg l hl f n' _ hi _ => exact wellTimed_installSvc n n' c cfg l hl f h hi
  | installApp c cfg l hl f n' out _ hi _ => exact wellTimed_installApp n n' c cfg l hl f h hi
  | reqInstall name c l n1 out _ hi _ _ =>
    have h1 := wellTimed_installApp n n1 c false l .good 2 h hi
    refine ⟨h1.1, fun i hi => ?_⟩
    obtain ⟨j, hj, rfl⟩ := List.mem_map.mp hi
    show App.tickOk (if j.m.uid = n.next then j.a.install else j.a) = true
    split
    · exact app_tickOk_preserved j.a .install (h1.2 j hj)
    · exact h1.2 j hj

theorem wellTimed_tickAllOk (n : Node) (h : WellTimed n) : n.tickAllOk = true := by
  unfold Node.tickAllOk
  simp only [Bool.or_eq_true, Bool.and_eq_true, List.all_eq_true]
  right
  exact ⟨fun i hi => Or.inr (svc_tickOk_applyAll _ _ (h.1 i hi)), fun i hi => Or.inr (app_tickOk_applyAll _ _ (h.2 i hi))⟩

theorem wellTimed_run (ops : List Op) (n : Node) (h : WellTimed n) : WellTimed (n.run ops) :=
  run_invariant WellTimed C13_wellTimed_preserved ops n h

/-- **`Node.apply_timestep` never raises `TypeError`** after any sequence of operations from the empty node (every
install with any configured starting health — FIXING included, whose countdown the constructor loads —, uninstall,
request, API call, power event, earlier tick …).  No hypothesis on the operations. -/
theorem C13_tick_never_raises (ops : List Op) (n0 : Node) (h0 : n0.svcs = [] ∧ n0.apps = []) :
    ((n0.run ops).step .tick).2 = .done := by
  have hw : WellTimed n0 := by
    unfold WellTimed; rw [h0.1, h0.2]; simp
  have := wellTimed_tickAllOk _ (wellTimed_run ops n0 hw)
  simp [Node.step, this]

/-- software configured `starting_health_state: FIXING` with `fixing_duration` 2: the tick does not raise, and the fix
completes (GOOD, `fixing_count` 1) with the second tick (without the constructor loading the countdown the first tick would raise) -/
theorem C13_configured_fixing_completes :
    let n := ({} : Node).registerSvc { name := "x", port := 1, proto := 1 } [] .fixing 2
    (n.step .tick).2 = .done ∧
    ((n.run [.tick]).findSvc 0).map (fun i => (i.s.sw.actual, i.s.sw.fixCd)) = some (.fixing, some 1) ∧
    ((n.run [.tick, .tick]).findSvc 0).map (fun i => (i.s.sw.actual, i.s.sw.fixCd, i.s.sw.fixCount)) = some (.good, none, 1) := by
  decide +kernel

/-- **An open port always has a RUNNING owner**: every port `get_open_ports` reports is the port, or a listening
port, of a RUNNING object that owns a `port_protocol_mapping` entry.  Software that is not running keeps no port open. -/
theorem C13_open_port_has_running_owner (n : Node) (p : Nat) (h : p ∈ n.openPorts) :
    ∃ k u m, (k, u) ∈ n.portMap ∧ n.isRunning u = true ∧ n.metaOf u = some m ∧ (p = m.cls.port ∨ p ∈ m.listen) := by
  unfold Node.openPorts at h
  simp only [List.mem_flatMap] at h
  obtain ⟨⟨k, u⟩, hmem, hp⟩ := h
  by_cases hr : n.isRunning u = true
  · simp only [hr, if_true] at hp
    cases hm : n.metaOf u with
    | none => simp [hm] at hp
    | some m =>
      simp only [hm, List.mem_cons] at hp
      exact ⟨k, u, m, hmem, hr, hm, hp⟩
  · simp [hr] at hp

/-- conversely, a RUNNING object that owns a port-map entry has its port and its listening ports open -/
theorem C13_running_owner_ports_open (n : Node) (k : Nat × Nat) (u : Nat) (m : Meta) (hk : (k, u) ∈ n.portMap)
    (hr : n.isRunning u = true) (hm : n.metaOf u = some m) :
    m.cls.port ∈ n.openPorts ∧ ∀ p ∈ m.listen, p ∈ n.openPorts := by
  unfold Node.openPorts
  simp only [List.mem_flatMap]
  refine ⟨⟨(k, u), hk, by simp [hr, hm]⟩, fun p hp => ⟨(k, u), hk, by simp [hr, hm, hp]⟩⟩

/-- "every RUNNING installed software has its port open" — NOT claimed by C13 and false of the code: two classes with
the same (port, protocol) share one `port_protocol_mapping` slot and only the later-installed one counts. -/
def C13_RunningImpliesOpen : Prop :=
  ∀ ops : List Op, let n := ({} : Node).run ops
    ∀ name u m, (name, u) ∈ n.software → n.isRunning u = true → n.metaOf u = some m → m.cls.port ∈ n.openPorts

/-- web-server (80/tcp, RUNNING) installed before web-browser (80/tcp, CLOSED): port 80 is reported closed -/
theorem C13_running_port_shadowed : ¬ C13_RunningImpliesOpen := by
  intro h
  have := h [.installSvc { name := "web-server", port := 80, proto := 1 } true [] .good 2,
             .installApp { name := "web-browser", port := 80, proto := 1, ctorRuns := true } true [] .good 2]
    "web-server" 0 { uid := 0, cls := { name := "web-server", port := 80, proto := 1 }, listen := [] }
    (by decide) (by decide) (by decide)
  revert this
  decide +kernel

/-- **`not_running_no_payload`.**  Whatever is delivered (`receive_payload_from_session_manager` with any port, protocol,
payload kind) in ANY node state: an object gets past its running-guard only if the node is ON and the object is RUNNING.
No hypothesis on the class: every shipped class has the guard (`C13_gen_all_guarded`, finding F-23). -/
theorem C13_payload_guard (n : Node) (port proto : Nat) (scan : Bool) (l : List (Nat × Bool))
    (h : n.deliverOut port proto scan = .recv l) (u : Nat) (hu : (u, true) ∈ l) :
    n.isOn = true ∧ n.isRunning u = true := by
  unfold Node.deliverOut at h
  cases hr : n.receivers port proto scan with
  | none => simp [hr] at h
  | some us =>
    simp only [hr, Out.recv.injEq] at h
    subst h
    simp only [List.mem_map, Prod.mk.injEq] at hu
    obtain ⟨v, _, rfl, hh⟩ := hu
    simpa [Node.handles] using hh

/-- **Delivering a payload never raises**, whatever is installed: a port-scan payload on a node without nmap is dropped
(nobody receives it); `software.get("nmap")` is not dereferenced blindly. -/
theorem C13_deliver_never_raises (n : Node) (port proto : Nat) (scan : Bool) :
    ∃ l, n.deliverOut port proto scan = .recv l ∧
      (scan = true → dget "nmap" n.software = none → l = []) := by
  unfold Node.deliverOut Node.receivers
  cases scan
  · exact ⟨_, rfl, fun h => by cases h⟩
  · cases hd : dget "nmap" n.software with
    | none => exact ⟨[], by simp, fun _ _ => rfl⟩
    | some u => exact ⟨[(u, n.handles u)], by simp, fun _ h => by cases h⟩

/-- the same through `HostNode.receive_frame`: a frame's payload is handled only by RUNNING software on an ON node -/
theorem C13_frame_payload_guard (n : Node) (hd : Hdr) (scan : Bool) (l : List (Nat × Bool))
    (h : (n.step (.frame hd scan)).2 = .recv l) (u : Nat) (hu : (u, true) ∈ l) :
    n.isOn = true ∧ n.isRunning u = true := by
  simp only [Node.step] at h
  split at h
  · exact C13_payload_guard n _ _ scan l h u hu
  · cases h

/-- the statement over whole histories (every node reachable from the empty node by any operation sequence) -/
theorem C13_not_running_no_payload (ops : List Op) (port proto : Nat) (scan : Bool) (l : List (Nat × Bool)) :
    let n := ({} : Node).run ops
    n.deliverOut port proto scan = .recv l → ∀ u, (u, true) ∈ l → n.isOn = true ∧ n.isRunning u = true :=
  fun h u hu => C13_payload_guard _ port proto scan l h u hu

/-- non-vacuity, and the witness of finding F-23: terminal STOPPED, an ftp-server listening on 22 is RUNNING; a payload for
22/tcp is handed to both, the STOPPED terminal does not get past its guard, the RUNNING ftp-server does. -/
example :
    (({} : Node).run [.installSvc { name := "terminal", port := 22, proto := 1 } true [] .good 2,
                      .svcReq "terminal" .stop,
                      .installSvc { name := "ftp-server", port := 21, proto := 1 } true [22] .good 2]).deliverOut 22 1 false
      = .recv [(0, false), (1, true)] := by decide +kernel

/-- **`send()` leaves the software only while it may act**: `IOSoftware.send` hands the payload to the session manager
(returns True) only if the node is ON and the software RUNNING, and never changes the node's software state. -/
theorem C13_send_guard (n : Node) (u : Nat) :
    (n.step (.send u)).1 = n ∧ ((n.step (.send u)).2 = .ret true → n.isOn = true ∧ n.isRunning u = true) := by
  simp only [Node.step]
  split
  · refine ⟨rfl, fun h => ?_⟩
    simpa [Node.handles] using h
  · exact ⟨rfl, fun h => by cases h⟩

/-- a frame for a closed port is ignored before any software sees it (`HostNode.receive_frame`) -/
theorem C13_frame_closed_port_ignored (n : Node) (h : Hdr) (scan : Bool) (hi : h ≠ .icmp)
    (hp : ∀ p, h.dstPort = some p → p ∉ n.openPorts) (hs : scan = false) :
    n.step (.frame h scan) = (n, .ignored) := by
  have : n.frameAccepted h scan = false := by
    unfold Node.frameAccepted
    subst hs
    cases h with
    | icmp => exact absurd rfl hi
    | tcp p => have := hp p rfl; simp [Hdr.dstPort, this]
    | udp p => have := hp p rfl; simp [Hdr.dstPort, this]
  simp [Node.step, this]

/-- … and an accepted frame is one that is ICMP, or whose port has a RUNNING owner, or a port scan with nmap RUNNING -/
theorem C13_frame_accepted_only_if (n : Node) (h : Hdr) (scan : Bool) (ha : n.frameAccepted h scan = true) :
    h = .icmp ∨ (∃ p, h.dstPort = some p ∧ p ∈ n.openPorts) ∨
    (scan = true ∧ ∃ u i, dget "nmap" n.software = some u ∧ n.findApp u = some i ∧ i.a.st = .running) := by
  unfold Node.frameAccepted at ha
  simp only [Bool.or_eq_true, Bool.and_eq_true, beq_iff_eq] at ha
  rcases ha with (h1 | h2) | h3
  · exact Or.inl h1
  · right; left
    cases hd : h.dstPort with
    | none => simp [hd] at h2
    | some p => exact ⟨p, rfl, by simpa [hd] using h2⟩
  · right; right
    refine ⟨h3.2, ?_⟩
    have h4 := h3.1
    cases hn : dget "nmap" n.software with
    | none => simp [hn] at h4
    | some u =>
      simp only [hn] at h4
      cases hf : n.findApp u with
      | none => simp [hf] at h4
      | some i => exact ⟨u, i, rfl, hf, by simpa [hf] using h4⟩

/-- the observer-level statement: the same names in `software_manager.software` as `describe_state` lists
(names of the objects in `node.services` and `node.applications`) -/
def NamesAgree (n : Node) : Prop :=
  ∀ name, name ∈ n.software.map (·.1) ↔ name ∈ (n.services ++ n.applications).filterMap n.nameOf

/-- **`registries_agree`.**  From an empty node, after ANY sequence of operations (installs and uninstalls through the API
and through requests — of anything, installed already or not, with or without a configuration —, requests, API calls, ticks,
power events, payloads): the four registries are projections of one list of installed software; in particular they carry
the same names, the request routes are exactly the names `describe_state` lists, and every port-map entry is owned by an
installed software.  No freshness hypothesis: an install of an installed name evicts the old instance (finding F-22). -/
theorem C13_registries_agree (p : Power) (up down : Int) (ops : List Op) :
    let n := Node.run { power := p, upDur := up, downDur := down } ops
    (∃ es, Rep n es) ∧ NamesAgree n ∧
    n.svcRoutes.map (·.1) ++ n.appRoutes.map (·.1) = (n.services ++ n.applications).filterMap n.nameOf ∧
    (∀ x ∈ n.portMap, ∃ name, n.nameOf x.2 = some name ∧ (name, x.2) ∈ n.software) := by
  intro n
  obtain ⟨es, h⟩ := rep_run ops _ [] (C13_rep_init p up down)
  obtain ⟨_, h2, h3, h4⟩ := C13_rep_names n es h
  exact ⟨⟨es, h⟩, h3, h2, h4⟩

/-- under agreement `uninstall` cannot hit `remove_request`'s RuntimeError -/
theorem C13_uninstall_never_raises (n : Node) (es : List Entry) (h : Rep n es) (name : String) :
    (n.step (.uninstall name)).2 = .done := by
  obtain ⟨n', hu, _⟩ := rep_uninstall n es h name
  simp [Node.step, hu]

/-- … and neither can an install (whose eviction of the installed instance goes through `uninstall`) -/
theorem C13_install_never_raises (n : Node) (es : List Entry) (h : Rep n es) (c : Cls) (cfg : Bool) (l : List Nat)
    (hl : Health) (f : Int) :
    (n.step (.installSvc c cfg l hl f)).2 = .done ∧ (n.step (.installApp c cfg l hl f)).2 = .done := by
  obtain ⟨n1, _, h1, _⟩ := rep_installSvc n es h c cfg l hl f
  obtain ⟨n2, _, h2, _⟩ := rep_installApp n es h c cfg l hl f
  simp [Node.step, h1, h2]

/-- hence on every node reachable from the empty one, installs and uninstalls never raise -/
theorem C13_install_uninstall_total (p : Power) (up down : Int) (ops : List Op) (op : Op)
    (hop : (∃ c cfg l hl f, op = .installSvc c cfg l hl f) ∨ (∃ c cfg l hl f, op = .installApp c cfg l hl f) ∨
           (∃ name, op = .uninstall name)) :
    ((Node.run { power := p, upDur := up, downDur := down } ops).step op).2 = .done := by
  obtain ⟨es, h⟩ := rep_run ops _ [] (C13_rep_init p up down)
  rcases hop with ⟨c, cfg, l, hl, f, rfl⟩ | ⟨c, cfg, l, hl, f, rfl⟩ | ⟨name, rfl⟩
  · exact (C13_install_never_raises _ es h c cfg l hl f).1
  · exact (C13_install_never_raises _ es h c cfg l hl f).2
  · exact C13_uninstall_never_raises _ es h name

/-- the observer-level claim over every history from the empty node -/
def C13_FullRegistries : Prop := ∀ ops : List Op, NamesAgree (({} : Node).run ops)

theorem C13_registries_full : C13_FullRegistries :=
  fun ops => (C13_registries_agree .on 3 3 ops).2.1

/-- The witness of finding F-22, in agreement: a configured install of an installed name REPLACES the instance
(`node.services` holds only the new object); a bare re-install of the class is refused (nothing changes); and after an
uninstall nothing of the name is left anywhere. -/
theorem C13_reinstall_replaces :
    let c : Cls := { cid := "DNSClient", name := "dns-client", port := 53, proto := 1 }
    let n := ({} : Node).run [.installSvc c false [] .good 2, .installSvc c true [] .good 2]
    n.services = [1] ∧ n.software = [("dns-client", 1)] ∧ n.svcRoutes = [("dns-client", 1)] ∧ n.portMap = [((53, 1), 1)] ∧
    n.classMap = [("DNSClient", "dns-client")] ∧
    (n.step (.installSvc c false [] .good 2)).1.services = [1] ∧
    ((n.step (.uninstall "dns-client")).1.services = [] ∧ (n.step (.uninstall "dns-client")).1.software = [] ∧
     (n.step (.uninstall "dns-client")).1.classMap = []) := by decide +kernel

/-- two classes that share a name (HostARP / RouterARP: "arp"): the second replaces the first even without a configuration -/
example :
    let n := ({} : Node).run [.installSvc { cid := "HostARP", name := "arp", port := 219, proto := 2 } false [] .good 2,
                              .installSvc { cid := "RouterARP", name := "arp", port := 219, proto := 2 } false [] .good 2]
    n.services = [1] ∧ n.software = [("arp", 1)] ∧ n.classMap = [("RouterARP", "arp")] := by decide +kernel

end Primaite.C13
