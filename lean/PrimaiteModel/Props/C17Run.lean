/-
C17 — run-level theorems (the model is `Model/Database.lean`, the event refinement
`Lemmas/DatabaseReach.lean`, the server-level theorems `Props/C17.lean`):

* the number of live connections never exceeds `max_sessions` (every operation sequence), the boundary itself, a slot
  freed by a disconnect, a re-installed service;
* repeated backup / damage / restore cycles: whatever happens between a backup and a restore - damage, earlier restores,
  leftovers planted / corrupted / deleted under downloads/, power cycles, blocks, FTP-client restarts ... - a restore that
  reports success puts into place exactly what the backup host holds, which is exactly what the database file was when
  the backup was taken; in between, every further backup is refused and leaves that copy as it is; and a restore without a
  complete path fails and keeps file, health and table;
* malformed payloads; re-installing the service; a fix that completes while the service cannot act restores nothing;
  what deleting the stored copy or re-installing the service does to later restores; file-system requests.
-/
import PrimaiteModel.Props.C17
namespace Primaite.Database

def Server.Bounded (s : Server) : Prop := s.conns.length ≤ s.maxSessions

theorem apply_bounded (s : Server) (e : SrvEv) (h : s.Bounded) : (e.apply s).Bounded := by
  unfold Server.Bounded at *
  rcases apply_table s e with ⟨hc, _, hm⟩ | ⟨_, _, _, hc, _, hm, _, _, hlen⟩ | ⟨id, hc, _, hm⟩ | ⟨hc, _⟩ <;> rw [hc]
  · rw [hm]; exact h
  · rw [hm, List.length_append]; exact hlen
  · rw [hm]; exact Nat.le_trans (List.length_filter_le _ _) h
  · exact Nat.zero_le _

/-- **The number of live connections never exceeds `max_sessions`** - for every state that respects the limit and EVERY
operation sequence (connects by any number of clients, disconnects, uninstalls, stop / start / restart / power cycles of
the service, a re-install, red applications, ticks ...). -/
theorem C17_sessions_bounded_run (st : State) (ops : List Op) (h : st.srv.Bounded) : (run st ops).srv.Bounded :=
  (run_reach st ops).invariant (I := Server.Bounded) (fun s e _ hs => apply_bounded s e hs) h

example : ({} : State).srv.Bounded := by unfold Server.Bounded; decide

/-- … and while the table is full no connect is admitted, whoever asks and whatever password is offered. -/
theorem C17_full_table_admits_nobody (s : Server) (src : Nat) (pw : Option Nat) (h : s.conns.length = s.maxSessions) :
    (s.receive src (.connect pw)).1.conns = s.conns ∧
    ∀ id, (s.receive src (.connect pw)).2 ≠ some (200, id) := by
  rcases receive_connect s src pw with ⟨_, _, _, hlen, _⟩ | ⟨hc, _, _, hn⟩
  · omega
  · exact ⟨hc, hn⟩

theorem filter_unique_length {l : List Conn} {id : Nat} (hnd : (l.map (·.id)).Nodup) (hm : ∃ c ∈ l, c.id = id) :
    (l.filter (fun c => !(c.id == id))).length + 1 = l.length := by
  induction l with
  | nil => obtain ⟨c, hc, _⟩ := hm; cases hc
  | cons a t ih =>
    simp only [List.map_cons, List.nodup_cons] at hnd
    by_cases ha : a.id = id
    · have hnone : ∀ c ∈ t, (!(c.id == id)) = true := by
        intro c hc
        have : c.id ≠ id := by
          intro hcid
          apply hnd.1
          rw [ha, ← hcid]
          exact List.mem_map.mpr ⟨c, hc, rfl⟩
        simp [this]
      have hf : t.filter (fun c => !(c.id == id)) = t := List.filter_eq_self.mpr hnone
      simp [ha, hf]
    · have hm' : ∃ c ∈ t, c.id = id := by
        obtain ⟨c, hc, hcid⟩ := hm
        rcases List.mem_cons.mp hc with rfl | hct
        · exact absurd hcid ha
        · exact ⟨c, hct, hcid⟩
      have := ih hnd.2 hm'
      simp [ha]
      omega

/-- **A disconnect frees exactly one slot.**  With the table full (and the ids distinct, which holds along every run:
`C17_table_wellformed_run`), a disconnect by the owner of a connection leaves `max_sessions - 1` connections, and the next
correctly authenticated connect - from any client - is admitted again (unless a connect too many has made the service
OVERWHELMED in the meantime: `C17_overwhelmed_refuses`) and fills the table up to the limit, not beyond. -/
theorem C17_slot_freed (s : Server) (src j id : Nat) (hwf : s.WF) (hc : s.canAct = true)
    (hh : healthAcceptsConnect s.health = true) (hfull : s.conns.length = s.maxSessions)
    (hown : ∃ c ∈ s.conns, c.id = id ∧ c.owner = src) :
    (s.receive src (.disconnect (some id))).1.conns.length + 1 = s.maxSessions ∧
    ((s.receive src (.disconnect (some id))).1.receive j (.connect s.password)).2 = some (200, some s.nextId) ∧
    ((s.receive src (.disconnect (some id))).1.receive j (.connect s.password)).1.conns.length = s.maxSessions := by
  have hany : s.conns.any (fun c => c.id == id && c.owner == src) = true := by
    obtain ⟨c, hcm, h1, h2⟩ := hown
    simp only [List.any_eq_true, Bool.and_eq_true, beq_iff_eq]
    exact ⟨c, hcm, h1, h2⟩
  have hs' : (s.receive src (.disconnect (some id))).1 = { s with conns := s.conns.filter (fun c => !(c.id == id)) } := by
    simp [Server.receive, hc, hany]
  have hlen : (s.conns.filter (fun c => !(c.id == id))).length + 1 = s.conns.length :=
    filter_unique_length hwf.2 (by obtain ⟨c, hcm, h1, _⟩ := hown; exact ⟨c, hcm, h1⟩)
  rw [hs']
  have hca : Server.canAct { s with conns := s.conns.filter (fun c => !(c.id == id)) } = true := hc
  -- the freed server admits the connect: RUNNING, acceptable health, its own password, one slot free
  have h200 := (C17_connect_ok_iff { s with conns := s.conns.filter (fun c => !(c.id == id)) } j s.password).mpr
    ⟨((C17_canAct_iff s).mp hc).2, hh, rfl, by show (s.conns.filter _).length < s.maxSessions; omega⟩
  have hf := (C17_connect_ok_adds_fresh _ j s.password).1 h200
  simp only [Server.receive, hca, Bool.not_true, Bool.false_eq_true, if_false]
  refine ⟨by omega, by rw [h200, hf.2], ?_⟩
  rw [hf.1, List.length_append]
  show (s.conns.filter _).length + 1 = s.maxSessions
  omega

example :
    let s : Server := { maxSessions := 2, conns := [⟨0, 0⟩, ⟨1, 1⟩], nextId := 2 }
    (s.receive 0 (.connect none)).2 = some (500, none) ∧
    ((s.receive 1 (.disconnect (some 1))).1.receive 0 (.connect none)).2 = some (200, some 2) := by decide

/-- **Payloads the dispatcher does not recognise** (not a dict, no `type`, an unknown `type`) are answered with the default
500 while the service can act, are not answered at all otherwise, and never change the server. -/
theorem C17_junk_payload (s : Server) (src : Nat) (k : Junk) :
    (s.receive src (.junk k)).1 = s ∧
    (s.receive src (.junk k)).2 = if s.canAct then some (500, none) else none := by
  simp only [Server.receive]
  cases s.canAct <;> simp

/-- **The co-located client's own calls** (a database client installed on the database host, addressing its own host) never
change anything: they fail - or, in the one configuration in which the service owns port 5432 again (after a re-install),
can act, and the client is RUNNING, the real call does not return (the service answers its own answers; explicit outcome
`raised`, a totality defect outside C17's statement, reported in the design note). -/
theorem C17_colocated_client_no_effect (st : State) (k : Nat) :
    (step st (.co k)).1 = st ∧
    ((step st (.co k)).2.raised = true →
      st.srv.coClient = true ∧ st.srv.coApp = .running ∧ st.srv.listening = true ∧ st.srv.canAct = true) := by
  simp only [step]
  (repeat' split) <;> simp_all

/-- **Re-install.**  `software_manager.install(DatabaseService[, config])` at run time either changes nothing (refused
without a configuration while installed; the constructor raises while a live `database.db` exists), or replaces the
instance: then NO connection of the old instance survives (every id ever issued is refused from then on,
`C17_closed_stays_closed_run`), the password, the fixing duration and the starting health are the configured ones (UNUSED
becomes GOOD at once when the service starts, i.e. when the node is ON; FIXING starts with the full countdown), the session
limit is the default again, the database file is a fresh GOOD one, and the service owns port 5432 - whatever a co-located
client did to the port map. -/
theorem C17_reinstall (s : Server) (cfg : Option InstCfg) :
    ((s.reinstall cfg).2 ≠ .done → (s.reinstall cfg).1 = s) ∧
    ((s.reinstall cfg).2 = .done →
      s.file = none ∧ (s.installed = false ∨ cfg.isSome) ∧
      (s.reinstall cfg).1.conns = [] ∧ (∀ id, (s.reinstall cfg).1.hasConn id = false) ∧
      (s.reinstall cfg).1.password = (cfg.getD { bk := false }).pw ∧
      (s.reinstall cfg).1.fixDur = (cfg.getD { bk := false }).fixDur ∧
      (s.reinstall cfg).1.health =
        (if s.node.isOn && (cfg.getD { bk := false }).health == .unused then .good else (cfg.getD { bk := false }).health) ∧
      ((cfg.getD { bk := false }).health = .fixing → (s.reinstall cfg).1.fixCd = (cfg.getD { bk := false }).fixDur) ∧
      (s.reinstall cfg).1.maxSessions = 100 ∧ (s.reinstall cfg).1.file = some .good ∧
      (s.reinstall cfg).1.listening = true ∧ (s.reinstall cfg).1.nextId = s.nextId ∧
      (s.reinstall cfg).1.ftpc.isSome) := by
  refine ⟨(reinstall_frame s cfg).1, fun hd => ?_⟩
  rcases reinstall_cases s cfg with ⟨hn, _⟩ | ⟨_, hf, hin, hft, e⟩
  · exact absurd hd hn
  · refine ⟨hf, hin, ?_, ?_, ?_, ?_, ?_, ?_, ?_, ?_, ?_, ?_, hft⟩ <;> rw [e]
    · exact fun _ => rfl
    · exact fun hc => by simp [hc]
    · rfl

example : ((({ conns := [⟨0, 0⟩], nextId := 1, file := none } : Server).reinstall (some { pw := some 2 })).1.receive 0 (.sql (some 0) .select)).2
    = some (401, none) := by decide
example : (({} : Server).reinstall (some {})).2 = .raised := by decide
example : (({ file := none } : Server).reinstall (some { health := .fixing, fixDur := 3 })).1.fixCd = 3 := by decide
example : (({} : Server).reinstall none).2 = .refused := by decide

/-! `bk.stored` (the copy the backup host holds for the current service instance) is written by a successful backup only
while it is empty, and removed only by deleting it on the backup host or by re-installing the service (new uuid).  No
other operation touches the backup host's copy (`step_stored`, from `stored_keeps`, an instance of `Keeps` in
`Lemmas/DatabaseReach.lean`). -/

@[simp] theorem setClient_bk (st : State) (i : Nat) (c : Client) : (st.setClient i c).bk = st.bk := rfl

theorem stored_keeps (A : SrvEv → Prop) (x : Option FHealth) : Keeps A (fun st => st.bk.stored = x) where
  srv _ _ _ h := h
  frame _ _ h _ _ hb := hb.trans h
  newHandle _ _ _ _ _ h _ := h
  mapHandles _ _ _ h := h

/-- inside a tick only the automatic backup of timestep 1 writes the backup host; it runs on the file as the node's power step
left it -/
theorem serverTick_bk (s : Server) (b : Backup) (t : Nat) (pq pr big k : Bool) :
    (serverTick s b t pq pr big k).2 = b ∨
    ∃ s' : Server, s'.file = s.file ∧ (serverTick s b t pq pr big k).2 = (backupDatabase s' b pq big).2.1 := by
  have hsvc : ∀ s' : Server, (s'.tickSvc b t pq pr big k).2 = b ∨ (s'.tickSvc b t pq pr big k).2 = (backupDatabase s' b pq big).2.1 := by
    intro s'
    unfold Server.tickSvc
    dsimp only
    split
    · exact Or.inl rfl
    · split
      · exact Or.inr rfl
      · exact Or.inl rfl
  have hp : s.tickPower.file = s.file := by rw [tickPower_eq]
  unfold serverTick
  dsimp only
  split
  · exact Or.inl rfl
  · split
    · exact (hsvc _).imp_right (fun h => ⟨_, by rw [tickFtpc_eq]; exact hp, h⟩)
    · exact (hsvc _).imp_right (fun h => ⟨_, hp, h⟩)

theorem tick_stored (st : State) (big d k : Bool) :
    (st.tick big d k).bk.stored = st.bk.stored ∨
    (st.bk.stored = none ∧ (st.tick big d k).bk.stored = st.srv.file ∧ st.srv.file.isSome) := by
  have hst : (st.tick big d k).bk.stored =
      (serverTick st.srv st.bk (st.t + 1) (st.bk.node.isOn && !st.blockFtpReq) (st.bk.node.isOn && !st.blockFtpResp && d) big k).2.stored := by
    unfold State.tick backupTick
    dsimp only
    split <;> split <;> rfl
  rw [hst]
  rcases serverTick_bk st.srv st.bk (st.t + 1) (st.bk.node.isOn && !st.blockFtpReq) (st.bk.node.isOn && !st.blockFtpResp && d) big k
    with h | ⟨s', hf, h⟩
  · exact Or.inl (by rw [h])
  · rw [h]
    have hb := C17_backup_stores s' st.bk (st.bk.node.isOn && !st.blockFtpReq) big
    cases hr : (backupDatabase s' st.bk (st.bk.node.isOn && !st.blockFtpReq) big).2.2 with
    | false => exact Or.inl (by rw [hb.2 hr])
    | true =>
      have h1 := hb.1 hr
      exact Or.inr ⟨h1.1, by rw [h1.2.2.2.2.2.2.2.1, hf], by rw [← hf]; exact h1.2.2.2.2.2.2.2.2⟩

/-- the operations that can put a copy on the backup host: an explicit backup, a tick (the automatic backup at timestep 1) -/
def Op.mayStore : Op → Bool
  | .backup _ => true
  | .tick _ _ _ => true
  | _ => false

theorem step_stored (st : State) (op : Op) (h : op.writesStored = false) : (step st op).1.bk.stored = st.bk.stored :=
  step_keeps (stored_keeps _ _) (fun hw => by rw [h] at hw; cases hw) st rfl

/-- **One backup call, any state.**  A backup that reports success found no copy on the backup host and leaves exactly the
health the database file has AT THAT MOMENT there (the database host's file untouched); a backup that does not report success
leaves the backup host exactly as it was; and while a copy exists every backup is refused. -/
theorem C17_backup_outcome (st : State) (big : Bool) :
    ((step st (.backup big)).2.res = some true →
      st.bk.stored = none ∧ (step st (.backup big)).1.bk.stored = st.srv.file ∧ st.srv.file.isSome ∧
      (step st (.backup big)).1.srv.file = st.srv.file ∧ (step st (.backup big)).1.bk.orphans = st.bk.orphans) ∧
    ((step st (.backup big)).2.res ≠ some true → (step st (.backup big)).1.bk = st.bk) ∧
    (st.bk.stored.isSome → (step st (.backup big)).2.res ≠ some true) := by
  have hb := C17_backup_stores st.srv st.bk st.ftpReq big
  simp only [step]
  split
  · exact ⟨by simp, fun _ => rfl, fun _ => by simp⟩
  · dsimp only
    cases hr : (backupDatabase st.srv st.bk st.ftpReq big).2.2 with
    | true =>
      have h1 := hb.1 hr
      refine ⟨fun _ => ⟨h1.1, h1.2.2.2.2.2.2.2.1, h1.2.2.2.2.2.2.2.2, by rw [backupDatabase_srv], by rw [backupDatabase_bk]⟩, fun h => absurd rfl h, ?_⟩
      intro hs; rw [h1.1] at hs; cases hs
    | false =>
      refine ⟨?_, fun _ => hb.2 hr, ?_⟩
      · intro h; cases h
      · intro _ h; cases h

/-- no copy stored for the current instance ⇒ a restore cannot succeed (whatever else is true of the state) -/
theorem C17_restore_without_backup (st : State) (d k : Bool) (h : st.bk.stored = none) :
    (step st (.restore d k)).2.res ≠ some true ∧ (step st (.restore d k)).1.srv.file = st.srv.file ∧
    (step st (.restore d k)).1.srv.health = st.srv.health := by
  simp only [step]
  split
  · exact ⟨by simp, rfl, rfl⟩
  · dsimp only
    have hf : (restoreBackup st.srv st.bk st.ftpReq (st.ftpResp && d) k).2 = false := by
      refine Bool.eq_false_iff.mpr (fun hr => ?_)
      obtain ⟨x, hx, _⟩ := C17_restore_result _ _ _ _ _ hr
      rw [h] at hx; cases hx
    have hc := (C17_failed_restore_changes_nothing _ _ _ _ _ hf).1
    refine ⟨by rw [hf]; simp, ?_, ?_⟩ <;> rw [hc]

/-- **Deleting the copy on the backup host** removes exactly the current instance's copy (orphans of earlier instances and
everything on the database host are untouched): from then on no restore succeeds (`C17_restore_without_backup`,
`C17_no_backup_stays_none_run`) until a NEW backup is taken - which stores the health the file has THEN
(`C17_backup_stores`), so a backup taken after the damage restores to damaged data. -/
theorem C17_backup_deleted (st : State) :
    (step st .bkDelete).1.bk.stored = none ∧ (step st .bkDelete).1.bk.orphans = st.bk.orphans ∧
    (step st .bkDelete).1.srv = st.srv ∧ ((step st .bkDelete).2.res = some true ↔ st.bk.stored.isSome) := by
  simp only [step]
  cases h : st.bk.stored <;> simp [h]

/-- **Re-installing the service orphans its backup.**  A re-install that goes through leaves the old instance's copy on the
backup host where it was - under the OLD uuid, as an orphan that nothing reads any more - and the new instance has no
backup: a restore fails until the new instance has taken its own. A refused or raising re-install changes nothing. -/
theorem C17_reinstall_orphans_backup (st : State) (cfg : Option InstCfg) :
    ((step st (.svcInstall cfg)).2.res = some true →
      (step st (.svcInstall cfg)).1.bk.stored = none ∧
      (step st (.svcInstall cfg)).1.bk.orphans = st.bk.orphans ++ st.bk.stored.toList ∧
      ∀ d k, (step (step st (.svcInstall cfg)).1 (.restore d k)).2.res ≠ some true) ∧
    ((step st (.svcInstall cfg)).2.res ≠ some true → (step st (.svcInstall cfg)).1 = st) := by
  have key : ∀ st' : State, st'.bk.stored = none → ∀ d k, (step st' (.restore d k)).2.res ≠ some true :=
    fun st' h d k => (C17_restore_without_backup st' d k h).1
  constructor
  · intro h
    have hst : (step st (.svcInstall cfg)).1.bk.stored = none ∧
        (step st (.svcInstall cfg)).1.bk.orphans = st.bk.orphans ++ st.bk.stored.toList := by
      simp only [step] at h ⊢
      split at h <;> simp_all
    exact ⟨hst.1, hst.2, key _ hst.1⟩
  · intro h
    simp only [step] at h ⊢
    split at h <;> simp_all

/-! What the unchanged code does: the FTP server's `_store_data` creates the file and RAISES (swallowed: the STOR is answered with
an error) when a file of that name exists, so a backup is stored only while the backup host holds no copy for this instance;
a further `backup_database()` reports FAILURE and leaves the stored copy - with the health of the backup that was taken -
untouched.  (Seeded change C17-e made the second backup report success while keeping the first backup's health.)  The store
path itself is the translated `_store_data` (`srv_stor`, `C17_tr_ftp_send_file`, `C17_tr_backup`, `C17_tr_stored_copy`). -/

/-- **Who writes the backup host's copy.**  For EVERY operation in EVERY state: the copy stays as it is; or it disappears
(deleted on the backup host / the service re-installed); or there was none and a backup - explicit, or the automatic one of
timestep 1 inside a tick - stored exactly the health the database file had when that operation began. Nothing else, and never
over an existing copy. -/
theorem C17_stored_written_only_by_backup (st : State) (op : Op) :
    (step st op).1.bk.stored = st.bk.stored ∨
    ((step st op).1.bk.stored = none ∧ (op = .bkDelete ∨ ∃ cfg, op = .svcInstall cfg)) ∨
    (st.bk.stored = none ∧ (step st op).1.bk.stored = st.srv.file ∧ st.srv.file.isSome ∧
      ((∃ big, op = .backup big) ∨ ∃ b d k, op = .tick b d k)) := by
  cases op with
  | bkDelete => exact Or.inr (Or.inl ⟨(C17_backup_deleted st).1, Or.inl rfl⟩)
  | svcInstall cfg =>
    by_cases hr : (step st (.svcInstall cfg)).2.res = some true
    · exact Or.inr (Or.inl ⟨((C17_reinstall_orphans_backup st cfg).1 hr).1, Or.inr ⟨cfg, rfl⟩⟩)
    · left; rw [(C17_reinstall_orphans_backup st cfg).2 hr]
  | backup big =>
    have ho := C17_backup_outcome st big
    by_cases hr : (step st (.backup big)).2.res = some true
    · have h1 := ho.1 hr
      exact Or.inr (Or.inr ⟨h1.1, h1.2.1, h1.2.2.1, Or.inl ⟨big, rfl⟩⟩)
    · left; rw [ho.2.1 hr]
  | tick big d k =>
    rcases tick_stored st big d k with h | h
    · exact Or.inl h
    · exact Or.inr (Or.inr ⟨h.1, h.2.1, h.2.2, Or.inr ⟨big, d, k, rfl⟩⟩)
  | _ => exact Or.inl (step_stored st _ rfl)

/-- **The backup host's copy is stable**: once a copy is stored, no operation but deleting it on the backup host, or
re-installing the service (whose new instance has no backup of its own), changes it. -/
theorem step_keeps_stored (st : State) (op : Op) (x : FHealth) (h : st.bk.stored = some x)
    (h1 : op ≠ .bkDelete) (h2 : ∀ cfg, op ≠ .svcInstall cfg) : (step st op).1.bk.stored = some x := by
  rcases C17_stored_written_only_by_backup st op with h' | ⟨_, rfl | ⟨cfg, rfl⟩⟩ | ⟨h', _⟩
  · exact h'.trans h
  · exact absurd rfl h1
  · exact absurd rfl (h2 cfg)
  · rw [h] at h'; cases h'

theorem step_keeps_none (st : State) (op : Op) (h : st.bk.stored = none) (hop : op.mayStore = false) :
    (step st op).1.bk.stored = none := by
  rcases C17_stored_written_only_by_backup st op with h' | ⟨h', _⟩ | ⟨_, _, _, ⟨big, rfl⟩ | ⟨b, d, k, rfl⟩⟩
  · exact h'.trans h
  · exact h'
  · cases hop
  · cases hop

/-- **Repeated backups, every run.**  After a backup that reported success, along EVERY operation sequence that neither
deletes the copy on the backup host nor re-installs the service - further backups in whatever health the file then has,
damage, repairs, restores, ticks ... - every further `backup_database()` reports FAILURE, and the backup host's copy is still
the health the database file had AT THE BACKUP THAT SUCCEEDED. (So "a backup reporting success" and "the copy has the health
of that backup" never come apart; the unchanged code refuses, it does not overwrite.) -/
theorem C17_repeated_backups_run (st : State) (ops : List Op) (big big' : Bool)
    (hbk : (step st (.backup big)).2.res = some true)
    (hops : ∀ op ∈ ops, op ≠ .bkDelete ∧ ∀ cfg, op ≠ .svcInstall cfg) :
    (run (step st (.backup big)).1 ops).bk.stored = st.srv.file ∧ st.srv.file.isSome ∧
    (step (run (step st (.backup big)).1 ops) (.backup big')).2.res ≠ some true ∧
    (step (run (step st (.backup big)).1 ops) (.backup big')).1.bk.stored = st.srv.file := by
  have h1 := (C17_backup_outcome st big).1 hbk
  obtain ⟨x, hx⟩ := Option.isSome_iff_exists.mp h1.2.2.1
  have hkeep : (run (step st (.backup big)).1 ops).bk.stored = some x :=
    run_invariant (fun st op hc h => step_keeps_stored st op x h hc.1 hc.2) _ ops hops (by rw [h1.2.1, hx])
  have ho := C17_backup_outcome (run (step st (.backup big)).1 ops) big'
  have hrej := ho.2.2 (by rw [hkeep]; rfl)
  exact ⟨by rw [hkeep, hx], h1.2.2.1, hrej, by rw [ho.2.1 hrej, hkeep, hx]⟩

/-- non-vacuity: backup while CORRUPT, repair, a second backup while GOOD is REFUSED and the copy stays CORRUPT (the seeded C17-e
tree answered True and kept CORRUPT); after deleting the copy a new backup stores GOOD -/
example :
    let st : State := { srv := { file := some .corrupt }, clients := [{}] }
    (step st (.backup true)).2.res = some true ∧
    (step (run (step st (.backup true)).1 [.fileRepair]) (.backup true)).2.res = some false ∧
    (step (run (step st (.backup true)).1 [.fileRepair]) (.backup true)).1.bk.stored = some .corrupt ∧
    (run st [.backup true, .fileRepair, .bkDelete, .backup true]).bk.stored = some .good := by decide

/-- **Backup, then anything, then restore.**  Take a backup (the call reports success) in ANY state; then let ANY
sequence of operations run that does not delete the copy on the backup host and does not re-install the service - damage
by DELETE / ENCRYPT / file-system operations, earlier restores (successful or not), leftovers planted, corrupted, repaired
or deleted under downloads/, deletion of downloads/ or of the database folder, power cycles of any host, path blocks,
FTP-server stops, FTP-client stop / restart / re-install, ticks (including a fix that completes and restores) ...; then
restore.  If that restore reports success, the database file has exactly the health it had WHEN THE BACKUP WAS TAKEN and
the service is GOOD.  Nothing is assumed about downloads/. -/
theorem C17_restore_roundtrip_run (st : State) (ops : List Op) (big d k : Bool)
    (hbk : (step st (.backup big)).2.res = some true)
    (hops : ∀ op ∈ ops, op ≠ .bkDelete ∧ ∀ cfg, op ≠ .svcInstall cfg)
    (hok : (step (run (step st (.backup big)).1 ops) (.restore d k)).2.res = some true) :
    (step (run (step st (.backup big)).1 ops) (.restore d k)).1.srv.file = st.srv.file ∧
    (step (run (step st (.backup big)).1 ops) (.restore d k)).1.srv.health = .good ∧
    st.srv.file.isSome := by
  obtain ⟨hkeep, hsome, _⟩ := C17_repeated_backups_run st ops big big hbk hops
  generalize run (step st (.backup big)).1 ops = st2 at hkeep hok
  simp only [step] at hok ⊢
  split at hok
  · simp at hok
  · rename_i hi
    simp only [hi, Bool.false_eq_true, if_false]
    dsimp only at hok ⊢
    have hy := C17_restore_yields_backup st2.srv st2.bk st2.ftpReq (st2.ftpResp && d) k (by simpa using hok)
    exact ⟨by rw [hy.1, hkeep], hy.2, hsome⟩

/-- non-vacuity: backup while GOOD, DELETE, restore, a CORRUPT leftover, DELETE again, the backup host power-cycled,
restore: GOOD. -/
example :
    let st : State := { clients := [{}] }
    let ops : List Op := [.connect 0, .hQuery 0 .delete, .restore true true, .dl .corrupt, .hQuery 0 .delete,
                          .power 1 false, .tick true true true, .tick true true true, .power 1 true, .tick true true true,
                          .tick true true true]
    (step st (.backup true)).2.res = some true ∧
    (run (step st (.backup true)).1 ops).srv.file = some .compromised ∧
    (run (step st (.backup true)).1 ops).srv.downloads = some .corrupt ∧
    (step (run (step st (.backup true)).1 ops) (.restore true true)).2.res = some true ∧
    (step (run (step st (.backup true)).1 ops) (.restore true true)).1.srv.file = some .good := by decide

/-- **No path, no restore - in every state.**  Whatever happened before (any number of successful restores, any leftover
under downloads/), a restore issued while the request path to the backup host is closed (a block, either node not ON),
the backup host's FTP server is not running, the answer path is closed or a link on it refuses the file, or the FTP
client on the database host is not running, does NOT report success, and leaves the database file, the service health,
the connection table and the backup host exactly as they were. -/
theorem C17_restore_needs_path (st : State) (d k : Bool)
    (h : (st.ftpReq && st.bk.serves && (st.ftpResp && d) && k && st.srv.ftpcAct) = false) :
    (step st (.restore d k)).2.res ≠ some true ∧
    (step st (.restore d k)).1.srv.file = st.srv.file ∧ (step st (.restore d k)).1.srv.health = st.srv.health ∧
    (step st (.restore d k)).1.srv.conns = st.srv.conns ∧ (step st (.restore d k)).1.bk = st.bk := by
  simp only [step]
  split
  · exact ⟨by simp, rfl, rfl, rfl, rfl⟩
  · have hb := C17_blocked_restore st.srv st.bk st.ftpReq (st.ftpResp && d) k h
    dsimp only
    refine ⟨by rw [hb.1]; simp, hb.2.2.1, hb.2.2.2.1, hb.2.2.2.2, rfl⟩

theorem C17_restore_needs_path_run (st : State) (ops : List Op) (d k : Bool)
    (h : ((run st ops).ftpReq && (run st ops).bk.serves && ((run st ops).ftpResp && d) && k && (run st ops).srv.ftpcAct) = false) :
    (step (run st ops) (.restore d k)).2.res ≠ some true ∧
    (step (run st ops) (.restore d k)).1.srv.file = (run st ops).srv.file :=
  ⟨(C17_restore_needs_path (run st ops) d k h).1, (C17_restore_needs_path (run st ops) d k h).2.1⟩

/-- non-vacuity: after a successful restore (a GOOD copy is lying under downloads/) the backup host is switched off: the
second restore fails and the data stays COMPROMISED (seeded change C17-c made it succeed from the leftover). -/
example :
    let st : State := { clients := [{}], bk := { node := { downDur := 0 } } }
    let ops : List Op := [.backup true, .connect 0, .hQuery 0 .delete, .restore true true, .hQuery 0 .delete, .power 1 false]
    (run st ops).srv.downloads = some .good ∧ (run st ops).bk.serves = false ∧
    (step (run st ops) (.restore true true)).2.res = some false ∧
    (step (run st ops) (.restore true true)).1.srv.file = some .compromised := by decide

/-! `DatabaseService._update_fix_status` calls `restore_backup()` when the FIXING countdown ends, and `apply_timestep` calls
`backup_database()` at timestep 1.  Both are gated by the SERVICE's `_can_perform_action()` like the direct calls: a fix that
completes while the service is stopped / paused / disabled / restarting (or its node is not ON) makes the health GOOD but
does NOT fetch the backup.  (Seeded change C17-d asked the FTP client instead.) -/

theorem tickPower_data (s : Server) : s.tickPower.downloads = s.downloads ∧ s.tickPower.file = s.file ∧
    s.tickPower.conns = s.conns := by
  have h := tickPower_eq s
  exact ⟨by rw [h], by rw [h], by rw [h]⟩

theorem tickRestart_writes (s : Server) :
    ∃ o r, s.tickRestart = { s with op := o, restartCd := r } ∧ (s.op ≠ .restarting → o = s.op) := by
  unfold Server.tickRestart
  split
  · rename_i h
    split
    · exact ⟨_, _, rfl, fun hn => absurd h hn⟩
    · exact ⟨_, _, rfl, fun hn => absurd h hn⟩
  · exact ⟨_, _, rfl, fun _ => rfl⟩

theorem tickSvc_cannot_act (s : Server) (b : Backup) (t : Nat) (pq pr big k : Bool) (h : s.canAct = false) :
    ∃ hl f o r, s.tickSvc b t pq pr big k = ({ s with health := hl, fixCd := f, op := o, restartCd := r }, b) ∧
      (s.op ≠ .restarting → o = s.op) := by
  have hfix : ∃ hl f, s.tickFix b pq pr k = { s with health := hl, fixCd := f } := by
    unfold Server.tickFix
    split
    · split
      · have hc : Server.canAct { s with health := .good, fixCd := 0 } = false := h
        rw [(C17_unavailable_backup_restore _ hc b pq pr true k).2]
        exact ⟨_, _, rfl⟩
      · exact ⟨_, _, rfl⟩
    · exact ⟨_, _, rfl⟩
  obtain ⟨hl, f, hfix⟩ := hfix
  obtain ⟨o, r, hrs, ho⟩ := tickRestart_writes { s with health := hl, fixCd := f }
  unfold Server.tickSvc
  split
  · exact ⟨_, _, _, _, rfl, fun _ => rfl⟩
  · simp only [(C17_unavailable_backup_restore s h b pq true big true).1, ite_self]
    rw [hfix, hrs]
    exact ⟨hl, f, o, r, rfl, ho⟩

/-- **A tick restores (and backs up) only if the service can act.**  For every server state - every lifecycle state,
health, fix countdown, restart countdown, node state and countdowns - every backup host, timestep and path / saturation
input: if, after the node's own power step of this tick, the service cannot act (not RUNNING, or the node not ON), the tick
leaves the database file, downloads/, the connection table and the backup host's copy exactly as they were.  In particular a
FIXING countdown that ends in such a tick does not fetch the backup. -/
theorem C17_tick_restores_only_if_running (s : Server) (b : Backup) (t : Nat) (pq pr big k : Bool)
    (h : s.tickPower.canAct = false) :
    (serverTick s b t pq pr big k).2 = b ∧ (serverTick s b t pq pr big k).1.file = s.file ∧
    (serverTick s b t pq pr big k).1.downloads = s.downloads ∧ (serverTick s b t pq pr big k).1.conns = s.conns := by
  have hp := tickPower_data s
  unfold serverTick
  dsimp only
  split
  · exact ⟨rfl, hp.2.1, hp.1, hp.2.2⟩
  · split
    · have hc : s.tickPower.tickFtpc.canAct = false := by rw [tickFtpc_eq]; exact h
      obtain ⟨hl, f, o, r, e, _⟩ := tickSvc_cannot_act s.tickPower.tickFtpc b t pq pr big k hc
      rw [e, tickFtpc_eq]
      exact ⟨rfl, hp.2.1, hp.1, hp.2.2⟩
    · obtain ⟨hl, f, o, r, e, _⟩ := tickSvc_cannot_act s.tickPower b t pq pr big k h
      rw [e, tickFtpc_eq]
      exact ⟨rfl, hp.2.1, hp.1, hp.2.2⟩

/-- non-vacuity: data COMPROMISED, fix requested, service stopped before the countdown ends: the completing tick makes the
health GOOD and leaves the file COMPROMISED (the seeded C17-d tree restored it) -/
example :
    let st : State := { clients := [{}] }
    let ops : List Op := [.backup true, .connect 0, .hQuery 0 .delete, .svc .fix, .svc .stop, .tick true true true, .tick true true true]
    (run st ops).srv.op = .stopped ∧ (run st ops).srv.health = .good ∧ (run st ops).srv.file = some .compromised ∧
    (run st (ops ++ [.svc .start, .restore true true])).srv.file = some .good := by decide

/-- a service that stays out of action by itself: PAUSED or DISABLED (never started by a boot), or STOPPED on a node that is
not booting -/
def Server.Halted (s : Server) : Prop :=
  s.op = .paused ∨ s.op = .disabled ∨ (s.op = .stopped ∧ s.node.st ≠ .booting)

theorem halted_cannot_act (s : Server) (h : s.Halted) : s.canAct = false := by
  unfold Server.canAct
  rcases h with h | h | ⟨h, _⟩ <;> simp [h]

theorem node_tick_facts (n : Node) :
    (n.tick.2.1 = true → n.st = .booting ∧ n.tick.2.2 = false) ∧ (n.tick.2.2 = true → n.tick.1.st = .off) ∧
    (n.tick.1.st = .booting → n.st = .booting) := by
  unfold Node.tick
  dsimp only
  (repeat' split) <;> simp_all

theorem startUp_op (s : Server) :
    s.startUp.node = s.node ∧ (s.op = .paused → s.startUp.op = .paused) ∧ (s.op = .disabled → s.startUp.op = .disabled) := by
  unfold Server.startUp svcStart
  dsimp only
  refine ⟨by split <;> rfl, ?_, ?_⟩ <;> intro h <;> split <;> simp [h]

theorem shutDown_op (s : Server) :
    s.shutDown.node = s.node ∧ (s.op = .paused → s.shutDown.op = .paused ∨ s.shutDown.op = .stopped) ∧
    (s.op = .disabled → s.shutDown.op = .disabled) ∧ (s.op = .stopped → s.shutDown.op = .stopped) := by
  unfold Server.shutDown svcStop
  dsimp only
  refine ⟨by split <;> rfl, ?_, ?_, ?_⟩ <;> intro h <;> split <;> simp [h]

theorem halted_tickPower (s : Server) (h : s.Halted) : s.tickPower.Halted := by
  have hn := node_tick_facts s.node
  unfold Server.Halted at h ⊢
  unfold Server.tickPower
  dsimp only
  by_cases hb : s.node.tick.2.1 = true
  · -- the node finished booting in this tick: `start()` of every service - which starts only a STOPPED one
    rw [if_pos hb, if_neg (by rw [(hn.1 hb).2]; decide)]
    have hsu := startUp_op { s with node := s.node.tick.1 }
    rcases h with h | h | ⟨_, h'⟩
    · exact Or.inl (hsu.2.1 h)
    · exact Or.inr (Or.inl (hsu.2.2 h))
    · exact absurd (hn.1 hb).1 h'
  · rw [if_neg hb]
    by_cases hd : s.node.tick.2.2 = true
    · -- the node went OFF in this tick: `stop()` of every service
      rw [if_pos hd]
      have hsd := shutDown_op { s with node := s.node.tick.1 }
      have hoff : ({ s with node := s.node.tick.1 } : Server).shutDown.node.st ≠ .booting := by
        rw [hsd.1]; show s.node.tick.1.st ≠ _; rw [hn.2.1 hd]; decide
      rcases h with h | h | ⟨h, _⟩
      · exact (hsd.2.1 h).elim Or.inl (fun e => Or.inr (Or.inr ⟨e, hoff⟩))
      · exact Or.inr (Or.inl (hsd.2.2.1 h))
      · exact Or.inr (Or.inr ⟨hsd.2.2.2 h, hoff⟩)
    · rw [if_neg hd]
      rcases h with h | h | ⟨h, h'⟩
      · exact Or.inl h
      · exact Or.inr (Or.inl h)
      · exact Or.inr (Or.inr ⟨h, fun hc => h' (hn.2.2 hc)⟩)

theorem halted_keep (s s' : Server) (h : s.Halted) (hop : s'.op = s.op) (hn : s'.node = s.node) : s'.Halted := by
  unfold Server.Halted at h ⊢; rw [hop, hn]; exact h

theorem halted_serverTick (s : Server) (b : Backup) (t : Nat) (pq pr big k : Bool) (h : s.Halted) :
    (serverTick s b t pq pr big k).1.Halted := by
  have hp := halted_tickPower s h
  -- a halted service is not RESTARTING, so its own tick leaves the operating state (and the node) alone
  have hsvc : ∀ s' : Server, s'.Halted → (s'.tickSvc b t pq pr big k).1.Halted := by
    intro s' h'
    obtain ⟨hl, f, o, r, e, ho⟩ := tickSvc_cannot_act s' b t pq pr big k (halted_cannot_act s' h')
    have hnr : s'.op ≠ .restarting := by
      rcases h' with h1 | h1 | ⟨h1, _⟩ <;> rw [h1] <;> decide
    rw [e]
    exact halted_keep s' _ h' (ho hnr) rfl
  unfold serverTick
  dsimp only
  split
  · exact hp
  · split
    · exact hsvc _ (halted_keep _ _ hp (by rw [tickFtpc_eq]) (by rw [tickFtpc_eq]))
    · exact halted_keep _ _ (hsvc _ hp) (by rw [tickFtpc_eq]) (by rw [tickFtpc_eq])

/-- the operations by which time passes and clients / red applications / backup / restore calls arrive - everything but an
administrator starting the service again -/
def Op.isTrafficOrTick : Op → Bool
  | .tick _ _ _ => true
  | op => op.isTraffic

theorem isTrafficOrTick_cases (op : Op) (h : op.isTrafficOrTick = true) : (∃ g d k, op = .tick g d k) ∨ op.isTraffic = true := by
  cases op <;> first | exact Or.inr h | exact Or.inl ⟨_, _, _, rfl⟩

/-- **While the service is halted, nobody restores - not even a completing fix.**  From any state in which the database
service is PAUSED, DISABLED, or STOPPED on a node that is not booting, along EVERY sequence of ticks (any number, with any
fix / restart countdown running out in any of them), connects, queries, disconnects, executes, uninstalls, red-application
attacks, `backup_database()` and `restore_backup()` calls: the service stays halted, and the database file, downloads/ and
the connection table are exactly what they were.  (Only the health may change: a fix completes to GOOD.) -/
theorem C17_halted_service_never_restores_run (st : State) (ops : List Op)
    (hops : ∀ op ∈ ops, op.isTrafficOrTick = true) (h : st.srv.Halted) :
    (run st ops).srv.Halted ∧ (run st ops).srv.file = st.srv.file ∧ (run st ops).srv.downloads = st.srv.downloads ∧
    (run st ops).srv.conns = st.srv.conns := by
  have := (run_reach st ops).invariant
    (I := fun s => s.Halted ∧ s.file = st.srv.file ∧ s.downloads = st.srv.downloads ∧ s.conns = st.srv.conns)
    (fun s e ⟨op, hm, ha⟩ hs => by
      rcases isTrafficOrTick_cases op (hops op hm) with ⟨g, d, k, rfl⟩ | htr
      · obtain ⟨b, t, pq, pr, big, kk, rfl⟩ := ha
        have hk := C17_tick_restores_only_if_running s b t pq pr big kk (halted_cannot_act _ (halted_tickPower s hs.1))
        exact ⟨halted_serverTick s b t pq pr big kk hs.1, hk.2.1.trans hs.2.1, hk.2.2.1.trans hs.2.2.1, hk.2.2.2.trans hs.2.2.2⟩
      · rw [apply_unavailable s e (halted_cannot_act s hs.1) (traffic_events op htr e ha)]
        exact hs)
    ⟨h, rfl, rfl, rfl⟩
  exact this

example : ({ op := .stopped } : Server).Halted := Or.inr (Or.inr ⟨rfl, by decide⟩)

/-- orphans are never read: the outcome of backup and restore does not depend on them -/
theorem C17_orphans_irrelevant (s : Server) (b : Backup) (o : List FHealth) (pq pr k big : Bool) :
    restoreBackup s { b with orphans := o } pq pr k = restoreBackup s b pq pr k ∧
    (backupDatabase s { b with orphans := o } pq big).2.2 = (backupDatabase s b pq big).2.2 ∧
    (backupDatabase s { b with orphans := o } pq big).1 = (backupDatabase s b pq big).1 := by
  -- the backup is the same backup, carried out beside the orphans
  have key : backupDatabase s { b with orphans := o } pq big =
      ((backupDatabase s b pq big).1, { (backupDatabase s b pq big).2.1 with orphans := o }, (backupDatabase s b pq big).2.2) := by
    rw [backupDatabase_closed, backupDatabase_closed]
    simp only [show Backup.serves { b with orphans := o } = b.serves from rfl]
    split
    · rfl
    · split <;> rfl
  refine ⟨?_, by rw [key], by rw [key]⟩
  rw [restoreBackup_closed, restoreBackup_closed]; rfl

/-- **No backup, no restore - along every run.**  Once the backup host holds no copy for the current instance (it was
deleted there, the service was re-installed, or none was ever taken), then along EVERY sequence of operations that contains
neither an explicit backup nor a tick, it holds none, and every restore fails leaving the file as it is. -/
theorem C17_no_backup_stays_none_run (st : State) (ops : List Op) (h : st.bk.stored = none)
    (hops : ∀ op ∈ ops, op.mayStore = false) :
    (run st ops).bk.stored = none ∧
    ∀ d k, (step (run st ops) (.restore d k)).2.res ≠ some true ∧
      (step (run st ops) (.restore d k)).1.srv.file = (run st ops).srv.file := by
  have hn : (run st ops).bk.stored = none := run_invariant (fun st op hc h => step_keeps_none st op h hc) st ops hops h
  exact ⟨hn, fun d k => ⟨(C17_restore_without_backup _ d k hn).1, (C17_restore_without_backup _ d k hn).2.1⟩⟩

/-- non-vacuity: backup GOOD, DELETE, the copy deleted on the backup host: restore fails; a new backup stores the COMPROMISED
data, and the restore that then succeeds brings back compromised data -/
example :
    let st : State := { clients := [{}] }
    let ops : List Op := [.backup true, .connect 0, .hQuery 0 .delete, .bkDelete]
    (run st ops).bk.stored = none ∧ (step (run st ops) (.restore true true)).2.res = some false ∧
    (run st (ops ++ [.backup true])).bk.stored = some .compromised ∧
    (run st (ops ++ [.backup true, .restore true true])).srv.file = some .compromised := by decide

/-- `restore file`: a live file is restored in place (CORRUPT → GOOD, anything else kept); with no live file the OLDEST
deleted copy comes back with the health it was deleted with - so un-deleting a COMPROMISED database file yields
COMPROMISED data again (and a backup taken then stores exactly that, `C17_backup_stores`). -/
theorem C17_fs_restore_file (f : Fold) :
    (f.present = false → f.act .fundelete = (f, some false)) ∧
    (f.present = true → ∀ h, f.live = some h →
        f.act .fundelete = ({ f with live := some (if h = .corrupt then .good else h) }, some true)) ∧
    (f.present = true → f.live = none → ∀ h rest, f.deleted = h :: rest →
        f.act .fundelete = ({ f with live := some h, deleted := rest }, some true)) ∧
    (f.present = true → f.live = none → f.deleted = [] → f.act .fundelete = (f, some false)) := by
  unfold Fold.act
  refine ⟨?_, ?_, ?_, ?_⟩
  · intro h; simp [h]
  · intro hp h hl; simp [hp, hl]
  · intro hp hl h rest hd; simp [hp, hl, hd]
  · intro hp hl hd; simp [hp, hl, hd]

example :
    let st : State := { clients := [{}] }
    let ops : List Op := [.backup true, .connect 0, .hQuery 0 .delete, .fsr true .fdelete, .restore true true,
                          .fsr true .fdelete, .fsr true .fundelete]
    (run st ops).srv.file = some .compromised ∧ (run st ops).srv.fileDeleted = [.good] := by decide

/-- **The FTP client's health does not matter** (`compromise` / `fix` requests on it): backup and restore give the same
result whatever it is - only its operating state counts (`C17_ftp_client_needed`). -/
theorem C17_ftpc_health_irrelevant (s : Server) (b : Backup) (pq pr k big : Bool) (c : Bool) (fx : Option Nat) :
    (restoreBackup { s with ftpcComp := c, ftpcFix := fx } b pq pr k).2 = (restoreBackup s b pq pr k).2 ∧
    (restoreBackup { s with ftpcComp := c, ftpcFix := fx } b pq pr k).1.file = (restoreBackup s b pq pr k).1.file ∧
    (backupDatabase { s with ftpcComp := c, ftpcFix := fx } b pq big).2 = (backupDatabase s b pq big).2 := by
  have e1 : Server.canAct { s with ftpcComp := c, ftpcFix := fx } = s.canAct := rfl
  have e2 : Server.ftpcAct { s with ftpcComp := c, ftpcFix := fx } = s.ftpcAct := rfl
  -- the restore is the same restore, carried out beside the two fields
  have key : restoreBackup { s with ftpcComp := c, ftpcFix := fx } b pq pr k =
      ({ (restoreBackup s b pq pr k).1 with ftpcComp := c, ftpcFix := fx }, (restoreBackup s b pq pr k).2) := by
    rw [restoreBackup_closed, restoreBackup_closed]
    simp only [e1, e2]
    split
    · rfl
    · split
      · split <;> rfl
      · rfl
  refine ⟨by rw [key], by rw [key], ?_⟩
  · rw [backupDatabase_closed, backupDatabase_closed]
    simp only [e1, e2]
    split
    · rfl
    · split <;> rfl

end Primaite.Database
