/-
C06 — blocking is effective: a host cut off from another cannot affect it; a denied frame is never forwarded
nor handed to the device's own software.

Layer 1 (element lemmas): what one interface / router / firewall does with one frame (Model/Filter.lean).
Layer 2 (cut theorem): any sequence of operations on the attacker side of a cut leaves every protected node's
state unchanged (generic part in Lemmas/C06Cut.lean, instantiated here for PrimAITE's element kinds); the decidable
certificate `certify` of Model/Filter.lean implies its structural hypotheses.
Software above the filtering layer is an arbitrary parameter (`Soft`): every theorem holds for all of it.
The literal tables of the model are compared with the regenerated ones (Gen/Filter.lean) at the end.
-/
import PrimaiteModel.Model.Filter
import PrimaiteModel.Lemmas.C06Layer
import PrimaiteModel.Props.C07
import PrimaiteModel.Gen.Filter
namespace Primaite.Filter
open Primaite Primaite.Acl Primaite.Cut

variable {W : Type}

/-- **A disabled (or absent) interface receives nothing**: the node's state is untouched, nothing is emitted,
whatever the node kind, power state, rule lists and software. -/
theorem C06_iface_disabled_inert_rx (soft : Soft W) (s : Node W) (p : Nat) (f : Frame)
    (h : portEnabled s p = false) : nodeRx soft s p f = .done s := by
  refine nodeRx_closed (· = .done s) soft s p f rfl fun i hi hg => ?_
  have := ((ifaceRx_eq_up_iff _ _ _ _ _).mp hg).1
  simp [portEnabled, hi, this] at h

/-- Every emission of a script satisfies `Q own-state port frame` at the moment it is made. -/
inductive Emits {S Port F : Type} (Q : S → Port → F → Prop) : Act S Port F → Prop
  | done {s} : Emits Q (.done s)
  | send {s q g k} : Q s q g → (∀ s', Emits Q (k s')) → Emits Q (.send s q g k)

/-- **A disabled interface sends nothing**: behind the interface-send layer every emission happens on a port
that is enabled in the node's state at that moment — for every script. -/
theorem C06_iface_disabled_inert_tx (a : Script W) :
    Emits (fun s q _ => portEnabled s q = true) (guardSends portEnabled a) := by
  induction a with
  | done s => exact Emits.done
  | send s q g k ih =>
    simp only [guardSends]
    split
    · rename_i h; exact Emits.send h (fun s' => ih s')
    · exact ih s

/-- Every emission of a whole element goes through the interface-send layer. -/
theorem C06_node_tx_only_enabled (soft : Soft W) (s : Node W) (p : Nat) (f : Frame) :
    Emits (fun s q _ => portEnabled s q = true) (nodeRx soft s p f) :=
  nodeRx_closed _ soft s p f Emits.done fun _ _ _ => C06_iface_disabled_inert_tx _

/-- A frame whose TTL is exhausted at the receiving interface is dropped before the node sees it. -/
theorem C06_ttl_expired_inert (soft : Soft W) (s : Node W) (p : Nat) (f : Frame) (h : f.ttl ≤ 1) :
    nodeRx soft s p f = .done s := by
  refine nodeRx_closed (· = .done s) soft s p f rfl fun _ _ hg => ?_
  have := ((ifaceRx_eq_up_iff _ _ _ _ _).mp hg).2.1
  omega

theorem emits_guard_stamp (st : Node W → Nat → Frame → Frame) (Q : Node W → Nat → Frame → Prop)
    (h : ∀ s q g, portEnabled s q = true → Q s q (st s q g)) (a : Script W) :
    Emits Q (guardSends portEnabled (stampSends st a)) := by
  induction a with
  | done s => exact Emits.done
  | send s q g k ih =>
    simp only [stampSends, guardSends]
    split
    · rename_i hen; exact Emits.send (h s q g hen) (fun s' => ih s')
    · exact ih s

/-- **Hosts emit their own source** (`SessionManager.receive_payload_from_software_manager`): every frame a
host's software puts on a wire carries the MAC and IP of the interface it leaves through. -/
theorem C06_host_emits_own_src (a : Script W) :
    Emits (fun s q g => ∀ i, s.ifaces[q]? = some i → g.srcMac = i.mac ∧ g.pkt.srcIp = i.ip) (localOp a) := by
  exact emits_guard_stamp ownSrc _ (fun s q g _ i hi => by simp [ownSrc, hi]) a

/-- **A router that is not ON ignores every frame**, even on an enabled interface. -/
theorem C06_router_off_inert (soft : Soft W) (s : Node W) (p : Nat) (f : Frame)
    (hk : s.kind = .router) (hoff : s.on = false) : nodeRx soft s p f = .done s := by
  refine nodeRx_closed (· = .done s) soft s p f rfl fun _ _ _ => ?_
  simp [nodeLayer_router soft hk, routerRxWith, hoff, guardSends]

/-- The statement one would like for every node kind: a node that is not ON ignores frames. -/
def C06_FullNodeOffInert : Prop :=
  ∀ (soft : Soft Unit) (s : Node Unit) (p : Nat) (f : Frame), s.on = false → nodeRx soft s p f = .done s

/-- What the code gives: it holds for routers (explicit guard) and for every node whose interfaces are all
disabled — the invariant "not ON ⇒ interfaces disabled" is C12's (it holds in every reachable state since the
repair of F-14; `Gen.Filter.powerGuard` keeps the missing guards visible). -/
theorem C06_node_off_inert_partial (soft : Soft W) (s : Node W) (p : Nat) (f : Frame) (hoff : s.on = false)
    (h : s.kind = .router ∨ ∀ i ∈ s.ifaces, i.enabled = false) : nodeRx soft s p f = .done s := by
  rcases h with hk | hall
  · exact C06_router_off_inert soft s p f hk hoff
  · exact C06_iface_disabled_inert_rx soft s p f (portEnabled_of_allDown s hall p)

/-- a host that is OFF with its NIC still enabled (was reachable on the unchanged tree through `power_off` with
`shut_down_duration = 0`, F-14; after C12's repair no request sequence produces it any more, but nothing in
`HostNode.receive_frame` itself excludes it) -/
def exOffHost : Node Unit :=
  { kind := .host, on := false, ifaces := [{ enabled := true, mac := 7, ip := 0x0A000202#32, mask := 0xFFFFFF00#32 }],
    acls := fun _ => Acl.empty 0 .deny, sw := () }

def exPing : Frame :=
  { srcMac := 5, dstMac := 7, pkt := { proto := .icmp, srcIp := 0x0A000102#32, dstIp := 0x0A000202#32, ports := none },
    ttl := 63, arp := false, tag := 0 }

/-- software that answers every accepted frame on the port it came from -/
def exEchoSoft : Soft Unit :=
  { capture := fun _ _ _ => (), learn := fun _ _ _ => (), hostAccept := fun _ _ => true, toSession := fun _ _ => true,
    session := fun s p f => .send s p f (fun s' => .done s'), process := fun s p f => .send s p f (fun s' => .done s'),
    dmzLookup := fun s _ _ => .done s, dmzOutNic := fun _ _ => none,
    switchFwd := fun s p f => .send s p f (fun s' => .done s') }

/-- F-13: `HostNode.receive_frame` (likewise `Switch`, `Firewall`) has no operating-state guard of its own:
an OFF host whose NIC is enabled hands the frame to its software, which answers. -/
theorem C06_node_off_counterexample : ¬ C06_FullNodeOffInert := by
  intro h
  have := h exEchoSoft exOffHost 0 exPing rfl
  simp [nodeRx, exOffHost, exPing, ifaceRx, nodeLayer, hostRx, exEchoSoft, guardSends, portEnabled, bcastMac] at this

/-- A list that denies every packet (e.g. an any-any DENY rule ahead of every other rule). -/
def DeniesAll (a : Acl) : Prop := ∀ pkt, (isPermitted a pkt).1 = false

/-- A list that denies every packet of class `C`. -/
def DeniesClass (C : Packet → Prop) (a : Acl) : Prop := ∀ pkt, C pkt → (isPermitted a pkt).1 = false

/-- Hit counters never weaken a block: after any verdict the list denies the same class. -/
theorem deniesClass_stable (C : Packet → Prop) (a : Acl) (q : Packet) (h : DeniesClass C a) :
    DeniesClass C (isPermitted a q).2.2 := by
  intro pkt hc
  have := (C07_verdict_stable a pkt q).1
  exact this.trans (h pkt hc)

theorem deniesAll_stable (a : Acl) (q : Packet) (h : DeniesAll a) : DeniesAll (isPermitted a q).2.2 := by
  intro pkt
  exact deniesClass_stable (fun _ => True) a q (fun p _ => h p) pkt trivial

theorem deniesClass_mono {C D : Packet → Prop} (a : Acl) (h : DeniesClass D a) (hcd : ∀ p, C p → D p) : DeniesClass C a :=
  fun p hp => h p (hcd p hp)

theorem setAcl_bump_keeps (G : Acl → Prop) (hG : ∀ a q, G a → G (isPermitted a q).2.2) (s : Node W) (a b : AclId) (q : Packet)
    (h : G (s.acls b)) : G ((s.setAcl a (isPermitted (s.acls a) q).2.2).acls b) := by
  by_cases hba : b = a
  · subst hba; simpa [Node.setAcl] using hG _ q h
  · simpa [Node.setAcl, hba] using h

theorem firstMatch_first_slot (p : Packet) (k : Nat) (r : Rule) (rest : List (Option Rule)) (hm : r.hits? p = true) :
    firstMatch p (List.replicate k none ++ some r :: rest) 0 = some (k, r) :=
  firstMatch_eq_some_iff.mpr ⟨by simp, hm, fun j hj r' e => by simp [List.getElem?_append_left, hj] at e⟩

/-- **Rule shape "any-any"**: if the first non-empty slot holds a DENY rule with no field specified, the list
denies everything, whatever follows and whatever the implicit action. -/
theorem deniesAll_of_first_anyany (k : Nat) (r : Rule) (rest : List (Option Rule)) (imp : Action) (ih : Nat)
    (hr : r.action = .deny ∧ r.proto = none ∧ r.srcIp = none ∧ r.dstIp = none ∧ r.srcPort = none ∧ r.dstPort = none) :
    DeniesAll { rules := List.replicate k none ++ some r :: rest, implicit := imp, implicitHits := ih } := by
  intro pkt
  obtain ⟨h1, h2, h3, h4, h5, h6⟩ := hr
  have hm : r.hits? pkt = true := by
    simp [Rule.hits?, protoMatches, addrMatches, portMatches, h2, h3, h4, h5, h6]
  rw [isPermitted_of_some (firstMatch_first_slot pkt k r rest hm), h1]
  rfl

/-- **Rule shape "source range"** (exact address when the wildcard is absent): a DENY rule in the first
non-empty slot that specifies only a source address / wildcard denies every packet whose source it covers. -/
theorem deniesClass_of_first_src (k : Nat) (r : Rule) (rest : List (Option Rule)) (imp : Action) (ih : Nat)
    (hr : r.action = .deny ∧ r.proto = none ∧ r.dstIp = none ∧ r.srcPort = none ∧ r.dstPort = none) :
    DeniesClass (fun pkt => addrMatches r.srcIp r.srcWc pkt.srcIp = true)
      { rules := List.replicate k none ++ some r :: rest, implicit := imp, implicitHits := ih } := by
  intro pkt hc
  obtain ⟨h1, h2, h4, h5, h6⟩ := hr
  have hm : r.hits? pkt = true := by
    simp [Rule.hits?, protoMatches, portMatches, h2, h5, h6, hc]
    simp [addrMatches, h4]
  rw [isPermitted_of_some (firstMatch_first_slot pkt k r rest hm), h1]
  rfl

/-- An empty list with implicit DENY (a firewall's internal and DMZ lists by default) denies everything. -/
theorem deniesAll_of_empty (k : Nat) (ih : Nat) :
    DeniesAll { rules := List.replicate k none, implicit := .deny, implicitHits := ih } := by
  intro pkt
  rw [isPermitted_of_none (firstMatch_eq_none_iff.mpr fun j r' e => by simp [List.getElem?_replicate] at e)]
  rfl

/-- **A frame the router's list denies is inert**: the handler finishes at once; the only change is the
deciding rule's hit counter — no ARP learning (`sw` untouched), no delivery to the session manager, no
`process_frame`, nothing emitted. -/
theorem C06_router_deny_inert (soft : Soft W) (s : Node W) (p : Nat) (f : Frame)
    (hk : s.kind = .router) (hon : s.on = true) (hsub : subjectToAcl f = some true)
    (hdeny : (isPermitted (s.acls .router) f.pkt).1 = false) :
    nodeLayer soft s p f = .done (s.setAcl .router (isPermitted (s.acls .router) f.pkt).2.2) := by
  simp [nodeLayer_router soft hk, routerRxWith, hon, hsub, hdeny]

/-- The same through the interface: the frame arrives on an enabled interface, addressed to it, TTL alive. -/
theorem C06_router_deny_inert_rx (soft : Soft W) (s : Node W) (p : Nat) (i : Iface) (f f' : Frame)
    (hi : s.ifaces[p]? = some i) (hg : ifaceRx s.kind s.ifaces i f = .up f')
    (hk : s.kind = .router) (hon : s.on = true) (hsub : subjectToAcl f' = some true)
    (hdeny : (isPermitted (s.acls .router) f'.pkt).1 = false) :
    nodeRx soft s p f = .done (s.setAcl .router (isPermitted (s.acls .router) f'.pkt).2.2) := by
  simp [nodeRx, hi, hg, C06_router_deny_inert soft s p f' hk hon hsub hdeny, guardSends]

theorem setAcl_frame (s : Node W) (a : AclId) (x : Acl) :
    (s.setAcl a x).kind = s.kind ∧ (s.setAcl a x).on = s.on ∧ (s.setAcl a x).ifaces = s.ifaces ∧
    (s.setAcl a x).sw = s.sw ∧ (s.setAcl a x).acls a = x ∧ ∀ b, b ≠ a → (s.setAcl a x).acls b = s.acls b := by
  refine ⟨rfl, rfl, rfl, rfl, by simp [Node.setAcl], ?_⟩
  intro b hb
  simp [Node.setAcl, hb]

/-- Which frames skip the router's list: exactly UDP frames to port 219 that carry an ARP packet. -/
theorem C06_router_exempt_iff (f : Frame) :
    subjectToAcl f = some false ↔ f.pkt.proto = .udp ∧ f.arp = true ∧ ∃ sp, f.pkt.ports = some (sp, arpPort) := by
  unfold subjectToAcl
  by_cases hp : f.pkt.proto = .udp
  · cases hports : f.pkt.ports with
    | none => simp [hp]
    | some sd =>
      obtain ⟨sp, d⟩ := sd
      simp [hp]
      constructor
      · rintro ⟨h1, h2⟩; exact ⟨h2, h1⟩
      · rintro ⟨h1, h2⟩; exact ⟨h2, h1⟩
  · simp [hp]

/-- With a deny-everything list, a router drops every frame that does not carry an ARP packet
(frames whose IP protocol says UDP are assumed to have a UDP header, as the session manager builds them). -/
theorem C06_router_deny_all_nonarp_inert (soft : Soft W) (s : Node W) (p : Nat) (f : Frame)
    (hk : s.kind = .router) (hall : DeniesAll (s.acls .router)) (hna : f.arp = false)
    (hwf : f.pkt.proto = .udp → f.pkt.ports ≠ none) :
    ∃ s', nodeLayer soft s p f = .done s' ∧ s'.sw = s.sw ∧ s'.ifaces = s.ifaces ∧ s'.on = s.on := by
  cases hon : s.on with
  | false => exact ⟨s, by simp [nodeLayer_router soft hk, routerRxWith, hon], rfl, rfl, hon⟩
  | true =>
    have hsub : subjectToAcl f = some true := by
      unfold subjectToAcl
      by_cases hp : f.pkt.proto = .udp
      · cases hports : f.pkt.ports with
        | none => exact absurd hports (hwf hp)
        | some sd => simp [hp, hna]
      · simp [hp]
    exact ⟨_, C06_router_deny_inert soft s p f hk hon hsub (hall f.pkt), rfl, rfl, hon⟩

/-- The router as it was before the repair of F-33 (every UDP frame to port 219 skipped the list). -/
def C06_FullRouterDenyUnfixed : Prop :=
  ∀ (soft : Soft Unit) (s : Node Unit) (p : Nat) (f : Frame), s.kind = .router → DeniesAll (s.acls .router) →
    f.arp = false → ∃ s', routerRxWith subjectToAclUnfixed soft s p f = .done s'

def exDenyAllAcl : Acl := { rules := [some anyPattern] ++ List.replicate 23 none, implicit := .deny }

def exRouter : Node Unit :=
  { kind := .router, on := true,
    ifaces := [{ enabled := true, mac := 1, ip := 0x0A000101#32, mask := 0xFFFFFF00#32 },
               { enabled := true, mac := 2, ip := 0x0A000201#32, mask := 0xFFFFFF00#32 }],
    acls := fun _ => exDenyAllAcl, sw := () }

/-- an nmap port-scan probe: UDP, destination port 219, payload not an ARP packet -/
def exScan219 : Frame :=
  { srcMac := 5, dstMac := 1, pkt := { proto := .udp, srcIp := 0x0A000102#32, dstIp := 0x0A000202#32, ports := some (219, 219) },
    ttl := 63, arp := false, tag := 1 }

theorem exDenyAllAcl_deniesAll : DeniesAll exDenyAllAcl :=
  deniesAll_of_first_anyany 0 anyPattern (List.replicate 23 none) .deny 0 ⟨rfl, rfl, rfl, rfl, rfl, rfl⟩

/-- F-33 (found by this check, repaired): on the unchanged tree a router whose list denies everything still
handed a UDP/219 data frame to `process_frame`, which forwarded it. -/
theorem C06_router_deny_unfixed_counterexample : ¬ C06_FullRouterDenyUnfixed := by
  intro h
  obtain ⟨s', hs'⟩ := h exEchoSoft exRouter 0 exScan219 rfl exDenyAllAcl_deniesAll rfl
  simp [routerRxWith, subjectToAclUnfixed, exRouter, exScan219, arpPort, permitted, exEchoSoft] at hs'

/-- non-vacuity of `C06_router_deny_all_nonarp_inert` on the same witness, repaired test -/
example : ∃ s', nodeLayer exEchoSoft exRouter 0 exScan219 = .done s' ∧ s'.sw = exRouter.sw :=
  let ⟨s', h, hsw, _, _⟩ := C06_router_deny_all_nonarp_inert exEchoSoft exRouter 0 exScan219 rfl
    exDenyAllAcl_deniesAll rfl (by simp [exScan219])
  ⟨s', h, hsw⟩

/-- **First-stage entry points** (`_process_external_inbound_frame`, `_process_internal_outbound_frame`,
`_process_dmz_outbound_frame`): a frame denied by the arrival zone's list is inert — only that list's hit
counter changes; no ARP learning, no session manager, no second stage, nothing emitted. No frame is exempt and
the firewall's power state is not consulted. -/
theorem C06_firewall_first_deny_inert (soft : Soft W) (s : Node W) (p : Nat) (f : Frame) (e : FwEntry)
    (hk : s.kind = .firewall) (hp : portEntry p = some e)
    (hdeny : (isPermitted (s.acls (entryAcl e)) f.pkt).1 = false) :
    nodeLayer soft s p f = .done (s.setAcl (entryAcl e) (isPermitted (s.acls (entryAcl e)) f.pkt).2.2) := by
  simp [nodeLayer_firewall soft hk, fwRx, hp, fwFirst, hdeny]

/-- **Second-stage entry points** (`_process_external_outbound_frame`, `_process_internal_inbound_frame`,
`_process_dmz_inbound_frame`): a frame denied by the destination zone's list never reaches `process_frame`. -/
theorem C06_firewall_final_deny_inert (soft : Soft W) (s : Node W) (p : Nat) (f : Frame) (e : FwEntry)
    (hdeny : (isPermitted (s.acls (entryAcl e)) f.pkt).1 = false) :
    fwFinal soft e s p f = .done (s.setAcl (entryAcl e) (isPermitted (s.acls (entryAcl e)) f.pkt).2.2) := by
  simp [fwFinal, hdeny]

inductive Zone | ext | int | dmz
deriving DecidableEq, Repr

/-- The zone → list table: arrival zone, destination zone ↦ second list consulted (`none` = dropped without a
second verdict). Quirks kept: a frame from the external zone that is not for the DMZ network is checked against
*internal inbound* whatever its real destination; likewise internal → non-DMZ is checked against
*external outbound*. -/
def zoneTable : Zone → Zone → Option FwEntry
  | .ext, .dmz => some .dmzIn
  | .ext, _ => some .intIn
  | .int, .dmz => some .dmzIn
  | .int, _ => some .extOut
  | .dmz, .ext => some .extOut
  | .dmz, .int => some .intIn
  | .dmz, .dmz => none

def zoneEntry : Zone → FwEntry
  | .ext => .extIn | .int => .intOut | .dmz => .dmzOut
def zonePort : Zone → Nat
  | .ext => extPort | .int => intPort | .dmz => dmzPort

/-- destination zone as the code determines it, per arrival zone -/
def dstZone (soft : Soft W) (z : Zone) (s : Node W) (f : Frame) : Option Zone :=
  match z with
  | .dmz =>
    match soft.dmzOutNic s f with
    | some q => if q = extPort then some .ext else if q = intPort then some .int else none
    | none => none
  | .ext => if inDmzNet s f then some .dmz else some .int
  | .int => if inDmzNet s f then some .dmz else some .ext

/-- **`firewall_path`**: for a frame arriving from zone `z₁`, permitted by `z₁`'s first list and not addressed
to the firewall's own software, the second stage is exactly the `zoneTable z₁ z₂` entry point (with its list),
where `z₂` is the destination zone as resolved by the code (from the DMZ a layer-2 broadcast is dropped before any look-up). -/
theorem C06_firewall_path (soft : Soft W) (z₁ : Zone) (s2 : Node W) (f : Frame) :
    fwNext soft (zoneEntry z₁) (zonePort z₁) f s2 =
      match z₁ with
      | .dmz =>
        if f.dstMac == bcastMac then .done s2 else
        (soft.dmzLookup s2 (zonePort .dmz) f).bind fun s3 =>
          match (dstZone soft .dmz s3 f).bind (zoneTable .dmz) with
          | some e => fwFinal soft e s3 (zonePort .dmz) f
          | none => .done s3
      | z => match (dstZone soft z s2 f).bind (zoneTable z) with
          | some e => fwFinal soft e s2 (zonePort z) f
          | none => .done s2 := by
  cases z₁ with
  | ext => simp only [zoneEntry, fwNext, dstZone]; split <;> simp [zoneTable]
  | int => simp only [zoneEntry, fwNext, dstZone]; split <;> simp [zoneTable]
  | dmz =>
    simp only [zoneEntry, fwNext, dstZone]
    split
    · rfl
    congr 1
    funext s3
    cases soft.dmzOutNic s3 f with
    | none => simp
    | some q =>
      by_cases h1 : q = extPort
      · simp [h1, zoneTable]
      · by_cases h2 : q = intPort
        · simp [h2, zoneTable, extPort, intPort]
        · simp [h1, h2]

/-- The arrival port selects the first list: external ↦ external inbound, internal ↦ internal outbound,
DMZ ↦ DMZ outbound; frames on any other port are dropped. -/
theorem C06_firewall_first_list (z : Zone) : portEntry (zonePort z) = some (zoneEntry z) := by
  cases z <;> rfl

section cut
variable {N : Type} [DecidableEq N]

def SideFacing (sys : Sys N Nat Frame (Node W)) (side : N → Bool) (n : N) (p : Nat) : Prop :=
  ∃ n' q, side n' = true ∧ sys.wire n' q = some (n, p)

/-- frame class: "arrived over a wire from an attacker-side node" (no restriction on its contents) -/
def FromSide (sys : Sys N Nat Frame (Node W)) (side : N → Bool) (n : N) (p : Nat) (_ : Frame) : Prop :=
  SideFacing sys side n p

/-- Why an attacker-side node lets nothing through to the protected side. -/
inductive Role (W : Type)
  /-- every wire of the node stays on the attacker side (A itself, its switches, routers, …): the node may do anything -/
  | interior
  /-- an element (of any kind) whose every interface towards the protected side is disabled — this covers a
      disabled router / switch / firewall port, a disabled NIC, and a powered-off device (C12: not ON ⇒ interfaces
      disabled) -/
  | ifaceDown (soft : Soft W)
  /-- a router that is not ON -/
  | routerOff (soft : Soft W)
  /-- a router whose list denies everything -/
  | routerDeny (soft : Soft W)
  /-- a firewall whose first-stage list denies everything on every port facing the attacker side -/
  | fwDeny (soft : Soft W)
  /-- a device whose every interface facing the attacker side is disabled (B itself powered off or with its NIC
      disabled, a switch / router / firewall on B's side whose uplink port is disabled): it may be wired to enabled
      attacker-side ports; its state stays exactly `s0` -/
  | frozen (soft : Soft W) (s0 : Node W)

def BoundaryDown (sys : Sys N Nat Frame (Node W)) (side : N → Bool) (n : N) (s : Node W) : Prop :=
  ∀ q m r, sys.wire n q = some (m, r) → side m = false → portEnabled s q = false

/-- the invariant each role maintains -/
def inv (sys : Sys N Nat Frame (Node W)) (side : N → Bool) (role : N → Role W) (n : N) (s : Node W) : Prop :=
  match role n with
  | .interior => True
  | .ifaceDown _ => BoundaryDown sys side n s
  | .routerOff _ => s.kind = .router ∧ s.on = false
  | .routerDeny _ => s.kind = .router ∧ DeniesAll (s.acls .router)
  | .fwDeny _ => s.kind = .firewall ∧
      ∀ p e, SideFacing sys side n p → portEntry p = some e → DeniesAll (s.acls (entryAcl e))
  | .frozen _ s0 => s = s0 ∧ ∀ p, SideFacing sys side n p → portEnabled s0 p = false

/-- The software of an element never writes a state violating `P` (e.g. never re-enables a boundary interface
while processing frames). -/
structure SoftKeeps (soft : Soft W) (P : Node W → Prop) : Prop where
  session : ∀ s p f, P s → Pres P (soft.session s p f)
  process : ∀ s p f, P s → Pres P (soft.process s p f)
  dmzLookup : ∀ s p f, P s → Pres P (soft.dmzLookup s p f)
  switchFwd : ∀ s p f, P s → Pres P (soft.switchFwd s p f)

/-- what must be checked of each attacker-side node, by role -/
def RoleOK (sys : Sys N Nat Frame (Node W)) (side : N → Bool) (role : N → Role W) (n : N) : Prop :=
  match role n with
  | .interior => ∀ q m r, sys.wire n q = some (m, r) → side m = true
  | .ifaceDown soft => sys.handler n = nodeRx soft ∧ SoftKeeps soft (BoundaryDown sys side n)
  | .routerOff soft => sys.handler n = nodeRx soft
  | .routerDeny soft => sys.handler n = nodeRx soft ∧
      -- the only frames that skip the list are ARP packets; what the router's ARP handling emits stays on the attacker side
      ∀ s p f, inv sys side role n s → SideFacing sys side n p → subjectToAcl f = some false →
        SafeAct sys side (FromSide sys side) (inv sys side role) n (guardSends portEnabled (permitted soft s p f))
  | .fwDeny soft => sys.handler n = nodeRx soft
  | .frozen soft _ => sys.handler n = nodeRx soft

omit [DecidableEq N] in
theorem fromSide_of_wire (sys : Sys N Nat Frame (Node W)) (side : N → Bool) (n : N) (hn : side n = true)
    (q : Nat) (m : N) (r : Nat) (g : Frame) (h : sys.wire n q = some (m, r)) : FromSide sys side m r g :=
  ⟨n, q, hn, h⟩

/-- predicates that only read the interfaces survive counter bumps and software-state updates -/
theorem nodeLayer_pres (soft : Soft W) (P : Node W → Prop) (hsw : ∀ s x, P s → P { s with sw := x })
    (hacl : ∀ s a x, P s → P (s.setAcl a x)) (hk : SoftKeeps soft P) (s : Node W) (p : Nat) (f : Frame) (hs : P s) :
    Pres P (nodeLayer soft s p f) := by
  have hperm : ∀ s, P s → Pres P (permitted soft s p f) := fun s hs =>
    permitted_closed _ P hsw soft s p f hs (fun _ h => hk.session _ _ _ h) (fun _ h => hk.process _ _ _ h)
  cases hkind : s.kind with
  | host => exact hostLayer_closed _ P (fun _ => Pres.done) hsw soft s p f hkind hs (fun _ h => hk.session _ _ _ h)
  | switch => rw [nodeLayer_switch soft hkind]; exact hk.switchFwd _ _ _ hs
  | router =>
    exact routerLayer_closed _ P (fun _ => Pres.done) soft s p f hkind hs (fun _ => hperm s hs) (fun _ _ => hacl _ _ _ hs)
      (fun _ _ => hperm _ (hacl _ _ _ hs))
  | firewall =>
    refine fwLayer_closed _ P (fun _ => Pres.done) hsw (pres_bind P) soft s p f hkind hs (fun _ _ => hacl _ _ _ hs) ?_
    intro e _ _
    refine ⟨fun _ h => hk.session _ _ _ h, fun _ _ h => hk.dmzLookup _ _ _ h, fun s3 e2 h3 _ => ?_⟩
    exact fwFinal_closed _ P (fun _ => Pres.done) soft e2 s3 p f (hacl _ _ _ h3) (fun _ => hk.process _ _ _ (hacl _ _ _ h3))

omit [DecidableEq N] in
/-- `BoundaryDown` reads the interfaces only: software that keeps it keeps it through the whole node layer -/
theorem boundaryDown_layer_pres (sys : Sys N Nat Frame (Node W)) (side : N → Bool) (n : N) (soft : Soft W)
    (hk : SoftKeeps soft (BoundaryDown sys side n)) (s : Node W) (p : Nat) (f : Frame) (hs : BoundaryDown sys side n s) :
    Pres (BoundaryDown sys side n) (nodeLayer soft s p f) :=
  nodeLayer_pres soft _ (fun _ _ h => h) (fun _ _ _ h => h) hk s p f hs

omit [DecidableEq N] in
theorem boundaryDown_side (sys : Sys N Nat Frame (Node W)) (side : N → Bool) (n : N) (s : Node W) (q : Nat) (m : N) (r : Nat)
    (h : BoundaryDown sys side n s) (hen : portEnabled s q = true) (hw : sys.wire n q = some (m, r)) : side m = true := by
  cases hsm : side m with
  | true => rfl
  | false => rw [h q m r hw hsm] at hen; cases hen

/-- **Cut theorem for PrimAITE topologies.**  Let `side` mark the attacker side together with the blocking
elements, and give every such node a role.  If every node meets its role's condition, the system is a cut:
every frame that arrives over a wire from the attacker side is processed without anything reaching the
protected side, and the role invariants (interfaces still disabled, router still off, lists still denying —
hit counters change, verdicts do not) are re-established after every step. -/
theorem C06_cut (sys : Sys N Nat Frame (Node W)) (side : N → Bool) (role : N → Role W)
    (hroles : ∀ n, side n = true → RoleOK sys side role n) :
    IsCut sys side (FromSide sys side) (inv sys side role) := by
  constructor
  intro n s p f hn hI hK
  have hKw : ∀ q m r g, sys.wire n q = some (m, r) → FromSide sys side m r g :=
    fun q m r g h => fromSide_of_wire sys side n hn q m r g h
  have hok := hroles n hn
  unfold RoleOK at hok
  cases hr : role n with
  | interior =>
    simp only [hr] at hok
    exact safe_of_interior sys side _ _ n hKw (fun s => by simp [inv, hr]) hok _
  | ifaceDown soft =>
    simp only [hr] at hok
    obtain ⟨hh, hkeeps⟩ := hok
    have hfun : inv sys side role n = BoundaryDown sys side n := by funext s'; simp [inv, hr]
    rw [hh]
    refine nodeRx_closed _ soft s p f (SafeAct.done hI) (fun _ _ _ => ?_)
    apply safe_of_guard sys side _ _ n portEnabled hKw
    · rw [hfun]; exact boundaryDown_side sys side n
    · rw [hfun] at hI ⊢
      exact boundaryDown_layer_pres sys side n soft hkeeps s p _ hI
  | routerOff soft =>
    simp only [hr] at hok
    have hI' : s.kind = .router ∧ s.on = false := by simpa [inv, hr] using hI
    rw [hok, C06_router_off_inert soft s p f hI'.1 hI'.2]
    exact SafeAct.done hI
  | routerDeny soft =>
    simp only [hr] at hok
    obtain ⟨hh, hex⟩ := hok
    have hI' : s.kind = .router ∧ DeniesAll (s.acls .router) := by simpa [inv, hr] using hI
    rw [hh]
    refine nodeRx_closed _ soft s p f (SafeAct.done hI) (fun _ _ _ => ?_)
    refine routerLayer_closed (SafeG sys side _ _ portEnabled n) _ (fun _ => SafeAct.done) soft s p _ hI'.1 hI (hex s p _ hI hK)
      (fun _ _ => ?_)
      (fun _ hv => absurd (hI'.2 _) (by rw [hv]; simp))
    simp only [inv, hr]
    exact ⟨hI'.1, setAcl_bump_keeps _ deniesAll_stable s _ _ _ hI'.2⟩
  | fwDeny soft =>
    simp only [hr] at hok
    have hinv : ∀ s', inv sys side role n s' ↔ (s'.kind = .firewall ∧
        ∀ p e, SideFacing sys side n p → portEntry p = some e → DeniesAll (s'.acls (entryAcl e))) := by
      intro s'; simp [inv, hr]
    have hI' := (hinv s).mp hI
    rw [hok]
    refine nodeRx_closed _ soft s p f (SafeAct.done hI) (fun _ _ _ => ?_)
    refine fwLayer_closed (SafeG sys side _ _ portEnabled n) _ (fun _ => SafeAct.done)
      (fun s' x h' => (hinv _).mpr ((hinv s').mp h')) (safe_guard_bind sys side _ _ n portEnabled) soft s p _ hI'.1 hI ?_
      (fun e hpe hv => absurd (hI'.2 p e hK hpe _) (by rw [hv]; simp))
    intro e hpe
    exact (hinv _).mpr ⟨hI'.1, fun p' e' hfs hpe' => setAcl_bump_keeps _ deniesAll_stable s _ _ _ (hI'.2 p' e' hfs hpe')⟩
  | frozen soft s0 =>
    simp only [hr] at hok
    have hI' : s = s0 ∧ ∀ p, SideFacing sys side n p → portEnabled s0 p = false := by simpa [inv, hr] using hI
    rw [hok, C06_iface_disabled_inert_rx soft s p f (by rw [hI'.1]; exact hI'.2 p hK)]
    exact SafeAct.done hI

/-- **C06, headline.**  In a cut, any sequence of admissible local operations on the attacker side — each
running to completion with all the traffic it triggers, whatever the ARP caches, MAC tables, sessions and
software states are (they are part of the universally quantified initial state) — leaves the state of every
protected node exactly as it was. -/
theorem C06_blocked_unchanged (sys : Sys N Nat Frame (Node W)) (side : N → Bool) (role : N → Role W)
    (hroles : ∀ n, side n = true → RoleOK sys side role n)
    (ops : List (Nat × Op N Nat Frame (Node W)))
    (hops : ∀ o ∈ ops, SafeOp sys side (FromSide sys side) (inv sys side role) o.2)
    (σ : St N (Node W)) (hσ : ∀ n, side n = true → inv sys side role n (σ n)) :
    ∀ t, side t = false → runOps sys σ ops t = σ t :=
  (runOps_good sys side _ _ (C06_cut sys side role hroles) ops σ hops hσ).2

/-- Operations on interior nodes (host A and everything on its side of the block) are admissible whatever
they do: any action, application or attack. -/
theorem C06_safeOp_interior (sys : Sys N Nat Frame (Node W)) (side : N → Bool) (role : N → Role W)
    (o : Op N Nat Frame (Node W)) (hn : side o.node = true) (hr : role o.node = .interior)
    (hw : ∀ q m r, sys.wire o.node q = some (m, r) → side m = true) :
    SafeOp sys side (FromSide sys side) (inv sys side role) o :=
  ⟨hn, fun _ _ => safe_of_interior sys side _ _ o.node
    (fun q m r g h => fromSide_of_wire sys side o.node hn q m r g h) (fun s => by simp [inv, hr]) hw _⟩

/-- Operations on an element whose boundary interfaces are disabled (e.g. A itself with its NIC disabled) are
admissible when they go through the session manager / interface-send layer and do not re-enable the
interface. -/
theorem C06_safeOp_ifaceDown (sys : Sys N Nat Frame (Node W)) (side : N → Bool) (role : N → Role W) (soft : Soft W)
    (n : N) (a : Node W → Script W) (hn : side n = true) (hr : role n = .ifaceDown soft)
    (ha : ∀ s, BoundaryDown sys side n s → Pres (BoundaryDown sys side n) (stampSends ownSrc (a s))) :
    SafeOp sys side (FromSide sys side) (inv sys side role) { node := n, script := fun s => localOp (a s) } := by
  refine ⟨hn, ?_⟩
  intro s hs
  have hfun : inv sys side role n = BoundaryDown sys side n := by funext s'; simp [inv, hr]
  show SafeAct sys side _ _ n (guardSends portEnabled (stampSends ownSrc (a s)))
  apply safe_of_guard sys side _ _ n portEnabled (fun q m r g h => fromSide_of_wire sys side n hn q m r g h)
  · rw [hfun]; exact boundaryDown_side sys side n
  · rw [hfun] at hs ⊢; exact ha s hs

/-- A frozen node (attacker-facing interfaces disabled: B powered off, B's NIC disabled, …) keeps exactly its state even though
attacker-side ports wired to it are enabled. -/
theorem C06_frozen_unchanged (sys : Sys N Nat Frame (Node W)) (side : N → Bool) (role : N → Role W)
    (hroles : ∀ n, side n = true → RoleOK sys side role n)
    (ops : List (Nat × Op N Nat Frame (Node W)))
    (hops : ∀ o ∈ ops, SafeOp sys side (FromSide sys side) (inv sys side role) o.2)
    (σ : St N (Node W)) (hσ : ∀ n, side n = true → inv sys side role n (σ n))
    (n : N) (hn : side n = true) (soft : Soft W) (s0 : Node W) (hr : role n = .frozen soft s0) :
    runOps sys σ ops n = σ n := by
  have h := (runOps_good sys side _ _ (C06_cut sys side role hroles) ops σ hops hσ).1 n hn
  have h0 := hσ n hn
  simp only [inv, hr] at h h0
  rw [h.1, h0.1]

end cut

section certify

theorem isPermitted_of_firstMatch_deny (a : Acl) (p : Packet)
    (h : match firstMatch p a.rules 0 with
      | some (_, r) => r.action = .deny
      | none => a.implicit = .deny) : (isPermitted a p).1 = false := by
  unfold isPermitted
  cases hf : firstMatch p a.rules 0 with
  | none => simp only [hf] at h; simp [h]
  | some ir => obtain ⟨i, r⟩ := ir; simp only [hf] at h; simp [h]

/-- what the certificates' three scans of a rule list (`denyAllCheck`, `denyScan`, `denyDstScan`) have in common -/
theorem firstMatch_deny_of_scan (p : Packet) (imp : Action) (scan : List (Option Rule) → Bool)
    (hnil : scan [] = true → imp = .deny) (hnone : ∀ rest, scan (none :: rest) = true → scan rest = true)
    (hsome : ∀ r rest, scan (some r :: rest) = true → r.action = .deny ∧ (r.hits? p = true ∨ scan rest = true)) :
    ∀ (rules : List (Option Rule)) (off : Nat), scan rules = true →
      match firstMatch p rules off with
      | some (_, r) => r.action = .deny
      | none => imp = .deny := by
  intro rules
  induction rules with
  | nil => intro off h; simpa [firstMatch] using hnil h
  | cons x rest ih =>
    intro off h
    cases x with
    | none => simpa [firstMatch] using ih (off + 1) (hnone rest h)
    | some r =>
      obtain ⟨hd, hr⟩ := hsome r rest h
      simp only [firstMatch]
      by_cases hm : r.hits? p = true
      · simp only [hm, if_true]; exact hd
      · simp only [hm, Bool.false_eq_true, if_false]
        exact ih (off + 1) (hr.resolve_left hm)

theorem denyAllCheck_sound (a : Acl) (h : denyAllCheck a = true) : DeniesAll a := by
  intro pkt
  refine isPermitted_of_firstMatch_deny a pkt (firstMatch_deny_of_scan pkt a.implicit
    (fun rules => match firstSome rules with | some r => anyAnyDeny r | none => a.implicit == .deny)
    (fun h => by simpa [firstSome] using h) (fun _ h => h) (fun r _ h => ?_) a.rules 0 h)
  simp only [firstSome, anyAnyDeny, Bool.and_eq_true, Option.isNone_iff_eq_none, beq_iff_eq] at h
  obtain ⟨⟨⟨⟨⟨h1, h2⟩, h3⟩, h4⟩, h5⟩, h6⟩ := h
  exact ⟨h1, Or.inl (by simp [Rule.hits?, protoMatches, addrMatches, portMatches, h2, h3, h4, h5, h6])⟩

variable (t : Topo) (softs : Nat → Soft W) (hInt : Nat → Node W → Nat → Frame → Script W)

/-- the system a topology denotes: interior nodes run arbitrary handlers `hInt`, every other attacker-side node
is a PrimAITE element with software `softs n` -/
def topoSys : Sys Nat Nat Frame (Node W) :=
  { handler := fun n => match t.role n with
      | .interior => hInt n
      | _ => nodeRx (softs n),
    wire := t.wire }

def topoRole (σ : St Nat (Node W)) (n : Nat) : Role W :=
  match t.role n with
  | .interior => .interior
  | .ifaceDown => .ifaceDown (softs n)
  | .routerOff => .routerOff (softs n)
  | .routerDeny => .routerDeny (softs n)
  | .fwDeny => .fwDeny (softs n)
  | .frozen => .frozen (softs n) (σ n)

theorem certify_node (σ : St Nat (Node W)) (hc : certify t σ = true) (n : Nat) (hn : t.side n = true) :
    certifyNode t n (σ n) = true := by
  have hlt : n < t.nodes.length := by
    unfold Topo.side at hn
    cases hx : t.nodes[n]? with
    | none => simp [hx] at hn
    | some x => exact (List.getElem?_eq_some_iff.mp hx).1
  unfold certify at hc
  have := List.all_eq_true.mp hc n (List.mem_range.mpr hlt)
  simpa [hn] using this

/-- **Soundness of the certificate**: if `certify` accepts, every attacker-side node satisfies its role's
invariant in the given state, and interior nodes have no wire leaving the attacker side. -/
theorem C06_certify_sound (σ : St Nat (Node W)) (hc : certify t σ = true) (n : Nat) (hn : t.side n = true) :
    inv (topoSys t softs hInt) t.side (topoRole t softs σ) n (σ n) ∧
    (t.role n = .interior → ∀ q m r, t.wire n q = some (m, r) → t.side m = true) := by
  have hcn := certify_node t σ hc n hn
  unfold certifyNode at hcn
  refine ⟨?_, fun hr q m r hw => ?_⟩
  · cases hr : t.role n with
    | interior => simp [inv, topoRole, hr]
    | ifaceDown =>
      simp only [hr] at hcn
      simp only [inv, topoRole, hr]
      intro q m r hw hm
      have := List.all_eq_true.mp hcn _ (wires_find_mem t.wires n q m r hw)
      simpa [hm] using this
    | routerOff =>
      simp only [hr] at hcn
      simp only [inv, topoRole, hr]
      simpa using hcn
    | routerDeny =>
      simp only [hr, Bool.and_eq_true, beq_iff_eq] at hcn
      simp only [inv, topoRole, hr]
      exact ⟨hcn.1, denyAllCheck_sound _ hcn.2⟩
    | fwDeny =>
      simp only [hr, Bool.and_eq_true, beq_iff_eq] at hcn
      simp only [inv, topoRole, hr]
      refine ⟨hcn.1, fun p e hsf hpe => ?_⟩
      obtain ⟨n', q, hs', hw⟩ := hsf
      have := List.all_eq_true.mp hcn.2 _ (wires_find_mem t.wires n' q n p hw)
      simp only [bne_self_eq_false, hs', Bool.not_true, Bool.false_or, hpe] at this
      exact denyAllCheck_sound _ this
    | frozen =>
      simp only [hr] at hcn
      simp only [inv, topoRole, hr, true_and]
      intro p hsf
      obtain ⟨n', q, hs', hw⟩ := hsf
      have := List.all_eq_true.mp hcn _ (wires_find_mem t.wires n' q n p hw)
      simpa [hs'] using this
  · simp only [hr] at hcn
    have := List.all_eq_true.mp hcn _ (wires_find_mem t.wires n q m r hw)
    simpa using this

/-- **C06 for a certified scenario.**  If the certificate accepts topology `t` in state `σ`, then for all
software of the blocking elements that (a) never re-enables a boundary interface while processing frames and
(b) keeps a denying router's ARP handling on the attacker side, and for ALL handlers of the interior nodes, any
sequence of operations on interior nodes leaves every protected node — and every frozen one — exactly as in `σ`. -/
theorem C06_certified_unchanged (σ : St Nat (Node W)) (hc : certify t σ = true)
    (hkeep : ∀ n, t.side n = true → t.role n = .ifaceDown →
      SoftKeeps (softs n) (BoundaryDown (topoSys t softs hInt) t.side n))
    (hexempt : ∀ n, t.side n = true → t.role n = .routerDeny → ∀ s p f,
      inv (topoSys t softs hInt) t.side (topoRole t softs σ) n s → SideFacing (topoSys t softs hInt) t.side n p →
      subjectToAcl f = some false →
      SafeAct (topoSys t softs hInt) t.side (FromSide (topoSys t softs hInt) t.side)
        (inv (topoSys t softs hInt) t.side (topoRole t softs σ)) n (guardSends portEnabled (permitted (softs n) s p f)))
    (ops : List (Nat × Op Nat Nat Frame (Node W)))
    (hops : ∀ o ∈ ops, t.side o.2.node = true ∧
      (t.role o.2.node = .interior ∨
       -- an operation on a node whose own boundary interface is down (A with its NIC disabled): it goes through the
       -- session manager and the interface-send layer and does not re-enable the interface
       (t.role o.2.node = .ifaceDown ∧ ∃ a : Node W → Script W, o.2.script = (fun s => localOp (a s)) ∧
          ∀ s, BoundaryDown (topoSys t softs hInt) t.side o.2.node s →
            Pres (BoundaryDown (topoSys t softs hInt) t.side o.2.node) (stampSends ownSrc (a s))))) :
    ∀ m, (t.side m = false ∨ t.role m = .frozen) → runOps (topoSys t softs hInt) σ ops m = σ m := by
  have hroles : ∀ n, t.side n = true → RoleOK (topoSys t softs hInt) t.side (topoRole t softs σ) n := by
    intro n hn
    have hs := (C06_certify_sound t softs hInt σ hc n hn).2
    unfold RoleOK
    cases hr : t.role n with
    | interior => simp only [topoRole, hr]; exact hs hr
    | ifaceDown => simp only [topoRole, hr]; exact ⟨by simp [topoSys, hr], hkeep n hn hr⟩
    | routerOff => simp only [topoRole, hr]; simp [topoSys, hr]
    | routerDeny =>
      simp only [topoRole, hr]
      exact ⟨by simp [topoSys, hr], hexempt n hn hr⟩
    | fwDeny => simp only [topoRole, hr]; simp [topoSys, hr]
    | frozen => simp only [topoRole, hr]; simp [topoSys, hr]
  have hσ : ∀ n, t.side n = true → inv (topoSys t softs hInt) t.side (topoRole t softs σ) n (σ n) :=
    fun n hn => (C06_certify_sound t softs hInt σ hc n hn).1
  have hops' : ∀ o ∈ ops, SafeOp (topoSys t softs hInt) t.side (FromSide (topoSys t softs hInt) t.side)
      (inv (topoSys t softs hInt) t.side (topoRole t softs σ)) o.2 := by
    intro o ho
    obtain ⟨h1, h2 | ⟨h2, a, ha, hp⟩⟩ := hops o ho
    · exact C06_safeOp_interior _ _ _ o.2 h1 (by simp [topoRole, h2])
        ((C06_certify_sound t softs hInt σ hc o.2.node h1).2 h2)
    · refine ⟨h1, fun s hs => ?_⟩
      rw [ha]
      exact (C06_safeOp_ifaceDown (topoSys t softs hInt) t.side (topoRole t softs σ) (softs o.2.node) o.2.node a h1
        (by simp [topoRole, h2]) hp).2 s hs
  intro m hm
  cases hsm : t.side m with
  | false => exact C06_blocked_unchanged _ _ _ hroles ops hops' σ hσ m hsm
  | true =>
    rcases hm with hm | hm
    · rw [hsm] at hm; cases hm
    · exact C06_frozen_unchanged _ _ _ hroles ops hops' σ hσ m hsm (softs m) (σ m) (by simp [topoRole, hm])

end certify

section examples

/-- node 0 = A, node 1 = the blocking element X, node 2 = B; A—X on X's port 0, X—B on X's port 1 -/
def exWire : Fin 3 → Nat → Option (Fin 3 × Nat)
  | 0, 0 => some (1, 0)
  | 1, 0 => some (0, 0)
  | 1, 1 => some (2, 0)
  | 2, 0 => some (1, 1)
  | _, _ => none

def exSide : Fin 3 → Bool
  | 2 => false
  | _ => true

/-- A and B run arbitrary handlers `hA`, `hB`; X is a PrimAITE element with echoing software -/
def exSys (hA hB : Node Unit → Nat → Frame → Script Unit) : Sys (Fin 3) Nat Frame (Node Unit) :=
  { handler := fun n => if n = 0 then hA else if n = 1 then nodeRx exEchoSoft else hB, wire := exWire }

def exRole (r : Role Unit) : Fin 3 → Role Unit := fun n => if n = 1 then r else .interior

theorem exWire_some {n : Fin 3} {q : Nat} {m : Fin 3} {r : Nat} (h : exWire n q = some (m, r)) :
    (n = 0 ∧ q = 0 ∧ m = 1 ∧ r = 0) ∨ (n = 1 ∧ q = 0 ∧ m = 0 ∧ r = 0) ∨ (n = 1 ∧ q = 1 ∧ m = 2 ∧ r = 0) ∨
    (n = 2 ∧ q = 0 ∧ m = 1 ∧ r = 1) := by
  unfold exWire at h
  split at h <;> simp_all

theorem exSideFacing (hA hB) (p : Nat) (h : SideFacing (exSys hA hB) exSide 1 p) : p = 0 := by
  obtain ⟨n', q, hs, hw⟩ := h
  rcases exWire_some hw with ⟨_, _, _, h⟩ | ⟨_, _, h, _⟩ | ⟨_, _, h, _⟩ | ⟨rfl, _⟩
  · exact h
  · cases h
  · cases h
  · cases hs

theorem exInterior0 (q : Nat) (m : Fin 3) (r : Nat) (h : exWire 0 q = some (m, r)) : exSide m = true := by
  rcases exWire_some h with ⟨_, _, rfl, _⟩ | ⟨h, _⟩ | ⟨h, _⟩ | ⟨h, _⟩
  · rfl
  all_goals cases h

theorem exBoundaryDown (sys : Sys (Fin 3) Nat Frame (Node Unit)) (hw : sys.wire = exWire) (s : Node Unit) :
    BoundaryDown sys exSide 1 s ↔ portEnabled s 1 = false := by
  constructor
  · intro h; exact h 1 2 0 (by rw [hw]; rfl) rfl
  · intro h q m r hq hm
    rw [hw] at hq
    rcases exWire_some hq with ⟨h, _⟩ | ⟨_, _, rfl, _⟩ | ⟨_, rfl, _⟩ | ⟨h, _⟩
    · cases h
    · cases hm
    · exact h
    · cases h

/-- A — X — B with A alone operated: whatever X's role, if X meets its condition then B's state never changes, and X keeps its
invariant. -/
theorem exPath_blocked (sys : Sys (Fin 3) Nat Frame (Node Unit)) (hw : sys.wire = exWire) (r : Role Unit)
    (hok : RoleOK sys exSide (exRole r) 1) (ops : List (Nat × Op (Fin 3) Nat Frame (Node Unit))) (hops : ∀ o ∈ ops, o.2.node = 0)
    (σ : St (Fin 3) (Node Unit)) (hσ : inv sys exSide (exRole r) 1 (σ 1)) :
    runOps sys σ ops 2 = σ 2 ∧ inv sys exSide (exRole r) 1 (runOps sys σ ops 1) := by
  have hint : ∀ q m r', sys.wire 0 q = some (m, r') → exSide m = true := by rw [hw]; exact exInterior0
  have hroles : ∀ n, exSide n = true → RoleOK sys exSide (exRole r) n := by
    intro n hn
    match n with
    | 0 => exact hint
    | 1 => exact hok
    | 2 => simp [exSide] at hn
  have h := runOps_good sys exSide _ _ (C06_cut sys exSide (exRole r) hroles) ops σ ?_ ?_
  · exact ⟨h.2 2 rfl, h.1 1 rfl⟩
  · intro o ho
    have h0 := hops o ho
    exact C06_safeOp_interior _ _ _ o.2 (by rw [h0]; rfl) (by rw [h0]; rfl) (by rw [h0]; exact hint)
  · intro n hn
    match n with
    | 0 => simp [inv, exRole]
    | 1 => exact hσ
    | 2 => simp [exSide] at hn

/-- X = firewall, A on its external port, external-inbound list denies everything: whatever A and its software do
(and whatever the firewall's own software would do with a permitted frame), B's state never changes. -/
example (hA hB) (ops : List (Nat × Op (Fin 3) Nat Frame (Node Unit))) (hops : ∀ o ∈ ops, o.2.node = 0)
    (σ : St (Fin 3) (Node Unit)) (hk : (σ 1).kind = .firewall) (hd : DeniesAll ((σ 1).acls .extIn)) :
    runOps (exSys hA hB) σ ops 2 = σ 2 := by
  refine (exPath_blocked (exSys hA hB) rfl (.fwDeny exEchoSoft) (by simp [RoleOK, exRole, exSys]) ops hops σ ?_).1
  simp only [inv, exRole, if_true]
  refine ⟨hk, ?_⟩
  intro p e hp hpe
  have := exSideFacing hA hB p hp
  subst this
  simp [portEntry, extPort] at hpe
  subst hpe
  exact hd

/-- X = router that is OFF (its interfaces may even still be enabled). -/
example (hA hB) (ops : List (Nat × Op (Fin 3) Nat Frame (Node Unit))) (hops : ∀ o ∈ ops, o.2.node = 0)
    (σ : St (Fin 3) (Node Unit)) (hk : (σ 1).kind = .router) (hoff : (σ 1).on = false) :
    runOps (exSys hA hB) σ ops 2 = σ 2 := by
  refine (exPath_blocked (exSys hA hB) rfl (.routerOff exEchoSoft) (by simp [RoleOK, exRole, exSys]) ops hops σ ?_).1
  simp only [inv, exRole, if_true]; exact ⟨hk, hoff⟩

/-- X = router whose list denies everything; its software answers ARP on the port the request came from. -/
example (hA hB) (ops : List (Nat × Op (Fin 3) Nat Frame (Node Unit))) (hops : ∀ o ∈ ops, o.2.node = 0)
    (σ : St (Fin 3) (Node Unit)) (hk : (σ 1).kind = .router) (hd : DeniesAll ((σ 1).acls .router)) :
    runOps (exSys hA hB) σ ops 2 = σ 2 := by
  refine (exPath_blocked (exSys hA hB) rfl (.routerDeny exEchoSoft) ?_ ops hops σ ?_).1
  · simp only [RoleOK, exRole, if_true]
    refine ⟨by simp [exSys], ?_⟩
    intro s p f hs hp _
    have := exSideFacing hA hB p hp
    subst this
    simp only [permitted, exEchoSoft, if_true]
    refine safe_guard_send _ _ _ _ 1 portEnabled s 0 f hs (fun _ m r hw => ?_)
    simp [exSys, exWire] at hw
    obtain ⟨rfl, rfl⟩ := hw
    exact ⟨rfl, ⟨1, 0, rfl, rfl⟩⟩
  · simp only [inv, exRole, if_true]; exact ⟨hk, hd⟩

/-- X = any element (host, switch, router, firewall) whose port towards B is disabled and whose software never
re-enables it; the link X—B may as well be missing. -/
example (hA hB) (ops : List (Nat × Op (Fin 3) Nat Frame (Node Unit))) (hops : ∀ o ∈ ops, o.2.node = 0)
    (σ : St (Fin 3) (Node Unit)) (hd : portEnabled (σ 1) 1 = false) :
    runOps (exSys hA hB) σ ops 2 = σ 2 := by
  refine (exPath_blocked (exSys hA hB) rfl (.ifaceDown exEchoSoft) ?_ ops hops σ ?_).1
  · simp only [RoleOK, exRole, if_true]
    refine ⟨by simp [exSys], ?_⟩
    have hecho : ∀ (s : Node Unit) (p : Nat) (f : Frame), BoundaryDown (exSys hA hB) exSide 1 s →
        Pres (BoundaryDown (exSys hA hB) exSide 1) (.send s p f (fun s' => .done s') : Script Unit) :=
      fun s p f hs => Pres.send hs (fun s' hs' => Pres.done hs')
    exact ⟨hecho, hecho, fun s _ _ hs => Pres.done hs, hecho⟩
  · simp only [inv, exRole, if_true]
    exact (exBoundaryDown (exSys hA hB) rfl _).mpr hd

end examples

/-! ### ties to the source (Gen/Filter.lean is regenerated from firewall.py, router.py, switch.py, host_node.py,
base.py, session_manager.py on every run) -/

theorem C06_gen_firewall_table :
    Gen.Filter.entryAcl = [("extIn", "extIn"), ("extOut", "extOut"), ("intIn", "intIn"), ("intOut", "intOut"),
                           ("dmzIn", "dmzIn"), ("dmzOut", "dmzOut")] ∧
    Gen.Filter.entryCalls =
      [("extIn", ["learn", "session", "entry:dmzIn", "entry:intIn"]),
       ("extOut", ["process"]), ("intIn", ["process"]),
       ("intOut", ["learn", "session", "entry:dmzIn", "entry:extOut"]),
       ("dmzIn", ["process"]),
       ("dmzOut", ["learn", "session", "lookup", "lookup", "entry:extOut", "entry:intIn"])] ∧
    Gen.Filter.portDispatch = [(extPort + 1, "extIn"), (intPort + 1, "intOut"), (dmzPort + 1, "dmzOut")] ∧
    Gen.Filter.verdictFirst = true := ⟨rfl, rfl, rfl, rfl⟩

/-- names used by the extractor for the model's tables -/
def FwEntry.name : FwEntry → String
  | .extIn => "extIn" | .extOut => "extOut" | .intIn => "intIn" | .intOut => "intOut" | .dmzIn => "dmzIn" | .dmzOut => "dmzOut"
def AclId.name : AclId → String
  | .router => "router" | .intIn => "intIn" | .intOut => "intOut" | .dmzIn => "dmzIn" | .dmzOut => "dmzOut"
  | .extIn => "extIn" | .extOut => "extOut"
def Callee.name : Callee → String
  | .learn => "learn" | .session => "session" | .process => "process" | .lookup => "lookup" | .entry e => "entry:" ++ e.name

def allEntries : List FwEntry := [.extIn, .extOut, .intIn, .intOut, .dmzIn, .dmzOut]

/-- the model's own tables are the regenerated ones: `entryAcl` is what `fwFirst` / `fwFinal` ask; `entryCalls` is a literal
record of the call order `fwFirst` / `fwNext` are written in (no definition reads it) -/
theorem C06_gen_firewall_model :
    allEntries.map (fun e => (e.name, (entryAcl e).name)) = Gen.Filter.entryAcl ∧
    allEntries.map (fun e => (e.name, (entryCalls e).map Callee.name)) = Gen.Filter.entryCalls :=
  ⟨rfl, by decide +kernel⟩

theorem C06_gen_router_order :
    Gen.Filter.routerOrder = routerOrder ∧ Gen.Filter.arpPort = arpPort ∧ Gen.Filter.exemptNeedsArpPayload = true :=
  ⟨rfl, rfl, rfl⟩

theorem C06_gen_iface_order :
    Gen.Filter.nicOrder = ifaceOrder ∧ Gen.Filter.switchPortOrder = ifaceOrder ∧ Gen.Filter.routerIfOrder = ifaceOrder ∧
    Gen.Filter.sendGuardFirst = true ∧ Gen.Filter.nicUnicastNeedsOwnIp = nicUnicastNeedsOwnIp :=
  ⟨rfl, rfl, rfl, rfl, rfl⟩

theorem C06_gen_power_guard :
    Gen.Filter.powerGuard = [("router", powerGuard .router), ("firewall", powerGuard .firewall),
      ("switch", powerGuard .switch), ("host", powerGuard .host)] := rfl

/-- the session manager stamps the outbound interface's own MAC / IP and sends on that same interface; it is
the only `send_frame` call site in the software layer; no software reaches into another node's objects -/
theorem C06_gen_software_boundary :
    Gen.Filter.sessionStampsOwnSrc = true ∧ Gen.Filter.softwareSendFrameSites = ["core/session_manager.py"] ∧
    Gen.Filter.crossNodeReaches = [] := ⟨rfl, rfl, rfl⟩

end Primaite.Filter
