/-
C08, part 6 — fuel independence of the forwarding interpreter, UNCONDITIONALLY (any topology, configuration, state):
a run that does not run out of fuel computes exactly the same result, state, log and frame with any larger fuel.
Together with `C08Termination.lean` (no run with fuel ≥ `fuelBound` runs out of fuel under `GoodCfg`) this gives
`∀ fuel ≥ fuelBound, runOp fuel st op = runOp fuelBound st op` (`C08_operation_terminates`).
-/
import PrimaiteModel.Lemmas.ForwardEff
namespace Primaite.Forward

theorem oof_emit {st : St} (e : Ev) (h : st.oof = true) : (st.emit e).oof = true := h
theorem oof_mod {st : St} (n : Nat) (f : Node → Node) (h : st.oof = true) : (st.modNode n f).oof = true := h
theorem oof_nextId {st : St} (k : Nat) (h : st.oof = true) : ({ st with nextId := k } : St).oof = true := h
theorem oof_out (st : St) : st.out.oof = true := rfl
theorem oof_emit_eq (st : St) (e : Ev) : (st.emit e).oof = st.oof := rfl
theorem oof_mod_eq (st : St) (n : Nat) (f : Node → Node) : (st.modNode n f).oof = st.oof := rfl

structure SAt (fuel : Nat) : Prop where
  send : ∀ st n i f, st.oof = true → (sendFrame fuel st n i f).1.oof = true
  recv : ∀ st n i f, st.oof = true → (ifaceRecv fuel st n i f).1.oof = true
  sw : ∀ st n i f, st.oof = true → (switchRecv fuel st n i f).1.oof = true
  flood : ∀ st n i f ports, st.oof = true → (floodPorts fuel st n i f ports).1.oof = true
  host : ∀ st n i f, st.oof = true → (hostRecv fuel st n i f).1.oof = true
  router : ∀ st n i f, st.oof = true → (routerRecv fuel st n i f).1.oof = true
  process : ∀ st n i f, st.oof = true → (routerProcess fuel st n i f).1.oof = true
  arpReply : ∀ st n pl, st.oof = true → (sendArpReply fuel st n pl).oof = true
  arpPkt : ∀ st n pl d, st.oof = true → (sendArpPkt fuel st n pl d).oof = true
  icmp : ∀ st n d pl, st.oof = true → (sendIcmp fuel st n d pl).oof = true
  details : ∀ st n d, st.oof = true → (resolveDetails fuel st n d).1.oof = true
  out : ∀ st n d, st.oof = true → (resolveOut fuel st n d).1.oof = true
  mac : ∀ st n ip re gw, st.oof = true → (arpMac fuel st n ip re gw).1.oof = true
  ifc : ∀ st n ip re gw, st.oof = true → (arpIfc fuel st n ip re gw).1.oof = true
  req : ∀ st n t, st.oof = true → (sendArpReq fuel st n t).oof = true

/-- close a goal `(… nested calls … X …).oof = true` from `h : X.oof = true`: each callee keeps the flag (`ih`), so does every
update of the state. -/
macro "sticky" ih:ident h:ident : tactic => `(tactic|
  simp (maxDischargeDepth := 8) +zetaDelta only [($ih).send, ($ih).recv, ($ih).sw, ($ih).flood, ($ih).host, ($ih).router,
    ($ih).process, ($ih).arpReply, ($ih).arpPkt, ($ih).icmp, ($ih).details, ($ih).out, ($ih).mac, ($ih).ifc, ($ih).req,
    oof_emit, oof_mod, oof_nextId, apply_ite St.oof, ite_self, $h:ident])

theorem sAt (fuel : Nat) : SAt fuel where
  send st n i f := ((eAt fuel).send st n i f).1 .refl |>.oof
  recv st n i f := ((eAt fuel).recv st n i f).1 .refl |>.oof
  sw st n i f := ((eAt fuel).sw st n i f).1 .refl |>.oof
  flood st n i f ports := ((eAt fuel).flood st n i f ports).1 .refl |>.oof
  host st n i f := ((eAt fuel).host st n i f).1 .refl |>.oof
  router st n i f := ((eAt fuel).router st n i f).1 .refl |>.oof
  process st n i f := ((eAt fuel).process st n i f).1 .refl |>.oof
  arpReply st n pl := (eAt fuel).arpReply st n pl .refl |>.oof
  arpPkt st n pl d := (eAt fuel).arpPkt st n pl d .refl |>.oof
  icmp st n d pl := (eAt fuel).icmp st n d pl .refl |>.oof
  details st n d := (eAt fuel).details st n d .refl |>.oof
  out st n d := (eAt fuel).out st n d .refl |>.oof
  mac st n ip re gw := (eAt fuel).mac st n ip re gw .refl |>.oof
  ifc st n ip re gw := (eAt fuel).ifc st n ip re gw .refl |>.oof
  req st n t := (eAt fuel).req st n t .refl |>.oof

structure MAt (fuel : Nat) : Prop where
  send : ∀ st n i f x', sendFrame (fuel + 1) st n i f = x' → (sendFrame fuel st n i f).1.oof = true ∨ x' = sendFrame fuel st n i f
  recv : ∀ st n i f x', ifaceRecv (fuel + 1) st n i f = x' → (ifaceRecv fuel st n i f).1.oof = true ∨ x' = ifaceRecv fuel st n i f
  sw : ∀ st n i f x', switchRecv (fuel + 1) st n i f = x' → (switchRecv fuel st n i f).1.oof = true ∨ x' = switchRecv fuel st n i f
  flood : ∀ st n i f ports x', floodPorts (fuel + 1) st n i f ports = x' → (floodPorts fuel st n i f ports).1.oof = true ∨ x' = floodPorts fuel st n i f ports
  host : ∀ st n i f x', hostRecv (fuel + 1) st n i f = x' → (hostRecv fuel st n i f).1.oof = true ∨ x' = hostRecv fuel st n i f
  router : ∀ st n i f x', routerRecv (fuel + 1) st n i f = x' → (routerRecv fuel st n i f).1.oof = true ∨ x' = routerRecv fuel st n i f
  process : ∀ st n i f x', routerProcess (fuel + 1) st n i f = x' → (routerProcess fuel st n i f).1.oof = true ∨ x' = routerProcess fuel st n i f
  arpReply : ∀ st n pl x', sendArpReply (fuel + 1) st n pl = x' → (sendArpReply fuel st n pl).oof = true ∨ x' = sendArpReply fuel st n pl
  arpPkt : ∀ st n pl d x', sendArpPkt (fuel + 1) st n pl d = x' → (sendArpPkt fuel st n pl d).oof = true ∨ x' = sendArpPkt fuel st n pl d
  icmp : ∀ st n d pl x', sendIcmp (fuel + 1) st n d pl = x' → (sendIcmp fuel st n d pl).oof = true ∨ x' = sendIcmp fuel st n d pl
  details : ∀ st n d x', resolveDetails (fuel + 1) st n d = x' → (resolveDetails fuel st n d).1.oof = true ∨ x' = resolveDetails fuel st n d
  out : ∀ st n d x', resolveOut (fuel + 1) st n d = x' → (resolveOut fuel st n d).1.oof = true ∨ x' = resolveOut fuel st n d
  mac : ∀ st n ip re gw x', arpMac (fuel + 1) st n ip re gw = x' → (arpMac fuel st n ip re gw).1.oof = true ∨ x' = arpMac fuel st n ip re gw
  ifc : ∀ st n ip re gw x', arpIfc (fuel + 1) st n ip re gw = x' → (arpIfc fuel st n ip re gw).1.oof = true ∨ x' = arpIfc fuel st n ip re gw
  req : ∀ st n t x', sendArpReq (fuel + 1) st n t = x' → (sendArpReq fuel st n t).oof = true ∨ x' = sendArpReq fuel st n t

/-- one step of the congruence proof: finished, or rewrite the next closed call by the induction hypothesis (if that call ran
out of fuel, so does the whole body: stickiness), or split the next match. -/
macro "mono_step" ih:ident is:ident fuel:ident : tactic => `(tactic| first
  | exact Or.inr rfl
  | (generalize hx : sendFrame ($fuel + 1) _ _ _ _ = x'; (fail_if_success (clear hx x'));
      rcases ($ih).send _ _ _ _ _ hx with h | h; (left; (repeat' split) <;> (sticky $is h; done)); (subst h))
  | (generalize hx : ifaceRecv ($fuel + 1) _ _ _ _ = x'; (fail_if_success (clear hx x'));
      rcases ($ih).recv _ _ _ _ _ hx with h | h; (left; (repeat' split) <;> (sticky $is h; done)); (subst h))
  | (generalize hx : switchRecv ($fuel + 1) _ _ _ _ = x'; (fail_if_success (clear hx x'));
      rcases ($ih).sw _ _ _ _ _ hx with h | h; (left; (repeat' split) <;> (sticky $is h; done)); (subst h))
  | (generalize hx : floodPorts ($fuel + 1) _ _ _ _ _ = x'; (fail_if_success (clear hx x'));
      rcases ($ih).flood _ _ _ _ _ _ hx with h | h; (left; (repeat' split) <;> (sticky $is h; done)); (subst h))
  | (generalize hx : hostRecv ($fuel + 1) _ _ _ _ = x'; (fail_if_success (clear hx x'));
      rcases ($ih).host _ _ _ _ _ hx with h | h; (left; (repeat' split) <;> (sticky $is h; done)); (subst h))
  | (generalize hx : routerRecv ($fuel + 1) _ _ _ _ = x'; (fail_if_success (clear hx x'));
      rcases ($ih).router _ _ _ _ _ hx with h | h; (left; (repeat' split) <;> (sticky $is h; done)); (subst h))
  | (generalize hx : routerProcess ($fuel + 1) _ _ _ _ = x'; (fail_if_success (clear hx x'));
      rcases ($ih).process _ _ _ _ _ hx with h | h; (left; (repeat' split) <;> (sticky $is h; done)); (subst h))
  | (generalize hx : sendArpReply ($fuel + 1) _ _ _ = x'; (fail_if_success (clear hx x'));
      rcases ($ih).arpReply _ _ _ _ hx with h | h; (left; (repeat' split) <;> (sticky $is h; done)); (subst h))
  | (generalize hx : sendArpPkt ($fuel + 1) _ _ _ _ = x'; (fail_if_success (clear hx x'));
      rcases ($ih).arpPkt _ _ _ _ _ hx with h | h; (left; (repeat' split) <;> (sticky $is h; done)); (subst h))
  | (generalize hx : sendIcmp ($fuel + 1) _ _ _ _ = x'; (fail_if_success (clear hx x'));
      rcases ($ih).icmp _ _ _ _ _ hx with h | h; (left; (repeat' split) <;> (sticky $is h; done)); (subst h))
  | (generalize hx : resolveDetails ($fuel + 1) _ _ _ = x'; (fail_if_success (clear hx x'));
      rcases ($ih).details _ _ _ _ hx with h | h; (left; (repeat' split) <;> (sticky $is h; done)); (subst h))
  | (generalize hx : resolveOut ($fuel + 1) _ _ _ = x'; (fail_if_success (clear hx x'));
      rcases ($ih).out _ _ _ _ hx with h | h; (left; (repeat' split) <;> (sticky $is h; done)); (subst h))
  | (generalize hx : arpMac ($fuel + 1) _ _ _ _ _ = x'; (fail_if_success (clear hx x'));
      rcases ($ih).mac _ _ _ _ _ _ hx with h | h; (left; (repeat' split) <;> (sticky $is h; done)); (subst h))
  | (generalize hx : arpIfc ($fuel + 1) _ _ _ _ _ = x'; (fail_if_success (clear hx x'));
      rcases ($ih).ifc _ _ _ _ _ _ hx with h | h; (left; (repeat' split) <;> (sticky $is h; done)); (subst h))
  | (generalize hx : sendArpReq ($fuel + 1) _ _ _ = x'; (fail_if_success (clear hx x'));
      rcases ($ih).req _ _ _ _ hx with h | h; (left; (repeat' split) <;> (sticky $is h; done)); (subst h))
  | split)

theorem mAt_zero : MAt 0 := by
  constructor
  all_goals intros
  all_goals left
  all_goals simp only [sendFrame, ifaceRecv, switchRecv, floodPorts, hostRecv, routerRecv, routerProcess, sendArpReply,
    sendArpPkt, sendIcmp, resolveDetails, resolveOut, arpMac, arpIfc, sendArpReq]
  all_goals rfl

theorem foldl_mono {α β : Type} (oof : α → Bool) (g g' : α → β → α) (hs : ∀ a x, oof a = true → oof (g a x) = true)
    (hm : ∀ a x, oof (g a x) = true ∨ g' a x = g a x) (l : List β) :
    ∀ a, oof (l.foldl g a) = true ∨ l.foldl g' a = l.foldl g a := by
  induction l with
  | nil => intro a; exact Or.inr rfl
  | cons x xs ihx =>
    intro a
    simp only [List.foldl_cons]
    rcases hm a x with h | h
    · exact Or.inl (List.foldlRecOn (motive := fun a => oof a = true) xs g h fun a ha x _ => hs a x ha)
    · rw [h]; exact ihx _

theorem floodPort_sticky {fuel : Nat} (ih : SAt fuel) (n i : Nat) (acc : St × Frame) (p : Nat) (h : acc.1.oof = true) :
    (floodPort fuel n i acc p).1.oof = true := by
  unfold floodPort
  split
  · split
    · exact ih.send _ _ _ _ h
    · exact h
  · exact h

theorem floodPort_mono {fuel : Nat} (ih : MAt fuel) (n i : Nat) (acc : St × Frame) (p : Nat) :
    (floodPort fuel n i acc p).1.oof = true ∨ floodPort (fuel + 1) n i acc p = floodPort fuel n i acc p := by
  unfold floodPort
  split
  · split
    · exact ih.send _ _ _ _ _ rfl
    · exact Or.inr rfl
  · exact Or.inr rfl

/-- marks "this call did not run out of fuel" among the hypotheses, so that the fact is kept and not rewritten again. -/
def NP (b : Bool) : Prop := ¬ b = true

/-! A result that did not run out of fuel came from a state that had not, and the call itself did not (`np_of`, from stickiness);
a call that did not run out of fuel is the same with one more unit (`eq_of_np`, from `MAt`).  Rewriting "the value on this path
did not run out of fuel" with the `np_of` rules therefore yields that fact for every call made on the path, in the form the
`eq_of_np` rules ask for. -/

theorem np_of {a x : Bool} (h : x = true → a = true) : (¬ a = true) = (¬ x = true ∧ NP a) :=
  propext ⟨fun ha => ⟨fun hx => ha (h hx), ha⟩, fun ha => ha.2⟩

theorem eq_of_np {α : Type} {a : Bool} {hi lo : α} (h : a = true ∨ hi = lo) (hn : NP a) : hi = lo := h.resolve_left hn

theorem mAt_field {α : Type} {oof : Bool} {hi lo : α} (h : ¬ oof = true → hi = lo) (x' : α) (hx : hi = x') :
    oof = true ∨ x' = lo :=
  hx ▸ Decidable.or_iff_not_imp_left.2 h

/-- one more level.  Per function and per path through its body (`fun_cases`): if the value on that path ran out of fuel there is
nothing to show; otherwise no call on the path did, each is the same with one more unit of fuel, and the body with one more unit
evaluates along the same path to the same value. -/
theorem mAt_succ (fuel : Nat) (ih : MAt fuel) (is : SAt fuel) : MAt (fuel + 1) := by
  generalize hk : fuel + 1 = k
  constructor
  · intro st n i f
    refine mAt_field ?_
    fun_cases sendFrame k st n i f <;> cases hk
    all_goals intro hL
    all_goals try simp +zetaDelta only [np_of (is.recv _ _ _ _)] at *
    all_goals simp_all only [sendFrame, eq_of_np (ih.recv _ _ _ _ _ rfl), ↓reduceIte, Bool.false_eq_true]
  · intro st n i f
    refine mAt_field ?_
    fun_cases ifaceRecv k st n i f <;> cases hk
    all_goals intro hL
    all_goals try simp +zetaDelta only [np_of (is.host _ _ _ _), np_of (is.router _ _ _ _), np_of (is.sw _ _ _ _),
      oof_emit_eq] at *
    all_goals simp_all only [ifaceRecv, eq_of_np (ih.host _ _ _ _ _ rfl), eq_of_np (ih.router _ _ _ _ _ rfl),
      eq_of_np (ih.sw _ _ _ _ _ rfl), ↓reduceIte, Bool.false_eq_true]
  · intro st n i f
    refine mAt_field ?_
    fun_cases switchRecv k st n i f <;> cases hk
    all_goals intro hL
    all_goals try simp +zetaDelta only [np_of (is.send _ _ _ _), np_of (is.flood _ _ _ _ _), oof_mod_eq] at *
    all_goals simp_all only [switchRecv, eq_of_np (ih.send _ _ _ _ _ rfl), eq_of_np (ih.flood _ _ _ _ _ _ rfl), ↓reduceIte,
      Bool.false_eq_true]
  · intro st n i f ports x' hx
    subst hx
    subst hk
    rw [floodPorts_succ, floodPorts_succ]
    exact foldl_mono (fun a : St × Frame => a.1.oof) _ _ (floodPort_sticky is n i) (floodPort_mono ih n i) ports _
  · intro st n i f
    refine mAt_field ?_
    fun_cases hostRecv k st n i f <;> cases hk
    all_goals intro hL
    all_goals try simp +zetaDelta only [np_of (is.arpReply _ _ _), np_of (is.out _ _ _), np_of (is.icmp _ _ _ _), oof_emit_eq,
      oof_mod_eq, apply_ite St.oof,
      ite_self] at *
    all_goals simp_all only [hostRecv, eq_of_np (ih.arpReply _ _ _ _ rfl), eq_of_np (ih.out _ _ _ _ rfl),
      eq_of_np (ih.icmp _ _ _ _ _ rfl), ↓reduceIte, Bool.false_eq_true]
  · intro st n i f
    refine mAt_field ?_
    fun_cases routerRecv k st n i f <;> cases hk
    all_goals intro hL
    all_goals try simp +zetaDelta only [np_of (is.arpReply _ _ _), np_of (is.out _ _ _), np_of (is.icmp _ _ _ _),
      np_of (is.process _ _ _ _), oof_emit_eq, oof_mod_eq] at *
    all_goals first
      | (simp_all only [routerRecv, eq_of_np (ih.arpReply _ _ _ _ rfl), eq_of_np (ih.out _ _ _ _ rfl),
          eq_of_np (ih.icmp _ _ _ _ _ rfl), eq_of_np (ih.process _ _ _ _ _ rfl), ↓reduceIte, Bool.false_eq_true]; done)
      | skip
    -- the DMZ look-up result bound by `let` is itself a `match`: split it in `hL`, then as on the other paths
    all_goals (repeat' split at hL) <;> (try simp only [np_of (is.ifc _ _ _ _ _), oof_emit_eq, oof_mod_eq] at *) <;>
      simp_all only [routerRecv, eq_of_np (ih.process _ _ _ _ _ rfl), eq_of_np (ih.ifc _ _ _ _ _ _ rfl), ↓reduceIte,
        Bool.false_eq_true]
  · intro st n i f
    refine mAt_field ?_
    fun_cases routerProcess k st n i f <;> cases hk
    all_goals intro hL
    all_goals try simp +zetaDelta only [np_of (is.ifc _ _ _ _ _), np_of (is.mac _ _ _ _ _), np_of (is.send _ _ _ _),
      oof_emit_eq] at *
    all_goals simp_all only [routerProcess, eq_of_np (ih.ifc _ _ _ _ _ _ rfl), eq_of_np (ih.mac _ _ _ _ _ _ rfl),
      eq_of_np (ih.send _ _ _ _ _ rfl), ↓reduceIte, Bool.false_eq_true]
  · intro st n pl
    refine mAt_field ?_
    fun_cases sendArpReply k st n pl <;> cases hk
    all_goals intro hL
    all_goals try simp +zetaDelta only [np_of (is.out _ _ _), np_of (is.arpPkt _ _ _ _)] at *
    all_goals simp_all only [sendArpReply, eq_of_np (ih.out _ _ _ _ rfl), eq_of_np (ih.arpPkt _ _ _ _ _ rfl)]
  · intro st n pl d
    refine mAt_field ?_
    fun_cases sendArpPkt k st n pl d <;> cases hk
    all_goals intro hL
    all_goals try simp +zetaDelta only [np_of (is.out _ _ _), np_of (is.send _ _ _ _)] at *
    all_goals simp_all only [sendArpPkt, eq_of_np (ih.out _ _ _ _ rfl), eq_of_np (ih.send _ _ _ _ _ rfl)]
  · intro st n d pl
    refine mAt_field ?_
    fun_cases sendIcmp k st n d pl <;> cases hk
    all_goals intro hL
    all_goals try simp +zetaDelta only [np_of (is.details _ _ _), np_of (is.send _ _ _ _)] at *
    all_goals simp_all only [sendIcmp, eq_of_np (ih.details _ _ _ _ rfl), eq_of_np (ih.send _ _ _ _ _ rfl)]
  · intro st n d
    refine mAt_field ?_
    fun_cases resolveDetails k st n d <;> cases hk
    all_goals intro hL
    all_goals try simp +zetaDelta only [np_of (is.mac _ _ _ _ _), np_of (is.ifc _ _ _ _ _), oof_emit_eq] at *
    all_goals first | (simp_all only [resolveDetails]; done) | skip
    -- the on-link look-up bound by `let` is itself a `match`: split it in `hL`, then as on the other paths
    all_goals (repeat' split at hL) <;> (try simp only [np_of (is.mac _ _ _ _ _)] at *) <;>
      simp_all only [resolveDetails, eq_of_np (ih.mac _ _ _ _ _ _ rfl), eq_of_np (ih.ifc _ _ _ _ _ _ rfl), ↓reduceIte,
        reduceCtorEq, Bool.false_eq_true]
  · intro st n d
    refine mAt_field ?_
    fun_cases resolveOut k st n d <;> cases hk
    all_goals intro hL
    all_goals try simp +zetaDelta only [np_of (is.ifc _ _ _ _ _)] at *
    all_goals simp_all only [resolveOut, eq_of_np (ih.ifc _ _ _ _ _ _ rfl), ↓reduceIte, Bool.false_eq_true]
  · intro st n ip re gw
    refine mAt_field ?_
    fun_cases arpMac k st n ip re gw <;> cases hk
    all_goals intro hL
    all_goals try simp +zetaDelta only [np_of (is.req _ _ _), np_of (is.mac _ _ _ _ _), oof_emit_eq] at *
    all_goals simp_all only [arpMac, eq_of_np (ih.req _ _ _ _ rfl), eq_of_np (ih.mac _ _ _ _ _ _ rfl)]
  · intro st n ip re gw
    refine mAt_field ?_
    fun_cases arpIfc k st n ip re gw <;> cases hk
    all_goals intro hL
    all_goals try simp +zetaDelta only [np_of (is.req _ _ _), np_of (is.ifc _ _ _ _ _), oof_emit_eq] at *
    all_goals simp_all only [arpIfc, eq_of_np (ih.req _ _ _ _ rfl), eq_of_np (ih.ifc _ _ _ _ _ _ rfl)]
  · intro st n t
    refine mAt_field ?_
    fun_cases sendArpReq k st n t <;> cases hk
    all_goals intro hL
    all_goals try simp +zetaDelta only [np_of (is.out _ _ _), np_of (is.arpPkt _ _ _ _)] at *
    all_goals simp_all only [sendArpReq, eq_of_np (ih.out _ _ _ _ rfl), eq_of_np (ih.arpPkt _ _ _ _ _ rfl), ↓reduceIte,
      Bool.false_eq_true]

theorem mAt (fuel : Nat) : MAt fuel := Nat.rec mAt_zero (fun k ih => mAt_succ k ih (sAt k)) fuel

theorem mono_of_step {α : Type} (g : Nat → α) (oof : α → Bool) (step : ∀ k, oof (g k) = true ∨ g (k + 1) = g k)
    (fuel : Nat) (h : oof (g fuel) = false) : ∀ k, g (fuel + k) = g fuel := by
  intro k
  induction k with
  | zero => rfl
  | succ k ihk =>
    rcases step (fuel + k) with h1 | h1
    · rw [ihk, h] at h1; cases h1
    · rw [← Nat.add_assoc, h1, ihk]

theorem mono_out (fuel : Nat) (st : St) (n : Nat) (d : Ip) (h : (resolveOut fuel st n d).1.oof = false) :
    ∀ k, resolveOut (fuel + k) st n d = resolveOut fuel st n d :=
  mono_of_step (fun k => resolveOut k st n d) (·.1.oof) (fun k => (mAt k).out st n d _ rfl) fuel h

theorem mono_icmp (fuel : Nat) (st : St) (n : Nat) (d : Ip) (pl : Pl) (h : (sendIcmp fuel st n d pl).oof = false) :
    ∀ k, sendIcmp (fuel + k) st n d pl = sendIcmp fuel st n d pl :=
  mono_of_step (fun k => sendIcmp k st n d pl) (·.oof) (fun k => (mAt k).icmp st n d pl _ rfl) fuel h

theorem mono_mac (fuel : Nat) (st : St) (n : Nat) (ip : Ip) (re gw : Bool) (h : (arpMac fuel st n ip re gw).1.oof = false) :
    ∀ k, arpMac (fuel + k) st n ip re gw = arpMac fuel st n ip re gw :=
  mono_of_step (fun k => arpMac k st n ip re gw) (·.1.oof) (fun k => (mAt k).mac st n ip re gw _ rfl) fuel h

/-- one iteration of `ICMP.ping`. -/
def pingStep (fuel n : Nat) (target : Ip) (ident : Nat) (acc : St × Bool) : St × Bool :=
  if !acc.2 then acc else
  match (resolveOut fuel acc.1 n target).2 with
  | none => ((resolveOut fuel acc.1 n target).1, false)
  | some _ => (sendIcmp fuel (resolveOut fuel acc.1 n target).1 n target (.echoReq ident), true)

theorem pingStep_sticky (fuel n : Nat) (target : Ip) (ident : Nat) (acc : St × Bool) (h : acc.1.oof = true) :
    (pingStep fuel n target ident acc).1.oof = true := by
  have is := sAt fuel
  unfold pingStep
  repeat' split
  all_goals sticky is h

theorem pingStep_mono (fuel n : Nat) (target : Ip) (ident : Nat) (acc : St × Bool) :
    (pingStep fuel n target ident acc).1.oof = true ∨ pingStep (fuel + 1) n target ident acc = pingStep fuel n target ident acc := by
  have ih := mAt fuel
  have is := sAt fuel
  unfold pingStep
  repeat' (mono_step ih is fuel)

theorem ping_eq (fuel : Nat) (st : St) (n : Nat) (target : Ip) (pings : Nat) :
    ping fuel st n target pings =
      match st.node? n with
      | none => (st, false)
      | some nd =>
        if !nd.on then (st, false) else
        if isLoopback target then (st, nd.ifaces.any (·.enabled)) else
        let res := (List.range pings).foldl (fun a _ => pingStep fuel n target st.nextId a) ({ st with nextId := st.nextId + 1 }, true)
        match res.1.node? n with
        | none => (res.1, false)
        | some nd' => (res.1, res.2 && replyCount nd'.replies st.nextId == some pings) := by
  unfold ping pingStep
  rfl

theorem ping_inv (P : St → Prop) (fuel n : Nat) (target : Ip) (hid : ∀ st k, P st → P { st with nextId := k })
    (hout : ∀ st, P st → P (resolveOut fuel st n target).1)
    (hicmp : ∀ st ident, P st → P (sendIcmp fuel st n target (.echoReq ident)))
    (st : St) (pings : Nat) (h : P st) : P (ping fuel st n target pings).1 := by
  rw [ping_eq]
  split
  · exact h
  · split
    · exact h
    · split
      · exact h
      · have hfold := List.foldlRecOn (motive := fun (acc : St × Bool) => P acc.1) (List.range pings)
          (fun a (_ : Nat) => pingStep fuel n target st.nextId a) (b := ({ st with nextId := st.nextId + 1 }, true)) (hid _ _ h)
          (by
            intro a ha _ _
            unfold pingStep
            split
            · exact ha
            · split
              · exact hout _ ha
              · exact hicmp _ _ (hout _ ha))
        simp only
        split <;> exact hfold

theorem Eff.ping (fuel : Nat) (st : St) (n : Nat) (target : Ip) (pings : Nat) : Eff st (ping fuel st n target pings).1 :=
  ping_inv (Eff st) fuel n target (fun _ k h => h.nextId k) (fun X h => (eAt fuel).out X n target h)
    (fun X _ h => (eAt fuel).icmp X n target _ h) st pings .refl

theorem ping_mono1 (fuel : Nat) (st : St) (n : Nat) (target : Ip) (pings : Nat) :
    (ping fuel st n target pings).1.oof = true ∨ ping (fuel + 1) st n target pings = ping fuel st n target pings := by
  rw [ping_eq, ping_eq]
  split
  · exact Or.inr rfl
  · split
    · exact Or.inr rfl
    · split
      · exact Or.inr rfl
      · simp only
        rcases foldl_mono (fun a : St × Bool => a.1.oof) _ _ (fun a _ => pingStep_sticky fuel n target st.nextId a)
          (fun a (_ : Nat) => pingStep_mono fuel n target st.nextId a) (List.range pings)
          ({ st with nextId := st.nextId + 1 }, true) with h | h
        · left
          split <;> exact h
        · rw [h]; exact Or.inr rfl

theorem requestService_mono1 (fuel : Nat) (st : St) (n : Nat) (server : Ip) :
    (requestService fuel st n server).1.oof = true ∨ requestService (fuel + 1) st n server = requestService fuel st n server := by
  have ih := mAt fuel
  have is := sAt fuel
  unfold requestService
  simp only
  repeat' (mono_step ih is fuel)

theorem requestApp_mono1 (fuel : Nat) (st : St) (n : Nat) (server : Ip) (svc : Nat) (reply : Bool) :
    (requestApp fuel st n server svc reply).1.oof = true ∨
      requestApp (fuel + 1) st n server svc reply = requestApp fuel st n server svc reply := by
  have ih := mAt fuel
  have is := sAt fuel
  unfold requestApp
  simp only
  repeat' (mono_step ih is fuel)

/-- `enable()` proper: the interface comes up if it may. -/
def enableSt (st : St) (n i : Nat) (nd : Node) (ifc : Iface) : St :=
  if ifc.enabled || (nd.on && ifc.peer.isSome) then
    st.modNode n (fun nd => { nd with ifaces := nd.ifaces.modify i (fun x => { x with enabled := true }) })
  else st

/-- `default_gateway_hello` of a host NIC. -/
def helloGw (fuel : Nat) (X : St) (n : Nat) (nd : Node) : St :=
  match nd.kind, nd.gateway with
  | .host, some g => if nd.on then (arpMac fuel X n g false false).1 else X
  | _, _ => X

theorem enableIface_eq (fuel : Nat) (st : St) (n i : Nat) :
    enableIface fuel st n i =
      match st.node? n, st.iface? n i with
      | some nd, some ifc => helloGw fuel (enableSt st n i nd ifc) n nd
      | _, _ => st := by
  unfold enableIface helloGw enableSt
  rfl

theorem helloGw_mono1 (fuel : Nat) (X : St) (n : Nat) (nd : Node) :
    (helloGw fuel X n nd).oof = true ∨ helloGw (fuel + 1) X n nd = helloGw fuel X n nd := by
  have ih := mAt fuel
  have is := sAt fuel
  unfold helloGw
  repeat' (mono_step ih is fuel)

theorem helloGw_sticky (fuel : Nat) (X : St) (n : Nat) (nd : Node) (h : X.oof = true) : (helloGw fuel X n nd).oof = true := by
  have is := sAt fuel
  unfold helloGw
  repeat' split
  all_goals sticky is h

theorem enableIface_mono1 (fuel : Nat) (st : St) (n i : Nat) :
    (enableIface fuel st n i).oof = true ∨ enableIface (fuel + 1) st n i = enableIface fuel st n i := by
  rw [enableIface_eq, enableIface_eq]
  split
  · exact helloGw_mono1 fuel _ n _
  · exact Or.inr rfl

theorem enableIface_sticky (fuel : Nat) (st : St) (n i : Nat) (h : st.oof = true) : (enableIface fuel st n i).oof = true := by
  rw [enableIface_eq]
  split
  · apply helloGw_sticky
    unfold enableSt
    split <;> exact h
  · exact h

theorem powerOn_mono1 (fuel : Nat) (st : St) (n : Nat) :
    (powerOn fuel st n).oof = true ∨ powerOn (fuel + 1) st n = powerOn fuel st n := by
  unfold powerOn
  split
  · exact Or.inr rfl
  · exact foldl_mono (fun a : St => a.oof) _ _ (fun a i => enableIface_sticky fuel a n i)
      (fun a i => enableIface_mono1 fuel a n i) _ _

/-- an operation of the driver (what the rig sends to the model). -/
inductive NetOp
  | ping (n : Nat) (dst : Ip) (count : Nat)
  | service (n : Nat) (server : Ip)
  | enable (n i : Nat)
  | disable (n i : Nat)
  | power (n : Nat) (on : Bool)
  | arpclear (n : Nat)
  | app (n : Nat) (server : Ip) (svc : Nat) (reply : Bool)

/-- one operation at nesting budget `fuel`: the new state and the operation's result (`true` where there is none). -/
def runOp (fuel : Nat) (st : St) : NetOp → St × Bool
  | .ping n dst k => ping fuel st n dst k
  | .service n srv => requestService fuel st n srv
  | .enable n i => (enableIface fuel st n i, true)
  | .disable n i => (disableIface st n i, true)
  | .power n true => (powerOn fuel st n, true)
  | .power n false => (powerOff st n, true)
  | .arpclear n => (st.modNode n (fun nd => { nd with arp := [] }), true)
  | .app n srv svc reply => requestApp fuel st n srv svc reply

theorem runOp_mono1 (fuel : Nat) (st : St) (op : NetOp) :
    (runOp fuel st op).1.oof = true ∨ runOp (fuel + 1) st op = runOp fuel st op := by
  cases op with
  | ping n dst k => exact ping_mono1 fuel st n dst k
  | service n srv => exact requestService_mono1 fuel st n srv
  | enable n i =>
    rcases enableIface_mono1 fuel st n i with h | h
    · exact Or.inl h
    · right; simp only [runOp, h]
  | disable n i => exact Or.inr rfl
  | arpclear n => exact Or.inr rfl
  | app n srv svc reply => exact requestApp_mono1 fuel st n srv svc reply
  | power n on =>
    cases on
    · exact Or.inr rfl
    · rcases powerOn_mono1 fuel st n with h | h
      · exact Or.inl h
      · right; simp only [runOp, h]

/-- **Fuel independence (unconditional).**  If an operation — a ping with all its echo requests, a service request, an
interface coming up, a node powering on — finishes within `fuel` levels of nesting, then with ANY larger budget it computes
exactly the same state (caches, tables, log of every receive / hop / hand-over), the same result and does not run out of fuel
either.  No assumption on topology, configuration or state. -/
theorem C08_fuel_independent (fuel : Nat) (st : St) (op : NetOp) (h : (runOp fuel st op).1.oof = false) :
    ∀ k, runOp (fuel + k) st op = runOp fuel st op :=
  mono_of_step (fun k => runOp k st op) (·.1.oof) (fun k => runOp_mono1 k st op) fuel h

/-- the same for one frame handed to an interface (the building block). -/
theorem C08_fuel_independent_frame (fuel : Nat) (st : St) (n i : Nat) (f : Frame) (h : (sendFrame fuel st n i f).1.oof = false) :
    ∀ k, sendFrame (fuel + k) st n i f = sendFrame fuel st n i f :=
  mono_of_step (fun k => sendFrame k st n i f) (·.1.oof) (fun k => (mAt k).send st n i f _ rfl) fuel h

end Primaite.Forward
