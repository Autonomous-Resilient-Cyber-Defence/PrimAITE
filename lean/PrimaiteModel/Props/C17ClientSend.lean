/-
C17 — the SENDING halves of `DatabaseClient._connect` / `_query` / `_disconnect`, translated statement by
statement (Gen/DatabaseClientSendTr.lean, harness/extract/database_client_send_tr.py), tied to the model:

* what the client hands to `send_payload_to_session_manager` is, key by key, `Payload.raw` of the payload the model's
  `State.getNewConnection` / `State.rawQuery` / `State.clientDisconnect` pass to `State.send` — so `C17_tr_receive` (the translated
  dispatcher = the model's `Server.receive`) applies to what the translated CLIENT sends;
* it goes to the configured server address, on the client's own port;
* `_connect` / `_query` then re-attempt with the same ids and nothing else; `_disconnect` sends BEFORE it pops the connection,
  terminates it and deactivates the handle, and answers True (`State.clientDisconnect`: send, filter `conns`, handles inactive, true).
-/
import PrimaiteModel.Props.C17Recv
import PrimaiteModel.Gen.DatabaseClientSendTr
namespace Primaite.Database
open Primaite.Gen
open Primaite.Gen.DatabaseClientSendTr (Step Sent)

/-- `_connect`: one send of the model's connect payload carrying the password it was given, then the re-attempt with the same ids -/
theorem C17_tr_client_connect_sends (pw : Option Nat) :
    DatabaseClientSendTr.connectSend pw =
      [Step.send { payload := (Payload.connect pw).raw, toServer := true, ownPort := true }, Step.reattempt true] := rfl

/-- `_query`: one send of the model's sql payload carrying the connection id and the query it was given, then the re-attempt -/
theorem C17_tr_client_query_sends (q : Sql) (cid : Option Nat) :
    DatabaseClientSendTr.querySend q cid =
      [Step.send { payload := (Payload.sql cid q).raw, toServer := true, ownPort := true }, Step.reattempt true] := rfl

/-- `_disconnect`: the model's disconnect payload for THAT id goes out first; then pop, terminate, deactivate; True -/
theorem C17_tr_client_disconnect_sends (id : Nat) :
    DatabaseClientSendTr.disconnectSend id =
      [Step.send { payload := (Payload.disconnect (some id)).raw, toServer := true, ownPort := true },
       Step.pop, Step.terminate, Step.deactivate, Step.ret true] := rfl

def firstSent : List Step → Option Sent
  | Step.send s :: _ => some s
  | _ => none

/-- **Client and server, both translated, end to end.**  For every well-formed server, sender address, password / query / ids: the
translated dispatcher, fed the payload the translated client builds, does what the model's `Server.receive` does on the model's
payload. -/
theorem C17_tr_client_to_server (s : Server) (hwf : s.WF) (src : Nat) (pw : Option Nat) (q : Sql) (cid : Option Nat) (id : Nat) :
    (∀ x, firstSent (DatabaseClientSendTr.connectSend pw) = some x →
        DatabaseTr.receive s src x.payload =
          ((s.receive src (.connect pw)).1, RecvOut.ret (s.receive src (.connect pw)).2 (s.receive src (.connect pw)).2.isSome)) ∧
    (∀ x, firstSent (DatabaseClientSendTr.querySend q cid) = some x →
        DatabaseTr.receive s src x.payload =
          ((s.receive src (.sql cid q)).1, RecvOut.ret (s.receive src (.sql cid q)).2 (s.receive src (.sql cid q)).2.isSome)) ∧
    (∀ x, firstSent (DatabaseClientSendTr.disconnectSend id) = some x →
        DatabaseTr.receive s src x.payload =
          ((s.receive src (.disconnect (some id))).1,
            RecvOut.ret (s.receive src (.disconnect (some id))).2 (s.receive src (.disconnect (some id))).2.isSome)) := by
  refine ⟨?_, ?_, ?_⟩
  · intro x hx
    rw [C17_tr_client_connect_sends] at hx
    cases hx
    exact C17_tr_receive s hwf src _
  · intro x hx
    rw [C17_tr_client_query_sends] at hx
    cases hx
    exact C17_tr_receive s hwf src _
  · intro x hx
    rw [C17_tr_client_disconnect_sends] at hx
    cases hx
    exact C17_tr_receive s hwf src _

/-- non-vacuity: each half does send -/
example : (firstSent (DatabaseClientSendTr.connectSend (some 3))).isSome ∧ (firstSent (DatabaseClientSendTr.querySend .encrypt (some 0))).isSome ∧
    (firstSent (DatabaseClientSendTr.disconnectSend 0)).isSome := by decide

end Primaite.Database
