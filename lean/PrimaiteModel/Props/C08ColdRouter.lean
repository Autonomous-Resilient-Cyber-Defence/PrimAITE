/-
C08, part 9 — liveness with COLD caches ACROSS ONE ROUTER: host — router — host over direct links, every ARP cache empty.
Three ARP cascades are part of the statement: A asks for its gateway, the router asks for B while it holds A's echo request
(nested inside `process_frame`), and everything learned on the way (B learns the router from its request, the router learns A
and B from their frames) makes the way back warm.  Every ARP exchange over a cable is an instance of `direct_arp` (between two
`ArpEnd`s; a single-NIC host is one, and a plain router); `router_router_arp` is the instance a chain of routers needs at every hop.
-/
import PrimaiteModel.Props.C08Cold
import PrimaiteModel.Props.C08Addressee
namespace Primaite.Forward

/-- what a plain router's rule list lets through: ARP (exempt from the ACL) and ICMP (default rule) always, an application
payload when a rule names its service. -/
def Permitted (serves : List Nat) (pl : Pl) : Prop := pl ≠ .dataReq ∧ pl ≠ .dataRep ∧ appDenied serves pl = false

theorem Permitted.aclDenies {nd : Node} {pl : Pl} (h : Permitted nd.serves pl) (hfw : nd.fw = none) (i : Nat) :
    aclDenies nd i pl = false := by
  unfold Forward.aclDenies
  rw [hfw]
  simp only
  have h1 : (pl == .dataReq) = false := by simpa using h.1
  have h2 : (pl == .dataRep) = false := by simpa using h.2.1
  simp [h1, h2, h.2.2]

theorem router_arp_req (fuel : Nat) (X : St) (r i : Nat) (nd : Node) (ifc own : Iface) (f : Frame) (sIp : Ip) (sMac : Mac)
    (hn : X.node? r = some nd) (hk : nd.kind = .router) (hon : nd.on = true) (hfw : nd.fw = none)
    (hi : X.iface? r i = some ifc) (hen : ifc.enabled = true) (hown : ifaceWithIp nd.ifaces ifc.ip = some own)
    (hpl : f.pl = .arpReq sIp sMac ifc.ip) (hb : f.dstMac = bcastMac) (hd : f.dstIp = ifc.ip) (httl : 2 ≤ f.ttl) :
    ifaceRecv (fuel + 2) X r i f =
      (sendArpReply fuel (((X.emit (.rx r i f.id f.ttl)).modNode r (fun nd => nd.addArp f.srcIp f.srcMac i)).emit
        (.sw r f.id ifc.ip true)) r (.arpRep ifc.ip ifc.mac sIp sMac), f.dec) := by
  rw [router_end (fuel + 1) X r i nd ifc f hn hk hi (Or.inr hb) httl]
  have hacl : aclDenies nd i (.arpReq sIp sMac ifc.ip) = false := Permitted.aclDenies ⟨by simp, by simp, rfl⟩ hfw i
  have hbd : (f.dstMac == bcastMac) = true := by simp [hb]
  have hnd1 : ((Pl.arpReq sIp sMac ifc.ip) == .dataReq || (Pl.arpReq sIp sMac ifc.ip) == .dataRep) = false := rfl
  simp only [routerRecv, emit_node, emit_iface, Frame.dec_pl, Frame.dec_dstIp, Frame.dec_dstMac, hn, hi, hfw, hon, Option.isNone_none,
    Bool.not_true, Bool.and_false, Bool.false_eq_true, if_false, hacl, hd, hown, hnd1, hpl, hen, beq_self_eq_true, Bool.and_self, hbd, if_true]
  rfl

/-- the router receives the answer to its own request: it learns the answerer (from the frame and from the payload). -/
theorem router_arp_rep (fuel : Nat) (X : St) (r i : Nat) (nd : Node) (ifc own : Iface) (f : Frame) (sIp : Ip) (sMac : Mac) (tMac : Mac)
    (hn : X.node? r = some nd) (hk : nd.kind = .router) (hon : nd.on = true) (hfw : nd.fw = none)
    (hi : X.iface? r i = some ifc) (hown : ifaceWithIp nd.ifaces ifc.ip = some own)
    (hpl : f.pl = .arpRep sIp sMac ifc.ip tMac) (hm : f.dstMac = ifc.mac) (hnb : ifc.mac ≠ bcastMac) (hd : f.dstIp = ifc.ip)
    (httl : 2 ≤ f.ttl) :
    ifaceRecv (fuel + 2) X r i f =
      ((((X.emit (.rx r i f.id f.ttl)).modNode r (fun nd => nd.addArp f.srcIp f.srcMac i)).emit (.sw r f.id ifc.ip false)).modNode r
        (fun nd => nd.addArp sIp sMac i), f.dec) := by
  rw [router_end (fuel + 1) X r i nd ifc f hn hk hi (Or.inl hm) httl]
  have hacl : aclDenies nd i (.arpRep sIp sMac ifc.ip tMac) = false := Permitted.aclDenies ⟨by simp, by simp, rfl⟩ hfw i
  have hbd : (f.dstMac == bcastMac) = false := by simp [hm, hnb]
  have hnd1 : ((Pl.arpRep sIp sMac ifc.ip tMac) == .dataReq || (Pl.arpRep sIp sMac ifc.ip tMac) == .dataRep) = false := rfl
  simp only [routerRecv, emit_node, emit_iface, Frame.dec_pl, Frame.dec_dstIp, Frame.dec_dstMac, hn, hi, hfw, hon, Option.isNone_none,
    Bool.not_true, Bool.and_false, Bool.false_eq_true, if_false, hacl, hd, hown, hnd1, hpl, beq_self_eq_true, hbd, if_true]
  rfl

/-- node state `nd` takes part in ARP on its interface `i` (`ifc`): asked there for that interface's address it learns the asker's
pair and answers; it learns the answer to a request of its own twice (from the frame's source pair and from the ARP payload).
A powered-on single-NIC host does (`ArpEnd.host`), and a plain powered-on router on an interface whose address it owns
(`ArpEnd.router`: `RouterARP` answers for the address of the arrival interface). -/
structure ArpEnd (nd : Node) (i : Nat) (ifc : Iface) : Prop where
  port : nd.ifaces[i]? = some ifc
  req : ∀ (fuel : Nat) (X : St) (n : Nat) (f : Frame) (sIp : Ip) (sMac : Mac), X.node? n = some nd → ifc.enabled = true →
    f.pl = .arpReq sIp sMac ifc.ip → f.dstMac = bcastMac → f.dstIp = ifc.ip → 2 ≤ f.ttl →
    ifaceRecv (fuel + 2) X n i f =
      (sendArpReply fuel (((X.emit (.rx n i f.id f.ttl)).modNode n (fun nd => nd.addArp f.srcIp f.srcMac i)).emit
        (.sw n f.id ifc.ip true)) n (.arpRep ifc.ip ifc.mac sIp sMac), f.dec)
  rep : ∀ (fuel : Nat) (X : St) (n : Nat) (f : Frame) (sIp : Ip) (sMac tMac : Mac), X.node? n = some nd →
    f.pl = .arpRep sIp sMac ifc.ip tMac → f.dstMac = ifc.mac → ifc.mac ≠ bcastMac → f.dstIp = ifc.ip → 2 ≤ f.ttl →
    ifaceRecv (fuel + 2) X n i f =
      ((((X.emit (.rx n i f.id f.ttl)).modNode n (fun nd => nd.addArp f.srcIp f.srcMac i)).emit (.sw n f.id ifc.ip false)).modNode n
        (fun nd => nd.addArp sIp sMac i), f.dec)

theorem ArpEnd.host {nd : Node} {ifc : Iface} (hk : nd.kind = .host) (hon : nd.on = true) (hifs : nd.ifaces = [ifc]) :
    ArpEnd nd 0 ifc where
  port := by rw [hifs]; rfl
  req fuel X n f sIp sMac hn _ hpl hb hd httl := by rw [host_arp_req fuel X n nd ifc f sIp sMac hn hk hon hifs hpl hb hd httl, hd]
  rep fuel X n f sIp sMac tMac hn hpl hm hnb hd httl := by
    rw [host_arp_rep fuel X n nd ifc f sIp sMac ifc.ip tMac hn hk hon hifs hpl hm hnb hd httl, hd]

theorem ArpEnd.router {nd : Node} {i : Nat} {ifc own : Iface} (hk : nd.kind = .router) (hon : nd.on = true) (hfw : nd.fw = none)
    (hi : nd.ifaces[i]? = some ifc) (hown : ifaceWithIp nd.ifaces ifc.ip = some own) : ArpEnd nd i ifc where
  port := hi
  req fuel X n f sIp sMac hn hen hpl hb hd httl :=
    router_arp_req fuel X n i nd ifc own f sIp sMac hn hk hon hfw ((iface?_of_node hn i).trans hi) hen hown hpl hb hd httl
  rep fuel X n f sIp sMac tMac hn hpl hm hnb hd httl :=
    router_arp_rep fuel X n i nd ifc own f sIp sMac tMac hn hk hon hfw ((iface?_of_node hn i).trans hi) hown hpl hm hnb hd httl

/-- THE ARP EXCHANGE OVER A CABLE: `x` asks, out of its interface `ix` (`ifx`, cabled to interface `iy` = `ify` of `y`), for
`y`'s address there; `y` learns `x`'s pair and answers; `x` learns `y` (twice).  The third tracked node is untouched. -/
theorem direct_arp (fuel : Nat) (X : St) (c : List NodeCfg) (x o y ix iy k0 : Nat) (ndX ndO ndY : Node) (ifx ify : Iface)
    (S : Snap X c x o y ndX ndO ndY) (hxo : x ≠ o) (hxy : x ≠ y) (hoy : o ≠ y)
    (eX : ArpEnd ndX ix ifx) (eY : ArpEnd ndY iy ify)
    (henx : ifx.enabled = true) (hpx : ifx.peer = some (y, iy)) (heny : ify.enabled = true) (hpy : ify.peer = some (x, ix))
    (hmacX : ifx.mac ≠ bcastMac) (hcold : ndX.arpGet ify.ip = none) (hfi : firstIn ndX.ifaces ify.ip 0 = some k0)
    (hfe : firstEnabledIn ndX.ifaces ify.ip 0 = some ix) (hnn : ify.ip ≠ ifx.netAddr) (hnb : ify.ip ≠ ifx.bcastAddr)
    (hfeY : firstEnabledIn ndY.ifaces ifx.ip 0 = some iy) :
    ∃ Y, sendArpReq (fuel + 10) X x ify.ip = Y ∧
      Snap Y c x o y ((ndX.addArp ify.ip ify.mac ix).addArp ify.ip ify.mac ix) ndO (ndY.addArp ifx.ip ifx.mac iy) := by
  have iX : X.iface? x ix = some ifx := (iface?_of_node S.na ix).trans eX.port
  have iY : X.iface? y iy = some ify := (iface?_of_node S.ns iy).trans eY.port
  refine ⟨_, rfl, ?_⟩
  rw [router_arp_request (fuel + 7) X x ix ndX ifx ify.ip k0 S.na hcold hfi hfe iX hnn hnb]
  generalize hX1 : ({ X with nextId := X.nextId + 1 } : St) = X1
  have S1 : Snap X1 c x o y ndX ndO ndY := by rw [← hX1]; exact S.nextId _
  rw [link_step (fuel + 7) X1 x ix y iy ifx ify _ (by rw [S.iface S1]; exact iX) henx hpx (by rw [S.iface S1]; exact iY) heny]
  rw [eY.req (fuel + 5) X1 y (mkArpReq X ifx ify.ip) ifx.ip ifx.mac S1.ns heny rfl rfl rfl initTtl_ge]
  show Snap (sendArpReply (fuel + 5) _ y _) c x o y _ _ _
  generalize hX2 : ((X1.emit _).modNode y _).emit _ = X2
  have S2 : Snap X2 c x o y ndX ndO (ndY.addArp ifx.ip ifx.mac iy) := by
    rw [← hX2]
    exact ((S1.emit _).modS _ (fun nd => addArp_cfg nd _ _ _) hxy hoy).emit _
  rw [router_arp_reply_send (fuel + 2) X2 y iy (ndY.addArp ifx.ip ifx.mac iy) ify ify.ip ify.mac ifx.ip ifx.mac S2.ns
    (by rw [addArp_ifaces]; exact hfeY) (by rw [S.iface S2]; exact iY)]
  generalize hX3 : ({ X2 with nextId := X2.nextId + 1 } : St) = X3
  have S3 : Snap X3 c x o y ndX ndO (ndY.addArp ifx.ip ifx.mac iy) := by rw [← hX3]; exact S2.nextId _
  rw [link_step (fuel + 2) X3 y iy x ix ify ifx _ (by rw [S.iface S3]; exact iY) heny hpy (by rw [S.iface S3]; exact iX) henx]
  rw [eX.rep fuel X3 x (mkArpRep X2 ify ify.ip ify.mac ifx.ip ifx.mac) ify.ip ify.mac ifx.mac S3.na rfl rfl hmacX rfl initTtl_ge]
  exact ((((S3.emit _).modA _ (fun nd => addArp_cfg nd _ _ _) hxo hxy).emit _).modA _ (fun nd => addArp_cfg nd _ _ _) hxo hxy)

/-- HOST ASKS ROUTER (its gateway): the host `h` (single NIC `ifc`, cabled to interface `i` of the plain, powered-on router
`r`, `rifc`) asks for `rifc.ip`; the router learns the host and answers; the host learns the router. -/
theorem host_router_arp (fuel : Nat) (X : St) (c : List NodeCfg) (h r o i : Nat) (ndH ndR ndO : Node) (ifc rifc own : Iface)
    (S : Snap X c h o r ndH ndO ndR) (hho : h ≠ o) (hhr : h ≠ r)
    (hifs : ndH.ifaces = [ifc]) (hen : ifc.enabled = true) (hpeer : ifc.peer = some (r, i)) (hkH : ndH.kind = .host) (honH : ndH.on = true)
    (hcold : ndH.arpGet rifc.ip = none) (hin : ifc.inNet rifc.ip = true) (hnn : rifc.ip ≠ ifc.netAddr) (hnb : rifc.ip ≠ ifc.bcastAddr)
    (hmacH : ifc.mac ≠ bcastMac)
    (hkR : ndR.kind = .router) (honR : ndR.on = true) (hfwR : ndR.fw = none) (hri : ndR.ifaces[i]? = some rifc)
    (hren : rifc.enabled = true) (hrpeer : rifc.peer = some (h, 0)) (hown : ifaceWithIp ndR.ifaces rifc.ip = some own)
    (hfe : firstEnabledIn ndR.ifaces ifc.ip 0 = some i) (hor : o ≠ r) :
    ∃ Y, sendArpReq (fuel + 10) X h rifc.ip = Y ∧
      Snap Y c h o r ((ndH.addArp rifc.ip rifc.mac 0).addArp rifc.ip rifc.mac 0) ndO (ndR.addArp ifc.ip ifc.mac i) :=
  direct_arp fuel X c h o r 0 i 0 ndH ndO ndR ifc rifc S hho hhr hor (.host hkH honH hifs) (.router hkR honR hfwR hri hown)
    hen hpeer hren hrpeer hmacH hcold (by rw [hifs]; exact firstIn_single ifc _ hin)
    (by rw [hifs]; exact firstEnabledIn_single ifc _ hin hen) hnn hnb hfe

/-- ROUTER ASKS HOST: the plain, powered-on router `r` asks, out of interface `i` (cabled to the single NIC `ifc` of host
`h`), for the host's address; the host learns the router's pair and answers; the router learns the host. -/
theorem router_host_arp (fuel : Nat) (X : St) (c : List NodeCfg) (h r o i k0 : Nat) (ndH ndR ndO : Node) (ifc rifc own : Iface)
    (S : Snap X c o h r ndO ndH ndR) (hoh : o ≠ h) (hhr : h ≠ r) (hor : o ≠ r)
    (hifs : ndH.ifaces = [ifc]) (hen : ifc.enabled = true) (hpeer : ifc.peer = some (r, i)) (hkH : ndH.kind = .host) (honH : ndH.on = true)
    (hin : ifc.inNet rifc.ip = true)
    (hkR : ndR.kind = .router) (honR : ndR.on = true) (hfwR : ndR.fw = none) (hri : ndR.ifaces[i]? = some rifc)
    (hren : rifc.enabled = true) (hrpeer : rifc.peer = some (h, 0)) (hown : ifaceWithIp ndR.ifaces rifc.ip = some own)
    (hcold : ndR.arpGet ifc.ip = none) (hfi : firstIn ndR.ifaces ifc.ip 0 = some k0) (hfe : firstEnabledIn ndR.ifaces ifc.ip 0 = some i)
    (hnn : ifc.ip ≠ rifc.netAddr) (hnb : ifc.ip ≠ rifc.bcastAddr) (hmacR : rifc.mac ≠ bcastMac) :
    ∃ Y, sendArpReq (fuel + 10) X r ifc.ip = Y ∧
      Snap Y c o h r ndO (ndH.addArp rifc.ip rifc.mac 0) ((ndR.addArp ifc.ip ifc.mac i).addArp ifc.ip ifc.mac i) := by
  obtain ⟨Y, hY, SY⟩ := direct_arp fuel X c r o h i 0 k0 ndR ndO ndH rifc ifc ⟨S.cfg, S.ns, S.na, S.nb⟩ (Ne.symm hor) (Ne.symm hhr) hoh
    (.router hkR honR hfwR hri hown) (.host hkH honH hifs) hren hrpeer hen hpeer hmacR hcold hfi hfe hnn hnb
    (by rw [hifs]; exact firstEnabledIn_single ifc _ hin hen)
  exact ⟨Y, hY, SY.cfg, SY.nb, SY.ns, SY.na⟩

/-- ROUTER ASKS ROUTER (groundwork for chains of routers): the plain, powered-on router `r1` asks, out of its interface `i1` (cabled to interface `i2` of the plain,
powered-on router `r2`), for `r2`'s address there (e.g. the next hop of a route); `r2` learns `r1`'s pair and answers; `r1`
learns `r2` (twice: frame source and ARP payload).  The third tracked node is untouched. -/
theorem router_router_arp (fuel : Nat) (X : St) (c : List NodeCfg) (o r1 r2 i1 i2 k0 : Nat) (ndO nd1 nd2 : Node)
    (if1 if2 own1 own2 : Iface)
    (S : Snap X c o r1 r2 ndO nd1 nd2) (ho1 : o ≠ r1) (h12 : r1 ≠ r2) (ho2 : o ≠ r2)
    (hk1 : nd1.kind = .router) (hon1 : nd1.on = true) (hfw1 : nd1.fw = none) (hi1 : nd1.ifaces[i1]? = some if1)
    (hen1 : if1.enabled = true) (hpeer1 : if1.peer = some (r2, i2)) (hown1 : ifaceWithIp nd1.ifaces if1.ip = some own1)
    (hmac1 : if1.mac ≠ bcastMac)
    (hcold : nd1.arpGet if2.ip = none) (hfi : firstIn nd1.ifaces if2.ip 0 = some k0) (hfe : firstEnabledIn nd1.ifaces if2.ip 0 = some i1)
    (hnn : if2.ip ≠ if1.netAddr) (hnb : if2.ip ≠ if1.bcastAddr)
    (hk2 : nd2.kind = .router) (hon2 : nd2.on = true) (hfw2 : nd2.fw = none) (hi2 : nd2.ifaces[i2]? = some if2)
    (hen2 : if2.enabled = true) (hpeer2 : if2.peer = some (r1, i1)) (hown2 : ifaceWithIp nd2.ifaces if2.ip = some own2)
    (hfe2 : firstEnabledIn nd2.ifaces if1.ip 0 = some i2) :
    ∃ Y, sendArpReq (fuel + 10) X r1 if2.ip = Y ∧
      Snap Y c o r1 r2 ndO ((nd1.addArp if2.ip if2.mac i1).addArp if2.ip if2.mac i1) (nd2.addArp if1.ip if1.mac i2) := by
  obtain ⟨Y, hY, SY⟩ := direct_arp fuel X c r1 o r2 i1 i2 k0 nd1 ndO nd2 if1 if2 ⟨S.cfg, S.nb, S.na, S.ns⟩ (Ne.symm ho1) h12 ho2
    (.router hk1 hon1 hfw1 hi1 hown1) (.router hk2 hon2 hfw2 hi2 hown2) hen1 hpeer1 hen2 hpeer2 hmac1 hcold hfi hfe hnn hnb hfe2
  exact ⟨Y, hY, SY.cfg, SY.nb, SY.na, SY.ns⟩

/-- A plain router receives, on interface `ia`, a unicast frame its rule list permits (ICMP, or a service it has a rule for) from a sender it already knows, for the on-link host B
(directly cabled to interface `ib`) that it has NOT cached: inside `process_frame` it asks for B, B learns the router and
answers, the router learns B — and then forwards the frame it was holding, TTL − 2, out of `ib` to B's MAC. -/
theorem router_forward_cold (fuel : Nat) (X : St) (c : List NodeCfg) (a r b ia ib : Nat) (ndA ndR ndB : Node)
    (ifB ra rb ownB : Iface) (f : Frame) (es : ArpEntry)
    (S : Snap X c a b r ndA ndB ndR) (hab : a ≠ b) (hbr : b ≠ r) (har : a ≠ r)
    (hkR : ndR.kind = .router) (honR : ndR.on = true) (hfwR : ndR.fw = none)
    (hra : ndR.ifaces[ia]? = some ra) (hrb : ndR.ifaces[ib]? = some rb) (hrben : rb.enabled = true) (hrbpeer : rb.peer = some (b, 0))
    (hownB : ifaceWithIp ndR.ifaces rb.ip = some ownB) (hmacRb : rb.mac ≠ bcastMac)
    (hm : f.dstMac = ra.mac) (hnbA : ra.mac ≠ bcastMac) (hd : f.dstIp = ifB.ip) (hpl : aclDenies ndR ia f.pl = false)
    (hes : ndR.arpGet f.srcIp = some es) (httl : 3 ≤ f.ttl)
    (hnotown : ifaceWithIp ndR.ifaces ifB.ip = none) (hcoldR : ndR.arpGet ifB.ip = none)
    (hfi : firstIn ndR.ifaces ifB.ip 0 = some ib) (hfe : firstEnabledIn ndR.ifaces ifB.ip 0 = some ib) (hinR : rb.inNet ifB.ip = true)
    (hnn : ifB.ip ≠ rb.netAddr) (hnb : ifB.ip ≠ rb.bcastAddr)
    (hifsB : ndB.ifaces = [ifB]) (henB : ifB.enabled = true) (hpeerB : ifB.peer = some (r, ib)) (hkB : ndB.kind = .host)
    (honB : ndB.on = true) (hinB : ifB.inNet rb.ip = true) :
    ∃ Y, ifaceRecv (fuel + 14) X r ia f =
        ifaceRecv (fuel + 10) (Y.emit (.hop r f.id f.dec.ttl)) b 0 (f.dec.dec.stamp rb.mac ifB.mac) ∧
      Snap Y c a b r ndA (ndB.addArp rb.ip rb.mac 0) ((ndR.addArp ifB.ip ifB.mac ib).addArp ifB.ip ifB.mac ib) := by
  have h2 : ¬ f.dec.dec.ttl < 1 := by unfold Frame.dec; simp only; omega
  have hbm : (f.dec.dstMac == bcastMac) = false := by show (f.dstMac == bcastMac) = false; rw [hm]; simpa using hnbA
  have s1 := router_transit_known (fuel + 11) X r ia ndR ra f es S.ns hkR ((iface?_of_node S.ns ia).trans hra) hm hnbA (by omega)
    (plain_router_transit ndR ia _ _ hfwR honR hpl) (by rw [hd]; exact hnotown) hes
  generalize hX1 : X.emit (.rx r ia f.id f.ttl) = X1 at s1
  have S1 : Snap X1 c a b r ndA ndB ndR := by rw [← hX1]; exact S.emit _
  obtain ⟨Y, hY, SY⟩ := router_host_arp fuel X1 c b r a ib ib ndB ndR ndA ifB rb ownB S1 hab hbr har hifsB henB hpeerB hkB honB hinB hkR
    honR hfwR hrb hrben hrbpeer hownB hcoldR hfi hfe hnn hnb hmacRb
  have hgR : (ndR.addArp ifB.ip ifB.mac ib).arpGet ifB.ip = some { ip := ifB.ip, mac := ifB.mac, ifc := ib } :=
    arpGet_addArp_new ndR ifB.ip ifB.mac ib hnotown hcoldR
  have hR2 : (ndR.addArp ifB.ip ifB.mac ib).addArp ifB.ip ifB.mac ib = ndR.addArp ifB.ip ifB.mac ib := addArp_known _ _ _ _ _ hgR
  have hdd : f.dec.dstIp = ifB.ip := hd
  have hifc : arpIfc (fuel + 11) X1 r ifB.ip false false = (X1, some ib) := by
    simp only [arpIfc, S1.ns, hcoldR, hkR, beq_self_eq_true, if_true, hfi]
  have hmac : arpMac (fuel + 11) X1 r ifB.ip false false = (Y, some ifB.mac) :=
    arpMac_miss_ask_hit S1.ns hcoldR
      (show arpNext ndR ifB.ip false false true = .go ifB.ip true false by
        simp only [arpNext, hkR, routerArpNext, Bool.not_false, if_true, hfi, Option.isSome_some, Bool.and_self]) hY SY.ns
      (by rw [hR2]; exact hgR)
  have hiY : Y.iface? r ib = some rb := by
    rw [iface?_of_node SY.ns, addArp_ifaces, addArp_ifaces]; exact hrb
  refine ⟨Y, ?_, SY⟩
  rw [s1, ← link_step (fuel + 10) (Y.emit (.hop r f.id f.dec.ttl)) r ib b 0 rb ifB _ (by rw [emit_iface]; exact hiY) hrben hrbpeer
    (by rw [emit_iface]; exact iface0_of Y b _ ifB SY.nb (by rw [addArp_ifaces]; exact hifsB)) henB]
  simp only [routerProcess, hbm, Bool.false_eq_true, if_false, hdd, hifc, hmac, hiY, hrben, Bool.not_true, hinR, if_true, h2]
  rfl

/-- two powered-on single-NIC hosts in different subnets, each cabled directly to an interface of one plain, powered-on
router that is its default gateway; all three ARP caches EMPTY. -/
structure ColdRouted (st : St) (a r b ia ib : Nat) (ndA ndR ndB : Node) (ifA ifB ra rb ownA ownB : Iface) : Prop where
  nodeA : st.node? a = some ndA
  kindA : ndA.kind = .host
  onA : ndA.on = true
  ifsA : ndA.ifaces = [ifA]
  enA : ifA.enabled = true
  peerA : ifA.peer = some (r, ia)
  gwA : ndA.gateway = some ra.ip
  nodeB : st.node? b = some ndB
  kindB : ndB.kind = .host
  onB : ndB.on = true
  ifsB : ndB.ifaces = [ifB]
  enB : ifB.enabled = true
  peerB : ifB.peer = some (r, ib)
  gwB : ndB.gateway = some rb.ip
  nodeR : st.node? r = some ndR
  kindR : ndR.kind = .router
  onR : ndR.on = true
  fwR : ndR.fw = none
  portA : ndR.ifaces[ia]? = some ra
  raEn : ra.enabled = true
  raPeer : ra.peer = some (a, 0)
  portB : ndR.ifaces[ib]? = some rb
  rbEn : rb.enabled = true
  rbPeer : rb.peer = some (b, 0)
  ownA : ifaceWithIp ndR.ifaces ra.ip = some ownA
  ownB : ifaceWithIp ndR.ifaces rb.ip = some ownB
  ab : a ≠ b
  ar : a ≠ r
  br : b ≠ r
  netAg : ifA.inNet ra.ip = true
  offAB : ifA.inNet ifB.ip = false
  netBg : ifB.inNet rb.ip = true
  offBA : ifB.inNet ifA.ip = false
  raA : ra.inNet ifA.ip = true
  rbB : rb.inNet ifB.ip = true
  feA : firstEnabledIn ndR.ifaces ifA.ip 0 = some ia
  feB : firstEnabledIn ndR.ifaces ifB.ip 0 = some ib
  fiB : firstIn ndR.ifaces ifB.ip 0 = some ib
  notOwnA : ifaceWithIp ndR.ifaces ifA.ip = none
  notOwnB : ifaceWithIp ndR.ifaces ifB.ip = none
  macA : ifA.mac ≠ bcastMac
  macB : ifB.mac ≠ bcastMac
  macRa : ra.mac ≠ bcastMac
  macRb : rb.mac ≠ bcastMac
  gNotNet : ra.ip ≠ ifA.netAddr
  gNotBc : ra.ip ≠ ifA.bcastAddr
  bNotNet : ifB.ip ≠ rb.netAddr
  bNotBc : ifB.ip ≠ rb.bcastAddr
  ipAg : ifA.ip ≠ ra.ip
  ipBg : ifB.ip ≠ rb.ip
  ipAB : ifA.ip ≠ ifB.ip
  coldA : ndA.arp = []
  coldR : ndR.arp = []
  coldB : ndB.arp = []

theorem ColdRouted.gateway_arp {st : St} {a r b ia ib : Nat} {ndA ndR ndB : Node} {ifA ifB ra rb ownA ownB : Iface}
    (h : ColdRouted st a r b ia ib ndA ndR ndB ifA ifB ra rb ownA ownB) (fuel : Nat) (X : St)
    (S : Snap X (cfgOf st) a b r ndA ndB ndR) :
    ∃ Y, sendArpReq (fuel + 10) X a ra.ip = Y ∧
      Snap Y (cfgOf st) a b r (ndA.addArp ra.ip ra.mac 0) ndB (ndR.addArp ifA.ip ifA.mac ia) ∧
      (ndA.addArp ra.ip ra.mac 0).arpGet ra.ip = some { ip := ra.ip, mac := ra.mac, ifc := 0 } := by
  have cgA := arpGet_nil ndA h.coldA ra.ip
  obtain ⟨Y, hY, SY⟩ := host_router_arp fuel X (cfgOf st) a r b ia ndA ndR ndB ifA ra ownA S h.ab h.ar h.ifsA h.enA h.peerA
    h.kindA h.onA cgA h.netAg h.gNotNet h.gNotBc h.macA h.kindR h.onR h.fwR h.portA h.raEn h.raPeer h.ownA h.feA h.br
  have hgA := arpGet_addArp_new ndA ra.ip ra.mac 0 (by rw [h.ifsA]; exact ifaceWithIp_single ifA ra.ip h.ipAg) cgA
  rw [addArp_known _ _ _ _ _ hgA] at SY
  exact ⟨Y, hY, SY, hgA⟩

/-- **THE ROUND TRIP of `ColdRouted`, for any request `q` and answer `p` the router permits**, from the state `Y1` in which A has
resolved its gateway (and the router has learned A on the way).  B's software is a hypothesis (`hB`): handed `q` from a sender B
has a route back to, it leaves B's configuration and cache alone (`T`, `gB`) and answers `p` to the frame's source.  Then A's
`sendIcmp` of `q` ends in A's `hostRecv` of the answer: the router, holding the request inside `process_frame`, resolves B by ARP
(B learns the router, its gateway) and forwards it (TTL − 2); B learns "A ↦ the router's MAC" from the request and answers through
the gateway; the router forwards the answer from its cache. -/
theorem cold_routed_round_trip (fuel : Nat) (st : St) (a r b ia ib : Nat) (ndA ndR ndB : Node)
    (ifA ifB ra rb ownA ownB : Iface) (h : ColdRouted st a r b ia ib ndA ndR ndB ifA ifB ra rb ownA ownB) (q p : Pl)
    (hq : Permitted ndR.serves q) (hp : Permitted ndR.serves p) (T : St → St) (gB : Node → Node)
    (hT : ∀ {X : St} {A B R : Node}, Snap X (cfgOf st) a b r A B R → Snap (T X) (cfgOf st) a b r A (gB B) R)
    (hgB : ∀ nd, (gB nd).cfg = nd.cfg ∧ ∀ ip, (gB nd).arpGet ip = nd.arpGet ip)
    (hB : ∀ (k : Nat) (X : St) (B : Node) (f : Frame) (e : ArpEntry), X.node? b = some B → B.kind = .host → B.on = true →
      B.ifaces = [ifB] → B.ports = ndB.ports → B.serves = ndB.serves → HostRoute (B.addArp f.srcIp f.srcMac 0) ifB f.srcIp e →
      f.pl = q → f.dstIp = ifB.ip →
      hostRecv (k + 3) X b 0 f = (sendIcmp (k + 2) (T ((X.modNode b (fun nd => nd.addArp f.srcIp f.srcMac 0)).emit
        (.sw b f.id f.dstIp (f.dstMac == bcastMac)))) b f.srcIp p, f))
    (Y1 : St) (SY1 : Snap Y1 (cfgOf st) a b r (ndA.addArp ra.ip ra.mac 0) ndB (ndR.addArp ifA.ip ifA.mac ia)) :
    ∃ (X : St) (G : Frame), sendIcmp (fuel + 16) Y1 a ifB.ip q = (hostRecv (fuel + 1) X a 0 G).1 ∧
      X.node? a = some (ndA.addArp ra.ip ra.mac 0) ∧ G.pl = p := by
  have cgR := arpGet_nil ndR h.coldR
  have hgne2 : ifA.ip ≠ rb.ip := by intro e; have := h.offBA; rw [e, h.netBg] at this; cases this
  -- what A and the router know in `Y1`; `addArp` changes nothing but the cache, so every other field is read off `h` as it stands
  have hgA : (ndA.addArp ra.ip ra.mac 0).arpGet ra.ip = some { ip := ra.ip, mac := ra.mac, ifc := 0 } :=
    arpGet_addArp_new ndA ra.ip ra.mac 0 (by rw [h.ifsA]; exact ifaceWithIp_single ifA ra.ip h.ipAg) (arpGet_nil ndA h.coldA ra.ip)
  obtain ⟨lA, hA1⟩ := addArp_cache ndA ra.ip ra.mac 0
  have hgR1 : (ndR.addArp ifA.ip ifA.mac ia).arpGet ifA.ip = some { ip := ifA.ip, mac := ifA.mac, ifc := ia } :=
    arpGet_addArp_new ndR ifA.ip ifA.mac ia h.notOwnA (cgR ifA.ip)
  have R1coldB : (ndR.addArp ifA.ip ifA.mac ia).arpGet ifB.ip = none := by
    rw [arpGet_addArp_other _ _ _ _ _ (Ne.symm h.ipAB)]; exact cgR ifB.ip
  obtain ⟨lR, hR1⟩ := addArp_cache ndR ifA.ip ifA.mac ia
  rw [hA1, hR1] at SY1
  rw [hA1] at hgA
  rw [hR1] at hgR1 R1coldB
  have hsend := host_send_warm (fuel + 13) Y1 a _ ifA ra ifB.ip { ip := ra.ip, mac := ra.mac, ifc := 0 } q r ia
    SY1.na h.kindA h.ifsA h.enA (Or.inr ⟨h.offAB, ra.ip, h.gwA, h.netAg, hgA⟩) rfl h.peerA ((iface?_of_node SY1.ns ia).trans h.portA) h.raEn
  generalize hX2 : ({ Y1 with nextId := Y1.nextId + 1 } : St) = X2 at hsend
  have SX2 := SY1.nextId (Y1.nextId + 1)
  rw [hX2] at SX2
  obtain ⟨Y2, hfwd, SY2⟩ := router_forward_cold fuel X2 (cfgOf st) a r b ia ib _ _ ndB ifB ra rb ownB (mkFrame Y1 ifA ra.mac ifB.ip q) _
    SX2 h.ab h.br h.ar h.kindR h.onR h.fwR h.portA h.portB h.rbEn h.rbPeer h.ownB h.macRb
    rfl h.macRa rfl (Permitted.aclDenies (nd := { ndR with arp := lR }) hq h.fwR ia) hgR1
    (by show (3 : Int) ≤ initTtl; decide) h.notOwnB R1coldB h.fiB h.feB h.rbB h.bNotNet h.bNotBc h.ifsB h.enB h.peerB h.kindB h.onB h.netBg
  have hf14 : fuel + 13 + 1 = fuel + 14 := rfl
  rw [hf14, hfwd] at hsend
  have hgB1 : (ndB.addArp rb.ip rb.mac 0).arpGet rb.ip = some { ip := rb.ip, mac := rb.mac, ifc := 0 } :=
    arpGet_addArp_new ndB rb.ip rb.mac 0 (by rw [h.ifsB]; exact ifaceWithIp_single ifB rb.ip h.ipBg) (arpGet_nil ndB h.coldB rb.ip)
  have hgR2 : (({ ndR with arp := lR } : Node).addArp ifB.ip ifB.mac ib).arpGet ifB.ip = some { ip := ifB.ip, mac := ifB.mac, ifc := ib } :=
    arpGet_addArp_new _ ifB.ip ifB.mac ib h.notOwnB R1coldB
  have R2A : (({ ndR with arp := lR } : Node).addArp ifB.ip ifB.mac ib).arpGet ifA.ip = some { ip := ifA.ip, mac := ifA.mac, ifc := ia } := by
    rw [arpGet_addArp_other _ _ _ _ _ h.ipAB]; exact hgR1
  rw [addArp_known _ _ _ _ _ hgR2] at SY2
  obtain ⟨lB, hB1⟩ := addArp_cache ndB rb.ip rb.mac 0
  obtain ⟨lR2, hR2⟩ : ∃ l, ({ ndR with arp := lR } : Node).addArp ifB.ip ifB.mac ib = { ndR with arp := l } := addArp_cache _ _ _ _
  rw [hB1, hR2] at SY2
  rw [hB1] at hgB1
  rw [hR2] at hgR2 R2A
  generalize hX3 : Y2.emit _ = X3 at hsend
  have SX3 := SY2.emit (.hop r (mkFrame Y1 ifA ra.mac ifB.ip q).id (mkFrame Y1 ifA ra.mac ifB.ip q).dec.ttl)
  rw [hX3] at SX3
  generalize hE2 : (mkFrame Y1 ifA ra.mac ifB.ip q).dec.dec.stamp rb.mac ifB.mac = E2 at hsend
  have E2s : E2.srcMac = rb.mac ∧ E2.dstMac = ifB.mac ∧ E2.srcIp = ifA.ip ∧ E2.dstIp = ifB.ip ∧ E2.ttl = 62 ∧ E2.pl = q := by
    rw [← hE2]; exact ⟨rfl, rfl, rfl, rfl, rfl, rfl⟩
  obtain ⟨g1, g2, g3, g4, g5, g6⟩ := E2s
  rw [host_end (fuel + 9) X3 b _ ifB E2 SX3.nb h.kindB h.ifsB g2 h.macB g4 (by rw [g5]; decide)] at hsend
  have hs1 : E2.dec.srcIp = ifA.ip := g3
  have hs2 : E2.dec.srcMac = rb.mac := g1
  have hB1A : (({ ndB with arp := lB } : Node).addArp ifA.ip rb.mac 0).arpGet rb.ip = some { ip := rb.ip, mac := rb.mac, ifc := 0 } := by
    rw [arpGet_addArp_other _ _ _ _ _ (Ne.symm hgne2)]; exact hgB1
  have hans := hB (fuel + 6) (X3.emit (.rx b 0 E2.id E2.ttl)) _ E2.dec { ip := rb.ip, mac := rb.mac, ifc := 0 } (SX3.emit _).nb h.kindB
    h.onB h.ifsB rfl rfl
    (by rw [hs1, hs2]; exact Or.inr ⟨h.offBA, rb.ip, by rw [addArp_gateway]; exact h.gwB, h.netBg, hB1A⟩) g6 g4
  rw [hs1, hs2] at hans
  rw [hans] at hsend
  generalize hX4 : T (((X3.emit (.rx b 0 E2.id E2.ttl)).modNode b (fun nd => nd.addArp ifA.ip rb.mac 0)).emit
    (.sw b E2.dec.id E2.dec.dstIp (E2.dec.dstMac == bcastMac))) = X4 at hsend
  have SX4 := hT (((SX3.emit (.rx b 0 E2.id E2.ttl)).modB (fun nd => nd.addArp ifA.ip rb.mac 0) (fun nd => addArp_cfg nd _ _ _) h.ab h.br).emit
    (.sw b E2.dec.id E2.dec.dstIp (E2.dec.dstMac == bcastMac)))
  rw [hX4] at SX4
  generalize hB2 : gB (({ ndB with arp := lB } : Node).addArp ifA.ip rb.mac 0) = B2 at SX4
  have B2cfg : B2.cfg = ndB.cfg := by rw [← hB2, (hgB _).1]; exact addArp_cfg _ _ _ _
  have hrouteB : HostRoute B2 ifB ifA.ip { ip := rb.ip, mac := rb.mac, ifc := 0 } :=
    Or.inr ⟨h.offBA, rb.ip, (congrArg NodeCfg.gateway B2cfg).trans h.gwB, h.netBg, by rw [← hB2, (hgB _).2]; exact hB1A⟩
  have hX4rb : X4.iface? r ib = some rb := (iface?_of_node SX4.ns ib).trans h.portB
  rw [host_send_warm (fuel + 5) X4 b B2 ifB rb ifA.ip _ p r ib SX4.nb ((congrArg NodeCfg.kind B2cfg).trans h.kindB)
    ((congrArg NodeCfg.ifaces B2cfg).trans h.ifsB) h.enB hrouteB rfl h.peerB hX4rb h.rbEn] at hsend
  have hopR : Hop X4.nodes p ifB.ip ifA.ip r ib rb.mac a 0 ra.mac ifA.mac :=
    ⟨⟨_, rb, _, { ip := ifA.ip, mac := ifA.mac, ifc := ia }, ra, ifA, SX4.ns, h.kindR,
      plain_router_transit _ ib p ifA.ip h.fwR h.onR (Permitted.aclDenies (nd := { ndR with arp := lR2 }) hp h.fwR ib),
      h.portB, rfl, hgR2, h.notOwnA, Or.inr (Or.inl ⟨R2A, h.raA⟩), h.portA, h.raEn, h.raPeer,
      by have := SX4.na; unfold St.node? at this; rw [this, Option.bind_some]; exact congrArg (·[0]?) h.ifsA, h.enA, rfl, rfl⟩⟩
  have pBA : Path X4.nodes p ifB.ip ifA.ip r ib ifB.mac rb.mac a 0 ra.mac ifA.mac (0 + 4) (0 + 2) :=
    Path.router hopR h.macA Path.arrive
  obtain ⟨L2, G, j2, Gs, Gd, Gp, _, Gm, Gt, _⟩ := journey pBA (fuel + 1) { X4 with nextId := X4.nextId + 1 }
    (mkFrame X4 ifB rb.mac ifA.ip p) rfl rfl rfl rfl rfl h.macRb rfl (by simp [mkFrame, initTtl])
  have hfj : fuel + 5 + 1 = fuel + 1 + (0 + 4) + 1 := by omega
  rw [hfj, j2] at hsend
  generalize hX6 : ({ ({ X4 with nextId := X4.nextId + 1 } : St) with
    log := L2 ++ ({ X4 with nextId := X4.nextId + 1 } : St).log } : St) = X6 at hsend
  have hX6a : X6.node? a = some { ndA with arp := lA } := by rw [← hX6]; exact SX4.na
  have Gttl : 2 ≤ G.ttl := by rw [Gt]; simp [mkFrame, initTtl]
  rw [host_end (fuel + 1) X6 a _ ifA G hX6a h.kindA h.ifsA Gm h.macA Gd Gttl] at hsend
  have hf16 : fuel + 16 = fuel + 13 + 3 := by omega
  exact ⟨X6.emit (.rx a 0 G.id G.ttl), G.dec, by rw [hf16, hsend], by rw [hA1]; exact hX6a, Gp⟩

/-- **LIVENESS WITH COLD CACHES ACROSS ONE ROUTER.**  Host A — router — host B over direct links, every ARP cache empty:
`ping` (one echo) from A to B returns `True`.  Part of the statement: A resolves its gateway by ARP (the router learns A);
the router, holding A's echo request inside `process_frame`, resolves B by ARP (B learns the router's address, which is its
gateway) and forwards the request (TTL − 2); B learns "A ↦ the router's MAC" from the request, answers through its (already
learned) gateway; the router forwards the reply from its cache; A counts it.  For every fuel ≥ 16. -/
theorem C08_permitted_exchange_succeeds_cold_routed (fuel : Nat) (st : St) (a r b ia ib : Nat) (ndA ndR ndB : Node)
    (ifA ifB ra rb ownA ownB : Iface) (h : ColdRouted st a r b ia ib ndA ndR ndB ifA ifB ra rb ownA ownB)
    (hrep : replyCount ndA.replies st.nextId = none) (hlo : isLoopback ifB.ip = false) :
    (ping (fuel + 16) st a ifB.ip 1).2 = true := by
  generalize hst0 : ({ st with nextId := st.nextId + 1 } : St) = st0
  have S0 : Snap st0 (cfgOf st) a b r ndA ndB ndR := by rw [← hst0]; exact ⟨rfl, h.nodeA, h.nodeB, h.nodeR⟩
  have cgA := arpGet_nil ndA h.coldA
  have hgne : ifB.ip ≠ ra.ip := by intro e; have := h.offAB; rw [e, h.netAg] at this; cases this
  -- A resolves its gateway: `resolveOut` asks ARP for the gateway's interface
  obtain ⟨Y1, hY1, SY1, hgA⟩ := h.gateway_arp (fuel + 4) st0 S0
  have hfeA : firstEnabledIn ndA.ifaces ifB.ip 0 = none := by simp [h.ifsA, firstEnabledIn, h.offAB]
  obtain ⟨gw', hnext⟩ := hostArpNext_first ndA ra.ip
  have hro0 : resolveOut (fuel + 16) st0 a ifB.ip = (Y1, some 0) := by
    have hne : (ifB.ip == ra.ip) = false := by simpa using hgne
    have hany : ndA.ifaces.any (·.enabled) = true := by simp [h.ifsA, h.enA]
    have hi1 : arpIfc (fuel + 15) st0 a ra.ip false false = (Y1, some 0) := by
      rw [arpIfc]
      simp only [S0.na, cgA ra.ip, h.kindA, arpNext, hnext, hY1]
      have : (Kind.host == Kind.router) = false := rfl
      simp only [this, Bool.false_eq_true, if_false]
      rw [arpIfc]
      simp only [SY1.na, hgA]
    simp only [resolveOut, S0.na, hfeA, h.kindA, h.gwA, hne, Bool.false_eq_true, if_false, hany, if_true, hi1]
  -- the round trip; B's ICMP answers an echo request when the way back resolves, which it does: B has just learned its gateway
  obtain ⟨X, G, hrt, hXa, Gp⟩ := cold_routed_round_trip fuel st a r b ia ib ndA ndR ndB ifA ifB ra rb ownA ownB h
    (.echoReq st.nextId) (.echoRep st.nextId) ⟨by simp, by simp, rfl⟩ ⟨by simp, by simp, rfl⟩ id id (fun S => S)
    (fun _ => ⟨rfl, fun _ => rfl⟩)
    (by
      intro k X B f e hn hk hon hifs _ _ hr hpl hd
      rw [host_echo_req_any (k + 2) X b B ifB f st.nextId hn hon hifs hpl hd]
      obtain ⟨kB, hro⟩ := host_resolveOut_warm k ((X.modNode b (fun nd => nd.addArp f.srcIp f.srcMac 0)).emit
        (.sw b f.id f.dstIp (f.dstMac == bcastMac))) b _ ifB f.srcIp e (by rw [emit_node, node?_modNode]; simp [hn])
        (by rw [addArp_kind]; exact hk) (by rw [addArp_ifaces]; exact hifs) h.enB hr
      simp only [hro, id])
    Y1 SY1
  have hfinal : (sendIcmp (fuel + 16) Y1 a ifB.ip (.echoReq st.nextId)).node? a =
      some { ((ndA.addArp ra.ip ra.mac 0).addArp G.srcIp G.srcMac 0) with
        replies := bumpReply ((ndA.addArp ra.ip ra.mac 0).addArp G.srcIp G.srcMac 0).replies st.nextId } := by
    rw [hrt, host_echo_rep_any fuel X a _ ifA G st.nextId hXa (by rw [addArp_on]; exact h.onA) (by rw [addArp_ifaces]; exact h.ifsA) Gp]
    simp only [node?_modNode, if_true, emit_node, hXa, Option.map_some]
  refine ping_one_counted h.nodeA h.onA hlo hst0 hro0 hfinal ?_
  show replyCount (bumpReply _ st.nextId) st.nextId = some 1
  rw [addArp_replies, addArp_replies, replyCount_bump ndA.replies st.nextId hrep]

/-! ### non-vacuity: `exNet` of `C08Addressee.lean` (host — router — host, cold) is such a network -/

def crA : Iface := { mac := 1, ip := 0xC0A80102#32, plen := 24, enabled := true, peer := some (1, 0) }
def crRa : Iface := { mac := 2, ip := 0xC0A80101#32, plen := 24, enabled := true, peer := some (0, 0) }
def crRb : Iface := { mac := 3, ip := 0xC0A80201#32, plen := 24, enabled := true, peer := some (2, 0) }
def crB : Iface := { mac := 4, ip := 0xC0A80202#32, plen := 24, enabled := true, peer := some (1, 1) }

theorem crRouted : ColdRouted exNet 0 1 2 0 1 exNet.nodes[0] exNet.nodes[1] exNet.nodes[2] crA crB crRa crRb crRa crRb :=
  { nodeA := rfl, kindA := rfl, onA := rfl, ifsA := rfl, enA := rfl, peerA := rfl, gwA := rfl, nodeB := rfl, kindB := rfl, onB := rfl,
    ifsB := rfl, enB := rfl, peerB := rfl, gwB := rfl, nodeR := rfl, kindR := rfl, onR := rfl, fwR := rfl, portA := rfl, raEn := rfl,
    raPeer := rfl, portB := rfl, rbEn := rfl, rbPeer := rfl, ownA := by decide, ownB := by decide, ab := by decide, ar := by decide,
    br := by decide, netAg := by decide, offAB := by decide, netBg := by decide, offBA := by decide, raA := by decide, rbB := by decide,
    feA := by decide, feB := by decide, fiB := by decide, notOwnA := by decide, notOwnB := by decide, macA := by decide,
    macB := by decide, macRa := by decide, macRb := by decide, gNotNet := by decide, gNotBc := by decide, bNotNet := by decide,
    bNotBc := by decide, ipAg := by decide, ipBg := by decide, ipAB := by decide, coldA := rfl, coldR := rfl, coldB := rfl }

/-- the theorem applies to it, at the smallest budget it allows … -/
example : (ping 16 exNet 0 crB.ip 1).2 = true :=
  C08_permitted_exchange_succeeds_cold_routed 0 exNet 0 1 2 0 1 _ _ _ crA crB crRa crRb crRa crRb crRouted rfl (by decide)
/-- … agrees with evaluation, and 15 levels are NOT enough (the bound of the theorem is tight for this network). -/
example : (ping 16 exNet 0 crB.ip 1).2 = true := by decide +kernel
example : (ping 15 exNet 0 crB.ip 1).1.oof = true := by decide +kernel

end Primaite.Forward
