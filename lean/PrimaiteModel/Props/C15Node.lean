/-
Property C15: the glue between a node and its file system (`Model/FileSystemNode.lean`).

"The per-tick creation/deletion counters start every tick at zero" is a statement about what a NODE reports, and the node
decides when its file system's `pre_timestep` / `apply_timestep` run and which requests reach it.  The theorems below hold
for EVERY power history (the power flag is an input that may change at any moment) and every sequence of requests,
API calls, node scans and ticks; the guard table they rest on (`codeGlue`) is regenerated from
`Node.pre_timestep / apply_timestep / describe_state / _init_request_manager` on every run (`C15_gen_node_glue`).
-/
import PrimaiteModel.Props.C15Api
import PrimaiteModel.Gen.FileSystemNode
namespace Primaite.FileSystem

def NState.counters (n : NState) : Nat × Nat := (n.x.s.numCreations, n.x.s.numDeletions)

/-- While the node is ON a request below `file_system` is exactly the file-system request (so every theorem about
requests — refusal of deleted targets, create-on-existing, moves between the sets — holds verbatim at node level);
a path that denotes no operation is answered without touching anything. -/
theorem C15_node_request_is_fs_request (n : NState) (path : List String) (hon : n.on = true) :
    (∀ op, resolve n.x.s path = .inl op →
      (nstep n (.req path)).1.x.s = (step n.x.s op).1 ∧ (nstep n (.req path)).2 = (step n.x.s op).2) ∧
    (∀ o, resolve n.x.s path = .inr o → nstep n (.req path) = (n, o)) := by
  constructor
  · intro op h
    simp only [nstep, nstepWith, codeGlue, hon, Bool.not_true, Bool.false_eq_true, if_false, h]
    exact ⟨rfl, rfl⟩
  · intro o h
    simp only [nstep, nstepWith, codeGlue, hon, Bool.not_true, Bool.false_eq_true, if_false, h]

/-- While the node is not ON every request below `file_system`, and the node scan request, is refused with `failure`
and changes nothing at all. -/
theorem C15_node_request_refused_while_off (n : NState) (hoff : n.on = false) (path : List String) :
    nstep n (.req path) = (n, .failure) ∧ nstep n .osScan = (n, .failure) := by
  simp [nstep, nstepWith, codeGlue, hoff]

/-- `Node.apply_timestep` steps the file system exactly when the power state it tests is ON; a node scan never changes
the structure; otherwise the file system is left alone. -/
theorem C15_node_tick_only_while_on (n : NState) (b : Bool) :
    (nstep n (.applyTimestep b)).1.x.s = (if b then (step n.x.s .tick).1 else n.x.s) ∧
    (nstep n (.applyTimestep b)).1.on = b := by
  cases b
  · simp [nstep, nstepWith, codeGlue]
  · simp only [nstep, nstepWith, codeGlue, Bool.true_and, if_true]
    split <;> (constructor <;> first | rfl | (split <;> rfl))

/-- A node that is not ON is frozen as far as requests and ticks go: only `pre_timestep` (which resets the per-tick
figures) and direct Python-API calls of its own software reach the file system. -/
theorem C15_node_frozen_while_off (n : NState) (hoff : n.on = false) (op : NOp)
    (hop : (∃ p, op = .req p) ∨ op = .osScan ∨ op = .applyTimestep false ∨ op = .power false) :
    (nstep n op).1.x = n.x ∧ (nstep n op).1.on = false := by
  rcases hop with ⟨p, rfl⟩ | rfl | rfl | rfl
  · rw [(C15_node_request_refused_while_off n hoff p).1]; exact ⟨rfl, hoff⟩
  · rw [(C15_node_request_refused_while_off n hoff []).2]; exact ⟨rfl, hoff⟩
  · simp [nstep, nstepWith, codeGlue]
  · simp [nstep, nstepWith]

theorem nstep_pre_counters (n : NState) : (nstep n .preTimestep).1.counters = (0, 0) := by
  simp [nstep, nstepWith, codeGlue, NState.counters, stepX, step]

/-- **The per-tick creation/deletion counters start every tick at zero**: after ANY history of power changes, requests,
API calls, node scans and ticks — from any node state, ON or not — `Node.pre_timestep` leaves both counters at zero, and
that is what the node reports (`describe_state()["file_system"]` is present in every power state). -/
theorem C15_counters_start_at_zero (n : NState) (hist : List NOp) :
    let m := (nstep (nrun n hist).1 .preTimestep).1
    m.x.s.numCreations = 0 ∧ m.x.s.numDeletions = 0 ∧
    ∃ d, ndescribe m = some d ∧ d.numCreations = 0 ∧ d.numDeletions = 0 := by
  have h := nstep_pre_counters (nrun n hist).1
  simp only [NState.counters, Prod.mk.injEq] at h
  exact ⟨h.1, h.2, _, rfl, h.1, h.2⟩

/-- Non-vacuity, and the scenario of the two agents: a file is created and the host is shut down in the same tick; the
node stays not-ON for three more ticks and is ON again in the fifth — the counters read 0 at the start of every one
of them (and 1 at the end of the first). -/
example :
    let t1 := (nrun (ninit none none) [.preTimestep, .req ["create", "file", "fa", "a", "0"], .power false, .applyTimestep false]).1
    let later := (nrun t1 [.preTimestep, .applyTimestep false, .preTimestep, .req ["create", "file", "fa", "b", "0"],
      .applyTimestep false, .preTimestep, .applyTimestep true, .preTimestep]).1
    t1.counters = (1, 0) ∧ t1.on = false ∧ (nstep t1 .preTimestep).1.counters = (0, 0) ∧ later.counters = (0, 0) ∧ later.on = true := by
  decide

/-- Why the guard table matters (the glue of seeded change C15-c, in miniature): if `Node.pre_timestep` passed the call on
only while the node is ON, a creation followed by a shutdown in the same tick would still be reported at the start of
the next tick. -/
theorem C15_node_stale_counters_counterexample :
    ∃ (hist : List NOp),
      let gl : Glue := { codeGlue with pre := fun on => on }
      (nstepWith gl (nrunWith gl (ninit none none) hist).1 .preTimestep).1.x.s.numCreations ≠ 0 :=
  ⟨[.preTimestep, .req ["create", "file", "fa", "a", "0"], .power false, .applyTimestep false], by decide⟩

/-- What a Python-API call adds to `(num_file_creations, num_file_deletions)`. -/
def apiTally (s : State) (op : ApiOp) (cd : Nat × Nat) : Nat × Nat :=
  match op with
  | .createFile .. => if (stepApi s op).2 = .success then (cd.1 + 1, cd.2) else cd
  | .copyFile F x _ => if (getFile s F x).isSome then (cd.1 + 1, cd.2) else cd
  | .moveFile F x G =>
    match getFile s F x with
    | some f => if ((getOrCreateFolder s G).2.getFile f.name).isSome then cd else (cd.1 + 1, cd.2 + 1)
    | none => cd
  | .deleteFileById i j =>
    match s.folders.find? (fun g => g.id == i) with
    | some g =>
      match g.files.find? (fun f => f.id == j) with
      | some f => tallyStep (.deleteFile g.name f.name) (step s (.deleteFile g.name f.name)).2 cd
      | none => cd
    | none => cd
  | .addFile .. | .deleteFolderById _ | .removeFileById .. => cd

theorem apiCreateFile_counters (s : State) (F x : Name) (force : Bool) :
    ((apiCreateFile s F x force).2 = .success ∧ (apiCreateFile s F x force).1.numCreations = s.numCreations + 1 ∧
      (apiCreateFile s F x force).1.numDeletions = s.numDeletions) ∨
    ((apiCreateFile s F x force).2 = .raised ∧ (apiCreateFile s F x force).1.numCreations = s.numCreations ∧
      (apiCreateFile s F x force).1.numDeletions = s.numDeletions) := by
  have ht := createFileTarget_counters s F
  unfold apiCreateFile
  cases heq : createFileTarget s F with
  | mk s1 og =>
    rw [heq] at ht
    cases og with
    | none => exact Or.inr ⟨rfl, ht⟩
    | some g =>
      simp only
      split
      · exact Or.inr ⟨rfl, ht⟩
      · rw [createFileIn_out, (createFileIn_counters s1 g x).1, (createFileIn_counters s1 g x).2, ht.1, ht.2]
        exact Or.inl ⟨rfl, rfl, rfl⟩

/-- Every API call moves the counters exactly as `apiTally` says: a returned `create_file` and a performed `copy_file`
count one creation, a performed `move_file` one deletion and one creation, `delete_file_by_id` of a live file one
deletion; `add_file`, `delete_folder_by_id`, `remove_file_by_id` and every raised call count nothing. -/
theorem C15_api_counters_step (s : State) (op : ApiOp) :
    ((stepApi s op).1.numCreations, (stepApi s op).1.numDeletions) = apiTally s op (s.numCreations, s.numDeletions) := by
  cases op with
  | createFile F x force =>
    rcases apiCreateFile_counters s F x force with ⟨e, c, d⟩ | ⟨e, c, d⟩ <;> simp [apiTally, stepApi, e, c, d]
  | copyFile F x G =>
    simp only [apiTally, stepApi, apiCopyFile]
    cases getFile s F x with
    | none => simp
    | some f => simp [updFolder, (getOrCreateFolder_counters s G).1, (getOrCreateFolder_counters s G).2]
  | moveFile F x G =>
    simp only [apiTally, stepApi, apiMoveFile, getFile]
    cases getFolder s F with
    | none => simp
    | some src =>
      simp only
      cases src.getFile x with
      | none => simp
      | some f =>
        simp only
        split
        · simp [(getOrCreateFolder_counters s G).1, (getOrCreateFolder_counters s G).2]
        · simp [updFolder, (getOrCreateFolder_counters s G).1, (getOrCreateFolder_counters s G).2]
  | addFile F x force =>
    simp only [apiTally, stepApi, apiAddFile]
    cases getFolder s F with
    | none => rfl
    | some g => simp only; split <;> rfl
  | deleteFileById i j =>
    simp only [apiTally, stepApi, apiDeleteFileById]
    cases s.folders.find? (fun g => g.id == i) with
    | none => rfl
    | some g =>
      simp only
      cases g.files.find? (fun f => f.id == j) with
      | none => rfl
      | some f => exact C15_counters_step s (.deleteFile g.name f.name)
  | deleteFolderById i =>
    simp only [apiTally, stepApi, apiDeleteFolderById]
    cases s.folders.find? (fun g => g.id == i) with
    | none => rfl
    | some g =>
      have := C15_counters_step s (.deleteFolder g.name)
      simpa [tallyStep, step] using this
  | removeFileById i j =>
    simp only [apiTally, stepApi, apiRemoveFileById]
    cases s.folders.find? (fun g => g.id == i) with
    | none => rfl
    | some g => simp only; split <;> rfl

/-- What one node-level event adds to the counters: `pre_timestep` zeroes them, a request counts (as `tallyStep` says) only
when it reaches the file system — i.e. while the node is ON —, an API call counts as `apiTally` says, power changes, node
scans and `apply_timestep` count nothing. -/
def ntallyStep (n : NState) (op : NOp) (cd : Nat × Nat) : Nat × Nat :=
  match op with
  | .preTimestep => (0, 0)
  | .req path =>
    if n.on then
      match resolve n.x.s path with
      | .inl o => tallyStep o (step n.x.s o).2 cd
      | .inr _ => cd
    else cd
  | .api a => apiTally n.x.s a cd
  | .power _ | .osScan | .applyTimestep _ => cd

def ntally (n : NState) : List NOp → Nat × Nat → Nat × Nat
  | [], cd => cd
  | op :: ops, cd => ntally (nstep n op).1 ops (ntallyStep n op cd)

theorem C15_node_counters_step (n : NState) (op : NOp) : (nstep n op).1.counters = ntallyStep n op n.counters := by
  cases op with
  | preTimestep => exact nstep_pre_counters n
  | power b => rfl
  | osScan => simp only [nstep, nstepWith, ntallyStep]; split <;> rfl
  | applyTimestep b =>
    have h := (C15_node_tick_only_while_on n b).1
    simp only [NState.counters, ntallyStep, h]
    cases b <;> rfl
  | api a => exact C15_api_counters_step n.x.s a
  | req path =>
    cases hon : n.on with
    | false => rw [(C15_node_request_refused_while_off n hon path).1]; simp [ntallyStep, hon]
    | true =>
      simp only [ntallyStep, hon, if_true]
      cases hr : resolve n.x.s path with
      | inl o =>
        have := ((C15_node_request_is_fs_request n path hon).1 o hr).1
        simp only [NState.counters, this]
        exact C15_counters_step n.x.s o
      | inr o => rw [(C15_node_request_is_fs_request n path hon).2 o hr]

theorem C15_node_counters_tally (n : NState) (ops : List NOp) :
    (nrun n ops).1.counters = ntally n ops n.counters := by
  induction ops generalizing n with
  | nil => rfl
  | cons op ops ih =>
    show (nrun (nstep n op).1 ops).1.counters = _
    rw [ih, C15_node_counters_step]
    rfl

/-- **Nothing is left over from an earlier tick**: whatever the node's state and counters were, after `pre_timestep` and
the events of the tick the counters are the tally of THOSE events, started from zero. (With the events of the tick ending
in `apply_timestep`, this is the value the game reads and the host observation reports.) -/
theorem C15_node_counters_count_this_tick (n : NState) (ops : List NOp) :
    (nrun n (.preTimestep :: ops)).1.counters = ntally (nstep n .preTimestep).1 ops (0, 0) := by
  show (nrun (nstep n .preTimestep).1 ops).1.counters = _
  rw [C15_node_counters_tally, nstep_pre_counters]

/-- In particular a tick in which no request reaches the file system and no API call is made ends with both counters at
zero: a node that is not ON for the whole tick, or an idle one, reports 0 / 0. -/
theorem C15_node_idle_tick_reports_zero (n : NState) (ops : List NOp)
    (hidle : ∀ op ∈ ops, op = .osScan ∨ (∃ b, op = .power b) ∨ (∃ b, op = .applyTimestep b)) :
    (nrun n (.preTimestep :: ops)).1.counters = (0, 0) := by
  rw [C15_node_counters_count_this_tick]
  generalize (nstep n .preTimestep).1 = m
  induction ops generalizing m with
  | nil => rfl
  | cons op ops ih =>
    have hop := hidle op (List.mem_cons_self ..)
    have : ntallyStep m op (0, 0) = (0, 0) := by
      rcases hop with rfl | ⟨b, rfl⟩ | ⟨b, rfl⟩ <;> rfl
    simp only [ntally, this]
    exact ih (fun o ho => hidle o (List.mem_cons_of_mem _ ho)) _

/-- The side condition of a node-level event: only a `move_file` API call has one (see `AnyOp.ok`). -/
def NOp.ok (n : NState) : NOp → Prop
  | .api a => AnyOp.ok n.x.s (.api a)
  | _ => True

def nrunOk (n : NState) : List NOp → Prop
  | [] => True
  | op :: ops => NOp.ok n op ∧ nrunOk (nstep n op).1 ops

theorem nstep_structure (n : NState) (op : NOp) :
    (nstep n op).1.x.s = n.x.s ∨ (∃ o, (nstep n op).1.x.s = (step n.x.s o).1) ∨
    ∃ a, op = .api a ∧ (nstep n op).1.x.s = (stepApi n.x.s a).1 := by
  cases op with
  | power b => exact Or.inl rfl
  | osScan => simp only [nstep, nstepWith]; split <;> exact Or.inl rfl
  | preTimestep => exact Or.inr (Or.inl ⟨.preTick, rfl⟩)
  | applyTimestep b =>
    rw [(C15_node_tick_only_while_on n b).1]
    cases b
    · exact Or.inl rfl
    · exact Or.inr (Or.inl ⟨.tick, rfl⟩)
  | api a => exact Or.inr (Or.inr ⟨a, rfl, rfl⟩)
  | req path =>
    cases hon : n.on with
    | false => rw [(C15_node_request_refused_while_off n hon path).1]; exact Or.inl rfl
    | true =>
      cases hr : resolve n.x.s path with
      | inl o => exact Or.inr (Or.inl ⟨o, ((C15_node_request_is_fs_request n path hon).1 o hr).1⟩)
      | inr o => rw [(C15_node_request_is_fs_request n path hon).2 o hr]; exact Or.inl rfl

/-- Every node-level event keeps `Inv` — in every power state. (Unconditional form: `C15_node_inv2_step` in
`Props/C15Disjoint.lean`, where the `move_file` side condition is proved from cross-folder disjointness.) -/
theorem C15_node_inv_step {n : NState} (h : Inv n.x.s) (op : NOp) (hok : NOp.ok n op) : Inv (nstep n op).1.x.s := by
  rcases nstep_structure n op with e | ⟨o, e⟩ | ⟨a, rfl, e⟩
  · rw [e]; exact h
  · rw [e]; exact C15_inv_step h o
  · rw [e]; exact C15_api_inv_step_partial h a hok

theorem C15_node_inv_run {n : NState} (h : Inv n.x.s) (ops : List NOp) (hok : nrunOk n ops) : Inv (nrun n ops).1.x.s := by
  induction ops generalizing n with
  | nil => exact h
  | cons op ops ih => exact ih (C15_node_inv_step h op hok.1) hok.2

theorem C15_node_inv_reachable (d sc : Option Int) (on : Bool) (dur : Nat) (ops : List NOp) (hok : nrunOk (ninit d sc on dur) ops) :
    Inv (nrun (ninit d sc on dur) ops).1.x.s :=
  C15_node_inv_run (C15_inv_init d) ops hok

/-- The power guard of every call the node passes on to its file system, regenerated from `Node.pre_timestep`,
`Node.apply_timestep`, `Node.describe_state` and the `file_system` / `os` request routes, is the model's `codeGlue`:
`pre_timestep` and `describe_state` unconditionally; `apply_timestep`, the node scan and every request only while ON.
`apply_timestep` tests the power state after its last change of it (so the flag the model receives is the tested one),
the node scan is reached exactly under the two countdown conditions the model implements, and no node class overrides
`pre_timestep` / `apply_timestep`. -/
theorem C15_gen_node_glue :
    (∀ on, Gen.FileSystemNode.glue.pre on = codeGlue.pre on ∧ Gen.FileSystemNode.glue.tick on = codeGlue.tick on ∧
      Gen.FileSystemNode.glue.scan on = codeGlue.scan on ∧ Gen.FileSystemNode.glue.request on = codeGlue.request on ∧
      Gen.FileSystemNode.glue.describe on = codeGlue.describe on ∧ Gen.FileSystemNode.osRouteGuard on = on) ∧
    Gen.FileSystemNode.tickTestsFinalState = true ∧ Gen.FileSystemNode.tickOverrides = [] ∧
    Gen.FileSystemNode.scanConditions = ["if self.node_scan_countdown > 0", "if self.node_scan_countdown == 0"] :=
  ⟨fun on => by cases on <;> exact ⟨rfl, rfl, rfl, rfl, rfl, rfl⟩, rfl, rfl, rfl⟩

/-- The complete inventory of statements through which a node touches its file system, and of the calls above the node
(Simulation → Network → every node, unguarded): a new touch point, a new guard or a reordering shows up here. -/
theorem C15_gen_node_sites :
    Gen.FileSystemNode.nodeSites =
      [("Node.setup_for_episode", "self.file_system.setup_for_episode(episode=episode)", []),
       ("Node._init_request_manager",
        "rm.add_request('file_system', RequestType(func=self.file_system._request_manager, validator=_node_is_on))", []),
       ("Node.describe_state", "dict-entry 'file_system': self.file_system.describe_state()", []),
       ("Node.apply_timestep", "self.file_system.scan(instant_scan=True)",
        ["if self.operating_state == NodeOperatingState.ON", "if self.node_scan_countdown > 0", "if self.node_scan_countdown == 0"]),
       ("Node.apply_timestep", "self.file_system.reveal_to_red(instant_scan=True)",
        ["if self.operating_state == NodeOperatingState.ON", "if self.red_scan_countdown > 0", "if self.red_scan_countdown == 0"]),
       ("Node.apply_timestep", "self.file_system.apply_timestep(timestep=timestep)", ["if self.operating_state == NodeOperatingState.ON"]),
       ("Node.pre_timestep", "self.file_system.pre_timestep(timestep=timestep)", []),
       ("HostNode.__init__", "self.file_system.create_folder(folder['folder_name'])", ["for folder in self.config.folders"]),
       ("HostNode.__init__",
        "self.file_system.create_file(folder_name=folder['folder_name'], file_name=file['file_name'], size=file.get('size', 0), file_type=FileType[file.get('type', 'UNKNOWN').upper()])",
        ["for folder in self.config.folders", "for file in folder.get('files', [])"])] ∧
    Gen.FileSystemNode.chainSites =
      [("Simulation.pre_timestep", "self.network.pre_timestep(timestep)", []),
       ("Simulation.apply_timestep", "self.network.apply_timestep(timestep)", []),
       ("Simulation.describe_state", "dict-entry 'network': self.network.describe_state()", []),
       ("Network.pre_timestep", "node.pre_timestep(timestep)", ["for node in self.nodes.values()"]),
       ("Network.apply_timestep", "self.nodes[node_id].apply_timestep(timestep=timestep)", ["for node_id in self.nodes"]),
       ("Network.describe_state",
        "dict-entry 'nodes': {node.config.hostname: node.describe_state() for node in self.nodes.values()}", [])] :=
  ⟨rfl, rfl⟩

/-- Who writes the per-tick counters, anywhere in the code base: the five file-system methods the model follows
(`C15_counters_step`, `C15_api_counters_step`), the resets in `setup_for_episode` (start of the episode) and `pre_timestep`
(start of every tick), and the database service's ENCRYPT query
(one creation and one deletion booked directly — NOT modelled here; it still falls under the reset). -/
theorem C15_gen_counter_writers :
    Gen.FileSystemNode.counterWriters =
      [("simulator/file_system/file_system.py:FileSystem.setup_for_episode", "self.num_file_creations = 0"),
       ("simulator/file_system/file_system.py:FileSystem.setup_for_episode", "self.num_file_deletions = 0"),
       ("simulator/file_system/file_system.py:FileSystem.create_file", "self.num_file_creations += 1"),
       ("simulator/file_system/file_system.py:FileSystem.delete_file", "self.num_file_deletions += 1"),
       ("simulator/file_system/file_system.py:FileSystem.move_file", "self.num_file_creations += 1"),
       ("simulator/file_system/file_system.py:FileSystem.move_file", "self.num_file_deletions += 1"),
       ("simulator/file_system/file_system.py:FileSystem.copy_file", "self.num_file_creations += 1"),
       ("simulator/file_system/file_system.py:FileSystem.pre_timestep", "self.num_file_creations = 0"),
       ("simulator/file_system/file_system.py:FileSystem.pre_timestep", "self.num_file_deletions = 0"),
       ("simulator/system/services/database/database_service.py:DatabaseService._process_sql", "self.file_system.num_file_creations += 1"),
       ("simulator/system/services/database/database_service.py:DatabaseService._process_sql", "self.file_system.num_file_deletions += 1")] :=
  rfl

end Primaite.FileSystem
