/-
C07 — the state a list carries besides its rules (`implicit_action` vs the `implicit_rule` object,
`max_acl_rules` vs the slot count, `num_rules`, the implicit rule's hit counter), for every sequence of the operations
the code offers (constructor, attribute assignment, `add_rule`, `remove_rule`, `is_permitted`), and the independence of
the seven lists of a firewall.  The model is `Model/AclObj.lean` (on top of `Model/Acl.lean`).
-/
import PrimaiteModel.Model.AclObj
import PrimaiteModel.Props.C07
namespace Primaite.Acl

/-- `__init__`: a missing (or falsy) `implicit_action` means DENY; the `implicit_rule` object gets the same action; there
are `max_acl_rules - 1` empty slots (none when that is not positive) and both counters start at 0. -/
theorem C07_construct_spec (imp : Option Action) (n : Int) :
    let o := AclObj.construct imp n
    o.core.implicit = imp.getD .deny ∧ o.ruleAction = imp.getD .deny ∧ o.maxRules = n ∧
    o.core.rules.length = (n - 1).toNat ∧ (∀ j, j < (n - 1).toNat → o.core.rules[j]? = some none) ∧
    o.core.implicitHits = 0 ∧ o.numRules = 0 := by
  refine ⟨rfl, rfl, rfl, List.length_replicate, fun j hj => ?_, rfl, ?_⟩
  · exact List.getElem?_replicate.trans (if_pos hj)
  · simp [AclObj.construct, Acl.empty, AclObj.numRules]

/-- what `add_rule` and `remove_rule` have in common at the object: the guard on the attribute, then the write into the
slots as built -/
def AclObj.edit (o : AclObj) (pos : Int) (x : Option Rule) : AclObj × EditOut :=
  if o.inBound pos then
    match setSlot o.core pos.toNat x with
    | some c => ({ o with core := c }, .ok)
    | none => (o, .indexError)
  else (o, .valueError)

theorem AclObj.addRule_eq_edit (o : AclObj) (r : Rule) (pos : Int) :
    o.addRule r pos = o.edit pos (some { r with hits := 0 }) := rfl

theorem AclObj.removeRule_eq_edit (o : AclObj) (pos : Int) : o.removeRule pos = o.edit pos none := rfl

theorem AclObj.inBound_iff (o : AclObj) (pos : Int) : o.inBound pos = true ↔ 0 ≤ pos ∧ pos < o.maxRules - 1 := by
  simp [AclObj.inBound]

theorem AclObj.edit_valueError {o : AclObj} {pos : Int} (x : Option Rule) (h : ¬ (0 ≤ pos ∧ pos < o.maxRules - 1)) :
    o.edit pos x = (o, .valueError) :=
  if_neg (mt (o.inBound_iff pos).mp h)

theorem AclObj.edit_indexError {o : AclObj} {pos : Int} (x : Option Rule) (hb : 0 ≤ pos ∧ pos < o.maxRules - 1)
    (hl : o.core.rules.length ≤ pos.toNat) : o.edit pos x = (o, .indexError) := by
  unfold AclObj.edit
  rw [if_pos ((o.inBound_iff pos).mpr hb), setSlot_eq_none.mpr hl]

theorem AclObj.edit_ok {o : AclObj} {pos : Int} (x : Option Rule) (hb : 0 ≤ pos ∧ pos < o.maxRules - 1)
    (hl : pos.toNat < o.core.rules.length) :
    o.edit pos x = ({ o with core := { o.core with rules := o.core.rules.set pos.toNat x } }, .ok) := by
  unfold AclObj.edit
  rw [if_pos ((o.inBound_iff pos).mpr hb), setSlot_of_lt x hl]

theorem AclObj.edit_spec (o : AclObj) (pos : Int) (x : Option Rule) :
    (((o.edit pos x).2 = .valueError) ↔ ¬ (0 ≤ pos ∧ pos < o.maxRules - 1)) ∧
    (((o.edit pos x).2 = .indexError) ↔ (0 ≤ pos ∧ pos < o.maxRules - 1 ∧ o.core.rules.length ≤ pos.toNat)) ∧
    (((o.edit pos x).2 = .ok) ↔ (0 ≤ pos ∧ pos < o.maxRules - 1 ∧ pos.toNat < o.core.rules.length)) ∧
    ((o.edit pos x).2 ≠ .ok → (o.edit pos x).1 = o) ∧
    ((o.edit pos x).2 = .ok →
        (o.edit pos x).1.core.rules[pos.toNat]? = some x ∧
        (∀ j, j ≠ pos.toNat → (o.edit pos x).1.core.rules[j]? = o.core.rules[j]?)) ∧
    (o.edit pos x).1.core.rules.length = o.core.rules.length ∧
    (o.edit pos x).1.core.implicit = o.core.implicit ∧
    (o.edit pos x).1.core.implicitHits = o.core.implicitHits ∧
    (o.edit pos x).1.ruleAction = o.ruleAction ∧ (o.edit pos x).1.maxRules = o.maxRules := by
  -- in each of the three cases the outcome equation turns every clause into a closed fact about the case's hypotheses
  by_cases hb : 0 ≤ pos ∧ pos < o.maxRules - 1
  · by_cases hl : pos.toNat < o.core.rules.length
    · rw [AclObj.edit_ok x hb hl]
      simp +contextual [hb, hl, Nat.not_le.mpr hl, List.getElem?_set_ne, eq_comm, -Int.le_toNat]
    · rw [AclObj.edit_indexError x hb (Nat.le_of_not_lt hl)]
      simp [hb, hl, Nat.le_of_not_lt hl]
  · rw [AclObj.edit_valueError x hb]
    simp [hb, ← and_assoc]

/-- Editing through the object: the outcome is decided by the guard `0 <= position < max_acl_rules - 1` (else
`ValueError`) and then by the slot count (else `IndexError`); an error changes NOTHING; success changes exactly the
addressed slot; the implicit action, the implicit rule (action and counter) and `max_acl_rules` are never touched. -/
theorem C07_obj_addRule (o : AclObj) (r : Rule) (pos : Int) :
    (((o.addRule r pos).2 = .valueError) ↔ ¬ (0 ≤ pos ∧ pos < o.maxRules - 1)) ∧
    (((o.addRule r pos).2 = .indexError) ↔ (0 ≤ pos ∧ pos < o.maxRules - 1 ∧ o.core.rules.length ≤ pos.toNat)) ∧
    (((o.addRule r pos).2 = .ok) ↔ (0 ≤ pos ∧ pos < o.maxRules - 1 ∧ pos.toNat < o.core.rules.length)) ∧
    ((o.addRule r pos).2 ≠ .ok → (o.addRule r pos).1 = o) ∧
    ((o.addRule r pos).2 = .ok →
        (o.addRule r pos).1.core.rules[pos.toNat]? = some (some { r with hits := 0 }) ∧
        (∀ j, j ≠ pos.toNat → (o.addRule r pos).1.core.rules[j]? = o.core.rules[j]?)) ∧
    (o.addRule r pos).1.core.rules.length = o.core.rules.length ∧
    (o.addRule r pos).1.core.implicit = o.core.implicit ∧
    (o.addRule r pos).1.core.implicitHits = o.core.implicitHits ∧
    (o.addRule r pos).1.ruleAction = o.ruleAction ∧ (o.addRule r pos).1.maxRules = o.maxRules :=
  o.addRule_eq_edit r pos ▸ o.edit_spec pos _

theorem C07_obj_removeRule (o : AclObj) (pos : Int) :
    (((o.removeRule pos).2 = .valueError) ↔ ¬ (0 ≤ pos ∧ pos < o.maxRules - 1)) ∧
    (((o.removeRule pos).2 = .indexError) ↔ (0 ≤ pos ∧ pos < o.maxRules - 1 ∧ o.core.rules.length ≤ pos.toNat)) ∧
    (((o.removeRule pos).2 = .ok) ↔ (0 ≤ pos ∧ pos < o.maxRules - 1 ∧ pos.toNat < o.core.rules.length)) ∧
    ((o.removeRule pos).2 ≠ .ok → (o.removeRule pos).1 = o) ∧
    ((o.removeRule pos).2 = .ok →
        (o.removeRule pos).1.core.rules[pos.toNat]? = some none ∧
        (∀ j, j ≠ pos.toNat → (o.removeRule pos).1.core.rules[j]? = o.core.rules[j]?)) ∧
    (o.removeRule pos).1.core.rules.length = o.core.rules.length ∧
    (o.removeRule pos).1.core.implicit = o.core.implicit ∧
    (o.removeRule pos).1.core.implicitHits = o.core.implicitHits ∧
    (o.removeRule pos).1.ruleAction = o.ruleAction ∧ (o.removeRule pos).1.maxRules = o.maxRules :=
  o.removeRule_eq_edit pos ▸ o.edit_spec pos none

/-- Asking for a verdict through the object is `Model/Acl.isPermitted` on the slots and the CURRENT attribute; the
`implicit_rule` object's action and `max_acl_rules` are not touched. -/
theorem C07_obj_isPermitted (o : AclObj) (p : Packet) :
    (o.isPermitted p).1 = (Acl.isPermitted o.core p).1 ∧ (o.isPermitted p).2.1 = (Acl.isPermitted o.core p).2.1 ∧
    (o.isPermitted p).2.2.core = (Acl.isPermitted o.core p).2.2 ∧
    (o.isPermitted p).2.2.ruleAction = o.ruleAction ∧ (o.isPermitted p).2.2.maxRules = o.maxRules :=
  ⟨rfl, rfl, rfl, rfl, rfl⟩

theorem AclObj.isPermitted_eq (o : AclObj) (p : Packet) :
    o.isPermitted p =
      ((Acl.isPermitted o.core p).1, (Acl.isPermitted o.core p).2.1, { o with core := (Acl.isPermitted o.core p).2.2 }) :=
  rfl

theorem isPermitted_implicitHits (a : Acl) (p : Packet) :
    (Acl.isPermitted a p).2.2.implicitHits =
      a.implicitHits + implicitVerdicts [.verdict (Acl.isPermitted a p).1 (Acl.isPermitted a p).2.1] := by
  cases heq : firstMatch p a.rules 0 with
  | some ir => rw [isPermitted_of_some heq]; rfl
  | none => rw [isPermitted_of_none heq]; rfl

/-- One operation: which parts of the state it may change.  Only `setImplicit` changes the implicit action, only
`setMax` changes `max_acl_rules`, nothing changes the `implicit_rule` object's action or the number of slots, and the
implicit rule's counter moves exactly when the answer is a verdict decided by the implicit rule. -/
theorem C07_step_state (o : AclObj) (op : Op) :
    (o.step op).1.core.implicit = currentImplicit o.core.implicit [op] ∧
    (o.step op).1.ruleAction = o.ruleAction ∧
    (o.step op).1.core.rules.length = o.core.rules.length ∧
    (o.step op).1.core.implicitHits = o.core.implicitHits + implicitVerdicts [(o.step op).2] ∧
    (o.step op).1.maxRules = (match op with | .setMax n => n | _ => o.maxRules) := by
  cases op with
  | add r pos =>
    obtain ⟨_, _, _, _, _, h6, h7, h8, h9, h10⟩ := C07_obj_addRule o r pos
    exact ⟨h7, h9, h6, h8, h10⟩
  | remove pos =>
    obtain ⟨_, _, _, _, _, h6, h7, h8, h9, h10⟩ := C07_obj_removeRule o pos
    exact ⟨h7, h9, h6, h8, h10⟩
  | check p =>
    exact ⟨(isPermitted_keeps o.core p).1, rfl, (C07_hit_counter o.core p).2.1, isPermitted_implicitHits o.core p, rfl⟩
  | setImplicit a => exact ⟨rfl, rfl, rfl, rfl, rfl⟩
  | setMax n => exact ⟨rfl, rfl, rfl, rfl, rfl⟩

theorem AclObj.run_cons (o : AclObj) (op : Op) (rest : List Op) :
    o.run (op :: rest) = (((o.step op).1.run rest).1, (o.step op).2 :: ((o.step op).1.run rest).2) := rfl

theorem currentImplicit_cons (a : Action) (op : Op) (rest : List Op) :
    currentImplicit a (op :: rest) = currentImplicit (currentImplicit a [op]) rest := by
  cases op <;> rfl

theorem implicitVerdicts_cons (x : Ans) (rest : List Ans) :
    implicitVerdicts (x :: rest) = implicitVerdicts [x] + implicitVerdicts rest := by
  cases x with
  | verdict v d => cases d <;> simp [implicitVerdicts]; omega
  | edit | done => simp [implicitVerdicts]

/-- EVERY sequence of operations: the implicit action in force is the last one assigned (else the constructor's); the
`implicit_rule` object keeps the action it was built with; the slot count never changes; the implicit rule's counter has
grown by exactly the number of verdicts the implicit rule decided; one answer per operation. -/
theorem C07_run_state (o : AclObj) (ops : List Op) :
    (o.run ops).1.core.implicit = currentImplicit o.core.implicit ops ∧
    (o.run ops).1.ruleAction = o.ruleAction ∧
    (o.run ops).1.core.rules.length = o.core.rules.length ∧
    (o.run ops).1.core.implicitHits = o.core.implicitHits + implicitVerdicts (o.run ops).2 ∧
    (o.run ops).2.length = ops.length := by
  induction ops generalizing o with
  | nil => exact ⟨rfl, rfl, rfl, rfl, rfl⟩
  | cons op rest ih =>
    obtain ⟨s1, s2, s3, s4, _⟩ := C07_step_state o op
    obtain ⟨r1, r2, r3, r4, r5⟩ := ih (o.step op).1
    rw [AclObj.run_cons]
    refine ⟨?_, ?_, ?_, ?_, ?_⟩
    · rw [currentImplicit_cons, ← s1]; exact r1
    · exact r2.trans s2
    · exact r3.trans s3
    · show ((o.step op).1.run rest).1.core.implicitHits =
        o.core.implicitHits + implicitVerdicts ((o.step op).2 :: ((o.step op).1.run rest).2)
      rw [implicitVerdicts_cons, r4, s4, Nat.add_assoc]
    · exact congrArg (· + 1) r5

/-- **The fall-through verdict is the CURRENT implicit action, for every edit sequence.**  After any sequence of
operations (attribute assignments included) a packet is decided by the lowest-positioned matching rule of the slots as
they now are; if none matches, the verdict is the implicit action assigned LAST (the constructor's if none was), the
decider is the implicit rule, and its counter — and nothing else — is incremented. -/
theorem C07_fallthrough_is_current_implicit (o : AclObj) (ops : List Op) (p : Packet) :
    let o' := (o.run ops).1
    (∃ i r, o'.core.rules[i]? = some (some r) ∧ r.hits? p = true ∧
        (∀ j, j < i → ∀ r' : Rule, o'.core.rules[j]? = some (some r') → r'.hits? p = false) ∧
        (o'.isPermitted p).1 = (r.action == .permit) ∧ (o'.isPermitted p).2.1 = .rule i) ∨
    ((∀ (j : Nat) (r' : Rule), o'.core.rules[j]? = some (some r') → r'.hits? p = false) ∧
        (o'.isPermitted p).1 = (currentImplicit o.core.implicit ops == .permit) ∧
        (o'.isPermitted p).2.1 = .implicit ∧
        (o'.isPermitted p).2.2.core.implicitHits = o'.core.implicitHits + 1 ∧
        (o'.isPermitted p).2.2.core.rules = o'.core.rules ∧
        (o'.isPermitted p).2.2.core.implicit = o'.core.implicit ∧
        (o'.isPermitted p).2.2.ruleAction = o.ruleAction) := by
  intro o'
  obtain ⟨hi, hr, _⟩ := C07_run_state o ops
  rw [AclObj.isPermitted_eq]
  cases heq : firstMatch p o'.core.rules 0 with
  | some ir =>
    obtain ⟨h2, h3, h4⟩ := firstMatch_eq_some_iff.mp heq
    rw [isPermitted_of_some heq]
    exact Or.inl ⟨_, _, h2, h3, h4, rfl, rfl⟩
  | none =>
    rw [isPermitted_of_none heq]
    exact Or.inr ⟨firstMatch_eq_none_iff.mp heq, congrArg (· == Action.permit) hi,
      rfl, rfl, rfl, rfl, hr⟩

/-- `describe_state()["implicit_action"]` is exactly what the fall-through verdict uses — for every sequence. -/
theorem C07_describe_implicit_is_verdict (o : AclObj) (ops : List Op) (p : Packet)
    (hno : ∀ (j : Nat) (r' : Rule), (o.run ops).1.core.rules[j]? = some (some r') → r'.hits? p = false) :
    ((o.run ops).1.isPermitted p).1 = ((o.run ops).1.describe.implicitAction == .permit) ∧
    (o.run ops).1.describe.implicitAction = currentImplicit o.core.implicit ops := by
  rw [AclObj.isPermitted_eq, isPermitted_of_none (firstMatch_eq_none_iff.mpr hno)]
  exact ⟨rfl, (C07_run_state o ops).1⟩

/-- NOT part of the property, a reporting quirk of the code kept visible: `describe_state()["implicit_rule"]["action"]`,
the last row of `show()` and the rule object returned as decider carry the action the list was BUILT with. -/
def C07_ImplicitRuleReport_Full : Prop :=
  ∀ (imp : Option Action) (n : Int) (ops : List Op),
    let o := ((AclObj.construct imp n).run ops).1
    o.describe.implicitRuleAction = o.describe.implicitAction

/-- exactly when the report is right: the action in force equals the constructor's -/
theorem C07_implicit_rule_report_partial (imp : Option Action) (n : Int) (ops : List Op) :
    let o := ((AclObj.construct imp n).run ops).1
    (o.describe.implicitRuleAction = o.describe.implicitAction ↔
      currentImplicit (imp.getD .deny) ops = imp.getD .deny) ∧
    o.describe.implicitRuleAction = imp.getD .deny := by
  intro o
  obtain ⟨hi, hr, _⟩ := C07_run_state (AclObj.construct imp n) ops
  have h1 : o.describe.implicitAction = currentImplicit (imp.getD .deny) ops := hi
  have h2 : o.describe.implicitRuleAction = imp.getD .deny := hr
  rw [h1, h2]
  exact ⟨⟨fun h => h.symm, fun h => h.symm⟩, rfl⟩

theorem C07_implicit_rule_report_counterexample : ¬ C07_ImplicitRuleReport_Full := by
  intro h
  exact absurd (h (some .deny) 25 [.setImplicit .permit]) (by decide)

/-- the sequences on which the report is right include every sequence without an assignment -/
def noSetImplicit : List Op → Bool
  | [] => true
  | .setImplicit _ :: _ => false
  | _ :: rest => noSetImplicit rest

theorem currentImplicit_noSet (a : Action) (ops : List Op) (h : noSetImplicit ops = true) :
    currentImplicit a ops = a := by
  induction ops with
  | nil => rfl
  | cons op rest ih => cases op <;> first | exact ih h | cases h

example : noSetImplicit [.add exRuleDenyHttp 3, .check exPkt, .remove 3, .setMax 30] = true := by decide

def noSetMax : List Op → Bool
  | [] => true
  | .setMax _ :: _ => false
  | _ :: rest => noSetMax rest

/-- bound and slot count agree (what the constructor establishes) -/
def AclObj.boundIsSlots (o : AclObj) : Prop := (o.maxRules - 1).toNat = o.core.rules.length

theorem C07_construct_boundIsSlots (imp : Option Action) (n : Int) : (AclObj.construct imp n).boundIsSlots := by
  simp [AclObj.boundIsSlots, AclObj.construct, Acl.empty]

theorem noSetMax_cons {op : Op} {rest : List Op} (h : noSetMax (op :: rest) = true) :
    noSetMax [op] = true ∧ noSetMax rest = true := by
  cases op <;> first | exact ⟨rfl, h⟩ | cases h

theorem AclObj.edit_no_indexError {o : AclObj} (hb : o.boundIsSlots) (pos : Int) (x : Option Rule) :
    (o.edit pos x).2 ≠ .indexError := fun h => by
  obtain ⟨_, _, _⟩ := (o.edit_spec pos x).2.1.mp h
  unfold AclObj.boundIsSlots at hb
  omega

theorem step_boundIsSlots (o : AclObj) (op : Op) (hb : o.boundIsSlots) (hop : noSetMax [op] = true) :
    (o.step op).1.boundIsSlots ∧ (o.step op).2 ≠ .edit .indexError := by
  obtain ⟨_, _, s3, _, s5⟩ := C07_step_state o op
  have keep : (o.step op).1.maxRules = o.maxRules → (o.step op).1.boundIsSlots := fun e => by
    unfold AclObj.boundIsSlots at hb ⊢
    rw [e, s3]; exact hb
  cases op with
  | add _ pos | remove pos => exact ⟨keep s5, fun h => o.edit_no_indexError hb pos _ (Ans.edit.inj h)⟩
  | check | setImplicit => exact ⟨keep s5, nofun⟩
  | setMax n => cases hop

/-- As long as `max_acl_rules` is not reassigned, no edit ever ends in `IndexError`: an edit either succeeds or is refused
with `ValueError`.  (After `acl.max_acl_rules = n` with `n` above the built size, positions between the two raise
`IndexError` — `C07_index_error_example`.) -/
theorem C07_no_index_error (o : AclObj) (ops : List Op) (hb : o.boundIsSlots) (hops : noSetMax ops = true) :
    (o.run ops).1.boundIsSlots ∧ ∀ x, x ∈ (o.run ops).2 → x ≠ .edit .indexError := by
  induction ops generalizing o with
  | nil => exact ⟨hb, nofun⟩
  | cons op rest ih =>
    obtain ⟨h1, h2⟩ := noSetMax_cons hops
    obtain ⟨sb, sa⟩ := step_boundIsSlots o op hb h1
    obtain ⟨rb, ra⟩ := ih (o.step op).1 sb h2
    rw [AclObj.run_cons]
    exact ⟨rb, List.forall_mem_cons.mpr ⟨sa, ra⟩⟩

theorem C07_index_error_example :
    (((AclObj.construct none 25).setMaxRules 30).addRule exRulePermitAll 26).2 = .indexError ∧
    (((AclObj.construct none 25).setMaxRules 30).addRule exRulePermitAll 29).2 = .valueError ∧
    (((AclObj.construct none 25).setMaxRules 10).addRule exRulePermitAll 12).2 = .valueError ∧
    (((AclObj.construct none 25).setMaxRules 10).addRule exRulePermitAll 8).2 = .ok := by decide

example : (AclObj.construct (some .permit) 25).boundIsSlots ∧
    noSetMax [.add exRuleDenyHttp 3, .setImplicit .deny, .check exPkt, .remove 24] = true :=
  ⟨C07_construct_boundIsSlots _ _, by decide⟩

theorem filter_isSome_strip (l : List (Option Rule)) :
    ((strip l).filter Option.isSome).length = (l.filter Option.isSome).length := by
  simp [strip, ← List.countP_eq_length_filter, List.countP_map, Function.comp_def]

theorem AclObj.edit_numRules {o : AclObj} {pos : Int} {x : Option Rule} (h : (o.edit pos x).2 = .ok) :
    (o.edit pos x).1.numRules + (if (o.core.rules[pos.toNat]?).join.isSome then 1 else 0) =
      o.numRules + (if x.isSome then 1 else 0) := by
  obtain ⟨h0, h1, hl⟩ := (o.edit_spec pos x).2.2.1.mp h
  -- writing a slot moves the number of occupied slots by what went in minus what was there
  have hset := List.countP_set (p := Option.isSome) (a := x) hl
  have hle := List.boole_getElem_le_countP (p := Option.isSome) hl
  rw [AclObj.edit_ok x ⟨h0, h1⟩ hl, List.getElem?_eq_getElem hl, Option.join_some]
  simp only [AclObj.numRules, ← List.countP_eq_length_filter]
  omega

/-- `num_rules` counts the occupied slots: it never exceeds the slot count, a successful `add_rule` raises it by one
exactly when the slot was empty (an overwrite keeps it), a successful `remove_rule` lowers it by one exactly when the slot
was occupied, and verdicts / attribute assignments leave it alone. -/
theorem C07_numRules (o : AclObj) :
    o.numRules ≤ o.core.rules.length ∧
    (∀ r pos, (o.addRule r pos).2 = .ok →
      (o.addRule r pos).1.numRules + (if (o.core.rules[pos.toNat]?).join.isSome then 1 else 0) = o.numRules + 1) ∧
    (∀ pos, (o.removeRule pos).2 = .ok →
      (o.removeRule pos).1.numRules + (if (o.core.rules[pos.toNat]?).join.isSome then 1 else 0) = o.numRules) ∧
    (∀ p, (o.isPermitted p).2.2.numRules = o.numRules) ∧
    (∀ a, (o.setImplicit a).numRules = o.numRules) ∧ (∀ n, (o.setMaxRules n).numRules = o.numRules) := by
  refine ⟨List.length_filter_le _ _, fun r pos h => AclObj.edit_numRules h, fun pos h => AclObj.edit_numRules h, ?_,
    fun _ => rfl, fun _ => rfl⟩
  intro p
  show ((Acl.isPermitted o.core p).2.2.rules.filter Option.isSome).length = _
  rw [← filter_isSome_strip, (isPermitted_keeps o.core p).2, filter_isSome_strip]
  rfl

theorem showRowsFrom_eq (l : List (Option Rule)) (off : Nat) :
    showRowsFrom l off = (l.zipIdx off).filterMap (fun oi => oi.1.map (oi.2, ·)) := by
  fun_induction showRowsFrom l off with
  | case1 => rfl
  | case2 rest off ih => exact ih
  | case3 r0 rest off ih => exact congrArg _ ih

theorem showRowsFrom_mem (l : List (Option Rule)) (i : Nat) (r : Rule) :
    (i, r) ∈ showRowsFrom l 0 ↔ l[i]? = some (some r) := by
  rw [showRowsFrom_eq]
  simp [List.mem_filterMap, List.mem_zipIdx_iff_getElem?]

/-- `show()` lists every occupied slot under its own position, and one more row — index = the slot count — for the
`implicit_rule` OBJECT: the action the list was built with and the implicit counter. -/
theorem C07_showRows (o : AclObj) (i : Nat) (r : Rule) :
    (i, r) ∈ o.showRows ↔
      o.core.rules[i]? = some (some r) ∨ (i = o.core.rules.length ∧ r = o.implicitRuleObj) := by
  rw [AclObj.showRows, showRowsFrom_mem, List.getElem?_append]
  split
  · next hi => exact ⟨Or.inl, fun h => h.elim id (fun h => absurd hi (by omega))⟩
  · next hi =>
    rw [List.getElem?_eq_none (Nat.le_of_not_lt hi), List.getElem?_singleton]
    have : i - o.core.rules.length = 0 ↔ i = o.core.rules.length := by omega
    simp [this, eq_comm]

/-- **`add_rule` at an occupied position REPLACES the rule**, whatever was there — a rule equal to the new one in all but
one field (a wildcard mask, say) included: the edit succeeds, the slot afterwards holds exactly the new rule with a zero
counter, and the old rule is still there only if it IS that rule (same eight fields and a zero counter). -/
theorem C07_addRule_replaces (o : AclObj) (r old : Rule) (pos : Int)
    (hin : o.inBound pos = true) (hold : o.core.rules[pos.toNat]? = some (some old)) :
    (o.addRule r pos).2 = .ok ∧
    (o.addRule r pos).1.core.rules[pos.toNat]? = some (some { r with hits := 0 }) ∧
    ((o.addRule r pos).1.core.rules[pos.toNat]? = some (some old) ↔ old = { r with hits := 0 }) := by
  have hlt : pos.toNat < o.core.rules.length := (List.getElem?_eq_some_iff.mp hold).1
  have hb := (o.inBound_iff pos).mp hin
  have hok : (o.addRule r pos).2 = .ok := (C07_obj_addRule o r pos).2.2.1.mpr ⟨hb.1, hb.2, hlt⟩
  have hslot := ((C07_obj_addRule o r pos).2.2.2.2.1 hok).1
  refine ⟨hok, hslot, ?_⟩
  rw [hslot]
  exact ⟨fun h => (Option.some.inj (Option.some.inj h)).symm, fun h => by rw [h]⟩

/-- …and the new rule decides: after the overwrite, a packet the NEW rule matches and no lower-positioned rule matches gets
the new rule's action from position `pos` — the old occupant plays no part. -/
theorem C07_overwrite_decides (o : AclObj) (r old : Rule) (pos : Int) (p : Packet)
    (hin : o.inBound pos = true) (hold : o.core.rules[pos.toNat]? = some (some old))
    (hm : r.hits? p = true)
    (hlow : ∀ j, j < pos.toNat → ∀ r' : Rule, o.core.rules[j]? = some (some r') → r'.hits? p = false) :
    ((o.addRule r pos).1.isPermitted p).1 = (r.action == .permit) ∧
    ((o.addRule r pos).1.isPermitted p).2.1 = .rule pos.toNat := by
  obtain ⟨hok, hslot, _⟩ := C07_addRule_replaces o r old pos hin hold
  have hother := ((C07_obj_addRule o r pos).2.2.2.2.1 hok).2
  -- the new rule matches at `pos`, and below `pos` the slots are the old ones, none of which matches
  rw [AclObj.isPermitted_eq, isPermitted_of_some (firstMatch_eq_some_iff.mpr
    ⟨hslot, hm, fun j hj r' e => hlow j hj r' ((hother j (Nat.ne_of_lt hj)).symm.trans e)⟩)]
  exact ⟨rfl, rfl⟩

/-- non-vacuity: the exact-address rule at 1 corrected to a /24 range at 1 — the slot holds the range rule, and a host
inside the range but not the old address is now decided by it -/
example :
    let o := ((AclObj.construct none 25).addRule { exRuleDenyHttp with srcWc := none } 1).1
    (o.addRule exRuleDenyHttp 1).1.core.rules[1]? = some (some exRuleDenyHttp) ∧
    (o.isPermitted exPkt).2.1 = .implicit ∧ ((o.addRule exRuleDenyHttp 1).1.isPermitted exPkt).2.1 = .rule 1 := by decide

def onlyChecksAndSetMax : List Op → Bool
  | [] => true
  | .check _ :: rest => onlyChecksAndSetMax rest
  | .setMax _ :: rest => onlyChecksAndSetMax rest
  | _ :: _ => false

theorem run_checks_keep (o : AclObj) (ops : List Op) (h : onlyChecksAndSetMax ops = true) :
    strip (o.run ops).1.core.rules = strip o.core.rules ∧ (o.run ops).1.core.implicit = o.core.implicit := by
  induction ops generalizing o with
  | nil => exact ⟨rfl, rfl⟩
  | cons op rest ih =>
    rw [AclObj.run_cons]
    cases op with
    | check q =>
      obtain ⟨i1, i2⟩ := ih (o.step (.check q)).1 h
      exact ⟨i1.trans (isPermitted_keeps o.core q).2, i2.trans (isPermitted_keeps o.core q).1⟩
    | setMax n => exact ih (o.step (.setMax n)).1 h
    | add | remove | setImplicit => cases h

/-- Neither the hit counters (however many verdicts were asked before) nor `max_acl_rules` influence a verdict: after any
number of verdict requests and `max_acl_rules` assignments a packet gets the verdict and the decider it would have got at
once. -/
theorem C07_obj_verdict_stable (o : AclObj) (ops : List Op) (p : Packet) (h : onlyChecksAndSetMax ops = true) :
    ((o.run ops).1.isPermitted p).1 = (o.isPermitted p).1 ∧ ((o.run ops).1.isPermitted p).2.1 = (o.isPermitted p).2.1 :=
  verdict_congr (run_checks_keep o ops h).1 (run_checks_keep o ops h).2 p

example : onlyChecksAndSetMax [.check exPkt, .setMax 3, .check exPkt] = true := by decide

/-- the operations of a device trace that address list `j`, in order -/
def opsFor (j : ListId) : List (ListId × Op) → List Op
  | [] => []
  | (i, op) :: rest => if i = j then op :: opsFor j rest else opsFor j rest

/-- the answers of a device trace that belong to operations addressed to list `j`, in order -/
def ansFor (j : ListId) : List (ListId × Op) → List Ans → List Ans
  | (i, _) :: rest, a :: as => if i = j then a :: ansFor j rest as else ansFor j rest as
  | _, _ => []

/-- An operation on one list changes no other list of the device. -/
theorem C07_device_step_frame (d : Device) (i j : ListId) (op : Op) (h : j ≠ i) : (d.step i op).1 j = d j := by
  simp [Device.step, Device.set, h]

theorem Device.step_self (d : Device) (i : ListId) (op : Op) :
    (d.step i op).1 i = ((d i).step op).1 ∧ (d.step i op).2 = ((d i).step op).2 := by
  simp [Device.step, Device.set]

theorem Device.run_cons (d : Device) (i : ListId) (op : Op) (rest : List (ListId × Op)) :
    d.run ((i, op) :: rest) = (((d.step i op).1.run rest).1, (d.step i op).2 :: ((d.step i op).1.run rest).2) := rfl

/-- **Each of a device's lists behaves as if it were alone**: after ANY interleaving of operations addressed to the seven
lists, list `j` is in the state — rules, counters, implicit action, `max_acl_rules` — that the operations addressed to `j`
alone produce, and it gave those operations the answers it would have given alone.  In particular a rule added to one
list never changes a verdict, a counter or a slot of another. -/
theorem C07_device_independent (d : Device) (ops : List (ListId × Op)) (j : ListId) :
    (d.run ops).1 j = ((d j).run (opsFor j ops)).1 ∧
    ansFor j ops (d.run ops).2 = ((d j).run (opsFor j ops)).2 := by
  induction ops generalizing d with
  | nil => exact ⟨rfl, rfl⟩
  | cons x rest ih =>
    obtain ⟨i, op⟩ := x
    rw [Device.run_cons]
    obtain ⟨ih1, ih2⟩ := ih (d.step i op).1
    by_cases h : i = j
    · subst h
      obtain ⟨s1, s2⟩ := Device.step_self d i op
      simp only [opsFor, ansFor, if_true, AclObj.run_cons]
      rw [s1] at ih1 ih2
      exact ⟨ih1, by rw [ih2, s2]⟩
    · have hj : j ≠ i := fun e => h e.symm
      simp only [opsFor, ansFor, h, if_false]
      rw [C07_device_step_frame d i j op hj] at ih1 ih2
      exact ⟨ih1, ih2⟩

/-- corollary: a list that no operation of the trace addresses is untouched -/
theorem C07_device_untouched (d : Device) (ops : List (ListId × Op)) (j : ListId)
    (h : ∀ x, x ∈ ops → x.1 ≠ j) : (d.run ops).1 j = d j := by
  have hnil : opsFor j ops = [] := by
    induction ops with
    | nil => rfl
    | cons x rest ih =>
      obtain ⟨i, op⟩ := x
      have hi : i ≠ j := h (i, op) (by simp)
      simp only [opsFor, hi, if_false]
      exact ih (fun y hy => h y (by simp [hy]))
  rw [(C07_device_independent d ops j).1, hnil]; rfl

/-- a firewall as built: the six lists are empty with the documented defaults (external permit, the rest deny); the
inherited router list denies by default and holds two rules (which, and where: `C07_default_rules_meaning`,
`C07_configured_list`) -/
theorem C07_firewall_as_built :
    (∀ j, j ≠ .router → ((Device.firewall 25) j).numRules = 0 ∧ ((Device.firewall 25) j).core.rules.length = 24 ∧
        ((Device.firewall 25) j).core.implicit = firewallImplicit j ∧
        ((Device.firewall 25) j).ruleAction = firewallImplicit j) ∧
    ((Device.firewall 25) .router).numRules = 2 ∧ ((Device.firewall 25) .router).core.implicit = .deny ∧
    firewallImplicit .extIn = .permit ∧ firewallImplicit .extOut = .permit ∧
    firewallImplicit .intIn = .deny ∧ firewallImplicit .intOut = .deny ∧
    firewallImplicit .dmzIn = .deny ∧ firewallImplicit .dmzOut = .deny := by
  refine ⟨?_, by decide, by decide, rfl, rfl, rfl, rfl, rfl, rfl⟩
  intro j hj
  cases j <;> first | exact absurd rfl hj | decide

/-- non-vacuity: an interleaving that edits two lists and reassigns a default; the dmz list is untouched -/
example :
    let ops : List (ListId × Op) := [(.intIn, .add exRuleDenyHttp 3), (.extIn, .setImplicit .deny),
      (.intIn, .check exPkt), (.extIn, .check exPkt)]
    ((Device.firewall 25).run ops).2 = [.edit .ok, .done, .verdict false (.rule 3), .verdict false .implicit] ∧
    opsFor .dmzIn ops = [] := by decide

end Primaite.Acl
