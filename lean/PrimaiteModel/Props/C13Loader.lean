/-
C13, the glue between configuration and the lifecycle FSM.

`Gen.SoftwareLoader.serviceDefaults` is translated on every run from the statements of `PrimaiteGame.from_config` that apply
the scenario's `defaults:` section to a freshly installed service.  Proved here, for ALL mappings, options and attribute values:
the translation equals the specification `C13Loader.specService`; under the specification a configured restart duration is the
effective one for EVERY integer (0 and negative values included, quoted integers converted), an absent key leaves the class
default, the block raises exactly when a present value is not convertible; and — composed with the lifecycle theorems — a
service restarted after the loader configured duration `v` is RESTARTING through `max v 0` ticks and RUNNING at the next.
-/
import PrimaiteModel.Model.C13Loader
import PrimaiteModel.Gen.SoftwareLoader
import PrimaiteModel.Gen.Software
import PrimaiteModel.Props.C13
namespace Primaite.C13LoaderProps
set_option linter.unusedSimpArgs false
open Primaite Primaite.Lifecycle Primaite.C13Loader Primaite.Registries

/-- **the tie.**  For every `defaults:` mapping, every options mapping and every attribute state, the code's statements compute
exactly what the specification says — in particular they do not treat any VALUE (0, "", False) as "not configured". -/
theorem C13_gen_loader_service (d opts : Dict) (a : SvcAttrs) :
    Gen.SoftwareLoader.serviceDefaults d opts a = specService d opts a := by
  rcases a with ⟨ar, ai, af⟩
  rcases h0 : List.lookup "fixing_duration" opts with _ | w0 <;>
  rcases h1 : List.lookup "service_fix_duration" d with _ | w1 <;>
  rcases h2 : List.lookup "service_restart_duration" d with _ | w2 <;>
  rcases h3 : List.lookup "service_install_duration" d with _ | w3 <;>
  (try (rcases hp1 : w1.pyInt with _ | p1)) <;>
  (try (rcases hp2 : w2.pyInt with _ | p2)) <;>
  (try (rcases hp3 : w3.pyInt with _ | p3)) <;>
  simp [Gen.SoftwareLoader.serviceDefaults, specService, cfgInt, Dict.has, Dict.index, Dict.getD, PyVal.truthy, PyVal.isNone, *]

/-- where the loader reads the section, and what else it does to the new software: the install branch writes only the
fixing duration (C14's) and calls `start()`; the applications loop writes no attribute and calls `run()`; nothing else in
`from_config` mentions the two lifecycle durations -/
theorem C13_gen_loader_sites :
    Gen.SoftwareLoader.defaultsSource = "cfg.get('defaults', {})" ∧
    Gen.SoftwareLoader.headWrites = ["config.fixing_duration"] ∧ Gen.SoftwareLoader.headCalls = ["start"] ∧
    Gen.SoftwareLoader.appWrites = [] ∧ Gen.SoftwareLoader.appCalls = ["run"] ∧
    Gen.SoftwareLoader.durationMentionsOutside = 0 := ⟨rfl, rfl, rfl, rfl, rfl, rfl⟩

/-- every writer of the two lifecycle durations in the whole package, outside the translated block: the two class-level field
defaults and nothing else — no subclass override, no other configuration path (a new one breaks this obligation and has to be
brought into the model) -/
theorem C13_gen_duration_writers :
    Gen.SoftwareLoader.durationWriters =
      ["simulator/system/applications/application.py:Application:install_duration",
       "simulator/system/services/service.py:Service:restart_duration"] := rfl

theorem spec_some (d opts : Dict) (a a' : SvcAttrs) (h : specService d opts a = some a') :
    cfgInt d "service_restart_duration" a.restart = some a'.restart ∧
    cfgInt d "service_install_duration" a.install = some a'.install ∧
    (if opts.has "fixing_duration" then some a.fixing else cfgInt d "service_fix_duration" a.fixing) = some a'.fixing := by
  simp only [specService] at h
  generalize (if opts.has "fixing_duration" then some a.fixing else cfgInt d "service_fix_duration" a.fixing) = x at h ⊢
  generalize cfgInt d "service_restart_duration" a.restart = y at h ⊢
  generalize cfgInt d "service_install_duration" a.install = z at h ⊢
  cases x <;> cases y <;> cases z <;> simp at h ⊢
  rw [← h]; exact ⟨rfl, rfl, rfl⟩

/-- a present key whose value is an integer `v` — ANY integer, 0 included — makes the restart duration `v` -/
theorem C13_loader_restart_configured (d opts : Dict) (a a' : SvcAttrs) (v : Int)
    (hk : d.lookup "service_restart_duration" = some (.int v)) (h : specService d opts a = some a') :
    a'.restart = .int v := by
  have := (spec_some d opts a a' h).1
  simp only [cfgInt, hk, PyVal.pyInt, Option.some.injEq] at this
  exact this.symm

/-- a quoted integer is converted -/
theorem C13_loader_restart_quoted (d opts : Dict) (a a' : SvcAttrs) (s : String) (v : Int) (hs : s.toInt? = some v)
    (hk : d.lookup "service_restart_duration" = some (.str s)) (h : specService d opts a = some a') :
    a'.restart = .int v := by
  have := (spec_some d opts a a' h).1
  simp only [cfgInt, hk, PyVal.pyInt, hs, Option.map_some, Option.some.injEq] at this
  exact this.symm

/-- an absent key leaves the attribute alone (the class default) -/
theorem C13_loader_restart_absent (d opts : Dict) (a a' : SvcAttrs)
    (hk : d.lookup "service_restart_duration" = none) (h : specService d opts a = some a') :
    a'.restart = a.restart := by
  have := (spec_some d opts a a' h).1
  simp only [cfgInt, hk, Option.some.injEq] at this
  exact this.symm

/-- the restart duration depends on nothing but its own key: not on the options, not on the other keys' values -/
theorem C13_loader_restart_frame (d d' opts opts' : Dict) (a a1 a2 : SvcAttrs)
    (hk : d.lookup "service_restart_duration" = d'.lookup "service_restart_duration")
    (h1 : specService d opts a = some a1) (h2 : specService d' opts' a = some a2) : a1.restart = a2.restart := by
  have e1 := (spec_some d opts a a1 h1).1
  have e2 := (spec_some d' opts' a a2 h2).1
  simp only [cfgInt, ← hk] at e1 e2
  rw [e1] at e2
  exact Option.some.inj e2

theorem cfgInt_eq_none (d : Dict) (k : String) (old : PyVal) :
    cfgInt d k old = none ↔ ∃ v, d.lookup k = some v ∧ v.pyInt = none := by
  unfold cfgInt
  cases d.lookup k <;> simp

/-- the block raises exactly when a value it has to convert is not convertible -/
theorem C13_loader_raises_iff (d opts : Dict) (a : SvcAttrs) :
    specService d opts a = none ↔
      ((opts.has "fixing_duration" = false ∧ ∃ v, d.lookup "service_fix_duration" = some v ∧ v.pyInt = none) ∨
       (∃ v, d.lookup "service_restart_duration" = some v ∧ v.pyInt = none) ∨
       (∃ v, d.lookup "service_install_duration" = some v ∧ v.pyInt = none)) := by
  have hx : (if opts.has "fixing_duration" then some a.fixing else cfgInt d "service_fix_duration" a.fixing) = none ↔
      (opts.has "fixing_duration" = false ∧ ∃ v, d.lookup "service_fix_duration" = some v ∧ v.pyInt = none) := by
    cases opts.has "fixing_duration" <;> simp [cfgInt_eq_none]
  rw [← hx, ← cfgInt_eq_none d _ a.restart, ← cfgInt_eq_none d _ a.install]
  unfold specService
  generalize (if opts.has "fixing_duration" then some a.fixing else cfgInt d "service_fix_duration" a.fixing) = x
  generalize cfgInt d "service_restart_duration" a.restart = y
  generalize cfgInt d "service_install_duration" a.install = z
  -- a chain of binds is `none` exactly when one of its links is
  cases x <;> cases y <;> cases z <;> simp

/-- **configured = effective, on the translated code**: whenever the loader's block does not raise, a restart duration
configured as the integer `v` — every `v : Int`, 0 included — is the service's restart duration afterwards -/
theorem C13_gen_loader_restart_effective (d opts : Dict) (a a' : SvcAttrs) (v : Int)
    (hk : d.lookup "service_restart_duration" = some (.int v))
    (h : Gen.SoftwareLoader.serviceDefaults d opts a = some a') : a'.restart = .int v :=
  C13_loader_restart_configured d opts a a' v hk (C13_gen_loader_service d opts a ▸ h)

/-- the boundary case the truthiness test of seeded change C13-f lost: `service_restart_duration: 0` -/
example : (Gen.SoftwareLoader.serviceDefaults [("service_restart_duration", .int 0)] [] { restart := .int 5, fixing := .int 2 }) =
    some { restart := .int 0, fixing := .int 2 } := by decide +kernel

/-- non-vacuity: every source at once (YAML `true` = 1, own fixing duration, install duration on a service; quoted integers go
through `String.toInt?`, which `decide` cannot evaluate — the rig evaluates them through the driver) -/
example : (Gen.SoftwareLoader.serviceDefaults
      [("service_fix_duration", .int 7), ("service_restart_duration", .bool true), ("service_install_duration", .int 0)]
      [("fixing_duration", .int 1)] { restart := .int 5, fixing := .int 1 }) =
    some { restart := .int 1, install := .int 0, fixing := .int 1 } := by decide +kernel

/-- **`configured_restart_timing`.**  A RUNNING or PAUSED service that the loader configured (translated code, any `defaults:`
section that sets `service_restart_duration: v`, any options), then restarted: under every sequence of method calls without
`disable` it is RESTARTING while at most `max v 0` ticks reached it, and RUNNING at tick `max v 0 + 1` — for `v = 0` at the
very first tick, i.e. at the end of the step in which the restart was requested. -/
theorem C13_configured_restart_timing (d opts : Dict) (a a' : SvcAttrs) (v : Int)
    (hk : d.lookup "service_restart_duration" = some (.int v))
    (h : Gen.SoftwareLoader.serviceDefaults d opts a = some a')
    (s s' : Svc) (hs' : applyToSvc s a' = some s') (hst : s.st = .running ∨ s.st = .paused)
    (pre : List SvcEv) (hd : SvcEv.disable ∉ pre) :
    ((pre.count .tick : Int) ≤ max v 0 → ((s'.apply .restart).1.applyAll pre).st = .restarting) ∧
    ((pre.count .tick : Int) = max v 0 → ((s'.apply .restart).1.applyAll (pre ++ [.tick])).st = .running) := by
  have hr := C13_gen_loader_restart_effective d opts a a' v hk h
  have hdur : s'.dur = v ∧ s'.st = s.st := by
    simp only [applyToSvc, hr] at hs'
    split at hs'
    · rename_i r f h1 h2
      cases h1
      simp only [Option.some.injEq] at hs'
      rw [← hs']; simp [Svc.apply]
    · rename_i hne
      cases hf : a'.fixing <;> simp_all
  have hrs : (s'.apply .restart).1.st = .restarting ∧ (s'.apply .restart).1.cd = some v := by
    rcases s' with ⟨st, cd, dur, sw⟩
    simp only at hdur
    rcases hst with h | h <;> (rw [h] at hdur; rcases hdur with ⟨h1, h2⟩; subst h1; subst h2; simp [Svc.apply, Svc.restart])
  refine ⟨fun hle => (Primaite.C13.C13_restart_timing_before pre _ v hrs.1 hrs.2 hd hle).1, fun heq => ?_⟩
  exact Primaite.C13.C13_restart_timing_completes pre _ v hrs.1 hrs.2 hd heq

/-- non-vacuity with the boundary value: defaults `service_restart_duration: 0`, a RUNNING service: restart, one tick → RUNNING;
and with 2: RESTARTING after two ticks, RUNNING after the third -/
example :
    let a0 := (Gen.SoftwareLoader.serviceDefaults [("service_restart_duration", .int 0)] [] { restart := .int 5, fixing := .int 2 })
    let s : Svc := { st := .running, sw := { actual := .good } }
    (a0.bind (applyToSvc s)).map (fun s' => ((s'.apply .restart).1.applyAll [.tick]).st) = some .running := by decide +kernel
example :
    let a0 := (Gen.SoftwareLoader.serviceDefaults [("service_restart_duration", .int 2)] [] { restart := .int 5, fixing := .int 2 })
    let s : Svc := { st := .running, sw := { actual := .good } }
    (a0.bind (applyToSvc s)).map (fun s' => (((s'.apply .restart).1.applyAll [.tick, .tick]).st,
      ((s'.apply .restart).1.applyAll [.tick, .tick, .tick]).st)) = some (.restarting, .running) := by decide +kernel

/-- node level, by evaluation: a node whose dns-server was configured with restart duration 0 / 1 (install, `setDur` with the
configured value, restart request): RUNNING again after ONE / TWO whole-node ticks -/
example :
    let c : Cls := { cid := "DNSServer", name := "dns-server", port := 53, proto := 1 }
    let n0 := ({} : Node).run [.installSvc c true [] .good 2, .svcApi 0 (.setDur 0 2), .svcReq "dns-server" .restart]
    let n1 := ({} : Node).run [.installSvc c true [] .good 2, .svcApi 0 (.setDur 1 2), .svcReq "dns-server" .restart]
    (n0.findSvc 0).map (·.s.st) = some .restarting ∧ ((n0.run [.tick]).findSvc 0).map (·.s.st) = some .running ∧
    ((n1.run [.tick]).findSvc 0).map (·.s.st) = some .restarting ∧ ((n1.run [.tick, .tick]).findSvc 0).map (·.s.st) = some .running := by
  decide +kernel

/-- the class defaults the attributes start from are the regenerated ones -/
theorem C13_gen_loader_class_defaults : Gen.Software.restartDuration = 5 ∧ Gen.Software.installDuration = 2 ∧
    Gen.Software.fixingDuration = 2 ∧ ({ sw := { actual := .good } } : Svc).dur = Gen.Software.restartDuration := ⟨rfl, rfl, rfl, rfl⟩

end Primaite.C13LoaderProps
