/-
C19 — run-level theorems for TAP001:

* which action runs where: the actions of DOWNLOAD … COMMAND_AND_CONTROL on the selected start node, the `c2-server-*`
  actions of PAYLOAD on the configured C2 server (true only after the repair of F-C19-4: a re-attack resets the stage
  progress; before it DOWNLOAD could create its file on the C2 server);
* only with configured parameters (`PInv` and what it speaks of are defined in C19Params.lean).

Both are read off one invariant, `RInv`, that is taken through the methods once.
-/
import PrimaiteModel.Props.C19Params
namespace Primaite.Agents
namespace Tap1

/-- the actions of DOWNLOAD … COMMAND_AND_CONTROL -/
def Kind.onStart : Kind → Bool
  | .folderCreate | .fileCreate | .fileAccess | .installRansomware | .installC2 | .configureC2 | .executeC2
  | .pingScan | .portScan | .reconScan => true
  | _ => false

/-- the `c2-server-*` actions of PAYLOAD -/
def Kind.onC2 : Kind → Bool
  | .ransomwareConfigure | .exfiltrate | .ransomwareLaunch => true
  | _ => false

abbrev KindNode (c : Cfg) (n : Val) (a : Act) : Prop :=
  (a.kind.onStart = true → a.node = n) ∧ (a.kind.onC2 = true → a.node = c.c2Server)

/-- `current_host` is the start node, except while PAYLOAD runs / after the chain ended / before the first stage has
set it; and it is the C2 server while PAYLOAD is in progress. -/
abbrev HostOK (c : Cfg) (n : Val) (s : St) : Prop :=
  (s.cur = .payload → s.prog = .inProgress → s.host = c.c2Server) ∧
  (s.host = n ∨ s.cur = .payload ∨ s.cur = .succeeded ∨ s.cur = .failed ∨
    (s.prog = .pending ∧ (s.cur = .notStarted ∨ s.cur = .download)))

/-- What every state of a run from the constructor has: the parameter invariant (C19Params.lean), the remembered action
on its node, and the host invariant. -/
abbrev RInv (c : Cfg) (n ip : Val) (s : St) : Prop := PInv c n ip s ∧ KindNode c n s.chosen ∧ HostOK c n s

theorem kn_nothing (c : Cfg) (n : Val) : KindNode c n Act.nothing :=
  ⟨(fun h => by simp [Act.nothing, Kind.onStart] at h), (fun h => by simp [Act.nothing, Kind.onC2] at h)⟩

theorem hostOK_failed (c : Cfg) (n : Val) (s : St) (h : s.cur = .failed) : HostOK c n s :=
  ⟨(fun hc => by rw [h] at hc; cases hc), Or.inr (Or.inr (Or.inr (Or.inl h)))⟩

/-- `RInv` inside a stage other than PAYLOAD, with `current_host` = start node -/
abbrev RS (c : Cfg) (n ip : Val) (s : St) : Prop := PInv c n ip s ∧ KindNode c n s.chosen ∧ s.host = n ∧ s.cur ≠ .payload

theorem R_of_RS (c : Cfg) (n ip : Val) (s : St) (h : RS c n ip s) : RInv c n ip s :=
  ⟨h.1, h.2.1, fun hc => absurd hc h.2.2.2, Or.inl h.2.2.1⟩

/-! `RS` through the scan methods, by the writes they are made of (`ScanEff`, Props/C19.lean): they keep `starting_node`,
`target_ip`, `current_host` and the stage (or fail), leave the chosen action alone, set it to do-nothing or to a scan from
`current_host`, and move `next_scan_target` along the configured addresses. -/

theorem RS_failed (c : Cfg) (n ip : Val) (s : St) (h : RS c n ip s) : RS c n ip { s with cur := .failed } :=
  ⟨h.1, h.2.1, h.2.2.1, nofun⟩

theorem RS_nothing (c : Cfg) (n ip : Val) (s : St) (h : RS c n ip s) : RS c n ip { s with chosen := Act.nothing } :=
  ⟨P_nothing c n ip s h.1, kn_nothing c n, h.2.2⟩

/-- an action of a DOWNLOAD … COMMAND_AND_CONTROL kind on `current_host`, with a configured scan target if any -/
theorem RS_act (c : Cfg) (n ip : Val) (s : St) (h : RS c n ip s) (a : Act) (ha : a.node = s.host) (hk : a.kind.onC2 = false)
    (ht : TgtOK c a.tgt) : RS c n ip { s with chosen := a } :=
  ⟨⟨h.1.startNode, h.1.targetIp, h.1.hostOK, ⟨Or.inr (ha ▸ h.1.hostOK), ht⟩, h.1.tgtOK⟩,
    ⟨fun _ => ha.trans h.2.2.1, fun hc => by rw [hk] at hc; cases hc⟩, h.2.2⟩

theorem RS_failStage (c : Cfg) (n ip : Val) (s : St) (h : RS c n ip s) : RS c n ip (failStage c s) :=
  ite_pres h (RS_failed c n ip s h)

theorem ScanEff.rs {c : Cfg} {i : In} {s s' : St} (e : ScanEff c i s s') {n ip : Val} (h : RS c n ip s) : RS c n ip s' := by
  induction e with
  | refl => exact h
  | fail _ ih => exact RS_failed c n ip _ ih
  | nothing _ ih => exact RS_nothing c n ip _ ih
  | scan hk _ ih => exact RS_act c n ip _ ih _ rfl (by rcases hk with rfl | rfl | rfl <;> rfl) ih.1.tgtOK
  | addr ha _ ih => exact ⟨⟨ih.1.startNode, ih.1.targetIp, ih.1.hostOK, ih.1.chosenOK, ha⟩, ih.2⟩
  | hosts _ ih => exact ⟨⟨ih.1.startNode, ih.1.targetIp, ih.1.hostOK, ih.1.chosenOK, trivial⟩, ih.2⟩
  | target _ ih => exact ⟨⟨ih.1.startNode, ih.1.targetIp, ih.1.hostOK, ih.1.chosenOK, trivial⟩, ih.2⟩
  | book _ ih => exact ih
  | raise _ _ ih => exact ih

theorem RS_scanHandler (c : Cfg) (i : In) (n ip : Val) (s : St) (h : RS c n ip s) : RS c n ip (scanHandler c i s).1 := by
  unfold scanHandler
  cases s.lastScanTs.getLast? with
  | none => exact h
  | some ts =>
    dsimp only
    cases pyIndex s.hist ts with
    | none => exact h
    | some prev => exact (eff_scanBody c i prev _).rs h

theorem R_progress (c : Cfg) (n ip : Val) (s : St) (h : RInv c n ip s)
    (hh : s.host = n ∨ (s.cur = .payload ∧ s.nxt = .succeeded)) : RInv c n ip (progress s) := by
  -- a stage entered with progress PENDING is entered with `current_host` = start node
  have hhost : s.nxt ≠ .succeeded → s.host = n := fun hne => hh.elim id fun hp => absurd hp.2 hne
  refine ite_pres_of (fun hn => ?_) fun _ =>
    ite_pres_of (fun _ => ⟨h.1, h.2.1, nofun, Or.inr (Or.inr (Or.inl rfl))⟩) fun hn2 => ?_
  · cases Stage.ofVal? (s.cur.val + 1) with
    | none => exact h
    | some _ => exact ⟨h.1, h.2.1, fun _ => nofun, Or.inl (hhost (by rw [hn]; decide))⟩
  · cases Stage.ofVal? (s.nxt.val + 1) with
    | none => exact h
    | some _ => exact ⟨h.1, h.2.1, fun _ => nofun, Or.inl (hhost hn2)⟩

theorem R_progress_RS (c : Cfg) (n ip : Val) (s : St) (h : RS c n ip s) : RInv c n ip (progress s) :=
  R_progress c n ip s (R_of_RS c n ip s h) (Or.inl h.2.2.1)

theorem host_of_stage (c : Cfg) (n : Val) (s : St) (h : HostOK c n s) (h1 : s.cur ≠ .payload) (h2 : s.cur ≠ .succeeded)
    (h3 : s.cur ≠ .failed) (h4 : ¬ (s.prog = .pending ∧ (s.cur = .notStarted ∨ s.cur = .download))) : s.host = n := by
  rcases h.2 with hh | hh | hh | hh | hh
  · exact hh
  · exact absurd hh h1
  · exact absurd hh h2
  · exact absurd hh h3
  · exact absurd hh h4

theorem R_failStage (c : Cfg) (n ip : Val) (s : St) (h : RInv c n ip s) : RInv c n ip (failStage c s) :=
  ite_pres h ⟨h.1, h.2.1, hostOK_failed c n _ rfl⟩

theorem R_nothing (c : Cfg) (n ip : Val) (s : St) (h : RInv c n ip s) : RInv c n ip { s with chosen := Act.nothing } :=
  ⟨P_nothing c n ip s h.1, kn_nothing c n, h.2.2⟩

/-- While PAYLOAD is in progress `current_host` is the C2 server, and that is where the two payload commands go. -/
theorem R_payloadContinue (c : Cfg) (n ip : Val) (s : St) (h : RInv c n ip s) (hcur : s.cur = .payload) :
    RInv c n ip (payloadContinue s) ∧ (payloadContinue s).cur = s.cur ∧ (payloadContinue s).nxt = s.nxt :=
  ite_pres_of (P := fun x : St => RInv c n ip x ∧ x.cur = s.cur ∧ x.nxt = s.nxt)
    (fun hp =>
      have hhost : s.host = c.c2Server := h.2.2.1 hcur hp
      have hc2 : ∀ k : Kind, k.onStart = false → KindNode c n { kind := k, node := s.host } :=
        fun k hk => ⟨(fun hs => by rw [hk] at hs; cases hs), fun _ => hhost⟩
      ite_pres (P := fun r : St × Progress => RInv c n ip { r.1 with prog := r.2 } ∧ r.1.cur = s.cur ∧ r.1.nxt = s.nxt)
        ⟨⟨P_onHost c n ip s h.1 _, hc2 _ rfl, fun _ _ => hhost, Or.inr (Or.inl hcur)⟩, rfl, rfl⟩
        (ite_pres (P := fun r : St × Progress => RInv c n ip { r.1 with prog := r.2 } ∧ r.1.cur = s.cur ∧ r.1.nxt = s.nxt)
          ⟨⟨P_onHost c n ip s h.1 _, hc2 _ rfl, fun _ _ => hhost, Or.inr (Or.inl hcur)⟩, rfl, rfl⟩
          ⟨⟨h.1, h.2.1, fun _ _ => hhost, Or.inr (Or.inl hcur)⟩, rfl, rfl⟩))
    (fun _ => ⟨h, rfl, rfl⟩)

/-- Entering PAYLOAD moves `current_host` to the C2 server; a failed entry trial leaves the progress PENDING. -/
theorem R_payloadEnter (c : Cfg) (i : In) (n ip : Val) (s : St) (h : RInv c n ip s) (hcur : s.cur = .payload) :
    RInv c n ip (payloadEnter c i s) ∧
      (((payloadEnter c i s).cur = .payload ∧ (payloadEnter c i s).nxt = s.nxt) ∨ (payloadEnter c i s).prog = .pending) :=
  ite_pres_of (P := fun x : St => RInv c n ip x ∧ ((x.cur = .payload ∧ x.nxt = s.nxt) ∨ x.prog = .pending))
    (fun hp =>
      ite_pres (P := fun x : St => RInv c n ip x ∧ ((x.cur = .payload ∧ x.nxt = s.nxt) ∨ x.prog = .pending))
        ⟨⟨⟨h.1.startNode, h.1.targetIp, Or.inr rfl, ⟨Or.inr (Or.inr rfl), trivial⟩, h.1.tgtOK⟩,
            ⟨(fun hk => by cases hk), fun _ => rfl⟩, fun _ _ => rfl, Or.inr (Or.inl hcur)⟩, Or.inl ⟨hcur, rfl⟩⟩
        ⟨R_failStage c n ip _ (R_nothing c n ip s h), Or.inr (ite_pres (P := fun x : St => x.prog = .pending) hp hp)⟩)
    (fun _ => ⟨h, Or.inl ⟨hcur, rfl⟩⟩)

theorem R_payload (c : Cfg) (i : In) (n ip : Val) (s : St) (h : RInv c n ip s) (hinv : Inv s) : RInv c n ip (payload c i s) :=
  ite_pres_of (fun _ => h) fun hcur => by
    have hcur' : s.cur = .payload := Decidable.not_not.1 hcur
    have hnxt : s.nxt = .succeeded := by
      rcases hinv with hf | hn
      · rw [hcur'] at hf; cases hf
      · rw [hn, hcur']; rfl
    obtain ⟨h1, hc1, hn1⟩ := R_payloadContinue c n ip s h hcur'
    obtain ⟨h2, hcase⟩ := R_payloadEnter c i n ip _ h1 (hc1.trans hcur')
    -- `_progress_kill_chain` runs only on FINISHED, which a failed entry trial (PENDING) is not
    refine ite_pres_of (fun hf => ?_) (fun _ => h2)
    rcases hcase with hcase | hcase
    · exact R_progress c n ip _ h2 (Or.inr ⟨hcase.1, hcase.2.trans (hn1.trans hnxt)⟩)
    · rw [hcase] at hf; cases hf

theorem R_c2c (c : Cfg) (i : In) (n ip : Val) (s : St) (h : RInv c n ip s) : RInv c n ip (c2c c i s) :=
  ite_pres_of (fun _ => h) fun hcur => by
    have hcur' : s.cur = .c2 := Decidable.not_not.1 hcur
    have hsi : RS c n ip s :=
      ⟨h.1, h.2.1, host_of_stage c n s h.2.2 (by rw [hcur']; decide) (by rw [hcur']; decide) (by rw [hcur']; decide)
        (fun hx => by rw [hcur'] at hx; rcases hx.2 with e | e <;> cases e), by rw [hcur']; decide⟩
    exact ite_pres
      (ite_pres (R_of_RS c n ip _ (RS_act c n ip s hsi _ rfl rfl trivial))
        (R_of_RS c n ip _ (RS_failStage c n ip _ (RS_nothing c n ip s hsi))))
      (ite_pres
        (ite_pres (R_of_RS c n ip _ (RS_act c n ip s hsi _ rfl rfl trivial))
          (R_progress_RS c n ip _ (RS_act c n ip s hsi _ rfl rfl trivial)))
        h)

theorem R_progressIfFinished (c : Cfg) (n ip : Val) (s : St) (h : RS c n ip s) : RInv c n ip (progressIfFinished s) :=
  ite_pres (R_progress_RS c n ip s h) (R_of_RS c n ip s h)

/-- `current_host := starting_node`, then an action of a DOWNLOAD … COMMAND_AND_CONTROL kind on it -/
theorem RS_onStart (c : Cfg) (n ip : Val) (s : St) (h : RInv c n ip s) (hne : s.cur ≠ .payload) (k : Kind)
    (hk : k.onC2 = false) : RS c n ip { s with host := s.startNode, chosen := { kind := k, node := s.startNode } } :=
  ⟨P_onStart c n ip s h.1 k, ⟨fun _ => h.1.startNode, fun hc => by rw [hk] at hc; cases hc⟩, h.1.startNode, hne⟩

theorem R_propagate (c : Cfg) (i : In) (n ip : Val) (s : St) (h : RInv c n ip s) : RInv c n ip (propagate c i s) :=
  ite_pres_of (fun _ => h) fun hcur => by
    have hcur' : s.cur = .propagate := Decidable.not_not.1 hcur
    have hne : s.cur ≠ .payload := by rw [hcur']; decide
    have hsi : RS c n ip s :=
      ⟨h.1, h.2.1, host_of_stage c n s h.2.2 hne (by rw [hcur']; decide) (by rw [hcur']; decide)
        (fun hx => by rw [hcur'] at hx; rcases hx.2 with e | e <;> cases e), hne⟩
    refine ite_pres (R_progressIfFinished c n ip _ (RS_scanHandler c i n ip s hsi))
      (ite_pres (R_of_RS c n ip _ ?_) (R_of_RS c n ip _ (RS_failStage c n ip _ (RS_nothing c n ip s hsi))))
    -- the first scan: `current_host := starting_node`, scan state reset to the first configured address, a ping scan from there
    have hp : RS c n ip (propagatePrep c s) := by
      refine ite_pres ?_ hsi
      unfold propagateReset
      cases ha : c.addrs[0]? with
      | some a => exact ⟨⟨h.1.startNode, h.1.targetIp, Or.inl h.1.startNode, h.1.chosenOK, ha⟩, h.2.1, h.1.startNode, hne⟩
      | none => exact ⟨⟨h.1.startNode, h.1.targetIp, Or.inl h.1.startNode, h.1.chosenOK, h.1.tgtOK⟩, h.2.1, h.1.startNode, hne⟩
    exact RS_act c n ip _ hp _ rfl rfl hp.1.tgtOK

theorem R_activate (c : Cfg) (n ip : Val) (s : St) (h : RInv c n ip s) : RInv c n ip (activate s) :=
  ite_pres_of (fun _ => h) fun hcur =>
    R_progress_RS c n ip _ (RS_onStart c n ip s h (by rw [Decidable.not_not.1 hcur]; decide) _ rfl)

theorem R_install (c : Cfg) (n ip : Val) (s : St) (h : RInv c n ip s) : RInv c n ip (install s) :=
  ite_pres_of (fun _ => h) fun hcur =>
    R_progress_RS c n ip _ (RS_onStart c n ip s h (by rw [Decidable.not_not.1 hcur]; decide) _ rfl)

/-- DOWNLOAD sets `current_host` when it starts (progress PENDING); afterwards it is the start node by the invariant. -/
theorem R_download (c : Cfg) (n ip : Val) (s : St) (h : RInv c n ip s) : RInv c n ip (download s) :=
  ite_pres_of (fun _ => h) fun hcur => by
    have hcur' : s.cur = .download := Decidable.not_not.1 hcur
    have hne : s.cur ≠ .payload := by rw [hcur']; decide
    refine R_progressIfFinished c n ip _ (ite_pres_of (fun _ => RS_onStart c n ip s h hne _ rfl) fun hp => ?_)
    have hsi : RS c n ip s :=
      ⟨h.1, h.2.1, host_of_stage c n s h.2.2 hne (by rw [hcur']; decide) (by rw [hcur']; decide) (fun hx => hp hx.1), hne⟩
    exact ite_pres (RS_act c n ip s hsi _ rfl rfl trivial) hsi

theorem R_tapStart (c : Cfg) (n ip : Val) (s : St) (h : RInv c n ip s) : RInv c n ip (tapStart s) :=
  ite_pres_of (fun _ => h) fun hcur => by
    have hcur' : s.cur = .notStarted := Decidable.not_not.1 hcur
    cases Stage.ofVal? (Stage.download.val + 1) with
    | none => exact h
    | some _ =>
      refine ⟨P_nothing c n ip s h.1, kn_nothing c n, nofun, ?_⟩
      rcases h.2.2.2 with hh | hh | hh | hh | hh
      · exact Or.inl hh
      · rw [hcur'] at hh; cases hh
      · rw [hcur'] at hh; cases hh
      · rw [hcur'] at hh; cases hh
      · exact Or.inr (Or.inr (Or.inr (Or.inr ⟨hh.1, Or.inr rfl⟩)))

theorem R_outcomeHandler (c : Cfg) (n ip : Val) (s : St) (h : RInv c n ip s) : RInv c n ip (outcomeHandler c s) :=
  ite_pres
    (ite_pres (R_nothing c n ip s h)
      (ite_pres
        ⟨P_nothing c n ip s h.1, kn_nothing c n, nofun, Or.inr (Or.inr (Or.inr (Or.inr ⟨rfl, Or.inl rfl⟩)))⟩
        (R_nothing c n ip s h)))
    h

theorem R_setNext (c : Cfg) (b d : Int) (n ip : Val) (s : St) (h : RInv c n ip s) : RInv c n ip (setNext c s b d) :=
  ite_pres h h

theorem R_returnHandler (c : Cfg) (x : Hist) (n ip : Val) (s : St) (h : RInv c n ip s) : RInv c n ip (returnHandler c x s) :=
  ite_pres ⟨h.1, h.2.1, hostOK_failed c n _ rfl⟩ h

theorem R_bodies (c : Cfg) (i : In) (n ip : Val) (s : St) (h : RInv c n ip s) (hi : Inv s) : RInv c n ip (bodies c i s) := by
  unfold bodies
  exact R_tapStart c n ip _ (R_download c n ip _ (R_install c n ip _ (R_activate c n ip _ (R_propagate c i n ip _
    (R_c2c c i n ip _ (R_payload c i n ip s h hi))))))

/-- `RInv` with `Inv` (which `_payload` needs) is what every state of a run from the constructor has; a tick from it
returns an action with configured parameters, on the right node. -/
theorem R_step (c : Cfg) (t : Int) (i : In) (n ip : Val) (s : St) (h : RInv c n ip s ∧ Inv s) :
    (RInv c n ip (step c s t i).1 ∧ Inv (step c s t i).1) ∧ ∀ a, (step c s t i).2 = .act a → ActOK c n a ∧ KindNode c n a :=
  have hs := step_inv c s (fun s b d => R_setNext c b d n ip s) (R_outcomeHandler c n ip) (fun x => R_returnHandler c x n ip)
    (fun i q hq hq' => R_bodies c i n ip q hq' (hq h.2)) (fun _ _ h => h) (fun _ h => h) (fun _ h => h) (fun _ _ _ h _ => h)
    (fun _ h => ⟨h.1.chosenOK, h.2.1⟩) ⟨actOK_nothing c n, kn_nothing c n⟩ t i h.1
  ⟨⟨hs.1, (C19_tap1_stage_step c s t i h.2).2⟩, hs.2⟩

theorem rinv_init (c : Cfg) (d0 : Int) (k1 k2 : Nat) (s0 : St) (h0 : init c d0 k1 k2 = some s0) :
    RInv c s0.startNode s0.targetIp s0 ∧ Inv s0 := by
  refine ⟨⟨(init_picks c d0 k1 k2 s0 h0).2.2, ?_⟩, ?_⟩ <;> obtain ⟨_, rfl⟩ := init_some c d0 k1 k2 s0 h0
  · exact ⟨kn_nothing c _, nofun, Or.inl rfl⟩
  · exact Or.inr rfl

theorem run_acts (c : Cfg) (d0 : Int) (k1 k2 : Nat) (s0 : St) (ins : List In) (h0 : init c d0 k1 k2 = some s0) :
    ∀ t a, (t, Out.act a) ∈ runOut c s0 0 ins → ActOK c s0.startNode a ∧ KindNode c s0.startNode a :=
  fun t a hm => iter_forall_mem (runOut c) (fun _ _ => rfl) (fun _ _ _ _ => rfl)
    (fun s => RInv c s0.startNode s0.targetIp s ∧ Inv s) (fun x => ∀ a, x.2 = .act a → ActOK c s0.startNode a ∧ KindNode c s0.startNode a)
    (fun s t i h => R_step c t i _ _ s h) ins s0 0 (rinv_init c d0 k1 k2 s0 h0) (t, .act a) hm a rfl

/-- **Which action runs where (TAP001, run level; after the repair of F-C19-4).**  In every run from the constructor every
action of the DOWNLOAD … COMMAND_AND_CONTROL stages (folder / file create, file access, the two application installs,
configure / execute C2 beacon, the three scans) is returned with `node_name` / `source_node` = the selected START NODE, and
every `c2-server-*` action of PAYLOAD with `node_name` = the configured C2 server — whatever failed, was repeated or
restarted before.  (With the unrepaired `_tap_outcome_handler` this is false: `corpus/C19/fc19_4_tap1_restart_keeps_progress.json`.) -/
theorem C19_tap1_actions_on_start_node (c : Cfg) (d0 : Int) (k1 k2 : Nat) (s0 : St) (ins : List In)
    (h0 : init c d0 k1 k2 = some s0) :
    ∀ t a, (t, Out.act a) ∈ runOut c s0 0 ins →
      (a.kind.onStart = true → a.node = s0.startNode) ∧ (a.kind.onC2 = true → a.node = c.c2Server) :=
  fun t a hm => (run_acts c d0 k1 k2 s0 ins h0 t a hm).2

/-- **Only from its configured start nodes, only with configured targets (TAP001, run level).**  In every run from the
constructor — any settings, any start-node / target draws, any schedule, trial and scan draws, any responses, any
length — every action the agent returns other than do-nothing

* runs on the node `_select_start_node` selected — an element of `starting_nodes`, or `default_starting_node` when that
  list is empty — or on the configured `c2_server_name`;
* has as scan target entry `i` of `PROPAGATE.network_addresses` (with exactly that value), the live-host list of the
  previous ping scan, or the address `_select_target_ip` selected (element of `target_ips`, or `default_target_ip`);

and all its other parameters are the functions of the configuration listed in `Kind.spec` (by definition of `render`). -/
theorem C19_tap1_params_from_config (c : Cfg) (d0 : Int) (k1 k2 : Nat) (s0 : St) (ins : List In)
    (h0 : init c d0 k1 k2 = some s0) :
    ((c.startingNodes = [] ∧ s0.startNode = c.defaultStartingNode) ∨ s0.startNode ∈ c.startingNodes) ∧
    ((c.targetIps = [] ∧ s0.targetIp = c.defaultTargetIp) ∨ s0.targetIp ∈ c.targetIps) ∧
    ∀ t a, (t, Out.act a) ∈ runOut c s0 0 ins → a.kind ≠ .doNothing →
      (a.node = s0.startNode ∨ a.node = c.c2Server) ∧
      (∀ j v, a.tgt = some (.addr j v) → c.addrs[j]? = some v) := by
  obtain ⟨h1, h2, _⟩ := init_picks c d0 k1 k2 s0 h0
  refine ⟨C19_select_from_config _ _ _ _ h1, C19_select_from_config _ _ _ _ h2, ?_⟩
  intro t a hm hne
  have := (run_acts c d0 k1 k2 s0 ins h0 t a hm).1
  refine ⟨?_, ?_⟩
  · rcases this.1 with hk | hk
    · exact absurd hk hne
    · exact hk
  · intro j v hj
    have ht := this.2
    rw [hj] at ht
    exact ht

/-- every action other than do-nothing is of one of the two classes -/
theorem kind_classes (k : Kind) : k = .doNothing ∨ k.onStart = true ∨ k.onC2 = true := by
  cases k <;> simp [Kind.onStart, Kind.onC2]

end Tap1
end Primaite.Agents
