/-
C17 — the FTP layer as far as the database's two transfers use it, TRANSLATED statement by statement from
ftp_client.py / ftp_server.py / ftp_service.py / software.py on every run (Gen/DatabaseFtpTr.lean,
harness/extract/database_ftp_tr.py), is proved equal to the model's `ftpSendFile` / `ftpRequestFile`.  The only hand-written
part in between is the delivery of a frame from one host to the other (`netToServer` / `netToClient`, stated in the
generated file): path open ⇒ the other side's translated `receive` runs on the very packet object.
-/
import PrimaiteModel.Props.C17
import PrimaiteModel.Gen.DatabaseFtpTr
namespace Primaite.Database
open Primaite.Gen.DatabaseFtpTr

/-- PORT at the FTP server: OK iff it can act (and the port argument is valid) -/
theorem srv_port (w : FtpW) :
    serverReceive w { cmd := some .port, portArg := true } =
      if w.b.serves then (w, { cmd := some .port, portArg := true, status := some .ok }, true)
      else (w, { cmd := some .port, portArg := true }, false) := by
  unfold serverReceive processS FtpW.canAct
  cases w.b.serves <;> simp

theorem srv_quit (w : FtpW) :
    serverReceive w { cmd := some .quit } =
      if w.b.serves then (w, { cmd := some .quit, status := some .ok }, true) else (w, { cmd := some .quit }, false) := by
  unfold serverReceive processS FtpW.canAct
  cases w.b.serves <;> simp

/-- STOR of the database file at the FTP server: stored iff it can act and no copy is there yet -/
theorem srv_stor (w : FtpW) (h : FHealth) :
    serverReceive w { cmd := some .stor, dest := some .stored, health := some h } =
      if w.b.serves then
        (match w.b.stored with
         | some _ => (w, { cmd := some .stor, dest := some .stored, health := some h, status := some .error }, true)
         | none => ({ w with b := { w.b with stored := some h } },
                    { cmd := some .stor, dest := some .stored, health := some h, status := some .ok }, true))
      else (w, { cmd := some .stor, dest := some .stored, health := some h }, false) := by
  unfold serverReceive processS processAbcS storeDataS FtpW.canAct FtpW.createFile FtpW.setHealth FtpW.getFile
  cases w.b.serves <;> cases w.b.stored <;> simp

/-- STOR arriving at the database host's FTP client (the answer to its RETR) -/
theorem cli_stor (w : FtpW) (h : FHealth) :
    clientReceive w { cmd := some .stor, dest := some .downloads, health := some h, status := some .ok } =
      if w.s.ftpcAct then
        (match w.s.downloads with
         | some _ => (w, { cmd := some .stor, dest := some .downloads, health := some h, status := some .ok }, true)
         | none => ({ w with s := { w.s with downloads := some h, dlFolder := true } },
                    { cmd := some .stor, dest := some .downloads, health := some h, status := some .ok }, true))
      else (w, { cmd := some .stor, dest := some .downloads, health := some h, status := some .ok }, false) := by
  unfold clientReceive processC processAbcC storeDataC FtpW.canAct FtpW.createFile FtpW.setHealth FtpW.getFile
  cases w.s.ftpcAct <;> cases w.s.downloads <;> simp

/-- the STOR that answers a RETR, sent by a serving backup host that stores a copy -/
theorem sendDataS_stored (w : FtpW) (bh : FHealth) (hs : w.b.stored = some bh) (hsv : w.b.serves = true) :
    sendDataS w .stored .downloads true =
      (if w.sendOk && w.pathResp && w.s.ftpcAct && w.s.downloads.isNone then
         { w with s := { w.s with downloads := some bh, dlFolder := true } } else w, w.sendOk) := by
  unfold sendDataS ftpSendS sendS netToClient
  simp only [FtpW.canAct, FtpW.getFile, hs, hsv, Bool.not_true, Bool.false_eq_true, if_false, if_true, cli_stor]
  cases w.sendOk <;> cases w.pathResp <;> cases w.s.ftpcAct <;> cases w.s.downloads <;> rfl

/-- RETR of the stored copy at the FTP server: answered OK as soon as the copy has been SENT (whether or not it arrives) -/
theorem srv_retr (w : FtpW) :
    serverReceive w { cmd := some .retr, src := some .stored, dest := some .downloads } =
      if w.b.serves then
        (match w.b.stored with
         | none => (w, { cmd := some .retr, src := some .stored, dest := some .downloads, status := some .error }, true)
         | some bh =>
           if !w.sendOk then (w, { cmd := some .retr, src := some .stored, dest := some .downloads, status := some .error }, true)
           else if w.pathResp && w.s.ftpcAct && w.s.downloads.isNone then
             ({ w with s := { w.s with downloads := some bh, dlFolder := true } },
              { cmd := some .retr, src := some .stored, dest := some .downloads, status := some .ok }, true)
           else (w, { cmd := some .retr, src := some .stored, dest := some .downloads, status := some .ok }, true))
      else (w, { cmd := some .retr, src := some .stored, dest := some .downloads }, false) := by
  unfold serverReceive processS processAbcS retrieveDataS
  simp only [FtpW.canAct, FtpW.getFile]
  cases hsv : w.b.serves
  · rfl
  · rcases Option.eq_none_or_eq_some w.b.stored with hs | ⟨bh, hs⟩
    · simp only [hs]; rfl
    · simp only [hs, sendDataS_stored w bh hs hsv]
      cases w.sendOk <;> cases w.pathResp <;> cases w.s.ftpcAct <;> cases w.s.downloads <;> rfl

theorem ftpSendC_port (w : FtpW) :
    ftpSendC w { cmd := some .port, portArg := true } =
      if !w.s.ftpcAct then (w, { cmd := some .port, portArg := true }, false)
      else if w.pathReq then
        (w, { cmd := some .port, portArg := true, status := if w.b.serves then some .ok else none }, true)
      else (w, { cmd := some .port, portArg := true }, w.lost) := by
  unfold ftpSendC sendC netToServer
  simp only [FtpW.canAct, srv_port]
  cases w.s.ftpcAct <;> cases w.pathReq <;> cases w.b.serves <;> rfl

theorem connectRetryC_eq (w : FtpW) :
    connectRetryC w =
      if w.s.ftpcAct && w.pathReq && w.b.serves then ({ w with s := { w.s with ftpConn := true } }, true) else (w, false) := by
  unfold connectRetryC
  rcases Bool.eq_false_or_eq_true w.s.ftpcAct with ha | ha
  · rcases Bool.eq_false_or_eq_true w.pathReq with hp | hp
    · rcases Bool.eq_false_or_eq_true w.b.serves with hs | hs
      · simp [FtpW.canAct, ftpSendC_port, ha, hp, hs]
      · simp [FtpW.canAct, ftpSendC_port, ha, hp, hs]
    · rcases Bool.eq_false_or_eq_true w.lost with hl | hl <;> simp [FtpW.canAct, ftpSendC_port, ha, hp, hl]
  · simp [FtpW.canAct, ha]

theorem connectC_eq (w : FtpW) :
    connectC w =
      if w.s.ftpcAct && w.pathReq && w.b.serves then ({ w with s := { w.s with ftpConn := true } }, true) else (w, false) := by
  unfold connectC
  rcases Bool.eq_false_or_eq_true w.s.ftpcAct with ha | ha
  · rcases Bool.eq_false_or_eq_true w.pathReq with hp | hp
    · rcases Bool.eq_false_or_eq_true w.b.serves with hs | hs
      · simp [FtpW.canAct, ftpSendC_port, ha, hp, hs]
      · simp [FtpW.canAct, ftpSendC_port, connectRetryC_eq, ha, hp, hs]
    · rcases Bool.eq_false_or_eq_true w.lost with hl | hl <;> simp [FtpW.canAct, ftpSendC_port, connectRetryC_eq, ha, hp, hl]
  · simp [FtpW.canAct, ha]

theorem disconnectC_eq (w : FtpW) : disconnectC w = (w, w.pathReq && w.b.serves) := by
  unfold disconnectC netToServer
  cases w.pathReq
  · simp
  · have h1 := srv_quit w
    cases hs : w.b.serves <;> simp [h1, hs]

theorem sendDataC_eq (w : FtpW) :
    sendDataC w .dbFile .stored false =
      if w.s.ftpcAct && w.pathReq && w.big && w.b.serves then
        (match w.b.stored, w.s.file with
         | none, some fh => ({ w with b := { w.b with stored := some fh } }, true)
         | _, _ => (w, false))
      else (w, false) := by
  unfold sendDataC ftpSendC sendC netToServer
  simp only [FtpW.canAct, FtpW.getFile]
  by_cases ha : w.s.ftpcAct = true
  · by_cases hp : w.pathReq = true
    · by_cases hb : w.big = true
      · rcases Option.eq_none_or_eq_some w.s.file with hf | ⟨fh, hf⟩
        · -- no live file: the packet carries no health, `_store_data` fails on the missing key
          by_cases hs : w.b.serves = true <;> rcases Option.eq_none_or_eq_some w.b.stored with hst | ⟨x, hst⟩ <;>
            simp [hs, hst, ha, hp, hb, hf, serverReceive, processS, processAbcS, storeDataS, FtpW.canAct]
        · have h1 := srv_stor w fh
          by_cases hs : w.b.serves = true <;> rcases Option.eq_none_or_eq_some w.b.stored with hst | ⟨x, hst⟩ <;>
            simp [h1, hs, hst, ha, hp, hb, hf]
      · by_cases hl : w.lost = true <;> simp [ha, hp, hb, hl]
    · by_cases hl : w.lost = true <;> simp [ha, hp, hl]
  · simp [ha]

theorem serves_stored (b : Backup) (x : Option FHealth) : Backup.serves { b with stored := x } = b.serves := rfl

/-- **`FTPClient.send_file` as translated = the model's `ftpSendFile`** - for every database host, backup host, path and
saturation input, and whatever `send` reports for a lost frame: new database host, new backup host, result. -/
theorem C17_tr_ftp_send_file (s : Server) (b : Backup) (pq pr big k lost : Bool) :
    ((sendFile ⟨s, b, pq, pr, big, k, lost⟩ .dbFile .stored).1.s, (sendFile ⟨s, b, pq, pr, big, k, lost⟩ .dbFile .stored).1.b,
      (sendFile ⟨s, b, pq, pr, big, k, lost⟩ .dbFile .stored).2) = ftpSendFile s b pq big := by
  unfold sendFile ftpSendFile
  rcases Option.eq_none_or_eq_some s.file with hf | ⟨fh, hf⟩
  · simp [FtpW.getFile, hf]
  · rcases Bool.eq_false_or_eq_true (s.ftpcAct && pq && b.serves) with hP | hP
    · have h := hP
      simp only [Bool.and_eq_true] at h
      obtain ⟨⟨ha, rfl⟩, hs⟩ := h
      unfold Server.ftpcAct at ha
      cases big
      · simp [FtpW.getFile, connectC_eq, sendDataC_eq, Server.ftpcAct, hf, ha, hs]
      · rcases Option.eq_none_or_eq_some b.stored with hst | ⟨x, hst⟩ <;>
          simp [FtpW.getFile, connectC_eq, sendDataC_eq, disconnectC_eq, Server.ftpcAct, serves_stored, hf, ha, hs, hst]
    · -- no control connection is made now, and without one of its three conditions the STOR is not delivered either
      have hsend : (s.ftpcAct && pq && big && b.serves) = false := by
        revert hP; cases s.ftpcAct <;> cases pq <;> cases big <;> cases b.serves <;> simp
      simp [FtpW.getFile, connectC_eq, sendDataC_eq, hf, hP, hsend]
      rw [← hf]

/-- **`FTPClient.request_file` as translated = the model's `ftpRequestFile`**; the backup host is left as it was. -/
theorem C17_tr_ftp_request_file (s : Server) (b : Backup) (pq pr big k lost : Bool) :
    ((requestFile ⟨s, b, pq, pr, big, k, lost⟩ .stored .downloads).1.s, (requestFile ⟨s, b, pq, pr, big, k, lost⟩ .stored .downloads).2)
      = ftpRequestFile s b pq pr k ∧
    (requestFile ⟨s, b, pq, pr, big, k, lost⟩ .stored .downloads).1.b = b := by
  unfold requestFile ftpRequestFile netToServer
  rcases Bool.eq_false_or_eq_true (s.ftpcAct && pq && b.serves) with hP | hP
  · -- the control connection is (re)established: the flag is set whatever it was
    have h := hP
    simp only [Bool.and_eq_true] at h
    obtain ⟨⟨ha, rfl⟩, hs⟩ := h
    unfold Server.ftpcAct at ha
    rcases Option.eq_none_or_eq_some b.stored with hst | ⟨bh, hst⟩
    · simp [connectC_eq, srv_retr, Server.ftpcAct, ha, hs, hst]
    · cases k
      · simp [connectC_eq, srv_retr, Server.ftpcAct, ha, hs, hst]
      · cases pr
        · simp [connectC_eq, srv_retr, Server.ftpcAct, ha, hs, hst]
        · rcases Option.eq_none_or_eq_some s.downloads with hd | ⟨d, hd⟩ <;> simp [connectC_eq, srv_retr, Server.ftpcAct, ha, hs, hst, hd]
  · -- no control connection is made now: an old one is used as far as it goes (RETR does not ask the FTP client)
    cases pq
    · simp [connectC_eq]
    · rcases Bool.eq_false_or_eq_true b.serves with hs | hs
      · have ha : (s.ftpc == some SvcState.running) = false := by simpa [Server.ftpcAct, hs] using hP
        rcases Option.eq_none_or_eq_some b.stored with hst | ⟨bh, hst⟩
        · simp [connectC_eq, srv_retr, Server.ftpcAct, ha, hs, hst]
        · cases k
          · simp [connectC_eq, srv_retr, Server.ftpcAct, ha, hs, hst]
          · -- the file is sent and reported sent, but not stored: the FTP client cannot act
            simp [connectC_eq, srv_retr, Server.ftpcAct, ha, hs, hst]
            split <;> exact ⟨rfl, rfl⟩
      · simp [connectC_eq, srv_retr, hs]

/-- **The stored copy, through the translated store path.**  `FTPClient.send_file` → `_send_data` → (delivery) →
`FTPServer.receive` → `_process_ftp_command` → `FTPServiceABC._store_data`, all as translated from the source: a transfer that
reports success found no copy on the backup host and leaves exactly the database file's health there; while a copy exists the
transfer reports failure and the backup host is untouched. -/
theorem C17_tr_stored_copy (s : Server) (b : Backup) (pq pr big k lost : Bool) :
    ((sendFile ⟨s, b, pq, pr, big, k, lost⟩ .dbFile .stored).2 = true →
      b.stored = none ∧ (sendFile ⟨s, b, pq, pr, big, k, lost⟩ .dbFile .stored).1.b.stored = s.file ∧ s.file.isSome) ∧
    (b.stored.isSome → (sendFile ⟨s, b, pq, pr, big, k, lost⟩ .dbFile .stored).2 = false ∧
      (sendFile ⟨s, b, pq, pr, big, k, lost⟩ .dbFile .stored).1.b = b) := by
  have h := C17_tr_ftp_send_file s b pq pr big k lost
  obtain ⟨h1, h2⟩ : (sendFile ⟨s, b, pq, pr, big, k, lost⟩ .dbFile .stored).1.b = (ftpSendFile s b pq big).2.1 ∧
      (sendFile ⟨s, b, pq, pr, big, k, lost⟩ .dbFile .stored).2 = (ftpSendFile s b pq big).2.2 := by
    rw [← h]; exact ⟨rfl, rfl⟩
  rw [h1, h2, ftpSendFile_closed]
  split
  · exact ⟨fun h => (by cases h), fun _ => ⟨rfl, rfl⟩⟩
  · next hf =>
    split
    · next hgo =>
      simp only [Bool.and_eq_true, Option.isNone_iff_eq_none] at hgo
      refine ⟨fun _ => ⟨hgo.2, rfl, ?_⟩, fun hs => ?_⟩
      · cases hs : s.file with
        | none => rw [hs] at hf; exact absurd rfl hf
        | some x => rfl
      · rw [hgo.2] at hs; cases hs
    · exact ⟨fun h => (by cases h), fun _ => ⟨rfl, rfl⟩⟩

end Primaite.Database
