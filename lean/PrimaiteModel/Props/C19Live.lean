/-
C19: LIVENESS of the schedules (the safety half — gaps inside frequency ± variance — is in C19.lean /
C19Sched.lean), and "the start node is drawn once".

* PeriodicAgent tests `timestep == next_execution_timestep`: a slot that is not STRICTLY later than the current step is never
  reached again.  The settings schema's guard `variance < frequency` (`PeriodicCfg.valid`; the comparison operator is
  checked against the source by `C19_gen_guards`: the validator rejects `variance >= frequency`) is exactly what makes
  every next slot strictly later; with it the agent acts again after at most `frequency + variance` steps while
  executions are left — for every draw sequence; without it (`variance = frequency`, seeded change C19-e) it can fall
  silent for good: counterexample proved.
* DataManipulationAgent and both TAPs test `timestep < next_execution_timestep`: no guard is needed (and `AbstractTAP` has
  none on its variance): the next slot is `max (t+1) (t + frequency + d)`.
* TAP003 with the default, empty `malicious_acls` completes EXPLOIT.
-/
import PrimaiteModel.Props.C19Run
namespace Primaite.Agents

/-- Draws of the start node stay inside `possible_start_nodes` (what `random.choice` guarantees). -/
def NodeDrawsIn (c : PeriodicCfg) (ins : List PIn) : Prop := ∀ i ∈ ins, i.k < c.nStartNodes

theorem periodic_idle_off_slot (c : PeriodicCfg) (s : PeriodicState) (t d : Int) (k : Nat) (hd : s.dead = false)
    (hne : t ≠ s.next) : periodicStep c s t d k = (s, .doNothing) := by
  have : ¬ (t = s.next ∧ s.numExec < c.maxExecutions) := fun h => hne h.1
  simp [periodicStep, hd, this]

theorem periodic_fires (c : PeriodicCfg) (s : PeriodicState) (d : Int) (k : Nat) (hd : s.dead = false)
    (hleft : s.numExec < c.maxExecutions) (hv : 0 ≤ c.variance) (hk : k < c.nStartNodes) :
    ∃ n, (periodicStep c s s.next d k).2 = .execute n ∧ (periodicStep c s s.next d k).1.dead = false ∧
      (periodicStep c s s.next d k).1.next = s.next + c.frequency + d ∧
      (periodicStep c s s.next d k).1.numExec = s.numExec + 1 := by
  have hr : randintOk c.variance = true := by simp [randintOk, hv]
  cases hs : s.startNode with
  | some m => exact ⟨m, by simp [periodicStep, hd, hleft, hr, hs]⟩
  | none => exact ⟨k, by simp [periodicStep, hd, hleft, hr, hs, hk]⟩

/-- **The schedule reaches its next slot.**  From tick `t ≤ next_execution_timestep` a live periodic agent with executions
left idles exactly until `next_execution_timestep` and executes there — provided the run is long enough. -/
theorem periodic_reaches_next (c : PeriodicCfg) (hv : 0 ≤ c.variance) : ∀ (ins : List PIn) (s : PeriodicState) (t : Int),
    s.dead = false → t ≤ s.next → s.numExec < c.maxExecutions → NodeDrawsIn c ins → (s.next - t).toNat < ins.length →
    (∀ j, j < (s.next - t).toNat → (runFrom (periodicStep c) s t ins)[j]? = some .doNothing) ∧
    ∃ n, (runFrom (periodicStep c) s t ins)[(s.next - t).toNat]? = some (.execute n) := by
  intro ins
  induction ins with
  | nil => intro s t _ _ _ _ hlen; simp at hlen
  | cons i is ih =>
    intro s t hd hle hleft hk hlen
    by_cases heq : t = s.next
    · subst heq
      obtain ⟨n, he, _, _, _⟩ := periodic_fires c s i.d i.k hd hleft hv (hk i List.mem_cons_self)
      simp only [Int.sub_self, Int.toNat_zero]
      exact ⟨fun j hj => absurd hj (Nat.not_lt_zero j), n, by simp [runFrom, he]⟩
    · have e : (s.next - t).toNat = (s.next - (t + 1)).toNat + 1 := by omega
      have := ih s (t + 1) hd (by omega) hleft (fun j hj => hk j (List.mem_cons_of_mem i hj))
        (by simp only [List.length_cons] at hlen; omega)
      simp only [runFrom, periodic_idle_off_slot c s t i.d i.k hd heq]
      rw [e]
      refine ⟨fun j hj => ?_, this.2⟩
      cases j with
      | zero => rfl
      | succ j => exact this.1 j (by omega)

/-- **Every slot is strictly later than the previous one** under the guard of the settings schema (`variance < frequency`,
`C19_gen_guards`: the validator rejects `variance >= frequency`) and a draw in range. -/
theorem C19_periodic_next_strictly_later (c : PeriodicCfg) (hvalid : c.valid = true) (t d : Int)
    (hd : -c.variance ≤ d ∧ d ≤ c.variance) : t < t + c.frequency + d ∧ t + c.frequency + d ≤ t + c.frequency + c.variance := by
  have : c.variance < c.frequency := by simpa [PeriodicCfg.valid] using hvalid
  omega

/-- **Liveness of the periodic schedule (run level).**  For every configuration the validator accepts, every state, every
draw sequence in range and every continuation of the run: if the agent acts at tick `t` and has executions left afterwards,
it idles for exactly `frequency + d − 1` ticks and acts again at tick `t + frequency + d`, i.e. after at least 1 and at most
`frequency + variance` steps (when the run goes on that long).  It never falls silent while `max_executions` is not reached. -/
theorem C19_periodic_acts_again (c : PeriodicCfg) (hvalid : c.valid = true) (hv : 0 ≤ c.variance)
    (s : PeriodicState) (t : Int) (i : PIn) (rest : List PIn) (n : Nat)
    (hact : (periodicStep c s t i.d i.k).2 = .execute n)
    (hd : -c.variance ≤ i.d ∧ i.d ≤ c.variance) (hleft : s.numExec + 1 < c.maxExecutions)
    (hk : NodeDrawsIn c rest) (hlen : (c.frequency + i.d).toNat ≤ rest.length) :
    1 ≤ c.frequency + i.d ∧ c.frequency + i.d ≤ c.frequency + c.variance ∧
    (∀ j, j + 1 < (c.frequency + i.d).toNat →
      (runFrom (periodicStep c) (periodicStep c s t i.d i.k).1 (t + 1) rest)[j]? = some .doNothing) ∧
    ∃ n', (runFrom (periodicStep c) (periodicStep c s t i.d i.k).1 (t + 1) rest)[(c.frequency + i.d).toNat - 1]? =
      some (.execute n') := by
  have hlater := C19_periodic_next_strictly_later c hvalid t i.d hd
  rcases periodicStep_tri c s t i.d i.k with ⟨he, _⟩ | ⟨n0, _, _, _, _, hnext, hnum, hdead, _, _, _⟩ | ⟨he, _⟩
  · rw [he] at hact; cases hact
  · have hgap : ((periodicStep c s t i.d i.k).1.next - (t + 1)).toNat = (c.frequency + i.d).toNat - 1 := by
      rw [hnext]; omega
    have := periodic_reaches_next c hv rest (periodicStep c s t i.d i.k).1 (t + 1) hdead (by rw [hnext]; omega)
      (by rw [hnum]; exact hleft) hk (by rw [hgap]; omega)
    rw [hgap] at this
    refine ⟨by omega, by omega, fun j hj => this.1 j (by omega), this.2⟩
  · rw [he] at hact; cases hact

/-- An agent whose `next_execution_timestep` lies in the past never acts again (`==` gate). -/
theorem periodic_silent_after (c : PeriodicCfg) : ∀ (ins : List PIn) (s : PeriodicState) (t : Int), s.next < t →
    ∀ o ∈ runFrom (periodicStep c) s t ins, o = .doNothing ∨ o = .raised := by
  intro ins
  induction ins with
  | nil => intro s t _ o ho; simp [runFrom] at ho
  | cons i is ih =>
    intro s t hlt
    obtain ⟨o, h, ho⟩ : ∃ o, periodicStep c s t i.d i.k = (s, o) ∧ (o = .doNothing ∨ o = .raised) := by
      cases hd : s.dead with
      | true => exact ⟨_, by simp [periodicStep, hd], Or.inr rfl⟩
      | false => exact ⟨_, periodic_idle_off_slot c s t i.d i.k hd (by omega), Or.inl rfl⟩
    simp only [runFrom, h]
    exact List.forall_mem_cons.2 ⟨ho, ih s (t + 1) (by omega)⟩

/-- The statement the schedule would have to satisfy WITHOUT the schema's guard … -/
def C19_PeriodicLivenessWithoutGuard : Prop :=
  ∀ (c : PeriodicCfg) (s : PeriodicState) (t : Int) (i : PIn) (rest : List PIn) (n : Nat), 0 ≤ c.variance →
    (periodicStep c s t i.d i.k).2 = .execute n → (-c.variance ≤ i.d ∧ i.d ≤ c.variance) →
    s.numExec + 1 < c.maxExecutions → NodeDrawsIn c rest → (c.frequency + c.variance).toNat ≤ rest.length →
    ∃ n', .execute n' ∈ runFrom (periodicStep c) (periodicStep c s t i.d i.k).1 (t + 1) rest

/-- … and its refutation for `variance = frequency` (what seeded change C19-e lets through the validator): with the draw
`−variance` the next slot is the current step, the `==` gate never fires again and the agent is silent for good although
`max_executions` is far away. -/
theorem C19_periodic_variance_eq_frequency_counterexample : ¬ C19_PeriodicLivenessWithoutGuard := by
  intro h
  let c : PeriodicCfg := { startStep := 0, startVariance := 0, frequency := 2, variance := 2, maxExecutions := 10, nodes := ["n0"] }
  let s : PeriodicState := { next := 0, numExec := 0, startNode := none }
  obtain ⟨n', hn'⟩ := h c s 0 { d := -2, k := 0 } (List.replicate 4 { d := 0, k := 0 }) 0 (by decide) (by decide) (by decide)
    (by decide) (by intro i hi; simp at hi; rw [hi]; decide) (by decide)
  have hs := periodic_silent_after c (List.replicate 4 { d := 0, k := 0 }) (periodicStep c s 0 (-2) 0).1 1 (by decide) _ hn'
  rcases hs with hs | hs <;> cases hs

/-- DataManipulationAgent (threshold gate `<`): it acts in EVERY tick from `next_execution_timestep` on, so after acting at
`t` it acts again at `max (t+1) (t + frequency + d)` whatever the settings — no guard is needed for liveness. -/
theorem C19_dm_fires_at_or_after_next (c : PeriodicCfg) (s : PeriodicState) (t d : Int) (k : Nat) (hd : s.dead = false)
    (hge : s.next ≤ t) (hv : 0 ≤ c.variance) (hk : k < c.nStartNodes) : ∃ n, (dmStep c s t d k).2 = .execute n := by
  have hr : randintOk c.variance = true := by simp [randintOk, hv]
  have hnl : ¬ t < s.next := by omega
  cases hs : s.startNode with
  | some m => exact ⟨m, by simp [dmStep, hd, hnl, hr, hs]⟩
  | none => exact ⟨k, by simp [dmStep, hd, hnl, hr, hs, hk]⟩

namespace Tap1

/-- **The TAP001 schedule reaches its next slot** — for every variance ≥ 0 (the threshold gate `timestep <
next_execution_timestep` needs no `variance < frequency` guard, and `AbstractTAP` has none): a live, not concluded agent
waits exactly until `max t next_execution_timestep` and that tick is an execution slot. -/
theorem C19_tap1_next_slot (c : Cfg) : ∀ (w : List In) (s : St) (t : Int), WF c s t → s.dead = false →
    s.concluded = false → (w.length : Int) = max t s.nextExec - t →
    (after c s t w).dead = false ∧ (after c s t w).concluded = false ∧ (after c s t w).nextExec = s.nextExec ∧
    executes (after c s t w) (t + w.length) = true :=
  fun w s t hw hd hc hlen =>
    have h := wait_until_slot c w s t hw hd hc hlen
    ⟨h.2.2.2.1, h.2.1, h.2.2.1, h.2.2.2.2⟩

/-- **Liveness of the TAP001 schedule (run level).**  After an execution slot at tick `t` that neither raised nor concluded
the agent, the next execution slot is the tick `max (t+1) (t + frequency + d)` for one of the tick's two schedule draws `d`
— at most `max 1 (frequency + variance)` steps later when the draws are in range; the agent never falls silent. -/
theorem C19_tap1_slot_liveness (c : Cfg) (s : St) (t : Int) (i : In) (w : List In) (hw : WF c s t) (hd : s.dead = false)
    (hex : executes s t = true) (hd' : (step c s t i).1.dead = false) (hc' : (step c s t i).1.concluded = false)
    (hlen : (w.length : Int) = max (t + 1) (step c s t i).1.nextExec - (t + 1)) :
    ((step c s t i).1.nextExec = t + c.frequency + i.d1 ∨ (step c s t i).1.nextExec = t + c.frequency + i.d2) ∧
    executes (after c (step c s t i).1 (t + 1) w) (t + 1 + w.length) = true ∧
    (after c (step c s t i).1 (t + 1) w).dead = false := by
  have hfire := step_fire c s t i hd hex hw.var
  rcases hfire with h | h
  · rw [h] at hd'; cases hd'
  · have := C19_tap1_next_slot c w _ (t + 1) (wf_step c s t i hw) hd' hc' hlen
    exact ⟨h, this.2.2.2, this.1⟩

end Tap1

namespace Tap3

/-- **The TAP003 schedule reaches its next slot** (any variance ≥ 0), unless a pre-guard response handler raises on the way. -/
theorem C19_tap3_next_slot (c : Cfg) : ∀ (w : List In) (s : St) (t : Int), s.dead = false →
    s.concluded = false → (w.length : Int) = max t s.nextExec - t →
    (after c s t w).dead = true ∨
    ((after c s t w).concluded = false ∧ (after c s t w).nextExec = s.nextExec ∧
     executes (after c s t w) (t + w.length) = true) :=
  fun w s t _ hc hlen => Or.inr (wait_until_slot c w s t hc hlen).2

end Tap3

/-- Once `start_node` (a `cached_property`) has been read, `get_action` ignores the `random.choice` draw: the cached node
is used. -/
theorem periodic_ignores_draw (c : PeriodicCfg) (s : PeriodicState) (t d : Int) (k k' : Nat) (n : Nat)
    (h : s.startNode = some n) : periodicStep c s t d k = periodicStep c s t d k' := by
  unfold periodicStep
  simp only [h]

theorem dm_ignores_draw (c : PeriodicCfg) (s : PeriodicState) (t d : Int) (k k' : Nat) (n : Nat)
    (h : s.startNode = some n) : dmStep c s t d k = dmStep c s t d k' := by
  unfold dmStep
  simp only [h]

theorem periodic_keeps_node (c : PeriodicCfg) (s : PeriodicState) (t d : Int) (k n : Nat) (h : s.startNode = some n) :
    (periodicStep c s t d k).1.startNode = some n := by
  unfold periodicStep
  simp only [h]
  repeat' split
  all_goals first | exact h | rfl

/-- The draw is consumed only by a call that acts: a call that returns do-nothing leaves `start_node` unread. -/
theorem C19_periodic_draw_only_when_acting (c : PeriodicCfg) (s : PeriodicState) (t d : Int) (k : Nat)
    (h : (periodicStep c s t d k).2 = .doNothing) : (periodicStep c s t d k).1.startNode = s.startNode := by
  rcases periodicStep_tri c s t d k with ⟨_, hs, _⟩ | ⟨n, he, _⟩ | ⟨he, _⟩
  · rw [hs]
  · rw [he] at h; cases h
  · rw [he] at h; cases h

/-- After the first action of a run every later output is independent of the later `random.choice` draws: the node was
drawn ONCE (run level: two runs that differ only in the draws `k` after the first `execute` give the same outputs). -/
theorem C19_periodic_start_node_drawn_once (c : PeriodicCfg) : ∀ (ins ins' : List PIn) (s : PeriodicState) (t : Int) (n : Nat),
    s.startNode = some n → ins.map (·.d) = ins'.map (·.d) →
    runFrom (periodicStep c) s t ins = runFrom (periodicStep c) s t ins' := by
  intro ins
  induction ins with
  | nil => intro ins' s t n _ h; cases ins' with
    | nil => rfl
    | cons _ _ => simp at h
  | cons i is ih =>
    intro ins' s t n hs h
    cases ins' with
    | nil => simp at h
    | cons i' is' =>
      simp only [List.map_cons, List.cons.injEq] at h
      have e : periodicStep c s t i.d i.k = periodicStep c s t i'.d i'.k := by
        rw [h.1]; exact periodic_ignores_draw c s t i'.d i.k i'.k n hs
      simp only [runFrom, e]
      exact congrArg _ (ih is' _ (t + 1) n (periodic_keeps_node c s t i'.d i'.k n hs) h.2)

/-- With no malicious ACL configured the EXPLOIT stage returns do-nothing, does not raise and hands over to SUCCEEDED
(repair of F-C19-7: before it `malicious_acls[0]` raised IndexError — for the schema's DEFAULT value of the list). -/
theorem C19_tap3_exploit_empty_acls (c : Tap3.Cfg) (s : Tap3.St) (h : c.acls = []) (hn : s.nxt = .succeeded) :
    (Tap3.exploitBody c s).cur = .succeeded ∧ (Tap3.exploitBody c s).err = s.err ∧
    (Tap3.exploitBody c s).chosen = Tap3.Act.nothing := by
  unfold Tap3.exploitBody
  rw [if_pos (by rw [h]; rfl)]
  unfold Tap3.progress
  simp [hn]

theorem C19_gen_tap3_exploit_empty_guard : Gen.Agents.tap3ExploitEmptyGuard = tap3ExploitEmptyGuard := rfl

end Primaite.Agents
