/-
C08, part 10 — the host side of "through the default gateway": a host's next hop for a destination outside every enabled local
subnet is ALWAYS its default gateway.  Which address a host resolves a MAC for is a function of its interfaces (subnet,
enabled) and its configured gateway only — never of what its ARP cache happens to contain (a host learns `source IP ↦ source
MAC` from every frame it receives, so the cache does contain entries for remote addresses: the MAC of whichever router
delivered the frame).  The class of defect: "a cached entry for the destination short-cuts the subnet test".
Tie: `SessionManager.resolve_outbound_transmission_details` is translated statement by statement (`Gen.Forward.hostUnicastSteps`,
`hostOnLink`); the extractor has no entry for any other statement.
-/
import PrimaiteModel.Props.C08Forward
namespace Primaite.Forward

/-- the next-hop ADDRESS of a host for `dst`: a pure function of the interfaces and the gateway. -/
def hostNextHopIp (ifs : List Iface) (gateway : Option Ip) (dst : Ip) : Option Ip :=
  if ifs.any (fun i => Gen.Forward.hostOnLink (i.inNet dst) i.enabled) then some dst else gateway

/-- Gen obligation: the unicast branch of the source is exactly the four translated statements, its on-link test is
"in the interface's network AND the interface is enabled", the gateway getters look up the gateway only. -/
theorem C08_gen_host_resolve :
    Gen.Forward.hostUnicastSteps =
      ["gw := true", "for nic: [if onLink (inNet && enabled): [mac := arpMac dst; break]]",
       "if mac?: [gw := false; nic := arpIfc dst]", "if gw?: [mac := arpMac gateway; nic := arpIfc gateway]"] ∧
    (∀ a b, Gen.Forward.hostOnLink a b = (a && b)) ∧ Gen.Forward.hostGatewayGettersReadGatewayOnly = true :=
  ⟨rfl, fun _ _ => rfl, rfl⟩

theorem firstEnabledIn_isSome (ifs : List Iface) (dst : Ip) (k : Nat) :
    (firstEnabledIn ifs dst k).isSome = ifs.any (fun i => Gen.Forward.hostOnLink (i.inNet dst) i.enabled) := by
  induction ifs generalizing k with
  | nil => rfl
  | cons i is ih =>
    simp only [firstEnabledIn, List.any_cons, Gen.Forward.hostOnLink]
    by_cases h : (i.inNet dst && i.enabled) = true
    · simp [h]
    · have h' : (i.inNet dst && i.enabled) = false := by simpa using h
      simp only [h', Bool.false_eq_true, if_false, Bool.false_or]
      rw [ih (k + 1)]
      rfl

/-- what `resolve_outbound_transmission_details` does when it falls back to the gateway `g`: nothing here mentions the
destination. -/
def gatewayDetails (fuel : Nat) (st : St) (n : Nat) (g : Ip) : St × Option Mac × Option Nat :=
  let r2 := arpMac fuel st n g false false
  match r2.1.node? n with
  | none => (r2.1, r2.2, none)
  | some nd' =>
    if nd'.ifaces.any (·.enabled) then
      let r3 := arpIfc fuel r2.1 n g false false
      (r3.1, r2.2, r3.2)
    else (r2.1, r2.2, none)

/-- **A host's next hop for an off-link destination is always the default gateway** — whatever the ARP cache contains (in
particular when it contains an entry for the destination itself, learned from a frame some router delivered), at every fuel,
in every state: the resolution is literally the gateway's, and the destination does not occur in it. -/
theorem C08_host_offlink_next_hop_is_gateway (fuel : Nat) (st : St) (n : Nat) (nd : Node) (dst g : Ip)
    (hn : st.node? n = some nd) (hk : nd.kind = .host)
    (hoff : hostNextHopIp nd.ifaces nd.gateway dst = some g) (hne : firstEnabledIn nd.ifaces dst 0 = none) :
    resolveDetails (fuel + 1) st n dst = gatewayDetails fuel st n g := by
  have hg : nd.gateway = some g := by
    unfold hostNextHopIp at hoff
    rw [← firstEnabledIn_isSome nd.ifaces dst 0, hne] at hoff
    simpa using hoff
  simp only [resolveDetails, hn, hne, hk, hg, gatewayDetails]
  rfl

/-- … so any two off-link destinations are sent to the same next hop, … -/
theorem C08_host_offlink_same_next_hop (fuel : Nat) (st : St) (n : Nat) (nd : Node) (dst dst' g : Ip)
    (hn : st.node? n = some nd) (hk : nd.kind = .host) (hg : nd.gateway = some g)
    (h1 : firstEnabledIn nd.ifaces dst 0 = none) (h2 : firstEnabledIn nd.ifaces dst' 0 = none) :
    resolveDetails (fuel + 1) st n dst = resolveDetails (fuel + 1) st n dst' := by
  have e : ∀ d, firstEnabledIn nd.ifaces d 0 = none → hostNextHopIp nd.ifaces nd.gateway d = some g := by
    intro d hd
    unfold hostNextHopIp
    rw [← firstEnabledIn_isSome nd.ifaces d 0, hd]
    simpa using hg
  rw [C08_host_offlink_next_hop_is_gateway fuel st n nd dst g hn hk (e dst h1) h1,
    C08_host_offlink_next_hop_is_gateway fuel st n nd dst' g hn hk (e dst' h2) h2]

/-- … and a cached entry for the destination is NOT used: with `dst ↦ m'` (e.g. the MAC of the router that delivered a frame
from `dst`) AND the gateway in the cache, the frame goes to the gateway's MAC. -/
theorem C08_host_cached_remote_still_via_gateway (fuel : Nat) (st : St) (n : Nat) (nd : Node) (dst g : Ip) (ed e : ArpEntry)
    (hn : st.node? n = some nd) (hk : nd.kind = .host) (hg : nd.gateway = some g)
    (hne : firstEnabledIn nd.ifaces dst 0 = none) (_hed : nd.arpGet dst = some ed) (he : nd.arpGet g = some e)
    (hen : nd.ifaces.any (·.enabled) = true) :
    resolveDetails (fuel + 2) st n dst = (st, some e.mac, some e.ifc) :=
  C08_host_resolves_gateway fuel st n nd dst g e hn hk hne hg he hen

/-- the complementary case, for completeness: the destination's own entry is consulted exactly when the pure function says
"on-link". -/
theorem C08_host_next_hop_ip_spec (ifs : List Iface) (gw : Option Ip) (dst : Ip) :
    hostNextHopIp ifs gw dst = if (firstEnabledIn ifs dst 0).isSome then some dst else gw := by
  unfold hostNextHopIp
  rw [firstEnabledIn_isSome]

/-- Gen obligation for the application exchange of the model (`appReq` / `appRep`): the receiver is found under the frame's
(destination port, protocol), answers go to the request's source. -/
theorem C08_gen_app_receive : Gen.Forward.appReceiverByPortProtocolReplyToSource = true := by decide

/-! non-vacuity: a host whose cache maps the remote address to a NON-gateway router still uses the gateway -/
def hhA : Node :=
  { kind := .host, gateway := some 0xC0A80101#32,
    ifaces := [{ mac := 1, ip := 0xC0A80102#32, plen := 24, enabled := true, peer := some (1, 0) }],
    arp := [{ ip := 0xC0A80101#32, mac := 21, ifc := 0 }, { ip := 0xC0A8020A#32, mac := 31, ifc := 0 }] }
example : hostNextHopIp hhA.ifaces hhA.gateway 0xC0A8020A#32 = some 0xC0A80101#32 := by decide
example : resolveDetails 5 { nodes := [hhA] } 0 0xC0A8020A#32 = ({ nodes := [hhA] }, some 21, some 0) :=
  C08_host_cached_remote_still_via_gateway 3 _ 0 hhA _ _ { ip := 0xC0A8020A#32, mac := 31, ifc := 0 }
    { ip := 0xC0A80101#32, mac := 21, ifc := 0 } rfl rfl rfl (by decide) (by decide) (by decide) (by decide)

end Primaite.Forward
