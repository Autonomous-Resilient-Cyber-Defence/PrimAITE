/-
C05 (dynamic sites) — the route of a component is registered / un-registered UNCONDITIONALLY with respect to power and
operating state, under the guards of the statement that makes the component exist and, beyond those, only "already there" /
"of the other software kind" tests; hence, for EVERY construction
order (owner ON or OFF when a NIC / software / folder / file / node is added or removed, any interleaving with power events),
a component exists iff its route exists.  Seeded C05-e's class (a component that exists but whose route was registered
conditionally) breaks the table theorem and is the counterexample of the general one.
-/
import PrimaiteModel.Model.Schema
import PrimaiteModel.Gen.RequestSites
namespace Primaite.Schema
open Primaite.Request (Key)
open Primaite.Gen.RequestSites (sites Site)

/-- (table, regenerated) at EVERY dynamic `add_request` / `remove_request` site of the source: no guard reads a power /
operating / enabled state; the guards the site has in addition to the statement that (un)registers the component in the
object graph are only "already there" / "of the other software kind" tests (never `state`, never unclassified); and every
dynamic level has an add site. -/
theorem C05_gen_sites_unconditional :
    (∀ s ∈ sites, s.readsState = false) ∧
    (∀ s ∈ sites, ∀ k ∈ s.extraKinds, k = "presence" ∨ k = "type") ∧
    (∀ s ∈ sites, s.registry ≠ "") ∧
    (∀ lv ∈ [Level.node, .service, .application, .nic, .folder, .file], ∃ s ∈ sites, s.isAdd = true ∧ s.level = lv) := by
  decide +kernel

/-- does the site of level `lv` run when the owner's power state is `on`?  Read from the regenerated table: a site whose guards
read state is taken to run only while ON (the worst case, C05-e); any other site always runs. -/
def genRegisters (lv : Level) (on : Bool) : Bool :=
  on || !(sites.any (fun s => s.level == lv && s.readsState))

theorem genRegisters_always : ∀ lv on, genRegisters lv on = true := by
  intro lv on
  have h := C05_gen_sites_unconditional.1
  simp only [genRegisters, Bool.or_eq_true, Bool.not_eq_true', List.any_eq_false, Bool.and_eq_true, beq_iff_eq, not_and,
    Bool.not_eq_true]
  exact Or.inr (fun s hs _ => h s hs)

/-- (general) when every site always runs, routes and registry evolve in lock-step: for EVERY operation sequence from a
consistent state the keys of the dynamic managers are exactly the components that exist. -/
theorem C05_exists_iff_route (registers : Level → Bool → Bool) (hall : ∀ lv on, registers lv on = true) :
    ∀ (ops : List COp) (s : CState), s.routes = s.comps → (crun registers s ops).routes = (crun registers s ops).comps := by
  intro ops
  induction ops with
  | nil => intro s h; exact h
  | cons op rest ih =>
    intro s h
    simp only [crun, List.foldl_cons]
    apply ih
    cases op with
    | power b => exact h
    | add lv k => simp [cstep, hall, h]
    | remove lv k => simp [cstep, hall, h]

/-- the regenerated sites: for every construction order, exists ⇔ route exists -/
theorem C05_regenerated_exists_iff_route (ops : List COp) (on : Bool) :
    (crun genRegisters ⟨on, [], []⟩ ops).routes = (crun genRegisters ⟨on, [], []⟩ ops).comps :=
  C05_exists_iff_route genRegisters genRegisters_always ops _ rfl

/-- in particular: whatever the order, a component that exists has a route and a route names a component that exists -/
theorem C05_exists_implies_route (ops : List COp) (on : Bool) (lv : Level) (k : Key) :
    (lv, k) ∈ (crun genRegisters ⟨on, [], []⟩ ops).comps ↔ (lv, k) ∈ (crun genRegisters ⟨on, [], []⟩ ops).routes := by
  rw [C05_regenerated_exists_iff_route]

/-- COUNTEREXAMPLE for a power-guarded site (seeded C05-e): the NIC of a node that is OFF when the interface is connected
exists — and still has no route after the node is powered on. -/
theorem C05_guarded_site_counterexample :
    let guarded : Level → Bool → Bool := fun lv on => if lv = .nic then on else true
    let s := crun guarded ⟨false, [], []⟩ [.add .nic "i:1", .power true]
    (Level.nic, "i:1") ∈ s.comps ∧ (Level.nic, "i:1") ∉ s.routes ∧ s.on = true := by
  decide

example : (crun genRegisters ⟨false, [], []⟩
    [.add .nic "i:1", .add .service "dns-client", .add .folder "root", .power true, .add .file "a.txt",
     .remove .service "dns-client", .power false, .add .application "nmap"]).routes =
    [(.application, "nmap"), (.file, "a.txt"), (.folder, "root"), (.nic, "i:1")] := by decide +kernel

end Primaite.Schema
