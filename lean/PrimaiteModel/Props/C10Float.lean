/-
C10, floats — what IEEE arithmetic keeps of the two sums (step reward = Σ wᵢ·cᵢ, episode total = Σ rₖ): the forward rounding
bound of Lemmas/RewardRounding.lean (abstract rounding function with relative error ≤ u on any linearly ordered field),
instantiated at the model's carrier and tied to `updateComps`.  (Mathlib: ordered-field structure of `Rat`.)
-/
import PrimaiteModel.Props.C10
import PrimaiteModel.Lemmas.RewardRounding
import Mathlib.Algebra.Order.Field.Rat
namespace Primaite.Reward
open Primaite.RewardGraph

theorem rounding_sum_eq (l : List Val) : Rounding.sum l = l.sum := by
  induction l with
  | nil => rfl
  | cons t ts ih => simp only [Rounding.sum, List.sum_cons, ih]

/-- **Step reward in rounded arithmetic.** Let `fl` be ANY rounding function with relative error at most `u`
(`|fl x − x| ≤ u·|x|`; IEEE doubles: `u = 2⁻⁵³`). The loop of `RewardFunction.update` carried out in that arithmetic —
`acc ← fl (acc + fl (w · c))` over the model's components in the model's order — ends within
`((1+u)ⁿ⁺¹ − 1) · Σ|wᵢ·cᵢ|` of the exact weighted sum the model computes. (The rig uses exactly this factor.) -/
theorem C10_float_weighted_sum_error (fl : Val → Val) (u : Val) (hu : 0 ≤ u) (hfl : ∀ x, |fl x - x| ≤ u * |x|)
    (s : SimState) (it : Item) (cur : Name → Val) (comps : List (Comp × Val)) :
    |Rounding.flWeightedFold fl 0 (comps.map (fun cw => (cw.2, (calcComp s it cur cw.1).1))) - (updateComps s it cur 0 comps).1| ≤
      ((1 + u) ^ (comps.length + 1) - 1) *
        Rounding.sumAbs (comps.map (fun cw => cw.2 * (calcComp s it cur cw.1).1)) := by
  have h := Rounding.flWeightedFold_error fl u hu hfl (comps.map (fun cw => (cw.2, (calcComp s it cur cw.1).1)))
  rw [List.map_map, List.length_map, rounding_sum_eq] at h
  rw [C10_weighted_sum]
  exact h

/-- **Episode total in rounded arithmetic.** `total_reward += current_reward` carried out with rounding, over the step
rewards `r₁ … rₙ` of an episode, ends within `((1+u)ⁿ − 1) · Σ|rₖ|` of their exact sum. -/
theorem C10_float_total_error (fl : Val → Val) (u : Val) (hu : 0 ≤ u) (hfl : ∀ x, |fl x - x| ≤ u * |x|) (rs : List Val) :
    |Rounding.flSum fl 0 rs - rs.sum| ≤ ((1 + u) ^ rs.length - 1) * Rounding.sumAbs rs := by
  rw [← rounding_sum_eq]
  exact Rounding.flSum_error fl u hu hfl rs

/-- non-vacuity: exact arithmetic is such an `fl` (with `u = 0`, the bound is 0: the rounded loop IS the weighted sum), and a
genuinely rounding `fl` exists for every `u ≥ 0` (`fl x = x·(1+u)`) -/
example : ∀ x : Val, |id x - x| ≤ 0 * |x| := by intro x; simp
example (u : Val) (hu : 0 ≤ u) : ∀ x : Val, |x * (1 + u) - x| ≤ u * |x| := by
  intro x
  have : x * (1 + u) - x = u * x := by ring
  rw [this, abs_mul, abs_of_nonneg hu]

end Primaite.Reward
