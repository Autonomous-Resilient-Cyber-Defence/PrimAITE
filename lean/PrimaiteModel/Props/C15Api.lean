/-
Property C15: the Python-API entry points of the file system (`create_file(force)`, `copy_file`,
`move_file`, `add_file(force)`, `delete_*_by_id`, `remove_file_by_id`) keep the structural invariant `Inv` too, in any
interleaving with requests and ticks; what they answer; `num_access` and the per-tick counters under them; every
request path (truncated, over-long, unknown) gets an answer that the model states.
-/
import PrimaiteModel.Lemmas.FileSystemChange
import PrimaiteModel.Props.C15
import PrimaiteModel.Gen.FileSystemMethods
namespace Primaite.FileSystem

/-- The side condition of an operation: only a `move_file` that really moves has one (the moved file's uuid is not already
in the destination folder — cross-folder uuid disjointness is not part of `Inv`); a move within one folder or onto a live
namesake, being a no-op, has none. -/
def AnyOp.ok (s : State) : AnyOp → Prop
  | .api (.moveFile F x G) => MoveFresh s F x G
  | _ => True

/-- A `move_file` within one folder meets the side condition by itself (it is a no-op: the folder has a live file of
that name — the file itself), and so does a move of a file that does not exist. -/
theorem C15_api_move_within_folder_ok (s : State) (F x : Name) : MoveFresh s F x F := by
  intro f hf hnone
  exfalso
  unfold getFile at hf
  cases hsrc : getFolder s F with
  | none => rw [hsrc] at hf; simp at hf
  | some src =>
    rw [hsrc] at hf
    simp only at hf
    have hdst : (getOrCreateFolder s F).2 = src := by unfold getOrCreateFolder; rw [hsrc]
    rw [hdst, (getFile_live hf).2, hf] at hnone
    simp at hnone

theorem C15_api_move_missing_ok (s : State) (F x G : Name) (h : getFile s F x = none) : MoveFresh s F x G := by
  intro f hf; rw [h] at hf; simp at hf

/-- Every API operation keeps `Inv` (for `move_file`: given that the moved uuid is new to the destination).
(`Props/C15Disjoint.lean` proves that side condition in every reachable state — `C15_inv2_api_step`,
`C15_any_inv_reachable_full` are the unconditional forms.) -/
theorem C15_api_inv_step_partial {s : State} (h : Inv s) (op : ApiOp) (hok : AnyOp.ok s (.api op)) : Inv (stepApi s op).1 := by
  by_cases hm : ∃ F x G, op = .moveFile F x G
  · obtain ⟨F, x, G, rfl⟩ := hm
    exact inv_apiMoveFile h F x G hok
  · exact (change_stepApi h op (fun F x G e => hm ⟨F, x, G, e⟩)).inv h

/-- Without `move_file` no side condition is needed. -/
theorem C15_api_inv_step {s : State} (h : Inv s) (op : ApiOp) (hm : ∀ F x G, op ≠ .moveFile F x G) : Inv (stepApi s op).1 := by
  apply C15_api_inv_step_partial h op
  cases op <;> first | trivial | exact absurd rfl (hm _ _ _)

/-- The side conditions along a run. -/
def runOk (s : State) : List AnyOp → Prop
  | [] => True
  | op :: ops => AnyOp.ok s op ∧ runOk (stepAny s op).1 ops

theorem C15_any_inv_step {s : State} (h : Inv s) (op : AnyOp) (hok : AnyOp.ok s op) : Inv (stepAny s op).1 := by
  cases op with
  | req op => exact C15_inv_step h op
  | api op => exact C15_api_inv_step_partial h op hok

/-- Requests, ticks and API calls in ANY interleaving keep `Inv`. -/
theorem C15_any_inv_run {s : State} (h : Inv s) (ops : List AnyOp) (hok : runOk s ops) : Inv (runAny s ops).1 := by
  induction ops generalizing s with
  | nil => exact h
  | cons op ops ih => exact ih (C15_any_inv_step h op hok.1) hok.2

theorem C15_any_inv_reachable (d : Option Int) (ops : List AnyOp) (hok : runOk (init d) ops) :
    Inv (runAny (init d) ops).1 :=
  C15_any_inv_run (C15_inv_init d) ops hok

/-- Non-vacuity: a run with a copy onto a live namesake, a forced add onto a live namesake and a real move; the side
condition holds and the result has the copy live, the namesakes deleted, the moved file in its new folder only. -/
def exOps4 : List AnyOp := [.req (.createFile "fa" "a" false), .req (.createFile "fb" "a" false),
  .api (.copyFile "fa" "a" "fb"), .api (.addFile "fa" "a" true)]

example :
    runOk (init none) (exOps4 ++ [.api (.moveFile "fb" "a" "fc")]) ∧
    ((runAny (init none) (exOps4 ++ [.api (.moveFile "fb" "a" "fc")])).1.folders.map
        fun g => (g.name, g.files.map File.id, g.deletedFiles.map File.id)) =
      [("root", [], []), ("fa", [6], [2]), ("fb", [], [4]), ("fc", [5], [])] := by
  refine ⟨⟨trivial, trivial, trivial, trivial, ?_, trivial⟩, by decide⟩
  intro f _ _ a ha
  have e1 : (getOrCreateFolder (runAny (init none) exOps4).1 "fc").2.files = [] := by decide
  have e2 : (getOrCreateFolder (runAny (init none) exOps4).1 "fc").2.deletedFiles = [] := by decide
  have ha' : a ∈ (getOrCreateFolder (runAny (init none) exOps4).1 "fc").2.files ∨
      a ∈ (getOrCreateFolder (runAny (init none) exOps4).1 "fc").2.deletedFiles := ha
  rw [e1, e2] at ha'
  simp at ha'

/-- Why the two repairs were needed (the model of the code BEFORE them, in miniature): adding a second live file of a
live name with plain `addFile` — what `add_file(force=True)` did — breaks the invariant. -/
theorem C15_forced_add_without_removal_counterexample :
    ∃ g f, FolderInv g ∧ ¬ FolderInv (g.addFile f) := by
  refine ⟨{ id := 1, name := "fa", files := [{ id := 2, name := "a" }], fileRoutes := [("a", 2)] }, { id := 3, name := "a" }, ?_, ?_⟩
  · constructor <;> simp [lookupRoute]
  · intro h
    have := h.uniqueNames { id := 2, name := "a" } (by simp [Folder.addFile, dictSet]) { id := 3, name := "a" }
      (by simp [Folder.addFile, dictSet]) rfl
    simp at this

/-- `create_file(force=True)` called directly is exactly the forced create request. -/
theorem C15_api_create_is_request (s : State) (F x : Name) :
    apiCreateFile s F x true = createFile s F x true := by
  unfold apiCreateFile createFile
  generalize createFileTarget s F = r
  obtain ⟨s1, og⟩ := r
  cases og <;> simp

theorem C15_api_copy_move_never_raise (s : State) (F x G : Name) :
    (stepApi s (.copyFile F x G)).2 = .success ∧ (stepApi s (.moveFile F x G)).2 = .success := by
  constructor
  · simp only [stepApi, apiCopyFile]; split <;> rfl
  · simp only [stepApi, apiMoveFile]
    repeat' split
    all_goals rfl

theorem stepApi_raised_or_success (s : State) (op : ApiOp) : stepApi s op = (s, .raised) ∨ (stepApi s op).2 = .success := by
  cases op with
  | createFile F x force =>
    simp only [stepApi, apiCreateFile]
    have ht := createFileTarget_unchanged_or_fresh s F
    rcases hT : createFileTarget s F with ⟨s1, _ | g⟩ <;> rw [hT] at ht <;> simp only at ht ⊢
    · rcases ht with rfl | ⟨g, hg, _⟩
      · exact Or.inl rfl
      · cases hg
    · split
      · -- refused: the folder was there before, for a folder made on the way is empty
        rename_i hc
        rcases ht with rfl | ⟨g', hg, hfiles⟩
        · exact Or.inl rfl
        · cases hg
          simp [Folder.getFile, hfiles] at hc
      · exact Or.inr (createFileIn_out s1 g x)
  | copyFile F x G => exact Or.inr (C15_api_copy_move_never_raise s F x G).1
  | moveFile F x G => exact Or.inr (C15_api_copy_move_never_raise s F x G).2
  | addFile F x force =>
    simp only [stepApi, apiAddFile]
    cases getFolder s F with
    | none => exact Or.inr rfl
    | some g =>
      simp only
      split
      · exact Or.inl rfl
      · exact Or.inr rfl
  | deleteFileById i j =>
    simp only [stepApi, apiDeleteFileById]
    repeat' split
    all_goals exact Or.inr rfl
  | deleteFolderById i =>
    simp only [stepApi, apiDeleteFolderById]
    split
    · exact Or.inl rfl
    · exact Or.inr rfl
  | removeFileById i j =>
    simp only [stepApi, apiRemoveFileById]
    split
    · exact Or.inr rfl
    · split
      · exact Or.inl rfl
      · exact Or.inr rfl

theorem C15_api_raise_changes_nothing (s : State) (op : ApiOp) (hr : (stepApi s op).2 = .raised) : (stepApi s op).1 = s := by
  rcases stepApi_raised_or_success s op with e | e
  · rw [e]
  · rw [e] at hr; cases hr

/-- After `move_file` that found its file and a destination without a live namesake, the file is live in the
destination, no longer in the source (neither live nor deleted there unless it was before), and not flagged. -/
theorem C15_api_move_moves {s : State} (h : Inv s) {src : Folder} {f : File} {F x G : Name}
    (hsrc : getFolder s F = some src) (hf : src.getFile x = some f)
    (hfree : ((getOrCreateFolder s G).2.getFile f.name) = none) :
    ∃ dst ∈ (apiMoveFile s F x G).1.folders, dst.name = G ∧ f ∈ dst.files ∧ f.deleted = false ∧
      ∃ src' ∈ (apiMoveFile s F x G).1.folders, src'.id = src.id ∧ ∀ a ∈ src'.files, a.id ≠ f.id := by
  obtain ⟨hsm, _⟩ := getFolder_live hsrc
  obtain ⟨hfm, _⟩ := getFile_live hf
  have hfl : f.deleted = false := (h.folder src (Or.inl hsm)).1.liveFlag f hfm
  obtain ⟨h1, hm, hn, _⟩ := getOrCreateFolder_spec h G
  have hsm1 := mem_getOrCreateFolder_of_live h hsm G
  have hne : (getOrCreateFolder s G).2.id ≠ src.id := id_ne_of_getFile_none h1 hsm1 hm hfm hfree
  unfold apiMoveFile
  rw [hsrc]; simp only [hf]
  rw [hfree]
  simp only [Option.isSome_none, Bool.false_eq_true, if_false]
  generalize getOrCreateFolder s G = r at h1 hm hn hsm1 hne ⊢
  have hb1 : (r.2.id == src.id) = false := by simpa using hne
  have hb2 : (src.id == r.2.id) = false := by simpa using fun e => hne e.symm
  refine ⟨r.2.addFile f, ?_, ?_, ?_, hfl, { src with files := dictPop File.id src.files f.id }, ?_, rfl, ?_⟩
  · show _ ∈ (updFolder (updFolder r.1 src.id _) r.2.id _).folders
    unfold updFolder
    refine List.mem_map.mpr ⟨r.2, List.mem_map.mpr ⟨r.2, hm, by simp [hb1]⟩, by simp⟩
  · simp [Folder.addFile]; exact hn
  · simp only [Folder.addFile]; exact (mem_dictSet File.id).mpr (Or.inl rfl)
  · show _ ∈ (updFolder (updFolder r.1 src.id _) r.2.id _).folders
    unfold updFolder
    refine List.mem_map.mpr ⟨{ src with files := dictPop File.id src.files f.id }, List.mem_map.mpr ⟨src, hsm1, by simp⟩, by simp [hb2]⟩
  · intro a ha
    exact ((mem_dictPop File.id).mp ha).2

/-- Every API operation other than `move_file` keeps every folder uuid and, per folder, every file uuid ("never
neither"); a forced add moves the replaced namesake to the deleted dictionary, it does not drop it. (`move_file` takes
the file out of its folder by design: see `C15_api_move_moves`.) -/
theorem C15_api_no_item_lost {s : State} (h : Inv s) (op : ApiOp) (hm : ∀ F x G, op ≠ .moveFile F x G) :
    Keeps s (stepApi s op).1 :=
  (change_stepApi h op hm).keeps h

/-- `pre_timestep` starts the tick with `num_access = 0` on every live file of every live folder — whatever requests
and API calls came before (files in `deleted_files` and files of deleted folders are NOT reset: they keep the access
their deletion counted; stated as the code is). -/
theorem C15_num_access_zero_at_tick_start (x : XState) :
    ∀ g ∈ (stepX x .preTick).1.s.folders, ∀ f ∈ g.files, (stepX x .preTick).1.acc f.id = 0 := by
  intro g hg f hf
  have hs : (stepX x .preTick).1.s.folders = x.s.folders := rfl
  rw [hs] at hg
  have hany : x.s.folders.any (fun g => g.files.any (fun y => y.id == f.id)) = true := by
    simp only [List.any_eq_true, beq_iff_eq]
    exact ⟨g, hg, f, hf, rfl⟩
  show (if x.s.folders.any (fun g => g.files.any (fun y => y.id == f.id)) = true then 0 else _) = 0
  rw [if_pos hany]

/-- and both per-tick counters are zero then, also when the history contains API calls. -/
theorem C15_counters_zero_at_tick_start_any (s : State) (ops : List AnyOp) :
    (step (runAny s ops).1 .preTick).1.numCreations = 0 ∧ (step (runAny s ops).1 .preTick).1.numDeletions = 0 :=
  ⟨rfl, rfl⟩

/-- A successful `access` request counts exactly one access, on the file it names. -/
theorem C15_access_counts (x : XState) {F n : Name} {f : File} (hf : getFile x.s F n = some f) :
    (stepX x (.access F n)).2 = .success ∧ (stepX x (.access F n)).1.acc f.id = x.acc f.id + 1 ∧
    ∀ i, i ≠ f.id → (stepX x (.access F n)).1.acc i = x.acc i := by
  refine ⟨?_, ?_, ?_⟩
  · show (access x.s F n).2 = .success
    simp [access, hf, ofBool]
  · show bump x.acc (reqTouch x (.access F n)) f.id = _
    simp [bump, reqTouch, hf]
  · intro i hi
    show bump x.acc (reqTouch x (.access F n)) i = _
    simp only [bump, reqTouch, hf]
    rw [List.count_eq_zero.mpr (by simp; exact hi)]; rfl

/-- The ledger never influences the structure or an answer: the structural component of the extended step is the
structural step. -/
theorem C15_ledger_is_passive (x : XState) (op : AnyOp) :
    (stepXAny x op).1.s = (stepAny x.s op).1 ∧ (stepXAny x op).2 = (stepAny x.s op).2 := by
  cases op <;> exact ⟨rfl, rfl⟩

theorem getOrCreateFolder_counters (s : State) (G : Name) :
    (getOrCreateFolder s G).1.numCreations = s.numCreations ∧ (getOrCreateFolder s G).1.numDeletions = s.numDeletions := by
  unfold getOrCreateFolder
  split
  · exact ⟨rfl, rfl⟩
  · exact createFolder_counters s G

theorem C15_api_copy_counts (s : State) (F x G : Name) (f : File) (hf : getFile s F x = some f) :
    (stepApi s (.copyFile F x G)).1.numCreations = s.numCreations + 1 ∧
    (stepApi s (.copyFile F x G)).1.numDeletions = s.numDeletions := by
  simp only [stepApi, apiCopyFile, hf]
  have hc := getOrCreateFolder_counters s G
  exact ⟨by simp [hc.1], by simp [updFolder, hc.2]⟩

/-- `Folder.restore_file` as translated statement by statement from folder.py is the model's `Folder.restoreFile`,
for every folder and name. -/
theorem C15_gen_restore_file (g : Folder) (n : Name) :
    Gen.FileSystemMethods.folderRestoreFile g n = g.restoreFile n := by
  unfold Gen.FileSystemMethods.folderRestoreFile Folder.restoreFile
  cases g.getFile n true <;> simp [File.restore]

/-- `Folder.add_file` as translated from folder.py is the model's `Folder.addFileApi` (refusals, forced replacement of
a live namesake, registration), for every folder, file and force flag. -/
theorem C15_gen_add_file (g : Folder) (f : File) (force : Bool) :
    Gen.FileSystemMethods.folderAddFile g f force = g.addFileApi f force := by
  unfold Gen.FileSystemMethods.folderAddFile Folder.addFileApi Folder.addFileForced Folder.addFile
  cases g.getFile f.name false <;> cases force <;> simp
  all_goals (split <;> simp_all)

/-- The model's request-level `create_file` uses `addFile` directly; that is what `add_file` does in both situations it
is called in (re-adding the file `get_file` found, or adding a new file whose name is not live). -/
theorem C15_create_file_uses_add_file (g : Folder) (x : Name) (i : Nat) :
    (∀ f, g.getFile x = some f → g.addFileApi f true = some (g.addFile f)) ∧
    (g.getFile x = none → ∀ force, (∀ y ∈ g.files, y.id ≠ i) → g.addFileApi { id := i, name := x } force = some (g.addFile { id := i, name := x })) :=
  ⟨fun _ hf => addFileApi_existing hf true, fun hf force hid => addFileApi_new (f := { id := i, name := x }) hf hid force⟩

/-- `resolve` extends `ofRequest`: a well-formed path denotes the same operation. -/
theorem C15_resolve_extends (s : State) (req : List String) (op : Op) (h : ofRequest req = some op) :
    resolve s req = .inl op := by
  unfold ofRequest at h
  split at h
  all_goals first
    | (simp only [Option.some.injEq] at h; subst h; simp [resolve]; done)
    | (split at h
       · simp at h
       · rename_i hv
         simp only [Option.some.injEq] at h; subst h; simp only [not_or] at hv; simp [resolve, hv.1, hv.2])
    | simp at h

/-- Malformed paths on the initial file system: a leaf handler that lacks an option answers `failure` (repair F-C05-2 turned
its `IndexError` into a refusal), like a validator that lacks one; an empty path or an unknown key is `unreachable`; some truncated
paths are operations with an unknown verb; trailing extra elements are ignored. -/
example :
    resolve (init none) ["create", "file", "fa"] = .inr .failure ∧ resolve (init none) ["create", "folder"] = .inr .failure ∧
    resolve (init none) ["restore", "file", "root"] = .inr .failure ∧ resolve (init none) ["restore", "folder"] = .inr .failure ∧
    resolve (init none) ["access", "root"] = .inr .failure ∧ resolve (init none) ["folder", "root", "delete"] = .inr .failure ∧
    resolve (init none) ["folder", "nosuch", "delete"] = .inr .failure ∧
    resolve (init none) [] = .inr .unreachable ∧ resolve (init none) ["delete", "file", "root"] = .inr .failure ∧
    resolve (init none) ["folder"] = .inr .failure ∧ resolve (init none) ["folder", "root", "file"] = .inr .failure ∧
    resolve (init none) ["folder", "root"] = .inl (.folderVerb "root" .other) ∧
    resolve (init none) ["create", "folder", "x", "extra"] = .inl (.createFolder "x") := by
  decide

end Primaite.FileSystem
