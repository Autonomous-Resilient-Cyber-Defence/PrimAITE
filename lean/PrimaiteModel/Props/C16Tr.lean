/-
C16 — the decision methods TRANSLATED from the source (`Gen/SessionTr.lean`, written by
`harness/extract/session_tr.py`: a symbolic execution of the method bodies, statement by statement) are proved equal to what the
model does, for EVERY state:

* `C16_gen_pre_timestep`      `UserSessionManager.pre_timestep` followed by `_timeout_session` IS the model's `preTimestepNode`,
                              whatever the node's power state and the service's operating state (the time-out needs no service);
* `C16_gen_session_validation` `validate_remote_session_uuid` / `Terminal._check_client_connection` = `hasSession` / `hasConn` and the
                              tear-down branch of `opRemoteCmdK`;
* `C16_gen_login_guards`      `authenticate_user`, `_can_perform_action`, `remote_session_limit_reached`, `_login` = `Node.authenticate`,
                              `Node.canUm` / `canUsm`, `Node.loginOk` and the limit test of `opRemoteLogin`;
* `C16_gen_disable_user`      `disable_user` / `_is_last_admin` = the decision of `opDisableUser`.

The counter-models at the end show what a change like the blind change C16-g (`pre_timestep` returning early while the service is not
RUNNING) does to the first theorem: the translated function then differs from the model at a concrete state.
-/
import PrimaiteModel.Model.Session
import PrimaiteModel.Gen.SessionTr
namespace Primaite.Session

/-! ### the inactivity time-out -/

/-- what `_timeout_session(session)` does on node `y` (`session.local` decides; compared as text by `C16_gen_timeout_path`) -/
def timeoutDispatch (y : Nat) (m : Net) : LSession ⊕ RSession → Net
  | .inl _ => m.upd y Node.clearLoc
  | .inr s => timeoutRemote m y s

/-- `pre_timestep` as translated, run on node `y` of the network: the sessions it selects, each handed to `_timeout_session` -/
def preTimestepTranslated (nodeOn running : Bool) (n : Net) (y : Nat) : Net :=
  match n.node y with
  | none => n
  | some nd =>
    (Gen.SessionTr.preTimestepInactive nodeOn running (fun l : LSession => l.last) (fun s : RSession => s.last)
        nd.localTimeout nd.remoteTimeout n.time nd.loc nd.rem).foldl (timeoutDispatch y) n

/-- the two time-out decisions, whatever shape the source gives them (`<=`, `>=` turned round, `not (… > …)`, …), are
"`last_active_step + time-out ≤ timestep`" — whatever the power / service state -/
theorem C16_gen_timeout_tests (nodeOn running : Bool) (last tmo t : Nat) :
    Gen.SessionTr.preTimestepLocalTest nodeOn running last tmo t = decide (last + tmo ≤ t) ∧
    Gen.SessionTr.preTimestepRemoteTest nodeOn running last tmo t = decide (last + tmo ≤ t) := by
  unfold Gen.SessionTr.preTimestepLocalTest Gen.SessionTr.preTimestepRemoteTest
  constructor <;> rw [Bool.eq_iff_iff] <;> cases nodeOn <;> cases running <;> simp <;> omega

theorem C16_gen_pre_timestep_fold (nodeOn running : Bool) (n : Net) (y : Nat) (loc : Option LSession) (rem : List RSession) (lt rt t : Nat) :
    (Gen.SessionTr.preTimestepInactive nodeOn running (fun l : LSession => l.last) (fun s : RSession => s.last) lt rt t loc rem).foldl
        (timeoutDispatch y) n =
      (rem.filter (fun s => decide (s.last + rt ≤ t))).foldl (fun m s => timeoutRemote m y s)
        (if (match loc with | some l => decide (l.last + lt ≤ t) | none => false) = true then n.upd y Node.clearLoc else n) := by
  unfold Gen.SessionTr.preTimestepInactive
  simp only [(C16_gen_timeout_tests _ _ _ _ _).1, (C16_gen_timeout_tests _ _ _ _ _).2]
  cases nodeOn <;> cases running <;> cases loc with
  | none => simp [timeoutDispatch, List.foldl_map]
  | some l =>
    by_cases hc : l.last + lt ≤ t <;> simp [hc, timeoutDispatch, List.foldl_map]

/-- **Gen, semantic.** For every network, every node, every power state and every state of the user-session-manager service:
the translated `pre_timestep` does exactly what the model's time-out step does. In particular the service's state is irrelevant —
a session idle past its time-out is ended while the service is STOPPED / PAUSED / DISABLED too. -/
theorem C16_gen_pre_timestep (nodeOn running : Bool) (n : Net) (y : Nat) :
    preTimestepTranslated nodeOn running n y = preTimestepNode n y := by
  unfold preTimestepTranslated preTimestepNode
  cases hn : n.node y with
  | none => rfl
  | some nd =>
    simp only []
    rw [C16_gen_pre_timestep_fold]
    rfl

theorem C16_gen_pre_timestep_notes : Gen.SessionTr.preTimestepNotes = ["sets-current"] := rfl

/-! ### session validation -/

theorem contains_map_eq_any {α : Type} (f : α → Nat) (l : List α) (cid : Nat) :
    (l.map f).contains cid = l.any (fun s => f s == cid) := by
  induction l with
  | nil => rfl
  | cons a t ih => simp only [List.map_cons, List.contains_cons, List.any_cons, ih]; rw [Bool.beq_comm]

/-- **Gen, semantic.** `validate_remote_session_uuid` is the model's `hasSession`; `_check_client_connection` answers "listed session and
known connection" and calls `_disconnect` exactly when the session is not listed — the three branches of `opRemoteCmdK`. -/
theorem C16_gen_session_validation (nd : Node) (cid : Nat) :
    Gen.SessionTr.validateRemoteSessionUuid (nd.rem.map (·.id)) cid = nd.hasSession cid ∧
    Gen.SessionTr.checkClientConnection (nd.rem.map (·.id)) (nd.conns.map (·.id)) cid
      = (nd.hasSession cid && nd.hasConn cid, !nd.hasSession cid) := by
  unfold Gen.SessionTr.checkClientConnection Gen.SessionTr.validateRemoteSessionUuid Node.hasSession Node.hasConn
  rw [contains_map_eq_any, contains_map_eq_any]
  cases nd.rem.any (fun s => s.id == cid) <;> simp

/-! ### logins -/

/-- the atoms of `authenticate_user` read off the model state -/
def Node.acctFound (nd : Node) (u : String) : Bool := (nd.findUser u).isSome
def Node.acctDisabled (nd : Node) (u : String) : Bool := match nd.findUser u with | some w => w.disabled | none => false
def Node.acctPwOk (nd : Node) (u p : String) : Bool := match nd.findUser u with | some w => w.password == p | none => false

/-- **Gen, semantic (the login guards).** A login succeeds only with the current password of an existing, enabled account on a
powered-on node whose user manager and session manager are RUNNING, and a remote one only while fewer than `max_remote_sessions`
are open — each translated method equals the model's test, for all inputs. -/
theorem C16_gen_login_guards :
    (∀ nodeOn running, Gen.SessionTr.serviceCanPerformAction true nodeOn running = (nodeOn && running)) ∧
    (∀ (nd : Node) (u p : String),
      Gen.SessionTr.authenticateUser (Gen.SessionTr.serviceCanPerformAction true nd.isOn nd.um.running)
        (nd.acctFound u) (nd.acctDisabled u) (nd.acctPwOk u p) = nd.authenticate u p) ∧
    (∀ len mx, Gen.SessionTr.remoteSessionLimitReached len mx = !decide (len < mx)) ∧
    (∀ (nd : Node) (u p : String) (hasLoc otherUser : Bool),
      -- local login: granted iff `loginOk`; never stores a remote session
      Gen.SessionTr.login (Gen.SessionTr.serviceCanPerformAction true nd.isOn nd.usm.running) (nd.authenticate u p) true hasLoc otherUser
        (Gen.SessionTr.remoteSessionLimitReached nd.rem.length nd.maxRemote) = (nd.loginOk u p, false)) ∧
    (∀ (nd : Node) (u p : String) (hasLoc otherUser : Bool),
      -- remote login: granted (and the session stored) iff `loginOk` and fewer than `max_remote_sessions` are open
      Gen.SessionTr.login (Gen.SessionTr.serviceCanPerformAction true nd.isOn nd.usm.running) (nd.authenticate u p) false hasLoc otherUser
        (Gen.SessionTr.remoteSessionLimitReached nd.rem.length nd.maxRemote)
        = (nd.loginOk u p && decide (nd.rem.length < nd.maxRemote), nd.loginOk u p && decide (nd.rem.length < nd.maxRemote))) ∧
    Gen.SessionTr.loginWrappers =
      [("local_login", "return self._login(username=username, password=password, local=True)"),
       ("remote_login", "return self._login(username=username, password=password, local=False, remote_ip_address=remote_ip_address)")] := by
  have hcan : ∀ a b, Gen.SessionTr.serviceCanPerformAction true a b = (a && b) := by
    intro a b; cases a <;> cases b <;> rfl
  refine ⟨hcan, ?_, ?_, ?_, ?_, rfl⟩
  · intro nd u p
    rw [hcan]
    unfold Gen.SessionTr.authenticateUser Node.authenticate Node.canUm Node.acctFound Node.acctDisabled Node.acctPwOk
    cases nd.isOn <;> cases nd.um.running <;> cases nd.findUser u <;> simp
    rename_i w; cases w.disabled <;> simp <;> rfl
  · intro len mx
    unfold Gen.SessionTr.remoteSessionLimitReached
    by_cases h : len < mx
    · simp [h]
    · simp [h] <;> omega
  · intro nd u p hasLoc otherUser
    rw [hcan]
    unfold Gen.SessionTr.login Node.loginOk Node.canUsm
    cases nd.isOn <;> cases nd.usm.running <;> cases nd.authenticate u p <;> simp
  · intro nd u p hasLoc otherUser
    rw [hcan]
    unfold Gen.SessionTr.login Gen.SessionTr.remoteSessionLimitReached Node.loginOk Node.canUsm
    by_cases h : nd.rem.length < nd.maxRemote
    · have h' : ¬ nd.rem.length ≥ nd.maxRemote := by omega
      cases nd.isOn <;> cases nd.usm.running <;> cases nd.authenticate u p <;> simp [h, h']
    · have h' : nd.rem.length ≥ nd.maxRemote := by omega
      cases nd.isOn <;> cases nd.usm.running <;> cases nd.authenticate u p <;> simp [h, h']

/-- **Gen, semantic.** `Terminal.login` (the Python API that hands out connection objects): refused unless the terminal is RUNNING,
otherwise a remote login request when an address is given, a local login when not; `_process_local_login` hands out a connection
exactly when `UserSessionManager.local_login` returned a session id (= `Node.loginOk`, by `C16_gen_login_guards`) — the model's
`opLocalCmdK` / `opRemoteLogin` behind the terminal's own RUNNING test. -/
theorem C16_gen_terminal_login (nodeOn running hasIp granted : Bool) :
    Gen.SessionTr.terminalLogin nodeOn running hasIp = (if !running then 0 else if hasIp then 1 else 2) ∧
    Gen.SessionTr.processLocalLogin granted = granted := by
  unfold Gen.SessionTr.terminalLogin Gen.SessionTr.processLocalLogin
  cases nodeOn <;> cases running <;> cases hasIp <;> cases granted <;> decide

/-! ### `disable_user` -/

/-- the decision of the model's `opDisableUser` on an ON node: (answers success, writes `disabled = True`) -/
def Node.disableDecision (nd : Node) (u : String) : Bool × Bool :=
  if !nd.canUm then (false, false) else
  match nd.findUser u with
  | none => (false, false)
  | some w =>
    if w.disabled then (false, false)
    else if w.admin && (nd.users.filter (fun v => v.admin && !v.disabled)).length == 1 then (false, false)
    else (true, true)

/-- `opDisableUser` is `disableDecision` (so the next theorem is about the operation itself) -/
theorem opDisableUser_eq (n : Net) (y : Nat) (u : String) (nd : Node) (hn : n.node y = some nd) (hon : nd.isOn = true) :
    opDisableUser n y u = (if (nd.disableDecision u).2 then n.upd y (Node.setDisabled u) else n, boolOut (nd.disableDecision u).1) := by
  unfold opDisableUser Node.disableDecision
  simp only [hn, hon, Bool.not_true]
  cases nd.canUm <;> simp [boolOut]
  cases nd.findUser u with
  | none => simp
  | some w =>
    by_cases hd : w.disabled = true <;>
      by_cases ha : (w.admin = true ∧ (nd.users.filter (fun v => v.admin && !v.disabled)).length = 1) <;> simp [hd, ha]

/-- **Gen, semantic.** `disable_user` / `_is_last_admin`, translated, decide exactly like the model: an account is disabled iff the
user manager can act, the account exists, is enabled, and is not the only enabled administrator (`username in self.admins` = the
account is an enabled administrator; `len(self.admins)` = the number of enabled administrators); the flag is written exactly when
the answer is True. -/
theorem C16_gen_disable_user (nd : Node) (u : String) :
    Gen.SessionTr.disableUser (Gen.SessionTr.serviceCanPerformAction true nd.isOn nd.um.running) (nd.acctFound u) (nd.acctDisabled u)
      (Gen.SessionTr.isLastAdmin
        (match nd.findUser u with | some w => w.admin && !w.disabled | none => false)
        (nd.users.filter (fun v => v.admin && !v.disabled)).length)
      = nd.disableDecision u ∧
    Gen.SessionTr.adminsBody = ["return {k: v for k, v in self.users.items() if v.is_admin and (not v.disabled)}"] := by
  refine ⟨?_, rfl⟩
  rw [C16_gen_login_guards.1]
  unfold Gen.SessionTr.disableUser Gen.SessionTr.isLastAdmin Node.disableDecision Node.canUm Node.acctFound Node.acctDisabled
  cases nd.isOn <;> cases nd.um.running <;> cases nd.findUser u <;> simp
  rename_i w
  cases w.disabled <;> cases w.admin <;> simp

/-! ### counter-models: what the blind change C16-g does to `C16_gen_pre_timestep` -/

/-- `pre_timestep` as the extractor translates it from the tree with C16-g applied (early `return` unless RUNNING) -/
def preTimestepInactiveG {L R : Type} (_nodeOn running : Bool) (lastL : L → Nat) (lastR : R → Nat) (lto rto t : Nat)
    (loc : Option L) (rem : List R) : List (L ⊕ R) :=
  if !running then [] else
    ((match loc with | some s => if decide ((lastL s + lto) ≤ t) then [Sum.inl s] else [] | none => []) ++
     ((rem.filter (fun s => decide ((lastR s + rto) ≤ t))).map Sum.inr))

/-- the counter-model: service not RUNNING, one remote session idle past its time-out (last active at step 0, time-out 30, now 30) -/
def gWitness : Net :=
  { nodes := [{ usm := { st := .stopped }, rem := [⟨0, "admin", 0, 1⟩], conns := [⟨0, some 1⟩] }, { conns := [⟨0, some 0⟩] }], time := 30, nextId := 1 }

/-- **C16-g is refuted**: with the early return the statement of `C16_gen_pre_timestep` is false — in `gWitness` the model ends the
session, the changed `pre_timestep` keeps it (and a command sent afterwards would still be executed). -/
theorem C16_gen_pre_timestep_refutes_early_return :
    ¬ ∀ (nodeOn running : Bool) (n : Net) (y : Nat),
      (match n.node y with
       | none => n
       | some nd => (preTimestepInactiveG nodeOn running (fun l : LSession => l.last) (fun s : RSession => s.last)
            nd.localTimeout nd.remoteTimeout n.time nd.loc nd.rem).foldl (timeoutDispatch y) n) = preTimestepNode n y := by
  intro h
  have h1 := congrArg (fun m : Net => (m.nodes.map (fun nd => nd.rem.length))) (h true false gWitness 0)
  revert h1
  decide

end Primaite.Session
