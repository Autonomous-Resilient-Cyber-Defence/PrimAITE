/-
C13: "software that is not running never handles network payloads" on the TRANSLATED `receive` / `send`
methods of every shipped class (FTP client / server and the C2 suite included), for every payload, every payload test and every
return value of a callee.  A checker (`quietChain`) is proved sound once (`quietChain_sound`: a chain it accepts returns False and
performs only allowed effects whenever `_can_perform_action()` is False, for all `Env`) and then evaluated on the translated
chains; the C2 and FTP handlers are shown to be called from behind `receive` only.
-/
import PrimaiteModel.Model.C13Relay
import PrimaiteModel.Gen.SoftwareRelay
namespace Primaite.C13
open Primaite.Relay

theorem quietBody_sound (allowed : List String) (env : Env) (hc : env.canAct = false) (sup : Bool × List String) (supQuiet : Bool)
    (hsup : supQuiet = true → sup.1 = false ∧ ∀ e ∈ sup.2, e ∈ allowed) (prog : List Stmt)
    (hq : quietBody allowed supQuiet prog = true) :
    (runBody env sup prog).1 = false ∧ ∀ e ∈ (runBody env sup prog).2, e ∈ allowed := by
  induction prog with
  | nil => simp [runBody]
  | cons s r ih =>
    cases s with
    | typeCheck c =>
      simp only [quietBody] at hq
      simp only [runBody]
      split
      · exact ih hq
      · simp
    | guardCan | retCan => simp [runBody, hc]
    | guardSuper =>
      simp only [quietBody] at hq
      obtain ⟨h1, h2⟩ := hsup hq
      simp only [runBody, h1]
      exact ⟨by simp, h2⟩
    | retSuper =>
      simp only [quietBody] at hq
      simpa [runBody] using hsup hq
    | retIf c b =>
      simp only [quietBody, Bool.and_eq_true, Bool.not_eq_eq_eq_not, Bool.not_true] at hq
      simp only [runBody]
      split
      · simp [hq.1]
      · exact ih hq.2
    | retEffIf c e | retEff e => simp [quietBody] at hq
    | doIf c e =>
      simp only [quietBody, Bool.and_eq_true, List.contains_iff_mem] at hq
      obtain ⟨h1, h2⟩ := ih hq.2
      simp only [runBody]
      refine ⟨h1, ?_⟩
      split
      · exact List.forall_mem_cons.mpr ⟨hq.1, h2⟩
      · exact h2
    | eff e =>
      simp only [quietBody, Bool.and_eq_true, List.contains_iff_mem] at hq
      obtain ⟨h1, h2⟩ := ih hq.2
      simp only [runBody]
      exact ⟨h1, List.forall_mem_cons.mpr ⟨hq.1, h2⟩⟩
    | ret b =>
      simp only [quietBody, Bool.not_eq_eq_eq_not, Bool.not_true] at hq
      simp [runBody, hq]

/-- **the checker is sound**: a chain accepted by `quietChain allowed`, run with `_can_perform_action() = False`, returns False and
performs only effects in `allowed` — for every payload type, every test on the payload, every return value of a callee -/
theorem quietChain_sound (allowed : List String) (env : Env) (hc : env.canAct = false) (chain : List (List Stmt))
    (hq : quietChain allowed chain = true) :
    (runChain env chain).1 = false ∧ ∀ e ∈ (runChain env chain).2, e ∈ allowed := by
  induction chain with
  | nil => simp [runChain]
  | cons p ps ih =>
    simp only [quietChain] at hq
    simp only [runChain]
    exact quietBody_sound allowed env hc _ (quietChain allowed ps) (fun h => ih h) p hq

def progs (x : String × List (String × List Stmt)) : List (List Stmt) := x.2.map (·.2)

/-- **the tie, receive**: the translated `receive` of EVERY shipped class passes the checker — with NO effect allowed before the
guard, except `FTPClient` (its `_active` flag) -/
theorem C13_gen_receive_quiet :
    (∀ x ∈ Gen.SoftwareRelay.receiveChains, x.1 ≠ "FTPClient" → quietChain [] (progs x) = true) ∧
    (∀ x ∈ Gen.SoftwareRelay.receiveChains, quietChain allowedBeforeGuard (progs x) = true) ∧
    Gen.SoftwareRelay.receiveChains.length = 24 := by decide +kernel

/-- **not running ⇒ `receive` handles nothing**: every shipped class, every payload -/
theorem C13_receive_not_running (x : String × List (String × List Stmt)) (hx : x ∈ Gen.SoftwareRelay.receiveChains)
    (env : Env) (hc : env.canAct = false) :
    (runChain env (progs x)).1 = false ∧ ∀ e ∈ (runChain env (progs x)).2, e ∈ allowedBeforeGuard :=
  quietChain_sound _ env hc _ (C13_gen_receive_quiet.2.1 x hx)

/-- **the tie, send**: the translated `send` of every shipped class passes the checker, except the classes listed in
`unguardedSend` (`DatabaseService`: called only from its own `receive`, which is guarded) -/
theorem C13_gen_send_quiet :
    (∀ x ∈ Gen.SoftwareRelay.sendChains, (Gen.SoftwareRelay.unguardedSend.map (·.1)).contains x.1 = false →
      quietChain allowedBeforeGuard (progs x) = true) ∧
    Gen.SoftwareRelay.unguardedSend = [("DatabaseService", ["DatabaseService.receive"])] ∧
    Gen.SoftwareRelay.sendChains.length = 24 := by decide +kernel

theorem C13_send_not_running (x : String × List (String × List Stmt)) (hx : x ∈ Gen.SoftwareRelay.sendChains)
    (hn : (Gen.SoftwareRelay.unguardedSend.map (·.1)).contains x.1 = false) (env : Env) (hc : env.canAct = false) :
    (runChain env (progs x)).1 = false ∧ ∀ e ∈ (runChain env (progs x)).2, e ∈ allowedBeforeGuard :=
  quietChain_sound _ env hc _ (C13_gen_send_quiet.1 x hx hn)

/-- **the C2 command relay and the FTP handlers sit behind `receive`**: the dispatch is the three-way one, and in the whole package
the handlers are called from nowhere else -/
theorem C13_gen_c2_relay :
    Gen.SoftwareRelay.c2HandlePayload =
      [.retEffIf "payload.payload_type == C2Payload.KEEP_ALIVE" "_handle_keep_alive",
       .retEffIf "payload.payload_type == C2Payload.INPUT" "_handle_command_input",
       .retEffIf "payload.payload_type == C2Payload.OUTPUT" "_handle_command_output", .ret false] ∧
    Gen.SoftwareRelay.handlerCallers =
      [("_handle_c2_payload", ["AbstractC2.receive"]), ("_handle_keep_alive", ["AbstractC2._handle_c2_payload"]),
       ("_handle_command_input", ["AbstractC2._handle_c2_payload"]), ("_handle_command_output", ["AbstractC2._handle_c2_payload"]),
       ("_process_ftp_command", ["FTPClient._process_ftp_command", "FTPClient.receive", "FTPServer._process_ftp_command",
                                 "FTPServer.receive"])] := ⟨rfl, rfl⟩

/-- an unexpected C2 payload type is dropped: handled by no handler, returns False (every `res`) -/
theorem C13_c2_unknown_payload_dropped (env : Env) (h : ∀ c, env.cond c = false) :
    runBody env (false, []) Gen.SoftwareRelay.c2HandlePayload = (false, []) := by
  have := C13_gen_c2_relay.1
  rw [this]
  simp [runBody, h]

def chainOf (l : List (String × List (String × List Stmt))) (c : String) : List (List Stmt) :=
  match l.find? (·.1 == c) with
  | some x => progs x
  | none => []

/-- non-vacuity: RUNNING software handed a well-typed payload reaches its handler (FTP server and client, C2 beacon);
a stopped FTP client only sets its `_active` flag -/
theorem C13_relay_running_reaches_handler :
    let on : Env := { canAct := true, isType := fun _ => true, cond := fun _ => false, res := fun _ => true }
    let off : Env := { on with canAct := false }
    runChain on (chainOf Gen.SoftwareRelay.receiveChains "FTPServer") = (true, ["_process_ftp_command"]) ∧
    runChain on (chainOf Gen.SoftwareRelay.receiveChains "FTPClient") = (true, ["set:_active", "_process_ftp_command"]) ∧
    runChain on (chainOf Gen.SoftwareRelay.receiveChains "C2Beacon") = (true, ["_handle_c2_payload"]) ∧
    runChain off (chainOf Gen.SoftwareRelay.receiveChains "FTPServer") = (false, []) ∧
    runChain off (chainOf Gen.SoftwareRelay.receiveChains "FTPClient") = (false, ["set:_active"]) ∧
    runChain off (chainOf Gen.SoftwareRelay.receiveChains "C2Server") = (false, []) ∧
    runChain off (chainOf Gen.SoftwareRelay.sendChains "C2Server") = (false, []) ∧
    runChain off (chainOf Gen.SoftwareRelay.sendChains "FTPClient") = (false, ["set:_active"]) := by decide +kernel

/-- a RUNNING FTP client handed an FTP packet: the three tests its `receive` makes on the packet as inputs -/
def ftpEnv (noStatus portOk quitOk : Bool) : Env :=
  { canAct := true, isType := fun _ => true, res := fun _ => false,
    cond := fun c =>
      if c = "payload.status_code is None" then noStatus
      else if c = "payload.ftp_command is FTPCommand.PORT and payload.status_code is FTPStatusCode.OK" then portOk
      else if c = "payload.ftp_command is FTPCommand.QUIT and payload.status_code is FTPStatusCode.OK" then quitOk
      else false }

/-- **what a RUNNING FTP client does with a server's answer** (the connection bookkeeping of the relay, on the translated code, every
combination of the tests): an answer without a status code is refused; otherwise the packet is processed and accepted, a connection
is added exactly for a successful PORT and terminated exactly for a successful QUIT -/
theorem C13_ftp_client_bookkeeping (a b c : Bool) :
    let r := runChain (ftpEnv a b c) (chainOf Gen.SoftwareRelay.receiveChains "FTPClient")
    (a = true → r = (false, ["set:_active"])) ∧
    (a = false → r.1 = true ∧ r.2.contains "_process_ftp_command" = true ∧
      r.2.contains "add_connection" = b ∧ r.2.contains "terminate_connection" = c) := by
  -- one evaluation for all eight combinations: the chain is looked up once
  revert a b c
  decide +kernel

/-- **what a RUNNING FTP server does with a packet**: one that already carries a status code (an answer) is ignored, a request is
processed and accepted -/
theorem C13_ftp_server_requests_only (answered : Bool) :
    let env : Env := { canAct := true, isType := fun _ => true, res := fun _ => false,
                       cond := fun c => if c = "payload.status_code is not None" then answered else false }
    runChain env (chainOf Gen.SoftwareRelay.receiveChains "FTPServer") =
      if answered then (false, []) else (true, ["_process_ftp_command"]) := by
  revert answered
  decide +kernel

end Primaite.C13
