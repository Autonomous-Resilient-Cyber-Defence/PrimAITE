/-
C19:

* TAP001: where `current_host` is assigned (one conjunct per row of the table `Tap1.currentHost`), the start-node
  theorem spelled out for every pass of the kill chain, and why `_download` has to re-assert the start node;
* TAP003: `EXPLOIT.probability ≤ 0` ⇒ the chain never SUCCEEDS (run level);
* PeriodicAgent / DataManipulationAgent: every action is `node-application-execute` of the configured application on the
  start node drawn once; TAP003: what the settings validator guarantees of the starting knowledge.
-/
import PrimaiteModel.Props.C19Nodes
namespace Primaite.Agents

namespace Tap1

theorem host_progress (s : St) : (progress s).host = s.host := by
  unfold progress; repeat' split
  all_goals simp [St.raise]

/-- **Every assignment of `current_host` in the model**, row by row of `Tap1.currentHost` (the table
`C19_gen_current_host` compares with TAP001.py): `setup_agent`, `_download` (on entering the stage), `_install`,
`_activate`, `_propagate` (on entering the stage) set it to `starting_node`; `_payload` (on a passed entry trial) to the
configured C2 server.  These are the six places where Model/AgentsTap.lean assigns `host` (read off the model, not part
of the statement). -/
theorem C19_tap1_current_host_sites (c : Cfg) (i : In) (s : St) :
    (∀ d0 k1 k2 s0, init c d0 k1 k2 = some s0 → s0.host = s0.startNode) ∧
    (s.prog = .pending → (downloadAct s).host = s.startNode) ∧
    (s.cur = .install → (install s).host = s.startNode) ∧
    (s.cur = .activate → (activate s).host = s.startNode) ∧
    (s.prog = .pending → (propagatePrep c s).host = s.startNode) ∧
    (s.prog = .pending → trial c.pPayload i.u = true → (payloadEnter c i s).host = c.c2Server) := by
  refine ⟨?_, ?_, ?_, ?_, ?_, ?_⟩
  · intro d0 k1 k2 s0 h0
    obtain ⟨_, rfl⟩ := init_some c d0 k1 k2 s0 h0
    rfl
  · intro hp; unfold downloadAct; rw [if_pos hp]
  · intro hc; unfold install; rw [if_neg (by simp [hc]), host_progress]
  · intro hc; unfold activate; rw [if_neg (by simp [hc]), host_progress]
  · intro hp; unfold propagatePrep propagateReset; rw [if_pos hp]; split <;> rfl
  · intro hp ht; unfold payloadEnter; rw [if_pos hp, if_pos ht]

/-- **Every pass of the kill chain** (restatement of `C19_tap1_actions_on_start_node` per tick of a run, which may
contain any number of restarts and any pattern of failed responses and failed trials before that tick): whatever the
ticks `pre` did, the action returned at the next tick, if it is one of DOWNLOAD / INSTALL / ACTIVATE / PROPAGATE /
COMMAND_AND_CONTROL, names the start node selected in `setup_agent`. -/
theorem C19_tap1_start_node_every_pass (c : Cfg) (d0 : Int) (k1 k2 : Nat) (s0 : St) (h0 : init c d0 k1 k2 = some s0)
    (pre : List In) (i : In) (a : Act) (ha : (step c (after c s0 0 pre) pre.length i).2 = .act a) :
    (a.kind.onStart = true → a.node = s0.startNode) ∧ (a.kind.onC2 = true → a.node = c.c2Server) := by
  -- the invariant behind `C19_tap1_actions_on_start_node` holds before the tick, and one tick from it names the right node
  have hI := iter_inv (fun s t i => (step c s t i).1) (after c) (fun _ _ => rfl) (fun _ _ _ _ => rfl)
    (fun s _ => RInv c s0.startNode s0.targetIp s ∧ Inv s) (fun s t i h => (R_step c t i _ _ s h).1) pre s0 0
    (rinv_init c d0 k1 k2 s0 h0)
  exact ((R_step c _ i _ _ _ hI).2 a ha).2

/-- Non-vacuity over three passes and into a fourth: repeat on, every response successful.  First pass 9 start-node actions
and 3 on the C2 server; later passes 8 and 2 (`beacon_configured` and the payload flags are consumed: observation, as
coded) — every DOWNLOAD … COMMAND_AND_CONTROL action of every pass names the start node. -/
example :
    let c : Cfg := { exCfg with repeatKillChain := true, defaultStartingNode := "pc", c2Server := "c2" }
    ∃ s0, init c 0 0 0 = some s0 ∧
      ((runOut c s0 0 (List.replicate 44 exIn)).filterMap fun x =>
        match x.2 with
        | .act a => if a.kind = .doNothing then none else some a.node
        | .raised => none)
        = List.replicate 9 "pc" ++ List.replicate 3 "c2" ++ List.replicate 8 "pc" ++ List.replicate 2 "c2" ++
          List.replicate 8 "pc" ++ List.replicate 2 "c2" ++ List.replicate 4 "pc" := by
  refine ⟨_, rfl, ?_⟩; decide +kernel

/-- **Why `_download` has to re-assert the start node** (the line seeded change C19-d removes): the exception
"`current_host` need not be the start node while DOWNLOAD is pending" in the invariant is really used — after a first pass
a run reaches DOWNLOAD / PENDING with `current_host` still the C2 server. -/
example :
    let c : Cfg := { exCfg with repeatKillChain := true, defaultStartingNode := "pc", c2Server := "c2" }
    ∃ s0, init c 0 0 0 = some s0 ∧
      ((after c s0 0 (List.replicate 16 exIn)).cur, (after c s0 0 (List.replicate 16 exIn)).prog,
       (after c s0 0 (List.replicate 16 exIn)).host) = (Stage.download, Progress.pending, "c2") := by
  refine ⟨_, rfl, ?_⟩; decide +kernel

end Tap1

namespace Tap3

theorem succeeded_only_from_exploit (c : Cfg) (a : Stage) (h : Allowed c a .succeeded) (hne : a ≠ .succeeded) :
    a = .exploit := by
  revert h hne
  cases a <;> simp [Allowed, Stage.succ, Stage.chain]

/-- From EXPLOIT with the entry trial still pending (`K`) and a probability that never passes, the stage methods of one
call leave the agent in EXPLOIT or FAILED: only `_exploit` runs, and it fails its trial. -/
theorem bodies_exploit_K (c : Cfg) (i : In) (s : St) (hp : c.pExploit.num ≤ 0) (hk : K s) (hc : s.cur = .exploit) :
    (bodies c i s).cur = .exploit ∨ (bodies c i s).cur = .failed := by
  have hcur : (exploit c i s).cur = .exploit ∨ (exploit c i s).cur = .failed := by
    rw [(C19_tap3_exploit_trial_gates c i s hc (hk.1 hc) (C19_trial_zero_never_passes c.pExploit i.u hp)).2.2.2]
    split
    · exact Or.inl rfl
    · exact Or.inr rfl
  -- the methods of the earlier stages do not match the stage `_exploit` leaves
  have e : bodies c i s = applyDown c i 4 (exploit c i s) := rfl
  rw [e, applyDown_skip c i 4 _ (by rcases hcur with e | e <;> rw [e] <;> decide)]
  exact hcur

theorem core_no_succeed (c : Cfg) (s : St) (t : Int) (i : In) (hp : c.pExploit.num ≤ 0) (hk : K s) (hc : s.cur = .exploit) :
    (getActionCore c s t i).1.cur ≠ .succeeded := by
  have hns : s.cur ≠ .succeeded := by rw [hc]; decide
  unfold getActionCore
  split
  · exact hns
  · split
    · exact hns
    · rename_i x _
      split
      · -- a look-back item that passes left the stage alone: `_exploit` runs, and fails its entry trial
        rename_i hpass
        rw [passes_returnHandler c x s hpass]
        unfold mainPath
        have hcur : (setNext c { reasonCheck x s with curT := t } (t + c.frequency) i.d1).cur = .exploit :=
          (setNext_fields c _ _ _).1.trans ((reasonCheck_fields x s).1.trans hc)
        rw [outcome_other c _ (by rw [hcur]; decide) (by rw [hcur]; decide)]
        rcases bodies_exploit_K c i _ hp (K_setNext c _ _ _ (K_curT _ t (K_reasonCheck x s hk))) hcur with e | e <;>
          rw [e] <;> decide
      · -- otherwise no stage method runs
        unfold failPath
        rcases outcome_cur c (setNext c { returnHandler c x s with curT := t } (t + c.frequency) i.d1) with e | e
        · rw [e, (setNext_fields c _ _ _).1]
          rcases (returnHandler_soft c x s).1 with e | e <;> rw [e]
          · exact hns
          · decide
        · rw [e]; decide

/-- the invariant: entry trial pending while in EXPLOIT, `next = succ(current)`, not SUCCEEDED -/
def NS (s : St) : Prop := K s ∧ Inv s ∧ s.cur ≠ .succeeded

theorem NS_step (c : Cfg) (s : St) (t : Int) (i : In) (hp : c.pExploit.num ≤ 0) (h : NS s) : NS (step c s t i).1 := by
  obtain ⟨hk, hi, hns⟩ := h
  have hst := C19_tap3_stage_step c s t i hi
  refine ⟨(K_step c s t i hp hk).1, hst.2, ?_⟩
  intro hsucc
  have hall := hst.1
  rw [hsucc] at hall
  have hex := succeeded_only_from_exploit c s.cur hall hns
  unfold step at hsucc
  split at hsucc
  · exact hns hsucc
  · split at hsucc
    · exact hns hsucc
    · -- `get_action` is `getActionCore` after the pre-guard handlers, which keep `K` and the stage
      exact core_no_succeed c _ t i hp (K_preGuard c s hk) ((preGuard_fields c s).1.trans hex) hsucc

/-- **`EXPLOIT.probability ≤ 0` ⇒ the kill chain never SUCCEEDS** (run level): for every other setting, every draw and
every response sequence, no state of a run from the constructor has `current_kill_chain_stage = SUCCEEDED` (the agent can
only be stopped in EXPLOIT, FAIL, or be restarted). -/
theorem C19_tap3_exploit_probability_zero_never_succeeds (c : Cfg) (d0 : Int) (k : Nat) (s0 : St) (ins : List In)
    (h0 : init c d0 k = some s0) (hp : c.pExploit.num ≤ 0) : ∀ s ∈ run c s0 0 ins, s.cur ≠ .succeeded := by
  have hinit : NS s0 := by
    obtain ⟨_, rfl⟩ := init_some c d0 k s0 h0
    exact ⟨⟨(fun hc => by cases hc), nothing_ne⟩, Or.inr rfl, (fun hc => by cases hc)⟩
  intro s hs
  exact (run_inv c NS (fun s t i h => NS_step c s t i hp h) ins s0 0 hinit s hs).2.2

end Tap3

theorem render_execute (c : PeriodicCfg) (n : Nat) (h : n < c.nStartNodes) :
    ∃ v, c.nodes[n]? = some v ∧ v ∈ c.nodes ∧
      (PeriodicOut.execute n).render c =
        some ("node-application-execute", [("node_name", v), ("application_name", c.app)]) := by
  have hn : n < c.nodes.length := h
  exact ⟨c.nodes[n], List.getElem?_eq_getElem hn, List.getElem_mem hn, by simp [PeriodicOut.render, hn]⟩

theorem params_of_one_node (c : PeriodicCfg) (outs : List PeriodicOut)
    (h : ∀ n, .execute n ∈ outs → n < c.nStartNodes ∧ ∀ n', .execute n' ∈ outs → n' = n) :
    ∃ v, ∀ n, .execute n ∈ outs → v ∈ c.nodes ∧ c.nodes[n]? = some v ∧
      (PeriodicOut.execute n).render c =
        some ("node-application-execute", [("node_name", v), ("application_name", c.app)]) := by
  by_cases hex : ∃ n, PeriodicOut.execute n ∈ outs
  · obtain ⟨n, hn⟩ := hex
    obtain ⟨hlt, hsame⟩ := h n hn
    obtain ⟨v, hv, hmem, hr⟩ := render_execute c n hlt
    refine ⟨v, fun n' hn' => ?_⟩
    rw [hsame n' hn']
    exact ⟨hmem, hv, hr⟩
  · exact ⟨"", fun n hn => absurd ⟨n, hn⟩ hex⟩

theorem periodicOut_cases (o : PeriodicOut) : o = .doNothing ∨ o = .raised ∨ ∃ n, o = .execute n := by
  cases o
  · exact Or.inl rfl
  · exact Or.inr (Or.inr ⟨_, rfl⟩)
  · exact Or.inr (Or.inl rfl)

/-- **Only from its configured start nodes, only the configured application (PeriodicAgent, run level).**  In every run from
the constructor — any settings the validator accepts, any draws, any length — every action the agent returns other than
do-nothing is `node-application-execute` with `application_name` = the configured `target_application` and `node_name` = an
element of `possible_start_nodes` (the one `random.choice` drew when `start_node` was first read), the same node in every
action of the run. -/
theorem C19_periodic_params_from_config (c : PeriodicCfg) (d0 : Int) (s0 : PeriodicState) (ins : List PIn)
    (h0 : periodicInit c d0 = some s0) :
    ∃ v, (∀ n, .execute n ∈ runFrom (periodicStep c) s0 0 ins →
        v ∈ c.nodes ∧ c.nodes[n]? = some v ∧
        (PeriodicOut.execute n).render c =
          some ("node-application-execute", [("node_name", v), ("application_name", c.app)])) :=
  params_of_one_node c (runFrom (periodicStep c) s0 0 ins) (C19_periodic_action_node c d0 s0 ins h0)

/-- The same for the DataManipulationAgent (`target_application` defaults to `data-manipulation-bot`: `C19_gen_periodic_params`). -/
theorem C19_dm_params_from_config (c : PeriodicCfg) (s0 : PeriodicState) (ins : List PIn) (h0 : dmInit c = some s0) :
    ∃ v, (∀ n, .execute n ∈ runFrom (dmStep c) s0 0 ins →
        v ∈ c.nodes ∧ c.nodes[n]? = some v ∧
        (PeriodicOut.execute n).render c =
          some ("node-application-execute", [("node_name", v), ("application_name", c.app)])) :=
  params_of_one_node c (runFrom (dmStep c) s0 0 ins) (C19_dm_action_node c s0 ins h0)

/-- Non-vacuity: three nodes, the draw picks the third; application `web-browser`. -/
example :
    let c : PeriodicCfg := { startStep := 1, startVariance := 0, frequency := 2, variance := 0, maxExecutions := 2,
                             nodes := ["cl-a", "cl-b", "cl-c"], app := "web-browser" }
    ∃ s0, periodicInit c 0 = some s0 ∧
      ((runFrom (periodicStep c) s0 0 ((List.range 6).map fun _ => ({ d := 0, k := 2 } : PIn))).map (·.render c))
        = [some ("do-nothing", []), some ("node-application-execute", [("node_name", "cl-c"), ("application_name", "web-browser")]),
           some ("do-nothing", []), some ("node-application-execute", [("node_name", "cl-c"), ("application_name", "web-browser")]),
           some ("do-nothing", []), some ("do-nothing", [])] := by
  refine ⟨_, rfl, ?_⟩; decide +kernel

/-- The dictionary both `get_action`s return, the body of the cached `start_node` property and the data-manipulation
agent's default application are the ones the model renders. -/
theorem C19_gen_periodic_params :
    Gen.Agents.periodicActionParams = periodicActionParams ∧ Gen.Agents.dmActionParams = periodicActionParams ∧
    Gen.Agents.periodicStartNode = periodicStartNode ∧ Gen.Agents.dmDefaultApplication = dmDefaultApplication := ⟨rfl, rfl, rfl, rfl⟩

/-- TAP003's load-time check of the network knowledge and the knowledge update after a local password change have the
shape the model has (`Tap3.Cfg.knowledgeOk`, `Tap3.handleChangePw`): repairs of F-C19-5 and F-C19-6. -/
theorem C19_gen_tap3_knowledge : Gen.Agents.tap3Knowledge = tap3Knowledge := rfl

theorem Tap3.Cfg.knows_iff (c : Tap3.Cfg) (h : Val) (needIp : Bool) :
    c.knows h needIp = true ↔ ∃ cr, c.creds0.get h = some cr ∧ (needIp = true → cr.ip.isSome = true) := by
  unfold Tap3.Cfg.knows
  cases c.creds0.get h <;> cases needIp <;> simp

/-- What the validator guarantees of a constructed TAP003: every account-change host and every ACL router has an entry in
the starting knowledge, with an address for every router and for every host that is not the only possible start node. -/
theorem C19_tap3_constructed_knowledge (c : Tap3.Cfg) (d0 : Int) (k : Nat) (s0 : Tap3.St) (h0 : Tap3.init c d0 k = some s0) :
    (∀ a ∈ c.acls, ∃ cr, c.creds0.get a.router = some cr ∧ cr.ip.isSome = true) ∧
    (∀ a ∈ c.accountChanges, ∃ cr, c.creds0.get a.host = some cr ∧
      (cr.ip.isSome = true ∨ ∀ n ∈ c.startSet, n = a.host)) := by
  have hk := (Tap3.init_some c d0 k s0 h0).1.2.2
  unfold Tap3.Cfg.knowledgeOk at hk
  simp only [Bool.and_eq_true, List.all_eq_true] at hk
  refine ⟨fun a ha => ?_, fun a ha => ?_⟩
  · obtain ⟨cr, hg, hip⟩ := (c.knows_iff _ _).1 (hk.2 a ha)
    exact ⟨cr, hg, hip rfl⟩
  · obtain ⟨cr, hg, hip⟩ := (c.knows_iff _ _).1 (hk.1 a ha)
    refine ⟨cr, hg, ?_⟩
    cases hall : c.startSet.all (· == a.host) with
    | true => exact Or.inr (by simpa using hall)
    | false => exact Or.inl (hip (by rw [hall]; rfl))

end Primaite.Agents
