/-
C16 — "the last enabled administrator account can never be disabled": every way the code can edit accounts.

The inventory is regenerated from the source on every run (Gen/Session.lean): every statement inside `UserManager` that writes to
an attribute / subscript or mutates `users`, every write to an account field anywhere else in the package, every call of an
account-editing method from outside `UserManager`, the requests `UserManager` registers and the requests agent actions build.
`C16_gen_account_writers` states it; each entry is an operation of the model:

    add_user (request)                         Cmd.addUser            canUm guard; refuses an existing name BEFORE writing
    add_user (API, bypass_can_perform_action)  Op.addUserBypass       config loading (`Node.__init__`, `PrimaiteGame.from_config`), `install`
    change_user_password (request)             Cmd.changePassword     writes `password` only
    disable_user (request)                     Cmd.disableUser        refuses the last enabled admin
    enable_user (API only, no request)         Op.enableUser          no guard
    (no deletion, no write to `is_admin`, no write from outside UserManager)

`C16_last_admin_step` / `C16_last_admin` (Props/C16.lean) prove the invariant "every node has an enabled administrator" for every
operation sequence over all of these (directly, through remote and local terminal commands, nested to any depth).  This file adds
the per-editor statement, "accounts are never removed, renamed or demoted", "`add_user` never overwrites", and the initial state
built from any configured user list.
-/
import PrimaiteModel.Props.C16
namespace Primaite.Session

/-! ### translator tie -/

/-- **C16, inventory of account editors.** Inside `UserManager` exactly four statements write to `users` / a user's field (one
each in add_user, change_user_password, disable_user, enable_user; the other writes are to local dictionaries / a table object);
`add_user` refuses an existing name before it writes; class `User` has the five fields the model knows (username, password,
disabled, is_admin and the login counter, which nothing reads); nothing outside `UserManager` writes to an account field or to a
`users` mapping; the only calls of an account-editing method from outside are the two config loaders, both
`add_user(..., bypass_can_perform_action=True)`; `install` adds the enabled administrator `admin`; `UserManager` registers exactly
the three requests, and agent actions build exactly those three. -/
theorem C16_gen_account_writers :
    Gen.Session.userManagerMethods =
      ["__init__", "_init_request_manager", "describe_state", "show", "non_admins", "disabled_non_admins", "admins",
       "disabled_admins", "install", "_is_last_admin", "add_user", "authenticate_user", "change_user_password", "disable_user",
       "enable_user", "_user_session_manager"] ∧
    Gen.Session.userManagerWrites =
      [("__init__", "kwargs['name'] = 'user-manager'"), ("__init__", "kwargs['port'] = PORT_LOOKUP['NONE']"),
       ("__init__", "kwargs['protocol'] = PROTOCOL_LOOKUP['NONE']"),
       ("describe_state", "state['users'] = {k: v.describe_state() for k, v in self.users.items()}"),
       ("show", "table.align = 'l'"), ("show", "table.title = f'{self.sys_log.hostname} User Manager'"),
       ("add_user", "self.users[username] = user"), ("change_user_password", "user.password = new_password"),
       ("disable_user", "self.users[username].disabled = True"), ("enable_user", "self.users[username].disabled = False")] ∧
    Gen.Session.addUserRefusesExistingNameBeforeWriting = true ∧
    Gen.Session.userFields =
      [("username", "-"), ("password", "-"), ("disabled", "False"), ("is_admin", "False"), ("num_of_logins", "0")] ∧
    Gen.Session.accountWritesElsewhere = [] ∧
    Gen.Session.accountEditorCallsElsewhere =
      ["game/game.py:PrimaiteGame.from_config: user_manager.add_user(**user_cfg, bypass_can_perform_action=True)",
       "simulator/network/hardware/base.py:Node.__init__: self.user_manager.add_user(**user, bypass_can_perform_action=True)"] ∧
    Gen.Session.installBody =
      ["self.add_user(username='admin', password='admin', is_admin=True, bypass_can_perform_action=True)"] ∧
    Gen.Session.addUserGuard = "not bypass_can_perform_action and (not self._can_perform_action())" ∧
    Gen.Session.userManagerRequests = ["add_user", "disable_user", "change_password"] ∧
    Gen.Session.actionAccountRequests = ["user-manager:add_user", "user-manager:change_password", "user-manager:disable_user"] :=
  ⟨rfl, rfl, rfl, rfl, rfl, rfl, rfl, rfl, rfl, rfl⟩

/-- **C16, time-out kinds.** (What `pre_timestep` decides is not compared as text: the method is translated and proved equal to
the model's time-out step in Props/C16Tr.lean, `C16_gen_pre_timestep`.) `_timeout_session` tells the kinds
apart by `session.local`; the only assignment to a `last_active_step` in the whole package is the one in `Terminal.receive` for the
session a command was accepted on (model: `Node.touch` in `opRemoteCmdK`) — nothing moves the clock of a local session. -/
theorem C16_gen_timeout_kinds :
    Gen.Session.timeoutSessionTests = ["session.local"] ∧
    Gen.Session.lastActiveStepWrites =
      ["simulator/system/services/terminal/terminal.py:Terminal.receive: remote_session.last_active_step = self.software_manager.node.user_session_manager.current_timestep"] ∧
    Gen.Session.sessionCreateClocks =
      ["UserSession.create: UserSession(user=user, start_step=timestep, last_active_step=timestep)",
       "RemoteUserSession.create: RemoteUserSession(user=user, start_step=timestep, last_active_step=timestep, remote_ip_address=remote_ip_address)"] ∧
    Gen.Session.remoteSessionIsSubclassOfUserSession = true :=
  ⟨rfl, rfl, rfl, rfl⟩

/-- the node-level `logon` / `logoff` requests are stubs (constant `False`: answer failure, no effect): no session is opened or
ended through them, so they are not operations of the model (the rig checks the same on a built node) -/
theorem C16_gen_node_login_stubs :
    Gen.Session.nodeLoginRequests =
      [("logon", "RequestResponse.from_bool(False)"), ("logoff", "RequestResponse.from_bool(False)")] := rfl

/-! ### every editor keeps an enabled administrator -/

/-- **C16, last admin (every editor).** Spelt out for each entry of the inventory: whatever the arguments, none of the five
account-editing operations leaves a node without an enabled administrator. -/
theorem C16_last_admin_every_editor (n : Net) (h : AdminRemains n) (y : Nat) (u p old new : String) (adm : Bool) :
    AdminRemains (step n (.req y (.addUser u p adm))).1 ∧
    AdminRemains (step n (.addUserBypass y u p adm)).1 ∧
    AdminRemains (step n (.req y (.changePassword u old new))).1 ∧
    AdminRemains (step n (.req y (.disableUser u))).1 ∧
    AdminRemains (step n (.enableUser y u)).1 :=
  ⟨C16_last_admin_step n _ h, C16_last_admin_step n _ h, C16_last_admin_step n _ h, C16_last_admin_step n _ h,
   C16_last_admin_step n _ h⟩

/-- **C16, `add_user` never overwrites.** With a name the node already has — e.g. `add_user("admin", …, is_admin=False)` — neither
the request nor the API call with `bypass_can_perform_action` changes anything. -/
theorem C16_add_user_never_overwrites (n : Net) (y : Nat) (u p : String) (adm : Bool) (b : Node) (w : User)
    (hb : n.node y = some b) (hw : b.findUser u = some w) :
    (step n (.req y (.addUser u p adm))).1 = n ∧ (step n (.req y (.addUser u p adm))).2 ≠ .success ∧
    (step n (.addUserBypass y u p adm)).1 = n ∧ (step n (.addUserBypass y u p adm)).2 ≠ .success := by
  simp only [step, execCmd, opAddUser, opAddUserBypass, hb, hw, Option.isNone_some, Bool.and_false, Bool.false_eq_true, if_false]
  refine ⟨?_, ?_, trivial, by simp⟩
  · split <;> rfl
  · split <;> simp

/-! ### accounts are never removed, renamed or demoted -/

def User.key (w : User) : String × Bool := (w.name, w.admin)

/-- the accounts before are still there, in place, with their names and administrator flags; accounts may have been appended -/
def UsersKept : Nat → Node → Node → Prop := fun _ a b => (a.users.map User.key) <+: (b.users.map User.key)

theorem updUser_keys (l : List User) (u : String) (f : User → User) (hf : ∀ v, (f v).key = v.key) :
    (updUser l u f).map User.key = l.map User.key := by
  induction l with
  | nil => rfl
  | cons v t ih =>
    unfold updUser
    split
    · simp [hf]
    · simp [ih]

theorem usersKept_upd (a : Node) (u : String) (f : User → User) (hf : ∀ v, (f v).key = v.key) :
    (a.users.map User.key) <+: ((updUser a.users u f).map User.key) := by
  rw [updUser_keys _ _ _ hf]; exact List.prefix_refl _

theorem usersKept_frame : Frame UsersKept :=
  { refl := fun _ _ => List.prefix_refl _, trans := fun _ _ _ _ h1 h2 => List.IsPrefix.trans h1 h2,
    shr := fun _ _ _ h => by unfold UsersKept; rw [h.users]; exact List.prefix_refl _,
    data := fun _ _ _ h => by unfold UsersKept; rw [data_users h]; exact List.prefix_refl _ }

theorem usersKept_edits : Edits UsersKept :=
  ⟨fun _ a w => by
      show (a.users.map User.key) <+: ((a.users ++ [w]).map User.key)
      rw [List.map_append]; exact List.prefix_append _ _,
   fun _ a u p => usersKept_upd a u _ (fun _ => rfl),
   fun _ _ _ => List.prefix_refl _, fun _ _ _ _ => List.prefix_refl _⟩

/-- **C16, accounts only grow.** Whatever the operation (nested commands included): every account a node had is still there
afterwards, at the same position, with the same name and the same administrator flag — the code has no way to delete, rename or
demote an account; only `disabled` and `password` of an existing account ever change, and new accounts are appended. -/
theorem C16_accounts_never_removed_or_demoted (n : Net) (op : Op) : Net.Rel UsersKept n (step n op).1 :=
  usersKept_frame.step' usersKept_edits
    (fun _ a u => usersKept_upd a u _ (fun _ => rfl))
    (fun _ _ _ => List.prefix_refl _)
    (fun _ a u => usersKept_upd a u _ (fun _ => rfl))
    n op (fun _ _ _ _ => List.prefix_refl _) (fun _ _ _ _ => List.prefix_refl _)

/-! ### the initial state: any configured user list -/

/-- `add_user(**user, bypass_can_perform_action=True)` on the `users` dictionary -/
def addCfgUser (l : List User) (w : User) : List User := if l.any (fun v => v.name == w.name) then l else l ++ [w]

/-- the accounts of a freshly built node: `install` adds `admin`, then the configured users in order -/
def initialUsers (cfg : List User) : List User :=
  cfg.foldl addCfgUser [{ name := "admin", password := "admin", admin := true }]

theorem addCfgUser_count (l : List User) (w : User) : adminCount l ≤ adminCount (addCfgUser l w) := by
  unfold addCfgUser
  split
  · exact Nat.le_refl _
  · unfold adminCount; rw [List.filter_append, List.length_append]; omega

theorem foldl_addCfgUser_count (cfg : List User) (l : List User) : adminCount l ≤ adminCount (cfg.foldl addCfgUser l) := by
  induction cfg generalizing l with
  | nil => exact Nat.le_refl _
  | cons w t ih => exact Nat.le_trans (addCfgUser_count l w) (ih _)

/-- **C16, last admin (initial state).** Whatever users the scenario configures — also one called `admin` with `is_admin: false`,
also none — a freshly built node has an enabled administrator: the configured list is loaded with `add_user`, which never
overwrites, after `install` created `admin`; a configured user cannot be created disabled (`User.disabled` defaults to `False` and
`add_user` takes no such argument). -/
theorem C16_config_users_keep_admin (cfg : List User) : 0 < adminCount (initialUsers cfg) :=
  Nat.lt_of_lt_of_le (by decide) (foldl_addCfgUser_count cfg _)

theorem addUserBypass_is_addCfgUser (n : Net) (y : Nat) (u p : String) (adm : Bool) (b : Node) (hb : n.node y = some b) :
    ∃ a, (step n (.addUserBypass y u p adm)).1.node y = some a ∧
      a.users = addCfgUser b.users { name := u, password := p, admin := adm } := by
  simp only [step, opAddUserBypass, hb]
  unfold addCfgUser Node.findUser
  cases hf : b.users.find? (fun w => w.name == u) with
  | some w =>
    have : b.users.any (fun v => v.name == u) = true := by
      rw [List.any_eq_true]; exact ⟨w, List.mem_of_find?_eq_some hf, by have := List.find?_some hf; simpa using this⟩
    simp [this, hb]
  | none =>
    have : b.users.any (fun v => v.name == u) = false := by
      rw [List.any_eq_false]; intro v hv; have := List.find?_eq_none.mp hf v hv; simpa using this
    simp [this, hb, Node.addUser]

/-! ### non-vacuity -/

-- `add_user admin … is_admin=False` on a node that has `admin`: refused, nothing changes (hypotheses of C16_add_user_never_overwrites)
example : (step demoNet (.req 1 (.addUser "admin" "x" false))).2 = .failure := by decide
example : (step demoNet (.addUserBypass 1 "admin" "x" false)).2 = .failure := by decide
-- a configured user called admin does not replace the administrator
example : (initialUsers [{ name := "admin", password := "x", admin := false }, { name := "bob", password := "b" }]).map User.key
    = [("admin", true), ("bob", false)] := by decide
-- the bypass API works while the node is off (config time), the request does not
example : (step (run demoNet [.req 1 .shutdown, .tick, .tick, .tick, .tick]) (.addUserBypass 1 "bob" "b" true)).2 = .success := by decide
example : (step (run demoNet [.req 1 .shutdown, .tick, .tick, .tick, .tick]) (.req 1 (.addUser "bob" "b" true))).2 = .failure := by decide

end Primaite.Session
