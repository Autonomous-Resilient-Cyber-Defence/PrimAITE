/-
C13: `install_timing` at node level as ONE theorem over `Node.run` (the application counterpart of
`C13_node_restart_timing`): refinement of an application object along a whole run, raising operations included, composed with
the event-level install-timing theorems and the characterisation of the operations that deliver a tick.
-/
import PrimaiteModel.Props.C13
namespace Primaite.C13
open Primaite.Lifecycle Primaite.Registries

/-- ticks reach an application only from `Node.apply_timestep` while the node is ON after its power countdowns (and the
application is in `node.applications`), or from a direct call of its `apply_timestep` -/
theorem C13_app_tick_delivered_iff (n : Node) (op : Op) (i : AppInst) :
    AppEv.tick ∈ n.appEvs op i ↔
      (op = .tick ∧ n.applications.contains i.m.uid = true ∧ n.powerTick.1 = .on) ∨ op = .appApi i.m.uid .tick := by
  constructor
  · intro h
    rcases appEvs_shape n op i with ⟨e, he, _, hte⟩ | ⟨f, hf, t, ht, htt⟩
    · rw [he] at h; exact Or.inr (hte (List.mem_singleton.mp h).symm)
    · cases t
      · rw [ht] at h; rcases hf with rfl | rfl | rfl <;> simp at h
      · exact Or.inl (htt rfl)
  · rintro (⟨rfl, hc, hp⟩ | rfl)
    · simpa [Node.appEvs, Node.ticks, hp] using hc
    · simp [Node.appEvs]

/-- the events operation `op` delivers to application object `u` in node state `n` (none when `op` raises) -/
def appEvsOf (n : Node) (u : Nat) (op : Op) : List AppEv :=
  match n.findApp u with
  | some i => if (n.step op).2 = .raised then [] else n.appEvs op i
  | none => []

def appTrace (n : Node) (u : Nat) : List Op → List AppEv
  | [] => []
  | op :: ops => appEvsOf n u op ++ appTrace (n.step op).1 u ops

def appTicksTo (n : Node) (u : Nat) (ops : List Op) : Nat := (appTrace n u ops).count .tick

/-- uids are never reused: the counter of created objects never decreases -/
theorem step_next_mono (n : Node) (op : Op) : n.next ≤ (n.step op).1.next := by
  have k := step_kind n op
  generalize n.step op = r at k ⊢
  have evicted : ∀ name n1, n.evict name = some n1 → n.next ≤ n1.next + 1 := by
    intro name n1 he; rw [(evict_heap n n1 name he).2.2.1]; exact Nat.le_succ _
  have installed : ∀ (n' : Node) c cfg l hl f, n.installApp c cfg l hl f = some n' → n.next ≤ n'.next := by
    intro n' c cfg l hl f hi
    rcases installApp_some n n' c cfg l hl f hi with rfl | ⟨n1, he, rfl⟩
    · exact Nat.le_refl _
    · exact evicted _ n1 he
  cases k with
  | idle p up down out _ | deliver p up down out _ => exact Nat.le_refl _
  | uninstall name n' out hu _ => exact Nat.le_of_eq (uninstall_heap n n' name hu).2.2.1.symm
  | installSvc c cfg l hl f n' _ hi _ =>
    rcases installSvc_some n n' c cfg l hl f hi with rfl | ⟨n1, he, rfl⟩
    · exact Nat.le_refl _
    · exact evicted _ n1 he
  | installApp c cfg l hl f n' out _ hi _ => exact installed n' c cfg l hl f hi
  | reqInstall name c l n1 out _ hi _ _ => exact installed n1 c false l .good 2 hi

theorem step_raised_findApp (n : Node) (op : Op) (u : Nat) (i : AppInst) (h : n.findApp u = some i)
    (hr : (n.step op).2 = .raised) : (n.step op).1.findApp u = some i := by
  have k := step_kind n op
  generalize n.step op = r at k hr ⊢
  have same : ∀ n' : Node, n'.apps = n.apps → n'.findApp u = some i := by
    intro n' hs; show n'.apps.find? _ = _; rw [hs]; exact h
  cases k with
  | idle p up down out _ => exact same _ rfl
  | deliver p up down out hq =>
    have hd := findApp_deliver n op u i h
    rw [(hq hr).2 u i h] at hd
    exact hd
  | uninstall name n' out hu _ => exact same n' (uninstall_heap n n' name hu).2.1
  | installSvc c cfg l hl f n' _ hi _ => cases hr
  | installApp c cfg l hl f n' out _ hi _ => exact installApp_findApp hi h
  | reqInstall name c l n1 out _ hi _ hout => exact absurd hr hout

theorem step_application_total (n : Node) (op : Op) (u : Nat) (i : AppInst) (h : n.findApp u = some i) (hfresh : u < n.next) :
    (n.step op).1.findApp u = some { i with a := i.a.applyAll (appEvsOf n u op) } := by
  unfold appEvsOf
  rw [h]
  by_cases hr : (n.step op).2 = .raised
  · simp only [hr, if_true]
    exact step_raised_findApp n op u i h hr
  · simp only [hr, if_false]
    exact C13_step_application n op u i h hfresh hr

/-- **Refinement along a whole run, applications.**  For every node state, every application object `u` created so far and EVERY
operation sequence (raising operations included), the object after the run is the object before with exactly `appTrace` applied. -/
theorem C13_run_application (ops : List Op) (n : Node) (u : Nat) (i : AppInst) (h : n.findApp u = some i) (hfresh : u < n.next) :
    (n.run ops).findApp u = some { i with a := i.a.applyAll (appTrace n u ops) } := by
  induction ops generalizing n i with
  | nil => exact h
  | cons op ops ih =>
    have h1 := step_application_total n op u i h hfresh
    have := ih (n.step op).1 _ h1 (Nat.lt_of_lt_of_le hfresh (step_next_mono n op))
    simp only [Node.run, appTrace]
    rw [this, app_applyAll_append]

theorem run_next_mono (ops : List Op) (n : Node) : n.next ≤ (n.run ops).next :=
  run_invariant (fun m => n.next ≤ m.next) (fun m op h => Nat.le_trans h (step_next_mono m op)) ops n (Nat.le_refl _)

theorem appEvs_tick_last (n : Node) (op : Op) (i : AppInst) :
    AppEv.tick ∉ n.appEvs op i ∨
    ∃ pre, n.appEvs op i = pre ++ [AppEv.tick] ∧ AppEv.tick ∉ pre ∧ AppEv.forceClosed ∉ pre := by
  rcases appEvs_shape n op i with ⟨e, he, _, _⟩ | ⟨f, hfs, t, ht, _⟩
  · by_cases hte : e = .tick
    · exact Or.inr ⟨[], by rw [he, hte]; rfl, by simp, by simp⟩
    · exact Or.inl (by rw [he]; simpa using fun h => hte h.symm)
  · cases t
    · left; rw [ht]; rcases hfs with rfl | rfl | rfl <;> simp
    · right; refine ⟨f, by rw [ht]; rfl, ?_, ?_⟩ <;> rcases hfs with rfl | rfl | rfl <;> simp

/-- **`install_timing` at node level, one theorem over `Node.run`.**  Application object `u` (created so far) is INSTALLING with
countdown `c` (`= install_duration` when `install()` ran).  For EVERY operation sequence `ops` — requests to this or any other
software, API calls, installs / uninstalls, power events, payloads, raising operations — that never delivers it the `forceClosed`
of a re-registration:
* while the run has delivered it fewer than `max(c,1)` ticks (a tick = `apply_timestep` of the node while it is ON after its power
  countdowns and `u` is in `node.applications`, or `apply_timestep` of the object: `C13_app_tick_delivered_iff`), it is still
  INSTALLING and its countdown is `c −` that number: the install is suspended while the node is not ON, unaffected by anything else;
* the operation that delivers tick number `max(c,1)` makes it RUNNING with health GOOD and the countdown cleared. -/
theorem C13_node_install_timing (ops : List Op) (n : Node) (u : Nat) (i : AppInst) (c : Int)
    (h : n.findApp u = some i) (hfresh : u < n.next) (hs : i.a.st = .installing) (hc : i.a.cd = some c)
    (hd : AppEv.forceClosed ∉ appTrace n u ops) :
    ((appTicksTo n u ops : Int) < max c 1 →
      ∃ j, (n.run ops).findApp u = some j ∧ j.m = i.m ∧ j.a.st = .installing ∧ j.a.cd = some (c - appTicksTo n u ops)) ∧
    (∀ op, (appTicksTo n u ops : Int) = max c 1 - 1 → AppEv.tick ∈ appEvsOf (n.run ops) u op →
      ∃ j, ((n.run ops).step op).1.findApp u = some j ∧ j.m = i.m ∧ j.a.st = .running ∧ j.a.cd = none ∧ j.a.sw.actual = .good) := by
  have hrun := C13_run_application ops n u i h hfresh
  have hfresh' : u < (n.run ops).next := Nat.lt_of_lt_of_le hfresh (run_next_mono ops n)
  constructor
  · intro hk
    obtain ⟨h1, h2⟩ := C13_install_timing_before (appTrace n u ops) i.a c hs hc hd hk
    exact ⟨_, hrun, rfl, h1, h2⟩
  · intro op hk ht
    have hstep := step_application_total (n.run ops) op u _ hrun hfresh'
    refine ⟨_, hstep, rfl, ?_⟩
    obtain ⟨pre, hsplit, hpre, hdpre⟩ :
        ∃ pre, appEvsOf (n.run ops) u op = pre ++ [AppEv.tick] ∧ AppEv.tick ∉ pre ∧ AppEv.forceClosed ∉ pre := by
      unfold appEvsOf at ht ⊢
      rw [hrun] at ht ⊢
      simp only at ht ⊢
      split at ht
      · simp at ht
      · rename_i hnr
        rw [if_neg hnr]
        rcases appEvs_tick_last (n.run ops) op _ with hno | hyes
        · exact absurd ht hno
        · exact hyes
    show (App.applyAll _ (appEvsOf (n.run ops) u op)).st = .running ∧ (App.applyAll _ (appEvsOf (n.run ops) u op)).cd = none ∧
      (App.applyAll _ (appEvsOf (n.run ops) u op)).sw.actual = .good
    rw [hsplit, ← app_applyAll_append, ← List.append_assoc]
    apply C13_install_timing_completes (appTrace n u ops ++ pre) i.a c hs hc
    · simp only [List.mem_append, not_or]; exact ⟨hd, hdpre⟩
    · rw [List.count_append, List.count_eq_zero.mpr hpre]; simpa [appTicksTo] using hk

/-- non-vacuity and the concrete figure at node level: a dos-bot installed through the request on an ON node (install_duration 2),
a shutdown / start-up cycle and unrelated operations in between; ticks while the node is not ON do not count: INSTALLING while one
tick reached it, RUNNING with the second. -/
example :
    let c : Cls := { cid := "DoSBot", name := "dos-bot", port := 0, proto := 0 }
    let n0 := ({ upDur := 1, downDur := 1 } : Node).run [.reqInstall "dos-bot" (some (c, []))]
    let ops : List Op := [.tick, .appReq "dos-bot" .close, .reqShutdown, .tick, .tick, .reqStartup, .tick]
    ((n0.findApp 0).map (·.a.st), (n0.findApp 0).map (·.a.cd)) = (some .installing, some (some 2)) ∧
    appTicksTo n0 0 ops = 1 ∧ ((n0.run ops).findApp 0).map (·.a.st) = some .installing ∧
    AppEv.tick ∈ appEvsOf (n0.run ops) 0 .tick ∧ (((n0.run ops).step .tick).1.findApp 0).map (·.a.st) = some .running := by decide +kernel

end Primaite.C13
