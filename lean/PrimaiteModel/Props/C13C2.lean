/-
C13 — C2 beacon ↔ server: configured → established → lost after missed keep-alives; only a RUNNING instance keeps
the connection alive; commands need an established connection; the beacon closes itself on loss.
-/
import PrimaiteModel.Model.C13C2
import PrimaiteModel.Gen.SoftwareRecv
namespace Primaite.C13
open Primaite.C2

/-- **Only a RUNNING, healthy instance with an active connection does anything at a tick**: otherwise the connection state
is untouched, no keep-alive is sent, nothing is closed — beacon and server alike. -/
theorem C13_c2_idle_unless_running (running good reply : Bool) (c : Link) (h : (running && good && c.active) = false) :
    beaconTick running good reply c = { link := c, sent := 0, closed := false } ∧ serverTick running good c = c := by
  simp [beaconTick, serverTick, h]

/-- **One beacon tick, characterised**: the inactivity counter goes up by one; the keep-alive is sent exactly on the tick at
which it reaches the configured frequency; answered → the counter is back at 0 and the connection stays; unanswered → the
connection is reset (inactive, no remote) and the beacon calls `close()`. -/
theorem C13_c2_beacon_tick (reply : Bool) (c : Link) (ha : c.active = true) :
    beaconTick true true reply c =
      if c.inact + 1 = c.freq then
        (if reply then { link := { c with inact := 0, active := true, attempted := false }, sent := 1, closed := false }
         else { link := { c with active := false, remote := false, inact := 0, attempted := false }, sent := 1, closed := true })
      else { link := { c with inact := c.inact + 1, attempted := false }, sent := 0, closed := false } := by
  rcases c with ⟨active, remote, inact, freq, attempted⟩
  simp only at ha
  subst ha
  by_cases h : inact + 1 = freq
  · cases reply <;> simp [beaconTick, h, Link.reset]
    omega
  · simp [beaconTick, h]

/-- before the keep-alive is due nothing is sent and the connection stands: after `k < freq - inact` ticks the counter is
`inact + k` -/
theorem beacon_quiet_ticks (k : Nat) (replies : List Bool) (c : Link) (ha : c.active = true) (hl : replies.length = k)
    (hk : c.inact + k < c.freq) :
    beaconRun true true replies c = ({ c with inact := c.inact + k, attempted := if k = 0 then c.attempted else false }, 0, false) := by
  induction k generalizing replies c with
  | zero =>
    cases replies with
    | nil => simp [beaconRun]
    | cons _ _ => simp at hl
  | succ k ih =>
    cases replies with
    | nil => simp at hl
    | cons r rs =>
      have hne : ¬ c.inact + 1 = c.freq := by omega
      have ht := C13_c2_beacon_tick r c ha
      rw [if_neg hne] at ht
      simp only [beaconRun, ht, Bool.false_eq_true, if_false]
      have := ih rs { c with inact := c.inact + 1, attempted := false } ha (by simpa using hl) (by simp only; omega)
      rw [this]
      rcases c with ⟨active, remote, inact, freq, attempted⟩
      simp only [Nat.zero_add, Prod.mk.injEq, and_true, Link.mk.injEq, true_and]
      refine ⟨by omega, ?_⟩
      cases k <;> simp

theorem beaconRun_append (l1 l2 : List Bool) (d d1 : Link) (s1 : Nat) (h : beaconRun true true l1 d = (d1, s1, false)) :
    beaconRun true true (l1 ++ l2) d =
      ((beaconRun true true l2 d1).1, s1 + (beaconRun true true l2 d1).2.1, (beaconRun true true l2 d1).2.2) := by
  induction l1 generalizing d s1 with
  | nil => simp [beaconRun] at h; obtain ⟨rfl, rfl⟩ := h; simp
  | cons r rs ih =>
    simp only [beaconRun, List.cons_append] at h ⊢
    by_cases hcl : (beaconTick true true r d).closed = true
    · simp [hcl] at h
    · simp only [hcl] at h ⊢
      simp only [Bool.false_eq_true, if_false, Prod.mk.injEq] at h
      obtain ⟨h1, h2, h3⟩ := h
      rw [ih (beaconTick true true r d).link (beaconRun true true rs (beaconTick true true r d).link).2.1 (by rw [← h1, ← h3])]
      simp [← h2, Nat.add_assoc]

/-- **Established → lost after a missed keep-alive, with the configured timing.**  An established connection with the counter
at 0 and frequency `f ≥ 1`, the beacon RUNNING and healthy throughout: for `f - 1` ticks nothing is sent; on tick `f` exactly one
keep-alive goes out; if it is answered the beacon is back in the very same state (so an always-answered beacon stays established
for ever: `C13_c2_beacon_stays`); if it is not, the connection is reset and the beacon closes itself — on that tick, not
before, not later. -/
theorem C13_c2_beacon_period (quiet : List Bool) (reply : Bool) (c : Link) (ha : c.active = true) (h0 : c.inact = 0)
    (hf : 1 ≤ c.freq) (hl : quiet.length + 1 = c.freq) :
    beaconRun true true (quiet ++ [reply]) c =
      if reply then ({ c with inact := 0, attempted := false }, 1, false)
      else ({ c with active := false, remote := false, inact := 0, attempted := false }, 1, true) := by
  -- `freq - 1` quiet ticks, then the tick on which the keep-alive is due
  have hq := beacon_quiet_ticks quiet.length quiet c ha rfl (by omega)
  have ht := (C13_c2_beacon_tick reply
    { c with inact := c.inact + quiet.length, attempted := if quiet.length = 0 then c.attempted else false } ha).trans
    (if_pos (by show c.inact + quiet.length + 1 = c.freq; omega))
  rw [beaconRun_append quiet [reply] c _ 0 hq]
  simp only [beaconRun, ht]
  cases reply <;> simp [ha]

/-- an always-answered beacon stays established: after any number of full periods it is in the same state, having sent one
keep-alive per period and never closed -/
theorem C13_c2_beacon_stays (n : Nat) (c : Link) (ha : c.active = true) (h0 : c.inact = 0) (hat : c.attempted = false)
    (hf : 1 ≤ c.freq) :
    beaconRun true true (List.replicate (n * c.freq) true) c = (c, n, false) := by
  induction n with
  | zero => simp [beaconRun]
  | succ n ih =>
    have hsplit : List.replicate ((n + 1) * c.freq) true =
        (List.replicate (c.freq - 1) true ++ [true]) ++ List.replicate (n * c.freq) true := by
      have h1 : List.replicate (c.freq - 1) true ++ [true] = List.replicate c.freq true := by
        have : c.freq = (c.freq - 1) + 1 := by omega
        conv => rhs; rw [this]
        rw [List.replicate_succ']
      rw [h1, List.replicate_append_replicate]
      congr 1
      rw [Nat.succ_mul, Nat.add_comm]
    have hp := C13_c2_beacon_period (List.replicate (c.freq - 1) true) true c ha h0 hf (by simp; omega)
    simp only [if_true] at hp
    have hc : ({ c with inact := 0, attempted := false } : Link) = c := by
      rcases c with ⟨a, b, i, f, t⟩
      simp only at h0 hat
      simp [h0, hat]
    rw [hc] at hp
    rw [hsplit, beaconRun_append _ _ c c 1 hp, ih]
    simp [Nat.add_comm]

/-- **The server considers the beacon dead after more than `keep_alive_frequency` silent ticks**: from an established
connection with the counter at 0, RUNNING and healthy, without any keep-alive: after `k ≤ f` ticks it is still established with
the counter at `k`; after `f + 1` ticks the connection is reset — inactive, no remote, commands rejected. -/
theorem C13_c2_server_timeout (c : Link) (ha : c.active = true) (h0 : c.inact = 0) :
    (∀ k, k ≤ c.freq → serverRun true true k c = { c with inact := k }) ∧
    serverRun true true (c.freq + 1) c = { c with active := false, remote := false, inact := 0 } ∧
    (∀ canNet, commandAllowed canNet (serverRun true true (c.freq + 1) c) = false) := by
  have step : ∀ k (d : Link), d.active = true → d.inact + k ≤ d.freq → serverRun true true k d = { d with inact := d.inact + k } := by
    intro k
    induction k with
    | zero => intro d _ _; simp [serverRun]
    | succ k ih =>
      intro d hd hk
      have : serverTick true true d = { d with inact := d.inact + 1 } := by
        have : ¬ d.inact + 1 > d.freq := by omega
        simp [serverTick, hd, this]
      simp only [serverRun, this]
      have h2 := ih { d with inact := d.inact + 1 } hd (by simp only; omega)
      rw [h2]
      simp [Nat.add_assoc, Nat.add_comm 1 k]
  have h1 : ∀ k, k ≤ c.freq → serverRun true true k c = { c with inact := k } := by
    intro k hk
    rw [step k c ha (by omega), h0, Nat.zero_add]
  have h2 : serverRun true true (c.freq + 1) c = { c with active := false, remote := false, inact := 0 } := by
    have hs : ∀ n (d : Link), serverRun true true (n + 1) d = serverTick true true (serverRun true true n d) := by
      intro n
      induction n with
      | zero => intro d; simp [serverRun]
      | succ n ih => intro d; simp only [serverRun] at ih ⊢; rw [ih]
    rw [hs, h1 c.freq (Nat.le_refl _)]
    simp [serverTick, ha, Link.reset]
  exact ⟨h1, h2, fun canNet => by rw [h2]; simp [commandAllowed]⟩

/-- **Commands need an established connection**: `_check_connection` lets a command out iff the application can use the network
and has a remote; a keep-alive establishes it (server: active, remote, counter 0, the beacon's frequency adopted); a reset
(timeout, or the beacon's missed reply) withdraws it. -/
theorem C13_c2_command_needs_connection (canNet : Bool) (c : Link) (f : Nat) :
    (commandAllowed canNet c = true ↔ canNet = true ∧ c.remote = true) ∧
    commandAllowed canNet c.reset = false ∧
    commandAllowed canNet (serverKeepAlive f c) = canNet ∧
    (serverKeepAlive f c).active = true ∧ (serverKeepAlive f c).inact = 0 ∧ (serverKeepAlive f c).freq = f := by
  simp [commandAllowed, Link.reset, serverKeepAlive]

/-- the beacon side of a keep-alive exchange: the first keep-alive is resolved (frequency adopted, exchange marked attempted),
the second confirms; either way the connection is active with the counter at 0 -/
theorem C13_c2_beacon_keep_alive (f : Nat) (c : Link) :
    (beaconKeepAlive f c).active = true ∧ (beaconKeepAlive f c).inact = 0 ∧ (beaconKeepAlive f c).attempted = !c.attempted ∧
    (beaconKeepAlive f c).remote = c.remote := by
  unfold beaconKeepAlive
  cases c.attempted <;> simp

/-- non-vacuity: frequency 3 — two quiet ticks, keep-alive on the third; unanswered: lost and closed on that tick -/
example :
    beaconRun true true [true, true, false] { active := true, remote := true, freq := 3 } =
      ({ active := false, remote := false, inact := 0, freq := 3 }, 1, true) ∧
    serverRun true true 3 { active := true, remote := true, freq := 3 } = { active := true, remote := true, inact := 3, freq := 3 } ∧
    serverRun true true 4 { active := true, remote := true, freq := 3 } = { active := false, remote := false, inact := 0, freq := 3 } := by
  decide +kernel

/-- the connection handling of the C2 suite reads, statement for statement (logging dropped), as the model assumes: the tick
guard `RUNNING ∧ GOOD ∧ connection active` in front of the counter and of `_confirm_remote_connection`; the beacon sends when the
counter EQUALS the frequency, resets and `close()`s when it is still non-zero afterwards; the server resets when the counter
EXCEEDS the frequency; `_reset_c2_connection` clears active / remote / counter (and writes the stray `keep_alive_frequency`
attribute, not the configured value); `_check_connection` = network usable ∧ remote set; `receive` behind the running-guard. -/
theorem C13_gen_c2_bodies : Gen.SoftwareRecv.c2Bodies = [
  ("AbstractC2.apply_timestep", ["if self.operating_state is ApplicationOperatingState.RUNNING and self.health_state_actual is SoftwareHealthState.GOOD and (self.c2_connection_active is True) { self.keep_alive_inactivity += 1; self._confirm_remote_connection(timestep) }", "return super().apply_timestep(timestep=timestep)"]),
  ("AbstractC2._reset_c2_connection", ["self.c2_connection_active = False", "self.c2_session = None", "self.keep_alive_inactivity = 0", "self.keep_alive_frequency = 5", "self.c2_remote_connection = None", "self.config.masquerade_port = PORT_LOOKUP['HTTP']", "self.config.masquerade_protocol = PROTOCOL_LOOKUP['TCP']"]),
  ("AbstractC2._resolve_keep_alive", ["if not is_valid_port(payload.masquerade_port) or not is_valid_protocol(payload.masquerade_protocol) { return False }", "self.config.masquerade_port = payload.masquerade_port", "self.config.masquerade_protocol = payload.masquerade_protocol", "self.config.keep_alive_frequency = payload.keep_alive_frequency", "if self.c2_remote_connection is None { self.c2_remote_connection = IPv4Address(self.c2_session.with_ip_address) }", "self.c2_connection_active = True", "self.keep_alive_inactivity = 0", "return True"]),
  ("AbstractC2._check_connection", ["if not self._can_perform_network_action() { return (False, RequestResponse(status='failure', data={'Reason': 'Unable to access networking resources. Unable to send command.'})) }", "if self.c2_remote_connection is None { return (False, RequestResponse(status='failure', data={'Reason': 'C2 Application has yet to establish connection. Unable to send command.'})) }", "return (True, RequestResponse(status='success', data={'Reason': 'C2 Application is able to send connections.'}))"]),
  ("AbstractC2.receive", ["if not super().receive(payload=payload, session_id=session_id, **kwargs) { return False }", "if not isinstance(payload, C2Packet) { return False }", "return self._handle_c2_payload(payload, session_id)"]),
  ("C2Beacon._confirm_remote_connection", ["self.keep_alive_attempted = False", "if self.keep_alive_inactivity == self.config.keep_alive_frequency { self._send_keep_alive(session_id=self.c2_session.uuid); if self.keep_alive_inactivity != 0 { self._reset_c2_connection(); self.close(); return False } }", "return True"]),
  ("C2Beacon._handle_keep_alive", ["if self.keep_alive_attempted is True { self.c2_connection_active = True; self.keep_alive_inactivity = 0; self.c2_session = self.software_manager.session_manager.sessions_by_uuid[session_id]; self.keep_alive_attempted = False; return True }", "if self._resolve_keep_alive(payload, session_id) is False { return False }", "self.keep_alive_attempted = True", "return self._send_keep_alive(session_id)"]),
  ("C2Server._confirm_remote_connection", ["if self.keep_alive_inactivity > self.config.keep_alive_frequency { self._reset_c2_connection(); return False }", "return True"]),
  ("C2Server._handle_keep_alive", ["self.c2_connection_active = True", "self.c2_session = self.software_manager.session_manager.sessions_by_uuid[session_id]", "if self._resolve_keep_alive(payload, session_id) == False { return False }", "return self._send_keep_alive(session_id)"])] := by
  rfl

/-- **Command table**: every `C2Command` has exactly one handler in `C2Beacon._handle_command_input` and nothing else is
dispatched; the three payload kinds; the keep-alive frequency defaults to the model's default and is at least 1. -/
theorem C13_gen_c2_tables :
    Gen.SoftwareRecv.c2Commands.map (·.1) = ["RANSOMWARE_CONFIGURE", "RANSOMWARE_LAUNCH", "DATA_EXFILTRATION", "TERMINAL"] ∧
    Gen.SoftwareRecv.c2Dispatch = [("RANSOMWARE_CONFIGURE", "_command_ransomware_config"),
      ("RANSOMWARE_LAUNCH", "_command_ransomware_launch"), ("TERMINAL", "_command_terminal"),
      ("DATA_EXFILTRATION", "_command_data_exfiltration")] ∧
    (∀ c ∈ Gen.SoftwareRecv.c2Commands.map (·.1), (Gen.SoftwareRecv.c2Dispatch.filter (·.1 == c)).length = 1) ∧
    (∀ d ∈ Gen.SoftwareRecv.c2Dispatch.map (·.1), d ∈ Gen.SoftwareRecv.c2Commands.map (·.1)) ∧
    Gen.SoftwareRecv.c2Payloads.map (·.1) = ["KEEP_ALIVE", "INPUT", "OUTPUT"] ∧
    Gen.SoftwareRecv.c2KeepAliveDefault = ({} : Link).freq ∧ Gen.SoftwareRecv.c2KeepAliveMin = 1 :=
  ⟨rfl, rfl, by decide +kernel, by decide +kernel, rfl, rfl, rfl⟩

end Primaite.C13
