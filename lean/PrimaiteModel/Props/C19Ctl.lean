/-
C19: the methods that MOVE a threat-actor agent through its kill chain, translated statement by
statement from the sources (Gen/AgentsCtl.lean, regenerated on every run by harness/extract/agents_ctl.py), compute what
the hand-written model functions compute — for EVERY state in which the model has not raised (`err = false`).

    AbstractTAP._tap_outcome_handler   = Tap1.outcomeHandler / Tap3.outcomeHandler
    AbstractTAP._tap_start             = Tap1.tapStart / Tap3.tapStart
    AbstractTAP._tap_return_handler    = Tap1.returnHandler / Tap3.returnHandler (+ the answer `resp.ok`; no item: no change)
    AbstractTAP._agent_trial_handler   = failStage on a failed trial, nothing on a passed one
    TAP001._progress_kill_chain        = Tap1.progress
    TAP003._progress_kill_chain        = Tap3.progress

`Agree s m g`: the translated method, run on the encoding of the model state `s`, ended in `g`; the model function ended in
`m`.  They raise together; when they do not raise, stage, next stage, stage progress and `actions_concluded` are equal and
the chosen action is do-nothing exactly when the method assigned it (otherwise it is untouched).
A rewrite of one of these methods that keeps its meaning keeps these theorems (they are proved by running both sides on
every stage); one that changes it (seeded C19-f: a guard-clause rewrite of `_tap_outcome_handler` whose re-attack branch
returned early) breaks them.
-/
import PrimaiteModel.Gen.AgentsCtl
import PrimaiteModel.Model.AgentsTap
namespace Primaite.Agents
open Primaite.Gen.AgentsCtl (Ctl)

namespace Tap3

def enc (s : St) : Ctl := { cur := s.cur.val, nxt := s.nxt.val, prog := s.prog.val, concluded := s.concluded }
def mem (v : Int) : Bool := (Stage.ofVal? v).isSome
def initial : Int := Stage.reconnaissance.val

def Agree (s m : St) (g : Ctl) : Prop :=
  g.raised = m.err ∧ (g.raised = false → g.cur = m.cur.val ∧ g.nxt = m.nxt.val ∧ g.prog = m.prog.val ∧
    g.concluded = m.concluded ∧ m.chosen = (if g.nothing then Act.nothing else s.chosen))

/-- The members of `InsiderKillChain` by value, and next to the last of each block a value that is no member's. -/
theorem ofVal?_tbl : Stage.ofVal? 1 = some .reconnaissance ∧ Stage.ofVal? 2 = some .planning ∧ Stage.ofVal? 3 = some .access ∧
    Stage.ofVal? 4 = some .manipulation ∧ Stage.ofVal? 5 = some .exploit ∧ Stage.ofVal? 6 = some .embed ∧
    Stage.ofVal? 7 = some .conceal ∧ Stage.ofVal? 8 = some .extract ∧ Stage.ofVal? 9 = some .erase ∧ Stage.ofVal? 10 = none ∧
    Stage.ofVal? 100 = some .notStarted ∧ Stage.ofVal? 101 = none ∧ Stage.ofVal? 200 = some .succeeded ∧
    Stage.ofVal? 201 = none ∧ Stage.ofVal? 300 = some .failed ∧ Stage.ofVal? 301 = none := by decide

/- Both sides are evaluated stage by stage.  `simp` evaluates with the fields a method does not inspect left symbolic, so
the split is over the next (or current) stage only, and over a further field where the method looks at it. -/
theorem C19_gen_ctl_tap3_progress (s : St) (he : s.err = false) (rkc rs : Bool) :
    Agree s (progress s) (Gen.AgentsCtl.tap3ProgressKillChain initial rkc rs mem (enc s)) := by
  unfold Agree progress Gen.AgentsCtl.tap3ProgressKillChain enc mem
  cases hn : s.nxt <;> first
    | (simp [ofVal?_tbl, Stage.val, St.raise, Progress.val, he, hn]; done)
    | (cases hc : s.cur <;> simp [ofVal?_tbl, Stage.val, St.raise, Progress.val, he, hn, hc])

theorem C19_gen_ctl_tap3_outcome (c : Cfg) (s : St) (he : s.err = false) (rs : Bool) :
    Agree s (outcomeHandler c s) (Gen.AgentsCtl.tapOutcomeHandler initial c.repeatKillChain rs mem (enc s)) := by
  unfold Agree outcomeHandler Gen.AgentsCtl.tapOutcomeHandler enc initial
  cases hc : s.cur <;> first
    | (simp [Stage.val, he, hc]; done)
    | (cases hcc : s.concluded <;> cases hr : c.repeatKillChain <;> simp [Stage.val, Progress.val, he])

theorem C19_gen_ctl_tap3_start (s : St) (he : s.err = false) (rkc rs : Bool) :
    Agree s (tapStart s) (Gen.AgentsCtl.tapStart initial rkc rs mem (enc s)) := by
  unfold Agree tapStart Gen.AgentsCtl.tapStart enc mem initial
  cases hc : s.cur <;> simp [ofVal?_tbl, Stage.val, he, hc]

/-- `_tap_return_handler` on an existing history item: the model's `returnHandler`, and the answer is `response ok`. -/
theorem C19_gen_ctl_tap3_return (c : Cfg) (h : Hist) (s : St) (he : s.err = false) (rkc : Bool) :
    Agree s (returnHandler c h s) (Gen.AgentsCtl.tapReturnHandler initial rkc c.repeatStages mem false h.resp.ok (enc s)).1 ∧
    (Gen.AgentsCtl.tapReturnHandler initial rkc c.repeatStages mem false h.resp.ok (enc s)).2 = h.resp.ok := by
  cases hk : h.resp.ok <;> cases hr : c.repeatStages <;>
    simp [Agree, returnHandler, Gen.AgentsCtl.tapReturnHandler, enc, Stage.val, hk, hr, he]

/-- … and without an item to look back at (`timestep >= len(history)`) it answers True and changes nothing — what
`lookBack`'s synthetic successful item stands for. -/
theorem C19_gen_ctl_return_no_item (initial : Int) (rkc rs ok : Bool) (mem : Int → Bool) (g : Ctl) :
    Gen.AgentsCtl.tapReturnHandler initial rkc rs mem true ok g = (g, true) := by
  simp [Gen.AgentsCtl.tapReturnHandler]

/-- `_agent_trial_handler`: a failed trial is the model's `failStage`, a passed one changes nothing. -/
theorem C19_gen_ctl_tap3_trial (c : Cfg) (s : St) (he : s.err = false) (rkc : Bool) :
    Agree s (failStage c s) (Gen.AgentsCtl.agentTrialHandler initial rkc c.repeatStages mem false (enc s)).1 ∧
    (Gen.AgentsCtl.agentTrialHandler initial rkc c.repeatStages mem false (enc s)).2 = false ∧
    Gen.AgentsCtl.agentTrialHandler initial rkc c.repeatStages mem true (enc s) = (enc s, true) := by
  cases hr : c.repeatStages <;>
    simp [Agree, failStage, Gen.AgentsCtl.agentTrialHandler, enc, Stage.val, hr, he]

end Tap3

namespace Tap1

def enc (s : St) : Ctl := { cur := s.cur.val, nxt := s.nxt.val, prog := s.prog.val, concluded := s.concluded }
def mem (v : Int) : Bool := (Stage.ofVal? v).isSome
def initial : Int := Stage.download.val

def Agree (s m : St) (g : Ctl) : Prop :=
  g.raised = m.err ∧ (g.raised = false → g.cur = m.cur.val ∧ g.nxt = m.nxt.val ∧ g.prog = m.prog.val ∧
    g.concluded = m.concluded ∧ m.chosen = (if g.nothing then Act.nothing else s.chosen))

/-- The members of `MobileMalwareKillChain` by value, and next to the last of each block a value that is no member's. -/
theorem ofVal?_tbl : Stage.ofVal? 1 = some .download ∧ Stage.ofVal? 2 = some .install ∧ Stage.ofVal? 3 = some .activate ∧
    Stage.ofVal? 4 = some .propagate ∧ Stage.ofVal? 5 = some .c2 ∧ Stage.ofVal? 6 = some .payload ∧ Stage.ofVal? 7 = none ∧
    Stage.ofVal? 100 = some .notStarted ∧ Stage.ofVal? 101 = none ∧ Stage.ofVal? 200 = some .succeeded ∧
    Stage.ofVal? 201 = none ∧ Stage.ofVal? 300 = some .failed ∧ Stage.ofVal? 301 = none := by decide

theorem C19_gen_ctl_tap1_progress (s : St) (he : s.err = false) (rkc rs : Bool) :
    Agree s (progress s) (Gen.AgentsCtl.tap1ProgressKillChain initial rkc rs mem (enc s)) := by
  unfold Agree progress Gen.AgentsCtl.tap1ProgressKillChain enc mem
  cases hn : s.nxt <;> first
    | (simp [ofVal?_tbl, Stage.val, St.raise, Progress.val, he, hn]; done)
    | (cases hc : s.cur <;> simp [ofVal?_tbl, Stage.val, St.raise, Progress.val, he, hn, hc])

theorem C19_gen_ctl_tap1_outcome (c : Cfg) (s : St) (he : s.err = false) (rs : Bool) :
    Agree s (outcomeHandler c s) (Gen.AgentsCtl.tapOutcomeHandler initial c.repeatKillChain rs mem (enc s)) := by
  unfold Agree outcomeHandler Gen.AgentsCtl.tapOutcomeHandler enc initial
  cases hc : s.cur <;> first
    | (simp [Stage.val, he, hc]; done)
    | (cases hcc : s.concluded <;> cases hr : c.repeatKillChain <;> simp [Stage.val, Progress.val, he])

theorem C19_gen_ctl_tap1_start (s : St) (he : s.err = false) (rkc rs : Bool) :
    Agree s (tapStart s) (Gen.AgentsCtl.tapStart initial rkc rs mem (enc s)) := by
  unfold Agree tapStart Gen.AgentsCtl.tapStart enc mem initial
  cases hc : s.cur <;> simp [ofVal?_tbl, Stage.val, he, hc]

theorem C19_gen_ctl_tap1_return (c : Cfg) (h : Hist) (s : St) (he : s.err = false) (rkc : Bool) :
    Agree s (returnHandler c h s) (Gen.AgentsCtl.tapReturnHandler initial rkc c.repeatStages mem false h.resp.ok (enc s)).1 ∧
    (Gen.AgentsCtl.tapReturnHandler initial rkc c.repeatStages mem false h.resp.ok (enc s)).2 = h.resp.ok := by
  cases hk : h.resp.ok <;> cases hr : c.repeatStages <;>
    simp [Agree, returnHandler, Gen.AgentsCtl.tapReturnHandler, enc, Stage.val, hk, hr, he]

theorem C19_gen_ctl_tap1_trial (c : Cfg) (s : St) (he : s.err = false) (rkc : Bool) :
    Agree s (failStage c s) (Gen.AgentsCtl.agentTrialHandler initial rkc c.repeatStages mem false (enc s)).1 ∧
    (Gen.AgentsCtl.agentTrialHandler initial rkc c.repeatStages mem false (enc s)).2 = false ∧
    Gen.AgentsCtl.agentTrialHandler initial rkc c.repeatStages mem true (enc s) = (enc s, true) := by
  cases hr : c.repeatStages <;>
    simp [Agree, failStage, Gen.AgentsCtl.agentTrialHandler, enc, Stage.val, hr, he]

end Tap1

/-- The keys `_handle_login_response` reads from a login response. -/
def loginKeysRead : List String :=
  (Gen.AgentsCtl.tap3DataReads.filter (·.1 == "_handle_login_response")).map (·.2)

/-- **`SimOk` (Props/C19Wf.lean) holds of the sites that build the responses TAP003 reads.**
(1) the simulation answers the `do-nothing` request with `success`;
(2) EVERY `RequestResponse` that `Terminal._remote_login` builds with status `success` carries every key
    `_handle_login_response` reads (the comparison is by key sets: a further key, another order, a further failure
    site keep it);
(3) TAP003 reads `response.data` nowhere else than in `_handle_login_response` (behind the guards "action is
    node-session-remote-login and status is success") and, for `reason`, in `get_action` inside
    `if current stage == PLANNING` — the two raise points `Tap3.handleLogin` and `Tap3.reasonCheck` of the model.
Assumed, not proved: that the response recorded for an action in `agent.history` is the one these handlers return (request
routing through the RequestManager tree and the permission validators in front of them, which answer `failure` /
`unreachable`, never `success`), and that a do-nothing ACTION is formed into the `do-nothing` request. -/
theorem C19_gen_resp_wf_sites :
    Gen.AgentsCtl.doNothingStatus = "success" ∧
    (Gen.AgentsCtl.remoteLoginSites.any (·.1 == "success")) = true ∧
    (Gen.AgentsCtl.remoteLoginSites.all fun st => st.1 != "success" || loginKeysRead.all (st.2.contains ·)) = true ∧
    (Gen.AgentsCtl.tap3DataReads.all fun r => r.1 == "_handle_login_response" || (r.1 == "get_action" && r.2 == "reason")) = true ∧
    Gen.AgentsCtl.tap3ReasonGuard = "self.current_kill_chain_stage == InsiderKillChain.PLANNING" ∧
    Gen.AgentsCtl.tap3LoginGuards = ["not self.history",
      "not last_hist_item.action == 'node-session-remote-login' or last_hist_item.response.status != 'success'"] := by
  refine ⟨rfl, ?_, ?_, ?_, rfl, rfl⟩
  · simp [Gen.AgentsCtl.remoteLoginSites]
  · simp [Gen.AgentsCtl.remoteLoginSites, loginKeysRead, Gen.AgentsCtl.tap3DataReads]
  · simp [Gen.AgentsCtl.tap3DataReads]

end Primaite.Agents
