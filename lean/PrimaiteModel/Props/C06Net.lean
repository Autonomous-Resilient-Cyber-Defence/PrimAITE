/-
C06, third layer: the attacker side is made of MODELLED PrimAITE elements — hosts behind their session manager, switches —
and the closure hypothesis of the class cut theorem ("every frame circulating on the attacker side is in the class") is
PROVED for them:

* `liftSw_pres`: software confined to the opaque software state keeps every predicate that does not read it;
* `C06_host_safe`: a host (arbitrary services / applications above the session manager, the ARP service modelled) turns
  class frames into class frames and keeps its interfaces;  `C06_hostOp_safe`: so does every local operation on it;
* `C06_switch_safe`: a switch forwards the frame it received, unchanged;
* `ClN`: the frame class of a labelled topology = packets of the class (∪ genuine ARP packets) whose ARP payload is
  well-formed for the segment it travels on; `hostClosedN_of_certify`, `switchClosedN_of_certify`, `rtrClosedN_of_certify` (what
  `certifyN` gives per node); `C06_certifiedN_unchanged`: the theorem for a certified
  network with NO hypothesis on the attacker side and NO hypothesis on a blocking router's software;
* `C06_softKeeps_of_confined_set`: `SoftKeeps` from a decidable condition on the software set (`C06_gen_shipped_software`: true of
  what is shipped, the Terminal apart); `C06_certified_unchanged_confined`;
* `C06_instance_*`: the blocking mechanisms that are "an element that never emits", as instances on A — X — B.
-/
import PrimaiteModel.Model.FilterNet
import PrimaiteModel.Model.FilterFwd
import PrimaiteModel.Props.C06Class
import PrimaiteModel.Props.C06Rtr
import PrimaiteModel.Gen.FilterSoft
namespace Primaite.Filter
open Primaite Primaite.Acl Primaite.Cut

variable {W : Type}

/-- predicates that do not read the software state -/
def SwIndep (P : Node W → Prop) : Prop := ∀ s x, P s → P { s with sw := x }

/-- **Software confined to `sw` keeps every predicate that does not read `sw`** (interfaces still disabled, still the same
addresses, still OFF, lists still denying): whatever it computes, whatever traffic it causes and is re-entered by. -/
theorem liftSw_pres (P : Node W → Prop) (hP : SwIndep P) :
    ∀ (a : SwScript W) (s : Node W), P s → Pres P (liftSw s a) := by
  intro a
  induction a with
  | done w => intro s hs; exact Pres.done (hP s w hs)
  | send w q g k ih => intro s hs; exact Pres.send (hP s w hs) (fun s' hs' => ih s'.sw s' hs')

theorem pres_stamp (P : Node W → Prop) (st : Node W → Nat → Frame → Frame) :
    ∀ a : Script W, Pres P a → Pres P (stampSends st a) := by
  intro a
  induction a with
  | done s => intro h; cases h with | done hp => exact Pres.done hp
  | send s q g k ih =>
    intro h
    cases h with
    | send hp hk => exact Pres.send hp (fun s' hs' => ih s' (hk s' hs'))

/-- **`SoftKeeps` from a decidable condition on the software set.**  An element whose installed software is confined to the
software state (`setConfined`: decidable; true of everything a router, firewall, switch or host carries as shipped except
the Terminal — `C06_gen_shipped_software`), with firmware that writes only the software state, keeps every predicate that
does not read the software state — in particular "my boundary interfaces are disabled" (`BoundaryDown`), through any
amount of frame processing and re-entrant traffic.  The hypothesis `SoftKeeps` of the cut theorems remains only for
user-installed (`free`) software and for the Terminal's command execution (the application-level relay). -/
theorem C06_softKeeps_of_confined_set (fw : Firmware W) (items : List (SwItem W)) (h : setConfined items = true)
    (P : Node W → Prop) (hP : SwIndep P) : SoftKeeps (softOf fw items) P := by
  refine ⟨?_, ?_, ?_, ?_⟩
  · intro s p f hs
    simp only [softOf, dispatchSession]
    split
    · rename_i it hfind
      have hit := List.all_eq_true.mp h it (List.mem_of_find?_eq_some hfind)
      cases it with
      | confined port r => exact liftSw_pres P hP _ s hs
      | free port r => cases hit
    · exact Pres.done hs
  · intro s p f hs; exact liftSw_pres P hP _ s hs
  · intro s p f hs; exact liftSw_pres P hP _ s hs
  · intro s p f hs; exact liftSw_pres P hP _ s hs

/-- what the condition excludes: ONE free item (say, a terminal executing `network_interface/2/enable` for whoever logged
in) and the boundary interface is up again -/
example : ∃ (items : List (SwItem Unit)) (s : Node Unit) (f : Frame),
    setConfined items = false ∧ portEnabled s 1 = false ∧
    ¬ Pres (fun s' => portEnabled s' 1 = false) (dispatchSession items s 0 f) := by
  refine ⟨[.free 22 (fun s _ _ => .done { s with ifaces := s.ifaces.map (fun i => { i with enabled := true }) })],
    { exRouter with ifaces := exRouter.ifaces.map (fun i => { i with enabled := false }) },
    { exPing with pkt := { exPing.pkt with proto := .tcp, ports := some (22, 22) } }, by decide, by decide, ?_⟩
  intro h
  simp only [dispatchSession, SwItem.port, List.find?, beq_self_eq_true, SwItem.run] at h
  cases h with
  | done hp => revert hp; decide

/-- the software sets as shipped, and which of their classes are confined: all but the Terminal (its `receive` executes
commands through the request dispatcher) -/
theorem C06_gen_shipped_software :
    Gen.FilterSoft.systemSoftware = shippedSoftware ∧
    (Gen.FilterSoft.systemSoftware.all fun kc => kc.2.all fun c => c == "Terminal" || confinedClass Gen.FilterSoft.receiveReach c) = true ∧
    confinedClass Gen.FilterSoft.receiveReach "Terminal" = false := ⟨rfl, by decide +kernel, by decide +kernel⟩

/-- the source shapes the host / switch / ARP models follow -/
theorem C06_gen_net_models :
    Gen.FilterSoft.switchReceive = switchOrder ∧ Gen.FilterSoft.arpPacketSites = arpPacketSites ∧
    Gen.FilterSoft.arpReplyCallers = arpReplyCallers ∧ Gen.FilterSoft.generateReply = generateReplyShape ∧
    Gen.FilterSoft.sessionArpBranch = sessionArpBranch ∧ Gen.FilterSoft.hostArpRequest = hostArpRequestOrder :=
  ⟨rfl, rfl, rfl, rfl, rfl, rfl⟩

section closure
variable {N : Type} [DecidableEq N]
variable (sys : Sys N Nat Frame (Node W)) (side : N → Bool) (Cl : N → Nat → Frame → Prop) (I : N → Node W → Prop) (n : N)

/-- the frame the session manager builds on interface `i` from what software asked for -/
def stampOn (i : Iface) (g : Frame) : Frame :=
  if g.arp then arpRequestFrame i g.arpTgt else { g with srcMac := i.mac, pkt := { g.pkt with srcIp := i.ip } }

theorem hostStamp_eq (s : Node W) (q : Nat) (i : Iface) (g : Frame) (h : s.ifaces[q]? = some i) :
    hostStamp s q g = stampOn i g := by
  simp [hostStamp, h, stampOn]

theorem stampOn_srcIp (i : Iface) (g : Frame) : (stampOn i g).pkt.srcIp = i.ip := by
  unfold stampOn; split <;> rfl

/-- the only genuine ARP packet the session manager frames for software above it is `send_arp_request`'s -/
theorem stampOn_exempt (i : Iface) (g : Frame) (h : subjectToAcl (stampOn i g) = some false) :
    stampOn i g = arpRequestFrame i g.arpTgt := by
  by_cases hg : g.arp = true
  · simp [stampOn, hg]
  · have he : (stampOn i g).arp = g.arp := by simp [stampOn, hg]
    exact absurd (he ▸ exempt_arp _ h) hg

/-- what the cut needs of a host's addresses: frames built on its interfaces are in the class at the other end of the wire,
and so is its ARP service's reply to a class request -/
structure HostClosed (ifs : List Iface) : Prop where
  inside : ∀ q m r, sys.wire n q = some (m, r) → side m = true
  app : ∀ q i g m r, ifs[q]? = some i → sys.wire n q = some (m, r) → Cl m r (stampOn i g)
  reply : ∀ p f x q o i m r, SideFacing sys side n p → Cl n p f → subjectToAcl f = some false → f.arpReq = true →
    ifs[q]? = some o → sys.wire n q = some (m, r) → Cl m r (arpReplyFrame o i { f with ttl := x })

variable (ifs : List Iface) (hn : side n = true)
  (hI : ∀ s, I n s ↔ (s.kind = .host ∧ s.ifaces = ifs)) (hc : HostClosed sys side Cl n ifs)

include hn hI hc in
theorem host_app_safe : ∀ (a : SwScript W) (s : Node W), I n s →
    SafeAct sys side (FromSideC sys side Cl) I n (guardSends portEnabled (stampSends hostStamp (liftSw s a))) := by
  refine safe_lift_stamp sys side I n _ _ (fun s x h => (hI _).mpr ((hI s).mp h))
    (fun s i q g m r hs hi hw => ⟨hc.inside q m r hw, ⟨n, q, hn, hw⟩, ?_⟩)
  rw [hostStamp_eq s q i g hi]
  exact hc.app q i g m r (by rw [← ((hI s).mp hs).2]; exact hi) hw

omit [DecidableEq N] in
theorem hostArpReply_cases (h : HostApp W) (s1 : Node W) (p : Nat) (f : Frame) :
    hostArpReply h s1 p f = .done s1 ∨
    ∃ i q o, f.arpReq = true ∧ s1.ifaces[q]? = some o ∧
      hostArpReply h s1 p f = .send { s1 with sw := h.arpSent s1 q } q (arpReplyFrame o i f) (fun s' => .done s') := by
  generalize ha : hostArpReply h s1 p f = a
  simp only [hostArpReply] at ha
  split at ha
  · exact Or.inl ha.symm
  · split at ha
    · exact Or.inl ha.symm
    · rename_i hreq
      split at ha
      · exact Or.inl ha.symm
      · rename_i i _
        split at ha
        · exact Or.inl ha.symm
        · split at ha
          · exact Or.inl ha.symm
          · rename_i q _
            split at ha
            · exact Or.inl ha.symm
            · rename_i o ho
              exact Or.inr ⟨i, q, o, by simpa using hreq, ho, ha.symm⟩

include hn hI hc in
theorem host_arp_safe (h : HostApp W) (p : Nat) (f : Frame) (y : Nat) (hsf : SideFacing sys side n p) (hcl : Cl n p f)
    (hsub : subjectToAcl f = some false) (s2 : Node W) (hI2 : I n s2) :
    SafeAct sys side (FromSideC sys side Cl) I n (guardSends portEnabled (hostArpReply h s2 p { f with ttl := y })) := by
  rcases hostArpReply_cases h s2 p { f with ttl := y } with e | ⟨i, q, o, hq, ho, e⟩ <;> rw [e]
  · exact SafeAct.done hI2
  · exact safe_guard_send _ _ _ _ n portEnabled _ q _ ((hI _).mpr ((hI s2).mp hI2)) (fun _ m r hw =>
      ⟨hc.inside q m r hw, ⟨n, q, hn, hw⟩,
        hc.reply p f y q o i m r hsf hcl hsub hq (by rw [← ((hI s2).mp hI2).2]; exact ho) hw⟩)

include hn hI hc in
theorem host_session_safe (h : HostApp W) (p : Nat) (f : Frame) (y : Nat) (hsf : SideFacing sys side n p) (hcl : Cl n p f)
    (s1 : Node W) (hI1 : I n s1) :
    SafeAct sys side (FromSideC sys side Cl) I n (guardSends portEnabled ((hostStd h).session s1 p { f with ttl := y })) := by
  simp only [hostStd]
  split
  · rename_i hex
    have hsub : subjectToAcl { f with ttl := y } = some false := by simpa [isArpExempt] using hex
    exact host_arp_safe sys side Cl I n ifs hn hI hc h p f y hsf hcl hsub _ ((hI _).mpr ((hI s1).mp hI1))
  · exact host_app_safe sys side Cl I n ifs hn hI hc _ s1 hI1

include hn hI hc in
/-- **A host turns class frames into class frames and keeps its interfaces** — for ALL services and applications above
the session manager (`HostApp` is arbitrary). -/
theorem C06_host_safe (h : HostApp W) (s : Node W) (p : Nat) (f : Frame) (hs : I n s) (hsf : SideFacing sys side n p)
    (hcl : Cl n p f) : SafeAct sys side (FromSideC sys side Cl) I n (nodeRx (hostStd h) s p f) := by
  refine nodeRx_closed _ (hostStd h) s p f (SafeAct.done hs) (fun _ _ _ => ?_)
  exact hostLayer_closed (SafeG sys side _ _ portEnabled n) _ (fun _ => SafeAct.done) (fun s' x h' => (hI _).mpr ((hI s').mp h'))
    _ s p _ ((hI s).mp hs).1 hs (host_session_safe sys side Cl I n ifs hn hI hc h p f _ hsf hcl)

include hn hI hc in
/-- **Every local operation on a host** (an action, an application or attack step, a timestep of its software) is admissible. -/
theorem C06_hostOp_safe (a : Node W → SwScript W) (s : Node W) (hs : I n s) :
    SafeAct sys side (FromSideC sys side Cl) I n (hostOp s (a s)) :=
  host_app_safe sys side Cl I n ifs hn hI hc (a s) s hs

/-- what the cut needs of a switch: a class frame that arrived on one port is a class frame at the far end of every wire -/
structure SwitchClosed : Prop where
  inside : ∀ q m r, sys.wire n q = some (m, r) → side m = true
  fwd : ∀ p f x q m r, SideFacing sys side n p → Cl n p f → sys.wire n q = some (m, r) → Cl m r { f with ttl := x }

variable (hIs : ∀ s, I n s ↔ s.kind = .switch) (hcs : SwitchClosed sys side Cl n)

omit [DecidableEq N] in
include hn hcs in
theorem flood_safe (f : Frame) (p : Nat) (hout : ∀ q m r, sys.wire n q = some (m, r) → Cl m r f) :
    ∀ (ports : List Nat) (s : Node W), I n s →
      SafeAct sys side (FromSideC sys side Cl) I n (guardSends portEnabled (floodTo f p ports s)) := by
  intro ports
  induction ports with
  | nil => intro s hs; exact SafeAct.done hs
  | cons q rest ih =>
    intro s hs
    simp only [floodTo]
    split
    · exact ih s hs
    · simp only [guardSends]
      split
      · exact SafeAct.send hs (fun m r hw => ⟨hcs.inside q m r hw, ⟨n, q, hn, hw⟩, hout q m r hw⟩) (fun s' hs' => ih s' hs')
      · exact ih s hs

include hn hIs hcs in
/-- **A switch forwards the frame it received, unchanged**: class frames stay class frames, whatever the MAC table holds. -/
theorem C06_switch_safe (t : SwitchTbl W) (s : Node W) (p : Nat) (f : Frame) (hs : I n s) (hsf : SideFacing sys side n p)
    (hcl : Cl n p f) : SafeAct sys side (FromSideC sys side Cl) I n (nodeRx (switchStd t) s p f) := by
  have hk : s.kind = .switch := (hIs s).mp hs
  refine nodeRx_closed _ (switchStd t) s p f (SafeAct.done hs) (fun _ _ _ => ?_)
  have hout : ∀ q m r, sys.wire n q = some (m, r) → Cl m r { f with ttl := f.ttl - 1 } :=
    fun q m r hw => hcs.fwd p f _ q m r hsf hcl hw
  rw [nodeLayer_switch _ hk]
  simp only [switchStd]
  have hI1 : I n ({ s with sw := t.learn s p { f with ttl := f.ttl - 1 } } : Node W) := (hIs _).mpr hk
  split
  · rename_i q _
    exact safe_guard_send _ _ _ _ n portEnabled _ q _ hI1
      (fun _ m r hw => ⟨hcs.inside q m r hw, ⟨n, q, hn, hw⟩, hout q m r hw⟩)
  · exact flood_safe sys side Cl I n hn hcs _ p hout _ _ hI1

end closure

theorem srcCovers_holds (cls : List Rule) (a : Ip) (h : srcCovers cls a = true) (pkt : Packet) (hp : pkt.srcIp = a) :
    clsHolds cls pkt = true := by
  simp only [srcCovers, List.any_eq_true, Bool.and_eq_true] at h
  obtain ⟨c, hc, hso, ham⟩ := h
  simp only [clsHolds, List.any_eq_true]
  refine ⟨c, hc, ?_⟩
  simp only [srcOnly, Bool.and_eq_true, Option.isNone_iff_eq_none] at hso
  obtain ⟨⟨⟨h1, h2⟩, h3⟩, h4⟩ := hso
  simp [Rule.hits?, protoMatches, addrMatches, portMatches, h1, h2, h3, h4, hp]
  simpa [addrMatches] using ham

theorem zipIdx_all {α : Type} (P : Nat × α → Bool) : ∀ (l : List α) (k q : Nat) (x : α),
    (zipIdx l k).all P = true → l[q]? = some x → P (k + q, x) = true := by
  intro l
  induction l with
  | nil => intro k q x _ h; simp at h
  | cons y ys ih =>
    intro k q x hall h
    simp only [zipIdx, List.all_cons, Bool.and_eq_true] at hall
    cases q with
    | zero => simp only [List.getElem?_cons_zero, Option.some.injEq] at h; subst h; simpa using hall.1
    | succ q =>
      have := ih (k + 1) q x hall.2 (by simpa using h)
      have e : k + 1 + q = k + (q + 1) := by omega
      rw [e] at this; exact this

theorem ifaceOnLabel_self (i : Iface) (L : Ip × Ip) (h : ifaceOnLabel i L = true) : inLabel L i.ip = true := by
  simp only [ifaceOnLabel, Bool.and_eq_true, beq_iff_eq] at h
  simp only [inLabel, beq_iff_eq]
  rw [← h.1]; exact h.2

theorem ifaceOnLabel_inNet (i : Iface) (L : Ip × Ip) (a : Ip) (h : ifaceOnLabel i L = true) (ha : inLabel L a = true) :
    i.inNet a = true := by
  simp only [ifaceOnLabel, Bool.and_eq_true, beq_iff_eq] at h
  simp only [inLabel, beq_iff_eq] at ha
  simp only [Iface.inNet, beq_iff_eq]
  rw [h.1, ha, ← h.2, h.1]

theorem bindOK_mem (rtr : List (Mac × Ip)) (mac : Mac) (a a' : Ip) (h : bindOK rtr mac a = true)
    (hm : rtr.contains (mac, a') = true) : a = a' := by
  simp only [bindOK, List.all_eq_true] at h
  have hmem : (mac, a') ∈ rtr := by simpa using hm
  have := h _ hmem
  have h2 : a' = a := by simpa using this
  exact h2.symm

theorem arp_unicast_own (rtr : List (Mac × Ip)) (ifs : List Iface) (p : Nat) (i : Iface) (f : Frame) (hi : ifs[p]? = some i)
    (hmem : rtr.contains (i.mac, i.ip) = true) (hreq : f.arpReq = true → f.dstMac = bcastMac)
    (hrep : f.arpReq = false → bindOK rtr f.dstMac f.pkt.dstIp = true) (hm : f.dstMac = i.mac) (hb : f.dstMac ≠ bcastMac) :
    ownIpL ifs f.pkt.dstIp = true := by
  cases hq : f.arpReq
  · have hbnd := hrep hq
    rw [hm] at hbnd
    simp only [ownIpL, List.any_eq_true]
    exact ⟨i, List.mem_of_getElem? hi, by simp [bindOK_mem _ _ _ _ hbnd hmem]⟩
  · exact absurd (hreq hq) hb

section certifyN
variable (t : TopoN) (apps : Nat → HostApp W) (tbls : Nat → SwitchTbl W) (rarps : Nat → RouterArp W) (bases : Nat → Soft W)
  (rops : Nat → RtrOpaque W) (hopsOf : Nat → List Ip)

/-- the software of node `n` of a labelled topology: a host behind its session manager, a switch, a router with its ARP
service in front of arbitrary software, anything for the elements that let nothing in -/
def softsN (n : Nat) : Soft W :=
  match t.role n with
  | .interior =>
    match t.kind n with
    | .host => hostStd (apps n)
    | .switch => switchStd (tbls n)
    | .router => rtrStd (hopsOf n) (rops n)
    | .other => bases n
  | .routerDenyC => routerArpSoft (rarps n) (bases n)
  | _ => bases n

/-- the system a labelled topology denotes: EVERY node is a PrimAITE element -/
def topoSysN : Sys Nat Nat Frame (Node W) :=
  topoSysC t.toTopoC (softsN t apps tbls rarps bases rops hopsOf) (fun n => nodeRx (softsN t apps tbls rarps bases rops hopsOf n))

theorem topoSysN_handler (n : Nat) :
    (topoSysN t apps tbls rarps bases rops hopsOf).handler n = nodeRx (softsN t apps tbls rarps bases rops hopsOf n) := by
  simp only [topoSysN, topoSysC]
  split <;> rfl

def topoRoleN (σ : St Nat (Node W)) (n : Nat) : RoleC W :=
  match t.role n with
  | .interior =>
    match t.kind n with
    | .host => .interiorI (hostStd (apps n)) (fun s => s.kind = .host ∧ s.ifaces = (σ n).ifaces)
    | .switch => .interiorI (switchStd (tbls n)) (fun s => s.kind = .switch)
    | .router => .interiorI (rtrStd (hopsOf n) (rops n)) (fun s => s.kind = .router ∧ s.ifaces = (σ n).ifaces)
    | .other => .interior
  | _ => topoRoleC t.toTopoC (softsN t apps tbls rarps bases rops hopsOf) σ n

/-- an ARP payload that is well-formed for the segment with subnet `L`: a request is a broadcast whose sender address lies
in the segment's subnet and is bound to the frame's source MAC as far as the blocking routers' interfaces are concerned; a
reply is addressed to a (MAC, address) pair that is consistent with them -/
def ArpWf (L : Ip × Ip) (f : Frame) : Prop :=
  (f.arpReq = true → f.dstMac = bcastMac ∧ inLabel L f.arpSnd = true ∧ bindOK t.rtrIfs f.srcMac f.arpSnd = true) ∧
  (f.arpReq = false → bindOK t.rtrIfs f.dstMac f.pkt.dstIp = true)

/-- the frames that circulate on the attacker side of a labelled topology -/
def ClN (n p : Nat) (f : Frame) : Prop :=
  ClT t.toTopoC n p f ∧ (subjectToAcl f = some false → ArpWf t (t.label n p) f)

theorem certifyN_parts (σ : St Nat (Node W)) (hc : certifyN t σ = true) :
    certifyC t.toTopoC σ = true ∧ wiresLabelled t = true ∧
    ∀ n, t.side n = true → certifyNodeN t n (σ n) = true := by
  simp only [certifyN, Bool.and_eq_true] at hc
  refine ⟨hc.1.1, hc.1.2, ?_⟩
  intro n hn
  have := List.all_eq_true.mp hc.2 n (List.mem_range.mpr (side_lt t.toTopoC n hn))
  simpa [hn] using this

theorem label_wire (hl : wiresLabelled t = true) (n q m r : Nat) (hw : t.wire n q = some (m, r)) :
    t.label n q = t.label m r := by
  have := List.all_eq_true.mp hl _ (wire_memC t.toTopoC n q m r hw)
  simpa using this

theorem clN_ttl (n p m r : Nat) (f : Frame) (x : Nat) (hL : t.label m r = t.label n p) (h : ClN t n p f) :
    ClN t m r { f with ttl := x } := by
  obtain ⟨h1, h2⟩ := h
  refine ⟨?_, ?_⟩
  · rcases h1 with h | ⟨ha, hs⟩
    · exact Or.inl h
    · exact Or.inr ⟨ha, by rw [subjectToAcl_ttl]; exact hs⟩
  · intro hs
    rw [subjectToAcl_ttl] at hs
    rw [hL]
    exact h2 hs

theorem clN_arpRequest (o : Iface) (a : Ip) (m r : Nat) (hsc : srcCovers t.cls o.ip = true)
    (hlbl : ifaceOnLabel o (t.label m r) = true) (hb : bindOK t.rtrIfs o.mac o.ip = true) : ClN t m r (arpRequestFrame o a) :=
  ⟨Or.inl (srcCovers_holds _ _ hsc _ rfl),
    fun _ => ⟨fun _ => ⟨rfl, ifaceOnLabel_self o _ hlbl, hb⟩, fun h => by simp [arpRequestFrame] at h⟩⟩

theorem clN_arpReply (o i : Iface) (f : Frame) (x n p m r : Nat) (h1 : ClT t.toTopoC m r (arpReplyFrame o i { f with ttl := x }))
    (hcl : ClN t n p f) (hsub : subjectToAcl f = some false) (hreq : f.arpReq = true) :
    ClN t m r (arpReplyFrame o i { f with ttl := x }) :=
  ⟨h1, fun _ => ⟨fun h => by simp [arpReplyFrame] at h, fun _ => ((hcl.2 hsub).1 hreq).2.2⟩⟩

theorem topoRoleN_noninterior (σ : St Nat (Node W)) (n : Nat) (h : t.role n ≠ .interior) :
    topoRoleN t apps tbls rarps bases rops hopsOf σ n = topoRoleC t.toTopoC (softsN t apps tbls rarps bases rops hopsOf) σ n := by
  unfold topoRoleN
  cases hr : t.role n <;> simp_all

theorem hostClosedN_of_certify (σ : St Nat (Node W)) (hc : certifyN t σ = true) (n : Nat) (hn : t.side n = true)
    (hr : t.role n = .interior) (hk : t.kind n = .host) :
    (σ n).kind = .host ∧ HostClosed (topoSysN t apps tbls rarps bases rops hopsOf) t.side (ClN t) n (σ n).ifaces := by
  obtain ⟨hcC, hlab, hnode⟩ := certifyN_parts t σ hc
  have hcn := hnode n hn
  simp only [certifyNodeN, hr, hk, Bool.and_eq_true, beq_iff_eq] at hcn
  obtain ⟨hkind, hall⟩ := hcn
  have hfacts : ∀ q i, (σ n).ifaces[q]? = some i → ifaceOnLabel i (t.label n q) = true ∧ srcCovers t.cls i.ip = true ∧
      bindOK t.rtrIfs i.mac i.ip = true := by
    intro q i hi
    have := zipIdx_all _ (σ n).ifaces 0 q i hall hi
    simp only [Nat.zero_add, Bool.and_eq_true] at this
    exact ⟨this.1.1, this.1.2, this.2⟩
  refine ⟨hkind, ⟨interior_inside t.toTopoC σ hcC n hn hr, ?_, ?_⟩⟩
  · intro q i g m r hi hw
    obtain ⟨hlbl, hsc, hb⟩ := hfacts q i hi
    rw [label_wire t hlab n q m r hw] at hlbl
    refine ⟨Or.inl (srcCovers_holds _ _ hsc _ (stampOn_srcIp i g)), ?_⟩
    intro hsub
    have e := stampOn_exempt i g hsub
    rw [e] at hsub ⊢
    exact (clN_arpRequest t i _ m r hsc hlbl hb).2 hsub
  · intro p f x q o i m r _ hcl hsub hreq ho _
    exact clN_arpReply t o i f x n p m r (Or.inl (srcCovers_holds _ _ (hfacts q o ho).2.1 _ rfl)) hcl hsub hreq

/-- an interior ROUTER of a certified labelled topology (its rule list may hold anything: denials only remove emissions):
what its software emits of its own accord, and every frame it forwards, is in the class at the far end of its wires -/
theorem rtrClosedN_of_certify (σ : St Nat (Node W)) (hc : certifyN t σ = true) (n : Nat) (hn : t.side n = true)
    (hr : t.role n = .interior) (hk : t.kind n = .router) :
    (σ n).kind = .router ∧
    RtrClosed (topoSysN t apps tbls rarps bases rops hopsOf) t.side (ClN t) n (σ n).ifaces (hopsOf n) ∧
    (∀ p i f, SideFacing (topoSysN t apps tbls rarps bases rops hopsOf) t.side n p → ClN t n p f → (σ n).ifaces[p]? = some i →
      f.dstMac = i.mac → f.dstMac ≠ bcastMac → ownIpL (σ n).ifaces f.pkt.dstIp = false →
      FwdOK (topoSysN t apps tbls rarps bases rops hopsOf) (ClN t) n (σ n).ifaces f) := by
  obtain ⟨hcC, hlab, hnode⟩ := certifyN_parts t σ hc
  have hcn := hnode n hn
  simp only [certifyNodeN, hr, hk, Bool.and_eq_true, beq_iff_eq] at hcn
  obtain ⟨hkind, hall⟩ := hcn
  have hfacts : ∀ (q : Nat) (i : Iface), (σ n).ifaces[q]? = some i → ifaceOnLabel i (t.label n q) = true ∧
      srcCovers t.cls i.ip = true ∧ t.rtrIfs.contains (i.mac, i.ip) = true ∧ bindOK t.rtrIfs i.mac i.ip = true := by
    intro q i hi
    have := zipIdx_all _ (σ n).ifaces 0 q i hall hi
    simp only [Nat.zero_add, Bool.and_eq_true] at this
    exact ⟨this.1.1.1, this.1.1.2, this.1.2, this.2⟩
  have hreq : ∀ q o a m r, (σ n).ifaces[q]? = some o → t.wire n q = some (m, r) → ClN t m r (arpRequestFrame o a) := by
    intro q o a m r ho hw
    obtain ⟨hlbl, hsc, _, hb⟩ := hfacts q o ho
    rw [label_wire t hlab n q m r hw] at hlbl
    exact clN_arpRequest t o a m r hsc hlbl hb
  refine ⟨hkind, ⟨interior_inside t.toTopoC σ hcC n hn hr, ?_, ?_, ?_⟩, ?_⟩
  · intro p f q o a m r _ _ ho hw _
    exact hreq q o a m r ho hw
  · intro p f g q o m r _ _ ho _ hg
    obtain ⟨_, hsc, _, _⟩ := hfacts q o ho
    refine ⟨Or.inl (srcCovers_holds _ _ hsc _ rfl), fun hs => ?_⟩
    have := exempt_arp _ hs
    simp [hg] at this
  · intro p f x q o i m r _ hcl hsub hreq' ho _
    exact clN_arpReply t o i f x n p m r (Or.inl (srcCovers_holds _ _ (hfacts q o ho).2.1 _ rfl)) hcl hsub hreq'
  · intro p i f _ hcl hi hm hb hown
    have hne : subjectToAcl f ≠ some false := by
      intro hs
      obtain ⟨h1, h2⟩ := hcl.2 hs
      have := arp_unicast_own _ _ p i f hi (hfacts p i hi).2.2.1 (fun hq => (h1 hq).1) h2 hm hb
      rw [hown] at this; cases this
    have hcls : clsHolds t.cls f.pkt = true := by
      rcases hcl.1 with h | ⟨_, h⟩
      · exact h
      · exact absurd h hne
    intro q o m r ho hw
    refine ⟨fun x dm => ⟨Or.inl hcls, fun hs => absurd hs hne⟩, hreq q o _ m r ho hw⟩

theorem switchClosedN_of_certify (σ : St Nat (Node W)) (hc : certifyN t σ = true) (n : Nat) (hn : t.side n = true)
    (hr : t.role n = .interior) (hk : t.kind n = .switch) :
    (σ n).kind = .switch ∧ SwitchClosed (topoSysN t apps tbls rarps bases rops hopsOf) t.side (ClN t) n := by
  obtain ⟨hcC, hlab, hnode⟩ := certifyN_parts t σ hc
  have hcn := hnode n hn
  simp only [certifyNodeN, hr, hk, Bool.and_eq_true, beq_iff_eq] at hcn
  obtain ⟨hkind, hall⟩ := hcn
  refine ⟨hkind, ⟨interior_inside t.toTopoC σ hcC n hn hr, ?_⟩⟩
  intro p f x q m r hsf hcl hw
  obtain ⟨n', q', _, hw'⟩ := hsf
  have h1 := List.all_eq_true.mp hall _ (wire_memC t.toTopoC n q m r hw)
  have h2 := List.all_eq_true.mp hall _ (wire_memC t.toTopoC n' q' n p hw')
  simp only [bne_self_eq_false, Bool.false_or, Bool.and_eq_true, beq_iff_eq] at h1 h2
  have hL : t.label m r = t.label n p := by
    rw [← label_wire t hlab n q m r hw, h1.1, h2.2]
  exact clN_ttl t n p m r f x hL hcl

/-- **C06 for a certified labelled network: nothing is assumed of the attacker side, nothing of a blocking router's software.**
If `certifyN` accepts the network in state `σ`, then for ALL services and applications of the attacker-side hosts (they
reach the network through the session manager), ALL contents of the switches' MAC tables, ALL opaque parts of a blocking
router's ARP service and ALL of its other software, any sequence of local operations on attacker-side hosts — each with all
the traffic it triggers, re-entrance included — leaves every protected node, and every frozen one, exactly as in `σ`.
The only hypothesis left is `FwSecondOK` at a FIREWALL port whose first list lets the class through (vacuous when the first
list denies it). -/
theorem C06_certifiedN_unchanged (σ : St Nat (Node W)) (hc : certifyN t σ = true)
    (hfw : ∀ n, t.side n = true → t.role n = .fwDenyC → ∀ p e,
      SideFacing (topoSysN t apps tbls rarps bases rops hopsOf) t.side n p → portEntry p = some e →
      denyClassCheck t.cls ((σ n).acls (entryAcl e)) = false →
      FwSecondOK (topoSysN t apps tbls rarps bases rops hopsOf) t.side (ClN t) (topoRoleN t apps tbls rarps bases rops hopsOf σ) n
        (softsN t apps tbls rarps bases rops hopsOf n) (clsP t.toTopoC)
        (fun e => denyClassCheck t.cls ((σ n).acls (entryAcl e))) (fun e2 => t.finalToProtected n e2 = false) p e)
    (ops : List (Nat × Op Nat Nat Frame (Node W)))
    (hops : ∀ o ∈ ops, t.side o.2.node = true ∧ t.role o.2.node = .interior ∧ t.kind o.2.node = .host ∧
      ∃ a : Node W → SwScript W, o.2.script = fun s => hostOp s (a s)) :
    ∀ m, (t.side m = false ∨ t.role m = .frozen) → runOps (topoSysN t apps tbls rarps bases rops hopsOf) σ ops m = σ m := by
  obtain ⟨hcC, hlab, hnode⟩ := certifyN_parts t σ hc
  have hsound := fun n hn => C06_certifyC_sound t.toTopoC (softsN t apps tbls rarps bases rops hopsOf)
    (fun n => nodeRx (softsN t apps tbls rarps bases rops hopsOf n)) σ hcC n hn
  have hinvEq : ∀ n s, t.role n ≠ .interior →
      (invC (topoSysN t apps tbls rarps bases rops hopsOf) t.side (topoRoleN t apps tbls rarps bases rops hopsOf σ) n s ↔
       invC (topoSysN t apps tbls rarps bases rops hopsOf) t.side (topoRoleC t.toTopoC (softsN t apps tbls rarps bases rops hopsOf) σ) n s) := by
    intro n s h
    unfold invC
    rw [topoRoleN_noninterior t apps tbls rarps bases rops hopsOf σ n h]
  have hhost : ∀ n, t.role n = .interior → t.kind n = .host → ∀ s,
      invC (topoSysN t apps tbls rarps bases rops hopsOf) t.side (topoRoleN t apps tbls rarps bases rops hopsOf σ) n s ↔
        (s.kind = .host ∧ s.ifaces = (σ n).ifaces) := by
    intro n hr hk s; simp [invC, topoRoleN, hr, hk]
  have hswitch : ∀ n, t.role n = .interior → t.kind n = .switch → ∀ s,
      invC (topoSysN t apps tbls rarps bases rops hopsOf) t.side (topoRoleN t apps tbls rarps bases rops hopsOf σ) n s ↔ s.kind = .switch := by
    intro n hr hk s; simp [invC, topoRoleN, hr, hk]
  have hroles : ∀ n, t.side n = true →
      RoleOKC (topoSysN t apps tbls rarps bases rops hopsOf) t.side (ClN t) (topoRoleN t apps tbls rarps bases rops hopsOf σ) n := by
    intro n hn
    have hs := hsound n hn
    have hcn := hnode n hn
    unfold RoleOKC
    cases hr : t.role n with
    | interior =>
      cases hk : t.kind n with
      | host =>
        simp only [topoRoleN, hr, hk]
        obtain ⟨_, hcl⟩ := hostClosedN_of_certify t apps tbls rarps bases rops hopsOf σ hc n hn hr hk
        refine ⟨by rw [topoSysN_handler]; simp [softsN, hr, hk], ?_⟩
        intro s p f hJ hsf hcl'
        exact C06_host_safe _ t.side (ClN t) _ n (σ n).ifaces hn (hhost n hr hk) hcl (apps n) s p f
          ((hhost n hr hk s).mpr hJ) hsf hcl'
      | switch =>
        simp only [topoRoleN, hr, hk]
        obtain ⟨_, hcl⟩ := switchClosedN_of_certify t apps tbls rarps bases rops hopsOf σ hc n hn hr hk
        refine ⟨by rw [topoSysN_handler]; simp [softsN, hr, hk], ?_⟩
        intro s p f hJ hsf hcl'
        exact C06_switch_safe _ t.side (ClN t) _ n hn (hswitch n hr hk) hcl (tbls n) s p f
          ((hswitch n hr hk s).mpr hJ) hsf hcl'
      | router =>
        simp only [topoRoleN, hr, hk]
        obtain ⟨_, hclo, hfwd⟩ := rtrClosedN_of_certify t apps tbls rarps bases rops hopsOf σ hc n hn hr hk
        refine ⟨by rw [topoSysN_handler]; simp [softsN, hr, hk], ?_⟩
        intro s p f hJ hsf hcl'
        exact C06_rtr_safe _ t.side (ClN t) _ n (σ n).ifaces (hopsOf n) (fun _ => True) (fun _ _ _ => trivial)
          (fun s' => by simp [invC, topoRoleN, hr, hk]) hn hclo
          (fun p' i f' hsf' hcl'' hi hm hb hown _ => hfwd p' i f' hsf' hcl'' hi hm hb hown) (rops n) s p f
          (by simpa [invC, topoRoleN, hr, hk] using hJ) hsf hcl'
      | other => simp [certifyNodeN, hr, hk] at hcn
    | ifaceDown => simp [certifyNodeN, hr] at hcn
    | routerOff | frozen =>
      rw [topoRoleN_noninterior t apps tbls rarps bases rops hopsOf σ n (by rw [hr]; simp)]
      simp only [topoRoleC, hr]
      rw [topoSysN_handler]
    | fwDenyC =>
      have hne : t.role n ≠ .interior := by rw [hr]; simp
      have hrole := topoRoleN_noninterior t apps tbls rarps bases rops hopsOf σ n hne
      rw [hrole]
      simp only [topoRoleC, hr]
      obtain ⟨harp, hports⟩ := hs.2.2.2 hr
      refine ⟨topoSysN_handler t apps tbls rarps bases rops hopsOf n, fun p f hcl => hcl.1.resolve_right (by simp [harp]), ?_⟩
      intro p e hsf hpe
      cases hD : denyClassCheck t.cls ((σ n).acls (entryAcl e)) with
      | true => exact Or.inl rfl
      | false => exact Or.inr ⟨hfw n hn hr p e hsf hpe hD, (hports p e hsf hpe).resolve_left (by rw [hD]; simp)⟩
    | routerDenyC =>
      have hne : t.role n ≠ .interior := by rw [hr]; simp
      have hrole := topoRoleN_noninterior t apps tbls rarps bases rops hopsOf σ n hne
      have hsoft : softsN t apps tbls rarps bases rops hopsOf n = routerArpSoft (rarps n) (bases n) := by simp [softsN, hr]
      simp only [certifyNodeN, hr, Bool.and_eq_true] at hcn
      obtain ⟨harpEx, hall⟩ := hcn
      have hfacts : ∀ q i, (σ n).ifaces[q]? = some i → ifaceOnLabel i (t.label n q) = true ∧
          t.rtrIfs.contains (i.mac, i.ip) = true := by
        intro q i hi
        have := zipIdx_all _ (σ n).ifaces 0 q i hall hi
        simpa only [Nat.zero_add, Bool.and_eq_true] using this
      have hroleN : topoRoleN t apps tbls rarps bases rops hopsOf σ n =
          .routerDenyC (routerArpSoft (rarps n) (bases n)) (clsP t.toTopoC) (σ n).ifaces := by
        rw [hrole]; simp only [topoRoleC, hr, hsoft]
      rw [hroleN]
      simp only
      refine ⟨by rw [topoSysN_handler, hsoft], fun p f hcl hsub => hcl.1.resolve_right (by simp [hsub]), ?_⟩
      · refine C06_router_arp_safe (topoSysN t apps tbls rarps bases rops hopsOf) t.side (ClN t) (topoRoleN t apps tbls rarps bases rops hopsOf σ) n
          (rarps n) (bases n) (clsP t.toTopoC) (σ n).ifaces hroleN ?_ ?_ ?_ hn
        · -- class facts about genuine ARP packets, from `ClN`
          intro p i f hsf hcl hsub hi
          obtain ⟨hlbl, hmem⟩ := hfacts p i hi
          have hwf := hcl.2 hsub
          refine ⟨fun hreq => ⟨(hwf.1 hreq).1, ifaceOnLabel_inNet i _ _ hlbl (hwf.1 hreq).2.1⟩, ?_⟩
          intro hrep hmac
          have hb := hwf.2 hrep
          rw [hmac] at hb
          exact bindOK_mem _ _ _ _ hb hmem
        · exact hs.2.2.1 hr
        · -- the router's own reply is a well-formed genuine ARP packet
          intro p f x q o i m r' _ hcl hsub hreq _
          exact clN_arpReply t o i f x n p m r' (Or.inr ⟨harpEx, arpReply_exempt _ _ _⟩) hcl hsub hreq
  have hσ : ∀ n, t.side n = true →
      invC (topoSysN t apps tbls rarps bases rops hopsOf) t.side (topoRoleN t apps tbls rarps bases rops hopsOf σ) n (σ n) := by
    intro n hn
    cases hr : t.role n with
    | interior =>
      cases hk : t.kind n with
      | host => exact (hhost n hr hk _).mpr ⟨(hostClosedN_of_certify t apps tbls rarps bases rops hopsOf σ hc n hn hr hk).1, rfl⟩
      | switch => exact (hswitch n hr hk _).mpr (switchClosedN_of_certify t apps tbls rarps bases rops hopsOf σ hc n hn hr hk).1
      | router =>
        have := (rtrClosedN_of_certify t apps tbls rarps bases rops hopsOf σ hc n hn hr hk).1
        simp only [invC, topoRoleN, hr, hk]
        exact ⟨this, trivial⟩
      | other => have hcn := hnode n hn; simp [certifyNodeN, hr, hk] at hcn
    | _ => exact (hinvEq n _ (by rw [hr]; simp)).mpr (hsound n hn).1
  have hops' : ∀ o ∈ ops, SafeOp (topoSysN t apps tbls rarps bases rops hopsOf) t.side
      (FromSideC (topoSysN t apps tbls rarps bases rops hopsOf) t.side (ClN t))
      (invC (topoSysN t apps tbls rarps bases rops hopsOf) t.side (topoRoleN t apps tbls rarps bases rops hopsOf σ)) o.2 := by
    intro o ho
    obtain ⟨h1, h2, h3, a, ha⟩ := hops o ho
    refine ⟨h1, ?_⟩
    intro s hs
    rw [ha]
    obtain ⟨_, hcl⟩ := hostClosedN_of_certify t apps tbls rarps bases rops hopsOf σ hc o.2.node h1 h2 h3
    exact C06_hostOp_safe _ t.side (ClN t) _ o.2.node (σ o.2.node).ifaces h1 (hhost o.2.node h2 h3) hcl a s hs
  intro m hm
  have hgood := runOps_good _ t.side _ _ (C06_cut_class _ t.side (ClN t) _ hroles) ops σ hops' hσ
  cases hsm : t.side m with
  | false => exact hgood.2 m hsm
  | true =>
    rcases hm with hm | hm
    · rw [hsm] at hm; cases hm
    · have h := (hinvEq m _ (by rw [hm]; simp)).mp (hgood.1 m hsm)
      simp only [invC, topoRoleC, hm] at h
      exact h.1

end certifyN

section examples

def exSwitch : Node Unit :=
  { kind := .switch, on := true, ifaces := [{ enabled := true, mac := 21, ip := 0, mask := 0 }, { enabled := true, mac := 22, ip := 0, mask := 0 }],
    acls := fun _ => Acl.empty 0 .deny, sw := () }

def exNetA : Ip × Ip := (0x0A000100#32, 0xFFFFFF00#32)
def exNetB : Ip × Ip := (0x0A000200#32, 0xFFFFFF00#32)

/-- A (0) — SW (1) — R (2) — B (3); R's list denies the source range 10.0.1.0/24 (and permits everything else) -/
def exTopoN : TopoN :=
  { nodes := [(true, .interior), (true, .interior), (true, .routerDenyC), (false, .interior)],
    wires := [((0, 0), (1, 0)), ((1, 0), (0, 0)), ((1, 1), (2, 0)), ((2, 0), (1, 1)), ((2, 1), (3, 0)), ((3, 0), (2, 1))],
    cls := [exSrcRange], arpExempt := true,
    kinds := [.host, .switch, .other, .host],
    labels := [((0, 0), exNetA), ((1, 0), exNetA), ((1, 1), exNetA), ((2, 0), exNetA), ((2, 1), exNetB), ((3, 0), exNetB)],
    rtrIfs := [(11, 0x0A000101#32), (12, 0x0A000201#32)] }

def exStatesN : Nat → Node Unit := fun n =>
  if n = 1 then exSwitch else if n = 2 then exRouterC else exHost (if n = 0 then 0x0A00010A#32 else 0x0A000214#32)

/-- the network-level certificate accepts A — SW — R — B with a source-range rule; it rejects the same network when A's address
is outside the denied range, when the switch's ports are labelled with different subnets, when A carries the MAC of the
router's interface (its ARP requests would then not be bound), when the rule is missing, and when A is declared a node of
unknown kind -/
example : certifyN exTopoN exStatesN = true ∧
    certifyN exTopoN (fun n => if n = 0 then exHost 0x0A00050A#32 else exStatesN n) = false ∧
    certifyN { exTopoN with labels := [((0, 0), exNetA), ((1, 0), exNetA), ((1, 1), exNetB), ((2, 0), exNetB), ((2, 1), exNetB), ((3, 0), exNetB)] }
      exStatesN = false ∧
    certifyN exTopoN (fun n => if n = 0 then { exHost 0x0A00010A#32 with ifaces := [{ enabled := true, mac := 11, ip := 0x0A00010A#32, mask := 0xFFFFFF00#32 }] }
      else exStatesN n) = false ∧
    certifyN exTopoN (fun n => if n = 2 then { exRouterC with acls := fun _ => Acl.empty 24 .permit } else exStatesN n) = false ∧
    certifyN { exTopoN with kinds := [.other, .switch, .other, .host] } exStatesN = false := by decide

/-- the theorem applies: whatever A's software does, whatever the switch has learned, whatever the router's other software is -/
example (apps : Nat → HostApp Unit) (tbls : Nat → SwitchTbl Unit) (rarps : Nat → RouterArp Unit) (bases : Nat → Soft Unit)
    (rops : Nat → RtrOpaque Unit) (hopsOf : Nat → List Ip)
    (ops : List (Nat × Op Nat Nat Frame (Node Unit)))
    (hops : ∀ o ∈ ops, o.2.node = 0 ∧ ∃ a : Node Unit → SwScript Unit, o.2.script = fun s => hostOp s (a s)) :
    runOps (topoSysN exTopoN apps tbls rarps bases rops hopsOf) exStatesN ops 3 = exStatesN 3 := by
  apply C06_certifiedN_unchanged exTopoN apps tbls rarps bases rops hopsOf exStatesN (by decide)
  · intro n _ hr; exfalso; revert hr
    match n with
    | 0 | 1 | 2 | 3 => decide
    | _ + 4 => intro hr; simp [TopoC.role, exTopoN] at hr
  · intro o ho
    obtain ⟨h0, a, ha⟩ := hops o ho
    rw [h0]
    exact ⟨by decide, by decide, by decide, a, ha⟩
  · left; decide

/-- an interior router on the attacker side: A (0) — R1 (1, plain forwarder) — R2 (2, denies everything) — B (3) -/
def exTopoN2 : TopoN :=
  { nodes := [(true, .interior), (true, .interior), (true, .routerDenyC), (false, .interior)],
    wires := [((0, 0), (1, 0)), ((1, 0), (0, 0)), ((1, 1), (2, 0)), ((2, 0), (1, 1)), ((2, 1), (3, 0)), ((3, 0), (2, 1))],
    cls := [anyPattern], arpExempt := true, kinds := [.host, .router, .other, .host],
    labels := [((0, 0), exNetA), ((1, 0), exNetA), ((1, 1), (0x0A000900#32, 0xFFFFFF00#32)), ((2, 0), (0x0A000900#32, 0xFFFFFF00#32)),
               ((2, 1), exNetB), ((3, 0), exNetB)],
    rtrIfs := [(31, 0x0A000101#32), (32, 0x0A000901#32), (33, 0x0A000902#32), (34, 0x0A000201#32)] }

def exR1 : Node Unit :=
  { kind := .router, on := true, acls := fun _ => Acl.empty 24 .permit, sw := (),
    ifaces := [{ enabled := true, mac := 31, ip := 0x0A000101#32, mask := 0xFFFFFF00#32 },
               { enabled := true, mac := 32, ip := 0x0A000901#32, mask := 0xFFFFFF00#32 }] }

def exR2 : Node Unit :=
  { kind := .router, on := true, acls := fun _ => exDenyAllAcl, sw := (),
    ifaces := [{ enabled := true, mac := 33, ip := 0x0A000902#32, mask := 0xFFFFFF00#32 },
               { enabled := true, mac := 34, ip := 0x0A000201#32, mask := 0xFFFFFF00#32 }] }

def exStatesN2 : Nat → Node Unit := fun n =>
  if n = 1 then exR1 else if n = 2 then exR2 else exHost (if n = 0 then 0x0A00010A#32 else 0x0A000214#32)

/-- `certifyN` accepts the interior router; with a source-exact class it does not: the router's own address is
outside the class (its echo reply would be) -/
example : certifyN exTopoN2 exStatesN2 = true ∧
    certifyN { exTopoN2 with cls := [{ anyPattern with srcIp := some 0x0A00010A#32 }] } exStatesN2 = false := by decide

/-- a host's operation really emits: a stamped frame leaves on port 0 with A's own source -/
example : hostOp (exHost 0x0A00010A#32) (.send () 0 exPing (fun w => .done w)) =
    .send (exHost 0x0A00010A#32) 0 { exPing with srcMac := 5, pkt := { exPing.pkt with srcIp := 0x0A00010A#32 } } (fun s' => .done s') := by
  simp [hostOp, liftSw, stampSends, guardSends, hostStamp, exHost, portEnabled, exPing]

end examples

/-! The blocking mechanisms that are "an element that never emits": explicit instances of the cut theorem.

A — X — B (`exWire`: A.0—X.0, X.1—B.0).  Which mechanism has which instance:
  denying ACL (router) ........ `routerDeny` / `routerDenyC`  (examples in Props/C06.lean, `C06_certifiedN_unchanged`)
  denying firewall rule ....... `fwDeny` / `fwDenyC`
  router powered off .......... `routerOff` (interfaces may even be enabled)
  B powered off / NIC disabled  `C06_instance_target_down`   (frozen: B's own state is the one that must not change)
  device on the path off ...... `C06_instance_path_device_down` (frozen; any kind — C12: not ON ⇒ interfaces disabled)
  disabled port towards A ..... `C06_instance_path_device_down` (the attacker-facing port is what is disabled)
  disabled port towards B ..... `C06_instance_port_towards_target_disabled` (ifaceDown; `SoftKeeps` from the confined software set)
  missing link ................ `C06_instance_missing_link`
-/

section instances

def sys3 (h : Fin 3 → Node Unit → Nat → Frame → Script Unit) (wire : Fin 3 → Nat → Option (Fin 3 × Nat)) :
    Sys (Fin 3) Nat Frame (Node Unit) := { handler := h, wire := wire }

/-- A — X — B with the three handlers given -/
def sysPath (hA hX hB : Node Unit → Nat → Frame → Script Unit) : Sys (Fin 3) Nat Frame (Node Unit) :=
  sys3 (fun n => if n = 0 then hA else if n = 1 then hX else hB) exWire

theorem exWire_facing2 (p : Nat) (n' : Fin 3) (q : Nat) (h : exWire n' q = some (2, p)) : p = 0 := by
  rcases exWire_some h with ⟨_, _, h, _⟩ | ⟨_, _, h, _⟩ | ⟨_, _, _, h⟩ | ⟨_, _, h, _⟩
  · cases h
  · cases h
  · exact h
  · cases h

/-- **B powered off, or B's NIC disabled** (C12: not ON ⇒ interfaces disabled): whatever A and the device X between them do
— arbitrary handlers, arbitrary operations on both — B's state stays exactly as it was, although X's port towards B is
enabled and frames do arrive at B's interface. -/
theorem C06_instance_target_down (hA hX : Node Unit → Nat → Frame → Script Unit) (soft : Soft Unit)
    (ops : List (Nat × Op (Fin 3) Nat Frame (Node Unit))) (hops : ∀ o ∈ ops, o.2.node ≠ 2)
    (σ : St (Fin 3) (Node Unit)) (hd : portEnabled (σ 2) 0 = false) :
    runOps (sysPath hA hX (nodeRx soft)) σ ops 2 = σ 2 := by
  let role : Fin 3 → Role Unit := fun n => if n = 2 then .frozen soft (σ 2) else .interior
  apply C06_frozen_unchanged _ (fun _ => true) role ?_ ops ?_ σ ?_ 2 rfl soft (σ 2) (by simp [role])
  · intro n _
    match n with
    | 0 => simp [RoleOK, role]
    | 1 => simp [RoleOK, role]
    | 2 => simp [RoleOK, role, sysPath, sys3]
  · intro o ho
    have h2 := hops o ho
    have hr : role o.2.node = .interior := by simp [role, h2]
    exact C06_safeOp_interior _ _ _ o.2 rfl hr (fun _ _ _ _ => rfl)
  · intro n _
    match n with
    | 0 => simp [inv, role]
    | 1 => simp [inv, role]
    | 2 =>
      simp only [inv, role, if_true, true_and]
      intro p ⟨n', q, _, hw⟩
      have := exWire_facing2 p n' q hw
      subst this; exact hd

/-- **A device on the path powered off / its attacker-facing port disabled** (switch, router, firewall or host; C12: not ON ⇒
interfaces disabled): X's state and B's state stay exactly as they were, whatever A does and whatever software X carries. -/
theorem C06_instance_path_device_down (hA hB : Node Unit → Nat → Frame → Script Unit) (soft : Soft Unit)
    (ops : List (Nat × Op (Fin 3) Nat Frame (Node Unit))) (hops : ∀ o ∈ ops, o.2.node = 0)
    (σ : St (Fin 3) (Node Unit)) (hd : portEnabled (σ 1) 0 = false) :
    runOps (sysPath hA (nodeRx soft) hB) σ ops 2 = σ 2 ∧
    runOps (sysPath hA (nodeRx soft) hB) σ ops 1 = σ 1 := by
  have h := exPath_blocked (sysPath hA (nodeRx soft) hB) rfl (.frozen soft (σ 1)) (by simp [RoleOK, exRole, sysPath, sys3])
    ops hops σ ?_
  · have h1 := h.2
    simp only [inv, exRole, if_true] at h1
    exact ⟨h.1, h1.1⟩
  · simp only [inv, exRole, if_true, true_and]
    intro p hp
    have := exSideFacing hA hB p hp
    subst this; exact hd

/-- the same wiring with the link X—B never plugged in -/
def exWireCut : Fin 3 → Nat → Option (Fin 3 × Nat)
  | 0, 0 => some (1, 0)
  | 1, 0 => some (0, 0)
  | _, _ => none

/-- **Missing link**: with no wire between X and B, arbitrary handlers and arbitrary operations on A AND on X leave B alone. -/
theorem C06_instance_missing_link (h : Fin 3 → Node Unit → Nat → Frame → Script Unit)
    (ops : List (Nat × Op (Fin 3) Nat Frame (Node Unit))) (hops : ∀ o ∈ ops, o.2.node ≠ 2)
    (σ : St (Fin 3) (Node Unit)) : runOps (sys3 h exWireCut) σ ops 2 = σ 2 := by
  have hw : ∀ (n : Fin 3) q m r, exWireCut n q = some (m, r) → exSide m = true := by
    intro n q m r hh
    unfold exWireCut at hh
    split at hh
    · simp only [Option.some.injEq, Prod.mk.injEq] at hh; rw [← hh.1]; rfl
    · simp only [Option.some.injEq, Prod.mk.injEq] at hh; rw [← hh.1]; rfl
    · cases hh
  apply C06_blocked_unchanged (sys3 h exWireCut) exSide (fun _ => .interior)
  · exact fun n _ => hw n
  · intro o ho
    have h2 := hops o ho
    have hs : exSide o.2.node = true := by
      match hn : o.2.node with
      | 0 => rfl
      | 1 => rfl
      | 2 => exact absurd hn h2
    exact C06_safeOp_interior _ _ _ o.2 hs rfl (hw _)
  · intro n _; simp [inv]
  · rfl

/-- **A disabled port towards B on a device with only confined software** — e.g. a switch (it carries no software at all:
`items = []`), or a router / firewall without a logged-in terminal user: `SoftKeeps` is not a hypothesis here, it follows
from the decidable condition on the software set, for ANY firmware. -/
theorem C06_instance_port_towards_target_disabled (hA hB : Node Unit → Nat → Frame → Script Unit) (fw : Firmware Unit)
    (items : List (SwItem Unit)) (hconf : setConfined items = true)
    (ops : List (Nat × Op (Fin 3) Nat Frame (Node Unit))) (hops : ∀ o ∈ ops, o.2.node = 0)
    (σ : St (Fin 3) (Node Unit)) (hd : portEnabled (σ 1) 1 = false) :
    runOps (sysPath hA (nodeRx (softOf fw items)) hB) σ ops 2 = σ 2 := by
  refine (exPath_blocked (sysPath hA (nodeRx (softOf fw items)) hB) rfl (.ifaceDown (softOf fw items)) ?_ ops hops σ ?_).1
  · simp only [RoleOK, exRole, if_true]
    exact ⟨by simp [sysPath, sys3], C06_softKeeps_of_confined_set fw items hconf _ (fun _ _ h => h)⟩
  · simp only [inv, exRole, if_true]
    exact (exBoundaryDown _ rfl _).mpr hd

end instances

/-- **C06 for a certified scenario whose blocking-by-disabled-interface elements carry confined software**: `hkeep` of
`C06_certified_unchanged` is discharged by the decidable condition on the software set. -/
theorem C06_certified_unchanged_confined (t : Topo) (softs : Nat → Soft W) (hInt : Nat → Node W → Nat → Frame → Script W)
    (fws : Nat → Firmware W) (items : Nat → List (SwItem W)) (σ : St Nat (Node W)) (hc : certify t σ = true)
    (hsoft : ∀ n, t.side n = true → t.role n = .ifaceDown → softs n = softOf (fws n) (items n) ∧ setConfined (items n) = true)
    (hnoRouterDeny : ∀ n, t.side n = true → t.role n ≠ .routerDeny)
    (ops : List (Nat × Op Nat Nat Frame (Node W)))
    (hops : ∀ o ∈ ops, t.side o.2.node = true ∧ t.role o.2.node = .interior) :
    ∀ m, (t.side m = false ∨ t.role m = .frozen) → runOps (topoSys t softs hInt) σ ops m = σ m := by
  apply C06_certified_unchanged t softs hInt σ hc
  · intro n hn hr
    obtain ⟨h1, h2⟩ := hsoft n hn hr
    rw [h1]
    exact C06_softKeeps_of_confined_set (fws n) (items n) h2 _ (fun _ _ h => h)
  · intro n hn hr; exact absurd hr (hnoRouterDeny n hn)
  · intro o ho; exact ⟨(hops o ho).1, Or.inl (hops o ho).2⟩

end Primaite.Filter
