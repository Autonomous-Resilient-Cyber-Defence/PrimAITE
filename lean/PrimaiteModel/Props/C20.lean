/-
C20 — the simulation built from a scenario file is what the file says; key order of mappings is irrelevant.
The model is `Model/Config.lean`; here are the well-formedness conditions, `build = declared` with the lemmas per loop of the
loader, the per-site lemmas behind key-order invariance, the example scenarios, the episode schedule (`C20_schedule_*`) and the
obligations over the regenerated `Gen/Config.lean` (`C20_gen_*`). The `office-lan` loop is in Props/C20Office.lean.
-/
import PrimaiteModel.Model.Config
import PrimaiteModel.Props.C07
import PrimaiteModel.Props.C20Office
import PrimaiteModel.Gen.Config
import PrimaiteModel.Lemmas.ListFacts
namespace Primaite.Config
open Primaite.Acl

theorem keys_cons {κ α} (k : κ) (v : α) (m : Assoc κ α) : keys ((k, v) :: m) = k :: keys m := rfl

theorem alookup_eq_lookup {κ α} [DecidableEq κ] (k : κ) (m : Assoc κ α) : alookup k m = m.lookup k := by
  induction m with
  | nil => rfl
  | cons e rest ih =>
    rw [alookup, ih, List.lookup_cons]
    by_cases h : e.1 = k
    · simp [h]
    · rw [if_neg h, beq_false_of_ne (Ne.symm h)]

theorem mem_of_alookup {κ α} [DecidableEq κ] (k : κ) (v : α) (m : Assoc κ α) (h : alookup k m = some v) : (k, v) ∈ m :=
  mem_of_lookup_eq_some (alookup_eq_lookup k m ▸ h)

theorem alookup_of_mem {κ α} [DecidableEq κ] (m : Assoc κ α) (hn : (keys m).Nodup) (k : κ) (v : α) (h : (k, v) ∈ m) :
    alookup k m = some v :=
  (alookup_eq_lookup k m).trans (lookup_of_mem_nodup hn h)

theorem alookup_isSome {κ α} [DecidableEq κ] (k : κ) (m : Assoc κ α) : (alookup k m).isSome ↔ k ∈ keys m := by
  rw [alookup_eq_lookup, List.lookup_isSome_iff, keys, List.mem_map]
  simp only [beq_iff_eq, eq_comm (a := k)]

theorem alookup_none_of_not_mem {κ α} [DecidableEq κ] (k : κ) (m : Assoc κ α) (h : k ∉ keys m) : alookup k m = none :=
  Option.not_isSome_iff_eq_none.mp fun hs => h ((alookup_isSome k m).mp hs)

/-- **per-site lemma for every mapping read by key**: the value under a key does not depend on the order of the entries
(Python dict keys are unique). Covers `.get`, `[...]` and pydantic schema construction. -/
theorem C20_lookup_perm {κ α} [DecidableEq κ] (k : κ) {m m' : Assoc κ α} (hp : m.Perm m') (hn : (keys m).Nodup) :
    alookup k m = alookup k m' := by
  rw [alookup_eq_lookup, alookup_eq_lookup]; exact lookup_perm hp hn k

theorem foldM?_cons {σ α} (f : σ → α → Option σ) (s : σ) (a : α) (l : List α) :
    foldM? f s (a :: l) = (f s a).bind fun s' => foldM? f s' l := by
  simp only [foldM?]; cases f s a <;> rfl

theorem foldM?_perm {σ α κ} (f : σ → α → Option σ) (key : α → κ)
    (hcomm : ∀ s a b, key a ≠ key b → (f s a).bind (fun s' => f s' b) = (f s b).bind (fun s' => f s' a))
    {l l' : List α} (hp : l.Perm l') (hn : (l.map key).Nodup) : ∀ s, foldM? f s l = foldM? f s l' := by
  induction hp with
  | nil => intro s; rfl
  | cons a _ ih =>
    intro s
    simp only [foldM?_cons, funext (ih (List.nodup_cons.mp hn).2)]
  | swap a b l =>
    intro s
    simp only [List.map_cons, List.nodup_cons, List.mem_cons, not_or] at hn
    simp only [foldM?_cons, ← Option.bind_assoc, hcomm s b a hn.1.1]
  | trans h₁ _ ih₁ ih₂ =>
    intro s
    exact (ih₁ hn s).trans (ih₂ ((h₁.map key).nodup_iff.mp hn) s)

/-- **site `acl.items()`** (Router / Firewall / WirelessRouter `from_config`): rules are placed by position, so the order of
the entries of an `acl:` mapping is irrelevant — from `C07_add_commute`. Holds for ill-formed mappings too (same error). -/
theorem C20_site_acl_items (a : Acl) {m m' : Assoc Nat Rule} (hp : m.Perm m') (hn : (keys m).Nodup) :
    addRules a m = addRules a m' := by
  unfold addRules
  exact foldM?_perm (fun a (e : Nat × Rule) => addRule a e.2 e.1) (·.1)
    (fun s x y hxy => C07_add_commute s x.2 y.2 x.1 y.1 hxy) hp hn a

theorem guarded_comm {σ} (g₁ g₂ : σ → Prop) [DecidablePred g₁] [DecidablePred g₂] (u₁ u₂ : σ → σ) (s : σ)
    (h₁ : g₁ (u₂ s) ↔ g₁ s) (h₂ : g₂ (u₁ s) ↔ g₂ s) (hu : g₁ s → g₂ s → u₂ (u₁ s) = u₁ (u₂ s)) :
    ((if g₁ s then some (u₁ s) else none).bind fun s' => if g₂ s' then some (u₂ s') else none) =
      ((if g₂ s then some (u₂ s) else none).bind fun s' => if g₁ s' then some (u₁ s') else none) := by
  by_cases a : g₁ s <;> by_cases b : g₂ s <;> simp [a, b, h₁, h₂]
  exact hu a b

theorem configurePort_comm (nics : List Nic) (x y : Nat × IfCfg) (h : x.1 ≠ y.1) :
    (configurePort nics x).bind (fun s => configurePort s y) = (configurePort nics y).bind (fun s => configurePort s x) :=
  guarded_comm (fun s : List Nic => 1 ≤ x.1 ∧ x.1 ≤ s.length) (fun s : List Nic => 1 ≤ y.1 ∧ y.1 ≤ s.length)
    (·.modify (x.1 - 1) _) (·.modify (y.1 - 1) _) nics (by simp) (by simp) (fun hx hy => List.modify_modify_ne _ _ _ (by omega))

/-- **site `ports.items()`** (`Router.from_config`): ports are configured by number. -/
theorem C20_site_ports_items (nics : List Nic) {m m' : Assoc Nat IfCfg} (hp : m.Perm m') (hn : (keys m).Nodup) :
    foldM? configurePort nics m = foldM? configurePort nics m' :=
  foldM?_perm configurePort (·.1) (fun s x y hxy => configurePort_comm s x y hxy) hp hn nics

/-- **site `action_map.items()`** (`ActionManager.__init__`): the action map is indexed by key. -/
theorem C20_site_action_map_items {m m' : Assoc Nat ActionCfg} (hp : m.Perm m') (hn : (keys m).Nodup) :
    actionsOf m = actionsOf m' := by
  unfold actionsOf
  rw [hp.length_eq]
  apply List.map_congr_left
  intro i _
  exact C20_lookup_perm i hp hn

theorem insertByKey_comm {α} (a b : Nat × α) (h : a.1 ≠ b.1) (l : List (Nat × α)) :
    insertByKey a (insertByKey b l) = insertByKey b (insertByKey a l) := by
  -- by cases on how the keys of `a`, `b` and the head of the list compare
  induction l with
  | nil => grind [insertByKey]
  | cons x t ih => grind [insertByKey]

/-- **site `network_interfaces.items()`** (`PrimaiteGame.from_config`, repaired): extra NICs are connected in ascending key
order, so the order of the entries is irrelevant. (Before the repair they were connected in file order: see the corpus.) -/
theorem C20_site_network_interfaces_items {α} {m m' : List (Nat × α)} (hp : m.Perm m') (hn : (m.map (·.1)).Nodup) :
    sortByKey m = sortByKey m' := by
  -- insertions under different keys commute, and two entries of `m` are the same entry or have different keys
  have hne : m.Pairwise (fun a b => a.1 ≠ b.1) := List.pairwise_map.mp hn
  have hcomm := List.Pairwise.forall_of_forall_of_flip
    (R := fun x y => ∀ z, insertByKey y (insertByKey x z) = insertByKey x (insertByKey y z)) (fun _ _ _ => rfl)
    (hne.imp fun h z => insertByKey_comm _ _ (Ne.symm h) z) (hne.imp fun h z => insertByKey_comm _ _ h z)
  exact hp.foldr_eq' (fun x hx y hy => hcomm hx hy) []

theorem any_setCapacity (reg : List (String × String)) (e : String × String) (k : String) :
    (reg.map fun r => if r.1 = e.1 then (r.1, e.2) else r).any (·.1 = k) = reg.any (·.1 = k) := by
  rw [List.any_map]
  congr 1
  funext r
  by_cases h : r.1 = e.1 <;> simp [h]

theorem setCapacity_comm (reg : List (String × String)) (x y : String × String) (h : x.1 ≠ y.1) :
    (setCapacity reg x).bind (fun s => setCapacity s y) = (setCapacity reg y).bind (fun s => setCapacity s x) := by
  refine guarded_comm (fun s : List (String × String) => s.any (·.1 = x.1) = true)
    (fun s : List (String × String) => s.any (·.1 = y.1) = true) _ _ reg (by rw [any_setCapacity]) (by rw [any_setCapacity]) (fun _ _ => ?_)
  rw [List.map_map, List.map_map]
  congr 1
  funext r
  grind

/-- **site `cfg.items()`** (`AirSpace.set_frequency_max_capacity_mbps`): capacities are set by frequency name. -/
theorem C20_site_airspace_items {m m' : Assoc String String} (hp : m.Perm m') (hn : (keys m).Nodup) :
    buildAirspace m = buildAirspace m' := by
  unfold buildAirspace
  exact foldM?_perm setCapacity (·.1) (fun s x y hxy => setCapacity_comm s x y hxy) hp hn frequencies

theorem foldM?_closed {σ κ α} (f : σ → κ × α → Option σ) (u : σ → κ × α → σ) (ok : σ → κ → Prop) (D : σ → Assoc κ α → σ)
    (hstep : ∀ s e, ok s e.1 → f s e = some (u s e)) (hok : ∀ s e k, ok s k → ok (u s e) k) (hnil : ∀ s, D s [] = s)
    (hcons : ∀ s e rest, ok s e.1 → e.1 ∉ keys rest → D (u s e) rest = D s (e :: rest)) :
    ∀ (m : Assoc κ α) (s : σ), (keys m).Nodup → (∀ k ∈ keys m, ok s k) → foldM? f s m = some (D s m) := by
  intro m
  induction m with
  | nil => intro s _ _; rw [hnil]; rfl
  | cons e rest ih =>
    intro s hn hk
    have he := hk e.1 List.mem_cons_self
    rw [foldM?_cons, hstep s e he, Option.bind_some,
      ih _ (List.nodup_cons.mp hn).2 (fun k hk' => hok s e k (hk k (List.mem_cons_of_mem _ hk'))),
      hcons s e rest he (List.nodup_cons.mp hn).1]

theorem declaredAcl_nil (base : Acl) : declaredAcl base [] = base := by
  have : (List.range base.rules.length).map (fun i => (base.rules[i]?).join) = base.rules := by
    apply List.ext_getElem?
    intro i
    by_cases hi : i < base.rules.length <;> simp [hi]
  simp only [declaredAcl, alookup, this]

/-- the `add_rule` loop leaves in slot `i` the rule the file puts at position `i`, else what was there before. -/
theorem addRules_eq_declared (m : Assoc Nat Rule) : ∀ (base : Acl), (keys m).Nodup → (∀ k ∈ keys m, k < base.rules.length) →
    addRules base m = some (declaredAcl base m) := by
  refine foldM?_closed (fun a e => addRule a e.2 e.1) (fun a e => { a with rules := a.rules.set e.1 (some { e.2 with hits := 0 }) })
    (fun a k => k < a.rules.length) declaredAcl (fun a e h => by simp [addRule, h]) (fun a e k h => by simpa using h) declaredAcl_nil ?_ m
  intro a e rest h hne
  simp only [declaredAcl, List.length_set, alookup]
  congr 1
  apply List.map_congr_left
  intro i hi
  -- slot `e.1` holds the new rule and no later entry touches it; every other slot is as in `a`
  by_cases hpi : e.1 = i
  · subst hpi
    simp [alookup_none_of_not_mem _ _ hne, h]
  · simp only [hpi, if_false]
    cases alookup i rest with
    | some r' => rfl
    | none => simp [hpi]

/-- what `configure_port` calls leave behind, for an arbitrary starting list of interfaces. -/
def portsSpec (nics : List Nic) (m : Assoc Nat IfCfg) : List Nic :=
  (List.range nics.length).map fun i =>
    match alookup (i + 1) m, nics[i]? with
    | some c, some nic => { nic with ip := some c.ip, mask := some (c.mask.getD defaultMask) }
    | _, some nic => nic
    | _, none => loopNic none

theorem configurePorts_eq_spec (m : Assoc Nat IfCfg) : ∀ (nics : List Nic), (keys m).Nodup →
    (∀ k ∈ keys m, 1 ≤ k ∧ k ≤ nics.length) → foldM? configurePort nics m = some (portsSpec nics m) := by
  refine foldM?_closed configurePort
    (fun nics e => nics.modify (e.1 - 1) fun nic => { nic with ip := some e.2.ip, mask := some (e.2.mask.getD defaultMask) })
    (fun nics k => 1 ≤ k ∧ k ≤ nics.length) portsSpec (fun a e h => by simp [configurePort, h]) (fun a e k h => by simpa using h) ?_ ?_ m
  · intro nics
    simp only [portsSpec, alookup]
    apply List.ext_getElem?
    intro i
    by_cases hi : i < nics.length <;> simp [hi]
  · intro nics e rest h hne
    simp only [portsSpec, List.length_modify, alookup, List.getElem?_modify]
    apply List.map_congr_left
    intro i hi
    simp only [List.mem_range] at hi
    -- interface `e.1` carries the new address and no later entry touches it; every other interface is as before
    by_cases hpi : e.1 = i + 1
    · simp [hpi, alookup_none_of_not_mem _ _ (hpi ▸ hne), hi]
    · have h2 : ¬ (e.1 - 1 = i) := by omega
      simp [hpi, h2, hi]

theorem portsSpec_replicate (num : Nat) (m : Assoc Nat IfCfg) :
    portsSpec (List.replicate num (loopNic none)) m = declaredPorts num m := by
  simp only [portsSpec, declaredPorts, List.length_replicate]
  apply List.map_congr_left
  intro i hi
  simp only [List.mem_range] at hi
  simp only [List.getElem?_replicate, hi, if_true]
  cases alookup (i + 1) m <;> simp [loopNic]

theorem liveCount_of_nodup (insts : List Soft) (s : Soft) (hn : (insts.map (·.name)).Nodup) (hs : s ∈ insts) :
    liveCount insts s.name = 1 := by
  have := hn.count (a := s.name)
  rw [if_pos (List.mem_map_of_mem hs), List.count_eq_countP, List.countP_map, List.countP_eq_length_filter] at this
  exact this

/-- If no software name is installed twice on a node, every install request yields exactly one live instance, registered under
its name with its own options. -/
theorem softInventory_of_nodup (insts : List Soft) (hn : (insts.map (·.name)).Nodup) :
    softInventory insts = insts.map fun s =>
      { name := s.name, isApp := s.isApp, opts := readAll s.name s.opts, live := 1, running := s.running, health := s.health,
        imposedFix := s.imposedFix, imposedRestart := s.imposedRestart } := by
  unfold softInventory
  apply List.map_congr_left
  intro s hs
  have hr : registered insts s.name = some s := by
    unfold registered
    exact find?_key_of_nodup (·.name) insts.reverse (by rw [List.map_reverse]; exact (List.reverse_perm _).nodup_iff.mpr hn) s
      (by simpa using hs)
  simp only [hr, liveCount_of_nodup insts s hn hs]

theorem foldl_installOne (reqs : List Soft) : ∀ acc : List Soft,
    reqs.foldl installOne acc
      = acc.filter (fun x => !(reqs.any (fun r => decide (r.name = x.name)))) ++ lastRequests reqs := by
  induction reqs with
  | nil =>
    intro acc
    have : acc.filter (fun _ => true) = acc := List.filter_eq_self.mpr (fun _ _ => rfl)
    simp [lastRequests, this]
  | cons s rest ih =>
    intro acc
    simp only [List.foldl_cons, ih, installOne, List.filter_append, List.filter_filter, lastRequests, List.any_cons]
    have hacc : acc.filter (fun x => !(rest.any fun r => decide (r.name = x.name)) && !decide (x.name = s.name))
        = acc.filter (fun x => !(decide (s.name = x.name) || rest.any fun r => decide (r.name = x.name))) :=
      List.filter_congr fun x _ => by grind
    rw [hacc]
    cases h : rest.any (fun x => decide (x.name = s.name)) <;> simp [h]

/-- For EVERY sequence of install calls on a fresh node, the live instances are exactly the last request per name. -/
theorem installedAfter_eq_lastRequests (reqs : List Soft) : installedAfter reqs = lastRequests reqs := by
  unfold installedAfter; rw [foldl_installOne]; simp

theorem lastRequests_sublist : ∀ l : List Soft, (lastRequests l).Sublist l
  | [] => .slnil
  | a :: t => by
    unfold lastRequests
    split
    · exact (lastRequests_sublist t).cons a
    · exact (lastRequests_sublist t).cons_cons a

/-- never two live instances of one name, whatever is installed in whatever order -/
theorem lastRequests_nodup (reqs : List Soft) : ((lastRequests reqs).map (·.name)).Nodup := by
  induction reqs with
  | nil => simp [lastRequests]
  | cons s rest ih =>
    unfold lastRequests
    split
    · exact ih
    · rename_i h
      simp only [List.map_cons, List.nodup_cons]
      refine ⟨?_, ih⟩
      intro hm
      apply h
      rcases List.mem_map.mp hm with ⟨y, hy, e⟩
      exact List.any_eq_true.mpr ⟨y, (lastRequests_sublist rest).subset hy, by simpa using e⟩

/-- every requested name is live afterwards -/
theorem lastRequests_names (reqs : List Soft) : ∀ s ∈ reqs, s.name ∈ (lastRequests reqs).map (·.name) := by
  induction reqs with
  | nil => intro s hs; simp at hs
  | cons a t ih =>
    intro s hs
    rw [lastRequests]
    split
    · rename_i h
      obtain ⟨y, hy, e⟩ := List.any_eq_true.mp h
      rcases List.mem_cons.mp hs with rfl | hs
      · exact of_decide_eq_true e ▸ ih y hy
      · exact ih s hs
    · rcases List.mem_cons.mp hs with rfl | hs
      · exact List.mem_cons_self
      · exact List.mem_cons_of_mem _ (ih s hs)

theorem mem_lastRequests_of_last (front tail : List Soft) (s : Soft) (hs : ∀ d ∈ tail, d.name ≠ s.name) :
    s ∈ lastRequests (front ++ s :: tail) := by
  induction front with
  | nil =>
    have : (tail.any fun x => decide (x.name = s.name)) = false := by
      rw [List.any_eq_false]; intro x hx; simpa using hs x hx
    simp [lastRequests, this]
  | cons a t ih =>
    simp only [List.cons_append, lastRequests]
    split
    · exact ih
    · exact List.mem_cons_of_mem _ ih

/-- the loader's software inventory: one live instance per requested name, carrying the options of the last request. -/
theorem softInventory_installed (reqs : List Soft) :
    softInventory (installedAfter reqs)
      = (lastRequests reqs).map fun s =>
          { name := s.name, isApp := s.isApp, opts := readAll s.name s.opts, live := 1, running := s.running, health := s.health,
            imposedFix := s.imposedFix, imposedRestart := s.imposedRestart } := by
  rw [installedAfter_eq_lastRequests]
  exact softInventory_of_nodup _ (lastRequests_nodup reqs)

theorem startSw_static (p : Power) (s : Soft) :
    (startSw p s).name = s.name ∧ (startSw p s).isApp = s.isApp ∧ (startSw p s).opts = s.opts := by
  unfold startSw; split <;> exact ⟨rfl, rfl, rfl⟩

theorem newInstance_static (p : Power) (r : SoftReq) :
    (newInstance p r).name = r.name ∧ (newInstance p r).isApp = r.isApp ∧ (newInstance p r).opts = r.opts := by
  unfold newInstance
  cases r.initStarts <;> cases r.isApp <;> cases r.configured <;> simp [startSw_static]

theorem newInstance_name (p : Power) (r : SoftReq) : (newInstance p r).name = r.name := (newInstance_static p r).1

theorem lastRequests_map (f : SoftReq → Soft) (hf : ∀ r, (f r).name = r.name) :
    ∀ reqs : List SoftReq, lastRequests (reqs.map f) = (lastReqs reqs).map f := by
  intro reqs
  induction reqs with
  | nil => rfl
  | cons r rest ih =>
    simp only [List.map_cons, lastRequests, lastReqs, List.any_map, ih, Function.comp_def, hf]
    split <;> rfl

/-- software on a node that is not ON is never started: whatever the class's constructor, `install` and the loader attempt,
the instance stays STOPPED / CLOSED with its configured starting health. -/
theorem newInstance_not_on (p : Power) (hp : p ≠ .on) (r : SoftReq) :
    newInstance p r = ({ name := r.name, isApp := r.isApp, opts := r.opts, running := false, health := r.health0,
                         imposedFix := r.imposedFix, imposedRestart := r.imposedRestart } : Soft) := by
  have hs : ∀ s : Soft, startSw p s = s := by intro s; simp [startSw, hp]
  unfold newInstance
  cases r.initStarts <;> cases r.isApp <;> cases r.configured <;> simp [hs]

/-- on a node that is ON, the final `power_on()` leaves every instance RUNNING, and a starting health of UNUSED has become GOOD —
for EVERY combination of "constructor starts it", "service or application", "configured entry or system software". -/
theorem startSw_newInstance_on (r : SoftReq) :
    startSw .on (newInstance .on r) =
      ({ name := r.name, isApp := r.isApp, opts := r.opts, running := true,
         health := (if r.health0 = .unused then .good else r.health0),
         imposedFix := r.imposedFix, imposedRestart := r.imposedRestart } : Soft) := by
  unfold newInstance
  cases hh : r.health0 <;> cases r.initStarts <;> cases r.isApp <;> cases r.configured <;> simp [startSw]

theorem alookup_aset_self {κ α} [DecidableEq κ] (k : κ) (v : α) (m : Assoc κ α) : alookup k (aset k v m) = some v := by
  induction m with
  | nil => simp [aset, alookup]
  | cons e rest ih => grind [alookup, aset]

theorem alookup_aset_ne {κ α} [DecidableEq κ] (k k' : κ) (v : α) (m : Assoc κ α) (h : k' ≠ k) :
    alookup k' (aset k v m) = alookup k' m := by
  induction m with
  | nil => grind [alookup, aset]
  | cons e rest ih => grind [alookup, aset]

theorem constructLive_untouched (opts : Assoc String String) (attr : String) :
    ∀ (rows : List (String × String × String)) (acc : Assoc String (Option String)), attr ∉ rows.map (·.2.1) →
      alookup attr (rows.foldl (fun live r => aset r.2.1 (alookup r.2.2 opts) live) acc) = alookup attr acc := by
  intro rows
  induction rows with
  | nil => intro acc _; rfl
  | cons x rest ih =>
    intro acc h
    simp only [List.map_cons, List.mem_cons, not_or] at h
    simp only [List.foldl_cons]
    rw [ih _ h.2, alookup_aset_ne _ _ _ _ h.1]

/-- **a constructor chain that assigns each attribute once leaves, in the attribute of every row, the configured option of that
row** (whatever else the chain assigns, in whatever order). -/
theorem constructLive_row (opts : Assoc String String) :
    ∀ (rows : List (String × String × String)) (acc : Assoc String (Option String)), (rows.map (·.2.1)).Nodup →
      ∀ r ∈ rows, alookup r.2.1 (rows.foldl (fun live r => aset r.2.1 (alookup r.2.2 opts) live) acc) = some (alookup r.2.2 opts) := by
  intro rows
  induction rows with
  | nil => intro _ _ r hr; simp at hr
  | cons x rest ih =>
    intro acc hn r hr
    simp only [List.map_cons, List.nodup_cons] at hn
    simp only [List.foldl_cons]
    rcases List.mem_cons.mp hr with rfl | hr
    · rw [constructLive_untouched opts _ rest _ hn.1, alookup_aset_self]
    · exact ih _ hn.2 r hr

/-- in every constructor chain of the regenerated tables each live attribute is assigned exactly once -/
theorem chainRows_attrs_nodup (name : String) : ((chainRows name).map (·.2.1)).Nodup := by
  unfold chainRows
  cases h : alookup name classChains with
  | none => simp
  | some chain =>
    have hm := mem_of_alookup name chain classChains h
    have hall : ∀ e ∈ classChains, ((e.2.flatMap fun c => initApplies.filter (fun r => r.1 = c)).map (·.2.1)).Nodup := by
      decide +kernel
    exact hall _ hm

/-- **the live attribute equals the declared option**: for EVERY software name and EVERY option mapping (unique keys), an
option the file gives shows on the built software — read from the attribute the constructor chain assigned it to, or from the
config object when no constructor copies it — with exactly the value the file gives. -/
theorem C20_live_option_eq_declared (name : String) (opts : Assoc String String) (hn : (keys opts).Nodup) (k v : String)
    (h : (k, v) ∈ opts) : readOption name opts k = some v := by
  have hk := alookup_of_mem opts hn k v h
  unfold readOption
  cases hf : (chainRows name).reverse.find? (fun r => r.2.2 = k) with
  | none => simpa using hk
  | some r =>
    have hmem : r ∈ chainRows name := by simpa using List.mem_of_find?_eq_some hf
    have hopt : r.2.2 = k := by simpa using List.find?_some hf
    simp only [constructLive]
    rw [constructLive_row opts _ [] (chainRows_attrs_nodup name) r hmem, hopt, hk]
    rfl

theorem readAll_declared (name : String) (opts : Assoc String String) (hn : (keys opts).Nodup) :
    readAll name opts = opts.map fun e => (e.1, some e.2) := by
  unfold readAll
  apply List.map_congr_left
  intro e he
  rw [C20_live_option_eq_declared name opts hn e.1 e.2 he]

/-- per class, straight from the regenerated assignment table: for every row `(class, attribute, option)` and every software whose
constructor chain contains that class, the live attribute holds the configured option after construction. -/
theorem C20_live_attribute_per_class (name : String) (opts : Assoc String String) (r : String × String × String)
    (hr : r ∈ chainRows name) :
    alookup r.2.1 (constructLive (chainRows name) opts) = some (alookup r.2.2 opts) :=
  constructLive_row opts _ [] (chainRows_attrs_nodup name) r hr

theorem lastReqs_nodup (reqs : List SoftReq) : ((lastReqs reqs).map (·.name)).Nodup := by
  have := lastRequests_nodup (reqs.map (newInstance .on))
  rwa [lastRequests_map _ (newInstance_name .on), List.map_map, (funext (newInstance_name .on) : (·.name) ∘ newInstance .on = _)] at this

theorem lastReqs_sublist : ∀ l : List SoftReq, (lastReqs l).Sublist l
  | [] => .slnil
  | a :: t => by
    unfold lastReqs
    split
    · exact (lastReqs_sublist t).cons a
    · exact (lastReqs_sublist t).cons_cons a

/-- from the constructor to the node's own `power_on()`, on a node whose operating state is `p` throughout -/
theorem powerOn_newInstance (p : Power) (r : SoftReq) :
    (if p = .on then startSw p (newInstance p r) else newInstance p r) =
      { name := r.name, isApp := r.isApp, opts := r.opts, running := decide (p = .on),
        health := if p = .on ∧ r.health0 = .unused then .good else r.health0,
        imposedFix := r.imposedFix, imposedRestart := r.imposedRestart } := by
  by_cases hp : p = .on
  · subst hp
    simp only [if_true, startSw_newInstance_on, decide_true, true_and]
  · simp only [hp, if_false, newInstance_not_on p hp, decide_false, false_and]

/-- the loader's software of a node whose declared operating state is `p`, options still as the walker reads them -/
theorem softInventory_loaded_read (d : DefaultsCfg) (p : Power) (k : Kind) (n : NodeCfg) :
    softInventory (powerOnSoftware p (installedAfter (installAll d p k n)))
      = (lastReqs (installRequests d k n)).map fun r =>
          { name := r.name, isApp := r.isApp, live := 1, opts := readAll r.name r.opts,
            imposedFix := r.imposedFix, imposedRestart := r.imposedRestart, running := decide (p = .on),
            health := if p = .on ∧ r.health0 = .unused then .good else r.health0 } := by
  have hpow : ∀ l : List SoftReq, powerOnSoftware p (l.map (newInstance p))
      = l.map fun r => if p = .on then startSw p (newInstance p r) else newInstance p r := by
    intro l; unfold powerOnSoftware; split <;> simp [*]
  unfold installAll
  rw [installedAfter_eq_lastRequests, lastRequests_map _ (newInstance_name p), hpow]
  simp only [powerOn_newInstance]
  rw [softInventory_of_nodup _ (by rw [List.map_map]; exact lastReqs_nodup _), List.map_map]
  rfl

theorem installServices_opts (d : DefaultsCfg) : ∀ (l : List SwCfg) (seen : List String), ∀ r ∈ installServices d seen l,
    r.opts = [] ∨ ∃ c ∈ l, r.opts = c.opts := by
  intro l
  induction l with
  | nil => intro seen r hr; simp [installServices] at hr
  | cons c rest ih =>
    intro seen r hr
    have tail : ∀ seen', r ∈ installServices d seen' rest → r.opts = [] ∨ ∃ c' ∈ c :: rest, r.opts = c'.opts :=
      fun seen' h => (ih seen' r h).imp id fun ⟨c', hc', e⟩ => ⟨c', List.mem_cons_of_mem _ hc', e⟩
    -- `r` is the request of `c`, the bare FTP client, or a request of the remaining entries
    rw [installServices] at hr
    split at hr
    · rcases List.mem_cons.mp hr with rfl | hr
      · exact Or.inr ⟨c, List.mem_cons_self, rfl⟩
      · rcases List.mem_cons.mp hr with rfl | hr
        · exact Or.inl rfl
        · exact tail _ hr
    · rcases List.mem_cons.mp hr with rfl | hr
      · exact Or.inr ⟨c, List.mem_cons_self, rfl⟩
      · exact tail _ hr

def OptsOk (n : NodeCfg) : Prop := ∀ c ∈ n.services ++ n.applications, (keys c.opts).Nodup

theorem installRequests_opts_nodup (d : DefaultsCfg) (k : Kind) (n : NodeCfg) (h : OptsOk n) :
    ∀ r ∈ installRequests d k n, (keys r.opts).Nodup := by
  intro r hr
  unfold installRequests at hr
  rcases List.mem_append.mp hr with hr | hr
  · rcases List.mem_append.mp hr with hr | hr
    · obtain ⟨e, _, rfl⟩ := List.mem_map.mp hr
      simp [keys, sysReq]
    · rcases installServices_opts d _ _ r hr with h0 | ⟨c, hc, h0⟩
      · rw [h0]; simp [keys]
      · rw [h0]; exact h c (by simp [hc])
  · obtain ⟨c, hc, rfl⟩ := List.mem_map.mp hr
    exact h c (by simp [hc])

/-- **initial software state**: after loading, the software of a node whose declared operating state is `p` — one instance per
requested name, RUNNING iff `p` is ON, health = the configured starting health (UNUSED → GOOD once started), every declared
option showing with its declared value. -/
theorem softInventory_loaded (d : DefaultsCfg) (p : Power) (k : Kind) (n : NodeCfg) (h : OptsOk n) :
    softInventory (powerOnSoftware p (installedAfter (installAll d p k n))) = declaredSoftware d p k n := by
  rw [softInventory_loaded_read]
  unfold declaredSoftware
  apply List.map_congr_left
  intro r hr
  rw [readAll_declared r.name r.opts (installRequests_opts_nodup d k n h r ((lastReqs_sublist _).subset hr))]

theorem any_key_eq_false {β} (key : β → String) (acc : List β) (k : String) (h : k ∉ acc.map key) :
    acc.any (fun x => decide (key x = k)) = false := by
  rw [List.any_eq_false]
  intro x hx
  simp only [decide_eq_true_eq]
  exact fun e => h (e ▸ List.mem_map_of_mem (f := key) hx)

theorem foldl_add_absent {α β} (key : β → String) (mk : α → β) (add : List β → α → List β) :
    ∀ (l : List α) (acc : List β), (∀ a ∈ l, ∀ acc, key (mk a) ∉ acc.map key → add acc a = acc ++ [mk a]) →
      (acc.map key ++ l.map (fun a => key (mk a))).Nodup → l.foldl add acc = acc ++ l.map mk := by
  intro l
  induction l with
  | nil => intro acc _ _; simp
  | cons a t ih =>
    intro acc hadd hn
    simp only [List.foldl_cons, List.map_cons]
    have hnot : key (mk a) ∉ acc.map key := fun hm => (List.nodup_append.mp hn).2.2 _ hm (key (mk a)) (by simp) rfl
    rw [hadd a (by simp) acc hnot, ih _ (fun b hb => hadd b (by simp [hb]))]
    · simp
    · have : (acc.map key ++ key (mk a) :: t.map fun a => key (mk a)).Nodup := by simpa using hn
      simpa [List.map_append, List.append_assoc] using this

theorem foldl_add_present {α β} (add : List β → α → List β) (P : List β → α → Prop)
    (hadd : ∀ acc a, P acc a → add acc a = acc) : ∀ (l : List α) (acc : List β), (∀ a ∈ l, P acc a) → l.foldl add acc = acc := by
  intro l
  induction l with
  | nil => intro acc _; rfl
  | cons a t ih =>
    intro acc h
    simp only [List.foldl_cons]
    rw [hadd acc a (h a (by simp))]
    exact ih acc (fun b hb => h b (by simp [hb]))

def userOf (u : UserCfg) : UserInv := { name := u.name, password := u.password, admin := u.admin.getD false }

theorem addUser_absent (acc : List UserInv) (u : UserCfg) (h : (userOf u).name ∉ acc.map (·.name)) :
    addUser acc u = acc ++ [userOf u] := by
  simp only [addUser, any_key_eq_false (·.name) acc u.name h, Bool.false_eq_true, if_false, userOf]

theorem addUser_present (acc : List UserInv) (u : UserCfg) (h : u.name ∈ acc.map (·.name)) : addUser acc u = acc := by
  have : acc.any (fun x => decide (x.name = u.name)) = true := by grind
  simp [addUser, this]

/-- users: the default admin plus the users the file lists (added once although the loader asks twice). -/
theorem buildUsers_eq_declared (n : NodeCfg) (hn : ("admin" :: n.users.map (·.name)).Nodup) :
    buildUsers n = declaredUsers n := by
  unfold buildUsers declaredUsers
  have h1 : n.users.foldl addUser [adminUser] = [adminUser] ++ n.users.map userOf :=
    foldl_add_absent (·.name) userOf addUser n.users [adminUser] (fun u _ acc => addUser_absent acc u) (by simpa [adminUser, userOf] using hn)
  rw [h1]
  rw [foldl_add_present addUser (fun acc u => u.name ∈ acc.map (·.name)) addUser_present]
  · rfl
  · intro u hu
    simp only [List.map_append, List.mem_append, List.map_map]
    right
    exact List.mem_map.mpr ⟨u, hu, rfl⟩

theorem addFile_absent (acc : List FileCfg) (f : FileCfg) (h : f.name ∉ acc.map (·.name)) : addFile acc f = acc ++ [f] := by
  simp only [addFile, any_key_eq_false (·.name) acc f.name h, Bool.false_eq_true, if_false]

def FoldersOk (fs : List FolderCfg) : Prop := (fs.map (·.name)).Nodup ∧ ∀ fd ∈ fs, (fd.files.map (·.name)).Nodup

theorem addFolder_absent (acc : List FolderCfg) (fd : FolderCfg) (hf : (fd.files.map (·.name)).Nodup)
    (h : fd.name ∉ acc.map (·.name)) : addFolder acc fd = acc ++ [fd] := by
  have hnone : acc.find? (fun g => decide (g.name = fd.name)) = none :=
    List.find?_eq_none.mpr (List.any_eq_false.mp (any_key_eq_false (·.name) acc fd.name h))
  have hfiles : fd.files.foldl addFile [] = fd.files := by
    simpa using foldl_add_absent (·.name) id addFile fd.files [] (fun f _ acc => addFile_absent acc f) (by simpa using hf)
  simp only [addFolder, hnone, hfiles]

/-- folders and files: exactly the ones the file lists (when names are not repeated). -/
theorem buildFolders_eq_declared (n : NodeCfg) (h : FoldersOk n.folders) : buildFolders n = n.folders := by
  simpa [buildFolders] using foldl_add_absent (·.name) id addFolder n.folders []
    (fun fd hfd acc => addFolder_absent acc fd (h.2 fd hfd)) (by simpa using h.1)

theorem putAgent_absent (acc : List AgentInv) (a : AgentCfg) (h : (agentOf a).ref ∉ acc.map (·.ref)) :
    putAgent acc (agentOf a) = acc ++ [agentOf a] := by
  simp only [putAgent, any_key_eq_false (·.ref) acc (agentOf a).ref h, Bool.false_eq_true, if_false]

/-- agents: one per entry, under its `ref` (refs not repeated). -/
theorem buildAgents_eq_declared (as : List AgentCfg) (hn : (as.map (·.ref)).Nodup) : buildAgents as = as.map agentOf := by
  simpa [buildAgents] using foldl_add_absent (·.ref) agentOf (fun acc a => putAgent acc (agentOf a)) as []
    (fun a _ acc => putAgent_absent acc a) (by simpa [agentOf] using hn)

def AclOk (m : Assoc Nat Rule) : Prop := (keys m).Nodup ∧ ∀ k ∈ keys m, k < aclSlots

/-- what the documentation asks of one node entry (all decidable). -/
structure NodeWF (n : NodeCfg) : Prop where
  hostIp : (n.kind = .computer ∨ n.kind = .server ∨ n.kind = .printer) → n.ip.isSome
  ports : (keys n.ports).Nodup ∧ ∀ k ∈ keys n.ports, 1 ≤ k ∧ k ≤ n.numPorts.getD defaultRouterPorts
  acl : AclOk n.acl
  fwPorts : n.fwPorts = [] ∨ ((alookup "internal_port" n.fwPorts).isSome ∧ (alookup "external_port" n.fwPorts).isSome)
  fwAcl : ∀ e ∈ fwAclNames, (match alookup e.1 n.fwAcl with
            | some m => AclOk m
            | none => n.fwAclPresent = true → e.2.2 = false)
  users : ("admin" :: n.users.map (·.name)).Nodup
  folders : FoldersOk n.folders
  /-- an `options:` mapping has unique keys (true of every parsed YAML mapping) -/
  opts : OptsOk n
  /-- a wireless access point operates on a registered frequency -/
  wap : ∀ w, n.wap = some w → knownFrequency w.frequency = true

/-- is interface `port` of node `n` a wireless access point? -/
def wirelessAt (n : NodeInv) (port : Nat) : Bool := (n.nics[port - 1]?.bind (·.frequency)).isSome

def linkOk (nodes : List NodeInv) (l : LinkCfg) : Bool :=
  match findNode nodes l.a, findNode nodes l.b with
  | some na, some nb =>
    decide (1 ≤ l.pa ∧ l.pa ≤ na.nics.length ∧ 1 ≤ l.pb ∧ l.pb ≤ nb.nics.length ∧ l.a ≠ l.b) &&
      !wirelessAt na l.pa && !wirelessAt nb l.pb
  | _, _ => false

def AirspaceOk (m : Assoc String String) : Prop := (keys m).Nodup ∧ ∀ k ∈ keys m, knownFrequency k = true

structure WellFormed (s : Scenario) : Prop where
  nodes : ∀ n ∈ s.nodes, NodeWF n
  /-- every `office-lan` entry passes its schema's and the adder's guards -/
  nodeSets : ∀ c ∈ s.nodeSets, OfficeValid c
  /-- "The hostname of the node. This will be used to reference the node." — over the `nodes:` entries and the nodes the node
  sets stand for -/
  hostnames : ((declaredNodes s).map (·.hostname)).Nodup
  links : ∀ l ∈ s.links, linkOk (declaredNodes s) l = true
  agents : (s.agents.map (·.ref)).Nodup
  airspace : AirspaceOk s.airspace

instance (m : Assoc Nat Rule) : Decidable (AclOk m) := by unfold AclOk; infer_instance
instance (fs : List FolderCfg) : Decidable (FoldersOk fs) := by unfold FoldersOk; infer_instance
instance (n : NodeCfg) : Decidable (OptsOk n) := by unfold OptsOk; infer_instance
instance (m : Assoc String String) : Decidable (AirspaceOk m) := by unfold AirspaceOk; infer_instance

instance (o : Option (Assoc Nat Rule)) (p : Prop) [Decidable p] :
    Decidable (match o with | some m => AclOk m | none => p) := by
  cases o <;> infer_instance

instance (n : NodeCfg) : Decidable (NodeWF n) :=
  decidable_of_iff
    (((n.kind = .computer ∨ n.kind = .server ∨ n.kind = .printer) → n.ip.isSome) ∧
     ((keys n.ports).Nodup ∧ ∀ k ∈ keys n.ports, 1 ≤ k ∧ k ≤ n.numPorts.getD defaultRouterPorts) ∧ AclOk n.acl ∧
     (n.fwPorts = [] ∨ ((alookup "internal_port" n.fwPorts).isSome ∧ (alookup "external_port" n.fwPorts).isSome)) ∧
     (∀ e ∈ fwAclNames, (match alookup e.1 n.fwAcl with
            | some m => AclOk m
            | none => n.fwAclPresent = true → e.2.2 = false)) ∧
     ("admin" :: n.users.map (·.name)).Nodup ∧ FoldersOk n.folders ∧ OptsOk n ∧
     (∀ w ∈ n.wap, knownFrequency w.frequency = true))
    ⟨fun ⟨a, b, c, d, e, f, g, h, i⟩ => ⟨a, b, c, d, e, f, g, h, fun w hw => i w (Option.mem_def.mpr hw)⟩,
     fun h => ⟨h.hostIp, h.ports, h.acl, h.fwPorts, h.fwAcl, h.users, h.folders, h.opts, fun w hw => h.wap w (Option.mem_def.mp hw)⟩⟩

instance (s : Scenario) : Decidable (WellFormed s) :=
  decidable_of_iff ((∀ n ∈ s.nodes, NodeWF n) ∧ (∀ c ∈ s.nodeSets, OfficeValid c) ∧ ((declaredNodes s).map (·.hostname)).Nodup ∧
      (∀ l ∈ s.links, linkOk (declaredNodes s) l = true) ∧ (s.agents.map (·.ref)).Nodup ∧ AirspaceOk s.airspace)
    ⟨fun ⟨a, b, c, d, e, f⟩ => ⟨a, b, c, d, e, f⟩, fun h => ⟨h.nodes, h.nodeSets, h.hostnames, h.links, h.agents, h.airspace⟩⟩

theorem buildFwAcls_eq (n : NodeCfg) : ∀ (names : List (String × Action × Bool)),
    (∀ e ∈ names, (match alookup e.1 n.fwAcl with
        | some m => AclOk m
        | none => n.fwAclPresent = true → e.2.2 = false)) →
    buildFwAcls n names = .ok (names.map fun (nm, imp, _) =>
      (nm, declaredAcl (Acl.empty aclSlots imp) (if n.fwAclPresent then (alookup nm n.fwAcl).getD [] else []))) := by
  intro names
  induction names with
  | nil => intro _; rfl
  | cons e rest ih =>
    intro h
    obtain ⟨nm, imp, mand⟩ := e
    have he := h (nm, imp, mand) List.mem_cons_self
    simp only [buildFwAcls, ih (fun e' he' => h e' (List.mem_cons_of_mem _ he')), List.map_cons]
    cases hp : n.fwAclPresent
    · simp [declaredAcl_nil]
    · cases hl : alookup nm n.fwAcl with
      | some m =>
        rw [hl] at he
        simp [addRules_eq_declared m (Acl.empty aclSlots imp) he.1 (by simpa [Acl.empty] using he.2)]
      | none =>
        rw [hl] at he
        have hm : mand = false := he hp
        simp [hm, declaredAcl_nil]

theorem declaredFwAcls_eq (n : NodeCfg) : declaredFwAcls n = fwAclNames.map fun (nm, imp, _) =>
    (nm, declaredAcl (Acl.empty aclSlots imp) (if n.fwAclPresent then (alookup nm n.fwAcl).getD [] else [])) := rfl

theorem fwNic_eq (n : NodeCfg) (key name : String) (mand : Bool)
    (h : n.fwPorts = [] ∨ (alookup key n.fwPorts).isSome ∨ mand = false) :
    fwNic n key name mand = .ok (declaredFwNic n key name) := by
  unfold fwNic declaredFwNic
  cases hl : alookup key n.fwPorts with
  | some c => rfl
  | none => grind

/-- an interface that has no link: `power_on()` / `connect_nic` cannot enable it -/
theorem powerOnNics_unwired (p : Power) (nics : List Nic) (h : ∀ c ∈ nics, c.wired = false) : powerOnNics p nics = nics := by
  unfold powerOnNics
  split
  · have : ∀ c ∈ nics, enableNic p c = c := by
      intro c hc; simp [enableNic, h c hc]
    exact map_eq_self this
  · rfl

/-- before any link: an interface is a wireless access point, or has no link and is disabled -/
def Fresh (c : Nic) : Prop := c.wired = false ∧ (c.frequency.isSome ∨ c.enabled = false)

/-- the interfaces of a freshly built node have no link; the wired ones are disabled (links come later) -/
theorem declaredNode_fresh (d : DefaultsCfg) (n : NodeCfg) : ∀ c ∈ (declaredNode d n).nics, Fresh c := by
  intro c hc
  -- every interface is made without a link and disabled, except that a wireless access point may be enabled
  have plain : ∀ name ip mask, Fresh { name := name, ip := ip, mask := mask } := fun _ _ _ => ⟨rfl, Or.inr rfl⟩
  unfold declaredNode at hc
  cases hk : n.kind <;>
    simp only [hk, declaredNics, declaredPorts, List.mem_cons, List.mem_map, List.mem_replicate, List.not_mem_nil, or_false] at hc
  case computer | server | printer => rcases hc with rfl | ⟨e, _, rfl⟩ <;> exact plain _ _ _
  case switch => exact hc.2 ▸ plain _ _ _
  case router =>
    obtain ⟨i, _, rfl⟩ := hc
    split <;> exact plain _ _ _
  case firewall => rcases hc with rfl | rfl | rfl <;> (unfold declaredFwNic; split <;> exact plain _ _ _)
  case wirelessRouter =>
    rcases hc with rfl | rfl
    · unfold declaredWap; split <;> exact ⟨rfl, Or.inl rfl⟩
    · unfold declaredRouterIf; split <;> exact plain _ _ _

/-- **precedence between two sources of one option**: for every pair of the regenerated table `outerSources` (dns-client
`dns_server` vs the node's `dns_server`) the install hook leaves what the documentation says: the entry's own value if it gives
one, else the outer source's, else none — for EVERY node entry and EVERY software inventory line. -/
theorem C20_option_precedence (n : NodeCfg) (sw : SoftInv) : applyOuter n sw = declaredOuter n sw := by
  unfold applyOuter declaredOuter hookOuter
  split
  · cases (alookup "dns_server" sw.opts).join <;> rfl
  · rfl

/-- the four combinations, spelled out: neither source, only the node's, only the entry's, both (the entry's wins) -/
theorem C20_option_precedence_cases (inner outer : String) :
    hookOuter none none = none ∧ hookOuter none (some outer) = some outer ∧
    hookOuter (some inner) none = some inner ∧ hookOuter (some inner) (some outer) = some inner := ⟨rfl, rfl, rfl, rfl⟩

/-- One node entry: the loader builds exactly what the entry declares (before any link is made). -/
theorem buildNode_eq_declared (d : DefaultsCfg) (n : NodeCfg) (wf : NodeWF n) : buildNode d n = .ok (declaredNode d n) := by
  have hsoft : (softInventory (powerOnSoftware (n.power.getD .on) (installedAfter (installAll d (n.power.getD .on) n.kind n)))).map (applyOuter n)
      = (declaredSoftware d (n.power.getD .on) n.kind n).map (declaredOuter n) := by
    rw [softInventory_loaded _ _ _ _ wf.opts]
    exact List.map_congr_left (fun sw _ => C20_option_precedence n sw)
  have husers := buildUsers_eq_declared n wf.users
  have hfold := buildFolders_eq_declared n wf.folders
  -- no interface has a link yet, so the `power_on()` at the end of the iteration enables none
  have hnics : ∀ nics, nics = (declaredNode d n).nics → powerOnNics (n.power.getD .on) nics = nics := by
    rintro _ rfl
    exact powerOnNics_unwired _ _ (fun c hc => (declaredNode_fresh d n c hc).1)
  have hacl := addRules_eq_declared n.acl routerBaseAcl wf.acl.1 (by simpa [routerBaseAcl, aclSlots] using wf.acl.2)
  unfold buildNode
  unfold declaredNode at hnics ⊢
  cases hk : n.kind <;> rw [hk] at hsoft <;> simp only [hk] at hnics
  case computer | server | printer =>
    obtain ⟨ip, hip⟩ := Option.isSome_iff_exists.mp (wf.hostIp (by simp [hk]))
    simp [hsoft, husers, hfold, hip, hnics, declaredNics]
  case switch => simp [hsoft, hnics]
  case router =>
    have hports := configurePorts_eq_spec n.ports (List.replicate (n.numPorts.getD defaultRouterPorts) (loopNic none)) wf.ports.1
      (by simpa using wf.ports.2)
    rw [portsSpec_replicate] at hports
    simp [hsoft, husers, hports, hacl, hnics]
  case firewall =>
    have hi := fwNic_eq n "internal_port" "internal" true (wf.fwPorts.imp id fun h => Or.inl h.1)
    have he := fwNic_eq n "external_port" "external" true (wf.fwPorts.imp id fun h => Or.inl h.2)
    have hd := fwNic_eq n "dmz_port" "dmz" false (Or.inr (Or.inr rfl))
    simp [hsoft, husers, hi, he, hd, buildFwAcls_eq n fwAclNames wf.fwAcl, declaredFwAcls_eq, hnics]
  case wirelessRouter =>
    cases hw : n.wap with
    | none => simp [hsoft, husers, hacl, hw, declaredWap, declaredRouterIf, hnics]
    | some w => simp [hsoft, husers, hacl, hw, wf.wap w hw, declaredWap, declaredRouterIf, hnics]

theorem buildNodes_eq_declared (d : DefaultsCfg) (ns : List NodeCfg) (wf : ∀ n ∈ ns, NodeWF n) :
    buildNodes d ns = .ok (ns.map (declaredNode d)) := by
  induction ns with
  | nil => rfl
  | cons n rest ih =>
    simp only [buildNodes, buildNode_eq_declared d n (wf n (by simp)),
      ih (fun m hm => wf m (by simp [hm])), List.map_cons]

theorem linkOk_elim {nodes : List NodeInv} {l : LinkCfg} (hl : linkOk nodes l = true) :
    ∃ na nb, findNode nodes l.a = some na ∧ findNode nodes l.b = some nb ∧
      (1 ≤ l.pa ∧ l.pa ≤ na.nics.length ∧ 1 ≤ l.pb ∧ l.pb ≤ nb.nics.length) ∧ l.a ≠ l.b ∧
      wirelessAt na l.pa = false ∧ wirelessAt nb l.pb = false := by
  unfold linkOk at hl
  cases ha : findNode nodes l.a with
  | none => simp [ha] at hl
  | some na =>
    cases hb : findNode nodes l.b with
    | none => simp [ha, hb] at hl
    | some nb =>
      simp only [ha, hb, Bool.and_eq_true, decide_eq_true_eq, Bool.not_eq_true'] at hl
      exact ⟨na, nb, rfl, rfl, ⟨hl.1.1.1, hl.1.1.2.1, hl.1.1.2.2.1, hl.1.1.2.2.2.1⟩, hl.1.1.2.2.2.2, hl.1.2, hl.2⟩

theorem buildLink_eq_declared (nodes : List NodeInv) (l : LinkCfg) (hl : linkOk nodes l = true) :
    buildLink nodes l = .ok (declaredLink l) := by
  obtain ⟨na, nb, ha, hb, h4, hne, hwa, hwb⟩ := linkOk_elim hl
  simp only [wirelessAt] at hwa hwb
  simp [buildLink, declaredLink, ha, hb, h4, hne, hwa, hwb]

/-- the effect on one interface of "some link of the file ends here" (a wireless access point has no link) -/
def wire (p : Power) (w : Bool) (c : Nic) : Nic :=
  if w = true ∧ c.frequency.isNone then { c with wired := true, enabled := decide (p = .on) } else c

theorem declaredWiring_eq (links : List LinkCfg) (n : NodeInv) :
    declaredWiring links n =
      { n with nics := n.nics.mapIdx fun i c => wire n.power (namesEndpoint links n.hostname (i + 1)) c } := by
  unfold declaredWiring wire
  rfl

theorem declaredWiring_nil (n : NodeInv) : declaredWiring [] n = n := by
  rw [declaredWiring_eq]
  have : (n.nics.mapIdx fun i c => wire n.power (namesEndpoint [] n.hostname (i + 1)) c) = n.nics := by
    apply List.ext_getElem?
    intro j
    simp [List.getElem?_mapIdx, namesEndpoint, wire]
  rw [this]

/-- attaching a link to an interface the earlier links did or did not reach: the result is "wired; enabled iff ON" either way
(`connect_link` refuses a second link, and the first one already left that state). -/
theorem plug_wire (p : Power) (w : Bool) (c : Nic) (hc : Fresh c) : plug p (wire p w c) = wire p true c := by
  obtain ⟨h1, h2⟩ := hc
  cases c with
  | mk name ip mask wired enabled frequency =>
    simp only at h1 h2
    subst h1
    cases frequency with
    | some f => simp [plug, wire]
    | none =>
      simp only [Option.isSome_none, Bool.false_eq_true, false_or] at h2
      subst h2
      cases w <;> by_cases hp : p = .on <;> simp [plug, wire, enableNic, hp]

theorem modify_plug_mapIdx (p : Power) (nics : List Nic) (hf : ∀ c ∈ nics, Fresh c) (W : Nat → Bool) (port : Nat)
    (hport : 1 ≤ port) :
    (nics.mapIdx fun i c => wire p (W i) c).modify (port - 1) (plug p)
      = nics.mapIdx fun i c => wire p (W i || decide (port = i + 1)) c := by
  apply List.ext_getElem?
  intro j
  simp only [List.getElem?_modify, List.getElem?_mapIdx]
  cases hj : nics[j]? with
  | none => simp
  | some c =>
    have hc : Fresh c := hf c (List.mem_of_getElem? hj)
    simp only [Option.map_some]
    by_cases hpj : port - 1 = j
    · have : port = j + 1 := by omega
      simp [this, plug_wire p (W j) c hc]
    · have : ¬ port = j + 1 := by omega
      simp [hpj, this]

theorem plugAt_eq_map (nodes : List NodeInv) (h : String) (port : Nat) (hn : (nodes.map (·.hostname)).Nodup) :
    plugAt nodes h port = nodes.map fun n => if n.hostname = h then plugNode n port else n := by
  induction nodes with
  | nil => rfl
  | cons n rest ih =>
    simp only [List.map_cons, List.nodup_cons] at hn
    simp only [plugAt, List.map_cons]
    by_cases hh : n.hostname = h
    · simp only [hh, if_true]
      congr 1
      have : ∀ m ∈ rest, (if m.hostname = h then plugNode m port else m) = m := by
        intro m hm
        have : ¬ m.hostname = h := fun e => hn.1 (by rw [hh, ← e]; exact List.mem_map_of_mem (f := (·.hostname)) hm)
        simp [this]
      exact (map_eq_self this).symm
    · simp only [hh, if_false]
      congr 1
      exact ih hn.2

theorem findNode_map (f : NodeInv → NodeInv) (hf : ∀ n, (f n).hostname = n.hostname) (nodes : List NodeInv) (h : String) :
    findNode (nodes.map f) h = (findNode nodes h).map f := by
  unfold findNode
  rw [List.find?_map]
  have : ((fun x : NodeInv => decide (x.hostname = h)) ∘ f) = (fun x : NodeInv => decide (x.hostname = h)) := by
    funext n; simp [Function.comp, hf]
  rw [this]

theorem declaredWiring_hostname (links : List LinkCfg) (n : NodeInv) : (declaredWiring links n).hostname = n.hostname := rfl
theorem declaredWiring_power (links : List LinkCfg) (n : NodeInv) : (declaredWiring links n).power = n.power := rfl
theorem declaredWiring_length (links : List LinkCfg) (n : NodeInv) : (declaredWiring links n).nics.length = n.nics.length := by
  simp [declaredWiring]

theorem wire_frequency (p : Power) (w : Bool) (c : Nic) : (wire p w c).frequency = c.frequency := by
  unfold wire; split <;> rfl

theorem declaredWiring_wirelessAt (links : List LinkCfg) (n : NodeInv) (port : Nat) :
    wirelessAt (declaredWiring links n) port = wirelessAt n port := by
  rw [declaredWiring_eq]
  simp only [wirelessAt, List.getElem?_mapIdx]
  cases n.nics[port - 1]? with
  | none => rfl
  | some c => simp [wire_frequency]

theorem linkOk_wired (done : List LinkCfg) (nodes : List NodeInv) (l : LinkCfg) :
    linkOk (nodes.map (declaredWiring done)) l = linkOk nodes l := by
  unfold linkOk
  rw [findNode_map _ (declaredWiring_hostname done), findNode_map _ (declaredWiring_hostname done)]
  cases findNode nodes l.a <;> cases findNode nodes l.b <;> simp [declaredWiring_length, declaredWiring_wirelessAt]

theorem namesEndpoint_snoc (done : List LinkCfg) (l : LinkCfg) (h : String) (port : Nat) :
    namesEndpoint (done ++ [l]) h port
      = (namesEndpoint done h port || ((decide (l.a = h) && decide (l.pa = port)) || (decide (l.b = h) && decide (l.pb = port)))) := by
  simp [namesEndpoint, List.any_append]

/-- `connect_link` at interface `port` of node `n` when the node is the one named (`h`), nothing otherwise -/
theorem plugIf_wired (n : NodeInv) (hfresh : ∀ c ∈ n.nics, Fresh c) (W : Nat → Bool) (h : String) (port : Nat) (hport : 1 ≤ port) :
    (fun m : NodeInv => if m.hostname = h then plugNode m port else m)
        { n with nics := n.nics.mapIdx fun i c => wire n.power (W i) c }
      = { n with nics := (n.nics.mapIdx fun i c =>
            wire n.power (W i || (decide (n.hostname = h) && decide (port = i + 1))) c) } := by
  by_cases hb : n.hostname = h
  · simp only [hb, if_true, plugNode, modify_plug_mapIdx n.power n.nics hfresh W port hport, decide_true, Bool.true_and]
  · simp only [hb, if_false, decide_false, Bool.false_and, Bool.or_false]

/-- one `Network.connect`: after the links `done`, attaching link `l` at both ends gives the state "after `done ++ [l]`". -/
theorem plug_step (n : NodeInv) (hfresh : ∀ c ∈ n.nics, Fresh c) (done : List LinkCfg) (l : LinkCfg)
    (hpa : 1 ≤ l.pa) (hpb : 1 ≤ l.pb) :
    (fun m : NodeInv => if m.hostname = l.b then plugNode m l.pb else m)
      ((fun m : NodeInv => if m.hostname = l.a then plugNode m l.pa else m) (declaredWiring done n))
      = declaredWiring (done ++ [l]) n := by
  rw [declaredWiring_eq, declaredWiring_eq, plugIf_wired n hfresh _ l.a l.pa hpa, plugIf_wired n hfresh _ l.b l.pb hpb]
  congr 2
  funext i c
  rw [namesEndpoint_snoc]
  congr 1
  have e1 : decide (n.hostname = l.a) = decide (l.a = n.hostname) := decide_eq_decide.mpr eq_comm
  have e2 : decide (n.hostname = l.b) = decide (l.b = n.hostname) := decide_eq_decide.mpr eq_comm
  rw [e1, e2, Bool.or_assoc]

theorem plugAt_hostnames (nodes : List NodeInv) (h : String) (port : Nat) :
    (plugAt nodes h port).map (·.hostname) = nodes.map (·.hostname) := by
  induction nodes with
  | nil => rfl
  | cons n rest ih =>
    rw [plugAt]
    split
    · rfl
    · rw [List.map_cons, ih, List.map_cons]

/-- both ends of one link attached, over the whole node list -/
theorem plugBoth_step (N0 : List NodeInv) (hfresh : ∀ n ∈ N0, ∀ c ∈ n.nics, Fresh c) (hnd : (N0.map (·.hostname)).Nodup)
    (done : List LinkCfg) (l : LinkCfg) (hpa : 1 ≤ l.pa) (hpb : 1 ≤ l.pb) :
    plugAt (plugAt (N0.map (declaredWiring done)) l.a l.pa) l.b l.pb = N0.map (declaredWiring (done ++ [l])) := by
  have hnd' : ((N0.map (declaredWiring done)).map (·.hostname)).Nodup := by rw [List.map_map]; exact hnd
  rw [plugAt_eq_map _ _ _ (by rw [plugAt_hostnames]; exact hnd'), plugAt_eq_map _ _ _ hnd', List.map_map, List.map_map]
  exact List.map_congr_left fun n hn => plug_step n (hfresh n hn) done l hpa hpb

/-- **the wiring a node set does itself**: every link of the list attached at both ends, no lookup that could fail -/
theorem plugLinks_eq_declared (N0 : List NodeInv) (hfresh : ∀ n ∈ N0, ∀ c ∈ n.nics, Fresh c) (hnd : (N0.map (·.hostname)).Nodup) :
    ∀ (rest : List LinkInv) (done : List LinkCfg), (∀ l ∈ rest, 1 ≤ l.pa ∧ 1 ≤ l.pb) →
      plugLinks (N0.map (declaredWiring done)) rest = N0.map (declaredWiring (done ++ rest.map linkCfgOf)) := by
  intro rest
  induction rest with
  | nil => intro done _; simp [plugLinks]
  | cons l rest ih =>
    intro done h
    have hl := h l List.mem_cons_self
    have := ih (done ++ [linkCfgOf l]) (fun m hm => h m (List.mem_cons_of_mem _ hm))
    rw [plugLinks] at this ⊢
    rw [List.foldl_cons, show plugAt (plugAt _ l.a l.pa) l.b l.pb = _ from plugBoth_step N0 hfresh hnd done (linkCfgOf l) hl.1 hl.2,
      this, List.map_cons, List.append_assoc, List.singleton_append]

/-- **the `links` loop**: starting from freshly built nodes, after the whole list every interface a link of the file ends at is
wired, and enabled iff its node is ON; every other interface is untouched; the links are the declared ones. -/
theorem buildLinks_eq_declared (N0 : List NodeInv) (hfresh : ∀ n ∈ N0, ∀ c ∈ n.nics, Fresh c)
    (hnd : (N0.map (·.hostname)).Nodup) :
    ∀ (rest done : List LinkCfg), (∀ l ∈ rest, linkOk N0 l = true) →
      buildLinks (N0.map (declaredWiring done)) rest
        = .ok (N0.map (declaredWiring (done ++ rest)), rest.map declaredLink) := by
  intro rest
  induction rest with
  | nil => intro done _; simp [buildLinks]
  | cons l rest ih =>
    intro done h
    have hl := h l (by simp)
    have hone : buildLink (N0.map (declaredWiring done)) l = .ok (declaredLink l) :=
      buildLink_eq_declared _ l (by rw [linkOk_wired]; exact hl)
    have hports : 1 ≤ l.pa ∧ 1 ≤ l.pb := by
      obtain ⟨_, _, _, _, h4, _⟩ := linkOk_elim hl
      exact ⟨h4.1, h4.2.2.1⟩
    have hstep := plugBoth_step N0 hfresh hnd done l hports.1 hports.2
    simp only [buildLinks, hone, hstep, ih (done ++ [l]) (fun m hm => h m (by simp [hm])), List.map_cons,
      List.append_assoc, List.singleton_append]

theorem setCapacity_names (reg : List (String × String)) (e : String × String) (reg' : List (String × String))
    (h : setCapacity reg e = some reg') : reg'.map (·.1) = reg.map (·.1) := by
  unfold setCapacity at h
  split at h
  · cases h
    rw [List.map_map]
    exact List.map_congr_left fun r _ => by grind
  · cases h

/-- the capacity loop leaves, for every registered frequency, the capacity the file gives under its name, else what was there -/
theorem buildAirspace_eq (cfg : Assoc String String) : ∀ (reg : List (String × String)), (keys cfg).Nodup →
    (∀ k ∈ keys cfg, reg.any (·.1 = k) = true) →
    foldM? setCapacity reg cfg = some (reg.map fun r => (r.1, (alookup r.1 cfg).getD r.2)) := by
  refine foldM?_closed setCapacity (fun reg e => reg.map fun r => if r.1 = e.1 then (r.1, e.2) else r)
    (fun reg k => reg.any (·.1 = k) = true) (fun reg cfg => reg.map fun r => (r.1, (alookup r.1 cfg).getD r.2))
    (fun a e h => by simp [setCapacity, h]) (fun reg e k h => by rw [any_setCapacity]; exact h) (fun reg => by simp [alookup]) ?_ cfg
  intro reg e rest h hne
  simp only [List.map_map]
  apply List.map_congr_left
  intro r _
  have := alookup_none_of_not_mem _ _ hne
  simp only [Function.comp, alookup]
  grind

/-- the four shapes of node entry the adder creates pass every check of `NodeWF`, whatever their names and addresses -/
theorem officeNode_wf (c : OfficeCfg) (o : ONode) : NodeWF (officeNodeCfg c o) := by
  obtain ⟨kind, name, octet, gateway⟩ := o
  cases kind <;> exact of_decide_eq_true rfl

theorem buildNodeSets_eq_declared : ∀ (sets : List OfficeCfg), (∀ c ∈ sets, OfficeValid c) →
    buildNodeSets sets = .ok (sets.flatMap (fun c => (officeDeclared c).nodes.map fun o => declaredNode {} (officeNodeCfg c o)),
                              sets.flatMap (fun c => (officeDeclared c).links)) := by
  intro sets
  induction sets with
  | nil => intro _; rfl
  | cons c rest ih =>
    intro h
    have hb := C20_office_build_eq_declared c (h c (by simp))
    have hn := buildNodes_eq_declared {} ((officeDeclared c).nodes.map (officeNodeCfg c)) (by
      intro n hn
      obtain ⟨o, _, rfl⟩ := List.mem_map.mp hn
      exact officeNode_wf c o)
    simp only [buildNodeSets, hb, hn, ih (fun m hm => h m (by simp [hm])), List.flatMap_cons, List.map_map]
    rfl

theorem officeDeclared_ports (c : OfficeCfg) : ∀ l ∈ (officeDeclared c).links, 1 ≤ l.pa ∧ 1 ≤ l.pb := by
  intro l hl
  simp only [officeDeclared, List.mem_append, List.mem_flatMap] at hl
  rcases hl with (hl | hl) | ⟨i, _, hl⟩
  · split at hl
    · simp only [List.mem_singleton] at hl; subst hl; simp [oLink, uplinkPort]
    · simp at hl
  · split at hl
    · simp only [List.mem_singleton] at hl; subst hl; simp [oLink, uplinkPort]
    · split at hl
      · simp only [List.mem_singleton] at hl; subst hl; simp [oLink, uplinkPort]
      · simp at hl
  · simp only [declaredPcLinks, List.mem_append, List.mem_singleton] at hl
    rcases hl with hl | hl
    · split at hl
      · simp only [List.mem_singleton] at hl; subst hl
        simp only [oLink, uplinkPort, edgeOf, pcsPerSwitch]; omega
      · simp at hl
    · subst hl
      simp only [oLink, portOf, pcsPerSwitch]; omega

theorem declaredNodes_fresh (s : Scenario) : ∀ n ∈ declaredNodes s, ∀ c ∈ n.nics, Fresh c := by
  intro n hn c hc
  unfold declaredNodes at hn
  rcases List.mem_append.mp hn with hn | hn
  · obtain ⟨m, _, rfl⟩ := List.mem_map.mp hn
    exact declaredNode_fresh _ m c hc
  · obtain ⟨oc, _, hn⟩ := List.mem_flatMap.mp hn
    obtain ⟨o, _, rfl⟩ := List.mem_map.mp hn
    exact declaredNode_fresh _ _ c hc

/-- the full statement of the first half of C20 for the modelled loader (FALSE of the code before the F-22 repair; it holds in
full because `install` replaces an installed namesake). -/
def C20_FullBuildEqDeclared : Prop := ∀ s : Scenario, WellFormed s → build s = .ok (declared s)

/-- **build_eq_declared** (full strength). For every well-formed scenario — `nodes:` of every modelled type incl. wireless
routers, `node_sets:` (office-lan), `links:`, `agents:`, `game:`, `airspace:`, `defaults:` — the modelled loader builds exactly
the declared inventory: nodes with their attributes and declared operating state, durations (own, else the defaults section's,
else the library's), interfaces and addresses — each wired iff a link (of the file or of a node set) ends at it and enabled iff
it is wired and its node is ON; a wireless access point on its declared frequency, enabled iff its node is ON —, ACL rules at
their positions, routes, software with every declared option showing on the live object with its declared value (one live
instance per name), every piece of software RUNNING iff its node is ON with the configured starting health, users,
folders/files, links with bandwidths (node-set links first), agents with action maps, rewards, settings, the game options and
the capacity of every airspace frequency. -/
theorem C20_build_eq_declared (s : Scenario) (wf : WellFormed s) : build s = .ok (declared s) := by
  have hfresh := declaredNodes_fresh s
  -- the node sets wire themselves, starting from the freshly built nodes; then the `links:` loop
  have hplug := plugLinks_eq_declared _ hfresh wf.hostnames (declaredSetLinks s) []
    (fun l hl => by obtain ⟨c, _, hl⟩ := List.mem_flatMap.mp hl; exact officeDeclared_ports c l hl)
  rw [map_eq_self fun n _ => declaredWiring_nil n] at hplug
  have hlinks := buildLinks_eq_declared _ hfresh wf.hostnames s.links ([] ++ (declaredSetLinks s).map linkCfgOf) wf.links
  unfold build
  rw [show buildAirspace s.airspace = some (declaredAirspace s.airspace) from
    buildAirspace_eq s.airspace frequencies wf.airspace.1 wf.airspace.2]
  simp only [buildNodes_eq_declared s.defaults s.nodes wf.nodes, buildNodeSets_eq_declared s.nodeSets wf.nodeSets]
  rw [show s.nodes.map (declaredNode s.defaults) ++ _ = declaredNodes s from rfl, show (s.nodeSets.flatMap _) = declaredSetLinks s from rfl,
    hplug, hlinks]
  simp only [declared, List.nil_append, buildAgents_eq_declared s.agents wf.agents]

theorem C20_build_eq_declared_full : C20_FullBuildEqDeclared := C20_build_eq_declared

/-- **one instance per name**: for EVERY node entry (well-formed or not, any number of repeated or re-configured software
entries, any declared operating state) the built node never holds two live instances of one software name, and every name the
entry or the node type asks for is present. -/
theorem C20_software_one_instance_per_name (d : DefaultsCfg) (p : Power) (k : Kind) (n : NodeCfg) :
    ((installedAfter (installAll d p k n)).map (·.name)).Nodup ∧
    ∀ s ∈ installAll d p k n, s.name ∈ (installedAfter (installAll d p k n)).map (·.name) := by
  rw [installedAfter_eq_lastRequests]
  exact ⟨lastRequests_nodup _, lastRequests_names _⟩

/-- **initial software state** (every node entry, well-formed or not): after loading, every piece of software of a node is
RUNNING iff the node's declared operating state is ON (STOPPED / CLOSED otherwise), its health is the configured starting
health (a starting health of UNUSED has become GOOD on a node that is ON), and its options are those of some install request
of that name, read off the live object. -/
theorem C20_software_initial_state (d : DefaultsCfg) (p : Power) (k : Kind) (n : NodeCfg) :
    ∀ sw ∈ softInventory (powerOnSoftware p (installedAfter (installAll d p k n))),
      sw.running = decide (p = .on) ∧ sw.live = 1 ∧
      ∃ r ∈ installRequests d k n, r.name = sw.name ∧ sw.opts = readAll r.name r.opts ∧
        sw.health = (if p = .on ∧ r.health0 = .unused then .good else r.health0) := by
  intro sw hsw
  rw [softInventory_loaded_read] at hsw
  obtain ⟨r, hr, rfl⟩ := List.mem_map.mp hsw
  exact ⟨rfl, rfl, r, (lastReqs_sublist _).subset hr, rfl, rfl, rfl⟩

/-- **the configured entry wins**: an application entry whose type no later application entry repeats is the live instance of
that name after loading, with its own options — also when the node type pre-installs software of that name. -/
theorem C20_configured_application_wins (d : DefaultsCfg) (p : Power) (k : Kind) (n : NodeCfg) (pre post : List SwCfg) (c : SwCfg)
    (h : n.applications = pre ++ c :: post) (hlast : ∀ d ∈ post, d.type ≠ c.type) :
    ∃ s ∈ installedAfter (installAll d p k n), s.name = c.type ∧ s.isApp = true ∧ s.opts = c.opts := by
  rw [installedAfter_eq_lastRequests]
  unfold installAll installRequests
  rw [h]
  simp only [List.map_append, List.map_cons]
  generalize (((systemSoftware k).map sysReq).map
      (newInstance p) ++ (installServices d ((systemSoftware k).map (·.1)) n.services).map (newInstance p)) = front
  let mk : SwCfg → Soft := fun c => newInstance p (appReq c)
  have hname : ∀ d : SwCfg, (mk d).name = d.type := fun d => newInstance_name p _
  have := mem_lastRequests_of_last (front ++ pre.map mk) (post.map mk) (mk c)
    (by intro d hd; rcases List.mem_map.mp hd with ⟨e, he, rfl⟩; rw [hname, hname]; exact hlast e he)
  exact ⟨mk c, by simpa [List.append_assoc, mk, Function.comp_def] using this, hname c, (newInstance_static p (appReq c)).2⟩

/-- pointwise relation between two lists of equal length (core Lean has no `Forall₂`). -/
inductive Rel₂ {α β} (R : α → β → Prop) : List α → List β → Prop
  | nil : Rel₂ R [] []
  | cons {a b l l'} : R a b → Rel₂ R l l' → Rel₂ R (a :: l) (b :: l')

theorem rel₂_map {α β} (R : β → β → Prop) (f g : α → β) (l : List α) (h : ∀ x ∈ l, R (f x) (g x)) :
    Rel₂ R (l.map f) (l.map g) := by
  induction l with
  | nil => exact .nil
  | cons a t ih => exact .cons (h a (by simp)) (ih (fun x hx => h x (by simp [hx])))

theorem rel₂_append {α} (R : α → α → Prop) {a b c d : List α} (h1 : Rel₂ R a b) (h2 : Rel₂ R c d) : Rel₂ R (a ++ c) (b ++ d) := by
  induction h1 with
  | nil => exact h2
  | cons h _ ih => exact .cons h ih

theorem rel₂_flatMap {α β} (R : β → β → Prop) (f g : α → List β) (l : List α) (h : ∀ x ∈ l, Rel₂ R (f x) (g x)) :
    Rel₂ R (l.flatMap f) (l.flatMap g) := by
  induction l with
  | nil => exact .nil
  | cons a t ih =>
    simp only [List.flatMap_cons]
    exact rel₂_append R (h a (by simp)) (ih (fun x hx => h x (by simp [hx])))

/-- two firewall `acl:` mappings that differ only in the order of entries (outer mapping and every inner mapping). -/
def FwAclPerm (m m' : Assoc String (Assoc Nat Rule)) : Prop :=
  ∃ mid, m.Perm mid ∧ Rel₂ (fun x y => x.1 = y.1 ∧ x.2.Perm y.2) mid m'

/-- every mapping of the node entry has unique keys (true of every parsed YAML/Python mapping). -/
structure NodeKeysNodup (n : NodeCfg) : Prop where
  nics : (keys n.nics).Nodup
  ports : (keys n.ports).Nodup
  fwPorts : (keys n.fwPorts).Nodup
  acl : (keys n.acl).Nodup
  fwAcl : (keys n.fwAcl).Nodup
  fwAclInner : ∀ e ∈ n.fwAcl, (keys e.2).Nodup

/-- `n'` is `n` with the entries of every iterated or key-read mapping in another order. -/
structure NodePerm (n n' : NodeCfg) : Prop where
  rest : n' = { n with nics := n'.nics, ports := n'.ports, fwPorts := n'.fwPorts, acl := n'.acl, fwAcl := n'.fwAcl }
  nics : n.nics.Perm n'.nics
  ports : n.ports.Perm n'.ports
  fwPorts : n.fwPorts.Perm n'.fwPorts
  acl : n.acl.Perm n'.acl
  fwAcl : FwAclPerm n.fwAcl n'.fwAcl

theorem rel₂_alookup_map {β} (g : Assoc Nat Rule → β) (k : String) {mid m' : Assoc String (Assoc Nat Rule)}
    (h : Rel₂ (fun x y => x.1 = y.1 ∧ x.2.Perm y.2) mid m') (hg : ∀ a b, (k, a) ∈ mid → a.Perm b → g a = g b) :
    (alookup k mid).map g = (alookup k m').map g := by
  induction h with
  | nil => rfl
  | @cons x y l l' hxy _ ih =>
    obtain ⟨kx, vx⟩ := x
    obtain ⟨ky, vy⟩ := y
    obtain ⟨rfl, hv⟩ : kx = ky ∧ vx.Perm vy := hxy
    simp only [alookup]
    by_cases hkk : kx = k
    · subst hkk
      simp [hg vx vy (by simp) hv]
    · simp only [hkk, if_false]
      exact ih (fun a b ha => hg a b (List.mem_cons_of_mem _ ha))

theorem fwAcl_one_perm {m m' : Assoc String (Assoc Nat Rule)} (hp : FwAclPerm m m')
    (hn : (keys m).Nodup) (hin : ∀ e ∈ m, (keys e.2).Nodup) (nm : String) (base : Acl) :
    (alookup nm m).map (addRules base) = (alookup nm m').map (addRules base) := by
  obtain ⟨mid, h1, h2⟩ := hp
  rw [C20_lookup_perm nm h1 hn]
  exact rel₂_alookup_map _ nm h2 (fun a b ha hab => C20_site_acl_items base hab (hin _ (h1.mem_iff.mpr ha)))

theorem buildFwAcls_perm (n n' : NodeCfg) (hpres : n'.fwAclPresent = n.fwAclPresent) (hp : FwAclPerm n.fwAcl n'.fwAcl)
    (hn : (keys n.fwAcl).Nodup) (hin : ∀ e ∈ n.fwAcl, (keys e.2).Nodup) :
    ∀ names, buildFwAcls n' names = buildFwAcls n names := by
  intro names
  induction names with
  | nil => rfl
  | cons e rest ih =>
    obtain ⟨nm, imp, mand⟩ := e
    simp only [buildFwAcls, ih, hpres]
    have h1 := fwAcl_one_perm hp hn hin nm (Acl.empty aclSlots imp)
    cases ha : alookup nm n.fwAcl with
    | none =>
      cases hb : alookup nm n'.fwAcl with
      | none => rfl
      | some b => simp [ha, hb] at h1
    | some a =>
      cases hb : alookup nm n'.fwAcl with
      | none => simp [ha, hb] at h1
      | some b =>
        simp only [ha, hb, Option.map_some, Option.some.injEq] at h1
        simp only [h1]

/-- **key_order_irrelevant, one node entry**: for every permutation of the entries of every mapping of a node entry
(`network_interfaces`, router `ports`, firewall `ports`, `acl`, the firewall's `acl` at both levels) the loader builds the same
node — or raises the same error. No well-formedness is needed beyond unique keys. -/
theorem C20_node_key_order_irrelevant (d : DefaultsCfg) (n n' : NodeCfg) (hp : NodePerm n n') (hn : NodeKeysNodup n) :
    buildNode d n' = buildNode d n := by
  have hnics : sortByKey n'.nics = sortByKey n.nics :=
    (C20_site_network_interfaces_items hp.nics hn.nics).symm
  have hports : ∀ nics, foldM? configurePort nics n'.ports = foldM? configurePort nics n.ports :=
    fun nics => (C20_site_ports_items nics hp.ports hn.ports).symm
  have hacl : addRules routerBaseAcl n'.acl = addRules routerBaseAcl n.acl := (C20_site_acl_items _ hp.acl hn.acl).symm
  have hfwp : ∀ k, alookup k n'.fwPorts = alookup k n.fwPorts := fun k => (C20_lookup_perm k hp.fwPorts hn.fwPorts).symm
  have hemp : n'.fwPorts.isEmpty = n.fwPorts.isEmpty := by
    have := hp.fwPorts.length_eq
    cases h1 : n.fwPorts <;> cases h2 : n'.fwPorts <;> simp_all
  have hfwa : ∀ names, buildFwAcls n' names = buildFwAcls n names :=
    buildFwAcls_perm n n' (by rw [hp.rest]) hp.fwAcl hn.fwAcl hn.fwAclInner
  have houter : applyOuter n' = applyOuter n := by funext sw; rw [hp.rest]; rfl
  -- every other field of `n'` is the field of `n`
  rw [hp.rest] at hfwa houter ⊢
  simp only [buildNode, fwNic, installAll, installRequests, buildUsers, buildFolders, hnics, hports, hacl, hfwp, hemp, hfwa, houter]

/-- `a'` is `a` with the entries of its action map in another order. -/
structure AgentPerm (a a' : AgentCfg) : Prop where
  rest : a' = { a with actionMap := a'.actionMap }
  actionMap : a.actionMap.Perm a'.actionMap

theorem agentOf_perm (a a' : AgentCfg) (hp : AgentPerm a a') (hn : (keys a.actionMap).Nodup) : agentOf a' = agentOf a := by
  rw [hp.rest]
  simp only [agentOf, C20_site_action_map_items hp.actionMap hn]

/-- `s'` is `s` with the entries of every mapping, in every node entry and every agent entry, and of the airspace capacity
mapping, in another order (lists — nodes, links, routes, services, users, agents, reward components, node sets — keep their
order; option mappings are read by key: `C20_live_option_eq_declared` / `C20_lookup_perm`). -/
structure ScenarioPerm (s s' : Scenario) : Prop where
  nodes : Rel₂ NodePerm s.nodes s'.nodes
  links : s'.links = s.links
  agents : Rel₂ AgentPerm s.agents s'.agents
  airspace : s.airspace.Perm s'.airspace
  game : s'.game = s.game
  defaults : s'.defaults = s.defaults
  nodeSets : s'.nodeSets = s.nodeSets

structure KeysNodup (s : Scenario) : Prop where
  nodes : ∀ n ∈ s.nodes, NodeKeysNodup n
  agents : ∀ a ∈ s.agents, (keys a.actionMap).Nodup
  airspace : (keys s.airspace).Nodup

theorem buildNodes_perm (d : DefaultsCfg) {l l' : List NodeCfg} (h : Rel₂ NodePerm l l') (hk : ∀ n ∈ l, NodeKeysNodup n) :
    buildNodes d l' = buildNodes d l := by
  induction h with
  | nil => rfl
  | @cons n n' l l' h _ ih =>
    simp only [buildNodes, C20_node_key_order_irrelevant d n n' h (hk n (by simp)),
      ih (fun m hm => hk m (by simp [hm]))]

theorem agents_perm {l l' : List AgentCfg} (h : Rel₂ AgentPerm l l') (hk : ∀ a ∈ l, (keys a.actionMap).Nodup) :
    l'.map agentOf = l.map agentOf := by
  induction h with
  | nil => rfl
  | @cons a a' l l' h _ ih =>
    simp only [List.map_cons, agentOf_perm a a' h (hk a (by simp)), ih (fun m hm => hk m (by simp [hm]))]

/-- **key_order_irrelevant**: two scenarios that differ only in the order of the entries of their mappings build equal
simulations (equal inventories, or the same load error). -/
theorem C20_key_order_irrelevant (s s' : Scenario) (hp : ScenarioPerm s s') (hn : KeysNodup s) : build s' = build s := by
  have hnodes : buildNodes s.defaults s'.nodes = buildNodes s.defaults s.nodes := buildNodes_perm _ hp.nodes hn.nodes
  have hagents : s'.agents.map agentOf = s.agents.map agentOf := agents_perm hp.agents hn.agents
  have hba : buildAgents s'.agents = buildAgents s.agents := by
    unfold buildAgents
    rw [← List.foldl_map (f := agentOf) (g := putAgent), ← List.foldl_map (f := agentOf) (g := putAgent), hagents]
  have hair : buildAirspace s'.airspace = buildAirspace s.airspace := (C20_site_airspace_items hp.airspace hn.airspace).symm
  unfold build
  rw [hair, hp.defaults, hnodes, hp.links, hba, hp.game, hp.nodeSets]

/-- a client with a configured `web-browser` (pre-installed on every host) — what most shipped scenarios do. -/
def exShadowNode : NodeCfg :=
  { kind := .computer, hostname := "client_1", ip := some 0xC0A80A15#32,
    applications := [{ isApp := true, type := "web-browser", opts := [("target_url", "http://arcd.com/")] }] }

def exShadow : Scenario := { nodes := [exShadowNode], links := [], agents := [] }

instance : DecidableEq (Except Err Inventory) := fun a b =>
  match a, b with
  | .ok x, .ok y => if h : x = y then isTrue (by rw [h]) else isFalse (by intro e; cases e; exact h rfl)
  | .error x, .error y => if h : x = y then isTrue (by rw [h]) else isFalse (by intro e; cases e; exact h rfl)
  | .ok _, .error _ => isFalse (by intro e; cases e)
  | .error _, .ok _ => isFalse (by intro e; cases e)

theorem exShadow_wf : WellFormed exShadow := by decide

/-- the witness of F-22 builds what it declares (a regression of F-22 would break this and
`C20_build_eq_declared`). -/
example : build exShadow = .ok (declared exShadow) := C20_build_eq_declared exShadow exShadow_wf

/-- exactly ONE live `web-browser`, the configured one; its `target_url` shows with the declared value. -/
example : (softInventory (powerOnSoftware .on (installedAfter (installAll {} .on .computer exShadowNode)))).filter (·.name = "web-browser") =
    [{ name := "web-browser", isApp := true, opts := [("target_url", some "http://arcd.com/")], live := 1, running := true,
       health := .good }] := by
  rw [softInventory_loaded _ _ _ _ (by decide)]; decide

/-- the same client declared `operating_state: "OFF"`: the browser is there with its option, CLOSED. -/
example : (softInventory (powerOnSoftware .off (installedAfter (installAll {} .off .computer exShadowNode)))).filter (·.name = "web-browser") =
    [{ name := "web-browser", isApp := true, opts := [("target_url", some "http://arcd.com/")], live := 1, running := false,
       health := .good }] := by
  rw [softInventory_loaded _ _ _ _ (by decide)]; decide

/-- what the code did before the repair (append without removing the namesake) is NOT what the file declares: the
F-22 witness, as a statement about the old `install`. -/
theorem C20_install_without_replace_counterexample :
    softInventory (powerOnSoftware .on (installAll {} .on .computer exShadowNode)) ≠ declaredSoftware {} .on .computer exShadowNode := by
  decide

/-- an option a constructor copies to a live attribute under ANOTHER name is read there: a database client's `db_server_ip`
shows as the value of `server_ip_address`; and were the constructor to forget the assignment (the regenerated table without
that row) the declared option would NOT show — what `C20_live_option_eq_declared` rules out for the regenerated table. -/
example : readOption "database-client" [("db_server_ip", "192.168.1.50"), ("server_password", "pw")] "db_server_ip"
    = some "192.168.1.50" := C20_live_option_eq_declared _ _ (by decide) _ _ (by decide)
example : (alookup "server_ip_address" (constructLive (chainRows "dos-bot") [("db_server_ip", "1.2.3.4"), ("payload", "x")])) =
    some (some "1.2.3.4") :=
  C20_live_attribute_per_class "dos-bot" _ ("DatabaseClient", "server_ip_address", "db_server_ip") (by decide)
example : (alookup "c2_remote_connection" (constructLive [] [("c2_server_ip_address", "1.2.3.4")])) = none := by decide

def exRule (a : Action) (p : Option Nat) : Rule :=
  { action := a, proto := none, srcIp := none, srcWc := none, dstIp := none, dstWc := none, srcPort := p, dstPort := p }

def exRouter : NodeCfg :=
  { kind := .router, hostname := "router_1", numPorts := some 3,
    ports := [(2, { ip := 0xC0A80B01#32, mask := none }), (1, { ip := 0xC0A80A01#32, mask := some 0xFFFFFF00#32 })],
    acl := [(21, exRule .permit (some 80)), (3, exRule .deny (some 5432)), (23, ruleIcmp)],
    routes := [{ addr := 0x0A000000#32, mask := none, hop := 0xC0A80B02#32, metric := some 1 }] }

def exHost : NodeCfg :=
  { kind := .server, hostname := "db", ip := some 0xC0A80A0A#32, gateway := some 0xC0A80A01#32,
    nics := [(3, { ip := 0xAC100105#32, mask := some 0xFFFF0000#32 }), (2, { ip := 0xC0A80B0A#32, mask := some 0xFFFFFF00#32 })],
    services := [{ isApp := false, type := "database-service", opts := [("fixing_duration", "3"), ("backup_server_ip", "192.168.10.9")] }],
    users := [{ name := "alice", password := "pw", admin := some true }],
    folders := [{ name := "docs", files := [{ name := "a.txt", size := some 69, ftype := none }] }] }

def exAgent : AgentCfg :=
  { ref := "defender", type := "proxy-agent", team := some "BLUE",
    actionMap := [(1, { action := "node-shutdown", opts := "{}" }), (0, { action := "do-nothing", opts := "{}" })] }

def exScenario : Scenario :=
  { nodes := [exRouter, exHost], links := [{ a := "router_1", pa := 1, b := "db", pb := 1, bandwidth := none }], agents := [exAgent] }

theorem exScenario_wf : WellFormed exScenario := by decide

/-- in the built router the deny rule sits at position 3 and the HTTP rule at 21 although the file lists 21 first;
the database server got the FTP client its service brings along; NIC 2 is the entry with key 2. -/
example : (build exScenario).toOption.map (fun inv => inv.nodes.map fun n => (n.nics.length, n.software.length)) =
    some [(3, 6), (3, 11)] := by
  rw [C20_build_eq_declared _ exScenario_wf]; decide

/-- with keys 2, 3 (declared as 3 then 2) NIC number = key: NIC 2 carries the entry under key 2, NIC 3 the one under key 3. -/
example : (declaredNode {} exHost).nics.map (·.ip) = [some 0xC0A80A0A#32, some 0xC0A80B0A#32, some 0xAC100105#32] := by decide

/-- initial states in the concrete scenario: the router is ON, port 1 is wired and enabled, ports 2 and 3 are not; all its
software runs. -/
example : (build exScenario).toOption.map (fun inv => inv.nodes.map fun n =>
      (n.power, n.nics.map (fun c => (c.wired, c.enabled)), n.software.all (·.running))) =
    some [(.on, [(true, true), (false, false), (false, false)], true),
          (.on, [(true, true), (false, false), (false, false)], true)] := by
  rw [C20_build_eq_declared _ exScenario_wf]; decide

/-- the same scenario with the database server declared `operating_state: "OFF"` and a starting health configured: its wired
interface is NOT enabled (the router's end is), none of its software runs, the database service is COMPROMISED as declared. -/
def exHostOff : NodeCfg :=
  { exHost with
    power := some .off,
    services := [{ isApp := false, type := "database-service", opts := [("fixing_duration", "3")], health := some .compromised }] }

def exScenarioOff : Scenario := { exScenario with nodes := [exRouter, exHostOff] }

theorem exScenarioOff_wf : WellFormed exScenarioOff := by decide

example : (build exScenarioOff).toOption.map (fun inv => inv.nodes.map fun n =>
      (n.power, n.nics.map (fun c => (c.wired, c.enabled)), n.software.any (·.running))) =
    some [(.on, [(true, true), (false, false), (false, false)], true),
          (.off, [(true, false), (false, false), (false, false)], false)] := by
  rw [C20_build_eq_declared _ exScenarioOff_wf]; decide

example : (build exScenarioOff).toOption.map (fun inv => inv.nodes.map fun n =>
      (n.software.filter (·.name = "database-service")).map (·.health)) = some [[], [.compromised]] := by
  rw [C20_build_eq_declared _ exScenarioOff_wf]; decide

example : build exScenarioOff = .ok (declared exScenarioOff) := C20_build_eq_declared _ exScenarioOff_wf

def exWireless : NodeCfg :=
  { kind := .wirelessRouter, hostname := "wifi", power := some .off, routerIf := some (0xC0A80C01#32, 0xFFFFFF00#32),
    wap := some { ip := 0x0A0A0A01#32, mask := 0xFFFFFF00#32, frequency := "WIFI_5" },
    acl := [(1, exRule .permit none)] }

/-- the remaining sections, all at once: a wireless router (access point on WIFI_5, declared OFF), an `office-lan` node
set (2 computers, router), a link from the scenario's router to the node set's switch, `defaults:` (start-up 7, service fix 9 —
the database service keeps its own 3, restart 4), `game:` and an airspace capacity. -/
def exFull : Scenario :=
  { exScenario with
    nodes := [exRouter, exHost, exWireless],
    links := exScenario.links ++ [{ a := "router_1", pa := 3, b := "switch_edge_1_LAB", pb := 23, bandwidth := some 0 }],
    nodeSets := [{ lanName := "LAB", subnetBase := 69, ipStart := 39, numPcs := 2, bandwidth := some 10 }],
    defaults := { nodeStartUp := some 7, svcFix := some 9, svcRestart := some 4, nodeScan := some 6, folderScan := some 5 },
    game := { maxLen := some 64, ports := ["80", "5432"], protocols := ["tcp"], seed := some "42" },
    airspace := [("WIFI_5", "0")] }

theorem exFull_wf : WellFormed exFull := by decide

example : build exFull = .ok (declared exFull) := C20_build_eq_declared _ exFull_wf

/-- what that means concretely: 3 + 4 nodes; the wireless access point is on WIFI_5 and disabled (node OFF); the node set's
switch port 23 is wired to the scenario's router by a link of bandwidth 0; start-up duration 7 from `defaults:` except for the
node set's nodes (0); the database service keeps fixing duration 3 and gets restart duration 4; WIFI_5 capacity 0. -/
example : (build exFull).toOption.map (fun inv => (inv.nodes.map (fun n => (n.hostname, n.startUp)), inv.links.length, inv.airspace)) =
    some ([("router_1", 7), ("db", 7), ("wifi", 7), ("router_LAB", 0), ("switch_edge_1_LAB", 0), ("pc_1_LAB", 0), ("pc_2_LAB", 0)],
          5, [("WIFI_2_4", "100000000"), ("WIFI_5", "0")]) := by
  rw [C20_build_eq_declared _ exFull_wf]; decide

example : (build exFull).toOption.map (fun inv =>
      (inv.nodes.filter (·.hostname = "wifi")).map (fun n => n.nics.map (fun c => (c.frequency, c.enabled)))) =
    some [[(some "WIFI_5", false), ((none : Option String), false)]] := by
  rw [C20_build_eq_declared _ exFull_wf]; decide

example : (build exFull).toOption.map (fun inv =>
      (inv.nodes.filter (·.hostname = "db")).map (fun n => (n.software.filter (·.name = "database-service")).map
          (fun sw => (sw.imposedFix, sw.imposedRestart)))) =
    some [[((none : Option Nat), some 4)]] := by
  rw [C20_build_eq_declared _ exFull_wf]; decide

example : (build exFull).toOption.map (fun inv =>
      (inv.nodes.filter (·.hostname = "switch_edge_1_LAB")).map (fun n => (n.nics.map (·.enabled)).count true)) = some [4] := by
  rw [C20_build_eq_declared _ exFull_wf]; decide

/-- the same scenario with every mapping reversed -/
def exScenarioRev : Scenario :=
  { exScenario with
    nodes := [{ exRouter with ports := exRouter.ports.reverse, acl := exRouter.acl.reverse },
              { exHost with nics := exHost.nics.reverse }],
    agents := [{ exAgent with actionMap := exAgent.actionMap.reverse }] }

example : build exScenarioRev = build exScenario :=
  C20_key_order_irrelevant exScenario exScenarioRev
    { nodes := .cons ⟨rfl, .refl _, (List.reverse_perm _).symm, .refl _, (List.reverse_perm _).symm, [], .refl _, .nil⟩
        (.cons ⟨rfl, (List.reverse_perm _).symm, .refl _, .refl _, .refl _, [], .refl _, .nil⟩ .nil)
      links := rfl
      agents := .cons ⟨rfl, (List.reverse_perm _).symm⟩ .nil
      airspace := .refl _, game := rfl, defaults := rfl, nodeSets := rfl }
    { nodes := by
        intro n hn
        simp only [exScenario, List.mem_cons, List.not_mem_nil, or_false] at hn
        rcases hn with rfl | rfl <;> exact ⟨by decide, by decide, by decide, by decide, by decide, by decide⟩
      agents := by decide
      airspace := by decide }

/-- `for nic_num, nic_cfg in node_cfg["network_interfaces"].items(): connect_nic(...)` as it was before the repair. -/
def nicsInFileOrder (m : Assoc Nat IfCfg) : List Nic := m.map fun e => nicOf e.2

theorem C20_unrepaired_nic_order_counterexample :
    ¬ ∀ m m' : Assoc Nat IfCfg, m.Perm m' → (keys m).Nodup → nicsInFileOrder m = nicsInFileOrder m' := by
  intro h
  have := h exHost.nics exHost.nics.reverse (List.reverse_perm _).symm (by decide)
  revert this
  decide

theorem wrap_eq_mod (n len : Nat) : (if n ≥ len then n % len else n) = n % len := by
  split
  · rfl
  · exact (Nat.mod_eq_of_lt (by omega)).symm

/-- **schedule_assembles**: episode `n` is assembled from the variant files listed under key `n mod len` of the schedule
(in the listed order) followed by the base scenario; a schedule key or file that does not exist is an error, never a silent
fallback. -/
theorem C20_schedule_assembles {Doc} (s : Schedule Doc) (n : Nat) (docs : List Doc) (h : scheduleDocs s n = some docs) :
    0 < s.schedule.length ∧
    ∃ names variants, alookup (n % s.schedule.length) s.schedule = some names ∧
      names.mapM (fun f => alookup f s.files) = some variants ∧ docs = variants ++ [s.base] := by
  unfold scheduleDocs at h
  rw [wrap_eq_mod] at h
  -- every `none` branch of `scheduleDocs` contradicts `h`; the remaining one names the two lookups that succeeded
  split at h
  · cases h
  · dsimp only at h
    split at h
    · cases h
    · split at h
      · cases h
      · exact ⟨by omega, _, _, ‹_›, ‹_›, (Option.some.inj h).symm⟩

/-- the schedule wraps around: episodes `n` and `n + len` are assembled from the same documents. -/
theorem C20_schedule_periodic {Doc} (s : Schedule Doc) (n : Nat) :
    scheduleDocs s (n + s.schedule.length) = scheduleDocs s n := by
  unfold scheduleDocs
  rw [wrap_eq_mod, wrap_eq_mod, Nat.add_mod_right]

/-- the order of the entries of the `schedule:` mapping and of the file table is irrelevant. -/
theorem C20_schedule_key_order {Doc} (s s' : Schedule Doc) (h1 : s.schedule.Perm s'.schedule) (h2 : s.files.Perm s'.files)
    (hb : s'.base = s.base) (hn1 : (keys s.schedule).Nodup) (hn2 : (keys s.files).Nodup) (n : Nat) :
    scheduleDocs s' n = scheduleDocs s n := by
  unfold scheduleDocs
  have hl : s'.schedule.length = s.schedule.length := h1.length_eq.symm
  have hf : (fun f => alookup f s'.files) = (fun f => alookup f s.files) := by
    funext f; exact (C20_lookup_perm f h2 hn2).symm
  simp only [hl, hb, hf, fun k => (C20_lookup_perm k h1 hn1).symm]

/-- flattening the `agents` list of an assembled scenario keeps every agent, in order. -/
theorem C20_flatten_length {α} (l : List (α ⊕ List α)) :
    (flattenAgents l).length = (l.map fun x => match x with | .inl _ => 1 | .inr as => as.length).sum := by
  induction l with
  | nil => rfl
  | cons x t ih => cases x <;> simp [flattenAgents, ih] <;> omega

example : scheduleDocs (⟨[(1, ["g1", "r1"]), (0, ["g0", "r0"])],
    [("g0", "G0"), ("g1", "G1"), ("r0", "R0"), ("r1", "R1")], "BASE"⟩ : Schedule String) 3
    = some ["G1", "R1", "BASE"] := by decide

/-! `Gen/Config.lean` is rewritten from PrimAITE's source on every run; what follows ties the model's constants and shapes to it. -/

/-- every mapping-iteration site of the loaders, with the lemma that makes the order of that mapping's entries irrelevant. -/
def coveredSites : List ((String × String) × String) := [
  (("PrimaiteGame.from_config", "new_node.file_system.folders.values()"), "the node's own folders, each given the same default: order-free"),
  (("PrimaiteGame.from_config", "sorted(node_cfg['network_interfaces'].items(), key=lambda item: int(item[0]))"), "C20_site_network_interfaces_items"),
  (("Node._install_system_software", "self.SYSTEM_SOFTWARE.items()"), "class constant, not part of the scenario"),
  (("Router.from_config", "ports.items()"), "C20_site_ports_items"),
  (("Router.from_config", "acl.items()"), "C20_site_acl_items"),
  (("Firewall.from_config", "config['acl']['internal_inbound_acl'].items()"), "C20_site_acl_items"),
  (("Firewall.from_config", "config['acl']['internal_outbound_acl'].items()"), "C20_site_acl_items"),
  (("Firewall.from_config", "config['acl']['dmz_inbound_acl'].items()"), "C20_site_acl_items"),
  (("Firewall.from_config", "config['acl']['dmz_outbound_acl'].items()"), "C20_site_acl_items"),
  (("Firewall.from_config", "config['acl']['external_inbound_acl'].items()"), "C20_site_acl_items"),
  (("Firewall.from_config", "config['acl']['external_outbound_acl'].items()"), "C20_site_acl_items"),
  (("WirelessRouter.from_config", "config['acl'].items()"), "C20_site_acl_items"),
  (("ActionManager.__init__", "self.config.action_map.items()"), "C20_site_action_map_items"),
  (("AirSpace.set_frequency_max_capacity_mbps", "cfg.items()"), "C20_site_airspace_items")]

/-- The regenerated inventory of mapping-iteration sites is exactly the list of sites that have a per-site lemma: a new
`.items()` / `.values()` / `for k in mapping` in a loader, or a loop that stops sorting, breaks this obligation. -/
theorem C20_gen_sites_covered : Gen.Config.sites = coveredSites.map (·.1) := rfl

/-- constants and tables of the model are the ones in the source. -/
theorem C20_gen_constants :
    defaultBandwidth = Gen.Config.defaultBandwidth ∧ defaultDuration = Gen.Config.defaultStartUp ∧
    defaultDuration = Gen.Config.defaultShutDown ∧ defaultRouterPorts = Gen.Config.routerPorts ∧
    defaultSwitchPorts = Gen.Config.switchPorts ∧ Gen.Config.firewallExtraPorts = 0 ∧
    hostSystem.map (·.1) = Gen.Config.hostSystemKeys.map (fun k => if k = "host-arp" then "arp" else k) ∧
    Gen.Config.computerSystemKeys = ["**", "ftp-client"] ∧
    routerSystem.map (·.1) = Gen.Config.routerSystemKeys ++ ["icmp", "arp", "nmap"] ∧
    fwAclNames.map (fun e => (e.1, if e.2.1 = Action.permit then "PERMIT" else "DENY")) = Gen.Config.firewallAcls ∧
    (fwAclNames.filter (·.2.2)).map (·.1) = Gen.Config.firewallAclMandatory ∧
    (fwAclNames.filter (fun e => !e.2.2)).map (·.1) = Gen.Config.firewallAclOptional ∧
    Gen.Config.routerDefaultRulePositions = [22, 23] ∧ Gen.Config.defaultsKeysConsistent = true :=
  ⟨rfl, rfl, rfl, rfl, rfl, rfl, rfl, rfl, rfl, rfl, rfl, rfl, rfl, rfl⟩

/-- `EpisodeListScheduler.__call__` has the shape `scheduleDocs` models: wrap by `% len`, read the schedule by key, join the
variants in listed order followed by the base scenario. -/
theorem C20_gen_schedule_shape : Gen.Config.scheduleWrapsModLen = true ∧ Gen.Config.scheduleVariantsThenBase = true ∧
    Gen.Config.scheduleReadByKey = true := ⟨rfl, rfl, rfl⟩

/-- `SoftwareManager.install` has the shape `installOne` models: the class map its guard reads is written by `install` and
cleared by `uninstall`; the guard refuses only a bare re-install (`… and software_config is None`); an installed namesake is
uninstalled BEFORE the new instance is entered into `node.services/applications`, the request routes, `software` and the port
table. -/
theorem C20_gen_install_shape : Gen.Config.installGuardMapWrites = 1 ∧ Gen.Config.installGuardOnlyBare = true ∧
    Gen.Config.installReplacesNamesakeFirst = true ∧ Gen.Config.uninstallClearsClassMap = true := ⟨rfl, rfl, rfl, rfl⟩

/-- `EpisodeListScheduler.__call__` returns the value it has just parsed from the joined text — a fresh object on every call —,
stores nothing on the instance or the class, and the class has no field beyond the four it documents (so nowhere to keep a parsed
document); `ConstantEpisodeScheduler` hands out a deep copy. This is what lets `scheduleDocs` be a FUNCTION of the files: the
loader may do what it likes to the object it is given without the next episode seeing it. -/
theorem C20_gen_scheduler_fresh : Gen.Config.scheduleFreshPerCall = true ∧
    Gen.Config.scheduleClassFields = ["schedule", "episode_data", "base_scenario", "_exceeded_episode_list"] ∧
    Gen.Config.constantSchedulerCopies = true := ⟨rfl, rfl, rfl⟩

/-- no loader function pops from, deletes from, clears or item-assigns the mapping it is GIVEN (a parameter that has not been
re-bound to a copy first): a second build from the same parsed scenario sees the same scenario. `build` is a function of the
scenario alone for exactly this reason. -/
theorem C20_gen_loader_reads_only : Gen.Config.loaderConsumesArgument = [] := rfl

/-- every software constructor applies its configured options by plain assignment (`self.attr = self.config.opt`, at most under
`if self.config.opt is not None`): no loop, no call fed with configured values, no test of the node's state — so the effect of
an option cannot depend on the declared operating state of the node or on construction order. The regenerated assignment table
and the regenerated constructor chains ARE the tables of the model (`initApplies`, `classChains`), over which
`C20_live_option_eq_declared` / `C20_live_attribute_per_class` are proved: file → option → assignment → live attribute is all in
Lean; only pydantic's handling of the keyword arguments of the schema is trusted. The one assignment that sits under a test of
the object's own fresh state (`_fixing_countdown`, only for software that starts FIXING) is listed apart and is not an option
reading. -/
theorem C20_gen_software_options_applied : Gen.Config.softwareInitOtherConfigUses = [] ∧
    Gen.Config.softwareInitApplies = initApplies ∧ Gen.Config.softwareChains = classChains ∧
    Gen.Config.softwareInitGuardedApplies = [("Software", "_fixing_countdown", "fixing_duration")] := ⟨rfl, rfl, rfl, rfl⟩

/-- the options that have a second source are exactly the ones the model knows, each filled inner-first by its `install()` hook
(`if self.parent and not self.<opt>: self.config.<opt> = <outer>`; the extractor refuses any other write of `self.config` in an
`install()` hook), and no constructor writes `self.config` (`C20_gen_software_options_applied`: such a statement is an "other
use") — so the node-level key can never override the entry's own value. -/
theorem C20_gen_option_outer_sources : Gen.Config.optionOuterSources = outerSources := rfl

/-- the constants and shapes behind `airspace:`, wireless routers, `defaults:` and the ACL rule loops: the registered airspace
frequencies with their capacities and the access point's default one, capacities given in Mbps × 1024², a wireless router's
port 1 = access point / port 2 = router interface and the sections its `from_config` applies (incl. `default_route`), the default
node scan duration and episode length, the keys the loader looks for in the `defaults:` section — for the three without a second
source the statements that apply them (folder durations also on the folders that exist already) —, and how many `add_rule` loops
each router-like loader has. -/
theorem C20_gen_round4_constants :
    Gen.Config.airspaceFrequencies = frequencies ∧ Gen.Config.wirelessDefaultFrequency = defaultFrequency ∧
    Gen.Config.airspaceCapacityInMbps = true ∧
    Gen.Config.wirelessRouterPorts = ["WirelessAccessPoint", "RouterInterface"] ∧
    Gen.Config.wirelessRouterSections = ["router_interface", "wireless_access_point", "acl", "routes", "default_route", "operating_state"] ∧
    Gen.Config.nodeScanDefault = defaultScan ∧ Gen.Config.episodeLengthDefault = defaultEpisodeLength ∧
    -- the keys of the defaults section that have ONE statement each and no second source; the five keys that compete with a
    -- value of the entry (node start-up / shut-down / scan, service fix / restart duration) are TRANSLATED instead and proved to
    -- resolve as `effective` in Props/C20Resolve.lean (C20_gen_resolve_*), whatever the shape of the statements
    (Gen.Config.defaultsLanding.filter (fun e => e.1 ∈ ["folder_restore_duration", "folder_scan_duration", "service_install_duration"])) = [
      ("folder_restore_duration", "'folder_restore_duration' in defaults_config", "folder.restore_duration = int(defaults_config['folder_restore_duration'])"),
      ("folder_restore_duration", "'folder_restore_duration' in defaults_config",
        "new_node.file_system._default_folder_restore_duration = int(defaults_config['folder_restore_duration'])"),
      ("folder_scan_duration", "'folder_scan_duration' in defaults_config", "folder.scan_duration = int(defaults_config['folder_scan_duration'])"),
      ("folder_scan_duration", "'folder_scan_duration' in defaults_config",
        "new_node.file_system._default_folder_scan_duration = int(defaults_config['folder_scan_duration'])"),
      ("service_install_duration", "'service_install_duration' in defaults_config",
        "new_service.install_duration = int(defaults_config['service_install_duration'])")] ∧
    (Gen.Config.defaultsLanding.map (·.1)).eraseDups = ["folder_restore_duration", "folder_scan_duration", "node_scan_duration",
      "node_shut_down_duration", "node_start_up_duration", "service_fix_duration", "service_install_duration", "service_restart_duration"] ∧
    -- how many `add_rule` calls each loader has (one router ACL, six firewall ACLs, one wireless-router ACL); WHAT each call reads
    -- for the two spellings of an address is not pinned as text: every keyword expression of every one of these calls is
    -- TRANSLATED and proved in Props/C20Resolve.lean (`C20_gen_kwargs_resolve`, `C20_acl_address_first_declared_spelling`)
    Gen.Config.aclAddressKeys.map (·.1) = ["Router", "Firewall", "Firewall", "Firewall", "Firewall", "Firewall", "Firewall", "WirelessRouter"] :=
  ⟨rfl, rfl, rfl, rfl, rfl, rfl, rfl, rfl, rfl, rfl⟩

end Primaite.Config
