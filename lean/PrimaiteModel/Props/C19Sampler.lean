/-
The sampler with the semantics numpy has.

`Generator.choice(n, p=p)` = argument checks (`choiceNp`: size, negative entries, the band `|Σp − 1| ≤ 2⁻²⁶`), then
`cdf = cumsum(p) / cumsum(p)[-1]` and a RIGHT-SIDED BINARY SEARCH for the uniform draw.  The never-zero statement is
proved for that binary search over an arbitrary number type (IEEE doubles included): all it needs is that the order is a
total preorder, that `x + 0 = x` and `0 / x = 0` hold exactly, and that the cdf array is sorted — no assumption that the
probabilities sum to 1, none on rounding.  The cdf of non-negative probabilities IS sorted (any number type: from monotone
`+` and `/`; the exact model: proved), and on the exact cdf that binary search and the model's linear `scan` are the same
function.
-/
import PrimaiteModel.Props.C19
namespace Primaite.Agents

/-- What the search needs of the comparison `lt` (strict "less than" of a total preorder without NaN). -/
structure LtLaws {F : Type} (lt : F → F → Bool) : Prop where
  lt_of_lt_of_le : ∀ x y z, lt x y = true → lt z y = false → lt x z = true
  le_trans : ∀ x y z, lt x y = false → lt y z = false → lt x z = false

def SortedBy {F : Type} (lt : F → F → Bool) (arr : List F) : Prop :=
  ∀ (i j : Nat) (a b : F), i ≤ j → arr[i]? = some a → arr[j]? = some b → lt b a = false

theorem sorted_of_consecutive {F : Type} (lt : F → F → Bool) (refl : ∀ x, lt x x = false)
    (trans : ∀ x y z, lt x y = false → lt y z = false → lt x z = false) (arr : List F)
    (h : ∀ k a b, arr[k]? = some a → arr[k + 1]? = some b → lt b a = false) : SortedBy lt arr := by
  intro i j a b hij ha hb
  obtain ⟨d, rfl⟩ := Nat.exists_eq_add_of_le hij
  clear hij
  induction d generalizing b with
  | zero =>
    cases ha.symm.trans hb
    exact refl a
  | succ d ih =>
    obtain ⟨hlt, _⟩ := List.getElem?_eq_some_iff.1 hb
    have hm : arr[i + d]? = some arr[i + d] := List.getElem?_eq_getElem (by omega)
    exact trans b _ a (h (i + d) _ b hm hb) (ih _ hm)

/-- Loop invariant of `npy_binsearch<right>` in predicate form: all it needs is that "key < entry" is monotone along the
array (once true, true for every later entry). -/
theorem bsearchRight_spec_mono {F : Type} (lt : F → F → Bool) (arr : List F) (key : F)
    (hmono : ∀ (i j : Nat) (a b : F), i ≤ j → arr[i]? = some a → arr[j]? = some b → lt key a = true → lt key b = true) :
    ∀ (fuel lo hi : Nat), lo ≤ hi → hi ≤ arr.length → hi - lo ≤ fuel →
    (∀ j a, j < lo → arr[j]? = some a → lt key a = false) →
    (∀ j a, hi ≤ j → arr[j]? = some a → lt key a = true) →
    lo ≤ bsearchRight lt arr key fuel lo hi ∧ bsearchRight lt arr key fuel lo hi ≤ hi ∧
    (∀ j a, j < bsearchRight lt arr key fuel lo hi → arr[j]? = some a → lt key a = false) ∧
    (∀ j a, bsearchRight lt arr key fuel lo hi ≤ j → arr[j]? = some a → lt key a = true) := by
  intro fuel
  induction fuel with
  | zero =>
    intro lo hi hle _ hf hlo hhi
    have : lo = hi := by omega
    subst this
    exact ⟨Nat.le_refl _, Nat.le_refl _, hlo, hhi⟩
  | succ fuel ih =>
    intro lo hi hle hlen hf hlo hhi
    unfold bsearchRight
    by_cases hlt : lo < hi
    · rw [if_pos hlt]
      have hlm : lo ≤ lo + (hi - lo) / 2 := Nat.le_add_right _ _
      have hmid : lo + (hi - lo) / 2 < hi := by omega
      generalize lo + (hi - lo) / 2 = m at hlm hmid ⊢
      have hm : arr[m]? = some arr[m] := List.getElem?_eq_getElem (by omega)
      rw [hm]
      simp only []
      cases hk : lt key arr[m] with
      | true =>
        simp only [if_true]
        have := ih lo m hlm (by omega) (by omega) hlo (fun j a hj ha => hmono _ j _ a hj hm ha hk)
        exact ⟨this.1, by omega, this.2.2.1, this.2.2.2⟩
      | false =>
        simp only [Bool.false_eq_true, if_false]
        have := ih (m + 1) hi hmid hlen (by omega) (fun j a hj ha => Bool.eq_false_iff.2 fun hja => by
          rw [hmono j _ a _ (by omega) ha hm hja] at hk; cases hk) hhi
        exact ⟨by omega, this.2.1, this.2.2.1, this.2.2.2⟩
    · rw [if_neg hlt]
      have : lo = hi := by omega
      subst this
      exact ⟨Nat.le_refl _, Nat.le_refl _, hlo, hhi⟩

theorem searchsortedRight_spec_mono {F : Type} (lt : F → F → Bool) (arr : List F) (key : F)
    (hmono : ∀ (i j : Nat) (a b : F), i ≤ j → arr[i]? = some a → arr[j]? = some b → lt key a = true → lt key b = true) :
    searchsortedRight lt arr key ≤ arr.length ∧
    (∀ j a, j < searchsortedRight lt arr key → arr[j]? = some a → lt key a = false) ∧
    (∀ j a, searchsortedRight lt arr key ≤ j → arr[j]? = some a → lt key a = true) := by
  have := bsearchRight_spec_mono lt arr key hmono arr.length 0 arr.length (Nat.zero_le _) (Nat.le_refl _) (by omega)
    (fun j a hj _ => absurd hj (Nat.not_lt_zero j))
    (fun j a hj ha => by
      have : arr[j]? = none := List.getElem?_eq_none hj
      rw [this] at ha; cases ha)
  exact ⟨this.2.1, this.2.2.1, this.2.2.2⟩

/-- **`searchsorted(key, side='right')` on a sorted array** returns the number of entries `≤ key`, i.e. the least index
whose entry is greater than `key` (or the length). -/
theorem C19_searchsorted_right_spec {F : Type} (lt : F → F → Bool) (L : LtLaws lt) (arr : List F) (key : F)
    (hs : SortedBy lt arr) :
    searchsortedRight lt arr key ≤ arr.length ∧
    (∀ j a, j < searchsortedRight lt arr key → arr[j]? = some a → lt key a = false) ∧
    (∀ j a, searchsortedRight lt arr key ≤ j → arr[j]? = some a → lt key a = true) :=
  searchsortedRight_spec_mono lt arr key fun i j a b hij ha hb hk => L.lt_of_lt_of_le key a b hk (hs i j a b hij ha hb)

theorem searchsorted_skips_flat {F : Type} (lt : F → F → Bool) (L : LtLaws lt) (arr : List F) (key : F)
    (hs : SortedBy lt arr) (i : Nat)
    (h0 : i = 0 → ∀ a, arr[0]? = some a → lt key a = false)
    (hrep : ∀ k, i = k + 1 → arr[k + 1]? = arr[k]?) (hi : i < arr.length) :
    searchsortedRight lt arr key ≠ i := by
  intro heq
  obtain ⟨_, hbelow, habove⟩ := C19_searchsorted_right_spec lt L arr key hs
  have hai : arr[i]? = some arr[i] := List.getElem?_eq_getElem hi
  have hgt : lt key arr[i] = true := habove i _ (by omega) hai
  cases i with
  | zero =>
    have := h0 rfl _ hai
    rw [this] at hgt; cases hgt
  | succ k =>
    have hk := hrep k rfl
    rw [hai] at hk
    have := hbelow k _ (by omega) hk.symm
    rw [this] at hgt; cases hgt

/-- `p.cumsum()`. -/
def cumsum {F : Type} (add : F → F → F) : List F → List F
  | [] => []
  | w :: ws => w :: cumsumFrom add w ws

theorem cumsumFrom_length {F : Type} (add : F → F → F) : ∀ (ws : List F) (acc : F), (cumsumFrom add acc ws).length = ws.length := by
  intro ws
  induction ws with
  | nil => intro _; rfl
  | cons w r ih => intro acc; simp [cumsumFrom, ih]

theorem cumsum_length {F : Type} (add : F → F → F) (ws : List F) : (cumsum add ws).length = ws.length := by
  cases ws with
  | nil => rfl
  | cons w r => simp [cumsum, cumsumFrom_length]

/-- The recurrence of running sums, read on the list together with its seed: the entry after `c` is `c + x`. -/
theorem running_succ {F : Type} (add : F → F → F) : ∀ (ws : List F) (acc : F) (k : Nat) (x c : F),
    ws[k]? = some x → (acc :: cumsumFrom add acc ws)[k]? = some c → (cumsumFrom add acc ws)[k]? = some (add c x) := by
  intro ws
  induction ws with
  | nil => intro acc k x c h; cases h
  | cons w r ih =>
    intro acc k x c hx hc
    cases k with
    | zero =>
      simp only [List.getElem?_cons_zero, Option.some.injEq] at hx hc
      rw [← hx, ← hc]; rfl
    | succ k => exact ih _ k x c hx hc

theorem cumsum_succ {F : Type} (add : F → F → F) (ws : List F) (k : Nat) (x c : F)
    (hx : ws[k + 1]? = some x) (hc : (cumsum add ws)[k]? = some c) : (cumsum add ws)[k + 1]? = some (add c x) := by
  cases ws with
  | nil => cases hx
  | cons w r => exact running_succ add r w k x c hx hc

/-- `cdf = p.cumsum(); cdf /= cdf[-1]`. -/
def cdfNp {F : Type} (add : F → F → F) (div : F → F → F) (ws : List F) : List F :=
  match (cumsum add ws).getLast? with
  | none => []
  | some last => (cumsum add ws).map (div · last)

theorem cdfNp_cases {F : Type} (add : F → F → F) (div : F → F → F) (ws : List F) :
    (ws = [] ∧ cdfNp add div ws = []) ∨ ∃ last, cdfNp add div ws = (cumsum add ws).map (div · last) := by
  unfold cdfNp
  cases ws with
  | nil => exact Or.inl ⟨rfl, rfl⟩
  | cons w r =>
    cases h : (cumsum add (w :: r)).getLast? with
    | none => simp [cumsum] at h
    | some last => exact Or.inr ⟨last, rfl⟩

theorem cdfNp_length {F : Type} (add : F → F → F) (div : F → F → F) (ws : List F) : (cdfNp add div ws).length = ws.length := by
  rcases cdfNp_cases add div ws with ⟨rfl, e⟩ | ⟨last, e⟩ <;> rw [e]
  rw [List.length_map, cumsum_length]

/-- **numpy's sampler never returns an index of probability zero** — with the semantics numpy has: cdf built by running
sums and a division by the last one, right-sided binary search.  `F` is any number type (IEEE doubles: the laws below
hold exactly for them in the absence of NaN, which `choice` rejects); `zero` the value of a zero probability.

* no assumption that the probabilities sum to 1 (the accepted band `|Σp − 1| ≤ 2⁻²⁶` is normalised away by the division);
* no assumption on rounding of `+` and `/` beyond `x + 0 = x` and `0 / x = 0`;
* leading zeros (`i = 0`), trailing zeros and runs of zeros are covered;
* `u` is any draw with `0 ≤ u` (`random()` returns values in `[0, 1)`).

The cdf must be sorted — true of running sums of non-negative doubles divided by a positive double (monotonicity of
rounding), stated as a hypothesis. -/
theorem C19_numpy_choice_never_zero {F : Type} (lt : F → F → Bool) (L : LtLaws lt)
    (add div : F → F → F) (zero : F)
    (add_zero : ∀ x, add x zero = x) (zero_div : ∀ x, div zero x = zero)
    (ws : List F) (u : F) (hu : lt u zero = false)
    (hs : SortedBy lt (cdfNp add div ws)) (i : Nat) (hi : ws[i]? = some zero) :
    searchsortedRight lt (cdfNp add div ws) u ≠ i := by
  have hilt : i < ws.length := (List.getElem?_eq_some_iff.1 hi).1
  have hlen := cdfNp_length add div ws
  apply searchsorted_skips_flat lt L _ u hs i
  · -- leading zero: cdf[0] = 0 / last = 0 ≤ u
    intro h0 a ha
    subst h0
    rcases cdfNp_cases add div ws with ⟨rfl, _⟩ | ⟨last, e⟩
    · cases hi
    · rw [e, List.getElem?_map] at ha
      cases ws with
      | nil => cases hi
      | cons w r =>
        simp only [List.getElem?_cons_zero, Option.some.injEq] at hi
        subst hi
        simp only [cumsum, List.getElem?_cons_zero, Option.map_some, Option.some.injEq] at ha
        rw [← ha, zero_div]
        exact hu
  · -- a zero entry repeats the previous cdf value: (c + 0) / last = c / last
    intro k hk
    subst hk
    rcases cdfNp_cases add div ws with ⟨rfl, _⟩ | ⟨last, e⟩
    · cases hi
    · rw [e]
      simp only [List.getElem?_map]
      have hk : k < (cumsum add ws).length := by rw [cumsum_length]; omega
      have hc : (cumsum add ws)[k]? = some (cumsum add ws)[k] := List.getElem?_eq_getElem hk
      rw [cumsum_succ add ws k zero _ hi hc, hc, add_zero]
  · rw [hlen]; exact hilt

/-- Non-vacuity (naturals as the number type, `div` = keep the numerator): leading zero, inner zeros, trailing zero;
every draw lands on an index of positive weight. -/
example : (List.range 7).map (fun u => searchsortedRight (fun a b => decide (a < b)) (cdfNp (· + ·) (fun a _ => a) [0, 2, 0, 0, 3, 2, 0]) u)
    = [1, 1, 4, 4, 4, 5, 5] := by decide +kernel

/-- **The cdf numpy builds from non-negative probabilities is sorted**, over any number type in which adding a
non-negative number does not decrease a sum and dividing by the same number preserves `≤` (both hold for IEEE doubles:
rounding is monotone; this is where IEEE stays trusted). -/
theorem C19_cdf_sorted {F : Type} (lt : F → F → Bool) (L : LtLaws lt) (refl : ∀ x, lt x x = false)
    (add div : F → F → F) (zero : F)
    (add_mono : ∀ x w, lt w zero = false → lt (add x w) x = false)
    (div_mono : ∀ x y d, lt y x = false → lt (div y d) (div x d) = false)
    (ws : List F) (hnn : ∀ w ∈ ws, lt w zero = false) : SortedBy lt (cdfNp add div ws) := by
  apply sorted_of_consecutive lt refl L.le_trans
  intro k a b ha hb
  rcases cdfNp_cases add div ws with ⟨_, e⟩ | ⟨last, e⟩ <;> rw [e] at ha hb
  · cases ha
  · simp only [List.getElem?_map, Option.map_eq_some_iff] at ha hb
    obtain ⟨ca, hca, rfl⟩ := ha
    obtain ⟨cb, hcb, rfl⟩ := hb
    apply div_mono
    obtain ⟨hk1, _⟩ := List.getElem?_eq_some_iff.1 hcb
    rw [cumsum_length] at hk1
    have := cumsum_succ add ws k _ ca (List.getElem?_eq_getElem hk1) hca
    rw [hcb] at this
    cases this
    exact add_mono ca _ (hnn _ (List.getElem_mem hk1))

/-- `C19_numpy_choice_never_zero` with the sortedness discharged: for non-negative probabilities (which `choice`
enforces) no hypothesis about the cdf is left. -/
theorem C19_numpy_choice_never_zero_nonneg {F : Type} (lt : F → F → Bool) (L : LtLaws lt) (refl : ∀ x, lt x x = false)
    (add div : F → F → F) (zero : F)
    (add_zero : ∀ x, add x zero = x) (zero_div : ∀ x, div zero x = zero)
    (add_mono : ∀ x w, lt w zero = false → lt (add x w) x = false)
    (div_mono : ∀ x y d, lt y x = false → lt (div y d) (div x d) = false)
    (ws : List F) (hnn : ∀ w ∈ ws, lt w zero = false) (u : F) (hu : lt u zero = false)
    (i : Nat) (hi : ws[i]? = some zero) :
    searchsortedRight lt (cdfNp add div ws) u ≠ i :=
  C19_numpy_choice_never_zero lt L add div zero add_zero zero_div ws u hu
    (C19_cdf_sorted lt L refl add div zero add_mono div_mono ws hnn) i hi

/-- Non-vacuity of the laws: the naturals with `+` and "division" that keeps the numerator satisfy all of them. -/
example : ∀ (ws : List Nat) (u i : Nat), ws[i]? = some 0 →
    searchsortedRight (fun a b => decide (a < b)) (cdfNp (· + ·) (fun a _ => a) ws) u ≠ i := by
  intro ws u i hi
  refine C19_numpy_choice_never_zero_nonneg (fun a b => decide (a < b)) ⟨?_, ?_⟩ (by simp) (· + ·) (fun a _ => a) 0
    (by simp) (by simp) ?_ ?_ ws (by simp) u (by simp) i hi
  · intro x y z h1 h2; simp at h1 h2 ⊢; omega
  · intro x y z h1 h2; simp at h1 h2 ⊢; omega
  · intro x w _; simp
  · intro x y d h; simpa using h

/-- **`choiceNp` answers only inside the band and never with a zero-probability index**: if `Generator.choice` returns
`i` then the vector has one entry per action, no entry is negative, `|Σp − 1| ≤ 2⁻²⁶`, `i` is inside the action map and
`p i > 0` — for every denominator, every vector and every draw (sums different from 1 included). -/
theorem C19_choiceNp_never_zero (n den : Nat) (ws : List Int) (u : Unif) (i : Nat) (h : choiceNp n den ws u = .chose i) :
    ws.length = n ∧ (∀ w ∈ ws, 0 ≤ w) ∧ (ws.sum - den).natAbs * npTolDen ≤ den ∧ i < n ∧ ∃ w, ws[i]? = some w ∧ 0 < w := by
  unfold choiceNp at h
  split at h
  · cases h
  · rename_i h1
    split at h
    · cases h
    · rename_i h2
      split at h
      · cases h
      · rename_i h3
        have hlen : ws.length = n := by
          rcases Nat.decEq ws.length n with hne | he
          · exact absurd (Or.inl hne) h1
          · exact he
        have hnn : ∀ w ∈ ws, 0 ≤ w := by
          intro w hw
          by_cases hl : w < 0
          · exact absurd (List.any_eq_true.2 ⟨w, hw, by simpa using hl⟩) h2
          · omega
        have hband : (ws.sum - den).natAbs * npTolDen ≤ den := by
          have h3' : npSumOk den ws = true := by simpa using h3
          exact of_decide_eq_true h3'
        obtain ⟨w, hw, hpos⟩ := C19_never_zero n (ws.map Int.toNat) u i h
        have hin := C19_choice_in_range n (ws.map Int.toNat) u i h
        rw [List.getElem?_map] at hw
        cases hwi : ws[i]? with
        | none => rw [hwi] at hw; cases hw
        | some z =>
          rw [hwi] at hw
          simp only [Option.map_some, Option.some.injEq] at hw
          exact ⟨hlen, hnn, hband, hin, z, rfl, by omega⟩

/-- … and inside the band (with a draw in `[0, 1)`) it does answer: the checks reject nothing else. -/
theorem C19_choiceNp_total (n den : Nat) (ws : List Int) (u : Unif) (hn : 0 < n) (hlen : ws.length = n)
    (hnn : ∀ w ∈ ws, 0 ≤ w) (hband : (ws.sum - den).natAbs * npTolDen ≤ den) (hpos : 0 < (ws.map Int.toNat).sum)
    (hu : u.num < u.den) : ∃ i, choiceNp n den ws u = .chose i := by
  unfold choiceNp
  rw [if_neg (by intro h; rcases h with h | h <;> omega)]
  rw [if_neg (by
    intro h
    obtain ⟨w, hw, hl⟩ := List.any_eq_true.1 h
    have := hnn w hw
    simp at hl; omega)]
  rw [if_neg (by simp only [npSumOk, Bool.not_eq_true, decide_eq_false_iff_not, Decidable.not_not]; exact hband)]
  obtain ⟨i, hi, _⟩ := C19_choice_is_least_cdf_index n (ws.map Int.toNat) u (by simp [hlen]) hpos hu
  exact ⟨i, hi⟩

/-- The band, concretely (`den = 2³⁰`): sums `1 ± 2⁻²⁶` are accepted, `1 ± 2⁻²⁵` raise — and the settings validator
(`< 10⁻⁶`) accepts all four, so such an agent is built and then raises in `get_action`. -/
example : npSumOk (2 ^ 30) [2 ^ 29, 2 ^ 29 + 16] = true ∧ npSumOk (2 ^ 30) [2 ^ 29, 2 ^ 29 - 16] = true ∧
    npSumOk (2 ^ 30) [2 ^ 29, 2 ^ 29 + 32] = false ∧ npSumOk (2 ^ 30) [2 ^ 29, 2 ^ 29 - 32] = false ∧
    validatorSumOk (2 ^ 30) [2 ^ 29, 2 ^ 29 + 32] = true ∧ validatorSumOk (2 ^ 30) [2 ^ 29, 2 ^ 29 + 2048] = false := by decide +kernel

/-- `u < c / total` (the comparison `scan` makes), as a "less than" whose left argument is a dummy -/
def exactLt (u : Unif) (total : Nat) : Nat → Nat → Bool := fun _ c => decide (u.num * total < u.den * c)

theorem cumsumFrom_nat_get : ∀ (ws : List Nat) (acc j : Nat), j < ws.length →
    (cumsumFrom (· + ·) acc ws)[j]? = some (acc + (ws.take (j + 1)).sum) := by
  intro ws
  induction ws with
  | nil => intro acc j h; simp at h
  | cons w r ih =>
    intro acc j h
    cases j with
    | zero => simp [cumsumFrom]
    | succ j =>
      simp only [cumsumFrom, List.getElem?_cons_succ, List.take_succ_cons, List.sum_cons]
      rw [ih (acc + w) j (by simpa using h)]
      simp [Nat.add_assoc]

theorem take_sum_mono : ∀ (ws : List Nat) (i j : Nat), i ≤ j → (ws.take i).sum ≤ (ws.take j).sum := by
  intro ws
  induction ws with
  | nil => intro i j _; simp
  | cons w r ih =>
    intro i j h
    cases i with
    | zero => simp
    | succ i =>
      cases j with
      | zero => omega
      | succ j =>
        simp only [List.take_succ_cons, List.sum_cons]
        have := ih i j (by omega)
        omega

/-- **The cdf of non-negative probabilities is sorted** (model's number type: naturals over a common denominator). -/
theorem C19_cumsum_sorted (ws : List Nat) (acc : Nat) :
    SortedBy (fun a b => decide (a < b)) (cumsumFrom (· + ·) acc ws) := by
  intro i j a b hij ha hb
  obtain ⟨hj, _⟩ := List.getElem?_eq_some_iff.1 hb
  rw [cumsumFrom_length] at hj
  rw [cumsumFrom_nat_get ws acc i (by omega)] at ha
  rw [cumsumFrom_nat_get ws acc j hj] at hb
  cases ha; cases hb
  have := take_sum_mono ws (i + 1) (j + 1) (by omega)
  simp only [decide_eq_false_iff_not]
  omega

theorem scan_none (u : Unif) (total : Nat) : ∀ (ws : List Nat) (acc base : Nat), scan u total acc base ws = none →
    ∀ j, j < ws.length → ¬ u.num * total < u.den * (acc + (ws.take (j + 1)).sum) := by
  intro ws
  induction ws with
  | nil => intro acc base _ j h; simp at h
  | cons w r ih =>
    intro acc base h j hj
    unfold scan at h
    split at h
    · cases h
    · rename_i hn
      cases j with
      | zero => simpa using hn
      | succ j =>
        have := ih (acc + w) (base + 1) h j (by simpa using hj)
        rw [List.take_succ_cons, List.sum_cons]
        simpa [Nat.add_assoc] using this

/-- **numpy's binary search and the model's linear scan return the same index** on the exact cdf: the right-sided
binary search over the running sums, with the comparison `u < c / total`, equals `scan` (and the length when `scan`
finds nothing). -/
theorem C19_scan_eq_searchsorted (u : Unif) (total : Nat) (ws : List Nat) :
    searchsortedRight (exactLt u total) (cumsumFrom (· + ·) 0 ws) 0 = (scan u total 0 0 ws).getD ws.length := by
  have hlen := cumsumFrom_length (· + ·) ws 0
  -- "u < c / total" is monotone along the running sums, because they are sorted
  obtain ⟨hr, hbelow, habove⟩ := searchsortedRight_spec_mono (exactLt u total) (cumsumFrom (· + ·) 0 ws) 0
    (fun i j a b hij ha hb hp => by
      have hs := C19_cumsum_sorted ws 0 i j a b hij ha hb
      simp only [decide_eq_false_iff_not] at hs
      simp only [exactLt, decide_eq_true_eq] at hp ⊢
      have : u.den * a ≤ u.den * b := Nat.mul_le_mul_left _ (by omega)
      omega)
  rw [hlen] at hr
  generalize searchsortedRight (exactLt u total) (cumsumFrom (· + ·) 0 ws) 0 = r at hr hbelow habove
  cases hsc : scan u total 0 0 ws with
  | none =>
    rcases Nat.lt_or_ge r ws.length with hlt | hge
    · have := habove r _ (Nat.le_refl r) (cumsumFrom_nat_get ws 0 r hlt)
      simp only [exactLt, decide_eq_true_eq] at this
      exact absurd this (scan_none u total ws 0 0 hsc r hlt)
    · exact Nat.le_antisymm hr hge
  | some i =>
    obtain ⟨_, hil, hpi, hmin⟩ := scan_spec u total ws 0 0 i hsc
    simp only [Nat.sub_zero] at hil hpi hmin
    rcases Nat.lt_trichotomy r i with h | h | h
    · have := habove r _ (Nat.le_refl r) (cumsumFrom_nat_get ws 0 r (by omega))
      simp only [exactLt, decide_eq_true_eq] at this
      exact absurd this (hmin r h)
    · exact h
    · have := hbelow i _ h (cumsumFrom_nat_get ws 0 i hil)
      simp only [exactLt, decide_eq_false_iff_not] at this
      exact absurd hpi this

/-- … hence `choice` (what the model of `Generator.choice` answers) IS the right-sided binary search on the cdf. -/
theorem C19_choice_eq_searchsorted (n : Nat) (ws : List Nat) (u : Unif) (hlen : ws.length = n) (hsum : 0 < ws.sum) :
    choice n ws u =
      (if searchsortedRight (exactLt u ws.sum) (cumsumFrom (· + ·) 0 ws) 0 < n
       then .chose (searchsortedRight (exactLt u ws.sum) (cumsumFrom (· + ·) 0 ws) 0) else .raised) := by
  rw [C19_scan_eq_searchsorted]
  unfold choice
  rw [if_neg (by intro h; rcases h with h | h <;> omega)]
  cases hsc : scan u ws.sum 0 0 ws with
  | none => simp [hlen]
  | some i =>
    have := (scan_spec u ws.sum ws 0 0 i hsc).2.1
    simp only [Option.getD_some]
    rw [if_pos (by omega)]

end Primaite.Agents
