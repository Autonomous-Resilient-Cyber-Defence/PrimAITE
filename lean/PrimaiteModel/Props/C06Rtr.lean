/-
C06: what a router / firewall running `rtrStd` (Model/FilterFwd.lean) can put on a wire — generic over the frame
class `Cl`.  A router or firewall turns class frames into class frames provided the class is closed under (a) ARP requests
for the handled frame's source or a configured next hop, (b) replies to the handled frame's source with the device's own
address, (c) the ARP service's reply, and — only for frames that passed the rule lists (or are exempt from them) and are
neither broadcasts nor for the device itself — (d) forwarded copies and ARP requests for the destination.  Nothing is assumed
about WHERE the device sends (ARP cache, route table: opaque).  `C06_rtr_safe`, `C06_fw_safe`.
`C06_terminal_confined_unless_authorised`: with its Terminal (`rtrWithTerminal`) the device handles every frame that is not
`authorised` exactly as `rtrStd` does; `C06_gen_rtr_model` ties the shapes `rtrStd` and `TerminalGate` follow to the source.
-/
import PrimaiteModel.Model.FilterFwd
import PrimaiteModel.Props.C06Class
import PrimaiteModel.Gen.FilterSoft
namespace Primaite.Filter
open Primaite Primaite.Acl Primaite.Cut

variable {W : Type}

section rtr
variable {N : Type} [DecidableEq N]
variable (sys : Sys N Nat Frame (Node W)) (side : N → Bool) (Cl : N → Nat → Frame → Prop) (I : N → Node W → Prop) (n : N)
variable (ifs : List Iface) (hops : List Ip)

/-- closure of the class under what the device's software emits whatever frame of the class it handles -/
structure RtrClosed : Prop where
  inside : ∀ q m r, sys.wire n q = some (m, r) → side m = true
  req : ∀ p (f : Frame) q o t m r, SideFacing sys side n p → Cl n p f → ifs[q]? = some o → sys.wire n q = some (m, r) →
    (t = f.pkt.srcIp ∨ hops.contains t = true) → Cl m r (arpRequestFrame o t)
  reply : ∀ p (f g : Frame) q (o : Iface) m r, SideFacing sys side n p → Cl n p f → ifs[q]? = some o → sys.wire n q = some (m, r) → g.arp = false →
    Cl m r { g with srcMac := o.mac, pkt := { g.pkt with srcIp := o.ip, dstIp := f.pkt.srcIp } }
  arpReply : ∀ p (f : Frame) x q o i m r, SideFacing sys side n p → Cl n p f → subjectToAcl f = some false → f.arpReq = true →
    ifs[q]? = some o → sys.wire n q = some (m, r) → Cl m r (arpReplyFrame o i { f with ttl := x })

/-- closure under forwarding frame `f`: copies of `f` and ARP requests for its destination, on any interface -/
def FwdOK (f : Frame) : Prop :=
  ∀ q o m r, ifs[q]? = some o → sys.wire n q = some (m, r) →
    (∀ x dm, Cl m r { f with ttl := x, srcMac := o.mac, dstMac := dm }) ∧ Cl m r (arpRequestFrame o f.pkt.dstIp)

variable (hn : side n = true) (hsw : ∀ s x, I n s → I n { s with sw := x }) (hifs : ∀ s, I n s → s.ifaces = ifs)
  (hc : RtrClosed sys side Cl n ifs hops)

omit [DecidableEq N] in
/-- **Software confined to the software state, behind a session manager that rewrites every frame by `st`**: safe as soon as
every rewritten frame that can leave on an existing interface is admissible at the far end of its wire. -/
theorem safe_lift_stamp (K : N → Nat → Frame → Prop) (st : Node W → Nat → Frame → Frame)
    (hsw : ∀ s x, I n s → I n { s with sw := x })
    (hout : ∀ s i q g m r, I n s → s.ifaces[q]? = some i → sys.wire n q = some (m, r) → side m = true ∧ K m r (st s q g)) :
    ∀ (a : SwScript W) (s : Node W), I n s →
      SafeAct sys side K I n (guardSends portEnabled (stampSends st (liftSw s a))) := by
  intro a
  induction a with
  | done w => intro s hs; exact SafeAct.done (hsw s w hs)
  | send w q g k ih =>
    intro s hs
    have hs1 := hsw s w hs
    simp only [liftSw, stampSends, guardSends]
    split
    · rename_i hen
      obtain ⟨i, hi, _⟩ := portEnabled_some hen
      exact SafeAct.send hs1 (fun m r hw => hout _ i q g m r hs1 hi hw) (fun s' hs' => ih s'.sw s' hs')
    · exact ih w _ hs1

omit [DecidableEq N] in
include hn hsw hifs hc in
theorem rtr_own_safe (p : Nat) (f : Frame) (y : Nat) (hsf : SideFacing sys side n p) (hcl : Cl n p f) :
    ∀ (a : SwScript W) (s : Node W), I n s →
      SafeAct sys side (FromSideC sys side Cl) I n
        (guardSends portEnabled (stampSends (replyStamp hops { f with ttl := y }) (liftSw s a))) := by
  refine safe_lift_stamp sys side I n _ _ hsw (fun s i q g m r hs hi hw => ⟨hc.inside q m r hw, ⟨n, q, hn, hw⟩, ?_⟩)
  have hi' : ifs[q]? = some i := by rw [← hifs s hs]; exact hi
  simp only [replyStamp, hi]
  split
  · refine hc.req p f q i _ m r hsf hcl hi' hw ?_
    simp only [resolveTgt]
    split
    · rename_i hh; exact Or.inr hh
    · exact Or.inl rfl
  · rename_i hg
    exact hc.reply p f g q i m r hsf hcl hi' hw (by simpa using hg)

omit [DecidableEq N] in
include hn hsw hifs hc in
theorem rtr_fwd_safe (p : Nat) (f : Frame) (y : Nat) (hsf : SideFacing sys side n p) (hcl : Cl n p f)
    (hF : FwdOK sys Cl n ifs f) :
    ∀ (a : SwScript W) (s : Node W), I n s →
      SafeAct sys side (FromSideC sys side Cl) I n
        (guardSends portEnabled (stampSends (fwdStamp hops { f with ttl := y }) (liftSw s a))) := by
  refine safe_lift_stamp sys side I n _ _ hsw (fun s i q g m r hs hi hw => ⟨hc.inside q m r hw, ⟨n, q, hn, hw⟩, ?_⟩)
  have hi' : ifs[q]? = some i := by rw [← hifs s hs]; exact hi
  simp only [fwdStamp, hi]
  split
  · simp only [resolveTgt]
    split
    · rename_i hh; exact hc.req p f q i _ m r hsf hcl hi' hw (Or.inr hh)
    · exact (hF q i m r hi' hw).2
  · exact (hF q i m r hi' hw).1 _ _

include hn hsw hifs hc in
theorem rtr_lookup_safe (p : Nat) (f : Frame) (hsf : SideFacing sys side n p) (hcl : Cl n p f) :
    ∀ (a : SwScript W) (s : Node W), I n s →
      SafeAct sys side (FromSideC sys side Cl) I n (guardSends portEnabled (lookupSends hops (liftSw s a))) := by
  intro a
  induction a with
  | done w => intro s hs; exact SafeAct.done (hsw s w hs)
  | send w q g k ih =>
    intro s hs
    have hs1 := hsw s w hs
    simp only [liftSw, lookupSends]
    cases hi : ({ s with sw := w } : Node W).ifaces[q]? with
    | none => exact ih w _ hs1
    | some i =>
      simp only
      split
      · rename_i hh
        refine safe_guard_bind sys side _ _ n portEnabled (.send _ q _ fun s' => .done s') _ ?_ (fun s' hs' => ih s'.sw s' hs')
        refine safe_guard_send _ _ _ _ n portEnabled _ q _ hs1 (fun _ m r hw => ?_)
        exact ⟨hc.inside q m r hw, ⟨n, q, hn, hw⟩, hc.req p f q i _ m r hsf hcl (by rw [← hifs _ hs1]; exact hi) hw (Or.inr hh)⟩
      · exact ih w _ hs1

include hn hsw hifs hc in
theorem rtr_arp_safe (x : RouterArp W) (p : Nat) (f : Frame) (y : Nat) (hsf : SideFacing sys side n p) (hcl : Cl n p f)
    (hsub : subjectToAcl f = some false) (s : Node W) (hs : I n s) :
    SafeAct sys side (FromSideC sys side Cl) I n (guardSends portEnabled (arpSession x s p { f with ttl := y })) := by
  rcases arpSession_cases x s p { f with ttl := y } with h | ⟨i, q, o, hq, _, _, _, ho, h⟩ <;> rw [h]
  · exact SafeAct.done (hsw _ _ hs)
  · exact safe_guard_send _ _ _ _ n portEnabled _ q _ (hsw _ _ hs) (fun _ m r hw =>
      ⟨hc.inside q m r hw, ⟨n, q, hn, hw⟩, hc.arpReply p f y q o i m r hsf hcl hsub hq (by rw [← hifs s hs]; exact ho) hw⟩)

/-- `ip_is_router_interface` over a fixed interface list -/
def ownIpL (ifs : List Iface) (ip : Ip) : Bool := ifs.any (fun j => j.ip == ip)

include hn hsw hifs hc in
theorem rtr_session_safe (x : RtrOpaque W) (p : Nat) (f : Frame) (y : Nat) (hsf : SideFacing sys side n p) (hcl : Cl n p f)
    (s1 : Node W) (hs1 : I n s1) :
    SafeAct sys side (FromSideC sys side Cl) I n (guardSends portEnabled ((rtrStd hops x).session s1 p { f with ttl := y })) := by
  simp only [rtrStd]
  split
  · rename_i hex
    have hsub : subjectToAcl f = some false := by
      have : subjectToAcl { f with ttl := y } = some false := by simpa [isArpExempt] using hex
      rwa [subjectToAcl_ttl] at this
    exact rtr_arp_safe sys side Cl I n ifs hops hn hsw hifs hc x.arp p f y hsf hcl hsub _ hs1
  · exact rtr_own_safe sys side Cl I n ifs hops hn hsw hifs hc p f y hsf hcl _ _ hs1

omit [DecidableEq N] in
include hn hsw hifs hc in
theorem rtr_process_safe (x : RtrOpaque W) (p : Nat) (f : Frame) (y : Nat) (hsf : SideFacing sys side n p) (hcl : Cl n p f)
    (hF : f.dstMac ≠ bcastMac → ownIpL ifs f.pkt.dstIp = false → FwdOK sys Cl n ifs f) (s1 : Node W) (hs1 : I n s1) :
    SafeAct sys side (FromSideC sys side Cl) I n (guardSends portEnabled ((rtrStd hops x).process s1 p { f with ttl := y })) := by
  have hif1 : s1.ifaces = ifs := hifs _ hs1
  simp only [rtrStd]
  split
  · simp only [guardSends]; exact SafeAct.done hs1
  · rename_i hb
    split
    · simp only [guardSends]; exact SafeAct.done hs1
    · rename_i hown
      have hb' : f.dstMac ≠ bcastMac := by
        intro h; apply hb; simp [h]
      have hown' : ownIpL ifs f.pkt.dstIp = false := by
        cases ho : ownIpL ifs f.pkt.dstIp
        · rfl
        · exfalso; apply hown
          simp only [isOwnIp, hif1]; exact ho
      exact rtr_fwd_safe sys side Cl I n ifs hops hn hsw hifs hc p f y hsf hcl (hF hb' hown') _ _ hs1

include hn hsw hifs hc in
theorem rtr_permitted_safe (x : RtrOpaque W) (p : Nat) (f : Frame) (y : Nat) (hsf : SideFacing sys side n p) (hcl : Cl n p f)
    (hF : f.dstMac ≠ bcastMac → ownIpL ifs f.pkt.dstIp = false → FwdOK sys Cl n ifs f) (s : Node W) (hs : I n s) :
    SafeAct sys side (FromSideC sys side Cl) I n (guardSends portEnabled (permitted (rtrStd hops x) s p { f with ttl := y })) := by
  exact permitted_closed (SafeG sys side _ _ portEnabled n) _ hsw _ s p _ hs
    (rtr_session_safe sys side Cl I n ifs hops hn hsw hifs hc x p f y hsf hcl)
    (rtr_process_safe sys side Cl I n ifs hops hn hsw hifs hc x p f y hsf hcl hF)

/-- **A router running `rtrStd` turns class frames into class frames.**  `G` = what the invariant says about its rule list
(nothing for a plain forwarder; "denies class `Cp`" for a guard), stable under hit counters.  Forwarding closure is asked
only for frames that were addressed to the arrival interface's MAC, are not for the router itself, and are exempt from the
list or PERMITTED by a list satisfying `G`. -/
theorem C06_rtr_safe (G : Acl → Prop) (hG : ∀ a q, G a → G (isPermitted a q).2.2)
    (hI : ∀ s, I n s ↔ (s.kind = .router ∧ s.ifaces = ifs ∧ G (s.acls .router)))
    (hn : side n = true) (hc : RtrClosed sys side Cl n ifs hops)
    (hF : ∀ p i f, SideFacing sys side n p → Cl n p f → ifs[p]? = some i → f.dstMac = i.mac → f.dstMac ≠ bcastMac →
      ownIpL ifs f.pkt.dstIp = false →
      (subjectToAcl f = some false ∨ ∃ a, G a ∧ (isPermitted a f.pkt).1 = true) → FwdOK sys Cl n ifs f)
    (x : RtrOpaque W) (s : Node W) (p : Nat) (f : Frame) (hs : I n s) (hsf : SideFacing sys side n p) (hcl : Cl n p f) :
    SafeAct sys side (FromSideC sys side Cl) I n (nodeRx (rtrStd hops x) s p f) := by
  have hsw : ∀ s x, I n s → I n ({ s with sw := x } : Node W) := fun s x h => (hI _).mpr ((hI s).mp h)
  have hifs : ∀ s, I n s → s.ifaces = ifs := fun s h => ((hI s).mp h).2.1
  obtain ⟨hk, hif, hg⟩ := (hI s).mp hs
  refine nodeRx_closed _ (rtrStd hops x) s p f (SafeAct.done hs) (fun i hi hrx => ?_)
  have hmac : f.dstMac = i.mac ∨ f.dstMac = bcastMac := by rw [hk] at hrx; exact ifaceRx_router_mac _ _ _ _ hrx
  have hbump : I n (s.setAcl .router (isPermitted (s.acls .router) f.pkt).2.2) :=
    (hI _).mpr ⟨hk, hif, setAcl_bump_keeps G hG s _ _ _ hg⟩
  have hfwd : (subjectToAcl f = some false ∨ ∃ a, G a ∧ (isPermitted a f.pkt).1 = true) →
      f.dstMac ≠ bcastMac → ownIpL ifs f.pkt.dstIp = false → FwdOK sys Cl n ifs f :=
    fun hv hb hown => hF p i f hsf hcl (by rw [← hif]; exact hi) (hmac.resolve_right hb) hb hown hv
  exact routerLayer_closed (SafeG sys side _ _ portEnabled n) _ (fun _ => SafeAct.done) _ s p _ hk hs
    (fun hsub => rtr_permitted_safe sys side Cl I n ifs hops hn hsw hifs hc x p f _ hsf hcl (hfwd (Or.inl hsub)) s hs)
    (fun _ _ => hbump)
    (fun _ hv => rtr_permitted_safe sys side Cl I n ifs hops hn hsw hifs hc x p f _ hsf hcl (hfwd (Or.inr ⟨_, hg, hv⟩)) _ hbump)

omit [DecidableEq N] in
theorem inDmzNet_eq (s2 : Node W) (ifs : List Iface) (f : Frame) (y : Nat) (h : s2.ifaces = ifs) :
    inDmzNet s2 ({ f with ttl := y } : Frame) = inDmzL ifs f.pkt.dstIp := by
  unfold inDmzNet inDmzL; rw [h]; rfl

/-- the second entry point the code can select for frame `f` arriving at first entry point `e` -/
def SelOK (ifs : List Iface) (e : FwEntry) (f : Frame) (e2 : FwEntry) : Prop :=
  match e with
  | .extIn => e2 = selE ifs .extIn f.pkt.dstIp
  | .intOut => e2 = selE ifs .intOut f.pkt.dstIp
  | .dmzOut => e2 = .extOut ∨ e2 = .intIn
  | _ => False

/-- frame `f` passed both lists of a firewall whose lists satisfy `G` -/
def FwPassed (G : (AclId → Acl) → Prop) (ifs : List Iface) (e : FwEntry) (f : Frame) : Prop :=
  ∃ a1 a2 e2, G a1 ∧ (isPermitted (a1 (entryAcl e)) f.pkt).1 = true ∧ G a2 ∧ (isPermitted (a2 (entryAcl e2)) f.pkt).1 = true ∧
    SelOK ifs e f e2

theorem secondEntry_sel (soft : Soft W) (ifs : List Iface) (e : FwEntry) (s3 : Node W) (f : Frame) (y : Nat) (e2 : FwEntry)
    (hif : s3.ifaces = ifs) (h : secondEntry soft e s3 { f with ttl := y } = some e2) : SelOK ifs e f e2 := by
  have hmem := secondEntry_mem soft e s3 _ e2 h
  cases e <;> simp only [secondEntry, Option.some.injEq] at h
  · subst h; simp [SelOK, selE, inDmzNet_eq s3 ifs f y hif]
  · cases h
  · cases h
  · subst h; simp [SelOK, selE, inDmzNet_eq s3 ifs f y hif]
  · cases h
  · simpa [SelOK, nextEntries] using hmem

/-- **A firewall running `rtrStd` turns class frames into class frames**: both verdicts, the session manager between them,
the DMZ look-ups (ARP requests for next hops, BEFORE the second verdict — F-C06-dmz-lookup is inside the model), and
`process_frame` after a double PERMIT. -/
theorem C06_fw_safe (G : (AclId → Acl) → Prop)
    (hG : ∀ (acls : AclId → Acl) a q, G acls → G (fun b => if b = a then (isPermitted (acls a) q).2.2 else acls b))
    (hI : ∀ s, I n s ↔ (s.kind = .firewall ∧ s.ifaces = ifs ∧ G s.acls))
    (hn : side n = true) (hc : RtrClosed sys side Cl n ifs hops)
    (hF : ∀ p i f e, SideFacing sys side n p → Cl n p f → ifs[p]? = some i → portEntry p = some e → f.dstMac = i.mac →
      f.dstMac ≠ bcastMac → ownIpL ifs f.pkt.dstIp = false → FwPassed G ifs e f → FwdOK sys Cl n ifs f)
    (x : RtrOpaque W) (s : Node W) (p : Nat) (f : Frame) (hs : I n s) (hsf : SideFacing sys side n p) (hcl : Cl n p f) :
    SafeAct sys side (FromSideC sys side Cl) I n (nodeRx (rtrStd hops x) s p f) := by
  have hsw : ∀ s x, I n s → I n ({ s with sw := x } : Node W) := fun s x h => (hI _).mpr ((hI s).mp h)
  have hifs : ∀ s, I n s → s.ifaces = ifs := fun s h => ((hI s).mp h).2.1
  have hbump : ∀ (s' : Node W) (a : AclId) q, I n s' → I n (s'.setAcl a (isPermitted (s'.acls a) q).2.2) := by
    intro s' a q h'
    obtain ⟨h1, h2, h3⟩ := (hI s').mp h'
    exact (hI _).mpr ⟨h1, h2, hG s'.acls a q h3⟩
  obtain ⟨hk, hif, hg⟩ := (hI s).mp hs
  refine nodeRx_closed _ (rtrStd hops x) s p f (SafeAct.done hs) (fun i hi hrx => ?_)
  have hmac : f.dstMac = i.mac ∨ f.dstMac = bcastMac := by rw [hk] at hrx; exact ifaceRx_router_mac s.ifaces i f _ hrx
  refine fwLayer_closed (SafeG sys side _ _ portEnabled n) _ (fun _ => SafeAct.done) hsw
    (safe_guard_bind sys side _ _ n portEnabled) _ s p _ hk hs (fun _ _ => hbump s _ _ hs) ?_
  intro e hpe hp1
  refine ⟨rtr_session_safe sys side Cl I n ifs hops hn hsw hifs hc x p f _ hsf hcl,
    fun _ s2 h2 => rtr_lookup_safe sys side Cl I n ifs hops hn hsw hifs hc p f hsf hcl _ s2 h2, fun s3 e2 h3 hsec => ?_⟩
  -- the second verdict; `process_frame` only after a double PERMIT under `G`
  refine fwFinal_closed (SafeG sys side _ _ portEnabled n) _ (fun _ => SafeAct.done) _ e2 s3 p _ (hbump s3 _ _ h3) (fun hp2 => ?_)
  refine rtr_process_safe sys side Cl I n ifs hops hn hsw hifs hc x p f _ hsf hcl (fun hb hown => ?_) _ (hbump s3 _ _ h3)
  exact hF p i f e hsf hcl (by rw [← hif]; exact hi) hpe (hmac.resolve_right hb) hb hown
    ⟨s.acls, s3.acls, e2, hg, hp1, ((hI s3).mp h3).2.2, hp2, secondEntry_sel _ ifs e s3 f _ e2 (hifs s3 h3) hsec⟩

end rtr

section terminal

/-- for a frame that does not carry the id of a live remote session of the device, the Terminal is one more own service
that answers to the source -/
theorem rtrWithTerminal_session_eq (hops : List Ip) (x : RtrOpaque W) (t : TerminalGate W) (termPort : Nat) (s : Node W) (p : Nat)
    (f : Frame) (h : t.authorised s f = false) :
    (rtrWithTerminal hops x t termPort).session s p f = (rtrStd hops (withRefuse x t termPort)).session s p f := by
  simp only [rtrWithTerminal, rtrStd, withRefuse]
  cases hex : isArpExempt f
  · cases isTermPort termPort f
    · simp
    · simp [h]
  · simp

/-- **A router or firewall with a Terminal behaves, for every frame that carries no live session id of it, exactly like the
same device without one** — so `C06_rtr_safe`, `C06_fw_safe`, `C06_certifiedN_unchanged` and `C06_certifiedB_unchanged` hold for
blocking elements WITH their shipped Terminal unless a frame on the attacker side is `authorised`: by C16
(`C16_command_runs_only_live`, `C16_remote_command_outcomes`) a terminal executes a command only when the command carries the id
of a live remote session, and such a session is created only by a login with the current password of an enabled account of
that node — i.e. unless A holds valid credentials of an account on the blocking element. -/
theorem C06_terminal_confined_unless_authorised (hops : List Ip) (x : RtrOpaque W) (t : TerminalGate W) (termPort : Nat)
    (s : Node W) (p : Nat) (f : Frame) (hk : s.kind = .router ∨ s.kind = .firewall)
    (h : ∀ s' y, t.authorised s' ({ f with ttl := y } : Frame) = false) :
    nodeRx (rtrWithTerminal hops x t termPort) s p f = nodeRx (rtrStd hops (withRefuse x t termPort)) s p f := by
  have hs : ∀ s' y, (rtrWithTerminal hops x t termPort).session s' p { f with ttl := y } =
      (rtrStd hops (withRefuse x t termPort)).session s' p { f with ttl := y } :=
    fun s' y => rtrWithTerminal_session_eq hops x t termPort s' p _ (h s' y)
  unfold nodeRx
  split
  · rfl
  · split
    · rename_i f' hg
      obtain ⟨hf', _⟩ := ifaceRx_up _ _ _ _ _ hg
      congr 1
      rw [hf']
      rcases hk with hk | hk
      · simp only [nodeLayer_router _ hk, routerRxWith, permitted]
        simp only [hs]
        rfl
      · simp only [nodeLayer_firewall _ hk, fwRx, fwFirst]
        simp only [hs]
        rfl
    · rfl

/-- the source shapes `rtrStd` and `TerminalGate` follow -/
theorem C06_gen_rtr_model :
    Gen.FilterSoft.routerArpTargets = routerArpTargets ∧ Gen.FilterSoft.routerIcmpReplyDst = routerIcmpReplyDst ∧
    Gen.FilterSoft.terminalExecGuards = terminalExecGuards ∧ Gen.FilterSoft.forwardWrites = forwardWrites :=
  ⟨rfl, rfl, rfl, rfl⟩

end terminal

end Primaite.Filter
