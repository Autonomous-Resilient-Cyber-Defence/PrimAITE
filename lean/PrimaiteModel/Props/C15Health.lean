/-
Property C15: structural consistency does not depend on health.

The item methods of `File` and `Folder` that look at `health_status` are translated statement by statement from the source onto
records that carry the structure AND the health (`FileRec`, `FolderRec`; Gen/FileSystemMethods.lean).  For EVERY health value,
visible status and access count: the structural component and the answer of each translated method are what the structural
model (`File.verb`, `File.delete`, `Folder.restore`, …) says, the access count moves as the ledger rule `touch` says, and the
health moves as stated here.  A change that lets the `deleted` flag depend on health (seeded C15-d: `File.restore` testing CORRUPT
first and `deleted` only as its `elif`) makes `C15_gen_file_methods` false — with a counter-model, not a text diff — while a
refactor that keeps the function keeps the obligation.
-/
import PrimaiteModel.Model.FileSystemHealth
import PrimaiteModel.Lemmas.FileSystemChange
import PrimaiteModel.Gen.FileSystemMethods
import PrimaiteModel.Gen.FileSystem
namespace Primaite.FileSystem
open Gen.FileSystemMethods

/-- The file methods, as translated from file.py, ARE the structural model — for every health value, visible status and access
count: same file afterwards, same answer; `num_access` moves exactly as the ledger's `touch` / `verbTouch` say. -/
theorem C15_gen_file_methods (r : FileRec) :
    r.f.verb .restore = some ((fileRestore r).1.f, (fileRestore r).2) ∧
    r.f.verb .scan = some ((fileScan r).1.f, (fileScan r).2) ∧
    r.f.verb .repair = some ((fileRepair r).1.f, (fileRepair r).2) ∧
    r.f.verb .corrupt = some ((fileCorrupt r).1.f, (fileCorrupt r).2) ∧
    r.f.verb .checkhash = some ((fileCheckHash r).1.f, (fileCheckHash r).2) ∧
    ((fileDelete r).1.f = r.f.delete ∧ (fileDelete r).2 = !r.f.deleted) ∧
    (fileRestore r).1.acc = r.acc + (verbTouch r.f .restore).length ∧ (fileScan r).1.acc = r.acc + (verbTouch r.f .scan).length ∧
    (fileRepair r).1.acc = r.acc + (verbTouch r.f .repair).length ∧ (fileCorrupt r).1.acc = r.acc + (verbTouch r.f .corrupt).length ∧
    (fileCheckHash r).1.acc = r.acc + (verbTouch r.f .checkhash).length ∧ (fileDelete r).1.acc = r.acc + (touch r.f).length := by
  obtain ⟨⟨i, n, d⟩, h, v, a⟩ := r
  -- the flag and the two health tests the source makes, decided each way
  cases d <;> cases hc : (h == Health.corrupt) <;> cases hg : (h == Health.good) <;>
    simp [File.verb, File.restore, File.delete, fileRestore, fileScan, fileRepair, fileCorrupt, fileCheckHash, fileDelete,
      verbTouch, touch, hc, hg]

/-- What the file methods do to health (for the record; health is C14's subject): only a live file's health moves —
`restore` and `repair` heal CORRUPT, `corrupt` turns GOOD into CORRUPT, `scan` copies health to the visible status; a deleted
file's health is never touched, `restore` of a deleted file only clears the flag. -/
theorem C15_file_methods_health (r : FileRec) :
    (fileRestore r).1.health = (if !r.f.deleted && r.health == .corrupt then .good else r.health) ∧
    (fileRepair r).1.health = (if !r.f.deleted && r.health == .corrupt then .good else r.health) ∧
    (fileCorrupt r).1.health = (if !r.f.deleted && r.health == .good then .corrupt else r.health) ∧
    (fileScan r).1.health = r.health ∧ (fileDelete r).1.health = r.health ∧
    (fileScan r).1.visible = (if r.f.deleted then r.visible else r.health) := by
  obtain ⟨⟨i, n, d⟩, h, v, a⟩ := r
  cases d <;> cases hc : (h == Health.corrupt) <;> cases hg : (h == Health.good) <;>
    simp [fileRestore, fileScan, fileRepair, fileCorrupt, fileDelete, hc, hg]

/-- **Structure and answers of the file methods are independent of health**: two `File` objects with the same structural
part (uuid, name, `deleted`) — whatever their health, visible status and access count — end with the same structural part and
answer the same. -/
theorem C15_file_methods_ignore_health (r : FileRec) (h v : Health) (a : Nat) :
    let r' : FileRec := { r with health := h, visible := v, acc := a }
    ((fileRestore r').1.f, (fileRestore r').2) = ((fileRestore r).1.f, (fileRestore r).2) ∧
    ((fileScan r').1.f, (fileScan r').2) = ((fileScan r).1.f, (fileScan r).2) ∧
    ((fileRepair r').1.f, (fileRepair r').2) = ((fileRepair r).1.f, (fileRepair r).2) ∧
    ((fileCorrupt r').1.f, (fileCorrupt r').2) = ((fileCorrupt r).1.f, (fileCorrupt r).2) ∧
    ((fileDelete r').1.f, (fileDelete r').2) = ((fileDelete r).1.f, (fileDelete r).2) := by
  intro r'
  have e := C15_gen_file_methods r
  have e' := C15_gen_file_methods r'
  have hf : r'.f = r.f := rfl
  rw [hf] at e'
  -- both sides are what `File.verb` / `File.delete` say of the one structural part
  exact ⟨Option.some.inj (e'.1.symm.trans e.1), Option.some.inj (e'.2.1.symm.trans e.2.1),
    Option.some.inj (e'.2.2.1.symm.trans e.2.2.1), Option.some.inj (e'.2.2.2.1.symm.trans e.2.2.2.1),
    Prod.ext (e'.2.2.2.2.2.1.1.trans e.2.2.2.2.2.1.1.symm) (e'.2.2.2.2.2.1.2.trans e.2.2.2.2.2.1.2.symm)⟩

/-- **`restore()` clears the flag of a deleted file whatever its health** (so `Folder.restore_file`, which moves the file to the
live set without looking at the answer, never produces a live file that is flagged deleted), and `delete()` sets it. -/
theorem C15_restore_clears_flag_for_every_health (r : FileRec) :
    (fileRestore r).1.f.deleted = false ∧ (fileDelete r).1.f.deleted = true ∧
    (fileRestore r).1.f.id = r.f.id ∧ (fileRestore r).1.f.name = r.f.name := by
  have e := C15_gen_file_methods r
  have h1 : (fileRestore r).1.f = r.f.restore := by
    have := e.1; simp only [File.verb, Option.some.injEq, Prod.mk.injEq] at this; exact this.1.symm
  rw [h1, e.2.2.2.2.2.1.1]
  exact ⟨rfl, rfl, rfl, rfl⟩

/-- Why the order of the two tests in `File.restore` matters (seeded change C15-d in miniature): with the CORRUPT test first and
the `deleted` test as its `elif`, a file that is corrupt AND deleted keeps its flag — and the folder moves it to the live set
regardless, which breaks `FolderInv` (`liveFlag`). -/
def fileRestoreHealthFirst (r : FileRec) : FileRec × Bool :=
  if r.health == .corrupt then ({ r with health := .good, acc := r.acc + 1 }, true)
  else if r.f.deleted then ({ r with f := { r.f with deleted := false } }, true)
  else ({ r with acc := r.acc + 1 }, true)

theorem C15_health_first_restore_counterexample :
    ∃ r : FileRec, (fileRestoreHealthFirst r).1.f ≠ r.f.restore ∧ (fileRestoreHealthFirst r).1.f.deleted = true ∧
      -- for a healthy file the two orders agree: only the health × deletion combination tells them apart
      ∀ r' : FileRec, r'.health ≠ .corrupt → (fileRestoreHealthFirst r').1.f = r'.f.restore :=
  ⟨{ f := { id := 1, name := "a", deleted := true }, health := .corrupt }, by decide, by decide, by
    intro r' h
    obtain ⟨⟨i, n, d⟩, hh, v, a⟩ := r'
    cases d <;> cases hh <;> simp_all [fileRestoreHealthFirst, File.restore]⟩

/-- The folder's own methods, as translated from folder.py, are the structural model for every folder health: `restore()`
clears the flag and starts the countdown unless one is running; `delete()` sets the flag; `check_hash()` answers False. -/
theorem C15_gen_folder_methods (r : FolderRec) :
    r.g.verb .restore = some ((folderRestore r).1.g, (folderRestore r).2) ∧
    r.g.verb .checkhash = some ((folderCheckHash r).1.g, (folderCheckHash r).2) ∧
    (folderDelete r).1.g = { r.g with deleted := true } ∧ (folderDelete r).2 = !r.g.deleted ∧
    (folderRestore r).1.health = (if r.g.restoreCountdown ≤ 0 then .restoring else r.health) ∧
    (folderDelete r).1.health = r.health := by
  obtain ⟨⟨i, n, d, fs, dfs, rts, cd, dur⟩, h, v⟩ := r
  -- the flag and the one comparison the source makes, decided both ways
  cases d <;> by_cases hc : cd ≤ 0 <;>
    simp [Folder.verb, Folder.restore, folderRestore, folderCheckHash, folderDelete, hc]

theorem C15_folder_methods_ignore_health (r : FolderRec) (h v : Health) :
    let r' : FolderRec := { r with health := h, visible := v }
    ((folderRestore r').1.g, (folderRestore r').2) = ((folderRestore r).1.g, (folderRestore r).2) ∧
    ((folderDelete r').1.g, (folderDelete r').2) = ((folderDelete r).1.g, (folderDelete r).2) := by
  intro r'
  have e := C15_gen_folder_methods r
  have e' := C15_gen_folder_methods r'
  have hg : r'.g = r.g := rfl
  rw [hg] at e'
  exact ⟨Option.some.inj (e'.1.symm.trans e.1), Prod.ext (e'.2.2.1.trans e.2.2.1.symm) (e'.2.2.2.1.trans e.2.2.2.1.symm)⟩

theorem folder_set_deleted_false_of (g : Folder) (h : g.deleted = false) : { g with deleted := false } = g := by
  cases g; simp_all

/-- The two loops of `_restoring_timestep`: restore every live file by name, then every file that was in `deleted_files` when the
first loop ended. -/
def restoreLoops (g1 : Folder) : Folder :=
  (g1.files.foldl (fun (a : Folder) (file : File) => (a.restoreFile file.name).1) g1).deletedFiles.foldl
    (fun (a : Folder) (file : File) => (a.restoreFile file.name).1)
    (g1.files.foldl (fun (a : Folder) (file : File) => (a.restoreFile file.name).1) g1)

theorem restoringTimestep_eq (g : Folder) :
    g.restoringTimestep =
      if g.restoreCountdown ≥ 0 then
        if g.restoreCountdown - 1 = 0 then { restoreLoops { g with restoreCountdown := g.restoreCountdown - 1 } with deleted := false }
        else { g with restoreCountdown := g.restoreCountdown - 1 }
      else g := rfl

theorem folderRestoringTimestep_eq (r : FolderRec) :
    folderRestoringTimestep r =
      if r.g.restoreCountdown ≥ 0 then
        if r.g.restoreCountdown - 1 = 0 then
          if (restoreLoops { r.g with restoreCountdown := r.g.restoreCountdown - 1 }).deleted then
            { r with g := { restoreLoops { r.g with restoreCountdown := r.g.restoreCountdown - 1 } with deleted := false } }
          else if (r.health == Health.corrupt || r.health == Health.restoring) then
            { r with g := restoreLoops { r.g with restoreCountdown := r.g.restoreCountdown - 1 }, health := .good }
          else { r with g := restoreLoops { r.g with restoreCountdown := r.g.restoreCountdown - 1 } }
        else { r with g := { r.g with restoreCountdown := r.g.restoreCountdown - 1 } }
      else r := by
  unfold folderRestoringTimestep
  by_cases h1 : r.g.restoreCountdown ≥ 0
  · by_cases h2 : r.g.restoreCountdown - 1 = 0
    · simp only [h1, h2, decide_true, if_true]; rfl
    · simp only [h1, h2, decide_true, decide_false, if_true, if_false, Bool.false_eq_true]
  · simp only [h1, decide_false, if_false, Bool.false_eq_true]

/-- `Folder._restoring_timestep` as translated from folder.py (countdown, the two restore loops — the second over a copy of
`deleted_files` taken before it starts —, then `if self.deleted: … elif self.health_status in [CORRUPT, RESTORING]: …`) is the
structural model's `restoringTimestep` for EVERY folder health; the health is reset to GOOD only when the restore completes on a
folder that is not flagged deleted. -/
theorem C15_gen_restoring_timestep (r : FolderRec) :
    (folderRestoringTimestep r).g = r.g.restoringTimestep ∧
    (folderRestoringTimestep r).health =
      (if r.g.restoreCountdown ≥ 0 ∧ r.g.restoreCountdown - 1 = 0 ∧
          (restoreLoops { r.g with restoreCountdown := r.g.restoreCountdown - 1 }).deleted = false ∧
          (r.health = .corrupt ∨ r.health = .restoring) then .good else r.health) := by
  rw [folderRestoringTimestep_eq, restoringTimestep_eq]
  generalize restoreLoops { r.g with restoreCountdown := r.g.restoreCountdown - 1 } = g3
  generalize ({ r.g with restoreCountdown := r.g.restoreCountdown - 1 } : Folder) = g1
  obtain ⟨g, h, v⟩ := r
  by_cases h1 : g.restoreCountdown ≥ 0
  · by_cases h2 : g.restoreCountdown - 1 = 0
    · by_cases hd : g3.deleted = true
      · simp [h1, h2, hd]
      · have hd' : g3.deleted = false := by simpa using hd
        cases h <;> simp [h1, h2, hd', folder_set_deleted_false_of g3 hd']
    · simp [h1, h2]
  · simp [h1]

theorem C15_restoring_timestep_ignores_health (r : FolderRec) (h v : Health) :
    (folderRestoringTimestep { r with health := h, visible := v }).g = (folderRestoringTimestep r).g := by
  rw [(C15_gen_restoring_timestep _).1, (C15_gen_restoring_timestep r).1]

/-- `Folder.get_file`, `Folder.remove_file`, `Folder.remove_file_by_name` and `FileSystem.get_folder` as translated from the source
are the model's functions, for all arguments. -/
theorem C15_gen_lookups (s : State) (g : Folder) (f : File) (n : Name) (incl : Bool) :
    folderGetFile g n incl = g.getFile n incl ∧ folderRemoveFile g f = g.removeFile f ∧
    folderRemoveFileByName g n = g.removeFileByName n ∧ fsGetFolder s n incl = getFolder s n incl := by
  refine ⟨?_, ?_, ?_, ?_⟩
  · unfold folderGetFile Folder.getFile
    cases g.files.find? (fun f => f.name == n) with
    | some f => rfl
    | none => cases incl <;> simp <;> cases g.deletedFiles.find? (fun f => f.name == n) <;> rfl
  · unfold folderRemoveFile Folder.removeFile
    split <;> rfl
  · unfold folderRemoveFileByName Folder.removeFileByName
    cases g.files.find? (fun f => f.name == n) <;> rfl
  · unfold fsGetFolder getFolder
    cases s.folders.find? (fun g => g.name == n) with
    | some g => rfl
    | none => cases incl <;> simp <;> cases s.deletedFolders.find? (fun g => g.name == n) <;> rfl

/-- `FileSystem.delete_file` and `FileSystem.restore_file` as translated from the source are the model's `deleteFile` /
`restoreFile` (state and answer), for every state and names. -/
theorem C15_gen_fs_delete_restore_file (s : State) (F x : Name) :
    (fsDeleteFile s F x).1 = (deleteFile s F x).1 ∧ ((fsDeleteFile s F x).2 = true ↔ (deleteFile s F x).2 = .success) ∧
    (fsRestoreFile s F x).1 = (restoreFile s F x).1 ∧ ((fsRestoreFile s F x).2 = true ↔ (restoreFile s F x).2 = .success) := by
  unfold fsDeleteFile deleteFile fsRestoreFile restoreFile getFile
  cases getFolder s F with
  | none => simp
  | some g =>
    simp only
    refine ⟨?_, ?_, ?_, ?_⟩
    · cases g.getFile x <;> simp [updFolder]
    · cases g.getFile x <;> simp
    · cases g.getFile x true <;> simp
    · cases g.getFile x true with
      | none => simp
      | some f => cases (g.restoreFile x).2 <;> simp [ofBool]

/-- `FileSystem.restore_folder` and `FileSystem.delete_folder` as translated from the source — `folder.restore()` / `folder.delete()`
inside them being the TRANSLATED `Folder.restore` / `Folder.delete` — are the model's `restoreFolder` / `deleteFolder`, state and
answer, for every state and name (hence for every countdown value and every health of the folder concerned). -/
theorem C15_gen_restore_delete_folder (s : State) (F : Name) :
    (fsRestoreFolder s F).1 = (restoreFolder s F).1 ∧ ((fsRestoreFolder s F).2 = true ↔ (restoreFolder s F).2 = .success) ∧
    (fsDeleteFolder s F).1 = (deleteFolder s F).1 ∧ ((fsDeleteFolder s F).2 = true ↔ (deleteFolder s F).2 = .success) := by
  have hr : ∀ g : Folder, (folderRestore { g := g }).1.g = g.restore := by
    intro g
    have := (C15_gen_folder_methods { g := g }).1
    simp only [Folder.verb, Option.some.injEq, Prod.mk.injEq] at this
    exact this.1.symm
  have hd : ∀ g : Folder, (folderDelete { g := g }).1.g = { g with deleted := true } := fun g => (C15_gen_folder_methods { g := g }).2.2.1
  have hR : (fsRestoreFolder s F).1 = (restoreFolder s F).1 ∧ ((fsRestoreFolder s F).2 = true ↔ (restoreFolder s F).2 = .success) := by
    unfold fsRestoreFolder restoreFolder
    cases getFolder s F true with
    | none => simp
    | some g => simp only [hr]; simp [Folder.restore]
  refine ⟨hR.1, hR.2, ?_⟩
  unfold fsDeleteFolder deleteFolder
  by_cases hroot : F = "root"
  · subst hroot; cases getFolder s "root" <;> simp
  · cases getFolder s F with
    | none => simp [hroot]
    | some g => simp only [hd]; simp [hroot, Folder.removeAllFiles]

/-- **`Folder.restore()` clears the flag whatever the countdown does**: running (`> 0`, then it is left alone — not restarted),
expired or never started (then it is set to `max(restore_duration, 1)`), and whatever the folder's health. -/
theorem C15_folder_restore_for_every_countdown (r : FolderRec) :
    (folderRestore r).1.g.deleted = false ∧ (folderRestore r).2 = true ∧
    (folderRestore r).1.g.restoreCountdown = (if r.g.restoreCountdown ≤ 0 then max r.g.restoreDuration 1 else r.g.restoreCountdown) ∧
    (folderRestore r).1.g.files = r.g.files ∧ (folderRestore r).1.g.deletedFiles = r.g.deletedFiles := by
  have := (C15_gen_folder_methods r).1
  simp only [Folder.verb, Option.some.injEq, Prod.mk.injEq] at this
  rw [← this.1, ← this.2]
  simp [Folder.restore]

/-- **The folder `restore_folder` puts into the live set is not flagged deleted — for every interleaving with a restore that is still
counting down**: whatever the restore countdown of the (live or deleted) folder found under that name is — frozen at a positive value
because the folder was deleted again while restoring, expired, or never started — the translated `FileSystem.restore_folder` stores in
`folders` a folder of the same uuid with `deleted = false`, and removes that uuid from `deleted_folders`. -/
theorem C15_restore_folder_flag_agrees {s : State} (hI : Inv s) {F : Name} {g : Folder} (hg : getFolder s F true = some g) :
    (fsRestoreFolder s F).2 = true ∧
    (∃ g' ∈ (fsRestoreFolder s F).1.folders, g'.id = g.id ∧ g'.deleted = false ∧
      g'.restoreCountdown = (if g.restoreCountdown ≤ 0 then max g.restoreDuration 1 else g.restoreCountdown)) ∧
    (∀ b ∈ (fsRestoreFolder s F).1.deletedFolders, b.id ≠ g.id) ∧ Inv (fsRestoreFolder s F).1 := by
  have e := C15_gen_restore_delete_folder s F
  refine ⟨?_, ?_, ?_, ?_⟩
  · unfold fsRestoreFolder; rw [hg]
  · rw [e.1]
    unfold restoreFolder; rw [hg]
    exact ⟨g.restore, (mem_dictSet Folder.id).mpr (Or.inl rfl), rfl, rfl, rfl⟩
  · rw [e.1]
    unfold restoreFolder; rw [hg]
    intro b hb; exact ((mem_dictPop Folder.id).mp hb).2
  · rw [e.1]; exact (change_restoreFolder s F).inv hI

/-- A deleted folder is not stepped: its restore countdown stands still for as long as it is deleted. -/
theorem C15_deleted_folder_countdown_frozen (s : State) : (step s .tick).1.deletedFolders = s.deletedFolders := rfl

/-- The scenario of seeded C15-e for the default duration: delete, restore (countdown 3), one tick, delete again (countdown frozen
at 2), two ticks, restore again — the folder is live, NOT flagged, its countdown still 2 (not restarted); two more ticks complete
the restore and bring the file back. -/
example :
    let s := (run (init none) [.createFile "fa" "a" false, .deleteFolder "fa", .restoreFolder "fa", .tick, .deleteFolder "fa", .tick, .tick,
      .restoreFolder "fa"]).1
    let s' := (run s [.tick, .tick]).1
    (s.folders.map fun g => (g.name, g.deleted, g.restoreCountdown, g.files.length, g.deletedFiles.length)) =
      [("root", false, -1, 0, 0), ("fa", false, 2, 0, 1)] ∧ s.deletedFolders = [] ∧
    (s'.folders.map fun g => (g.name, g.deleted, g.restoreCountdown, g.files.length, g.deletedFiles.length)) =
      [("root", false, -1, 0, 0), ("fa", false, 0, 1, 0)] := by
  decide

/-- Why the order inside `Folder.restore` matters (seeded C15-e in miniature): with the "already in progress" check first, a folder
that is deleted while its countdown runs keeps its flag — and `restore_folder` moves it to the live set regardless. -/
def folderRestoreGuardFirst (r : FolderRec) : FolderRec × Bool :=
  if decide (r.g.restoreCountdown > 0) then (r, true)
  else ({ r with g := { r.g with deleted := false, restoreCountdown := max r.g.restoreDuration 1 }, health := .restoring }, true)

theorem C15_guard_first_restore_counterexample :
    ∃ r : FolderRec, (folderRestoreGuardFirst r).1.g.deleted = true ∧ (folderRestore r).1.g.deleted = false ∧
      ∀ r' : FolderRec, r'.g.restoreCountdown ≤ 0 → (folderRestoreGuardFirst r').1.g = (folderRestore r').1.g :=
  ⟨{ g := { id := 1, name := "fa", deleted := true, restoreCountdown := 2 } }, by decide, by decide, by
    intro r' hc
    obtain ⟨g, h, v⟩ := r'
    have h1 : ¬ (0 < g.restoreCountdown) := by simp only at hc; omega
    by_cases hd : g.deleted = true <;> simp [folderRestoreGuardFirst, folderRestore, hd, hc, h1]⟩

theorem C15_gen_health_enum :
    Gen.FileSystem.healthMembers = [("NONE", 0), ("GOOD", 1), ("COMPROMISED", 2), ("CORRUPT", 3), ("RESTORING", 4), ("REPAIRING", 5)] ∧
    Gen.FileSystem.healthMembers.map (·.2) = Health.all.map Health.value ∧
    Gen.FileSystem.healthDefault = "FileSystemItemHealthStatus.GOOD" ∧
    Gen.FileSystem.visibleHealthDefault = "FileSystemItemHealthStatus.NONE" ∧
    ({ f := { id := 0, name := "" } } : FileRec).health = .good ∧ ({ f := { id := 0, name := "" } } : FileRec).visible = .none :=
  ⟨rfl, rfl, rfl, rfl, rfl, rfl⟩

/-- Every `if` of `FileSystem`, `Folder`, `File`, `FileSystemItemABC` whose test mentions `health_status`, with what it controls;
every other statement that reads health; and the list of health-dependent branches that control anything but an assignment to
`health_status` / `visible_health_status`. The last list has ONE entry, in the unreachable tail of `Folder.check_hash` (the method
returns False first — `C15_gen_folder_methods`): nowhere does a `return`, the `deleted` flag, a dictionary or a call depend on health. -/
theorem C15_gen_health_branches :
    Gen.FileSystem.healthBranches =
      [("Folder._restoring_timestep", "self.health_status in [FileSystemItemHealthStatus.CORRUPT, FileSystemItemHealthStatus.RESTORING]",
        "self.health_status = FileSystemItemHealthStatus.GOOD"),
       ("Folder.scan", "file.visible_health_status == FileSystemItemHealthStatus.CORRUPT", "self.visible_health_status = FileSystemItemHealthStatus.CORRUPT"),
       ("Folder.check_hash", "file.health_status == FileSystemItemHealthStatus.CORRUPT", "no_corrupted_files = False"),
       ("Folder.repair", "self.health_status == FileSystemItemHealthStatus.CORRUPT", "self.health_status = FileSystemItemHealthStatus.GOOD"),
       ("File.repair", "self.health_status == FileSystemItemHealthStatus.CORRUPT", "self.health_status = FileSystemItemHealthStatus.GOOD"),
       ("File.corrupt", "self.health_status == FileSystemItemHealthStatus.GOOD", "self.health_status = FileSystemItemHealthStatus.CORRUPT"),
       ("File.restore", "self.health_status == FileSystemItemHealthStatus.CORRUPT", "self.health_status = FileSystemItemHealthStatus.GOOD")] ∧
    Gen.FileSystem.healthControlsStructure =
      ["Folder.check_hash: `file.health_status == FileSystemItemHealthStatus.CORRUPT` controls `no_corrupted_files = False`"] ∧
    Gen.FileSystem.healthReads.map (·.1) =
      ["FileSystem.show", "FileSystem.show", "FileSystem.show", "Folder._scan_timestep", "FileSystemItemABC.describe_state",
       "FileSystemItemABC.describe_state"] :=
  ⟨rfl, rfl, rfl⟩

end Primaite.FileSystem
