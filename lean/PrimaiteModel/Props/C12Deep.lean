/-
C12 beyond the property's quantifier: every node class (route tables from the schematic request tree, class inventories), what runs per
tick while a node is not ON, the direct API entry points / the loader / episode set-up, exactly which software comes
back, duration changes in mid-countdown.  Builds on `Props/C12.lean`.
-/
import PrimaiteModel.Props.C12
import PrimaiteModel.Gen.RequestSchema
namespace Primaite.Power

/-! The route tables of every node class as the schematic request tree (`Gen/RequestSchema.lean`, C05x's extractor) has them. -/

section schema
open Primaite.Schema

/-- a validator of the schematic tree as a node-level guard; anything but (nothing | node-is-on | node-is-off) has no
counterpart in the power model -/
def guardOfValidator : Validator → Option Guard
  | [] => some .none
  | [.nodeIsOn] => some .nodeOn
  | [.nodeIsOff] => some .nodeOff
  | _ => none

/-- the node-level route table of a class as the schematic request tree has it -/
def routesOfMgr : Mgr → Option (List Route)
  | .static edges => edges.mapM (fun e => (guardOfValidator e.2.1).map (fun g => (⟨e.1, g⟩ : Route)))
  | .dynamic _ _ _ => none

/-- (class, its node-level routes) for `Node` itself and every class a node key of the request tree can lead to -/
def schemaNodeTables : List (String × Option (List Route)) :=
  ("Node" :: Gen.RequestSchema.levelClasses .node).map
    (fun c => (c, (Gen.RequestSchema.schema.mgr c).bind routesOfMgr))

/-- **every class of the schematic request tree.** For `Node` and each of the nine classes below it (abstract ones
included) the root manager is a literal table in which every route carries node-is-on, except `startup`, which carries
node-is-off. (Seeded C05-c — the firewall's `internal`/`dmz`/`external` routes lose the validator — breaks this and
`C12_gen_routes_guarded` alike; the two tables come from two independent extractors.) -/
theorem C12_gen_schema_routes_guarded :
    schemaNodeTables.all (fun p => match p.2 with | some t => allGuarded t | none => false) = true := by decide +kernel

/-- the class inventory of this check (every class below `Node`, found by walking the whole source tree) is the list of
classes the request tree can dispatch a node key to -/
theorem C12_gen_schema_covers_inventory :
    (Gen.Power.nodeClasses.map (·.1)).all (fun c => c == "Node" || (Gen.RequestSchema.levelClasses .node).contains c) = true ∧
    (Gen.RequestSchema.levelClasses .node).all (fun c => (Gen.Power.nodeClasses.map (·.1)).contains c) = true := by decide +kernel

/-- the two extractors agree: for every instantiable class, the table `Gen.Power.classTables` lists under its
discriminator is the table of the schematic tree -/
theorem C12_gen_schema_agrees :
    Gen.Power.nodeClasses.all (fun c =>
      !c.2.2 || c.2.1 == "" ||
      (match Gen.Power.classTables.lookup c.2.1, schemaNodeTables.lookup c.1 with
       | some t, some (some t') => t == t'
       | _, _ => false)) = true := by decide +kernel

/-- so the theorems that assume `allGuarded` hold for the table of every class of the schematic tree -/
theorem C12_all_schema_classes_guarded (cls : String) (tbl : List Route) (hc : (cls, some tbl) ∈ schemaNodeTables) :
    allGuarded tbl = true := by
  have := List.all_eq_true.mp C12_gen_schema_routes_guarded (cls, some tbl) hc
  simpa using this

example : ("Firewall", some ((Gen.Power.classTables.lookup "firewall").getD [])) ∈ schemaNodeTables := by decide +kernel

end schema

def drivenNodeClasses : List String :=
  ["HostNode", "Computer", "Printer", "Server", "Router", "Switch", "Firewall", "WirelessRouter"]
/-- abstract: cannot be instantiated (`receive_frame` is abstract) -/
def listedNodeClasses : List String := ["Node", "NetworkNode"]
def drivenNicClasses : List (String × String) :=
  [("NIC", "simulator/network/hardware/nodes/host/host_node.py"),
   ("RouterInterface", "simulator/network/hardware/nodes/network/router.py"),
   ("SwitchPort", "simulator/network/hardware/nodes/network/switch.py"),
   ("WirelessAccessPoint", "simulator/network/hardware/nodes/network/wireless_router.py")]
/-- base classes no node connects directly, and the two modules under `network_interface/wireless/` that cannot be
imported (they import a name `base.py` does not define) and that no node class uses -/
def listedNicClasses : List (String × String) :=
  [("IPWirelessNetworkInterface", "simulator/network/airspace.py"),
   ("WirelessNetworkInterface", "simulator/network/airspace.py"),
   ("IPWiredNetworkInterface", "simulator/network/hardware/base.py"),
   ("NetworkInterface", "simulator/network/hardware/base.py"),
   ("WiredNetworkInterface", "simulator/network/hardware/base.py"),
   ("WirelessAccessPoint", "simulator/network/hardware/network_interface/wireless/wireless_access_point.py"),
   ("WirelessNIC", "simulator/network/hardware/network_interface/wireless/wireless_nic.py")]

/-- **class inventories.** Every class below `Node` / `NetworkInterface` found anywhere under `simulator/` and `game/`,
split into the ones the rig drives and the ones it lists without driving (with the reason). A new class breaks this
until somebody decides on which side it goes. -/
theorem C12_gen_class_inventory :
    (Gen.Power.nodeClasses.map (·.1)).all (fun c => drivenNodeClasses.contains c || listedNodeClasses.contains c) = true ∧
    (drivenNodeClasses ++ listedNodeClasses).all (fun c => (Gen.Power.nodeClasses.map (·.1)).contains c) = true ∧
    -- driven = exactly the instantiable classes with a discriminator (the ones a scenario file can name)
    (Gen.Power.nodeClasses.filter (fun c => c.2.2 && c.2.1 != "")).map (·.1) = drivenNodeClasses ∧
    (Gen.Power.nicClasses.map (fun c => (c.1, c.2.1))).all (fun c => drivenNicClasses.contains c || listedNicClasses.contains c) = true ∧
    (drivenNicClasses ++ listedNicClasses).all (fun c => (Gen.Power.nicClasses.map (fun c => (c.1, c.2.1))).contains c) = true := by
  simp [Gen.Power.nodeClasses, Gen.Power.nicClasses, drivenNodeClasses, listedNodeClasses, drivenNicClasses, listedNicClasses]

/-- every definition of `enable()` / `disable()` at or below `NetworkInterface`: the two guarded base implementations
(translated, like the wrappers and the `disable()`s: `C12_gen_interface_enable_sem` / `_disable_sem` in Props/C12Prog.lean), the two `IP…` wrappers that call `super().enable()` first, the two plain
`disable()`s, the abstract pair, and the two modules under `network_interface/wireless/` that cannot be imported. No
interface class a node carries (NIC, RouterInterface, SwitchPort, the wireless router's access point) defines its own —
an override there would bypass the node-is-on test, and would appear here as a new entry. -/
theorem C12_gen_nic_enable_defs :
    Gen.Power.nicEnableDefs =
      [("IPWirelessNetworkInterface@airspace.py", "enable", "translated"),
       ("WirelessNetworkInterface@airspace.py", "enable", "translated"),
       ("WirelessNetworkInterface@airspace.py", "disable", "translated"),
       ("IPWiredNetworkInterface@base.py", "enable", "translated"),
       ("NetworkInterface@base.py", "enable", "abstract"), ("NetworkInterface@base.py", "disable", "abstract"),
       ("WiredNetworkInterface@base.py", "enable", "translated"), ("WiredNetworkInterface@base.py", "disable", "translated"),
       ("WirelessAccessPoint@wireless_access_point.py", "enable", "other"),
       ("WirelessAccessPoint@wireless_access_point.py", "disable", "other"),
       ("WirelessNIC@wireless_nic.py", "enable", "other"), ("WirelessNIC@wireless_nic.py", "disable", "other")] := rfl

/-- one tick as the statement list runs it: the four always-statements, and the six software statements exactly when
the node is ON once the two countdown blocks have run -/
theorem execTick_tickProgram (n : Node) :
    execTick tickProgram n =
      (tick n, if (tickDown (tickUp n)).st = .on then tickProgram.map (·.2) else [.super, .nics, .upBlock, .downBlock]) := by
  by_cases h : (tickDown (tickUp n)).st = .on <;>
    simp [tickProgram, execTick, guardHolds, TickStmt.sem, tick, tickSoftware, h]

theorem exec_tickProgram (n : Node) : (execTick tickProgram n).1 = tick n := by
  rw [execTick_tickProgram]

/-- **the regenerated statement lists.** `Node.apply_timestep` and `Node.pre_timestep` consist of exactly these
top-level statements, each under exactly this power test (the extractor refuses any statement it cannot classify). -/
theorem C12_gen_tick_program :
    Gen.Power.tickStmts = tickProgram ∧ Gen.Power.preStmts = preProgram := ⟨rfl, rfl⟩

/-- **software does no work per tick while not ON.** If the node is not ON once the two countdown blocks have run, a
tick executes the always-statements only — `super().apply_timestep` (nothing), the interfaces' `apply_timestep`
(nothing: `NetworkInterface.apply_timestep` is `super()`), the two countdown blocks — and none of: node scan, red scan,
processes, services, applications, file system. -/
theorem C12_tick_work_when_not_on (n : Node) (h : (tickDown (tickUp n)).st ≠ .on) :
    tickActs n = [.super, .nics, .upBlock, .downBlock] := by
  unfold tickActs; rw [execTick_tickProgram, if_neg h]

/-- … and all ten statements when it is (also in the very tick that ends BOOTING: the software clock resumes at once) -/
theorem C12_tick_work_when_on (n : Node) (h : (tickDown (tickUp n)).st = .on) :
    tickActs n = tickProgram.map (·.2) := by
  unfold tickActs; rw [execTick_tickProgram, if_pos h]

/-- completeness of the split: a statement of `apply_timestep` runs regardless of power iff it is one of the four -/
theorem C12_tick_always_statements :
    (tickProgram.filter (fun p => p.1 == .always)).map (·.2) = [.super, .nics, .upBlock, .downBlock] ∧
    (tickProgram.filter (fun p => p.1 == .whenOn)).map (·.2) = [.nodeScan, .redScan, .procs, .svcs, .apps, .fs] := by
  decide

/-- **what continues while not ON.** Every statement of `pre_timestep` runs whatever the power state (per-step
counters of interfaces, software and the file system are reset; `UserSessionManager.pre_timestep` times idle sessions
out — the payload it sends for a remote session stops at the disabled interface, `C12_not_on_no_traffic`), and none of
them touches the power state, the interfaces' `enabled`, or the state of a service / application. -/
theorem C12_pre_tick_runs_regardless (tbl : List Route) (n : Node) :
    preActs n = [.super, .nics, .procs, .svcs, .apps, .fs] ∧ xstep tbl n .preTick = n := by
  simp [preActs, preProgram, guardHolds, xstep]

/-- clocks of the software and of the node scans -/
def Clocks (n : Node) : List Int × List Int × Int × Int :=
  (n.svcs.map (·.restartCd), n.apps.map (·.installCd), n.scanCd, n.redCd)

theorem stop_cd (s : Service) : s.stop.1.restartCd = s.restartCd := by
  unfold Service.stop; split <;> rfl

theorem close_cd (a : App) : a.close.1.installCd = a.installCd := by
  unfold App.close; split <;> rfl

theorem shutDownActions_clocks (n : Node) : Clocks (shutDownActions n) = Clocks n := by
  simp only [Clocks, shutDownActions, List.map_map]
  congr 1
  · apply List.map_congr_left; intro s _; exact stop_cd s
  · congr 1
    apply List.map_congr_left; intro a _; exact close_cd a

theorem powerOn_clocks (n : Node) (h : (powerOn n).1.st ≠ .on) : Clocks (powerOn n).1 = Clocks n := by
  rcases powerOn_cases n with ⟨_, e⟩ | ⟨_, _, e⟩ | ⟨_, _, e⟩ <;> rw [e] at h ⊢
  · exact absurd rfl h
  · rfl

theorem powerOff_clocks (n : Node) (h : (powerOff n).1.st ≠ .on) : Clocks (powerOff n).1 = Clocks n := by
  rcases powerOff_cases n with ⟨_, _, e⟩ | ⟨_, _, e⟩ | ⟨_, _, e⟩ | ⟨_, _, e⟩ <;> rw [e] at h ⊢
  · exact shutDownActions_clocks (disableNics n)
  · rw [powerOn_clocks _ h]; exact shutDownActions_clocks (disableNics n)
  · rfl

theorem tick_clocks (n : Node) (h : (tick n).st ≠ .on) : Clocks (tick n) = Clocks n := by
  rcases tick_cases n with ⟨_, e⟩ | ⟨_, e⟩ | e <;> rw [e] at h ⊢
  · rw [tickSoftware_only] at h
    exact absurd rfl h
  · -- OFF is reached: the shut-down actions, and the restart if one is pending, touch no clock
    split
    · rename_i hr
      rw [if_pos hr, (tickSoftware_same _).1] at h
      rw [tickSoftware_notOn _ h, powerOn_clocks _ h]
      exact shutDownActions_clocks _
    · exact shutDownActions_clocks _
  · rw [(tickSoftware_same _).1] at h
    rw [tickSoftware_notOn _ h]
    rfl

theorem request_clocks {tbl : List Route} (hg : allGuarded tbl = true) (n : Node) (key : String) (sub : Sub)
    (h0 : n.st ≠ .on) (h : (request tbl n key sub).1.st ≠ .on) : Clocks (request tbl n key sub).1 = Clocks n :=
  request_elim (motive := fun m => m.st ≠ .on → Clocks m = Clocks n) hg n key sub (fun _ => rfl)
    (fun _ => powerOn_clocks n) (fun hon => absurd hon h0) (fun hon => absurd hon h0) (fun hon => absurd hon h0) h

/-- the node is not ON at any point of the run (before the first and after every operation) -/
def NeverOn (tbl : List Route) : Node → List Op → Prop
  | n, [] => n.st ≠ .on
  | n, op :: ops => n.st ≠ .on ∧ NeverOn tbl (step tbl n op).1 ops

/-- **software time stands still while the node is not ON.** Along any sequence of requests, ticks and frames during
which the node is never ON — through SHUTTING_DOWN, OFF and BOOTING, however long — no restart countdown of a service,
no install countdown of an application and neither node-scan countdown moves. (The shut-down actions change the
*state* of RUNNING/PAUSED services and RUNNING applications when OFF is reached; they do not touch a clock.) -/
theorem C12_software_clocks_stand_still {tbl : List Route} (hg : allGuarded tbl = true) (n : Node) (ops : List Op)
    (h : NeverOn tbl n ops) : Clocks (run tbl n ops) = Clocks n := by
  induction ops generalizing n with
  | nil => rfl
  | cons op ops ih =>
    obtain ⟨h0, hrest⟩ := h
    have h1 : (step tbl n op).1.st ≠ .on := by
      cases ops with
      | nil => exact hrest
      | cons _ _ => exact hrest.1
    show Clocks (run tbl (step tbl n op).1 ops) = _
    rw [ih _ hrest]
    exact step_elim (motive := fun m => m.st ≠ .on → Clocks m = Clocks n) tbl n op
      (fun key sub => request_clocks hg n key sub h0) (tick_clocks n) (fun _ => rfl) h1

/-- non-vacuity: a node with a service in mid-restart, an application in mid-install and a node scan running is shut
down and started again; through the five not-ON ticks no clock moves, and they resume in the tick that reaches ON -/
def exBusy : Node :=
  { st := .on, upDur := 1, downDur := 1, nics := [⟨true, true, .ipWired⟩], scanCd := 4, redCd := 2,
    svcs := [⟨.running, 0, 5⟩, ⟨.restarting, 3, 5⟩], apps := [⟨.installing, 2, 2⟩] }
example : let ops := [shutdownOp, .tick, .tick, startupOp, .tick]
    NeverOn baseRoutes (run baseRoutes exBusy [shutdownOp]) [.tick, .tick, startupOp, .tick] ∧
    Clocks (run baseRoutes exBusy ops) = ([0, 3], [2], 4, 2) ∧
    (run baseRoutes exBusy (ops ++ [.tick])).st = .on ∧
    Clocks (run baseRoutes exBusy (ops ++ [.tick])) = ([0, 2], [1], 3, 1) := by
  simp only [NeverOn]; decide

/-- the OFF invariant in the form that needs no validator: once OFF, no service is RUNNING *or PAUSED* and no
application is RUNNING (a PAUSED service is what `Service.resume`, which does not test the node, could turn RUNNING) -/
def OffInvS (n : Node) : Prop :=
  n.st = .off → (∀ s ∈ n.svcs, s.st ≠ .running ∧ s.st ≠ .paused) ∧ (∀ a ∈ n.apps, a.st ≠ .running)

theorem offInvS_offInv {n : Node} (h : OffInvS n) : OffInv n :=
  fun hoff => ⟨fun s hs => ((h hoff).1 s hs).1, (h hoff).2⟩

theorem stop_not_active (s : Service) : s.stop.1.st ≠ .running ∧ s.stop.1.st ≠ .paused := by
  unfold Service.stop
  split
  · simp
  · rename_i h; exact ⟨fun hr => h (Or.inl hr), fun hp => h (Or.inr hp)⟩

theorem powerOn_offInvS (n : Node) : OffInvS (powerOn n).1 := fun hoff => absurd hoff (powerOn_not_off n)

theorem powerOff_offInvS (n : Node) (h : OffInvS n) : OffInvS (powerOff n).1 := powerOff_offP stop_not_active n h

theorem tick_offInvS (n : Node) (h : OffInvS n) : OffInvS (tick n) := tick_offP stop_not_active n h

theorem svcApply_inactive (s : Service) (v : SvcVerb) (h : s.st ≠ .running ∧ s.st ≠ .paused) :
    (svcApply false s v).1.st ≠ .running ∧ (svcApply false s v).1.st ≠ .paused := by
  obtain ⟨h1, h2⟩ := h
  cases v <;> simp only [svcApply]
  · exact stop_not_active s
  · exact ⟨h1, h2⟩
  · unfold Service.pause; rw [if_neg h1]; exact ⟨h1, h2⟩
  · unfold Service.resume; rw [if_neg h2]; exact ⟨h1, h2⟩
  · unfold Service.restart; rw [if_neg (by intro hc; rcases hc with hc | hc; exact h1 hc; exact h2 hc)]; exact ⟨h1, h2⟩
  · simp [Service.disable]
  · unfold Service.enable; split
    · simp
    · exact ⟨h1, h2⟩

theorem modifySvc_offInvS (n : Node) (i : Nat) (v : SvcVerb) (h : OffInvS n) :
    OffInvS (modifySvc n i (fun s => (svcApply n.isOn s v).1)) := by
  unfold modifySvc
  split
  · rename_i s hs
    intro hoff
    have hoff' : n.st = .off := hoff
    refine ⟨forall_mem_set (h hoff').1 ?_, (h hoff').2⟩
    rw [isOn_false (by rw [hoff']; decide)]
    exact svcApply_inactive s v ((h hoff').1 s (List.mem_of_getElem? hs))
  · exact h

theorem offInvS_of_same {n n' : Node} (h1 : n'.st = n.st) (h2 : n'.svcs = n.svcs) (h3 : n'.apps = n.apps)
    (h : OffInvS n) : OffInvS n' := by
  unfold OffInvS at *; rw [h1, h2, h3]; exact h

theorem modifyApp_offInvS (n : Node) (i : Nat) (f : App → App) (hf : ∀ a, n.st = .off → a.st ≠ .running → (f a).st ≠ .running)
    (h : OffInvS n) : OffInvS (modifyApp n i f) := by
  unfold modifyApp
  split
  · rename_i a ha
    intro hoff
    have hoff' : n.st = .off := hoff
    exact ⟨(h hoff').1, forall_mem_set (h hoff').2 (hf a hoff' ((h hoff').2 a (List.mem_of_getElem? ha)))⟩
  · exact h

theorem apiCall_offInvS (n : Node) (c : ApiCall) (h : OffInvS n) : OffInvS (apiCall n c) := by
  cases c with
  | powerOn => exact powerOn_offInvS n
  | powerOff => exact powerOff_offInvS n h
  | reset => exact powerOff_offInvS { n with resetting := true } h
  | svc i v => exact modifySvc_offInvS n i v h
  | appRun i =>
    apply modifyApp_offInvS n i _ _ h
    intro a hoff hr
    rw [isOn_false (by rw [hoff]; decide)]; exact hr
  | appClose i => exact modifyApp_offInvS n i _ (fun a _ _ => close_not_running a) h
  | appInstall i =>
    apply modifyApp_offInvS n i _ _ h
    intro a _ hr
    unfold App.install
    split
    · simp
    · exact hr
  | _ => show OffInvS (modifyNic n _ _); rw [modifyNic_only]; exact offInvS_of_same rfl rfl rfl h

theorem handle_offInvS (n : Node) (key : String) (sub : Sub) (h : OffInvS n) : OffInvS (handle n key sub).1 :=
  handle_elim n key sub (powerOn_offInvS n) (powerOff_offInvS n h) (powerOff_offInvS { n with resetting := true } h)
    fun h1 h2 h3 => handle_other_elim n key sub h1 h2 h3 h (fun _ _ => offInvS_of_same rfl rfl rfl h)
      (fun c _ => apiCall_offInvS n c h)

theorem step_offInvS (tbl : List Route) (n : Node) (op : Op) (h : OffInvS n) : OffInvS (step tbl n op).1 :=
  step_elim tbl n op (fun key sub => request_handle_elim tbl n key sub h (handle_offInvS n key sub h)) (tick_offInvS n h) h

theorem enableNics_nicInv (n : Node) (h : NicInv n) : NicInv (enableNics n) := by
  intro hne
  have hne' : n.st ≠ .on := hne
  refine List.forall_mem_map.mpr (fun c hc => ?_)
  rw [isOn_false hne', nicEnable_false]
  exact h hne' c hc

theorem startUpActions_soft_off (n : Node) (h : n.st ≠ .on) : startUpActions n = n := by
  unfold startUpActions
  rw [isOn_false h, List.map_id'' (show ∀ s : Service, (s.start false).1 = s from fun _ => rfl),
    List.map_id'' (show ∀ a : App, a.run false = a from fun _ => rfl)]

theorem setupEpisode_nicInv (n : Node) (h : NicInv n) : NicInv (setupEpisode n) := by
  have h1 := enableNics_nicInv _ (powerOn_nicInv _ (enableNics_nicInv n h))
  exact nicInv_of_same rfl rfl h1

theorem setupEpisode_offInvS (n : Node) : OffInvS (setupEpisode n) :=
  fun hoff => absurd (show (powerOn (enableNics n)).1.st = .off from hoff) (powerOn_not_off _)

theorem xstep_nicInv (tbl : List Route) (n : Node) (o : XOp) (h : NicInv n) : NicInv (xstep tbl n o) := by
  cases o with
  | op o => exact step_nicInv tbl n o h
  | preTick => exact h
  | setDur u d => exact nicInv_of_same rfl rfl h
  | api c => exact apiCall_nicInv n c h
  | setupEpisode => exact setupEpisode_nicInv n h

theorem xstep_offInvS (tbl : List Route) (n : Node) (o : XOp) (h : OffInvS n) : OffInvS (xstep tbl n o) := by
  cases o with
  | op o => exact step_offInvS tbl n o h
  | preTick => exact h
  | setDur u d => exact offInvS_of_same rfl rfl rfl h
  | api c => exact apiCall_offInvS n c h
  | setupEpisode => exact setupEpisode_offInvS n

/-- **every entry point keeps the invariants.** For ANY route table (no validator is needed) and any sequence of
requests, ticks, frames, pre-timesteps, run-time changes of the configured durations, episode set-ups and DIRECT calls of
`power_on()` / `power_off()` / `reset()` / an interface's `enable()` / `disable()` / `connect_link()` / any service verb /
an application's `run()` / `close()` / `install()` from ANY state: a node that is not ON has no enabled interface, and
an OFF node has no RUNNING or PAUSED service and no RUNNING application. -/
theorem C12_inv_all_entry_points (tbl : List Route) (n : Node) (ops : List XOp) (h1 : NicInv n) (h2 : OffInvS n) :
    NicInv (xrun tbl n ops) ∧ OffInvS (xrun tbl n ops) := by
  induction ops generalizing n with
  | nil => exact ⟨h1, h2⟩
  | cons o ops ih => exact ih _ (xstep_nicInv tbl n o h1) (xstep_offInvS tbl n o h2)

/-- hence `off_nothing_running` holds for any table once the initial state has no PAUSED service while OFF
(strengthens `C12_off_nothing_running`, which needs `allGuarded`) -/
theorem C12_off_nothing_running_any_table (tbl : List Route) (n : Node) (ops : List Op) (h : OffInvS n) :
    OffInv (run tbl n ops) :=
  offInvS_offInv (run_induction (step_offInvS tbl) n ops h)

theorem construct_nicInv (d : Decl) : NicInv (construct d) := by
  intro hne c hc
  have hne' : d.state ≠ .on := hne
  have hon : (d.state == PState.on) = false := by simp [hne']
  simp only [construct, List.mem_map, hon] at hc
  obtain ⟨k, _, rfl⟩ := hc
  rw [nicEnable_false]

theorem construct_offInvS (d : Decl) : OffInvS (construct d) := by
  intro hoff
  have hoff' : d.state = .off := hoff
  have hon : (d.state == PState.on) = false := by simp [hoff']
  simp only [construct, hon]
  constructor
  · intro s hs
    rw [List.eq_of_mem_replicate hs]
    decide
  · intro a ha
    rw [List.eq_of_mem_replicate ha]
    decide

/-- the loader's power step is a sequence of entry points: two changes of the configured durations around a direct `power_on()` -/
theorem loaderPower_eq_xrun (tbl : List Route) (d : Decl) (n : Node) :
    loaderPower d n =
      xrun tbl n (.setDur 0 0 :: (if n.st = .on then [.api .powerOn] else []) ++ [.setDur d.upDur d.downDur]) := by
  unfold loaderPower
  dsimp only
  split <;> rfl

theorem wireUp_nicInv (w : List Bool) (n : Node) (h : NicInv n) : NicInv (wireUp w n) := by
  intro hne c hc
  have hne' : n.st ≠ .on := hne
  simp only [wireUp, List.mem_map] at hc
  obtain ⟨ci, hci, rfl⟩ := hc
  have hmem : ci.1 ∈ n.nics := by
    have := List.mem_zipIdx hci
    rw [this.2.2]; exact List.getElem_mem _
  split
  · rw [isOn_false hne']; exact connectLink_false _ (h hne' _ hmem)
  · exact h hne' _ hmem

/-- **the loaded state satisfies the invariants**, for every declared `operating_state` (ON, OFF, BOOTING,
SHUTTING_DOWN or absent), every declared duration and countdown (any integers, 0 and negative included), any pending
reset flag, any set of interfaces, services, applications and links. -/
theorem C12_load_inv (d : Decl) : NicInv (loadNode d) ∧ OffInvS (loadNode d) := by
  have h : NicInv (loaderPower d (construct d)) ∧ OffInvS (loaderPower d (construct d)) := by
    rw [loaderPower_eq_xrun []]
    exact C12_inv_all_entry_points [] _ _ (construct_nicInv d) (construct_offInvS d)
  exact ⟨wireUp_nicInv _ _ h.1, offInvS_of_same rfl rfl rfl h.2⟩

theorem loaderPower_fields (d : Decl) (n : Node) :
    (loaderPower d n).st = n.st ∧ (loaderPower d n).upDur = d.upDur ∧ (loaderPower d n).downDur = d.downDur ∧
    (loaderPower d n).upCd = n.upCd ∧ (loaderPower d n).downCd = n.downCd ∧ (loaderPower d n).resetting = n.resetting := by
  unfold loaderPower
  dsimp only
  split
  · rename_i hon
    rw [powerOn_instant _ (Int.le_refl 0)]
    exact ⟨Eq.symm hon, rfl, rfl, rfl, rfl, rfl⟩
  · exact ⟨rfl, rfl, rfl, rfl, rfl, rfl⟩

/-- and it is in the declared power state with the declared durations, countdowns and reset flag -/
theorem C12_load_state (d : Decl) :
    (loadNode d).st = d.state ∧ (loadNode d).upDur = d.upDur ∧ (loadNode d).downDur = d.downDur ∧
    (loadNode d).upCd = d.upCd ∧ (loadNode d).downCd = d.downCd ∧ (loadNode d).resetting = d.resetting :=
  loaderPower_fields d (construct d)

/-- a node declared ON comes up complete: every service and application the constructor / the loader installed is
RUNNING (the interfaces are enabled as the file's links are wired: `C12_back_on`'s `Nic.enable true`) -/
theorem C12_load_on_all_up (d : Decl) (h : d.state = .on) :
    (∀ s ∈ (loadNode d).svcs, s.st = .running) ∧ (∀ a ∈ (loadNode d).apps, a.st = .running) := by
  have hon : (d.state == PState.on) = true := by simp [h]
  have hst : ({ construct d with upDur := 0, downDur := 0 } : Node).st = .on := h
  have hl : (loadNode d).svcs = ((construct d).svcs.map (fun s => (s.start true).1)) ∧
      (loadNode d).apps = ((construct d).apps.map (App.run true)) := by
    unfold loadNode loaderPower
    dsimp only
    rw [if_pos hst, powerOn_instant _ (by show (0 : Int) ≤ 0; omega)]
    exact ⟨rfl, rfl⟩
  rw [hl.1, hl.2]
  simp only [construct, hon, List.map_replicate]
  constructor
  · intro s hs
    rw [List.eq_of_mem_replicate hs]
    decide
  · intro a ha
    rw [List.eq_of_mem_replicate ha]
    decide

/-- the duration the loader configures (node loop of `PrimaiteGame.from_config`, its text is `C12_gen_loader_shapes`): the
node's own value, else the `defaults:` section's, else 3. `C12_load_inv` / `C12_load_state` hold for ANY integer in
`Decl.upDur` / `Decl.downDur`, so they hold for whatever this yields. -/
theorem C12_effective_duration (x y : Int) :
    effectiveDur (some x) (some y) = x ∧ effectiveDur (some x) none = x ∧ effectiveDur none (some y) = y ∧
    effectiveDur none none = 3 := ⟨rfl, rfl, rfl, rfl⟩

/-- **episode set-up.** `Network.setup_for_episode` calls `power_on()` on every node whatever its state: afterwards the
node is ON if `start_up_duration <= 0` (from ANY state — also from SHUTTING_DOWN or BOOTING, see
`C12_setup_jump`), BOOTING with the full countdown if it was OFF, and otherwise in the state it was in; if it is ON,
everything is up (the invariants hold by `C12_inv_all_entry_points`). So a node declared OFF is OFF only until the first `reset()` of the environment. -/
theorem C12_setup_state (n : Node) :
    (setupEpisode n).st = (if n.upDur ≤ 0 then .on else if n.st = .off then .booting else n.st) ∧
    (n.upDur > 0 → n.st = .off → (setupEpisode n).upCd = n.upDur) ∧
    ((setupEpisode n).st = .on → AllUp (setupEpisode n)) := by
  refine ⟨?_, fun hu hoff => ?_, fun hon => ?_⟩
  · exact powerOn_st (enableNics n)
  · exact (powerOn_from_off (enableNics n) hoff).2.1.2.2.1 hu
  · have hison : (powerOn (enableNics n)).1.isOn = true := by
      have : (powerOn (enableNics n)).1.st = .on := hon
      simp [Node.isOn, this]
    exact allUp_lists hison hison _ _ _

/-- (observation, outside the property's quantifier, which is over requests) episode set-up takes a node that a file
declares SHUTTING_DOWN with `start_up_duration: 0` straight to ON — not an edge of the state machine. The invariants
survive (`C12_inv_all_entry_points`). Reproduced on the implementation by the loader family of the rig. -/
theorem C12_setup_jump :
    (setupEpisode (loadNode { st := some .shuttingDown, upDur := 0, downDur := 2, downCd := 2 })).st = .on ∧
    edge 0 2 .shuttingDown .on = false := by decide

/-- so: whatever the file declares, after loading, after episode set-up, and after any further sequence of requests,
ticks, frames and direct API calls, the invariants hold -/
theorem C12_loaded_run_inv (tbl : List Route) (d : Decl) (ops : List XOp) :
    NicInv (xrun tbl (loadNode d) ops) ∧ OffInvS (xrun tbl (loadNode d) ops) :=
  C12_inv_all_entry_points tbl _ ops (C12_load_inv d).1 (C12_load_inv d).2

/-- non-vacuity: a router-like node declared OFF with three interfaces of which two are wired; loaded OFF with
everything down; after episode set-up BOOTING; three ticks later ON with the two wired interfaces up -/
def exDecl : Decl := { st := some .off, upDur := 2, downDur := 0, nics := [.ipWired, .ipWired, .ipWired], wired := [true, true], svcs := 2, apps := 1 }
example : ((loadNode exDecl).st, (loadNode exDecl).nics.map (·.enabled), (loadNode exDecl).svcs.map (·.st),
    (xrun baseRoutes (loadNode exDecl) [.setupEpisode]).st,
    (xrun baseRoutes (loadNode exDecl) [.setupEpisode, .op .tick, .op .tick, .op .tick]).st,
    (xrun baseRoutes (loadNode exDecl) [.setupEpisode, .op .tick, .op .tick, .op .tick]).nics.map (·.enabled)) =
    (.off, [false, false, false], [.stopped, .stopped], .booting, .on, [true, true, false]) := by decide

/-- the API can be used to leave the state machine (which is why the legal-moves theorem is about requests): `reset()`
called on a node that is not ON only sets `is_resetting` (its test `self.operating_state.ON` is always truthy), and the
next ordinary shutdown then restarts the node -/
theorem C12_api_reset_leaves_flag :
    (apiCall exOff .reset).st = .off ∧ (apiCall exOff .reset).resetting = true := by decide

/-- what the shut-down actions do to one service / application -/
def svcDown (s : Service) : Service := s.stop.1
def appDown (a : App) : App := a.close.1
/-- what the start-up actions do (node ON) -/
def svcUp (s : Service) : Service := (s.start true).1
def appUp (a : App) : App := a.run true

theorem svcDown_st (s : Service) :
    (svcDown s).st = (match s.st with | .running => .stopped | .paused => .stopped | x => x) ∧
    (svcDown s).restartCd = s.restartCd ∧ (svcDown s).restartDur = s.restartDur := by
  unfold svcDown Service.stop
  cases h : s.st <;> simp [h]

theorem svcUp_st (s : Service) :
    (svcUp s).st = (match s.st with | .stopped => .running | x => x) ∧
    (svcUp s).restartCd = s.restartCd ∧ (svcUp s).restartDur = s.restartDur := by
  unfold svcUp Service.start nodeAllows
  cases h : s.st <;> simp [h]

/-- **a full power cycle, service by service.** RUNNING, PAUSED and STOPPED all come back RUNNING — the state before the
shutdown is not remembered: a service the user had stopped or paused is started; DISABLED stays DISABLED; a service in
mid-restart / mid-install keeps its state and countdown (frozen while the node is down, `C12_software_clocks_stand_still`). -/
theorem C12_service_cycle (s : Service) :
    (svcUp (svcDown s)).st =
      (match s.st with
       | .running => .running | .paused => .running | .stopped => .running
       | .disabled => .disabled | .installing => .installing | .restarting => .restarting) ∧
    (svcUp (svcDown s)).restartCd = s.restartCd := by
  have h1 := svcDown_st s
  have h2 := svcUp_st (svcDown s)
  refine ⟨?_, by rw [h2.2.1, h1.2.1]⟩
  rw [h2.1, h1.1]
  cases s.st <;> rfl

/-- applications: RUNNING and CLOSED both come back RUNNING (an application the user had closed is opened); one that is
INSTALLING keeps installing -/
theorem C12_application_cycle (a : App) :
    (appUp (appDown a)).st = (match a.st with | .running => .running | .closed => .running | .installing => .installing) ∧
    (appUp (appDown a)).installCd = a.installCd := by
  unfold appUp appDown App.run App.close nodeAllows
  cases h : a.st <;> simp [h]

/-- reaching OFF by an instant shutdown request: all interfaces down, every service `svcDown`, every application `appDown` -/
theorem C12_shutdown_instant_exact {tbl : List Route} (hg : allGuarded tbl = true) (n : Node) (hst : n.st = .on) (sub : Sub)
    (hr : n.resetting = false) (hd : n.downDur ≤ 0) (hin : (tbl.find? (fun r => r.key == "shutdown")).isSome = true) :
    let m := (request tbl n "shutdown" sub).1
    m.st = .off ∧ m.svcs = n.svcs.map svcDown ∧ m.apps = n.apps.map appDown ∧ m.nics = n.nics.map Nic.disable := by
  rw [request_shutdown hg n sub hin hst]
  unfold powerOff
  rw [if_pos hd]
  dsimp only
  have : (setSt (shutDownActions (disableNics n)) .off).resetting = false := hr
  simp only [this]
  exact ⟨rfl, rfl, rfl, rfl⟩

/-- reaching OFF at the end of SHUTTING_DOWN (no reset pending) -/
theorem C12_shutdown_tick_exact (n : Node) (hst : n.st = .shuttingDown) (hc : n.downCd ≤ 0) (hr : n.resetting = false) :
    (tick n).st = .off ∧ (tick n).svcs = n.svcs.map svcDown ∧ (tick n).apps = n.apps.map appDown ∧ (tick n).nics = n.nics := by
  rw [tick_shutting_fire n hst hc, if_neg (by rw [hr]; decide)]
  exact ⟨rfl, rfl, rfl, rfl⟩

/-- reaching ON by an instant start-up request: every interface `enable()`d with the node ON (so: up iff linked),
every service `svcUp`, every application `appUp` -/
theorem C12_startup_instant_exact {tbl : List Route} (hg : allGuarded tbl = true) (n : Node) (hst : n.st = .off) (sub : Sub)
    (hu : n.upDur ≤ 0) (hin : (tbl.find? (fun r => r.key == "startup")).isSome = true) :
    let m := (request tbl n "startup" sub).1
    m.st = .on ∧ m.svcs = n.svcs.map svcUp ∧ m.apps = n.apps.map appUp ∧ m.nics = n.nics.map (Nic.enable true) := by
  rw [request_startup hg n sub hin hst]
  unfold powerOn
  rw [if_pos hu]
  exact ⟨rfl, rfl, rfl, rfl⟩

/-- reaching ON at the end of BOOTING: the same, and the software clock already advances in this tick -/
theorem C12_startup_tick_exact (n : Node) (hst : n.st = .booting) (hc : n.upCd ≤ 0) :
    (tick n).st = .on ∧ (tick n).svcs = n.svcs.map (fun s => (svcUp s).tick) ∧
    (tick n).apps = n.apps.map (fun a => (appUp a).tick) ∧ (tick n).nics = n.nics.map (Nic.enable true) := by
  rw [tick_booting_fire n hst hc]
  exact ⟨rfl, List.map_map .., List.map_map .., rfl⟩

/-- **a whole power cycle by requests with instant durations**: shutdown then startup brings back exactly
`svcUp ∘ svcDown` of every service, `appUp ∘ appDown` of every application, and every LINKED interface (an interface
the user had disabled by request comes back up too; an unlinked one stays down) -/
theorem C12_power_cycle_instant {tbl : List Route} (hg : allGuarded tbl = true) (n : Node) (hst : n.st = .on)
    (hr : n.resetting = false) (hd : n.downDur ≤ 0) (hu : n.upDur ≤ 0) (sub sub' : Sub)
    (h1 : (tbl.find? (fun r => r.key == "shutdown")).isSome = true)
    (h2 : (tbl.find? (fun r => r.key == "startup")).isSome = true) :
    (run tbl n [.request "shutdown" sub, .request "startup" sub']).st = .on ∧
    (run tbl n [.request "shutdown" sub, .request "startup" sub']).svcs = n.svcs.map (fun s => svcUp (svcDown s)) ∧
    (run tbl n [.request "shutdown" sub, .request "startup" sub']).apps = n.apps.map (fun a => appUp (appDown a)) ∧
    (run tbl n [.request "shutdown" sub, .request "startup" sub']).nics = n.nics.map (fun c => Nic.enable true (Nic.disable c)) := by
  obtain ⟨a1, a2, a3, a4⟩ := C12_shutdown_instant_exact hg n hst sub hr hd h1
  have hu' : (request tbl n "shutdown" sub).1.upDur ≤ 0 := by
    rw [request_shutdown hg n sub h1 hst, (powerOff_dur n).1]
    exact hu
  obtain ⟨b1, b2, b3, b4⟩ := C12_startup_instant_exact hg (request tbl n "shutdown" sub).1 a1 sub' hu' h2
  rw [a2, List.map_map] at b2
  rw [a3, List.map_map] at b3
  rw [a4, List.map_map] at b4
  exact ⟨b1, b2, b3, b4⟩

/-- the same with real durations, tick by tick, on the example node: shut down (duration 3), started (duration 2); the
PAUSED service is RUNNING afterwards, the DISABLED one DISABLED, the restart that was in progress resumes -/
example : let m := run baseRoutes exOn [shutdownOp, .tick, .tick, .tick, .tick, startupOp, .tick, .tick, .tick]
    (m.st, m.svcs.map (·.st), m.svcs.map (·.restartCd), m.apps.map (·.st)) =
    (.on, [.running, .running, .disabled, .restarting], [0, 0, 0, 0], [.running, .running]) := by decide

theorem powerOn_setDown (n : Node) (d : Int) :
    (powerOn { n with downDur := d }).1 = { (powerOn n).1 with downDur := d } := by
  unfold powerOn
  dsimp only
  split
  · rfl
  · split <;> rfl

/-- `apply_timestep` never reads `shut_down_duration`: changing it commutes with a tick, in every state -/
theorem C12_tick_ignores_down_duration (n : Node) (d : Int) :
    tick { n with downDur := d } = { tick n with downDur := d } := by
  have h1 : tickUp { n with downDur := d } = { tickUp n with downDur := d } := by
    unfold tickUp; dsimp only
    split
    · rfl
    · split <;> rfl
  have h2 : ∀ m : Node, tickDown { m with downDur := d } = { tickDown m with downDur := d } := by
    intro m
    unfold tickDown
    dsimp only [setSt, shutDownActions]
    split
    · rfl
    · split
      · split
        · exact powerOn_setDown { shutDownActions (setSt m .off) with resetting := false } d
        · rfl
      · rfl
  have h3 : ∀ m : Node, tickSoftware { m with downDur := d } = { tickSoftware m with downDur := d } := by
    intro m
    unfold tickSoftware; dsimp only
    split <;> rfl
  unfold tick
  rw [h1, h2, h3]

/-- the extended operations that neither call the API directly nor set an episode up -/
def XOp.plain : XOp → Bool
  | .op _ => true | .preTick => true | .setDur _ _ => true | _ => false

def xticksIn : List XOp → Nat
  | [] => 0
  | .op .tick :: ops => xticksIn ops + 1
  | _ :: ops => xticksIn ops

def FrozenX (n n' : Node) : Prop :=
  n'.st = n.st ∧ n'.hist = n.hist ∧ n'.nics = n.nics ∧ n'.svcs = n.svcs ∧ n'.apps = n.apps ∧ n'.resetting = n.resetting

theorem xticksIn_op_cons (o : Op) (ops : List XOp) : xticksIn (.op o :: ops) = ticksIn [o] + xticksIn ops := by
  cases o <;> simp [xticksIn, ticksIn]; omega

/-- `run_idle` for a transitional state with pre-timesteps and changes of the configured durations interleaved: the
durations are read when a transition starts (`power_on` / `power_off` copy them into the countdown), not while it runs -/
theorem xrun_transitional {tbl : List Route} (hg : allGuarded tbl = true) (n : Node)
    (h : n.st = .booting ∨ n.st = .shuttingDown) (ops : List XOp) (hp : ops.all XOp.plain = true)
    (hu : n.st = .booting → (xticksIn ops : Int) ≤ n.upCd) (hd : n.st = .shuttingDown → (xticksIn ops : Int) ≤ n.downCd) :
    ∃ a b u d, xrun tbl n ops = { n with upCd := a, downCd := b, upDur := u, downDur := d } ∧
      (n.st = .booting → a = n.upCd - xticksIn ops) ∧ (n.st = .shuttingDown → b = n.downCd - xticksIn ops) := by
  induction ops generalizing n with
  | nil => exact ⟨n.upCd, n.downCd, n.upDur, n.downDur, rfl, fun _ => by simp [xticksIn], fun _ => by simp [xticksIn]⟩
  | cons o ops ih =>
    simp only [List.all_cons, Bool.and_eq_true] at hp
    obtain ⟨hp1, hp2⟩ := hp
    cases o with
    | api c => cases hp1
    | setupEpisode => cases hp1
    | preTick => exact ih n h hp2 hu hd
    | setDur u d => exact ih (setDur n u d) h hp2 hu hd
    | op o =>
      rw [xticksIn_op_cons] at hu hd ⊢
      have hne : n.st ≠ .on := by rcases h with h | h <;> rw [h] <;> decide
      obtain ⟨a0, b0, e0, ha0, hb0⟩ := run_idle hg n hne [o] (fun hoff => by rcases h with h | h <;> rw [h] at hoff <;> cases hoff)
        (fun hb => by have := hu hb; omega) (fun hs => by have := hd hs; omega)
      obtain ⟨a, b, u, d, e, ha, hb⟩ := ih { n with upCd := a0, downCd := b0 } h hp2
        (fun hb => by have := hu hb; have := ha0 hb; show _ ≤ a0; omega)
        (fun hs => by have := hd hs; have := hb0 hs; show _ ≤ b0; omega)
      refine ⟨a, b, u, d, ?_, fun hb' => ?_, fun hs => ?_⟩
      · show xrun tbl (run tbl n [o]) ops = _
        rw [e0, e]
      · have := ha0 hb'; have : a = a0 - xticksIn ops := ha hb'; omega
      · have := hb0 hs; have : b = b0 - xticksIn ops := hb hs; omega

/-- **a running countdown is not affected by a change of the configured durations** (they are read when a transition
starts: `power_on` / `power_off` copy the duration into the countdown). A BOOTING node with countdown `c` is still
BOOTING, with countdown `c − #ticks`, after any sequence of requests, frames, pre-timesteps, ticks and changes of
`start_up_duration` / `shut_down_duration` to arbitrary integers that contains at most `c` ticks. -/
theorem C12_boot_held_under_duration_changes {tbl : List Route} (hg : allGuarded tbl = true) (n : Node)
    (hst : n.st = .booting) (ops : List XOp) (hp : ops.all XOp.plain = true) (hle : (xticksIn ops : Int) ≤ n.upCd) :
    FrozenX n (xrun tbl n ops) ∧ (xrun tbl n ops).upCd = n.upCd - xticksIn ops := by
  obtain ⟨a, b, u, d, e, ha, _⟩ :=
    xrun_transitional hg n (Or.inl hst) ops hp (fun _ => hle) (fun h => by rw [hst] at h; cases h)
  rw [e]
  exact ⟨⟨rfl, rfl, rfl, rfl, rfl, rfl⟩, ha hst⟩

/-- the same for SHUTTING_DOWN -/
theorem C12_shutdown_held_under_duration_changes {tbl : List Route} (hg : allGuarded tbl = true) (n : Node)
    (hst : n.st = .shuttingDown) (ops : List XOp) (hp : ops.all XOp.plain = true) (hle : (xticksIn ops : Int) ≤ n.downCd) :
    FrozenX n (xrun tbl n ops) ∧ (xrun tbl n ops).downCd = n.downCd - xticksIn ops := by
  obtain ⟨a, b, u, d, e, _, hb⟩ :=
    xrun_transitional hg n (Or.inr hst) ops hp (fun h => by rw [hst] at h; cases h) (fun _ => hle)
  rw [e]
  exact ⟨⟨rfl, rfl, rfl, rfl, rfl, rfl⟩, hb hst⟩

/-- non-vacuity, with a negative and a huge duration set in mid-boot: the countdown of 2 still runs out at tick 3 -/
example : let ops : List XOp := [.op startupOp, .setDur (-5) 1000000000000, .op .tick, .op .tick]
    ((xrun baseRoutes exOff ops).st, (xrun baseRoutes exOff (ops ++ [.op .tick])).st) = (.booting, .on) := by decide

/-- the duration that counts is the one configured when the transition STARTS (here: changed to 0 before the request) -/
example : (xrun baseRoutes exOff [.setDur 0 3, .op startupOp]).st = .on ∧
    (xrun baseRoutes exOff [.setDur (-7) 3, .op startupOp]).st = .on ∧
    (xrun baseRoutes exOff [.setDur 1000000000000 3, .op startupOp, .op .tick]).upCd = 999999999999 := by decide

/-- **a ping along a path needs every node on it ON**: the source, and the owner of every interface the frames cross
(both ports of a switch, both interfaces of a router or firewall, the access point of a wireless router, the target) -/
theorem C12_path_needs_all_on (src : Node) (hops : List (Node × Nat)) (hinv : ∀ h ∈ hops, NicInv h.1)
    (h : pathOk src hops = true) : src.st = .on ∧ ∀ h ∈ hops, h.1.st = .on := by
  simp only [pathOk, Bool.and_eq_true, Node.isOn, beq_iff_eq, List.all_eq_true] at h
  refine ⟨h.1, ?_⟩
  intro hp hmem
  have hpass := h.2 hp hmem
  by_cases hon : hp.1.st = .on
  · exact hon
  · rw [nicPasses_of_nicsOff (hinv hp hmem hon) hp.2] at hpass; cases hpass

example : pathOk exOn [(exOn, 0)] = true ∧ pathOk exOn [(exOn, 0), (exOff, 0)] = false := by decide

/-- the power-relevant statements of `Node.__init__`, `connect_nic`, the interfaces' `setup_for_episode` /
`connect_link`, `Network.setup_for_episode`, `Router.setup_for_episode`, the node loop of `PrimaiteGame.from_config`,
`SoftwareManager.install`, and of the constructor and `from_config` of every node class are the ones `construct`,
`loaderPower`, `wireUp` and `setupEpisode` model (F-53 was a `power_on()` in `Firewall.__init__`: it would show here) -/
theorem C12_gen_loader_shapes :
    Gen.Power.loaderShapes = [
  ("Node.__init__", "self.operating_state = NodeOperatingState.ON if not (p := kwargs['config'].operating_state) else NodeOperatingState[p.upper()]"),
  ("Node.connect_nic", "if(self.operating_state == NodeOperatingState.ON)[network_interface.enable()]"),
  ("Node.setup_for_episode", "super().setup_for_episode(episode=episode);self.file_system.setup_for_episode(episode=episode);for(network_interface in self.network_interfaces.values())[network_interface.setup_for_episode(episode=episode)];for(software in self.software_manager.software.values())[software.setup_for_episode(episode=episode)];if(episode and self.sys_log)[self.sys_log.current_episode = episode]"),
  ("NetworkInterface.setup_for_episode", "super().setup_for_episode(episode=episode);self.enable()"),
  ("WiredNetworkInterface.connect_link", "if(self._connected_link)[return];if(self._connected_link == link)[return];self._connected_link = link;self.enable()"),
  ("WiredNetworkInterface.disconnect_link", "self.disable()"),
  ("Network.setup_for_episode", "for(node in self.nodes.values())[node.setup_for_episode(episode=episode)];for(link in self.links.values())[link.setup_for_episode(episode=episode)];for(node in self.nodes.values())[node.power_on();for(network_interface in node.network_interfaces.values())[network_interface.enable()];for(software in node.software_manager.software.values())[if(isinstance(software, Service))[software.start()]else[if(isinstance(software, Application))[software.run()]]]]"),
  ("Router.setup_for_episode", "self.software_manager.arp.clear();for((i, _) in self.network_interface.items())[self.enable_port(i)];super().setup_for_episode(episode=episode)"),
  ("Router.enable_port", "network_interface = self.network_interface.get(port);if(network_interface)[network_interface.enable()]"),
  ("PrimaiteGame.from_config.node_loop", "new_node.config.start_up_duration = 0;new_node.config.shut_down_duration = 0;net.add_node(new_node);if(new_node.operating_state == NodeOperatingState.ON)[new_node.power_on()];new_node.config.start_up_duration = int(node_cfg.get('start_up_duration', defaults_config.get('node_start_up_duration', 3)));new_node.config.shut_down_duration = int(node_cfg.get('shut_down_duration', defaults_config.get('node_shut_down_duration', 3)))"),
  ("SoftwareManager.install", "if(isinstance(software, Application))[self.node.applications[software.uuid] = software;self.node._application_request_manager.add_request(software.name, RequestType(func=software._request_manager))]else[if(isinstance(software, Service))[self.node.services[software.uuid] = software;self.node._service_request_manager.add_request(software.name, RequestType(func=software._request_manager));software.start()]];software.install();if(isinstance(software, Application))[software.operating_state = ApplicationOperatingState.CLOSED]"),
  ("HostNode.__init__", ""),
  ("Router.__init__", ""),
  ("Router.from_config", "router.operating_state = NodeOperatingState.ON if not (p := config.get('operating_state')) else NodeOperatingState[p.upper()]"),
  ("Switch.__init__", ""),
  ("Firewall.__init__", ""),
  ("Firewall.from_config", ""),
  ("WirelessRouter.__init__", ""),
  ("WirelessRouter.from_config", "router.operating_state = NodeOperatingState.ON if not (p := config.get('operating_state')) else NodeOperatingState[p.upper()]")
] := rfl

/-- every place under `src/primaite` that calls `power_on()` / `power_off()`: the request handlers, `reset`, the two
automatic restarts, the loader, episode set-up, and the three network-building helpers (fresh nodes) -/
theorem C12_gen_power_call_sites :
    Gen.Power.powerCallSites =
      [("game/game.py", "from_config:power_on", 1), ("simulator/network/container.py", "setup_for_episode:power_on", 1),
       ("simulator/network/creation.py", "add_nodes_to_net:power_on", 5),
       ("simulator/network/hardware/base.py", "_init_request_manager:power_off", 1),
       ("simulator/network/hardware/base.py", "_init_request_manager:power_on", 1),
       ("simulator/network/hardware/base.py", "apply_timestep:power_on", 1),
       ("simulator/network/hardware/base.py", "power_off:power_on", 1),
       ("simulator/network/hardware/base.py", "reset:power_off", 1),
       ("simulator/network/networks.py", "arcd_uc2_network:power_on", 10),
       ("simulator/network/networks.py", "client_server_routed:power_on", 5)] := rfl

end Primaite.Power
