/-
C17 — ties of the model to the regenerated TABLES (`Gen/Database.lean`, harness/extract/database.py): status codes, health
sets, operators, validator table, defaults.  Kept in a module of their own so that a table that no longer matches breaks
these obligations only (the theorems about the translated methods are in the other `Props/C17*` modules).
-/
import PrimaiteModel.Props.C17
import PrimaiteModel.Gen.Database
import PrimaiteModel.Gen.DatabaseConnWriters
namespace Primaite.Database

/-- The model's ladder uses the status codes, the health set, the password operator and the capacity operator the
source has now. -/
theorem C17_gen_connect :
    Gen.Database.connectNotRunning = 404 ∧ Gen.Database.connectUnavailable = 503 ∧ Gen.Database.connectUnauthorised = 401 ∧
    Gen.Database.connectAddFailed = 500 ∧ Gen.Database.connectOk = 200 ∧ Gen.Database.connectDefault = 500 ∧
    Gen.Database.connectPasswordOp = "==" ∧ Gen.Database.capacityOp = ">=" ∧
    Gen.Database.connectIdGeneratedBeforeAdd = true ∧
    (∀ h : Health, healthAcceptsConnect h = Gen.Database.connectHealthAccept.contains h.name) ∧
    (∀ h : Health, (h.name, match h with | .unused => 0 | .good => 1 | .fixing => 2 | .compromised => 3 | .overwhelmed => 4)
        ∈ Gen.Database.healthValues) ∧ Gen.Database.healthValues.length = 5 := by
  refine ⟨rfl, rfl, rfl, rfl, rfl, rfl, rfl, rfl, rfl, ?_, ?_, rfl⟩
  · intro h; cases h <;> rfl
  · intro h; cases h <;> simp only [Health.name, Gen.Database.healthValues, List.mem_cons, Prod.mk.injEq, String.reduceEq, and_self,
      or_false, or_true, List.mem_nil_iff, reduceCtorEq, Nat.reduceEqDiff]

/-- `_process_sql` and the gate in `receive`. -/
theorem C17_gen_sql :
    Gen.Database.receiveGuardFirst = true ∧ Gen.Database.sqlUnknownConnection = 401 ∧ Gen.Database.receiveDefault = 500 ∧
    Gen.Database.sqlMissingFile = (processSql { file := none } .select).2 ∧
    Gen.Database.sqlUnhealthy = (processSql { health := .compromised } .select).2 ∧
    Gen.Database.selectGood = (processSql {} .select).2 ∧
    Gen.Database.selectCorrupt = (processSql { file := some .corrupt } .select).2 ∧
    Gen.Database.selectElse = (processSql { file := some .compromised } .select).2 ∧
    Gen.Database.deleteStatus = (processSql {} .delete).2 ∧
    some Gen.Database.deleteSets = (processSql {} .delete).1.file.map FHealth.name ∧
    Gen.Database.encryptStatus = (processSql {} .encrypt).2 ∧
    some Gen.Database.encryptSets = (processSql {} .encrypt).1.file.map FHealth.name ∧
    Gen.Database.insertStatus = (processSql {} .insert).2 ∧
    Gen.Database.pgstatStatus = (processSql {} .pgstat).2 ∧
    Gen.Database.unknownQueryStatus = (processSql {} .other).2 ∧
    Gen.Database.sqlBranchOrder = ["SELECT", "DELETE", "ENCRYPT", "INSERT", "SELECT * FROM pg_stat_activity"] :=
  ⟨rfl, rfl, rfl, rfl, rfl, rfl, rfl, rfl, rfl, rfl, rfl, rfl, rfl, rfl, rfl, rfl⟩

/-- Validators of the service request manager, defaults, fix acceptance, the tick at which the backup is taken. -/
theorem C17_gen_lifecycle :
    (∀ r : SvcReq, r ≠ .compromise →
        (svcReqName r, match modelValidator r with | some st => st.name | none => "-") ∈ Gen.Database.requestValidators) ∧
    Gen.Database.fixAccepts = ["COMPROMISED", "GOOD"] ∧
    Gen.Database.fixingDurationDefault = ({} : Server).fixDur ∧
    Gen.Database.restartDurationDefault = ({} : Server).restartDur ∧
    Gen.Database.maxSessionsDefault = ({} : Server).maxSessions ∧
    Gen.Database.backupAtTimestep = 1 ∧ Gen.Database.restoreWhenFixCompletes = true ∧
    Gen.Database.methodGuards = [("stop", ["RUNNING", "PAUSED"], "STOPPED"), ("pause", ["RUNNING"], "PAUSED"),
      ("resume", ["PAUSED"], "RUNNING"), ("restart", ["RUNNING", "PAUSED"], "RESTARTING"), ("enable", ["DISABLED"], "STOPPED"),
      ("start", ["STOPPED"], "RUNNING")] := by
  refine ⟨?_, rfl, rfl, rfl, rfl, rfl, rfl, rfl⟩
  intro r hr; cases r <;> first | decide | exact absurd rfl hr

/-- Gen tie for the defaults a freshly installed instance gets (software.py / service.py, regenerated on every run): the
re-installed database service's session limit and durations, and the FTP client's restart / fix durations. -/
theorem C17_gen_fresh_instance_defaults :
    ftpcRestartDur = Gen.Database.restartDurationDefault ∧ ftpcFixDur = Gen.Database.fixingDurationDefault ∧
    ∀ (s : Server) (cfg : Option InstCfg), (s.reinstall cfg).2 = .done →
      (s.reinstall cfg).1.maxSessions = Gen.Database.maxSessionsDefault ∧
      (s.reinstall cfg).1.restartDur = Gen.Database.restartDurationDefault ∧
      (s.reinstall cfg).1.fixDur = (cfg.getD { bk := false }).fixDur ∧
      ({} : InstCfg).fixDur = Gen.Database.fixingDurationDefault := by
  refine ⟨rfl, rfl, ?_⟩
  intro s cfg h
  rcases reinstall_cases s cfg with ⟨hn, _⟩ | ⟨_, _, _, _, e⟩
  · exact absurd h hn
  · exact ⟨by rw [e]; rfl, by rw [e]; rfl, by rw [e], rfl⟩

/-- **Who can write the connection table** (the frame behind `C17_table_grows_only_by_authorised_connect`,
`C17_closed_stays_closed_run`, `C17_sessions_bounded_run`): in the source as it is now, the only methods of the database service's
class chain that mutate `self._connections` are `add_connection`, `terminate_connection` and `clear_connections`; inside the chain
the first is called from `_process_connect` only, the second from `receive` only (both translated: `C17_tr_process_connect`,
`C17_tr_receive`), the third not at all; in the whole tree `clear_connections` is called by the DoS bot on ITSELF only, and the
only write to another object's `_connections` is the user-session manager's on the terminal service. -/
theorem C17_gen_table_writers :
    Gen.DatabaseConnWriters.writersInChain =
      ["IOSoftware.add_connection", "IOSoftware.clear_connections", "IOSoftware.terminate_connection"] ∧
    Gen.DatabaseConnWriters.callsInChain =
      ["DatabaseService._process_connect:self.add_connection", "DatabaseService.receive:self.terminate_connection"] ∧
    Gen.DatabaseConnWriters.clearCallers =
      ["simulator/system/applications/red_applications/dos_bot.py:DoSBot._application_loop:self"] ∧
    Gen.DatabaseConnWriters.foreignWrites =
      ["simulator/network/hardware/base.py:UserSessionManager._timeout_session:self.parent.terminal"] :=
  ⟨rfl, rfl, rfl, rfl⟩

end Primaite.Database
