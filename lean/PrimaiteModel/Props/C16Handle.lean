/-
Props.C16Handle — kept connection objects (Model.SessionHandle): a connection object somebody holds on to executes a command only
while the session it was opened on is live.

* local objects (`LocalTerminalConnection`): `C16_local_handle_executes_iff`, `C16_local_handle_needs_live_session`,
  `C16_local_ended_stays_ended` (run level: the id of a local session that ended is never the id of the node's local session
  again), `C16_local_handle_dead_for_ever`, and the three ending events as producers of `LocDead`;
* remote objects (`RemoteTerminalConnection`): `C16_remote_handle_outcomes`, `C16_remote_handle_needs_live_session`,
  `C16_request_is_handle_exec` (the request `send_remote_command` IS the handle operation on the first connection towards that
  address), `C16_handle_dead_after_disconnect`, `C16_handle_on_ended_session_runs_nothing` (run level, over sequences that
  themselves contain handle operations);
* tie: `C16_gen_local_execute` / `C16_gen_remote_execute` (the guard clauses of the two `execute` methods TRANSLATED to a Boolean
  function and proved equal to the model's test for all inputs), `C16_gen_handle_plumbing`.
-/
import PrimaiteModel.Props.C16Ends
namespace Primaite.Session

/-! ### tie to the source -/

/-- **Gen, semantic.** `LocalTerminalConnection.execute`, translated from its guard clauses (whatever their order or grouping),
refuses exactly when the model's `handleExecLocalK` does: terminal not RUNNING, or `is_active` false, or the node's current
local session is not the one with this connection's id. -/
theorem C16_gen_local_execute (running active : Bool) (loc : Option Nat) (cid : Nat) :
    Gen.Session.localExecuteRefuses running active loc cid = !(running && active && (loc == some cid)) := by
  unfold Gen.Session.localExecuteRefuses
  cases running <;> cases active <;> cases loc <;> simp <;>
    (rename_i v; by_cases h : v = cid <;> simp [h])

/-- … and `RemoteTerminalConnection.execute` refuses before sending exactly when the terminal is not RUNNING or `is_active` is
false. -/
theorem C16_gen_remote_execute (running active : Bool) :
    Gen.Session.remoteExecuteRefuses running active = !(running && active) := by
  unfold Gen.Session.remoteExecuteRefuses
  cases running <;> cases active <;> simp

/-- what the two methods do when they do not refuse; what the packet of a remote execute carries (the object's OWN
`connection_uuid`, the command); `disconnect()` is `_disconnect` of the object's own id; `_disconnect` deactivates the object it
popped; `is_active` starts True and is only ever set False (terminal.py: in `_disconnect` and on a received `user_timeout`). -/
theorem C16_gen_handle_plumbing :
    Gen.Session.localExecuteRest = ["return self.parent_terminal.execute(command)"] ∧
    Gen.Session.remoteExecuteRest = ["return self.parent_terminal.send(payload=payload, session_id=self.ssh_session_id)"] ∧
    Gen.Session.remoteExecutePacket =
      [("connection_message", "SSHConnectionMessage.SSH_MSG_CHANNEL_DATA"), ("connection_request_uuid", "self.connection_request_id"),
       ("connection_uuid", "self.connection_uuid"), ("ssh_command", "command"),
       ("transport_message", "SSHTransportMessage.SSH_MSG_SERVICE_REQUEST")] ∧
    Gen.Session.connectionDisconnect = ["return self.parent_terminal._disconnect(connection_uuid=self.connection_uuid)"] ∧
    Gen.Session.terminalDisconnectHead =
      ["if not self._connections: return False", "connection = self._connections.pop(connection_uuid, None)",
       "if not connection: return False", "connection.is_active = False"] ∧
    Gen.Session.isActiveDefaults = ["TerminalClientConnection.is_active = True"] ∧
    Gen.Session.isActiveWrites =
      ["simulator/system/applications/database_client.py:DatabaseClient._disconnect: connection.is_active = False",
       "simulator/system/services/terminal/terminal.py:Terminal._disconnect: connection.is_active = False",
       "simulator/system/services/terminal/terminal.py:Terminal.receive: connection.is_active = False"] :=
  ⟨rfl, rfl, rfl, rfl, rfl, rfl, rfl⟩

/-! ### local connection objects -/

/-- **C16, kept local connection.** The command handed to a kept local connection object is executed iff the terminal is RUNNING,
the object is active and the node's current local session is the one the connection was opened on; otherwise NOTHING changes
anywhere and the answer is `failure`. -/
theorem C16_local_handle_executes_iff (K : Net → Net × Out) (n : Net) (y cid : Nat) (active : Bool) (b : Node)
    (hb : n.node y = some b) :
    (b.term.running = true ∧ active = true ∧ (∃ l, b.loc = some l ∧ l.id = cid) ∧ handleExecLocalK K n y cid active = K n) ∨
    (¬ (b.term.running = true ∧ active = true ∧ ∃ l, b.loc = some l ∧ l.id = cid) ∧
      handleExecLocalK K n y cid active = (n, .failure)) := by
  unfold handleExecLocalK
  simp only [hb]
  cases hr : b.term.running with
  | false => exact Or.inr ⟨fun h => (by cases h.1), rfl⟩
  | true =>
    cases active with
    | false => exact Or.inr ⟨fun h => (by cases h.2.1), rfl⟩
    | true =>
      cases hl : b.loc with
      | none => exact Or.inr ⟨fun ⟨_, _, _, h, _⟩ => (by cases h), rfl⟩
      | some l =>
        by_cases hid : l.id = cid
        · exact Or.inl ⟨rfl, rfl, ⟨l, rfl, hid⟩, by simp [hid]⟩
        · exact Or.inr ⟨fun ⟨_, _, _, h, h'⟩ => (by cases h; exact hid h'), by simp [hid]⟩

/-- the id has been handed out and is not the id of node `y`'s local session -/
def LocDead (y cid : Nat) (n : Net) : Prop := cid < n.nextId ∧ ∀ b l, n.node y = some b → b.loc = some l → l.id ≠ cid

/-- **C16, kept local connection, "only while live".** While the local session the connection was opened on is not the node's
current local session (ended by logout, time-out, password change, or replaced by another user's login), a command on the kept
object changes nothing — whatever the object's `is_active` says, whatever the command. -/
theorem C16_local_handle_needs_live_session (K : Net → Net × Out) (n : Net) (y cid : Nat) (active : Bool) (b : Node)
    (hb : n.node y = some b) (hd : ∀ l, b.loc = some l → l.id ≠ cid) :
    handleExecLocalK K n y cid active = (n, .failure) := by
  rcases C16_local_handle_executes_iff K n y cid active b hb with ⟨_, _, ⟨l, hl, hid⟩, _⟩ | ⟨_, h⟩
  · exact (hd l hl hid).elim
  · exact h

theorem locDead_of_connStep {y cid : Nat} {n m : Net} (h : ConnStep n m) (hd : LocDead y cid n) : LocDead y cid m := by
  refine ⟨Nat.lt_of_lt_of_le hd.1 h.mono, fun a l ha hl => ?_⟩
  obtain ⟨b, hb, _, hloc⟩ := h.node y a ha
  rcases hloc l hl with h1 | h1
  · exact hd.2 b l hb h1
  · have := hd.1; omega

theorem step_locDead (n : Net) (op : Op) (y cid : Nat) (hd : LocDead y cid n) : LocDead y cid (step n op).1 :=
  locDead_of_connStep (connStep_step n op) hd

/-- **C16, ended stays ended (local).** Once an id that has been handed out is not (or no longer) the id of node `y`'s local
session, it never is again, whatever operations follow: a new local session always gets a fresh id. -/
theorem C16_local_ended_stays_ended (ops : List Op) (n : Net) (y cid : Nat) (hd : LocDead y cid n) : LocDead y cid (run n ops) :=
  run_induction (LocDead y cid) (fun n op => step_locDead n op y cid) ops n hd

/-- **C16, a kept local connection is dead for ever.** … so a command on a kept local connection object whose session has ended
changes nothing at any later time, whatever happened in between (the same user logging in again included: that is a new
session with a new id). -/
theorem C16_local_handle_dead_for_ever (ops : List Op) (n : Net) (y cid : Nat) (hd : LocDead y cid n) (K : Net → Net × Out)
    (active : Bool) (b : Node) (hb : (run n ops).node y = some b) :
    handleExecLocalK K (run n ops) y cid active = (run n ops, .failure) :=
  C16_local_handle_needs_live_session K (run n ops) y cid active b hb
    (fun l hl => (C16_local_ended_stays_ended ops n y cid hd).2 b l hb hl)

/-- the three ending events produce `LocDead` (the id of a listed local session is below the counter in every reachable state:
`ConnInv.locIds`, `C16_conn_inv_run`) -/
theorem C16_local_handle_dead_after_timeout (n : Net) (y : Nat) (b : Node) (l : LSession) (hb : n.node y = some b)
    (hl : b.loc = some l) (hid : l.id < n.nextId) (hexp : l.last + b.localTimeout ≤ n.time + 1) : LocDead y l.id (tick n) := by
  refine ⟨by rw [tick_nextId]; exact hid, fun a l' ha hl' => ?_⟩
  obtain ⟨a', ha', hnone⟩ := C16_local_session_ends_at_timeout n y b l hb hl hexp
  rw [ha] at ha'; cases ha'
  rw [hnone] at hl'; cases hl'

theorem C16_local_handle_dead_after_password_change (n : Net) (y : Nat) (u old new : String) (b : Node) (l : LSession)
    (hb : n.node y = some b) (hl : b.loc = some l) (hu : l.user = u) (hid : l.id < n.nextId)
    (h : (step n (.req y (.changePassword u old new))).2 = .success) :
    LocDead y l.id (step n (.req y (.changePassword u old new))).1 := by
  refine ⟨Nat.lt_of_lt_of_le hid (step_nextId_mono n _), fun a l' ha hl' => ?_⟩
  have hends := (C16_password_change_ends_sessions n y u old new h a ha).2 l' hl'
  have hrel : Net.Rel LocShrink n (step n (.req y (.changePassword u old new))).1 :=
    exec_locShrink (.changePassword u old new) rfl n y
  rcases hrel.of_nodes hb ha with hk | hk
  · rw [hk, hl] at hl'; cases hl'; exact (hends hu).elim
  · rw [hk] at hl'; cases hl'

theorem C16_local_handle_dead_after_logout (n : Net) (y : Nat) (b : Node) (l : LSession) (hb : n.node y = some b)
    (hl : b.loc = some l) (hid : l.id < n.nextId) (h : (step n (.localLogout y)).2 = .success) :
    LocDead y l.id (step n (.localLogout y)).1 := by
  refine ⟨Nat.lt_of_lt_of_le hid (step_nextId_mono n _), fun a l' ha hl' => ?_⟩
  obtain ⟨a', ha', hnone⟩ := (C16_local_logout_iff n y b hb).2.1 h
  rw [ha] at ha'; cases ha'
  rw [hnone] at hl'; cases hl'

/-! ### remote connection objects -/

/-- the three outcomes of `execute` on a kept remote connection object -/
theorem C16_remote_handle_outcomes (K : Net → Net × Out) (n : Net) (x y cid : Nat) :
    ((handleExecRemoteK K n x y cid).1 = n ∧ (handleExecRemoteK K n x y cid).2 ≠ .success) ∨
    (∃ a b, n.node x = some a ∧ n.node y = some b ∧ a.isOn = true ∧ a.term.running = true ∧ a.hasConn cid = true ∧
        canDeliver n x y = true ∧
      ((b.hasSession cid = true ∧ b.hasConn cid = true ∧
          (handleExecRemoteK K n x y cid).1 = (K (n.upd y (Node.touch cid n.time))).1 ∧
          ((handleExecRemoteK K n x y cid).2 = .success → (K (n.upd y (Node.touch cid n.time))).2 = .success)) ∨
       (b.hasSession cid = false ∧ (handleExecRemoteK K n x y cid).1 = disconnect n.fuel n y cid ∧
          (handleExecRemoteK K n x y cid).2 = .failure))) := by
  rcases handleExecRemoteK_arrives K n x y cid with h | ⟨a, b, ha, hb, hon, ht, hc, hp, h⟩
  · exact Or.inl h
  · rw [h]
    exact (receiveCmdK_cases K n x y cid b).imp_right (fun h0 => ⟨a, b, ha, hb, hon, ht, hc, hp, h0⟩)

/-- **C16, kept remote connection, "only while live".** A command on a kept remote connection object whose id is not (or no
longer) a remote session of the target is never executed: sessions / connections may be torn down, every node's files, users,
power and services are as before, and the answer is not `success` — whatever the object's state, whatever the command. -/
theorem C16_remote_handle_needs_live_session (K : Net → Net × Out) (n : Net) (x y cid : Nat)
    (hdead : ∀ b, n.node y = some b → b.hasSession cid = false) :
    n.Shr (handleExecRemoteK K n x y cid).1 ∧ (handleExecRemoteK K n x y cid).2 ≠ .success := by
  rcases C16_remote_handle_outcomes K n x y cid with ⟨h0, h1⟩ | ⟨a, b, _, hb, _, _, _, _, ⟨hs, _⟩ | ⟨_, h0, h1⟩⟩
  · rw [h0]; exact ⟨Net.Shr.refl _, h1⟩
  · rw [hdead b hb] at hs; cases hs
  · rw [h0, h1]; exact ⟨shr_disconnect _ _ _ _, by simp⟩

/-- **C16, the request is the handle operation.** `send_remote_command ip(y)` on an ON node is `execute` on the FIRST connection
object towards `y` in the dictionary: every theorem about the request speaks about this operation, and the handle operation adds
exactly the other connection objects. -/
theorem C16_request_is_handle_exec (K : Net → Net × Out) (n : Net) (x y : Nat) (a : Node) (c : Conn) (ha : n.node x = some a)
    (hon : a.isOn = true) (hc : a.conns.find? (fun c => c.peer == some y) = some c) :
    opRemoteCmdK K n x y = handleExecRemoteK K n x y c.id :=
  opRemoteCmdK_eq_handle K ha hon hc

/-- **C16, logoff on a kept connection.** After `disconnect()` on a kept remote connection object, a command on that object
changes nothing and is answered `failure` — whether or not the disconnect message reached the target (path blocked, target's
terminal or session manager down: the target may still list the session until its time-out, but THIS object cannot use it). -/
theorem C16_handle_dead_after_disconnect (K : Net → Net × Out) (n : Net) (x y cid : Nat) :
    handleExecRemoteK K (handleDisconnect n x cid).1 x y cid = ((handleDisconnect n x cid).1, .failure) ∨
    handleExecRemoteK K (handleDisconnect n x cid).1 x y cid = ((handleDisconnect n x cid).1, .unreachable) := by
  unfold handleDisconnect
  cases ha : n.node x with
  | none =>
    dsimp only
    right
    unfold handleExecRemoteK
    simp only [ha]
  | some a =>
    dsimp only
    left
    cases ha' : (disconnect n.fuel n x cid).node x with
    | none =>
      have := (shr_disconnect n.fuel n x cid).node x a ha
      obtain ⟨b, hb, _⟩ := this
      rw [ha'] at hb; cases hb
    | some a' =>
      have hno := disconnect_noConn n x cid a' ha'
      unfold handleExecRemoteK
      simp only [ha', hno, Bool.not_false, if_true]
      split <;> rfl

/-! ### sequences that themselves contain handle operations -/

/-- A property of the network that every operation keeps and that survives every change in which session ids and connections only
disappear, a local session stays or ends and the counter does not go back — sessions / connections being torn down, the clock of a
session being set — is kept by every operation on kept connection objects: a handle operation does nothing, or runs a request, or is
the target side of a remote command, or a `_disconnect`. -/
theorem hstep_preserves (P : Net → Prop) (hS : ∀ n op, P n → P (step n op).1)
    (hQ : ∀ n m, Net.Rel RemShrink n m → Net.Rel ConnShr n m → n.nextId ≤ m.nextId → P n → P m) (h : HNet) (op : HOp)
    (hp : P h.net) : P (hstep h op).1.net := by
  have hShr : ∀ n m, n.Shr m → P n → P m := fun n m hs =>
    hQ n m (hs.rel.mono remShrink_frame.shr) (connShr_of_shr hs) (Nat.le_of_eq hs.nextId.symm)
  have hT : ∀ n y cid t, P n → P (n.upd y (Node.touch cid t)) := fun n y cid t =>
    hQ n _ (remShrink_frame.rel_upd (remShrink_frame.rel_refl n) y _ (fun a => remShrink_edits.touch y a cid t))
      (connShr_touch n y cid t) (Nat.le_refl _)
  cases op with
  | base op => exact hS h.net op hp
  | take x i =>
    simp only [hstep]
    split
    · exact hp
    · split
      · exact hp
      · split <;> exact hp
  | hexec k c =>
    simp only [hstep]
    split
    · exact hp
    · rename_i x cn _
      split
      · cases hb : h.net.node x with
        | none => simp only [handleExecLocalK, hb]; exact hp
        | some b =>
          rcases C16_local_handle_executes_iff (fun m => execCmd c m x) h.net x cn.id true b hb with ⟨_, _, _, h0⟩ | ⟨_, h0⟩
          · rw [h0]; exact hS h.net (.req x c) hp
          · rw [h0]; exact hp
      · rename_i y' _
        rcases C16_remote_handle_outcomes (fun m => execCmd c m y') h.net x y' cn.id with
          ⟨h0, _⟩ | ⟨a, b, _, _, _, _, _, _, ⟨_, _, h0, _⟩ | ⟨_, h0, _⟩⟩ <;> rw [h0]
        · exact hp
        · exact hS _ (.req y' c) (hT h.net y' cn.id h.net.time hp)
        · exact hShr _ _ (shr_disconnect _ _ _ _) hp
  | hdisc k =>
    simp only [hstep]
    split
    · exact hp
    · rename_i x cn _
      split
      · exact hp
      · unfold handleDisconnect
        split
        · exact hp
        · exact hShr _ _ (shr_disconnect _ _ _ _) hp

theorem hrun_preserves (P : Net → Prop) (hS : ∀ n op, P n → P (step n op).1)
    (hQ : ∀ n m, Net.Rel RemShrink n m → Net.Rel ConnShr n m → n.nextId ≤ m.nextId → P n → P m) (ops : List HOp) (h : HNet)
    (hp : P h.net) : P (hrun h ops).net := by
  induction ops generalizing h with
  | nil => exact hp
  | cons op ops ih => exact ih (hstep h op).1 (hstep_preserves P hS hQ h op hp)

theorem hstep_dead (h : HNet) (op : HOp) (y cid : Nat) (hd : Dead y cid h.net) : Dead y cid (hstep h op).1.net :=
  hstep_preserves (Dead y cid) (fun n op => step_dead_stays_dead n op y cid) (fun _ _ h _ => dead_of_remShrink h) h op hd

/-- **C16, kept connections and ended sessions (run level).** Once the id of a session is no longer a remote session of the
target `y` (logoff, time-out, password change, direct logout), then after ANY sequence of operations — requests, ticks AND
operations on kept connection objects — a command on a kept connection object carrying that id is never executed: nothing but
sessions / connections being torn down happens, and the answer is not `success`. -/
theorem C16_handle_on_ended_session_runs_nothing (ops : List HOp) (h : HNet) (y cid : Nat) (hd : Dead y cid h.net)
    (K : Net → Net × Out) (x : Nat) :
    (hrun h ops).net.Shr (handleExecRemoteK K (hrun h ops).net x y cid).1 ∧
    (handleExecRemoteK K (hrun h ops).net x y cid).2 ≠ .success :=
  C16_remote_handle_needs_live_session K (hrun h ops).net x y cid
    (hrun_preserves (Dead y cid) (fun n op => step_dead_stays_dead n op y cid) (fun _ _ h _ => dead_of_remShrink h) ops h hd).2

/-! ### the request `send_local_command` goes through the same (repaired) test -/

/-- **C16, the local command request is the handle operation.** `send_local_command u p {command}` logs in with the supplied
credentials, puts a fresh connection object for the session into the dictionary and calls ITS `execute`: with the repaired
`execute` (which also asks whether the node's current local session is the connection's) the request behaves exactly as the
model's `opLocalCmdK` says — right after the login the session is the node's current one, so the new test always passes here,
and only kept objects ever fail it. -/
theorem C16_local_command_is_handle_exec (K : Net → Net × Out) (n : Net) (y : Nat) (u p : String) (nd : Node) (id : Nat)
    (hnd : n.node y = some nd) (hon : nd.isOn = true) (hid : (localLogin n y u p).2 = some id) :
    (opLocalCmdK K n y u p).1 =
      (handleExecLocalK K ((localLogin n y u p).1.upd y (Node.addConn ⟨id, none⟩)) y id true).1 := by
  obtain ⟨b, l, hb, hl, hlid⟩ := localLogin_id hid
  have hterm : b.term = nd.term := by
    obtain ⟨b0, hb0, h⟩ := localLogin_node n y u p hb
    rw [hnd] at hb0; cases hb0
    rcases h with rfl | ⟨_, _, rfl, _⟩ <;> rfl
  have hm : ((localLogin n y u p).1.upd y (Node.addConn ⟨id, none⟩)).node y = some (b.addConn ⟨id, none⟩) := by
    simp only [node_upd, if_true, hb, Option.map_some]
  unfold opLocalCmdK handleExecLocalK
  simp only [hnd, hon, hid, hm, Bool.not_true, Bool.false_eq_true, if_false]
  have h1 : (b.addConn ⟨id, none⟩).term = nd.term := hterm
  have h2 : (b.addConn ⟨id, none⟩).loc = some l := hl
  rw [h1, h2]
  cases hr : nd.term.running
  · simp
  · simp [hlid]

/-- **C16, a kept local connection is dead for ever (sequences with handle operations).** Once the local session a kept local
connection was opened on has ended, then after ANY sequence of operations — requests, ticks, logins of the same user, and
operations on kept objects — a command on that object changes nothing and is answered `failure`. -/
theorem C16_kept_local_connection_dead_for_ever (ops : List HOp) (h : HNet) (y cid : Nat) (hd : LocDead y cid h.net)
    (K : Net → Net × Out) (active : Bool) (b : Node) (hb : (hrun h ops).net.node y = some b) :
    handleExecLocalK K (hrun h ops).net y cid active = ((hrun h ops).net, .failure) :=
  C16_local_handle_needs_live_session K (hrun h ops).net y cid active b hb
    (fun l hl => (hrun_preserves (LocDead y cid) (fun n op => step_locDead n op y cid)
      (fun _ _ _ h hid => locDead_of_connStep (connStep_of_connShr h hid)) ops h hd).2 b l hb hl)

/-! ### the reachable-state invariant survives handle operations -/

/-- **C16, one client per id — also across operations on kept objects.** `ConnInv` (connection ids below the counter, two nodes
holding the same id are each other's peers, a local-session id is nobody else's) is kept by `take` / `hexec` / `hdisc`, so every
theorem stated for reachable states (`C16_one_client_per_id`, `C16_logoff_drops_client`, the orphan invariant) holds in every state
reached by sequences that contain handle operations. -/
theorem hstep_connInv (h : HNet) (op : HOp) (hi : ConnInv h.net) : ConnInv (hstep h op).1.net :=
  hstep_preserves ConnInv C16_conn_inv_step (fun _ _ _ => connInv_of_connShr) h op hi

theorem hrun_connInv (ops : List HOp) (h : HNet) (hi : ConnInv h.net) : ConnInv (hrun h ops).net :=
  hrun_preserves ConnInv C16_conn_inv_step (fun _ _ _ => connInv_of_connShr) ops h hi

/-! ### non-vacuity -/

def hdemo : HNet := { net := { nodes := [{}, {}] } }
def hLogin : HOp := .base (.req 0 (.remoteLogin 1 "admin" "admin"))

-- two connections from node 0 to node 1; the SECOND one is kept, used (file 7 appears on node 1), disconnected, and dead afterwards
example : ((hrun hdemo [hLogin, hLogin, .take 0 1, .hexec 0 (.file 7)]).net.node 1).map (·.files) = some [7] := by decide
example : ((hrun hdemo [hLogin, hLogin, .take 0 1, .hdisc 0, .hexec 0 (.file 7)]).net.node 1).map (·.files) = some [] := by decide
-- the request still uses the first connection, which is alive
example : ((hrun hdemo [hLogin, hLogin, .take 0 1, .hdisc 0, .base (.req 0 (.remoteCmd 1 (.file 8)))]).net.node 1).map (·.files)
    = some [8] := by decide
-- a logoff that does not get through: the target's session manager is stopped (first example) / the path is blocked (second) when the kept second
-- connection is disconnected: the target still lists BOTH sessions, yet the kept object runs nothing afterwards (no file on node 1)
example : ((hrun hdemo [hLogin, hLogin, .take 0 1, .base (.req 1 (.svc .sessionManager .stop)), .hdisc 0, .hexec 0 (.file 7)]).net.node 1).map
    (fun b => (b.rem.length, b.files)) = some (2, []) := by decide
example : ((hrun { net := { nodes := [{}, {}], hairpin := true } } [hLogin, hLogin, .take 0 1, .base (.setBlock 0 1 true), .hdisc 0,
    .base (.setBlock 0 1 false), .hexec 0 (.file 7), .base (.req 0 (.remoteCmd 1 (.file 8)))]).net.node 1).map
    (fun b => (b.rem.length, b.files)) = some (2, [8]) := by decide
-- a kept LOCAL connection: works while its session is the node's local session, dead after a password change — and after the same
-- user logged in again with the new password (a new session)
def lcmd0 : HOp := .base (.req 0 (.localCmd "admin" "admin" (.file 1)))
example : ((hrun hdemo [lcmd0, .take 0 0, .hexec 0 (.file 2)]).net.node 0).map (·.files) = some [1, 2] := by decide
example : ((hrun hdemo [lcmd0, .take 0 0, .base (.req 0 (.changePassword "admin" "admin" "x")), .hexec 0 (.file 2),
    .base (.localLogin 0 "admin" "x"), .hexec 0 (.file 3)]).net.node 0).map (·.files) = some [1] := by decide
-- the hypotheses of `C16_local_handle_dead_for_ever` are met after a password change: id 0 was handed out, no local session is left
example : (run hdemo.net [.localLogin 0 "admin" "admin", .req 0 (.changePassword "admin" "admin" "x")]).nextId = 1 ∧
    ((run hdemo.net [.localLogin 0 "admin" "admin", .req 0 (.changePassword "admin" "admin" "x")]).node 0).map (·.loc) = some none := by
  decide

end Primaite.Session
