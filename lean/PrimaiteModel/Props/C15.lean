/-
C15 — the file system stays structurally consistent under any operation sequence.
Property theorems; the model is `Model/FileSystem.lean`, the invariant `Inv`/`FolderInv` is in `Lemmas/FileSystem{Basics,Folder,State}.lean`,
the effects an operation has on the dictionaries (`Change`), their preservation of `Inv` and `Keeps` and the operations as chains of
them in `Lemmas/FileSystemChange.lean`.
-/
import PrimaiteModel.Lemmas.FileSystemDescribe
import PrimaiteModel.Lemmas.FileSystemChange
import PrimaiteModel.Lemmas.FileSystemSnapshot
import PrimaiteModel.Gen.FileSystem
namespace Primaite.FileSystem

/-- A fresh file system (whatever `_default_folder_restore_duration` is set to afterwards) satisfies `Inv`. -/
theorem C15_inv_init (d : Option Int) : Inv (init d) := by
  constructor
  · intro g hg
    simp only [init, List.mem_singleton, List.not_mem_nil, or_false] at hg
    subst hg
    exact ⟨folderInv_empty 0 "root" 3, by intro a ha; simp at ha, by simp [init]⟩
  all_goals simp [init, lookupRoute]

/-- Every operation — each request below `file_system`, by whatever route, on existing, deleted or never-created names,
and both halves of a tick — preserves `Inv`. -/
theorem C15_inv_step {s : State} (h : Inv s) (op : Op) : Inv (step s op).1 := (change_step h op).inv h

theorem C15_inv_run {s : State} (h : Inv s) (ops : List Op) : Inv (run s ops).1 := by
  induction ops generalizing s with
  | nil => exact h
  | cons op ops ih => simp only [run]; exact ih (C15_inv_step h op)

theorem C15_inv_reachable (d : Option Int) (ops : List Op) : Inv (run (init d) ops).1 :=
  C15_inv_run (C15_inv_init d) ops

/-- A reachable, non-trivial state (a restored file next to a deleted namesake, a deleted folder, a re-created folder of
the same name) — the invariant is not vacuous and `run` really moves items between the dictionaries. -/
example :
    let s := (run (init (some 1))
      [.createFile "fa" "a" false, .deleteFile "fa" "a", .createFile "fa" "a" true, .deleteFile "fa" "a",
       .restoreFile "fa" "a", .createFolder "fb", .deleteFolder "fb", .createFolder "fb"]).1
    s.folders.map (·.name) = ["root", "fa", "fb"] ∧ s.deletedFolders.map (·.name) = ["fb"] ∧
    (s.folders.map (fun g => (g.files.map (·.id), g.deletedFiles.map (·.id)))) = [([], []), ([2], [3]), ([], [])] := by
  decide

/-- Live folder names are unique, and live file names are unique within every folder (as lists without repetition). -/
theorem C15_live_names_unique {s : State} (h : Inv s) :
    (s.folders.map Folder.name).Nodup ∧
    ∀ g, g ∈ s.folders ∨ g ∈ s.deletedFolders → (g.files.map File.name).Nodup :=
  ⟨nodup_map_of_inj Folder.id Folder.name h.liveIds h.uniqueNames,
   fun g hg => nodup_map_of_inj File.id File.name (h.folder g hg).1.liveIds (h.folder g hg).1.uniqueNames⟩

theorem partition_of_flags {α} (key : α → Nat) (flag : α → Bool) {l d : List α} (hl : (l.map key).Nodup)
    (hd : (d.map key).Nodup) (hdisj : ∀ a ∈ l, ∀ b ∈ d, key a ≠ key b) (hlf : ∀ a ∈ l, flag a = false)
    (hdf : ∀ b ∈ d, flag b = true) :
    ((l ++ d).map key).Nodup ∧ ∀ a ∈ l ++ d, (flag a = true ↔ a ∈ d) ∧ (flag a = false ↔ a ∈ l) := by
  refine ⟨?_, ?_⟩
  · rw [List.map_append, List.nodup_append]
    refine ⟨hl, hd, ?_⟩
    intro a ha b hb
    obtain ⟨a0, ha0, rfl⟩ := List.mem_map.mp ha
    obtain ⟨b0, hb0, rfl⟩ := List.mem_map.mp hb
    exact hdisj a0 ha0 b0 hb0
  · intro a ha
    rcases List.mem_append.mp ha with hm | hm
    · have := hlf a hm
      exact ⟨⟨(fun e => by rw [this] at e; cases e), fun hm' => hdf a hm'⟩, ⟨fun _ => hm, fun _ => this⟩⟩
    · have := hdf a hm
      exact ⟨⟨fun _ => hm, fun _ => this⟩, ⟨(fun e => by rw [this] at e; cases e), fun hm' => hlf a hm'⟩⟩

/-- Every folder is in exactly one of `folders` / `deleted_folders` (no uuid occurs twice across both) and its `deleted`
flag says which; the same for the files of every folder. -/
theorem C15_partition {s : State} (h : Inv s) :
    ((s.folders ++ s.deletedFolders).map Folder.id).Nodup ∧
    (∀ g ∈ s.folders ++ s.deletedFolders, (g.deleted = true ↔ g ∈ s.deletedFolders) ∧ (g.deleted = false ↔ g ∈ s.folders)) ∧
    ∀ g ∈ s.folders ++ s.deletedFolders,
      ((g.files ++ g.deletedFiles).map File.id).Nodup ∧
      ∀ f ∈ g.files ++ g.deletedFiles, (f.deleted = true ↔ f ∈ g.deletedFiles) ∧ (f.deleted = false ↔ f ∈ g.files) := by
  have hs := partition_of_flags Folder.id Folder.deleted h.liveIds h.delIds h.disjoint h.liveFlag h.delFlag
  refine ⟨hs.1, hs.2, fun g hg => ?_⟩
  have gi := (h.folder g (List.mem_append.mp hg)).1
  exact partition_of_flags File.id File.deleted gi.liveIds gi.delIds gi.disjoint gi.liveFlag gi.delFlag

/-- A request that passes the guards of the `folder` route is answered by the live folder of that name, and inside it a
request that passes the guards of the `file` route is answered by the live file of that name: the name-keyed routes
never lead to a deleted namesake. -/
theorem C15_routes_lead_to_live {s : State} (h : Inv s) :
    (∀ g ∈ s.folders, lookupRoute s.folderRoutes g.name = some g.id ∧ findFolderById s g.id = some g) ∧
    ∀ g, g ∈ s.folders ∨ g ∈ s.deletedFolders → ∀ f ∈ g.files,
      lookupRoute g.fileRoutes f.name = some f.id ∧ (g.files ++ g.deletedFiles).find? (fun y => y.id == f.id) = some f := by
  refine ⟨?_, ?_⟩
  · intro g hg
    have hguard := folderGuard_of_live h hg
    obtain ⟨g0, hg0, hn0, _, _, hfind⟩ := folderGuard_spec h hguard
    have := eq_of_nodup_map Folder.id h.liveIds hg0 hg (h.uniqueNames g0 hg0 g hg hn0)
    subst this
    exact ⟨h.routes g0 hg, hfind⟩
  · intro g hg f hf
    have gi := (h.folder g hg).1
    refine ⟨gi.routes f hf, ?_⟩
    cases hfind : (g.files ++ g.deletedFiles).find? (fun y => y.id == f.id) with
    | none =>
      have := List.find?_eq_none.mp hfind f (List.mem_append.mpr (Or.inl hf))
      simp at this
    | some f0 =>
      have hid : f0.id = f.id := by simpa using List.find?_some hfind
      rw [file_eq_of_id gi hf (List.mem_of_find?_eq_some hfind) hid]

theorem viaFolder_of_live {s : State} (h : Inv s) {g : Folder} (hg : g ∈ s.folders) (k : Folder → Option (Folder × Out)) :
    viaFolder s g.name k =
      match k g with
      | none => (s, .unreachable)
      | some (g', o) => (updFolder s g.id (fun _ => g'), o) := by
  have hr := (C15_routes_lead_to_live h).1 g hg
  unfold viaFolder
  simp only [folderGuard_of_live h hg, hr.1, hr.2, Bool.not_true, Bool.false_eq_true, if_false]
  cases k g <;> rfl

theorem viaFolder_fixed {s : State} (h : Inv s) {g : Folder} (hg : g ∈ s.folders) {k : Folder → Option (Folder × Out)} {o : Out}
    (hk : k g = some (g, o)) : viaFolder s g.name k = (s, o) := by
  rw [viaFolder_of_live h hg, hk]
  exact Prod.ext (updFolder_eq_self h hg rfl) rfl

/-- `describe_state()` lists exactly the live and the deleted items: one entry per live folder, in dictionary order, each
carrying that folder's own description, whose `files` dict has one entry per live file carrying that file's uuid
(no two live items collapse onto one key); the keys of `deleted_folders` / `deleted_files` are exactly the names of the
deleted items and every entry there describes a deleted item of that name (deleted namesakes share one key — a name is
all a dict keyed by name can list); the counters are reported as they are. -/
theorem C15_describe_exact {s : State} (h : Inv s) :
    (describe s).folders = s.folders.map (fun g => (g.name, g.describe)) ∧
    (∀ n, n ∈ (describe s).deletedFolders.map (·.1) ↔ ∃ g ∈ s.deletedFolders, g.name = n) ∧
    (∀ p ∈ (describe s).deletedFolders, ∃ g ∈ s.deletedFolders, p = (g.name, g.describe)) ∧
    (∀ g, g ∈ s.folders ∨ g ∈ s.deletedFolders →
      g.describe.files = g.files.map (fun f => (f.name, f.id)) ∧
      (∀ n, n ∈ g.describe.deletedFiles.map (·.1) ↔ ∃ f ∈ g.deletedFiles, f.name = n) ∧
      (∀ p ∈ g.describe.deletedFiles, ∃ f ∈ g.deletedFiles, p = (f.name, f.id))) ∧
    (describe s).numCreations = s.numCreations ∧ (describe s).numDeletions = s.numDeletions := by
  have hu := C15_live_names_unique h
  have hl := pyDict_items Folder.name Folder.describe s.folders
  have hd := pyDict_items Folder.name Folder.describe s.deletedFolders
  refine ⟨hl.1 hu.1, hd.2.1, hd.2.2, fun g hg => ?_, rfl, rfl⟩
  have fl := pyDict_items File.name File.id g.files
  have fd := pyDict_items File.name File.id g.deletedFiles
  exact ⟨fl.1 (hu.2 g hg), fd.2.1, fd.2.2⟩

/-- Without the invariant the report does collapse: two live files of one name (the state F-25 produced) are listed as
one — so `C15_describe_exact` genuinely needs `Inv`. -/
example :
    let g : Folder := { id := 1, name := "fa", files := [{ id := 2, name := "a" }, { id := 3, name := "a" }] }
    g.describe.files = [("a", 3)] := by decide

/-- What one answered operation does to `(num_file_creations, num_file_deletions)`. -/
def tallyStep (op : Op) (o : Out) (cd : Nat × Nat) : Nat × Nat :=
  match op, o with
  | .preTick, _ => (0, 0)
  | .createFile .., .success => (cd.1 + 1, cd.2)
  | .deleteFile .., .success => (cd.1, cd.2 + 1)
  | _, _ => cd

def tally : List Op → List Out → Nat × Nat → Nat × Nat
  | op :: ops, o :: os, cd => tally ops os (tallyStep op o cd)
  | _, _, cd => cd

theorem createFolder_counters (s : State) (n : Name) :
    (createFolder s n).1.numCreations = s.numCreations ∧ (createFolder s n).1.numDeletions = s.numDeletions := by
  rw [createFolder_eq]; cases getFolder s n <;> exact ⟨rfl, rfl⟩

theorem viaFolder_counters (s : State) (F : Name) (k : Folder → Option (Folder × Out)) :
    (viaFolder s F k).1.numCreations = s.numCreations ∧ (viaFolder s F k).1.numDeletions = s.numDeletions := by
  unfold viaFolder
  repeat' split
  all_goals exact ⟨rfl, rfl⟩

theorem createFileTarget_counters (s : State) (F : Name) :
    (createFileTarget s F).1.numCreations = s.numCreations ∧ (createFileTarget s F).1.numDeletions = s.numDeletions := by
  unfold createFileTarget
  split
  · cases getFolder s F with
    | some g => exact ⟨rfl, rfl⟩
    | none => exact createFolder_counters s F
  · exact ⟨rfl, rfl⟩

theorem createFileIn_counters (s1 : State) (g : Folder) (x : Name) :
    (createFileIn s1 g x).1.numCreations = s1.numCreations + 1 ∧ (createFileIn s1 g x).1.numDeletions = s1.numDeletions := by
  unfold createFileIn
  cases g.getFile x <;> exact ⟨rfl, rfl⟩

theorem createFileIn_out (s1 : State) (g : Folder) (x : Name) : (createFileIn s1 g x).2 = .success := by
  unfold createFileIn
  cases g.getFile x <;> rfl

/-- Every operation moves the counters exactly as `tallyStep` says: `pre_timestep` zeroes both, a successful
`create/file` adds one creation, a successful `delete/file` adds one deletion, nothing else touches them
(in particular `["folder",F,"delete",x]` deletes a file without counting it — the code's behaviour). -/
theorem C15_counters_step (s : State) (op : Op) :
    ((step s op).1.numCreations, (step s op).1.numDeletions) = tallyStep op (step s op).2 (s.numCreations, s.numDeletions) := by
  cases op with
  | createFile F x force =>
    simp only [step]
    unfold createFile
    by_cases hc : (!force && (getFile s (if F = "" then "root" else F) x).isSome) = true
    · rw [if_pos hc]; rfl
    · rw [if_neg hc]
      have ht := createFileTarget_counters s F
      cases heq : createFileTarget s F with
      | mk s1 og =>
        rw [heq] at ht
        cases og with
        | none => simp only [tallyStep]; rw [ht.1, ht.2]
        | some g =>
          simp only [createFileIn_out, tallyStep]
          rw [(createFileIn_counters s1 g x).1, (createFileIn_counters s1 g x).2, ht.1, ht.2]
  | createFolder F => simp only [step, tallyStep]; rw [(createFolder_counters s F).1, (createFolder_counters s F).2]
  | deleteFile F x =>
    simp only [step]; unfold deleteFile
    split
    · rfl
    · cases getFolder s F with
      | none => rfl
      | some g => simp only; cases g.getFile x <;> rfl
  | deleteFolder F =>
    simp only [step]; unfold deleteFolder
    cases getFolder s F with
    | none => rfl
    | some g => simp only; split <;> rfl
  | restoreFile F x =>
    simp only [step]; unfold restoreFile
    cases getFolder s F with
    | none => rfl
    | some g => simp only; cases g.getFile x true <;> rfl
  | restoreFolder F =>
    simp only [step]; unfold restoreFolder
    cases getFolder s F true <;> rfl
  | folderVerb _ _ | folderDelete _ _ | fileVerb _ _ _ =>
    simp only [step, tallyStep]; rw [(viaFolder_counters s _ _).1, (viaFolder_counters s _ _).2]
  | fsFileVerb F x v =>
    simp only [step]; unfold fsFileVerb
    cases getFolder s F with
    | none => rfl
    | some g =>
      simp only
      cases g.getFile x with
      | none => rfl
      | some f => simp only; cases f.verb v <;> rfl
  | access _ _ | preTick | tick => rfl

theorem C15_counters_tally (s : State) (ops : List Op) :
    ((run s ops).1.numCreations, (run s ops).1.numDeletions) = tally ops (run s ops).2 (s.numCreations, s.numDeletions) := by
  induction ops generalizing s with
  | nil => rfl
  | cons op ops ih =>
    simp only [run, tally]
    rw [ih, C15_counters_step]

/-- The counters start every tick at zero: `pre_timestep` zeroes both, whatever happened before … -/
theorem C15_counters_zero_at_tick_start (s : State) :
    (step s .preTick).1.numCreations = 0 ∧ (step s .preTick).1.numDeletions = 0 := ⟨rfl, rfl⟩

/-- … and from there they count exactly the successful `create/file` and `delete/file` requests of the tick. -/
theorem C15_counters_count_since_tick_start (s : State) (ops : List Op) :
    let r := run s (.preTick :: ops)
    (r.1.numCreations, r.1.numDeletions) = tally ops r.2.tail (0, 0) := by
  simp only [run, List.tail_cons]
  rw [C15_counters_tally]
  rfl

theorem delete_restore_out (s : State) (F x : Name) :
    ((deleteFile s F x).2 = .success ∨ (deleteFile s F x).2 = .failure) ∧
    ((deleteFolder s F).2 = .success ∨ (deleteFolder s F).2 = .failure) ∧
    ((restoreFile s F x).2 = .success ∨ (restoreFile s F x).2 = .failure) ∧
    ((restoreFolder s F).2 = .success ∨ (restoreFolder s F).2 = .failure) := by
  refine ⟨?_, ?_, ?_, ?_⟩
  · unfold deleteFile
    split
    · exact Or.inr rfl
    · cases getFolder s F with
      | none => exact Or.inr rfl
      | some g => simp only; cases g.getFile x <;> simp
  · unfold deleteFolder
    cases getFolder s F with
    | none => exact Or.inr rfl
    | some g => simp only; split <;> simp
  · unfold restoreFile
    cases getFolder s F with
    | none => exact Or.inr rfl
    | some g =>
      simp only
      cases g.getFile x true with
      | none => exact Or.inr rfl
      | some f => cases (g.restoreFile x).2 <;> simp [ofBool]
  · unfold restoreFolder
    cases getFolder s F true <;> simp

/-- The `folder` route never raises when what it hands the folder to does not: under `Inv` no route dangles. -/
theorem viaFolder_ne_raised {s : State} (h : Inv s) (F : Name) (k : Folder → Option (Folder × Out))
    (hk : ∀ g ∈ s.folders, ∀ g' o, k g = some (g', o) → o ≠ .raised) : (viaFolder s F k).2 ≠ .raised := by
  rcases viaFolder_out h F k with ⟨_, e⟩ | ⟨g, hgm, _, ⟨_, e⟩ | ⟨g', o, hkg, e⟩⟩
  · rw [e]; simp
  · rw [e]; simp
  · rw [e]; exact hk g hgm g' o hkg

/-- In a state satisfying `Inv` no file-system request answers with an exception: the root folder exists for
`create_file`'s default, and no request route dangles. -/
theorem C15_never_raises {s : State} (h : Inv s) (op : Op) : (step s op).2 ≠ .raised := by
  cases op with
  | createFile F x force =>
    simp only [step]
    unfold createFile
    by_cases hc : (!force && (getFile s (if F = "" then "root" else F) x).isSome) = true
    · rw [if_pos hc]; simp
    · rw [if_neg hc]
      have htarget : ∃ s1 g, createFileTarget s F = (s1, some g) := by
        unfold createFileTarget
        by_cases hF : F = ""
        · obtain ⟨r, hr, hrn⟩ := h.root
          have := getFolder_of_live h hr
          rw [hrn] at this
          simp only [hF, ne_eq, not_true_eq_false, if_false, this]
          exact ⟨s, r, rfl⟩
        · simp only [ne_eq, hF, not_false_eq_true, if_true]
          cases getFolder s F with
          | some g => exact ⟨s, g, rfl⟩
          | none => exact ⟨_, _, rfl⟩
      obtain ⟨s1, g, ht⟩ := htarget
      rw [ht]
      simp only [createFileIn_out]
      simp
  | createFolder _ | preTick | tick => simp [step]
  | deleteFile F x => rcases (delete_restore_out s F x).1 with e | e <;> simp [step, e]
  | deleteFolder F => rcases (delete_restore_out s F F).2.1 with e | e <;> simp [step, e]
  | restoreFile F x => rcases (delete_restore_out s F x).2.2.1 with e | e <;> simp [step, e]
  | restoreFolder F => rcases (delete_restore_out s F F).2.2.2 with e | e <;> simp [step, e]
  | access F x => exact ofBool_ne_raised _
  | folderVerb F v =>
    refine viaFolder_ne_raised h F _ (fun g _ g' o hk => ?_)
    cases hv : g.verb v with
    | none => simp [hv] at hk
    | some p =>
      simp only [hv, Option.map_some, Option.some.injEq, Prod.mk.injEq] at hk
      rw [← hk.2]; exact ofBool_ne_raised _
  | folderDelete F x =>
    refine viaFolder_ne_raised h F _ (fun g _ g' o hk => ?_)
    simp only [Option.some.injEq, Prod.mk.injEq] at hk
    rw [← hk.2]; exact ofBool_ne_raised _
  | fileVerb F x v =>
    refine viaFolder_ne_raised h F _ (fun g hgm g' o hk => ?_)
    simp only [Option.some.injEq] at hk
    have := fileRequest_out_ne_raised (h.folder g (Or.inl hgm)).1 x v
    rw [hk] at this
    exact this
  | fsFileVerb F x v =>
    simp only [step]; unfold fsFileVerb
    cases getFolder s F with
    | none => simp
    | some g =>
      simp only
      cases g.getFile x with
      | none => simp
      | some f =>
        simp only
        cases f.verb v with
        | none => simp
        | some p => exact ofBool_ne_raised _

theorem C15_never_raises_run (d : Option Int) (ops : List Op) : Out.raised ∉ (run (init d) ops).2 := by
  suffices ∀ s, Inv s → Out.raised ∉ (run s ops).2 from this _ (C15_inv_init d)
  induction ops with
  | nil => intro s _; simp [run]
  | cons op ops ih =>
    intro s h
    simp only [run, List.mem_cons, not_or]
    exact ⟨fun e => C15_never_raises h op e.symm, ih _ (C15_inv_step h op)⟩

/-- The structural content of a folder / of the file system: everything except request routes, timers and counters. -/
def Folder.core (g : Folder) : Nat × Name × Bool × List File × List File :=
  (g.id, g.name, g.deleted, g.files, g.deletedFiles)
def State.core (s : State) : List (Nat × Name × Bool × List File × List File) × List (Nat × Name × Bool × List File × List File) :=
  (s.folders.map Folder.core, s.deletedFolders.map Folder.core)

theorem core_updFolder {s : State} (h : Inv s) {g : Folder} (hg : g ∈ s.folders) (t : Folder → Folder) (ht : (t g).core = g.core) :
    (updFolder s g.id t).core = s.core := by
  refine Prod.ext ?_ (congrArg (List.map Folder.core) (updFolder_live h hg t).1)
  show (s.folders.map _).map Folder.core = s.folders.map Folder.core
  rw [List.map_map]
  apply List.map_congr_left
  intro a ha
  by_cases hk : a.id = g.id
  · rw [eq_of_nodup_map Folder.id h.liveIds ha hg hk]; simpa using ht
  · simp [hk]

/-- Creating a folder whose name is live answers `success` and changes nothing structural (it only re-applies the
configured restore duration); with no configured duration the state is literally unchanged. -/
theorem C15_create_existing_folder_noop {s : State} (h : Inv s) {g : Folder} (hg : g ∈ s.folders) :
    (step s (.createFolder g.name)).2 = .success ∧ (step s (.createFolder g.name)).1.core = s.core ∧
    (s.defaultRestore = none → (step s (.createFolder g.name)).1 = s) := by
  simp only [step]
  rw [createFolder_eq, getFolder_of_live h hg]
  simp only
  obtain ⟨f1, f2, f3, f4, f5, _, _⟩ := setDur_fields s g
  have hfold : dictSet Folder.id s.folders (setDur s g) =
      s.folders.map (fun y => if y.id == g.id then setDur s g else y) := by
    unfold dictSet
    have : s.folders.any (fun y => y.id == (setDur s g).id) = true := by
      simp only [List.any_eq_true, beq_iff_eq]; exact ⟨g, hg, f1.symm⟩
    rw [if_pos this, f1]
  refine ⟨by trivial, ?_, ?_⟩
  · have hc := core_updFolder h hg (fun _ => setDur s g) (by simp [Folder.core, f1, f2, f3, f4, f5])
    rw [hfold]
    exact Prod.ext (congrArg Prod.fst hc :) rfl
  · intro hd
    have : setDur s g = g := by unfold setDur; rw [hd]
    rw [this, dictSet_self Folder.id h.liveIds hg]

/-- Creating a file whose name is live in the target folder: unforced, the request is refused and nothing changes;
forced, it answers `success` and nothing structural changes (same files, same uuids; only the creation counter and
the route registration move). `F = ""` addresses the root folder. -/
theorem C15_create_existing_file_refused_or_noop {s : State} (h : Inv s) {g : Folder} {f : File} (F : Name)
    (hg : g ∈ s.folders) (hF : g.name = if F = "" then "root" else F) (hf : f ∈ g.files) :
    step s (.createFile F f.name false) = (s, .failure) ∧
    (step s (.createFile F f.name true)).2 = .success ∧ (step s (.createFile F f.name true)).1.core = s.core := by
  have gi := h.folder g (Or.inl hg)
  have hgf : getFolder s (if F = "" then "root" else F) = some g := by rw [← hF]; exact getFolder_of_live h hg
  have hff : g.getFile f.name = some f := getFile_of_live gi.1 hf
  have hlook : getFile s (if F = "" then "root" else F) f.name = some f := by
    unfold getFile; rw [hgf]; exact hff
  have htarget := createFileTarget_of_live h hg F hF
  refine ⟨?_, ?_, ?_⟩
  · simp [step, createFile, hlook]
  · simp [step, createFile, htarget, createFileIn, hff]
  · simp only [step, createFile, Bool.not_true, Bool.false_and, Bool.false_eq_true, if_false, htarget, createFileIn, hff]
    exact core_updFolder h hg _ (by simp [Folder.core, Folder.addFile, dictSet_self File.id gi.1.liveIds hf])

/-- The operations that act on, or inside, the folder named `F` — everything except creation and `restore/folder`. -/
def Op.usesFolder (F : Name) : Op → Bool
  | .deleteFile F' _ | .deleteFolder F' | .restoreFile F' _ | .access F' _ | .folderVerb F' _ | .folderDelete F' _
  | .fileVerb F' _ _ | .fsFileVerb F' _ _ => F' == F
  | _ => false

/-- The operations that act on the file `x` of folder `F` — everything except creation and `restore/file`. -/
def Op.usesFile (F x : Name) : Op → Bool
  | .deleteFile F' x' | .access F' x' | .folderDelete F' x' | .fileVerb F' x' _ | .fsFileVerb F' x' _ => F' == F && x' == x
  | _ => false

/-- When no live folder is named `F` (the folder is deleted or was never created), every request on it or on
anything inside it is refused with `failure` and changes nothing. Only `create/…` and `restore/folder` get through. -/
theorem C15_deleted_folder_unavailable {s : State} {F : Name} (hno : ∀ g ∈ s.folders, g.name ≠ F) (op : Op)
    (hop : op.usesFolder F = true) : step s op = (s, .failure) := by
  have hg := getFolder_none_of hno
  have hguard := folderGuard_false_of_no_live hno
  cases op <;> simp only [Op.usesFolder, beq_iff_eq, Bool.false_eq_true] at hop <;> subst hop <;>
    simp [step, deleteFile, deleteFolder, restoreFile, access, getFile, viaFolder, fsFileVerb, hg, hguard, ofBool]

example : ∃ s, Inv s ∧ (∃ g ∈ s.deletedFolders, g.name = "fa") ∧ ∀ g ∈ s.folders, g.name ≠ "fa" :=
  ⟨(run (init none) [.createFile "fa" "a" false, .deleteFolder "fa"]).1, C15_inv_reachable _ _, by decide, by decide⟩

/-- When the live folder `F` has no live file named `x` (the file is deleted or was never created), every request on
that file is refused with `failure` and changes nothing. Only `create/file` and `restore/file` (and the completion of a
folder restore) get through. -/
theorem C15_deleted_file_unavailable {s : State} (h : Inv s) {g : Folder} {x : Name} (hg : g ∈ s.folders)
    (hno : ∀ f ∈ g.files, f.name ≠ x) (op : Op) (hop : op.usesFile g.name x = true) : step s op = (s, .failure) := by
  have hgf := getFolder_of_live h hg
  have hff := getFile_none_of hno
  cases op <;> simp only [Op.usesFile, Bool.and_eq_true, beq_iff_eq, Bool.false_eq_true] at hop
  case deleteFile F' x' => obtain ⟨rfl, rfl⟩ := hop; simp [step, deleteFile, getFile, hgf, hff]
  case access F' x' => obtain ⟨rfl, rfl⟩ := hop; simp [step, access, getFile, hgf, hff, ofBool]
  case fsFileVerb F' x' v => obtain ⟨rfl, rfl⟩ := hop; simp [step, fsFileVerb, hgf, hff]
  case folderDelete F' x' =>
    obtain ⟨rfl, rfl⟩ := hop
    simp only [step]
    refine viaFolder_fixed h hg ?_
    rcases removeFileByName_spec (g := g) (n := x') with ⟨f, hfm, hfn, _⟩ | ⟨_, he⟩
    · exact absurd hfn (hno f hfm)
    · simp [he, ofBool]
  case fileVerb F' x' v =>
    obtain ⟨rfl, rfl⟩ := hop
    simp only [step]
    exact viaFolder_fixed h hg
      (congrArg some (Prod.ext (fileRequest_state (h.folder g (Or.inl hg)).1 x' v) (fileRequest_refused v hno)))

example : ∃ s g, Inv s ∧ g ∈ s.folders ∧ g.name = "fa" ∧ (∃ f ∈ g.deletedFiles, f.name = "a") ∧ ∀ f ∈ g.files, f.name ≠ "a" :=
  ⟨(run (init none) [.createFile "fa" "a" false, .deleteFile "fa" "a"]).1, _, C15_inv_reachable _ _,
    List.mem_cons_of_mem _ (List.mem_cons_self ..), by decide, by decide, by decide⟩

/-- `delete/file` on a live file: answered `success`; afterwards the file (same uuid) is in the folder's
`deleted_files` with its flag set and no longer in `files`; every other file of the folder stays where it was. -/
theorem C15_delete_file_moves {s : State} (h : Inv s) {g : Folder} {f : File} (hg : g ∈ s.folders) (hf : f ∈ g.files) :
    (step s (.deleteFile g.name f.name)).2 = .success ∧
    ∃ g' ∈ (step s (.deleteFile g.name f.name)).1.folders, g'.id = g.id ∧
      f.delete ∈ g'.deletedFiles ∧ (∀ a ∈ g'.files, a.id ≠ f.id) ∧
      (∀ a ∈ g.files, a.id ≠ f.id → a ∈ g'.files) ∧ (∀ b ∈ g.deletedFiles, b ∈ g'.deletedFiles) := by
  have gi := (h.folder g (Or.inl hg)).1
  have hgf := getFolder_of_live h hg
  have hff := getFile_of_live gi hf
  have hlook : getFile s g.name f.name = some f := by unfold getFile; rw [hgf]; exact hff
  have hany : g.files.any (fun y => y.id == f.id) = true := by
    simp only [List.any_eq_true, beq_iff_eq]; exact ⟨f, hf, rfl⟩
  simp only [step, deleteFile, hlook, Option.isNone_some, Bool.false_eq_true, if_false, hgf, hff]
  refine ⟨trivial, g.removeFile f, ?_, ?_⟩
  · exact (updFolder_live h hg _).2.1
  · unfold Folder.removeFile
    rw [if_pos hany]
    exact ⟨rfl, (mem_dictSet File.id).mpr (Or.inl rfl), fun a ha => ((mem_dictPop File.id).mp ha).2,
      fun a ha hne => (mem_dictPop File.id).mpr ⟨ha, hne⟩,
      fun b hb => (mem_dictSet File.id).mpr (Or.inr ⟨hb, fun e => gi.disjoint f hf b hb e.symm⟩)⟩

/-- `restore/file` on a name with no live file but a deleted one: answered `success`; afterwards that file (the oldest
deleted one of that name, same uuid) is in `files` with its flag cleared and no longer in `deleted_files`. -/
theorem C15_restore_file_moves {s : State} (h : Inv s) {g : Folder} {f : File} {x : Name} (hg : g ∈ s.folders)
    (hno : ∀ a ∈ g.files, a.name ≠ x) (hf : g.getFile x true = some f) :
    f ∈ g.deletedFiles ∧ (step s (.restoreFile g.name x)).2 = .success ∧
    ∃ g' ∈ (step s (.restoreFile g.name x)).1.folders, g'.id = g.id ∧
      f.restore ∈ g'.files ∧ f.restore.deleted = false ∧ (∀ b ∈ g'.deletedFiles, b.id ≠ f.id) ∧
      (∀ a ∈ g.files, a ∈ g'.files) := by
  have gi := (h.folder g (Or.inl hg)).1
  have hgf := getFolder_of_live h hg
  obtain ⟨hfn, hcase⟩ := getFile_incl hf
  have hfd : f ∈ g.deletedFiles := by
    rcases hcase with hl | ⟨hd, _⟩
    · exact absurd hfn (hno f hl)
    · exact hd
  have hrf : (g.restoreFile x).1.files = dictSet File.id g.files f.restore ∧
      (g.restoreFile x).1.deletedFiles = dictPop File.id g.deletedFiles f.id ∧ (g.restoreFile x).2 = true := by
    unfold Folder.restoreFile; rw [hf]; exact ⟨rfl, rfl, rfl⟩
  refine ⟨hfd, ?_, ?_⟩
  · simp [step, restoreFile, hgf, hf, hrf.2.2, ofBool]
  · simp only [step, restoreFile, hgf, hf]
    refine ⟨(g.restoreFile x).1, ?_, (restoreFile_meta g x).1, ?_⟩
    · exact (updFolder_live h hg _).2.1
    · rw [hrf.1, hrf.2.1]
      refine ⟨(mem_dictSet File.id).mpr (Or.inl rfl), rfl, ?_, ?_⟩
      · intro b hb; exact ((mem_dictPop File.id).mp hb).2
      · intro a ha
        exact (mem_dictSet File.id).mpr (Or.inr ⟨ha, fun e => gi.disjoint a ha f hfd e⟩)

theorem C15_root_undeletable (s : State) : step s (.deleteFolder "root") = (s, .failure) := by
  simp only [step, deleteFolder]
  cases getFolder s "root" <;> simp

/-- `delete/folder` on a live folder other than root: answered `success`; afterwards no live folder has that uuid, and the
folder (same uuid) is in `deleted_folders`, flagged, with no live files — every file it had is in its `deleted_files`,
flagged. All other folders are untouched. -/
theorem C15_delete_folder_moves {s : State} (h : Inv s) {g : Folder} (hg : g ∈ s.folders) (hr : g.name ≠ "root") :
    (step s (.deleteFolder g.name)).2 = .success ∧
    (∀ a ∈ (step s (.deleteFolder g.name)).1.folders, a.id ≠ g.id) ∧
    (∀ a ∈ s.folders, a.id ≠ g.id → a ∈ (step s (.deleteFolder g.name)).1.folders) ∧
    (∀ b ∈ s.deletedFolders, b ∈ (step s (.deleteFolder g.name)).1.deletedFolders) ∧
    ∃ g' ∈ (step s (.deleteFolder g.name)).1.deletedFolders, g'.id = g.id ∧ g'.name = g.name ∧ g'.deleted = true ∧
      g'.files = [] ∧ (∀ b ∈ g'.deletedFiles, b.deleted = true) ∧
      ∀ f, f ∈ g.files ∨ f ∈ g.deletedFiles → ∃ f' ∈ g'.deletedFiles, f'.id = f.id := by
  have gi := (h.folder g (Or.inl hg)).1
  have hgf := getFolder_of_live h hg
  simp only [step, deleteFolder, hgf, hr, if_false]
  refine ⟨trivial, ?_, ?_, ?_, ?_⟩
  · intro a ha; exact ((mem_dictPop Folder.id).mp ha).2
  · intro a ha hne; exact (mem_dictPop Folder.id).mpr ⟨ha, hne⟩
  · intro b hb
    exact (mem_dictSet Folder.id).mpr (Or.inr ⟨hb, fun e => h.disjoint g hg b hb e.symm⟩)
  · refine ⟨_, (mem_dictSet Folder.id).mpr (Or.inl rfl), rfl, rfl, rfl, rfl, ?_, ?_⟩
    · exact ((removeAllFiles_flagged g).1 gi).delFlag
    · intro f hf
      obtain ⟨f', hf' | hf', e⟩ := (removeAllFiles_flagged g).2.2 f hf
      · cases hf'
      · exact ⟨f', hf', e⟩

/-- `restore/folder` on a name with no live folder but a deleted one: answered `success`; afterwards that folder (the
oldest deleted one of that name, same uuid) is live with its flag cleared and its restore countdown running, and no
longer in `deleted_folders`; its files stay deleted until the countdown completes. -/
theorem C15_restore_folder_moves {s : State} (h : Inv s) {g : Folder} {F : Name} (hno : ∀ a ∈ s.folders, a.name ≠ F)
    (hgf : getFolder s F true = some g) :
    g ∈ s.deletedFolders ∧ (step s (.restoreFolder F)).2 = .success ∧
    g.restore ∈ (step s (.restoreFolder F)).1.folders ∧ g.restore.deleted = false ∧ g.restore.id = g.id ∧
    g.restore.files = g.files ∧ g.restore.deletedFiles = g.deletedFiles ∧
    (∀ b ∈ (step s (.restoreFolder F)).1.deletedFolders, b.id ≠ g.id) ∧
    (∀ a ∈ s.folders, a ∈ (step s (.restoreFolder F)).1.folders) := by
  obtain ⟨hgn, hcase⟩ := getFolder_incl hgf
  have hgd : g ∈ s.deletedFolders := by
    rcases hcase with hl | ⟨hd, _⟩
    · exact absurd hgn (hno g hl)
    · exact hd
  simp only [step, restoreFolder, hgf]
  refine ⟨hgd, trivial, (mem_dictSet Folder.id).mpr (Or.inl rfl), rfl, rfl, rfl, rfl, ?_, ?_⟩
  · intro b hb; exact ((mem_dictPop Folder.id).mp hb).2
  · intro a ha
    exact (mem_dictSet Folder.id).mpr (Or.inr ⟨ha, fun e => h.disjoint a ha g hgd e⟩)

/-- Every folder uuid present before an operation is present afterwards (live or deleted), and that folder still holds
every file uuid it held (live or deleted): together with `C15_partition`, every item ever created is at every later
moment in exactly one of the two sets of its owner. -/
theorem C15_no_item_lost {s : State} (h : Inv s) (op : Op) : Keeps s (step s op).1 := (change_step h op).keeps h

theorem C15_no_item_lost_run {s : State} (h : Inv s) (ops : List Op) : Keeps s (run s ops).1 := by
  induction ops generalizing s with
  | nil => exact Keeps.refl s
  | cons op ops ih => simp only [run]; exact (C15_no_item_lost h op).trans (ih (C15_inv_step h op))

theorem C15_no_item_lost_reachable (d : Option Int) (ops1 ops2 : List Op) :
    Keeps (run (init d) ops1).1 (run (run (init d) ops1).1 ops2).1 :=
  C15_no_item_lost_run (C15_inv_reachable d ops1) ops2

/-- The request trees, handler functions, validator bodies and the cleaned bodies of every transcribed method are,
verbatim, the text the model was written against (`Lemmas/FileSystemSnapshot.lean`). A change to any of them breaks
this obligation. -/
theorem C15_gen_source_snapshot :
    Gen.FileSystem.methods = Snapshot.methods ∧ Gen.FileSystem.fsHandlers = Snapshot.fsHandlers ∧
    Gen.FileSystem.fsTree = Snapshot.fsTree ∧ Gen.FileSystem.folderTree = Snapshot.folderTree ∧
    Gen.FileSystem.validators = Snapshot.validators :=
  ⟨rfl, rfl, rfl, rfl, rfl⟩

/-- The request names an item registers are exactly the model's five verbs, bound to the methods the model
transcribes; every other name is `unreachable`. -/
theorem C15_gen_item_verbs :
    Gen.FileSystem.itemVerbs =
      [("scan", "scan"), ("checkhash", "check_hash"), ("repair", "repair"), ("restore", "restore"), ("corrupt", "corrupt")] ∧
    Gen.FileSystem.itemVerbs.map (fun p => verbOf p.1) = [.scan, .checkhash, .repair, .restore, .corrupt] :=
  ⟨rfl, rfl⟩

/-- `scan/repair/corrupt` of files and folders start with the deleted-guard (answer `False`) and otherwise answer `True`;
`check_hash` answers `False` unconditionally — which is what `File.verb` / `Folder.verb` return. -/
theorem C15_gen_guards :
    Gen.FileSystem.guards =
      [("Folder.scan", true, true), ("Folder.repair", true, true), ("Folder.corrupt", true, true),
       ("Folder.check_hash", true, false), ("File.scan", true, true), ("File.repair", true, true),
       ("File.corrupt", true, true), ("File.check_hash", true, false)] ∧
    (∀ f : File, (f.verb .scan).map (·.2) = some (!f.deleted) ∧ (f.verb .repair).map (·.2) = some (!f.deleted) ∧
      (f.verb .corrupt).map (·.2) = some (!f.deleted) ∧ (f.verb .checkhash).map (·.2) = some false) ∧
    (∀ g : Folder, (g.verb .scan).map (·.2) = some (!g.deleted) ∧ (g.verb .repair).map (·.2) = some (!g.deleted) ∧
      (g.verb .corrupt).map (·.2) = some (!g.deleted) ∧ (g.verb .checkhash).map (·.2) = some false) :=
  ⟨rfl, fun _ => ⟨rfl, rfl, rfl, rfl⟩, fun _ => ⟨rfl, rfl, rfl, rfl⟩⟩

/-- Field defaults the model's `init` and fresh items rely on. -/
theorem C15_gen_constants :
    Gen.FileSystem.folderRestoreDuration = ({ id := 0, name := "" } : Folder).restoreDuration ∧
    Gen.FileSystem.folderRestoreCountdown = ({ id := 0, name := "" } : Folder).restoreCountdown ∧
    Gen.FileSystem.itemDeletedDefault = ({ id := 0, name := "" } : Folder).deleted ∧
    Gen.FileSystem.itemDeletedDefault = ({ id := 0, name := "" } : File).deleted ∧
    Gen.FileSystem.defaultFolderRestoreDuration = "None" ∧
    Gen.FileSystem.numFileCreationsDefault = (init none).numCreations ∧
    Gen.FileSystem.numFileDeletionsDefault = (init none).numDeletions :=
  ⟨rfl, rfl, rfl, rfl, rfl, rfl, rfl⟩

/-- Every file/folder agent action forms exactly the request whose model operation is the one the rig drives for it;
in particular `node-file-create` carries `config.force` (not the verb) as the force element. -/
theorem C15_gen_actions (n F x : String) (force : Bool) :
    ofNodeRequest (Gen.FileSystem.nodeFileCreate n F x (if force then "1" else "0")) = some (.createFile F x force) ∧
    ofNodeRequest (Gen.FileSystem.nodeFileDelete n F x) = some (.deleteFile F x) ∧
    ofNodeRequest (Gen.FileSystem.nodeFileAccess n F x) = some (.access F x) ∧
    ofNodeRequest (Gen.FileSystem.nodeFileScan n F x) = some (.fileVerb F x .scan) ∧
    ofNodeRequest (Gen.FileSystem.nodeFileCheckhash n F x) = some (.fileVerb F x .checkhash) ∧
    ofNodeRequest (Gen.FileSystem.nodeFileRepair n F x) = some (.fileVerb F x .repair) ∧
    ofNodeRequest (Gen.FileSystem.nodeFileRestore n F x) = some (.fileVerb F x .restore) ∧
    ofNodeRequest (Gen.FileSystem.nodeFileCorrupt n F x) = some (.fileVerb F x .corrupt) ∧
    ofNodeRequest (Gen.FileSystem.nodeFolderCreate n F) = some (.createFolder F) ∧
    ofNodeRequest (Gen.FileSystem.nodeFolderScan n F) = some (.folderVerb F .scan) ∧
    ofNodeRequest (Gen.FileSystem.nodeFolderCheckhash n F) = some (.folderVerb F .checkhash) ∧
    ofNodeRequest (Gen.FileSystem.nodeFolderRepair n F) = some (.folderVerb F .repair) ∧
    ofNodeRequest (Gen.FileSystem.nodeFolderRestore n F) = some (.folderVerb F .restore) ∧
    Gen.FileSystem.actionNames =
      ["node-file-create", "node-file-scan", "node-file-delete", "node-file-restore", "node-file-corrupt",
       "node-file-access", "node-file-checkhash", "node-file-repair", "node-folder-scan", "node-folder-checkhash",
       "node-folder-repair", "node-folder-restore", "node-folder-create"] :=
  ⟨by cases force <;> rfl, rfl, rfl, rfl, rfl, rfl, rfl, rfl, rfl, rfl, rfl, rfl, rfl, rfl⟩

end Primaite.FileSystem
