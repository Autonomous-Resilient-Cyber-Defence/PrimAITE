/-
C05 — "refused requests change nothing", tied to the CALLERS of the request layer (Gen/RequestCallers.lean, regenerated).

The request layer itself is proved in Props/C05.lean (`execK`: a refusal returns the state it was given).  What a caller does with
the non-success response is outside that model; this file records the complete inventory: who calls `apply_request` /
`_request_manager`, what becomes of the response, and that nobody who later READS a recorded response has a way back into the
simulation from that function.
-/
import PrimaiteModel.Gen.RequestCallers
namespace Primaite.Request
open Primaite.Gen.RequestCallers

/-- the five call sites of the package: the game's step loop (response handed to `process_action_response` and nothing else), the
component's own `apply_request` and two forwarding handlers (response returned unchanged), and the terminal (response stored in
`_last_response` and returned).  None branches on the response. -/
theorem C05_gen_request_call_sites :
    requestCallSites =
      ["game/game.py:PrimaiteGame.apply_agent_actions: self.simulation.apply_request(…) -> local+handed:agent.process_action_response",
       "simulator/core.py:SimComponent.apply_request: self._request_manager(…) -> returned",
       "simulator/domain/controller.py:DomainController._init_request_manager: self.accounts[request.pop(0)].apply_request(…) -> returned(lambda)",
       "simulator/file_system/file_system.py:FileSystem._init_request_manager._file_action: file._request_manager(…) -> returned",
       "simulator/system/services/terminal/terminal.py:Terminal.execute: self.parent.apply_request(…) -> stored:self._last_response+returned"] := rfl

/-- there is ONE `process_action_response` (no agent class overrides it) and all it does is append the history item -/
theorem C05_gen_response_only_recorded :
    processActionResponse =
      ["game/agent/interface.py:AbstractAgent.process_action_response: self.history.append(AgentHistoryItem(timestep=timestep, action=action, parameters=parameters, request=request, response=response, observation=observation))"] := rfl

/-- **Callers do not mutate the simulation on refusal**: every function of game/ that reads a recorded response (history table,
reward components, the TAP agents' reaction to a failed step) mentions no way into the simulation (`simulation`, `apply_request`,
`_request_manager`, `software_manager`, `file_system`, `network`, `nodes`, `get_node_by_hostname`): whatever it does with a
`failure` / `unreachable`, it does to the agent's own bookkeeping. -/
theorem C05_gen_callers_do_not_touch_simulation_on_refusal :
    responseReadersReaching = [] ∧ responseReaders.length = 15 := by decide +kernel

end Primaite.Request
