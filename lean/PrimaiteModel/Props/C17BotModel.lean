/-
C17 — the step from the TRANSLATED application loops of the two red applications
(Gen/DatabaseBotTr.lean) to the model's State-threaded `State.dmAttack` / `State.ransom`, as a theorem for every state.

`State.dmAttackTr` / `State.ransomTr` below contain NO decision of their own: they run the translated loop on the bot's record read
off the host's `Client`, feed it the outcomes of the calls it makes (`get_new_connection()`, the query over the bot's connection)
computed in the state in which the code makes them, and apply the writes the loop's result flags (`pwSet`, `conn`, `queried`,
`stage`).  The theorems prove them EQUAL to the hand-written model functions.
-/
import PrimaiteModel.Props.C17Bot
namespace Primaite.Database
open Primaite.Gen

/-- the data-manipulation bot's own record, read off the host's `Client` (the model's bot is always configured) -/
def Client.dmView (c : Client) : BotW :=
  { stage := c.dmStage, conn := c.dmConn, hasClient := c.installed, rep := c.dmRepeat }

/-- the ransomware script's record -/
def Client.rsView (c : Client) : BotW := { conn := c.rsConn, hasClient := c.installed }

/-- "the loop calls `get_new_connection()`": it holds no connection and would hold one if the call gave one -/
def dmAsks (w : BotW) (canAct scan atk : Bool) : Bool :=
  w.conn.isNone && (DatabaseBotTr.applicationLoop w canAct scan atk (some 0) false).1.conn.isSome

def rsAsks (w : BotW) (canAct : Bool) : Bool :=
  w.conn.isNone && (DatabaseBotTr.rsApplicationLoop w canAct false false (some 0) false).1.conn.isSome

/-- `run()` + `attack()` of the data-manipulation bot: the TRANSLATED loop, its calls answered by the state -/
def State.dmAttackTr (st : State) (i : Nat) (q : Sql) (scan atk : Bool) : State × List (Option Nat) × Bool :=
  match st.client? i with
  | none => (st, [], false)
  | some c =>
    if !c.dmInstalled then (st, [], false)
    else
      let c1 := { c with dmApp := appRun c.node.isOn c.dmApp }
      let st0 := st.setClient i c1
      let canAct := c1.node.isOn && c1.dmApp == .running
      let w := c1.dmView
      -- the stage written by `_logon` ; `_perform_port_scan`
      let stage := (DatabaseBotTr.performPortScan (DatabaseBotTr.logon w canAct scan atk none false) canAct scan atk none false).stage
      let st1 := st0.setClient i { c1 with serverPw := c1.dmPw, dmStage := stage }
      -- call 1: `get_new_connection()` in the state after the overwrite of the host client's password
      let g := st1.getNewConnection i
      let asked := dmAsks w canAct scan atk
      let sC := if asked then g.1.updClient i (fun c' => { c' with dmConn := g.2.2 }) else st1
      -- call 2: the query over the connection the bot then holds
      let conn := (DatabaseBotTr.applicationLoop w canAct scan atk g.2.2 false).1.conn
      let hq := sC.handleQuery (conn.getD 0) q
      let out := DatabaseBotTr.applicationLoop w canAct scan atk g.2.2 hq.2.2
      if !out.2 then (st0, [], false)
      else if !out.1.pwSet then (st0.setClient i { c1 with dmStage := out.1.stage }, [], true)
      else
        let base := if out.1.queried then hq.1 else sC
        let sts := (if asked then [g.2.1] else []) ++ (if out.1.queried then [hq.2.1] else [])
        (base.updClient i (fun c' => { c' with dmStage := out.1.stage }), sts, true)

/-- `run()` + `attack()` of the ransomware script: the TRANSLATED loop, its calls answered by the state -/
def State.ransomTr (st : State) (i : Nat) (q : Sql) : State × List (Option Nat) × Bool :=
  match st.client? i with
  | none => (st, [], false)
  | some c =>
    if !c.rsInstalled then (st, [], false)
    else
      let c1 := { c with rsApp := appRun c.node.isOn c.rsApp }
      let st0 := st.setClient i c1
      let canAct := c1.node.isOn && c1.rsApp == .running
      let w := c1.rsView
      let st1 := st0.setClient i { c1 with serverPw := c1.rsPw }
      let g := st1.getNewConnection i
      let asked := rsAsks w canAct
      let sC := if asked then g.1.updClient i (fun c' => { c' with rsConn := g.2.2 }) else st1
      let conn := (DatabaseBotTr.rsApplicationLoop w canAct false false g.2.2 false).1.conn
      let hq := sC.handleQuery (conn.getD 0) q
      let out := DatabaseBotTr.rsApplicationLoop w canAct false false g.2.2 hq.2.2
      if !out.1.pwSet then (st0, [], false)
      else
        let base := if out.1.queried then hq.1 else sC
        let sts := (if asked then [g.2.1] else []) ++ (if out.1.queried then [hq.2.1] else [])
        (base, sts, out.2)

theorem client?_setClient (st : State) (i : Nat) (c c' : Client) (h : st.client? i = some c) :
    (st.setClient i c').client? i = some c' := by
  unfold State.client? State.setClient at *
  have hi : i < st.clients.length := by
    rcases Nat.lt_or_ge i st.clients.length with h' | h'
    · exact h'
    · rw [List.getElem?_eq_none h'] at h; cases h
  simp [hi]

theorem client?_updClient (st : State) (i : Nat) (f : Client → Client) :
    (st.updClient i f).client? i = (st.client? i).map f := by
  unfold State.updClient
  cases h : st.client? i with
  | none => simp [h]
  | some c => simp [client?_setClient st i c (f c) h]

theorem client?_send (st : State) (i j : Nat) (p : Payload) : (st.send i p).1.client? j = st.client? j := by
  unfold State.send
  split
  · rfl
  · simp only
    cases (st.srv.receive i p).2 <;> rfl

theorem client?_getNewConnection_isSome (st : State) (i : Nat) (c : Client) (h : st.client? i = some c) :
    ((st.getNewConnection i).1.client? i).isSome = true := by
  unfold State.getNewConnection
  rw [h]
  simp only
  split
  · simp [h]
  · have hs : ∀ p, ((st.send i p).1.client? i) = some c := fun p => by rw [client?_send, h]
    split
    · rw [client?_updClient]
      show (Option.map _ (State.client? { (st.send i _).1 with handles := _ } i)).isSome = true
      have : State.client? { (st.send i (.connect c.serverPw)).1 with
          handles := (st.send i (.connect c.serverPw)).1.handles ++ [({ id := ‹Nat›, host := i } : Handle)] } i
          = (st.send i (.connect c.serverPw)).1.client? i := rfl
      rw [this, hs]; rfl
    · rw [hs]; rfl

set_option linter.unusedVariables false in
theorem client?_getNewConnection_bind (st : State) (i : Nat) (c : Client) (h : st.client? i = some c) (f : Client → Client) :
    (((st.getNewConnection i).1.updClient i f).client? i) = ((st.getNewConnection i).1.client? i).map f :=
  client?_updClient _ _ _

/-- after `_establish_db_connection` the bot holds what `get_new_connection()` returned -/
theorem dmConn_after_connect (st : State) (i : Nat) (c : Client) (h : st.client? i = some c) (v : Option Nat) :
    (((st.getNewConnection i).1.updClient i (fun c' => { c' with dmConn := v })).client? i).bind (·.dmConn) = v := by
  rw [client?_updClient]
  have := client?_getNewConnection_isSome st i c h
  cases hx : (st.getNewConnection i).1.client? i with
  | none => rw [hx] at this; cases this
  | some c' => rfl

theorem rsConn_after_connect (st : State) (i : Nat) (c : Client) (h : st.client? i = some c) (v : Option Nat) :
    (((st.getNewConnection i).1.updClient i (fun c' => { c' with rsConn := v })).client? i).bind (·.rsConn) = v := by
  rw [client?_updClient]
  have := client?_getNewConnection_isSome st i c h
  cases hx : (st.getNewConnection i).1.client? i with
  | none => rw [hx] at this; cases this
  | some c' => rfl

/-- **The model's data-manipulation attack IS the translated loop run against the state**, for every state, host, payload and
outcome of the two trials. -/
theorem C17_tr_dm_attack_is_model (st : State) (i : Nat) (q : Sql) (scan atk : Bool) :
    st.dmAttack i q scan atk = st.dmAttackTr i q scan atk := by
  unfold State.dmAttack State.dmAttackTr
  cases hc : st.client? i with
  | none => rfl
  | some c =>
    have hc2 : ∀ c1 c2 : Client, ((st.setClient i c1).setClient i c2).client? i = some c2 :=
      fun c1 c2 => client?_setClient _ i c1 c2 (client?_setClient st i c c1 hc)
    cases hi : c.dmInstalled with
    | false => simp [hi]
    | true =>
      simp only [hi, Bool.not_true, Bool.false_eq_true, if_false, C17_tr_dm_loop, C17_tr_dm_advance, dmAsks, Client.dmView,
        Bool.and_true]
      cases hact : (c.node.isOn && appRun c.node.isOn c.dmApp == AppState.running) with
      | false => simp
      | true =>
        simp only [Bool.not_true, Bool.false_eq_true, if_false, if_true, dmLoopSpec]
        cases hinst : c.installed with
        | false => simp
        | true =>
          simp only [Bool.not_true, Bool.false_eq_true, if_false]
          generalize dmAdvance c.dmStage scan = stage
          by_cases hs : stage = 2 ∧ atk = true
          · simp only [hs, and_self, decide_true, Bool.not_true, Bool.false_eq_true, if_false, State.dmConnect]
            cases hcn : c.dmConn with
            | some h0 => simp [hc2]
            | none =>
              simp only [dmConn_after_connect _ i _ (hc2 _ _)]
              generalize State.getNewConnection _ i = g
              obtain ⟨g1, g2, g3⟩ := g
              cases g3 <;> simp
          · cases c.dmConn <;> simp [hs]

/-- **The model's ransomware attack IS the translated loop run against the state**, for every state, host and payload. -/
theorem C17_tr_ransom_is_model (st : State) (i : Nat) (q : Sql) :
    st.ransom i q = st.ransomTr i q := by
  unfold State.ransom State.ransomTr
  cases hc : st.client? i with
  | none => rfl
  | some c =>
    have hc2 : ∀ c1 c2 : Client, ((st.setClient i c1).setClient i c2).client? i = some c2 :=
      fun c1 c2 => client?_setClient _ i c1 c2 (client?_setClient st i c c1 hc)
    cases hi : c.rsInstalled with
    | false => simp [hi]
    | true =>
      simp only [hi, Bool.not_true, Bool.false_eq_true, if_false, C17_tr_rs_loop, rsAsks, Client.rsView, rsLoopSpec, Bool.and_true]
      cases hact : (c.node.isOn && appRun c.node.isOn c.rsApp == AppState.running) with
      | false => simp
      | true =>
        simp only [Bool.not_true, Bool.false_eq_true, if_false]
        cases hinst : c.installed with
        | false => simp
        | true =>
          simp only [Bool.not_true, Bool.false_eq_true, if_false, State.ransomConnect]
          cases hcn : c.rsConn with
          | some h0 => simp [hc2]
          | none =>
            simp only [rsConn_after_connect _ i _ (hc2 _ _)]
            generalize State.getNewConnection _ i = g
            obtain ⟨g1, g2, g3⟩ := g
            cases g3 <;> simp

end Primaite.Database
