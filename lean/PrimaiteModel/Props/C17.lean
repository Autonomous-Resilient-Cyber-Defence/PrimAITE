/-
C17 — database: password-gated connections, connection-gated queries, restorable data.
Theorems about the model (`Model/Database.lean`): first about one call of the server (connect, query, disconnect, backup and restore,
the last two through closed forms), then about every server event (`SrvEv`), lifted to every operation sequence by `run_reach`
(`Lemmas/DatabaseReach.lean`).
-/
import PrimaiteModel.Lemmas.DatabaseReach
import PrimaiteModel.Lemmas.ListFacts
namespace Primaite.Database

/-- The status of a connect request is decided by the ladder
404 (service not running) → 503 (health not GOOD/FIXING/COMPROMISED, e.g. OVERWHELMED) → 401 (password differs) →
500 (at capacity) → 200. -/
theorem C17_connect_ladder (s : Server) (owner : Nat) (pw : Option Nat) :
    (processConnect s owner pw).2.1 =
      if s.op ≠ .running then 404
      else if healthAcceptsConnect s.health = false then 503
      else if s.password ≠ pw then 401
      else if s.maxSessions ≤ s.conns.length then 500
      else 200 := by
  unfold processConnect
  by_cases h1 : s.op ≠ .running
  · simp [h1]
  · by_cases h2 : healthAcceptsConnect s.health = false
    · simp [h1, h2]
    · by_cases h3 : s.password ≠ pw
      · simp [h1, h2, h3]
      · by_cases h4 : s.maxSessions ≤ s.conns.length
        · simp [h1, h2, h3, h4]
        · simp [h1, h2, h3, h4]

theorem C17_connect_ok_iff (s : Server) (owner : Nat) (pw : Option Nat) :
    (processConnect s owner pw).2.1 = 200 ↔
      s.op = .running ∧ healthAcceptsConnect s.health = true ∧ s.password = pw ∧ s.conns.length < s.maxSessions := by
  rw [C17_connect_ladder]
  by_cases h1 : s.op = .running <;> by_cases h2 : healthAcceptsConnect s.health = true <;>
    by_cases h3 : s.password = pw <;> by_cases h4 : s.conns.length < s.maxSessions <;>
    simp [h1, h2, h3, h4] <;> omega

/-- 200 ⇔ exactly one connection, with the fresh id and the requester's address, is appended to the table and that id
is the one returned; any other status leaves the table as it was and returns no id. -/
theorem C17_connect_ok_adds_fresh (s : Server) (owner : Nat) (pw : Option Nat) :
    ((processConnect s owner pw).2.1 = 200 →
        (processConnect s owner pw).1.conns = s.conns ++ [{ id := s.nextId, owner := owner }] ∧
        (processConnect s owner pw).2.2 = some s.nextId) ∧
    ((processConnect s owner pw).2.1 ≠ 200 →
        (processConnect s owner pw).1.conns = s.conns ∧ (processConnect s owner pw).2.2 = none) := by
  unfold processConnect
  by_cases h1 : s.op ≠ .running
  · simp [h1]
  · by_cases h2 : healthAcceptsConnect s.health = false
    · simp [h1, h2]
    · by_cases h3 : s.password ≠ pw
      · simp [h1, h2, h3]
      · by_cases h4 : s.maxSessions ≤ s.conns.length
        · simp [h1, h2, h3, h4]
        · simp [h1, h2, h3, h4]

theorem C17_canAct_iff (s : Server) : s.canAct = true ↔ s.node.st = .on ∧ s.op = .running := by
  simp [Server.canAct, Node.isOn]

theorem processConnect_eq (s : Server) (owner : Nat) (pw : Option Nat) :
    (processConnect s owner pw).1 = { s with conns := (processConnect s owner pw).1.conns, nextId := (processConnect s owner pw).1.nextId,
                                             health := (processConnect s owner pw).1.health } := by
  unfold processConnect
  (repeat' split) <;> rfl

theorem processConnect_nextId (s : Server) (owner : Nat) (pw : Option Nat) :
    s.nextId ≤ (processConnect s owner pw).1.nextId ∧
    ((processConnect s owner pw).2.1 = 200 → (processConnect s owner pw).1.nextId = s.nextId + 1) := by
  unfold processConnect
  split
  · exact ⟨Nat.le_refl _, fun h => (by simp at h)⟩
  · split
    · exact ⟨Nat.le_refl _, fun h => (by simp at h)⟩
    · split
      · exact ⟨Nat.le_refl _, fun h => (by simp at h)⟩
      · split
        · exact ⟨Nat.le_succ _, fun h => (by simp at h)⟩
        · exact ⟨Nat.le_succ _, fun _ => rfl⟩

theorem receive_connect (s : Server) (src : Nat) (pw : Option Nat) :
    (s.canAct = true ∧ healthAcceptsConnect s.health = true ∧ s.password = pw ∧ s.conns.length < s.maxSessions ∧
      s.receive src (.connect pw) =
        ({ s with conns := s.conns ++ [{ id := s.nextId, owner := src }], nextId := s.nextId + 1 }, some (200, some s.nextId))) ∨
    ((s.receive src (.connect pw)).1.conns = s.conns ∧ s.nextId ≤ (s.receive src (.connect pw)).1.nextId ∧
      (s.receive src (.connect pw)).1.maxSessions = s.maxSessions ∧ ∀ id, (s.receive src (.connect pw)).2 ≠ some (200, id)) := by
  simp only [Server.receive]
  by_cases hc : s.canAct = true
  · simp only [hc, Bool.not_true, Bool.false_eq_true, if_false]
    by_cases h200 : (processConnect s src pw).2.1 = 200
    · have hk := (C17_connect_ok_iff s src pw).mp h200
      left
      refine ⟨trivial, hk.2.1, hk.2.2.1, hk.2.2.2, ?_⟩
      simp [processConnect, hk.1, hk.2.1, hk.2.2.1, Nat.not_le.mpr hk.2.2.2]
    · right
      refine ⟨((C17_connect_ok_adds_fresh s src pw).2 h200).1, (processConnect_nextId s src pw).1, by rw [processConnect_eq], ?_⟩
      intro id hh
      exact h200 (Prod.mk.inj (Option.some.inj hh)).1
  · right; simp [hc]

/-- Through `receive`, a connection is opened only for the correct password, while the service is RUNNING on a
powered-on node, and below capacity. -/
theorem C17_connect_only_if (s : Server) (src : Nat) (pw : Option Nat) (id : Option Nat) :
    (s.receive src (.connect pw)).2 = some (200, id) →
      s.node.st = .on ∧ s.op = .running ∧ s.password = pw ∧ s.conns.length < s.maxSessions ∧ id = some s.nextId := by
  intro h
  rcases receive_connect s src pw with ⟨hc, _, hpw, hlen, he⟩ | ⟨_, _, _, hn⟩
  · rw [he] at h
    exact ⟨((C17_canAct_iff s).mp hc).1, ((C17_canAct_iff s).mp hc).2, hpw, hlen, (Prod.mk.inj (Option.some.inj h)).2.symm⟩
  · exact absurd h (hn id)

example : (({} : Server).receive 0 (.connect none)).2 = some (200, some 0) := by decide
example : (({ password := some 1 } : Server).receive 0 (.connect none)).2 = some (401, none) := by decide

theorem hasConn_iff (s : Server) (id : Nat) : s.hasConn id = true ↔ ∃ c ∈ s.conns, c.id = id := by
  simp [Server.hasConn, List.any_eq_true]

/-- A query is *run* (reaches `_process_sql`) iff the service can act and the id is in the connection table; otherwise the
answer is 401 (or nothing at all) and the server does not change. -/
theorem C17_query_gated (s : Server) (src : Nat) (cid : Option Nat) (q : Sql) :
    (s.canAct = true ∧ (∃ id, cid = some id ∧ s.hasConn id = true) →
        s.receive src (.sql cid q) = ((processSql s q).1, some ((processSql s q).2, none))) ∧
    (s.canAct = true ∧ ¬ (∃ id, cid = some id ∧ s.hasConn id = true) →
        s.receive src (.sql cid q) = (s, some (401, none))) ∧
    (s.canAct = false → s.receive src (.sql cid q) = (s, none)) := by
  refine ⟨?_, ?_, ?_⟩
  · rintro ⟨hc, id, rfl, hid⟩
    simp [Server.receive, hc, hid]
  · rintro ⟨hc, hn⟩
    cases cid with
    | none => simp [Server.receive, hc]
    | some id =>
      have : s.hasConn id = false := Bool.eq_false_iff.mpr (fun h => hn ⟨id, rfl, h⟩)
      simp [Server.receive, hc, this]
  · intro hc
    simp [Server.receive, hc]

/-- The address that sends a query is irrelevant (the code checks only the id): stated so that it is visible. -/
theorem C17_query_ignores_sender (s : Server) (a b : Nat) (cid : Option Nat) (q : Sql) :
    s.receive a (.sql cid q) = s.receive b (.sql cid q) := by
  simp [Server.receive]

/-- A disconnect closes a connection only when it comes from the address that opened it; it removes exactly that id. -/
theorem C17_disconnect_owner_only (s : Server) (src id : Nat) :
    (s.receive src (.disconnect (some id))).1.conns =
      if s.canAct ∧ (∃ c ∈ s.conns, c.id = id ∧ c.owner = src) then s.conns.filter (fun c => !(c.id == id)) else s.conns := by
  unfold Server.receive
  by_cases hc : s.canAct = true
  · by_cases hx : s.conns.any (fun c => c.id == id && c.owner == src) = true
    · have : ∃ c ∈ s.conns, c.id = id ∧ c.owner = src := by
        simpa [List.any_eq_true] using hx
      simp [hc, hx, this]
    · have : ¬ ∃ c ∈ s.conns, c.id = id ∧ c.owner = src := by
        intro h; apply hx; simpa [List.any_eq_true] using h
      simp [hc, hx, this]
  · simp [hc]

example : (({ conns := [⟨0, 0⟩, ⟨1, 1⟩], nextId := 2 } : Server).receive 1 (.disconnect (some 0))).1.conns = [⟨0, 0⟩, ⟨1, 1⟩] := by decide
example : (({ conns := [⟨0, 0⟩, ⟨1, 1⟩], nextId := 2 } : Server).receive 0 (.disconnect (some 0))).1.conns = [⟨1, 1⟩] := by decide

/-- `_process_sql` answers 200 to DELETE / ENCRYPT iff the file exists and the service is GOOD, and then the file is
COMPROMISED / CORRUPT; with any other answer nothing changes. -/
theorem C17_destructive (s : Server) :
    ((processSql s .delete).2 = 200 ↔ s.file.isSome ∧ s.health = .good) ∧
    ((processSql s .delete).2 = 200 → (processSql s .delete).1.file = some .compromised) ∧
    ((processSql s .delete).2 ≠ 200 → (processSql s .delete).1 = s) ∧
    ((processSql s .encrypt).2 = 200 ↔ s.file.isSome ∧ s.health = .good) ∧
    ((processSql s .encrypt).2 = 200 → (processSql s .encrypt).1.file = some .corrupt) ∧
    ((processSql s .encrypt).2 ≠ 200 → (processSql s .encrypt).1 = s) := by
  unfold processSql
  cases hf : s.file with
  | none => simp
  | some fh =>
    by_cases hh : s.health = .good
    · simp [hh]
    · simp [hh]

/-- Only DELETE and ENCRYPT write the file; every other query leaves the whole server unchanged. -/
theorem C17_nondestructive_unchanged (s : Server) (q : Sql) (h : q ≠ .delete ∧ q ≠ .encrypt) :
    (processSql s q).1 = s := by
  unfold processSql
  cases s.file with
  | none => rfl
  | some fh =>
    by_cases hh : s.health = .good
    · cases q <;> simp_all
    · simp [hh]

/-- A SELECT on COMPROMISED data never answers 200 … -/
theorem C17_select_fails_on_compromised (s : Server) (h : s.file = some .compromised) :
    (processSql s .select).2 ≠ 200 ∧ (processSql s .select).1 = s := by
  unfold processSql
  rw [h]
  by_cases hh : s.health = .good <;> simp [hh]

/-- … and SELECT answers 200 exactly when the file exists, is GOOD or CORRUPT, and the service is GOOD. -/
theorem C17_select_ok_iff (s : Server) :
    (processSql s .select).2 = 200 ↔ (s.file = some .good ∨ s.file = some .corrupt) ∧ s.health = .good := by
  unfold processSql
  cases hf : s.file with
  | none => simp
  | some fh =>
    by_cases hh : s.health = .good
    · cases fh <;> simp [hh]
    · simp [hh]

example : (processSql ({} : Server) .select).2 = 200 := by decide
example : (processSql (processSql ({} : Server) .delete).1 .select).2 = 404 := by decide

theorem ftpSendFile_closed (s : Server) (b : Backup) (pq big : Bool) :
    ftpSendFile s b pq big =
      if s.file.isNone then (s, b, false)
      else if s.ftpcAct && pq && b.serves && big && b.stored.isNone then
        ({ s with ftpConn := s.ftpConn || (s.ftpcAct && pq && b.serves) }, { b with stored := s.file }, true)
      else ({ s with ftpConn := s.ftpConn || (s.ftpcAct && pq && b.serves) }, b, false) := by
  unfold ftpSendFile
  split
  · next hf => rw [hf]; rfl
  · next fh hf =>
    extract_lets portOk s1
    have e0 : portOk = (s.ftpcAct && pq && b.serves) := rfl
    have e1 : s1.ftpConn = (s.ftpConn || (s.ftpcAct && pq && b.serves)) := rfl
    have e2 : ({ s with ftpConn := s.ftpConn || (s.ftpcAct && pq && b.serves) } : Server) = s1 := rfl
    rw [e2, hf]
    -- with the two records named, both sides compute on every value of the six inputs the ladder tests
    generalize s1.ftpConn = c at e1 ⊢
    clear_value s1 portOk
    subst e1 e0
    generalize s.ftpConn = q
    generalize s.ftpcAct = a
    generalize b.serves = sv
    generalize b.stored = st
    cases q <;> cases a <;> cases pq <;> cases sv <;> cases big <;> cases st <;> rfl

theorem backupDatabase_closed (s : Server) (b : Backup) (pq big : Bool) :
    backupDatabase s b pq big =
      if !s.canAct || !s.backupConfigured || s.ftpc.isNone || s.file.isNone then (s, b, false)
      else if s.ftpcAct && pq && b.serves && big && b.stored.isNone then
        ({ s with ftpConn := s.ftpConn || (s.ftpcAct && pq && b.serves) }, { b with stored := s.file }, true)
      else ({ s with ftpConn := s.ftpConn || (s.ftpcAct && pq && b.serves) }, b, false) := by
  unfold backupDatabase
  by_cases hg : (!s.canAct || !s.backupConfigured || s.ftpc.isNone || s.file.isNone) = true
  · rw [if_pos hg]
    simp only [Bool.or_eq_true] at hg
    rcases hg with ((h | h) | h) | h
    · rw [if_pos h]
    · split <;> rfl
    · split
      · rfl
      · split <;> rfl
    · split
      · rfl
      · split
        · rfl
        · split <;> rfl
  · rw [if_neg hg]
    simp only [Bool.or_eq_true, not_or] at hg
    rw [if_neg hg.1.1.1, if_neg hg.1.1.2, if_neg hg.1.2, if_neg hg.2, ftpSendFile_closed, if_neg hg.2]

theorem backupDatabase_srv (s : Server) (b : Backup) (pq big : Bool) :
    (backupDatabase s b pq big).1 = { s with ftpConn := (backupDatabase s b pq big).1.ftpConn } := by
  rw [backupDatabase_closed]
  split
  · rfl
  · split <;> rfl

theorem backupDatabase_bk (s : Server) (b : Backup) (pq big : Bool) :
    (backupDatabase s b pq big).2.1 = { b with stored := (backupDatabase s b pq big).2.1.stored } := by
  rw [backupDatabase_closed]
  split
  · rfl
  · split <;> rfl

/-- A successful backup stores the file's health of that moment on the backup host; an unsuccessful one stores nothing
(in particular an existing backup is never overwritten). -/
theorem C17_backup_stores (s : Server) (b : Backup) (p big : Bool) :
    ((backupDatabase s b p big).2.2 = true →
        b.stored = none ∧ s.canAct = true ∧ p = true ∧ b.serves = true ∧ big = true ∧
        s.backupConfigured = true ∧ s.ftpc = some .running ∧
        (backupDatabase s b p big).2.1.stored = s.file ∧ s.file.isSome) ∧
    ((backupDatabase s b p big).2.2 = false → (backupDatabase s b p big).2.1 = b) := by
  rw [backupDatabase_closed]
  by_cases hg : (!s.canAct || !s.backupConfigured || s.ftpc.isNone || s.file.isNone) = true
  · rw [if_pos hg]; exact ⟨fun h => (by cases h), fun _ => rfl⟩
  · rw [if_neg hg]
    by_cases hgo : (s.ftpcAct && p && b.serves && big && b.stored.isNone) = true
    · rw [if_pos hgo]
      refine ⟨fun _ => ?_, fun h => (by cases h)⟩
      simp only [Bool.or_eq_true, not_or, Bool.not_eq_true', Bool.not_eq_false, Bool.not_eq_true, Option.isNone_eq_false_iff] at hg
      simp only [Bool.and_eq_true, Option.isNone_iff_eq_none, Server.ftpcAct, beq_iff_eq] at hgo
      exact ⟨hgo.2, hg.1.1.1, hgo.1.1.1.2, hgo.1.1.2, hgo.1.2, hg.1.1.2, hgo.1.1.1.1, rfl, hg.2⟩
    · rw [if_neg hgo]; exact ⟨fun h => (by cases h), fun _ => rfl⟩

theorem ftpRequestFile_closed (s : Server) (b : Backup) (pq pr k : Bool) :
    ftpRequestFile s b pq pr k =
      (if pq && b.serves && k && pr && s.ftpcAct && b.stored.isSome && s.downloads.isNone then
         { s with ftpConn := s.ftpConn || (s.ftpcAct && pq && b.serves), downloads := b.stored, dlFolder := true }
       else { s with ftpConn := s.ftpConn || (s.ftpcAct && pq && b.serves) },
       (s.ftpConn || s.ftpcAct) && pq && b.serves && k && b.stored.isSome) := by
  unfold ftpRequestFile
  extract_lets portOk s1
  have e1 : s1.ftpConn = (s.ftpConn || (s.ftpcAct && pq && b.serves)) := rfl
  have e2 : s1.ftpcAct = s.ftpcAct := rfl
  have e3 : s1.downloads = s.downloads := rfl
  have e4 : ({ s with ftpConn := s.ftpConn || (s.ftpcAct && pq && b.serves) } : Server) = s1 := rfl
  have e5 : ({ s with ftpConn := s.ftpConn || (s.ftpcAct && pq && b.serves), downloads := b.stored, dlFolder := true } : Server)
      = { s1 with downloads := b.stored, dlFolder := true } := rfl
  rw [e2, e3, e4, e5]
  generalize s1.ftpConn = c at e1 ⊢
  clear_value s1
  subst e1
  clear e2 e3 e4 e5
  generalize s.ftpConn = q
  generalize s.ftpcAct = a
  generalize b.serves = sv
  generalize b.stored = st
  generalize s.downloads = d
  cases q <;> cases a <;> cases pq <;> cases sv <;> cases st <;> cases k <;> cases pr <;> cases d <;> rfl

/-- `restore_backup` in closed form: the three guards; then the copy arrives iff the request path is open, the backup host
serves, its link takes the file, the answer path is open and the FTP client is RUNNING (and the backup host stores a copy);
then downloads/ and the live file hold that copy and the service is GOOD; otherwise the only traces are the removed
leftover and the FTP client's connection bookkeeping. -/
theorem restoreBackup_closed (s : Server) (b : Backup) (pq pr k : Bool) :
    restoreBackup s b pq pr k =
      if !s.canAct || !s.backupConfigured || s.ftpc.isNone then (s, false)
      else match b.stored with
        | some bh =>
          if pq && b.serves && k && pr && s.ftpcAct then
            ({ s with ftpConn := true, downloads := some bh, dlFolder := true, file := some bh, folder := true, health := .good,
                      dlDeleted := s.dlDeleted ++ s.downloads.toList, fileDeleted := s.fileDeleted ++ s.file.toList }, true)
          else ({ s with downloads := none, dlDeleted := s.dlDeleted ++ s.downloads.toList,
                         ftpConn := s.ftpConn || (s.ftpcAct && pq && b.serves) }, false)
        | none => ({ s with downloads := none, dlDeleted := s.dlDeleted ++ s.downloads.toList,
                            ftpConn := s.ftpConn || (s.ftpcAct && pq && b.serves) }, false) := by
  unfold restoreBackup
  by_cases hg : (!s.canAct || !s.backupConfigured || s.ftpc.isNone) = true
  · rw [if_pos hg]
    simp only [Bool.or_eq_true] at hg
    rcases hg with (h | h) | h
    · rw [if_pos h]
    · split <;> rfl
    · split
      · rfl
      · split <;> rfl
  · rw [if_neg hg]
    simp only [Bool.or_eq_true, not_or] at hg
    rw [if_neg hg.1.1, if_neg hg.1.2, if_neg hg.2, ftpRequestFile_closed]
    simp only [show ∀ d l, Server.ftpcAct { s with downloads := d, dlDeleted := l } = s.ftpcAct from fun _ _ => rfl]
    cases hs : b.stored with
    | none =>
      simp only [Option.isSome_none, Bool.and_false, Bool.false_and, Bool.false_eq_true, if_false, Bool.not_false, if_true]
    | some bh =>
      by_cases hgo : (pq && b.serves && k && pr && s.ftpcAct) = true
      · have h := hgo
        simp only [Bool.and_eq_true] at h
        obtain ⟨⟨⟨⟨hpq, hsv⟩, hk⟩, hpr⟩, ha⟩ := h
        simp only [hpq, hsv, hk, hpr, ha, Option.isSome_some, Option.isNone_none, Bool.and_self, Bool.or_true, if_true, Bool.not_true,
          Bool.false_eq_true, if_false]
      · simp only [hgo, Bool.false_and, Bool.false_eq_true, if_false]
        split <;> rfl

/-- A restore reports success ONLY when the file really came over the network in this call: the service can act, a
backup server is configured, the request path is open, the backup host serves, it stores a copy, its link takes the file,
the answer path is open and the FTP client on the database host is RUNNING; and then the live database file, and the
copy under downloads/, are exactly what the backup host stores, and the service is GOOD.  Nothing in this statement
mentions what was lying under downloads/ before (`C17_restore_ignores_leftovers`). -/
theorem C17_restore_result (s : Server) (b : Backup) (pq pr k : Bool) (hok : (restoreBackup s b pq pr k).2 = true) :
    ∃ h, b.stored = some h ∧ (restoreBackup s b pq pr k).1.file = some h ∧ (restoreBackup s b pq pr k).1.health = .good ∧
      (restoreBackup s b pq pr k).1.downloads = some h ∧
      s.canAct = true ∧ s.backupConfigured = true ∧ pq = true ∧ b.serves = true ∧ k = true ∧ pr = true ∧
      s.ftpcAct = true := by
  revert hok
  rw [restoreBackup_closed]
  by_cases hg : (!s.canAct || !s.backupConfigured || s.ftpc.isNone) = true
  · rw [if_pos hg]; intro h; cases h
  · rw [if_neg hg]
    cases hs : b.stored with
    | none => intro h; cases h
    | some bh =>
      by_cases hgo : (pq && b.serves && k && pr && s.ftpcAct) = true
      · intro _
        simp only [Bool.or_eq_true, not_or, Bool.not_eq_true', Bool.not_eq_false] at hg
        have h := hgo
        simp only [Bool.and_eq_true] at h
        refine ⟨bh, rfl, ?_, ?_, ?_, hg.1.1, hg.1.2, h.1.1.1.1, h.1.1.1.2, h.1.1.2, h.1.2, h.2⟩ <;> simp only [hgo, if_true]
      · simp only [hgo, Bool.false_eq_true, if_false]; intro h; cases h

/-- `restore_good`: a successful restore makes the database file exactly what the backup host stores and the service
GOOD - whatever was under downloads/ before. -/
theorem C17_restore_yields_backup (s : Server) (b : Backup) (pq pr k : Bool)
    (hok : (restoreBackup s b pq pr k).2 = true) :
    (restoreBackup s b pq pr k).1.file = b.stored ∧ (restoreBackup s b pq pr k).1.health = .good := by
  obtain ⟨h, hst, hf, hg, _⟩ := C17_restore_result s b pq pr k hok
  exact ⟨by rw [hf, hst], hg⟩

/-- **Leftovers under downloads/ do not matter.**  Whatever `downloads/database.db` holds before the call (nothing, the
copy of an earlier restore, a planted or damaged file), the outcome, the database file, the service health and the copy
left under downloads/ afterwards are the same.  (Finding F-C17-2: before the repair a leftover was restored instead of
the backup.) -/
theorem C17_restore_ignores_leftovers (s : Server) (b : Backup) (pq pr k : Bool) (d : Option FHealth) (f : Bool) :
    (restoreBackup { s with downloads := d, dlFolder := f } b pq pr k).2 = (restoreBackup s b pq pr k).2 ∧
    (restoreBackup { s with downloads := d, dlFolder := f } b pq pr k).1.file = (restoreBackup s b pq pr k).1.file ∧
    (restoreBackup { s with downloads := d, dlFolder := f } b pq pr k).1.health = (restoreBackup s b pq pr k).1.health ∧
    (restoreBackup { s with downloads := d, dlFolder := f } b pq pr k).1.conns = (restoreBackup s b pq pr k).1.conns ∧
    ((restoreBackup s b pq pr k).2 = true →
      (restoreBackup { s with downloads := d, dlFolder := f } b pq pr k).1.downloads = (restoreBackup s b pq pr k).1.downloads ∧
      { (restoreBackup { s with downloads := d, dlFolder := f } b pq pr k).1 with dlDeleted := [] } =
        { (restoreBackup s b pq pr k).1 with dlDeleted := [] }) := by
  rw [restoreBackup_closed, restoreBackup_closed]
  have e1 : Server.canAct { s with downloads := d, dlFolder := f } = s.canAct := rfl
  have e2 : Server.ftpcAct { s with downloads := d, dlFolder := f } = s.ftpcAct := rfl
  simp only [e1, e2]
  cases hg : (!s.canAct || !s.backupConfigured || s.ftpc.isNone)
  · cases hs : b.stored with
    | none => simp
    | some bh => cases hx : (pq && b.serves && k && pr && s.ftpcAct) <;> simp
  · simp

/-- A restore that fails — whatever the reason: service not running, request or answer path closed, backup host off,
FTP server stopped, FTP client not running, nothing stored, a saturated link — leaves the server as it was, up to the
FTP client's connection bookkeeping and the leftover under downloads/ (which a restore that got as far as asking the
backup server has removed); in particular the live database file, the service health and the connection table are
kept.  (Finding F-33: before that repair the live file was deleted when the backup copy did not arrive.) -/
theorem C17_failed_restore_changes_nothing (s : Server) (b : Backup) (pq pr k : Bool)
    (h : (restoreBackup s b pq pr k).2 = false) :
    (restoreBackup s b pq pr k).1 = { s with ftpConn := (restoreBackup s b pq pr k).1.ftpConn,
                                             downloads := (restoreBackup s b pq pr k).1.downloads,
                                             dlDeleted := (restoreBackup s b pq pr k).1.dlDeleted } ∧
    ((restoreBackup s b pq pr k).1.downloads = s.downloads ∨ (restoreBackup s b pq pr k).1.downloads = none) := by
  revert h
  rw [restoreBackup_closed]
  cases hg : (!s.canAct || !s.backupConfigured || s.ftpc.isNone)
  · cases hs : b.stored with
    | none => simp
    | some bh => cases hx : (pq && b.serves && k && pr && s.ftpcAct) <;> simp
  · simp

/-- End to end: back up while GOOD, then let the server get into ANY state `s'` (damage, leftovers, earlier restores):
a restore that reports success makes the file GOOD again. -/
theorem C17_restore_good (s : Server) (b : Backup) (p big pq pr k : Bool) (s' : Server)
    (hgood : s.file = some .good) (hbk : (backupDatabase s b p big).2.2 = true)
    (hok : (restoreBackup s' (backupDatabase s b p big).2.1 pq pr k).2 = true) :
    (restoreBackup s' (backupDatabase s b p big).2.1 pq pr k).1.file = some .good ∧
    (restoreBackup s' (backupDatabase s b p big).2.1 pq pr k).1.health = .good := by
  have hb := (C17_backup_stores s b p big).1 hbk
  have hst : (backupDatabase s b p big).2.1.stored = some .good := by rw [hb.2.2.2.2.2.2.2.1, hgood]
  have hy := C17_restore_yields_backup s' _ pq pr k hok
  exact ⟨by rw [hy.1, hst], hy.2⟩

example :
    let s : Server := {}
    let r := backupDatabase s ({} : Backup) true
    let dmg := (processSql r.1 .delete).1
    (restoreBackup dmg r.2.1 true true) =
      ({ dmg with file := some .good, downloads := some .good, dlFolder := true, ftpConn := true,
                  fileDeleted := [.compromised] }, true) := by decide
/-- a second restore over a CORRUPT leftover still yields the (GOOD) backup -/
example :
    let s : Server := {}
    let r := backupDatabase s ({} : Backup) true
    let s1 := (restoreBackup (processSql r.1 .delete).1 r.2.1 true true).1
    let s2 := (processSql (s1.dl .corrupt).1 .delete).1
    s2.downloads = some .corrupt ∧ (restoreBackup s2 r.2.1 true true).2 = true ∧
      (restoreBackup s2 r.2.1 true true).1.file = some .good := by decide

/-- **No path, no restore.**  With the request path closed, the backup host off or its FTP server stopped, the answer path
closed (or a link on it refusing the file), or the FTP client on the database host not running, a restore FAILS -
whatever is lying under downloads/ and however many restores succeeded before - and the database file, the service
health, the connection table, every other field but the FTP bookkeeping and the (possibly removed) leftover are kept. -/
theorem C17_blocked_restore (s : Server) (b : Backup) (pq pr k : Bool)
    (h : (pq && b.serves && pr && k && s.ftpcAct) = false) :
    (restoreBackup s b pq pr k).2 = false ∧
    (restoreBackup s b pq pr k).1 = { s with ftpConn := (restoreBackup s b pq pr k).1.ftpConn,
                                             downloads := (restoreBackup s b pq pr k).1.downloads,
                                             dlDeleted := (restoreBackup s b pq pr k).1.dlDeleted } ∧
    (restoreBackup s b pq pr k).1.file = s.file ∧ (restoreBackup s b pq pr k).1.health = s.health ∧
    (restoreBackup s b pq pr k).1.conns = s.conns := by
  have h2 : (restoreBackup s b pq pr k).2 = false := by
    refine Bool.eq_false_iff.mpr (fun hr => ?_)
    obtain ⟨_, _, _, _, _, _, _, hpq, hbs, hk, hpr, hf⟩ := C17_restore_result s b pq pr k hr
    rw [hpq, hbs, hk, hpr, hf] at h; cases h
  have h3 := (C17_failed_restore_changes_nothing s b pq pr k h2).1
  refine ⟨h2, h3, ?_, ?_, ?_⟩ <;> rw [h3]

example : (restoreBackup ({ downloads := some .good, file := some .compromised } : Server) { stored := some .good } true false true).2 = false := by
  decide

/-- **No backup server configured** (`backup_server_ip` None): backup and restore answer False and change nothing. -/
theorem C17_unconfigured_backup_restore (s : Server) (h : s.backupConfigured = false) (b : Backup) (pq pr big k : Bool) :
    backupDatabase s b pq big = (s, b, false) ∧ restoreBackup s b pq pr k = (s, false) := by
  unfold backupDatabase restoreBackup
  cases hc : s.canAct <;> simp [h]

/-- **No FTP client on the database host** (uninstalled): backup and restore answer False and change nothing. With an
FTP client that cannot act (stopped, paused, disabled, restarting) a backup is impossible and a restore fails, too: RETR is
still sent (it does not ask the FTP client), but the answer is not stored, and no leftover is accepted in its place. -/
theorem C17_ftp_client_needed (s : Server) (b : Backup) (pq pr big k : Bool) :
    (s.ftpc = none → backupDatabase s b pq big = (s, b, false) ∧ restoreBackup s b pq pr k = (s, false)) ∧
    (s.ftpc ≠ some .running → (backupDatabase s b pq big).2.2 = false ∧ (backupDatabase s b pq big).2.1 = b) ∧
    (s.ftpc ≠ some .running → (restoreBackup s b pq pr k).2 = false) := by
  refine ⟨?_, ?_, ?_⟩
  · intro h
    unfold backupDatabase restoreBackup
    cases hc : s.canAct <;> cases hbc : s.backupConfigured <;> simp [h]
  · intro h
    have hb := C17_backup_stores s b pq big
    cases hr : (backupDatabase s b pq big).2.2 with
    | false => exact ⟨rfl, hb.2 hr⟩
    | true => exact absurd (hb.1 hr).2.2.2.2.2.2.1 h
  · intro h
    exact (C17_blocked_restore s b pq pr k (by simp [Server.ftpcAct, h])).1

/-- **Saturated link.**  When a link refuses the frame that carries the file, a backup stores nothing and answers False;
a restore whose file is refused by the backup host's own link answers False and leaves the server as it was (up to the
FTP client's connection bookkeeping and the removed leftover); refused further down it behaves like a blocked answer
path (`pr = false`). -/
theorem C17_saturated_transfer (s : Server) (b : Backup) (pq pr : Bool) :
    ((backupDatabase s b pq false).2.2 = false ∧ (backupDatabase s b pq false).2.1 = b) ∧
    ((restoreBackup s b pq pr false).2 = false ∧
      (restoreBackup s b pq pr false).1 = { s with ftpConn := (restoreBackup s b pq pr false).1.ftpConn,
                                                   downloads := (restoreBackup s b pq pr false).1.downloads,
                                                   dlDeleted := (restoreBackup s b pq pr false).1.dlDeleted }) := by
  have hb := C17_backup_stores s b pq false
  have h1 : (backupDatabase s b pq false).2.2 = false :=
    Bool.eq_false_iff.mpr (fun hr => absurd (hb.1 hr).2.2.2.2.1 (by decide))
  have h2 := C17_blocked_restore s b pq pr false (by simp)
  exact ⟨⟨h1, hb.2 h1⟩, h2.1, h2.2.1⟩

/-- With the service not RUNNING or the node not ON, no payload is answered and the server does not change. -/
theorem C17_unavailable_receive (s : Server) (h : s.canAct = false) (src : Nat) (p : Payload) :
    s.receive src p = (s, none) := by
  cases p <;> simp [Server.receive, h]

/-- … and neither backup nor restore does anything. -/
theorem C17_unavailable_backup_restore (s : Server) (h : s.canAct = false) (b : Backup) (pq pr big k : Bool) :
    backupDatabase s b pq big = (s, b, false) ∧ restoreBackup s b pq pr k = (s, false) := by
  simp [backupDatabase, restoreBackup, h]

/-- With the request direction closed (a NIC down on either side, or an ACL block) nothing reaches the server:
the whole state is unchanged and the client sees no answer. -/
theorem C17_blocked_send (st : State) (i : Nat) (p : Payload) (h : st.reqOpen i = false) :
    st.send i p = (st, none, none) := by
  simp [State.send, h]

/-- With the server unavailable a sent payload changes nothing either. -/
theorem C17_unavailable_send (st : State) (i : Nat) (p : Payload) (h : st.srv.canAct = false) :
    st.send i p = (st, none, none) := by
  unfold State.send
  by_cases hr : (!st.reqOpen i || !st.srv.listening) = true
  · simp [hr]
  · simp [hr, C17_unavailable_receive st.srv h]

theorem send_seen (st : State) (i : Nat) (p : Payload) (a : Nat × Option Nat) (h : (st.send i p).2.2 = some a) :
    (st.srv.receive i p).2 = some a := by
  unfold State.send at h
  split at h
  · simp at h
  · dsimp only at h
    split at h
    · simp at h
    · rename_i a' heq
      dsimp only at h
      split at h
      · split at h
        · simp only [Option.some.injEq] at h; rw [heq, h]
        · simp at h
      · simp at h

theorem send_seen_srv (st : State) (i : Nat) (p : Payload) (a : Nat × Option Nat) (h : (st.send i p).2.2 = some a) :
    (st.send i p).1.srv = (st.srv.receive i p).1 := by
  unfold State.send at h ⊢
  split
  · rename_i hc; simp [hc] at h
  · dsimp only
    split <;> rfl

/-- **Not listening.**  When the database service is uninstalled, or the host's (5432, tcp) port-map entry belongs to a
co-located database client (or was removed with it), nothing a client sends reaches the service. -/
theorem C17_not_listening_send (st : State) (i : Nat) (p : Payload) (h : st.srv.listening = false) :
    st.send i p = (st, none, none) := by
  simp [State.send, h]

theorem C17_listening_iff (s : Server) : s.listening = true ↔ s.installed = true ∧ s.portMine = true := by
  simp [Server.listening]

/-- A handle that was closed (or whose client is uninstalled) sends nothing: the query fails locally and the whole
state is unchanged. -/
theorem C17_inactive_handle_no_traffic (st : State) (h : Nat) (hd : Handle) (q : Sql) (hh : st.handles[h]? = some hd)
    (hi : hd.active = false ∨ st.clientInstalled hd.host = false) : st.handleQuery h q = (st, none, false) := by
  unfold State.handleQuery
  rw [hh]
  rcases hi with hi | hi <;> simp [hi]

/-- At the session limit a further (correctly authenticated) connect is refused with 500 and marks the service
OVERWHELMED; one below the limit it succeeds. -/
theorem C17_capacity_boundary (s : Server) (owner : Nat)
    (hr : s.op = .running) (hh : healthAcceptsConnect s.health = true) :
    (s.conns.length = s.maxSessions →
        (processConnect s owner s.password).2.1 = 500 ∧ (processConnect s owner s.password).1.health = .overwhelmed ∧
        (processConnect s owner s.password).1.conns = s.conns) ∧
    (s.conns.length + 1 = s.maxSessions →
        (processConnect s owner s.password).2.1 = 200 ∧
        (processConnect s owner s.password).1.conns.length = s.maxSessions) := by
  unfold processConnect
  constructor
  · intro h
    have : s.maxSessions ≤ s.conns.length := by omega
    simp [hr, hh, this]
  · intro h
    have : ¬ s.maxSessions ≤ s.conns.length := by omega
    simp [hr, hh, this]
    omega

/-- Once OVERWHELMED, every connect is answered 503 and every query 500 until the health changes (restore, or
compromise + fix): the code never leaves OVERWHELMED by itself, even after connections are closed. -/
theorem C17_overwhelmed_refuses (s : Server) (h : s.health = .overwhelmed) (hr : s.op = .running) (owner : Nat)
    (pw : Option Nat) (q : Sql) :
    (processConnect s owner pw).2.1 = 503 ∧ (processConnect s owner pw).1 = s ∧
    (processSql s q).2 ≠ 200 ∧ (processSql s q).1 = s := by
  have hp : processConnect s owner pw = (s, 503, none) := by simp [processConnect, hr, h, healthAcceptsConnect]
  have hq : (processSql s q).2 ≠ 200 ∧ (processSql s q).1 = s := by unfold processSql; cases s.file <;> simp [h]
  exact ⟨by rw [hp], by rw [hp], hq.1, hq.2⟩

/-- Wrong then right password: a refused attempt changes nothing, so the next attempt with the right password is
decided exactly as if the wrong one had never been made. -/
theorem C17_wrong_then_right_password (s : Server) (a b : Nat) (wrong : Option Nat) (hw : s.password ≠ wrong)
    (hr : s.op = .running) (hh : healthAcceptsConnect s.health = true) :
    (processConnect s a wrong).2.1 = 401 ∧ (processConnect s a wrong).1 = s ∧
    processConnect (processConnect s a wrong).1 b s.password = processConnect s b s.password := by
  have h1 : (processConnect s a wrong).1 = s := by simp [processConnect, hr, hh, hw]
  exact ⟨by simp [processConnect, hr, hh, hw], h1, by rw [h1]⟩

/-- A client whose configured password differs from the server's gets no handle and leaves the server's table alone. -/
theorem C17_wrong_password_no_handle (st : State) (i : Nat) (c : Client) (hc : st.client? i = some c)
    (hw : st.srv.password ≠ c.serverPw) :
    (st.getNewConnection i).2.2 = none ∧ (st.getNewConnection i).1.srv.conns = st.srv.conns := by
  have hrecv : (st.srv.receive i (.connect c.serverPw)).1.conns = st.srv.conns := by
    rcases receive_connect st.srv i c.serverPw with ⟨_, _, hpw, _⟩ | ⟨h, _⟩
    · exact absurd hpw hw
    · exact h
  have hsend : (st.send i (.connect c.serverPw)).1.srv.conns = st.srv.conns := by
    unfold State.send
    split
    · rfl
    · dsimp only; split <;> exact hrecv
  unfold State.getNewConnection
  simp only [hc]
  split
  · exact ⟨rfl, rfl⟩
  · split
    · -- a handle would mean the server answered 200: only to its own password
      rename_i id heq
      exact absurd (C17_connect_only_if st.srv i c.serverPw (some id) (send_seen st i _ _ heq)).2.2.1 hw
    · exact ⟨rfl, hsend⟩

/-! The names and the validator table that `Props/C17Gen.lean` compares with the regenerated tables (`Gen/Database.lean`). -/

def Health.name : Health → String
  | .unused => "UNUSED" | .good => "GOOD" | .fixing => "FIXING" | .compromised => "COMPROMISED" | .overwhelmed => "OVERWHELMED"

def SvcState.name : SvcState → String
  | .stopped => "STOPPED" | .running => "RUNNING" | .paused => "PAUSED" | .restarting => "RESTARTING" | .disabled => "DISABLED"

def FHealth.name : FHealth → String
  | .good => "GOOD" | .compromised => "COMPROMISED" | .corrupt => "CORRUPT"

def svcReqName : SvcReq → String
  | .stop => "stop" | .start => "start" | .pause => "pause" | .resume => "resume" | .restart => "restart"
  | .disable => "disable" | .enable => "enable" | .fix => "fix" | .compromise => "compromise" | .scan => "scan"

/-- The state a service request's validator demands, as modelled (`none` = no validator). -/
def modelValidator : SvcReq → Option SvcState
  | .stop => some .running | .start => some .stopped | .pause => some .running | .resume => some .paused
  | .restart => some .running | .disable => none | .enable => some .disabled | .fix => some .running | .compromise => none
  | .scan => some .running

/-- The request model agrees with its validator table: a request whose validator state differs from the current
state (or whose node is not ON) is rejected and changes nothing. -/
theorem C17_request_validated (s : Server) (r : SvcReq) :
    (s.node.st ≠ .on ∨ (∃ st, modelValidator r = some st ∧ s.op ≠ st)) → s.request r = (s, none) := by
  intro h
  unfold Server.request
  by_cases hn : s.node.isOn = true
  · have hon : s.node.st = .on := by simpa [Node.isOn] using hn
    rcases h with h | ⟨st, hv, hne⟩
    · exact absurd hon h
    · cases r <;> simp [modelValidator] at hv <;> subst hv <;> simp [hn, hne]
  · simp [hn]

theorem processSql_eq (s : Server) (q : Sql) : (processSql s q).1 = { s with file := (processSql s q).1.file } := by
  unfold processSql
  split
  · rfl
  · split
    · rfl
    · cases q <;> rfl

theorem restoreBackup_eq (s : Server) (b : Backup) (pq pr k : Bool) :
    (restoreBackup s b pq pr k).1 =
      { s with ftpConn := (restoreBackup s b pq pr k).1.ftpConn, health := (restoreBackup s b pq pr k).1.health,
               file := (restoreBackup s b pq pr k).1.file, folder := (restoreBackup s b pq pr k).1.folder,
               fileDeleted := (restoreBackup s b pq pr k).1.fileDeleted, downloads := (restoreBackup s b pq pr k).1.downloads,
               dlFolder := (restoreBackup s b pq pr k).1.dlFolder, dlDeleted := (restoreBackup s b pq pr k).1.dlDeleted } := by
  rw [restoreBackup_closed]
  split
  · rfl
  · split
    · split <;> rfl
    · rfl

theorem request_eq (s : Server) (r : SvcReq) :
    (s.request r).1 = { s with op := (s.request r).1.op, health := (s.request r).1.health, fixCd := (s.request r).1.fixCd,
                               restartCd := (s.request r).1.restartCd } := by
  unfold Server.request
  split
  · rfl
  · cases r <;> dsimp only <;> (repeat' split) <;> rfl

theorem startUp_eq (s : Server) :
    s.startUp = { s with op := s.startUp.op, health := s.startUp.health, ftpc := s.startUp.ftpc, coApp := s.startUp.coApp } := by
  unfold Server.startUp; dsimp only; split <;> rfl

theorem shutDown_eq (s : Server) :
    s.shutDown = { s with op := s.shutDown.op, ftpc := s.shutDown.ftpc, coApp := s.shutDown.coApp } := by
  unfold Server.shutDown; dsimp only; split <;> rfl

theorem tickPower_eq (s : Server) :
    s.tickPower = { s with node := s.tickPower.node, op := s.tickPower.op, health := s.tickPower.health, ftpc := s.tickPower.ftpc,
                           coApp := s.tickPower.coApp } := by
  unfold Server.tickPower
  dsimp only
  split <;> split
  · rw [shutDown_eq, startUp_eq]
  · rw [shutDown_eq]
  · rw [startUp_eq]
  · rfl

theorem powerOn_eq (s : Server) :
    s.powerOn = { s with node := s.powerOn.node, op := s.powerOn.op, health := s.powerOn.health, ftpc := s.powerOn.ftpc,
                         coApp := s.powerOn.coApp } := by
  unfold Server.powerOn
  dsimp only
  split
  · rw [startUp_eq]
  · rfl

theorem powerOff_eq (s : Server) :
    s.powerOff = { s with node := s.powerOff.node, op := s.powerOff.op, ftpc := s.powerOff.ftpc, coApp := s.powerOff.coApp } := by
  unfold Server.powerOff
  dsimp only
  split
  · rw [shutDown_eq]
  · rfl

theorem startUp_frame (s : Server) :
    s.startUp.conns = s.conns ∧ s.startUp.nextId = s.nextId ∧ s.startUp.file = s.file ∧ s.startUp.password = s.password ∧
    s.startUp.node = s.node ∧ s.startUp.maxSessions = s.maxSessions := by
  have h := startUp_eq s
  refine ⟨?_, ?_, ?_, ?_, ?_, ?_⟩ <;> rw [h]

theorem shutDown_frame (s : Server) :
    s.shutDown.conns = s.conns ∧ s.shutDown.nextId = s.nextId ∧ s.shutDown.file = s.file ∧ s.shutDown.password = s.password ∧
    s.shutDown.node = s.node ∧ s.shutDown.maxSessions = s.maxSessions := by
  have h := shutDown_eq s
  refine ⟨?_, ?_, ?_, ?_, ?_, ?_⟩ <;> rw [h]

theorem tickFtpc_eq (s : Server) :
    s.tickFtpc = { s with ftpcFix := s.tickFtpc.ftpcFix, ftpc := s.tickFtpc.ftpc, ftpcRestartCd := s.tickFtpc.ftpcRestartCd } := by
  unfold Server.tickFtpc
  split <;> rfl

/-- what backup, restore and every part of a tick keep -/
def SameTable (s s' : Server) : Prop :=
  s'.conns = s.conns ∧ s'.nextId = s.nextId ∧ s'.maxSessions = s.maxSessions

theorem SameTable.trans {a b c : Server} (h1 : SameTable a b) (h2 : SameTable b c) : SameTable a c :=
  ⟨h2.1.trans h1.1, h2.2.1.trans h1.2.1, h2.2.2.trans h1.2.2⟩

theorem restore_same (s : Server) (b : Backup) (pq pr k : Bool) : SameTable s (restoreBackup s b pq pr k).1 := by
  rw [restoreBackup_eq]; exact ⟨rfl, rfl, rfl⟩

theorem backup_same (s : Server) (b : Backup) (pq big : Bool) : SameTable s (backupDatabase s b pq big).1 := by
  rw [backupDatabase_srv]; exact ⟨rfl, rfl, rfl⟩

theorem tickPower_same (s : Server) : SameTable s s.tickPower := by
  rw [tickPower_eq]; exact ⟨rfl, rfl, rfl⟩

theorem tickFtpc_same (s : Server) : SameTable s s.tickFtpc := by
  rw [tickFtpc_eq]; exact ⟨rfl, rfl, rfl⟩

theorem tickRestart_same (s : Server) : SameTable s s.tickRestart := by
  unfold Server.tickRestart
  split
  · split <;> exact ⟨rfl, rfl, rfl⟩
  · exact ⟨rfl, rfl, rfl⟩

theorem tickFix_same (s : Server) (b : Backup) (pq pr k : Bool) : SameTable s (s.tickFix b pq pr k) := by
  unfold Server.tickFix
  split
  · split
    · exact restore_same { s with health := .good, fixCd := 0 } b pq pr k
    · exact ⟨rfl, rfl, rfl⟩
  · exact ⟨rfl, rfl, rfl⟩

theorem tickSvc_same (s : Server) (b : Backup) (t : Nat) (pq pr big k : Bool) : SameTable s (s.tickSvc b t pq pr big k).1 := by
  unfold Server.tickSvc
  dsimp only
  split
  · exact ⟨rfl, rfl, rfl⟩
  · split
    · exact (backup_same s b pq big).trans ((tickFix_same _ _ pq pr k).trans (tickRestart_same _))
    · exact (tickFix_same s b pq pr k).trans (tickRestart_same _)

theorem serverTick_same (s : Server) (b : Backup) (t : Nat) (pq pr big k : Bool) : SameTable s (serverTick s b t pq pr big k).1 := by
  unfold serverTick
  dsimp only
  split
  · exact tickPower_same s
  · split
    · exact (tickPower_same s).trans ((tickFtpc_same _).trans (tickSvc_same _ b t pq pr big k))
    · exact (tickPower_same s).trans ((tickSvc_same _ b t pq pr big k).trans (tickFtpc_same _))

/-- Administrative changes (FTP client lifecycle / restart / fix / scan / uninstall / re-install, service uninstall,
backup-server configuration, a co-located database client) touch neither the connection table, nor the data, nor the
password, nor the service's own states. -/
theorem admin_frame (s : Server) (a : Admin) :
    (s.admin a).1.conns = s.conns ∧ (s.admin a).1.nextId = s.nextId ∧ (s.admin a).1.file = s.file ∧
    (s.admin a).1.password = s.password ∧ (s.admin a).1.op = s.op ∧ (s.admin a).1.health = s.health ∧
    (s.admin a).1.node = s.node ∧ (s.admin a).1.maxSessions = s.maxSessions := by
  cases a <;> unfold Server.admin <;> dsimp only <;> (repeat' split) <;> exact ⟨rfl, rfl, rfl, rfl, rfl, rfl, rfl, rfl⟩

theorem dl_eq (s : Server) (a : DlOp) :
    (s.dl a).1 = { s with downloads := (s.dl a).1.downloads, dlFolder := (s.dl a).1.dlFolder, dlDeleted := (s.dl a).1.dlDeleted } := by
  cases a <;> unfold Server.dl <;> dsimp only <;> (repeat' split) <;> rfl

/-- **File-system requests** (`['file_system', …]` on the database host: corrupt / repair / restore / scan / delete of
`database.db`, restore of a deleted copy, corrupt / repair / delete of the folder) on `database/` or `downloads/` change
nothing but that folder's live file, its deleted copies and its existence - not the service, its table, its health, the
FTP client; a request on `downloads/` never touches the database file; all of them need the node ON. What they leave behind
is covered by the restore theorems for EVERY state: a restore that succeeds yields the backup
(`C17_restore_roundtrip_run` allows any of these requests between backup and restore), one without a path fails. -/
theorem C17_fs_requests (s : Server) (db : Bool) (a : FsAct) :
    (s.fsr db a).1 = { s with file := (s.fsr db a).1.file, folder := (s.fsr db a).1.folder, fileDeleted := (s.fsr db a).1.fileDeleted,
                              downloads := (s.fsr db a).1.downloads, dlFolder := (s.fsr db a).1.dlFolder,
                              dlDeleted := (s.fsr db a).1.dlDeleted } ∧
    (db = false → (s.fsr db a).1.file = s.file ∧ (s.fsr db a).1.fileDeleted = s.fileDeleted) ∧
    (db = true → (s.fsr db a).1.downloads = s.downloads ∧ (s.fsr db a).1.dlDeleted = s.dlDeleted) ∧
    (s.node.isOn = false → s.fsr db a = (s, none)) := by
  refine ⟨?_, ?_, ?_, ?_⟩
  · unfold Server.fsr
    split
    · rfl
    · cases db <;> rfl
  · intro h; subst h; unfold Server.fsr; split <;> exact ⟨rfl, rfl⟩
  · intro h; subst h; unfold Server.fsr; split <;> exact ⟨rfl, rfl⟩
  · intro h; unfold Server.fsr; simp [h]

theorem reinstall_cases (s : Server) (cfg : Option InstCfg) :
    let c := cfg.getD { bk := false }
    ((s.reinstall cfg).2 ≠ .done ∧ (s.reinstall cfg).1 = s) ∨
    ((s.reinstall cfg).2 = .done ∧ s.file = none ∧ (s.installed = false ∨ cfg.isSome) ∧ (s.reinstall cfg).1.ftpc.isSome ∧
      (s.reinstall cfg).1 =
        { s with installed := true, op := if s.node.isOn then .running else .stopped,
                 health := if s.node.isOn && c.health == .unused then .good else c.health,
                 restartCd := 0, restartDur := 5, fixCd := if c.health == .fixing then c.fixDur else 0, fixDur := c.fixDur,
                 password := c.pw, backupConfigured := c.bk, conns := [], maxSessions := 100, file := some .good,
                 folder := true, portMine := true, portCo := false,
                 ftpc := (s.reinstall cfg).1.ftpc, ftpConn := (s.reinstall cfg).1.ftpConn,
                 ftpcRestartCd := (s.reinstall cfg).1.ftpcRestartCd, ftpcFix := (s.reinstall cfg).1.ftpcFix,
                 ftpcComp := (s.reinstall cfg).1.ftpcComp, ftpcFirst := (s.reinstall cfg).1.ftpcFirst }) := by
  unfold Server.reinstall
  split
  · exact Or.inl ⟨nofun, rfl⟩
  · split
    · exact Or.inl ⟨nofun, rfl⟩
    · rename_i h1 h2
      have hin : s.installed = false ∨ cfg.isSome = true := by
        cases hi : s.installed <;> cases cfg <;> simp_all
      dsimp only
      split
      · rename_i f hft
        exact Or.inr ⟨rfl, by simpa using h2, hin, by rw [hft]; rfl, rfl⟩
      · exact Or.inr ⟨rfl, by simpa using h2, hin, rfl, rfl⟩

/-- A re-install that is refused or raises changes nothing; one that goes through yields an EMPTY connection table and
leaves the id counter alone (the new instance draws fresh uuids). -/
theorem reinstall_frame (s : Server) (cfg : Option InstCfg) :
    ((s.reinstall cfg).2 ≠ .done → (s.reinstall cfg).1 = s) ∧
    ((s.reinstall cfg).2 = .done → (s.reinstall cfg).1.conns = [] ∧ s.file = none ∧
      (s.reinstall cfg).1.file = some .good ∧ (s.reinstall cfg).1.maxSessions = 100) ∧
    (s.reinstall cfg).1.nextId = s.nextId := by
  rcases reinstall_cases s cfg with ⟨hn, e⟩ | ⟨hd, hf, _, _, e⟩
  · exact ⟨fun _ => e, fun h => absurd h hn, by rw [e]⟩
  · exact ⟨fun h => absurd hd h, fun _ => ⟨by rw [e], hf, by rw [e], by rw [e]⟩, by rw [e]⟩

/-- **Lifecycle, power, fix, backup, restore and ticks never touch the connection table**: stop/start/pause/resume/
restart/disable/enable/fix/compromise/scan requests, node power events, file damage (database/ and downloads/), backups,
restores, administrative changes and ticks leave the table, the id counter and the session limit exactly as they are (so
an id issued before a stop or a power cycle is valid after it, and none appears or disappears by itself).  The one
exception is a re-install of the service that goes through: the NEW instance starts with an empty table
(`reinstall_frame`). -/
theorem C17_table_changed_only_by_traffic (s : Server) (e : SrvEv) (h : ∀ src p, e ≠ .recv src p)
    (h' : ∀ cfg, e ≠ .reinstall cfg) :
    (e.apply s).conns = s.conns ∧ (e.apply s).nextId = s.nextId ∧ (e.apply s).maxSessions = s.maxSessions := by
  cases e with
  | recv src p => exact absurd rfl (h src p)
  | reinstall cfg => exact absurd rfl (h' cfg)
  | setPw pw => exact ⟨rfl, rfl, rfl⟩
  | req r => rw [show (SrvEv.req r).apply s = (s.request r).1 from rfl, request_eq]; exact ⟨rfl, rfl, rfl⟩
  | backup b pq big => exact backup_same s b pq big
  | restore b pq pr k => exact restore_same s b pq pr k
  | fileDelete => simp only [SrvEv.apply, Server.fileDelete]; split <;> exact ⟨rfl, rfl, rfl⟩
  | fileCorrupt => simp only [SrvEv.apply, Server.fileCorrupt]; split <;> exact ⟨rfl, rfl, rfl⟩
  | fileRepair => simp only [SrvEv.apply, Server.fileRepair]; split <;> exact ⟨rfl, rfl, rfl⟩
  | folderDelete => simp only [SrvEv.apply, Server.folderDelete]; split <;> exact ⟨rfl, rfl, rfl⟩
  | admin a => exact ⟨(admin_frame s a).1, (admin_frame s a).2.1, (admin_frame s a).2.2.2.2.2.2.2⟩
  | dl a => rw [show (SrvEv.dl a).apply s = (s.dl a).1 from rfl, dl_eq]; exact ⟨rfl, rfl, rfl⟩
  | fsr db a => rw [show (SrvEv.fsr db a).apply s = (s.fsr db a).1 from rfl, (C17_fs_requests s db a).1]; exact ⟨rfl, rfl, rfl⟩
  | powerOn => rw [show SrvEv.powerOn.apply s = s.powerOn from rfl, powerOn_eq]; exact ⟨rfl, rfl, rfl⟩
  | powerOff => rw [show SrvEv.powerOff.apply s = s.powerOff from rfl, powerOff_eq]; exact ⟨rfl, rfl, rfl⟩
  | tick b t pq pr big k => exact serverTick_same s b t pq pr big k

/-- The tick that completes a fix makes the service GOOD and attempts the restore: afterwards the file is what a
successful restore yields, or — when the restore fails — what it was. -/
theorem C17_fix_completion (s : Server) (b : Backup) (pq pr k : Bool) (hf : s.health = .fixing) (hc : s.fixCd ≤ 1) :
    (s.tickFix b pq pr k).health = .good ∧
    ((restoreBackup { s with health := .good, fixCd := 0 } b pq pr k).2 = false → (s.tickFix b pq pr k).file = s.file) ∧
    ((restoreBackup { s with health := .good, fixCd := 0 } b pq pr k).2 = true → (s.tickFix b pq pr k).file = b.stored) := by
  unfold Server.tickFix
  simp only [hf, hc, if_true]
  refine ⟨?_, ?_, ?_⟩
  · cases hr : (restoreBackup { s with health := .good, fixCd := 0 } b pq pr k).2 with
    | true =>
      obtain ⟨h, _, _, hg, _⟩ := C17_restore_result _ b pq pr k hr
      exact hg
    | false =>
      rw [(C17_failed_restore_changes_nothing _ b pq pr k hr).1]
  · intro hr
    rw [(C17_failed_restore_changes_nothing _ b pq pr k hr).1]
  · intro hr
    exact (C17_restore_yields_backup _ b pq pr k hr).1

theorem receive_connect_ok (s : Server) (src : Nat) (pw : Option Nat) (id : Nat)
    (h : (s.receive src (.connect pw)).2 = some (200, some id)) :
    id = s.nextId ∧ (s.receive src (.connect pw)).1.conns = s.conns ++ [{ id := s.nextId, owner := src }] ∧
    (s.receive src (.connect pw)).1.nextId = s.nextId + 1 := by
  rcases receive_connect s src pw with ⟨_, _, _, _, he⟩ | ⟨_, _, _, hn⟩
  · rw [he] at h ⊢
    exact ⟨(Option.some.inj (Prod.mk.inj (Option.some.inj h)).2).symm, rfl, rfl⟩
  · exact absurd h (hn _)

theorem apply_table (s : Server) (e : SrvEv) :
    ((e.apply s).conns = s.conns ∧ s.nextId ≤ (e.apply s).nextId ∧ (e.apply s).maxSessions = s.maxSessions) ∨
    (∃ src pw, e = .recv src (.connect pw) ∧ (e.apply s).conns = s.conns ++ [{ id := s.nextId, owner := src }] ∧
       (e.apply s).nextId = s.nextId + 1 ∧ (e.apply s).maxSessions = s.maxSessions ∧
       s.password = pw ∧ s.canAct = true ∧ s.conns.length < s.maxSessions) ∨
    (∃ id, (e.apply s).conns = s.conns.filter (fun c => !(c.id == id)) ∧ (e.apply s).nextId = s.nextId ∧
       (e.apply s).maxSessions = s.maxSessions) ∨
    ((e.apply s).conns = [] ∧ (e.apply s).nextId = s.nextId) := by
  have same : ∀ {A B C : Prop}, (s.conns = s.conns ∧ s.nextId ≤ s.nextId ∧ s.maxSessions = s.maxSessions) ∨ A ∨ B ∨ C :=
    Or.inl ⟨rfl, Nat.le_refl _, rfl⟩
  by_cases hr : ∃ src p, e = .recv src p
  · obtain ⟨src, p, rfl⟩ := hr
    cases p with
    | connect pw =>
      rcases receive_connect s src pw with ⟨hc, _, hpw, hlen, he⟩ | ⟨hc, hn, hm, _⟩
      · exact Or.inr (Or.inl ⟨src, pw, rfl, by simp only [SrvEv.apply, he], by simp only [SrvEv.apply, he],
          by simp only [SrvEv.apply, he], hpw, hc, hlen⟩)
      · exact Or.inl ⟨hc, hn, hm⟩
    | sql cid q =>
      simp only [SrvEv.apply, Server.receive]
      split
      · exact same
      · split
        · split
          · dsimp only; rw [processSql_eq]; exact same
          · exact same
        · exact same
    | disconnect cid =>
      simp only [SrvEv.apply, Server.receive]
      split
      · exact same
      · split
        · split
          · exact Or.inr (Or.inr (Or.inl ⟨_, rfl, rfl, rfl⟩))
          · exact same
        · exact same
    | junk k =>
      simp only [SrvEv.apply, Server.receive]
      split <;> exact same
  · by_cases h' : ∃ cfg, e = .reinstall cfg
    · obtain ⟨cfg, rfl⟩ := h'
      have hf := reinstall_frame s cfg
      by_cases hd : (s.reinstall cfg).2 = .done
      · exact Or.inr (Or.inr (Or.inr ⟨(hf.2.1 hd).1, hf.2.2⟩))
      · left; show (s.reinstall cfg).1.conns = _ ∧ _ ≤ (s.reinstall cfg).1.nextId ∧ (s.reinstall cfg).1.maxSessions = _
        rw [hf.1 hd]; exact ⟨rfl, Nat.le_refl _, rfl⟩
    · have := C17_table_changed_only_by_traffic s e (fun src p h => hr ⟨src, p, h⟩) (fun cfg hc => h' ⟨cfg, hc⟩)
      exact Or.inl ⟨this.1, Nat.le_of_eq this.2.1.symm, this.2.2⟩

/-- **Every connection in the table was admitted by a correctly authenticated connect.**  For every event whatsoever:
a connection present afterwards was present before, or it is the fresh id, issued to the sender of a connect request
that carried the server's current password, while the service could act (RUNNING on an ON node) below its session limit. -/
theorem C17_table_grows_only_by_authorised_connect (s : Server) (e : SrvEv) :
    ∀ c ∈ (e.apply s).conns, c ∈ s.conns ∨
      (c.id = s.nextId ∧ ∃ pw, e = .recv c.owner (.connect pw) ∧ s.password = pw ∧ s.node.st = .on ∧ s.op = .running ∧
        s.conns.length < s.maxSessions) := by
  intro c hc
  rcases apply_table s e with ⟨h, _⟩ | ⟨src, pw, rfl, h, _, _, hpw, hca, hlen⟩ | ⟨id, h, _⟩ | ⟨h, _⟩ <;> rw [h] at hc
  · exact Or.inl hc
  · rcases List.mem_append.mp hc with hc | hc
    · exact Or.inl hc
    · cases List.mem_singleton.mp hc
      exact Or.inr ⟨rfl, pw, rfl, hpw, ((C17_canAct_iff s).mp hca).1, ((C17_canAct_iff s).mp hca).2, hlen⟩
  · exact Or.inl (List.mem_filter.mp hc).1
  · cases hc

def Server.WF (s : Server) : Prop := (∀ c ∈ s.conns, c.id < s.nextId) ∧ (s.conns.map (·.id)).Nodup

theorem apply_nextId_mono (s : Server) (e : SrvEv) : s.nextId ≤ (e.apply s).nextId := by
  rcases apply_table s e with ⟨_, h, _⟩ | ⟨_, _, _, _, h, _⟩ | ⟨_, _, h, _⟩ | ⟨_, h⟩
  · exact h
  · rw [h]; exact Nat.le_succ _
  · rw [h]; exact Nat.le_refl _
  · rw [h]; exact Nat.le_refl _

theorem apply_WF (s : Server) (e : SrvEv) (h : s.WF) : (e.apply s).WF := by
  unfold Server.WF
  rcases apply_table s e with ⟨hc, hn, _⟩ | ⟨src, pw, _, hc, hn, _⟩ | ⟨id, hc, hn, _⟩ | ⟨hc, _⟩ <;> rw [hc]
  · exact ⟨fun c hm => Nat.lt_of_lt_of_le (h.1 c hm) hn, h.2⟩
  · -- the appended id is the counter, which every id in the table is below
    rw [hn]
    refine ⟨fun c hm => ?_, ?_⟩
    · rcases List.mem_append.mp hm with hm | hm
      · exact Nat.lt_succ_of_lt (h.1 c hm)
      · rw [List.mem_singleton.mp hm]; exact Nat.lt_succ_self _
    · rw [List.map_append]
      refine nodup_snoc _ _ h.2 (fun ha => ?_)
      obtain ⟨c, hc1, hid⟩ := List.mem_map.mp ha
      exact Nat.ne_of_lt (h.1 c hc1) hid
  · rw [hn]
    exact ⟨fun c hm => h.1 c (List.mem_filter.mp hm).1, (List.Sublist.map _ List.filter_sublist).nodup h.2⟩
  · exact ⟨fun c hc => (by cases hc), List.nodup_nil⟩

theorem C17_table_wellformed_run (st : State) (ops : List Op) (h : st.srv.WF) : (run st ops).srv.WF :=
  (run_reach st ops).invariant (I := Server.WF) (fun s e _ hs => apply_WF s e hs) h

/-- **Forged ids.**  In a well-formed state an id that has not been issued (the counter has not reached it) is not in
the table, so a query carrying it — or carrying no issued id at all — is answered 401 and changes nothing. -/
theorem C17_forged_refused (s : Server) (h : s.WF) (src : Nat) (q : Sql) (cid : Option Nat)
    (hf : ∀ id, cid = some id → s.nextId ≤ id) (hc : s.canAct = true) :
    s.receive src (.sql cid q) = (s, some (401, none)) := by
  have hn : ¬ ∃ id, cid = some id ∧ s.hasConn id = true := by
    rintro ⟨id, rfl, hid⟩
    obtain ⟨c, hcm, rfl⟩ := (hasConn_iff s id).mp hid
    exact absurd (h.1 c hcm) (Nat.not_lt.mpr (hf _ rfl))
  have hg := (C17_query_gated s src cid q).2.1
  exact hg ⟨hc, hn⟩

theorem apply_closed_stays (s : Server) (e : SrvEv) (id : Nat) (hlt : id < s.nextId) (hno : s.hasConn id = false) :
    id < (e.apply s).nextId ∧ (e.apply s).hasConn id = false := by
  refine ⟨Nat.lt_of_lt_of_le hlt (apply_nextId_mono s e), ?_⟩
  refine Bool.eq_false_iff.mpr (fun hh => ?_)
  obtain ⟨c, hcm, rfl⟩ := (hasConn_iff _ id).mp hh
  rcases C17_table_grows_only_by_authorised_connect s e c hcm with h1 | ⟨h2, _⟩
  · rw [(hasConn_iff s c.id).mpr ⟨c, h1, rfl⟩] at hno; cases hno
  · omega

/-- **Closed ids stay closed.**  Once an issued id is absent from the table (it was closed, or never admitted), it stays absent
along every operation sequence: queries on it are answered 401 (when answered at all) for ever. -/
theorem C17_closed_stays_closed_run (st : State) (ops : List Op) (id : Nat)
    (hlt : id < st.srv.nextId) (hno : st.srv.hasConn id = false) :
    (run st ops).srv.hasConn id = false ∧
    ∀ src q, ((run st ops).srv.receive src (.sql (some id) q)).1 = (run st ops).srv ∧
      (((run st ops).srv.receive src (.sql (some id) q)).2 = some (401, none) ∨
       ((run st ops).srv.receive src (.sql (some id) q)).2 = none) := by
  have hinv := (run_reach st ops).invariant (I := fun s => id < s.nextId ∧ s.hasConn id = false)
    (fun s e _ hs => apply_closed_stays s e id hs.1 hs.2) ⟨hlt, hno⟩
  refine ⟨hinv.2, ?_⟩
  intro src q
  by_cases hc : (run st ops).srv.canAct = true
  · have := (C17_query_gated (run st ops).srv src (some id) q).2.1 ⟨hc, by
      rintro ⟨id', h1, h2⟩; cases h1; rw [hinv.2] at h2; cases h2⟩
    rw [this]; exact ⟨rfl, Or.inl rfl⟩
  · have hc' : (run st ops).srv.canAct = false := by simpa using hc
    have := (C17_query_gated (run st ops).srv src (some id) q).2.2 hc'
    rw [this]; exact ⟨rfl, Or.inr rfl⟩

/-- The events that can take the file out of COMPROMISED: a restore (on demand, or by a tick that completes a fix),
an ENCRYPT query, deletion of the file. -/
def IsEscape : SrvEv → Prop
  | .restore _ _ _ _ => True
  | .tick _ _ _ _ _ _ => True
  | .fileDelete => True
  | .folderDelete => True
  | .fsr true _ => True          -- file-system requests on database/ (delete, restore of a deleted copy, folder delete ...)
  | .recv _ (.sql _ .encrypt) => True
  | _ => False

theorem apply_compromised_persists (s : Server) (e : SrvEv) (hne : ¬ IsEscape e) (h : s.file = some .compromised) :
    (e.apply s).file = some .compromised := by
  cases e with
  | recv src p =>
    cases p with
    | connect pw =>
      simp only [SrvEv.apply, Server.receive]
      split
      · exact h
      · dsimp only; rw [processConnect_eq]; exact h
    | sql cid q =>
      simp only [SrvEv.apply, Server.receive]
      have key : (processSql s q).1.file = some .compromised := by
        cases q with
        | encrypt => exact absurd trivial hne
        | delete => unfold processSql; rw [h]; dsimp only; split <;> simp [h]
        | select => rw [C17_nondestructive_unchanged s .select (by decide)]; exact h
        | insert => rw [C17_nondestructive_unchanged s .insert (by decide)]; exact h
        | pgstat => rw [C17_nondestructive_unchanged s .pgstat (by decide)]; exact h
        | other => rw [C17_nondestructive_unchanged s .other (by decide)]; exact h
      (repeat' split) <;> first | exact h | exact key
    | disconnect cid =>
      simp only [SrvEv.apply, Server.receive]
      (repeat' split) <;> exact h
    | junk k =>
      simp only [SrvEv.apply, Server.receive]
      split <;> exact h
  | dl a => exact (congrArg Server.file (dl_eq s a)).trans h
  | fsr db a =>
    cases db with
    | true => exact absurd trivial hne
    | false => exact ((C17_fs_requests s false a).2.1 rfl).1.trans h
  | reinstall cfg =>
    -- a re-install goes through only while there is no live file: COMPROMISED data makes the constructor raise
    have hf := reinstall_frame s cfg
    by_cases hd : (s.reinstall cfg).2 = .done
    · rw [(hf.2.1 hd).2.1] at h; cases h
    · exact (congrArg Server.file (hf.1 hd)).trans h
  | req r => exact (congrArg Server.file (request_eq s r)).trans h
  | setPw pw => exact h
  | backup b pq big => exact (congrArg Server.file (backupDatabase_srv s b pq big)).trans h
  | admin a => exact (admin_frame s a).2.2.1.trans h
  | fileCorrupt => simp [SrvEv.apply, Server.fileCorrupt, h]
  | fileRepair => simp [SrvEv.apply, Server.fileRepair, h]
  | powerOn => exact (congrArg Server.file (powerOn_eq s)).trans h
  | powerOff => exact (congrArg Server.file (powerOff_eq s)).trans h
  | restore _ _ _ _ | fileDelete | folderDelete | tick _ _ _ _ _ _ => exact absurd trivial hne

/-- Operations that cannot produce an escaping event. -/
def Op.keepsCompromised : Op → Bool
  | .restore _ _ => false
  | .tick _ _ _ => false
  | .fileDelete => false
  | .folderDelete => false
  | .fsr true _ => false
  | .dm _ .encrypt _ _ _ => false
  | .ransomReq _ .encrypt => false
  | .rawQuery _ _ .encrypt => false
  | .hQuery _ .encrypt => false
  | .nQuery _ .encrypt => false
  | .ransom _ .encrypt => false
  | _ => true

theorem not_escape_connect {e : SrvEv} (h : IsConnect e) : ¬ IsEscape e := by
  obtain ⟨j, pw, rfl⟩ := h; exact id

theorem not_escape_disc {e : SrvEv} (h : IsDisc e) : ¬ IsEscape e := by
  obtain ⟨j, cid, rfl⟩ := h; exact id

theorem not_escape_sql {e : SrvEv} {q : Sql} (h : IsSql q e) (hq : q ≠ .encrypt) : ¬ IsEscape e := by
  obtain ⟨j, cid, rfl⟩ := h
  cases q <;> first | exact id | exact absurd rfl hq

theorem keepsCompromised_no_escape (op : Op) (h : op.keepsCompromised = true) (e : SrvEv) (ha : OpAllows op e) :
    ¬ IsEscape e := by
  have hq : ∀ q, (q = .encrypt → op.keepsCompromised = false) → IsSql q e → ¬ IsEscape e :=
    fun q hq' hs => not_escape_sql hs (fun he => by rw [hq' he] at h; cases h)
  cases op with
  | connect _ | nConnect _ => exact not_escape_connect ha
  | rawDisconnect _ _ | hDisconnect _ | nDisconnect _ | uninstall _ => exact not_escape_disc ha
  | rawQuery _ _ q | hQuery _ q | nQuery _ q => exact hq q (fun he => by rw [he]; rfl) ha
  | execute _ => exact ha.elim not_escape_connect (fun ha => not_escape_sql ha (by decide))
  | ransom _ q | dm _ q _ _ _ | ransomReq _ q => exact ha.elim not_escape_connect (hq q (fun he => by rw [he]; rfl))
  | rawJunk _ _ => obtain ⟨j, k, rfl⟩ := ha; exact id
  | backup _ => obtain ⟨b, pq, g, rfl⟩ := ha; exact id
  | power _ on => obtain ⟨_, rfl⟩ := ha; cases on <;> exact id
  | fsr db _ =>
    cases ha
    cases db with
    | true => cases h
    | false => exact id
  | dl _ | svcInstall _ | svc _ | setPw _ | admin _ | fileCorrupt | fileRepair => cases ha; exact id
  | restore _ _ | fileDelete | folderDelete | tick _ _ _ => cases h
  | co _ | bkDelete | install _ | appRun _ | appClose _ | clientPw _ _ | ftps _ | block _ _ => exact ha.elim

theorem receive_select_compromised (s : Server) (h : s.file = some .compromised) (src : Nat) (cid : Option Nat)
    (a : Nat × Option Nat) (ha : (s.receive src (.sql cid .select)).2 = some a) : a.1 ≠ 200 := by
  have hsel := C17_select_fails_on_compromised s h
  simp only [Server.receive] at ha
  split at ha
  · simp at ha
  · split at ha
    · split at ha
      · simp only [Option.some.injEq] at ha; rw [← ha]; exact hsel.1
      · simp only [Option.some.injEq] at ha; rw [← ha]; decide
    · simp only [Option.some.injEq] at ha; rw [← ha]; decide

/-- **Reads of compromised data fail until it is restored.**  Along any operation sequence that contains no restore,
no tick (a tick may complete a fix, which restores), no ENCRYPT, no deletion of the file and no file-system request on
database/, the file stays COMPROMISED, and every SELECT — from any client, on any connection — is not answered 200. -/
theorem C17_compromised_until_restored_run (st : State) (ops : List Op)
    (hops : ∀ op ∈ ops, op.keepsCompromised = true) (h : st.srv.file = some .compromised) :
    (run st ops).srv.file = some .compromised ∧
    ∀ i cid, ((run st ops).rawQuery i cid .select).2.2 = false := by
  have hfile := (run_reach st ops).invariant (I := fun s => s.file = some .compromised)
    (fun s e ⟨op, hm, ha⟩ hs => apply_compromised_persists s e (keepsCompromised_no_escape op (hops op hm) e ha) hs) h
  refine ⟨hfile, ?_⟩
  intro i cid
  generalize run st ops = st' at hfile
  unfold State.rawQuery
  dsimp only
  cases hs : (st'.send i (.sql cid .select)).2.2 with
  | none => rfl
  | some a =>
    have h1 := receive_select_compromised st'.srv hfile i cid a (send_seen st' i _ a hs)
    obtain ⟨code, oid⟩ := a
    split
    · rename_i heq; simp only [Option.some.injEq, Prod.mk.injEq] at heq; exact absurd heq.1 h1
    · rfl

/-- the events by which clients, `backup_database()` and `restore_backup()` calls reach the service -/
def IsTraffic : SrvEv → Prop
  | .recv _ _ | .backup _ _ _ | .restore _ _ _ _ => True
  | _ => False

theorem apply_unavailable (s : Server) (e : SrvEv) (h : s.canAct = false) (he : IsTraffic e) : e.apply s = s := by
  cases e with
  | recv src p => simp [SrvEv.apply, C17_unavailable_receive s h]
  | backup b pq g => simp [SrvEv.apply, (C17_unavailable_backup_restore s h b pq true g true).1]
  | restore b pq pr k => simp [SrvEv.apply, (C17_unavailable_backup_restore s h b pq pr true k).2]
  | _ => exact he.elim

/-- Operations by which clients (and red applications) talk to the server, plus backup and restore. -/
def Op.isTraffic : Op → Bool
  | .connect _ | .rawQuery _ _ _ | .rawDisconnect _ _ | .rawJunk _ _ | .hQuery _ _ | .hDisconnect _ | .nConnect _ | .nQuery _ _
  | .nDisconnect _ | .execute _ | .uninstall _ | .ransom _ _ | .backup _ | .restore _ _ | .dm _ _ _ _ _
  | .ransomReq _ _ => true
  | _ => false

theorem traffic_events (op : Op) (h : op.isTraffic = true) (e : SrvEv) (ha : OpAllows op e) : IsTraffic e := by
  have hc : IsConnect e → IsTraffic e := fun ⟨_, _, h⟩ => by rw [h]; trivial
  have hq : ∀ {q}, IsSql q e → IsTraffic e := fun ⟨_, _, h⟩ => by rw [h]; trivial
  have hd : IsDisc e → IsTraffic e := fun ⟨_, _, h⟩ => by rw [h]; trivial
  cases op with
  | connect _ | nConnect _ => exact hc ha
  | rawQuery _ _ _ | hQuery _ _ | nQuery _ _ => exact hq ha
  | rawDisconnect _ _ | hDisconnect _ | nDisconnect _ | uninstall _ => exact hd ha
  | execute _ | ransom _ _ | dm _ _ _ _ _ | ransomReq _ _ => exact ha.elim hc hq
  | rawJunk _ _ => obtain ⟨_, _, rfl⟩ := ha; trivial
  | backup _ => obtain ⟨_, _, _, rfl⟩ := ha; trivial
  | restore _ _ => obtain ⟨_, _, _, _, rfl⟩ := ha; trivial
  | _ => cases h

/-- **Unavailability.**  While the service is not RUNNING or its node is not ON, no sequence of connects, queries,
disconnects, executes, uninstalls, ransomware attacks, backups and restores — by any clients — changes the server. -/
theorem C17_unavailable_run (st : State) (ops : List Op) (hops : ∀ op ∈ ops, op.isTraffic = true)
    (h : st.srv.canAct = false) : (run st ops).srv = st.srv := by
  have := (run_reach st ops).invariant (I := fun s => s = st.srv)
    (fun s e ⟨op, hm, ha⟩ hs => by
      subst hs
      exact apply_unavailable _ e h (traffic_events op (hops op hm) e ha)) rfl
  exact this

/-- … and in such a state (or with the request path closed) a connect yields no handle and a query fails, leaving the
*whole* state unchanged. -/
theorem C17_unavailable_connect_query (st : State) (i : Nat)
    (h : st.srv.canAct = false ∨ st.reqOpen i = false ∨ st.srv.listening = false) :
    (st.getNewConnection i).2.2 = none ∧ (st.getNewConnection i).1 = st ∧
    ∀ cid q, (st.rawQuery i cid q).2.2 = false ∧ (st.rawQuery i cid q).1 = st := by
  have hs : ∀ p, st.send i p = (st, none, none) := by
    intro p
    rcases h with h | h | h
    · exact C17_unavailable_send st i p h
    · exact C17_blocked_send st i p h
    · exact C17_not_listening_send st i p h
  have hg : st.getNewConnection i = (st, none, none) := by
    unfold State.getNewConnection
    split
    · rfl
    · split
      · rfl
      · simp [hs]
  exact ⟨by rw [hg], by rw [hg], fun cid q => by simp [State.rawQuery, hs]⟩

/-- The freshness hypothesis of `C17_tr_process_connect` (`Props/C17Recv.lean`) holds in every well-formed state, hence (`C17_table_wellformed_run`) along every run. -/
theorem C17_tr_fresh_of_wf (s : Server) (h : s.WF) : s.hasConn s.nextId = false := by
  refine Bool.eq_false_iff.mpr (fun hh => ?_)
  obtain ⟨c, hcm, hid⟩ := (hasConn_iff s s.nextId).mp hh
  exact absurd (h.1 c hcm) (by omega)

/-- With shut-down duration 0 a power-off takes the database host straight to OFF and stops the service at once: from
that moment the service cannot act (so `C17_unavailable_*` apply); table and data are untouched. -/
theorem C17_power_off_immediate (s : Server) (h : s.node.downDur = 0) :
    s.powerOff.node.st = .off ∧ s.powerOff.canAct = false ∧ s.powerOff.conns = s.conns ∧ s.powerOff.file = s.file := by
  unfold Server.powerOff Node.powerOff Server.shutDown Server.canAct Node.isOn
  simp only [h, if_true]
  by_cases hi : s.installed = true <;> simp [hi]

/-- The bot reaches stage PORT_SCAN only from PORT_SCAN, or from NOT_STARTED / LOGON with a successful port-scan trial. -/
theorem C17_dm_stage (stage : Nat) (scan : Bool) :
    (dmAdvance stage scan = 2 ↔ (stage = 2 ∨ ((stage = 0 ∨ stage = 1) ∧ scan = true))) := by
  unfold dmAdvance
  by_cases h0 : stage = 0
  · subst h0; cases scan <;> simp
  · by_cases h1 : stage = 1
    · subst h1; cases scan <;> simp
    · cases scan <;> simp [h0, h1]

/-- **Kill chain gating.**  `DataManipulationBot.attack()` sends nothing to the database unless the stage machine is in
PORT_SCAN after this call's logon / port-scan steps AND the data-manipulation trial succeeds; otherwise the server is
unchanged.  (When it does send, it is one `get_new_connection` and one `handle.query`: `dmAttack_reach`, so every
sequence theorem above covers the bot.) -/
theorem C17_dm_gated (st : State) (i : Nat) (q : Sql) (scan atk : Bool) (c : Client) (hc : st.client? i = some c)
    (h : ¬ (dmAdvance c.dmStage scan = 2 ∧ atk = true)) : (st.dmAttack i q scan atk).1.srv = st.srv :=
  dmAttack_keeps (.ofSrv (A := fun _ => False) (I := (· = st.srv)) fun _ _ he => he.elim) q st i scan atk
    (fun _ hc' hg => absurd (Option.some.inj (hc.symm.trans hc') ▸ hg) h) rfl

example : (run ({ clients := [{ dmInstalled := true, dmApp := .running }] } : State)
    [.dm 0 .delete true true false]).srv.file = some .compromised := by decide
example : (run ({ clients := [{ dmInstalled := true, dmApp := .running }] } : State)
    [.dm 0 .delete false true false, .dm 0 .delete true false false]).srv.file = some .good := by decide
example : (run ({ srv := { node := { downDur := 0 } }, clients := [{}] } : State) [.power 0 false, .connect 0]).srv.conns = [] := by decide
example : (run ({ srv := { backupConfigured := false } } : State) [.backup true, .restore true true]).bk.stored = none := by decide
example : (run ({ clients := [{}] } : State) [.admin .coInstall, .connect 0]).srv.conns = [] := by decide
example : (run ({ clients := [{}] } : State) [.backup true, .rawQuery 0 none .select, .admin (.ftpc .stop), .restore true true]).srv.downloads = none := by decide

example : ({ srv := { op := .stopped }, clients := [{}] } : State).srv.canAct = false := by decide
example : (run ({ srv := { op := .stopped }, clients := [{}] } : State) [.connect 0, .rawQuery 0 (some 0) .delete, .restore true true]).srv
    = ({ op := .stopped } : Server) := by decide

end Primaite.Database
