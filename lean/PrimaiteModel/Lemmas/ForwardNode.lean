/-
Facts about the definitions of `Model/Forward.lean` alone — a frame's decrement, the interface look-ups, reading a node or an interface
off a state, what `addArp` and `learnMac` do to a node — that the properties of C08 share.
-/
import PrimaiteModel.Model.Forward
namespace Primaite.Forward

theorem Frame.dec_pl (f : Frame) : f.dec.pl = f.pl := rfl

theorem Frame.dec_dstIp (f : Frame) : f.dec.dstIp = f.dstIp := rfl

theorem Frame.dec_dstMac (f : Frame) : f.dec.dstMac = f.dstMac := rfl

theorem initTtl_ge : (2 : Int) ≤ initTtl := by decide

theorem firstIn_single (ifc : Iface) (t : Ip) (hin : ifc.inNet t = true) : firstIn [ifc] t 0 = some 0 := by
  simp [firstIn, hin]

theorem firstEnabledIn_single (ifc : Iface) (t : Ip) (hin : ifc.inNet t = true) (hen : ifc.enabled = true) :
    firstEnabledIn [ifc] t 0 = some 0 := by
  simp [firstEnabledIn, hin, hen]

theorem ifaceWithIp_single (ifc : Iface) (ip : Ip) (h : ifc.ip ≠ ip) : ifaceWithIp [ifc] ip = none := by
  simp [ifaceWithIp, h]

theorem hostAccepts_ifaces (nd nd' : Node) (ifc : Iface) (f : Frame) (h : nd.ifaces = nd'.ifaces) :
    hostAccepts nd ifc f = hostAccepts nd' ifc f := by
  unfold hostAccepts; rw [h]

@[simp] theorem emit_node (st : St) (e : Ev) (n : Nat) : (st.emit e).node? n = st.node? n := rfl
@[simp] theorem node?_out (st : St) (k : Nat) : st.out.node? k = st.node? k := rfl
@[simp] theorem emit_iface (st : St) (e : Ev) (n o : Nat) : (st.emit e).iface? n o = st.iface? n o := rfl

theorem node?_modNode (st : St) (n k : Nat) (f : Node → Node) :
    (st.modNode n f).node? k = if n = k then (st.node? k).map f else st.node? k := by
  unfold St.modNode St.node?
  simp only [List.getElem?_modify]
  split <;> simp

theorem node?_modNode_self {X : St} {n : Nat} {nd : Node} (hn : X.node? n = some nd) (f : Node → Node) :
    (X.modNode n f).node? n = some (f nd) := by
  rw [node?_modNode, if_pos rfl, hn]; rfl

theorem node?_modNode_ne (X : St) {n m : Nat} (h : n ≠ m) (f : Node → Node) : (X.modNode n f).node? m = X.node? m := by
  rw [node?_modNode, if_neg h]

theorem modNode_fix {st : St} {n : Nat} {nd : Node} {f : Node → Node} (hn : st.node? n = some nd) (h : f nd = nd) :
    st.modNode n f = st := by
  unfold St.modNode
  have : st.nodes.modify n f = st.nodes := by
    apply List.ext_getElem?
    intro k
    simp only [List.getElem?_modify]
    split
    · rename_i hk
      subst hk
      rw [show st.nodes[n]? = some nd from hn]
      simp [h]
    · simp
  rw [this]

theorem iface?_of_node {X : St} {n : Nat} {nd : Node} (hn : X.node? n = some nd) (i : Nat) : X.iface? n i = nd.ifaces[i]? := by
  unfold St.iface?; unfold St.node? at hn; rw [hn]; rfl

theorem iface0_of (X : St) (n : Nat) (nd : Node) (ifc : Iface) (hn : X.node? n = some nd) (hifs : nd.ifaces = [ifc]) :
    X.iface? n 0 = some ifc := by
  rw [iface?_of_node hn, hifs]; rfl

/-! ### the ARP cache: `addArp` changes nothing but the cache, and only by appending -/

theorem arpGet_nil (nd : Node) (h : nd.arp = []) (ip : Ip) : nd.arpGet ip = none := by
  unfold Node.arpGet; rw [h]; rfl

theorem addArp_eq (nd : Node) (ip : Ip) (mac : Mac) (i : Nat) : nd.addArp ip mac i = { nd with arp := (nd.addArp ip mac i).arp } := by
  unfold Node.addArp; split
  · rfl
  · split <;> rfl

theorem addArp_cache (nd : Node) (ip : Ip) (mac : Mac) (i : Nat) : ∃ l, nd.addArp ip mac i = { nd with arp := l } :=
  ⟨_, addArp_eq nd ip mac i⟩

theorem addArp_kind (nd : Node) (ip : Ip) (mac : Mac) (i : Nat) : (nd.addArp ip mac i).kind = nd.kind := by
  rw [addArp_eq]

theorem addArp_on (nd : Node) (ip : Ip) (mac : Mac) (i : Nat) : (nd.addArp ip mac i).on = nd.on := by
  rw [addArp_eq]

theorem addArp_ifaces (nd : Node) (ip : Ip) (mac : Mac) (i : Nat) : (nd.addArp ip mac i).ifaces = nd.ifaces := by
  rw [addArp_eq]

theorem addArp_gateway (nd : Node) (ip : Ip) (mac : Mac) (i : Nat) : (nd.addArp ip mac i).gateway = nd.gateway := by
  rw [addArp_eq]

theorem addArp_replies (nd : Node) (ip : Ip) (mac : Mac) (i : Nat) : (nd.addArp ip mac i).replies = nd.replies := by
  rw [addArp_eq]

theorem addArp_ports (nd : Node) (ip : Ip) (mac : Mac) (i : Nat) : (nd.addArp ip mac i).ports = nd.ports := by
  rw [addArp_eq]

theorem addArp_got (nd : Node) (ip : Ip) (mac : Mac) (i : Nat) : (nd.addArp ip mac i).got = nd.got := by
  rw [addArp_eq]

theorem addArp_serves (nd : Node) (ip : Ip) (mac : Mac) (i : Nat) : (nd.addArp ip mac i).serves = nd.serves := by
  rw [addArp_eq]

theorem arpGet_addArp_new (nd : Node) (ip : Ip) (mac : Mac) (i : Nat) (h1 : ifaceWithIp nd.ifaces ip = none)
    (h2 : nd.arpGet ip = none) : (nd.addArp ip mac i).arpGet ip = some { ip := ip, mac := mac, ifc := i } := by
  unfold Node.addArp
  simp only [h1, h2, Option.isSome_none, Bool.false_eq_true, if_false]
  unfold Node.arpGet at h2 ⊢
  simp [List.find?_append, h2]

theorem arpGet_addArp_other (nd : Node) (ip ip' : Ip) (mac : Mac) (i : Nat) (h : ip' ≠ ip) :
    (nd.addArp ip mac i).arpGet ip' = nd.arpGet ip' := by
  unfold Node.addArp
  split
  · rfl
  · split
    · rfl
    · unfold Node.arpGet
      have hne : (ip == ip') = false := by simpa using fun h' => h h'.symm
      simp only [List.find?_append]
      cases nd.arp.find? (fun e => e.ip == ip') <;> simp [hne]

theorem addArp_known (nd : Node) (ip : Ip) (mac : Mac) (i : Nat) (e : ArpEntry) (h : nd.arpGet ip = some e) :
    nd.addArp ip mac i = nd := by
  unfold Node.addArp
  split
  · rfl
  · simp [h]

theorem arpGet_addArp_some (nd : Node) (ip ip' : Ip) (mac : Mac) (i : Nat) (e : ArpEntry) (h : nd.arpGet ip' = some e) :
    (nd.addArp ip mac i).arpGet ip' = some e := by
  by_cases hip : ip' = ip
  · rw [← hip, addArp_known nd ip' mac i e h]; exact h
  · rw [arpGet_addArp_other nd ip ip' mac i hip]; exact h

theorem addArp_fix {st : St} {n : Nat} {nd : Node} {ip : Ip} {es : ArpEntry} (hn : st.node? n = some nd)
    (hes : nd.arpGet ip = some es) (mac : Mac) (i : Nat) : st.modNode n (fun nd => nd.addArp ip mac i) = st :=
  modNode_fix hn (addArp_known nd ip mac i es hes)

theorem mem_addArp (nd : Node) (ip : Ip) (mac : Mac) (i : Nat) (e : ArpEntry) (h : e ∈ (nd.addArp ip mac i).arp) :
    e ∈ nd.arp ∨ (e.ip = ip ∧ e.mac = mac) := by
  unfold Node.addArp at h
  split at h
  · exact Or.inl h
  · split at h
    · exact Or.inl h
    · simp only [List.mem_append, List.mem_singleton] at h
      rcases h with h | h
      · exact Or.inl h
      · right; subst h; exact ⟨rfl, rfl⟩

theorem hostArpNext_first (nd : Node) (ip : Ip) : ∃ gw', hostArpNext nd ip false false = .go ip true gw' := by
  unfold hostArpNext
  simp only [Bool.false_or]
  by_cases hg : nd.gateway = some ip
  · simp [hg]
  · have : (nd.gateway == some ip) = false := by simpa using hg
    simp [this]

/-! ### the MAC table: `learnMac` changes nothing but the table, and re-points the learned address -/

theorem learnMac_table (nd : Node) (m : Mac) (p : Nat) : ∃ t, nd.learnMac m p = { nd with macTable := t } := by
  unfold Node.learnMac
  split
  · exact ⟨_, rfl⟩
  · split
    · exact ⟨_, rfl⟩
    · exact ⟨_, rfl⟩

theorem learnMac_ifaces (nd : Node) (m : Mac) (p : Nat) : (nd.learnMac m p).ifaces = nd.ifaces := by
  obtain ⟨t, h⟩ := learnMac_table nd m p
  rw [h]

theorem learnMac_kind (nd : Node) (m : Mac) (p : Nat) : (nd.learnMac m p).kind = nd.kind := by
  obtain ⟨t, h⟩ := learnMac_table nd m p
  rw [h]

theorem iface?_learn (X : St) (s i : Nat) (m : Mac) (nd : Node) (hn : X.node? s = some nd) (p : Nat) :
    (X.modNode s (fun nd => nd.learnMac m i)).iface? s p = nd.ifaces[p]? := by
  rw [iface?_of_node (node?_modNode_self hn _), learnMac_ifaces]

theorem learnMac_known (nd : Node) (mac : Mac) (port : Nat) (h : nd.macTable.find? (fun e => e.1 == mac) = some (mac, port)) :
    nd.learnMac mac port = nd := by
  unfold Node.learnMac
  simp [h]

theorem find_learn_self (nd : Node) (m : Mac) (p : Nat) :
    (nd.learnMac m p).macTable.find? (fun e => e.1 == m) = some (m, p) := by
  unfold Node.learnMac
  cases hf : nd.macTable.find? (fun e => e.1 == m) with
  | none => simp [List.find?_append, hf]
  | some x =>
    obtain ⟨m', p'⟩ := x
    have hm : m' = m := by
      have := List.find?_some hf
      simpa using this
    subst hm
    simp only
    split
    · rename_i hpp
      have : p' = p := by simpa using hpp
      subst this
      exact hf
    · have hnone : (nd.macTable.filter (fun e => e.1 != m')).find? (fun e => e.1 == m') = none := by
        rw [List.find?_eq_none]
        intro x hx
        have := (List.mem_filter.1 hx).2
        simp only [bne_iff_ne, ne_eq] at this
        simpa using this
      simp [List.find?_append, hnone]

theorem find_learn_other (nd : Node) (m m' : Mac) (p : Nat) (h : m' ≠ m) :
    (nd.learnMac m p).macTable.find? (fun e => e.1 == m') = nd.macTable.find? (fun e => e.1 == m') := by
  have hne : (m == m') = false := by simpa using fun h' => h h'.symm
  have hfilt : (nd.macTable.filter (fun e => e.1 != m)).find? (fun e => e.1 == m') = nd.macTable.find? (fun e => e.1 == m') := by
    rw [List.find?_filter]
    congr 1
    funext e
    by_cases he : e.1 = m' <;> simp [he, h]
  have happ : ∀ l : List (Mac × Nat), (l ++ [(m, p)]).find? (fun e => e.1 == m') = l.find? (fun e => e.1 == m') := by
    intro l
    rw [List.find?_append]
    cases l.find? (fun e => e.1 == m') <;> simp [hne]
  unfold Node.learnMac
  split
  · exact happ _
  · split
    · rfl
    · exact (happ _).trans hfilt

theorem macPort_learn_self (nd : Node) (m : Mac) (p : Nat) : (nd.learnMac m p).macPort m = some p := by
  unfold Node.macPort; rw [find_learn_self]; rfl

theorem macPort_learn_other (nd : Node) (m m' : Mac) (p : Nat) (h : m' ≠ m) : (nd.learnMac m p).macPort m' = nd.macPort m' := by
  unfold Node.macPort; rw [find_learn_other nd m m' p h]

end Primaite.Forward
