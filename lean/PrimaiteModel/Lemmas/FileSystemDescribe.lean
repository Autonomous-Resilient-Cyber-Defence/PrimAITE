/-
`pyDict` (a dict built by a comprehension) — the facts `describe_state` needs.
-/
import PrimaiteModel.Model.FileSystem
namespace Primaite.FileSystem

variable {β : Type}

def pyDictStep (acc : List (Name × β)) (p : Name × β) : List (Name × β) :=
  if acc.any (fun q => q.1 == p.1) then acc.map (fun q => if q.1 == p.1 then p else q) else acc ++ [p]

theorem pyDict_eq (l : List (Name × β)) : pyDict l = l.foldl pyDictStep [] := rfl

theorem pyDictStep_keys_mem (acc : List (Name × β)) (p : Name × β) (k : Name) :
    k ∈ (pyDictStep acc p).map (·.1) ↔ k ∈ acc.map (·.1) ∨ k = p.1 := by
  unfold pyDictStep
  split
  · rename_i hany
    have hkeys : (acc.map (fun q => if q.1 == p.1 then p else q)).map (·.1) = acc.map (·.1) := by
      rw [List.map_map]
      apply List.map_congr_left
      intro q _
      by_cases hq : q.1 = p.1 <;> simp [hq]
    rw [hkeys]
    constructor
    · exact Or.inl
    · rintro (h | rfl)
      · exact h
      · simp only [List.any_eq_true, beq_iff_eq] at hany
        obtain ⟨q, hq, hqk⟩ := hany
        exact List.mem_map.mpr ⟨q, hq, hqk⟩
  · simp [List.mem_append]

theorem pyDictStep_mem (acc : List (Name × β)) (p q : Name × β) (h : q ∈ pyDictStep acc p) : q ∈ acc ∨ q = p := by
  unfold pyDictStep at h
  split at h
  · obtain ⟨r, hr, rfl⟩ := List.mem_map.mp h
    by_cases hk : r.1 = p.1 <;> simp [hk, hr]
  · simpa [List.mem_append] using h

theorem foldl_pyDictStep_keys_mem (l acc : List (Name × β)) (k : Name) :
    k ∈ (l.foldl pyDictStep acc).map (·.1) ↔ k ∈ acc.map (·.1) ∨ k ∈ l.map (·.1) := by
  induction l generalizing acc with
  | nil => simp
  | cons p t ih =>
    simp only [List.foldl_cons, List.map_cons, List.mem_cons]
    rw [ih, pyDictStep_keys_mem]
    exact or_assoc

theorem foldl_pyDictStep_mem (l acc : List (Name × β)) (q : Name × β) (h : q ∈ l.foldl pyDictStep acc) :
    q ∈ acc ∨ q ∈ l := by
  induction l generalizing acc with
  | nil => exact Or.inl h
  | cons p t ih =>
    simp only [List.foldl_cons] at h
    rcases ih _ h with h' | h'
    · rcases pyDictStep_mem acc p q h' with h'' | rfl
      · exact Or.inl h''
      · exact Or.inr (List.mem_cons_self ..)
    · exact Or.inr (List.mem_cons_of_mem _ h')

theorem foldl_pyDictStep_nodup (l acc : List (Name × β)) (h : ((acc ++ l).map (·.1)).Nodup) :
    l.foldl pyDictStep acc = acc ++ l := by
  induction l generalizing acc with
  | nil => simp
  | cons p t ih =>
    simp only [List.foldl_cons]
    have hnot : acc.any (fun q => q.1 == p.1) = false := by
      rw [List.map_append, List.nodup_append] at h
      apply Bool.eq_false_iff.mpr
      intro hany
      simp only [List.any_eq_true, beq_iff_eq] at hany
      obtain ⟨q, hq, hqk⟩ := hany
      exact h.2.2 q.1 (List.mem_map.mpr ⟨q, hq, rfl⟩) p.1 (by simp) hqk
    have hstep : pyDictStep acc p = acc ++ [p] := by unfold pyDictStep; simp [hnot]
    rw [hstep, ih (acc ++ [p]) (by simpa [List.append_assoc] using h)]
    simp [List.append_assoc]

theorem pyDict_of_nodup (l : List (Name × β)) (h : (l.map (·.1)).Nodup) : pyDict l = l := by
  rw [pyDict_eq, foldl_pyDictStep_nodup l [] (by simpa using h)]; simp

theorem pyDict_keys_mem (l : List (Name × β)) (k : Name) : k ∈ (pyDict l).map (·.1) ↔ k ∈ l.map (·.1) := by
  rw [pyDict_eq, foldl_pyDictStep_keys_mem]; simp

theorem pyDict_mem (l : List (Name × β)) (q : Name × β) (h : q ∈ pyDict l) : q ∈ l := by
  rw [pyDict_eq] at h
  rcases foldl_pyDictStep_mem l [] q h with h' | h'
  · cases h'
  · exact h'

theorem pyDict_items {α : Type} (nm : α → Name) (v : α → β) (l : List α) :
    ((l.map nm).Nodup → pyDict (l.map fun a => (nm a, v a)) = l.map fun a => (nm a, v a)) ∧
    (∀ n, n ∈ (pyDict (l.map fun a => (nm a, v a))).map (·.1) ↔ ∃ a ∈ l, nm a = n) ∧
    (∀ p ∈ pyDict (l.map fun a => (nm a, v a)), ∃ a ∈ l, p = (nm a, v a)) := by
  refine ⟨fun h => pyDict_of_nodup (l.map fun a => (nm a, v a)) (by rw [List.map_map]; exact h), fun n => ?_, fun p hp => ?_⟩
  · rw [pyDict_keys_mem, List.map_map]
    simp [List.mem_map]
  · obtain ⟨a, ha, rfl⟩ := List.mem_map.mp (pyDict_mem _ p hp)
    exact ⟨a, ha, rfl⟩

end Primaite.FileSystem
