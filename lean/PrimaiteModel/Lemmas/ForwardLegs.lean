/-
The legs of frame delivery (`Model/Forward.lean`): what ONE step of a frame's way does, each as an equation between two calls of the
interpreter, for an arbitrary state with the local facts — a cable, the interface of a host / router / switch, a switch that knows
the destination's port, a router passing a frame on to `process_frame`, what a host's software does with each payload.  The warm paths
(`Props/C08Liveness.lean`) and the cold exchanges (`Props/C08Cold.lean`, `C08ColdRouter.lean`, `C08ColdApp.lean`) are compositions
of these.
-/
import PrimaiteModel.Lemmas.ForwardNode
import PrimaiteModel.Props.C08Forward
namespace Primaite.Forward

theorem link_step (fuel : Nat) (X : St) (n i m j : Nat) (ifc pif : Iface) (f : Frame)
    (hi : X.iface? n i = some ifc) (hen : ifc.enabled = true) (hpeer : ifc.peer = some (m, j))
    (hp : X.iface? m j = some pif) (hpen : pif.enabled = true) :
    sendFrame (fuel + 1) X n i f = ifaceRecv fuel X m j f := by
  simp only [sendFrame, hi, hen, hpeer, hp, hpen, Bool.not_true, Bool.false_eq_true, if_false]

theorem host_end (fuel : Nat) (st : St) (b : Nat) (nd : Node) (ifc : Iface) (f : Frame)
    (hn : st.node? b = some nd) (hk : nd.kind = .host) (hifs : nd.ifaces = [ifc])
    (hm : f.dstMac = ifc.mac) (hnb : ifc.mac ≠ bcastMac) (hd : f.dstIp = ifc.ip) (ht : 2 ≤ f.ttl) :
    ifaceRecv (fuel + 1) st b 0 f = hostRecv fuel (st.emit (.rx b 0 f.id f.ttl)) b 0 f.dec := by
  have hi := iface0_of st b nd ifc hn hifs
  have h1 : ¬ f.dec.ttl < 1 := by unfold Frame.dec; simp only; omega
  have hacc : hostAccepts nd ifc f.dec = true := by
    unfold hostAccepts
    have : (f.dec.dstMac == bcastMac) = false := by simp [Frame.dec, hm, hnb]
    simp [Frame.dec, hm, hd, ifaceWithIp, hifs, hnb]
  simp only [ifaceRecv, hn, hi, h1, if_false, hk, hacc, if_true]

theorem switch_recv (fuel : Nat) (X : St) (s i : Nat) (nd : Node) (ifc : Iface) (f : Frame)
    (hn : X.node? s = some nd) (hk : nd.kind = .switch) (hi : nd.ifaces[i]? = some ifc) (httl : 2 ≤ f.ttl) :
    ifaceRecv (fuel + 1) X s i f = switchRecv fuel (X.emit (.rx s i f.id f.ttl)) s i f.dec := by
  have h1 : ¬ f.dec.ttl < 1 := by unfold Frame.dec; simp only; omega
  simp only [ifaceRecv, hn, (iface?_of_node hn i).trans hi, h1, if_false, hk]

theorem switch_known_step (fuel : Nat) (X : St) (s i p : Nat) (nd : Node) (ifc : Iface) (f : Frame)
    (hn : X.node? s = some nd) (hk : nd.kind = .switch) (hi : nd.ifaces[i]? = some ifc) (httl : 2 ≤ f.ttl)
    (hb : f.dstMac ≠ bcastMac) (hport : (nd.learnMac f.srcMac i).macPort f.dstMac = some p) :
    ifaceRecv (fuel + 3) X s i f =
      sendFrame (fuel + 1) ((X.emit (.rx s i f.id f.ttl)).modNode s (fun nd => nd.learnMac f.srcMac i)) s p f.dec := by
  rw [switch_recv (fuel + 2) X s i nd ifc f hn hk hi httl]
  exact C08_switch_known_unicast (fuel + 1) _ s i p f.dec _ (node?_modNode_self hn _) hport (by simpa [Frame.dec] using hb)

theorem router_end (fuel : Nat) (X : St) (r i : Nat) (nd : Node) (ifc : Iface) (f : Frame)
    (hn : X.node? r = some nd) (hk : nd.kind = .router) (hi : X.iface? r i = some ifc)
    (hm : f.dstMac = ifc.mac ∨ f.dstMac = bcastMac) (httl : 2 ≤ f.ttl) :
    ifaceRecv (fuel + 1) X r i f = routerRecv fuel (X.emit (.rx r i f.id f.ttl)) r i f.dec := by
  have h1 : ¬ f.dec.ttl < 1 := by unfold Frame.dec; simp only; omega
  have hacc : routerAccepts ifc f.dec = true := by unfold routerAccepts; rcases hm with h | h <;> simp [Frame.dec, h]
  simp only [ifaceRecv, hn, hi, h1, if_false, hk, hacc, if_true]

theorem plain_router_transit (nd : Node) (i : Nat) (pl : Pl) (dst : Ip) (hfw : nd.fw = none) (hon : nd.on = true)
    (hacl : aclDenies nd i pl = false) : transitOk nd i pl dst = true := by
  unfold transitOk
  rw [hfw]
  simp [hon, hacl]

theorem router_transit_known (fuel : Nat) (X : St) (r i : Nat) (nd : Node) (ifc : Iface) (f : Frame) (es : ArpEntry)
    (hn : X.node? r = some nd) (hk : nd.kind = .router) (hi : X.iface? r i = some ifc)
    (hm : f.dstMac = ifc.mac) (hnb : ifc.mac ≠ bcastMac) (httl : 2 ≤ f.ttl) (htr : transitOk nd i f.pl f.dstIp = true)
    (hown : ifaceWithIp nd.ifaces f.dstIp = none) (hes : nd.arpGet f.srcIp = some es) :
    ifaceRecv (fuel + 3) X r i f = routerProcess (fuel + 1) (X.emit (.rx r i f.id f.ttl)) r i f.dec := by
  rw [router_end (fuel + 2) X r i nd ifc f hn hk hi (Or.inl hm) httl,
    C08_router_transit (fuel + 1) (X.emit (.rx r i f.id f.ttl)) r i f.dec nd ifc hn hi htr hown
      (fun _ _ => ⟨by show f.dstMac ≠ bcastMac; rw [hm]; exact hnb, by omega⟩),
    addArp_fix (st := X.emit (.rx r i f.id f.ttl)) (ip := f.dec.srcIp) hn hes]

/-! `hostRecv` of a powered-on single-NIC host, one equation per payload (echo, the NTP-like service, an application), whoever the sender:
its pair is learned first (nothing to learn, by `addArp_fix`, when the sender is already cached). -/

theorem host_echo_req_any (fuel : Nat) (X : St) (b : Nat) (nd : Node) (ifc : Iface) (f : Frame) (ident : Nat)
    (hn : X.node? b = some nd) (hon : nd.on = true) (hifs : nd.ifaces = [ifc]) (hpl : f.pl = .echoReq ident)
    (hd : f.dstIp = ifc.ip) :
    hostRecv (fuel + 1) X b 0 f =
      (match (resolveOut fuel ((X.modNode b (fun nd => nd.addArp f.srcIp f.srcMac 0)).emit
          (.sw b f.id f.dstIp (f.dstMac == bcastMac))) b f.srcIp).2 with
       | none => ((resolveOut fuel ((X.modNode b (fun nd => nd.addArp f.srcIp f.srcMac 0)).emit
          (.sw b f.id f.dstIp (f.dstMac == bcastMac))) b f.srcIp).1, f)
       | some _ => (sendIcmp fuel (resolveOut fuel ((X.modNode b (fun nd => nd.addArp f.srcIp f.srcMac 0)).emit
          (.sw b f.id f.dstIp (f.dstMac == bcastMac))) b f.srcIp).1 b f.srcIp (.echoRep ident), f)) := by
  have hi := iface0_of X b nd ifc hn hifs
  simp only [hostRecv, portClosed, Bool.false_eq_true, if_false, hn, hi, hon, if_true, hpl, hd, bne_self_eq_false, Bool.false_eq_true, if_false]
  rfl

theorem host_echo_rep_any (fuel : Nat) (X : St) (a : Nat) (nd : Node) (ifc : Iface) (f : Frame) (ident : Nat)
    (hn : X.node? a = some nd) (hon : nd.on = true) (hifs : nd.ifaces = [ifc]) (hpl : f.pl = .echoRep ident) :
    hostRecv (fuel + 1) X a 0 f =
      (((X.modNode a (fun nd => nd.addArp f.srcIp f.srcMac 0)).emit (.sw a f.id f.dstIp (f.dstMac == bcastMac))).modNode a
        (fun nd => { nd with replies := bumpReply nd.replies ident }), f) := by
  have hi := iface0_of X a nd ifc hn hifs
  simp only [hostRecv, portClosed, Bool.false_eq_true, if_false, hn, hi, hon, if_true, hpl]

theorem host_data_req_any (fuel : Nat) (X : St) (b : Nat) (nd : Node) (ifc : Iface) (f : Frame)
    (hn : X.node? b = some nd) (hon : nd.on = true) (hflag : nd.flag = true) (hifs : nd.ifaces = [ifc]) (hpl : f.pl = .dataReq) :
    hostRecv (fuel + 1) X b 0 f =
      (sendIcmp fuel ((X.modNode b (fun nd => nd.addArp f.srcIp f.srcMac 0)).emit (.sw b f.id f.dstIp (f.dstMac == bcastMac))) b f.srcIp
        .dataRep, f) := by
  have hi := iface0_of X b nd ifc hn hifs
  simp only [hostRecv, portClosed, Bool.false_eq_true, if_false, hn, hi, hon, if_true, hpl, hflag]

theorem host_data_rep_any (fuel : Nat) (X : St) (a : Nat) (nd : Node) (ifc : Iface) (f : Frame)
    (hn : X.node? a = some nd) (hon : nd.on = true) (hflag : nd.flag = false) (hifs : nd.ifaces = [ifc]) (hpl : f.pl = .dataRep) :
    hostRecv (fuel + 1) X a 0 f =
      (((X.modNode a (fun nd => nd.addArp f.srcIp f.srcMac 0)).emit (.sw a f.id f.dstIp (f.dstMac == bcastMac))).modNode a
        (fun nd => { nd with served := true }), f) := by
  have hi := iface0_of X a nd ifc hn hifs
  simp only [hostRecv, portClosed, Bool.false_eq_true, if_false, hn, hi, hon, if_true, hpl, hflag]

theorem host_app_req (fuel : Nat) (X : St) (b : Nat) (nd : Node) (ifc : Iface) (f : Frame) (svc : Nat)
    (hn : X.node? b = some nd) (hon : nd.on = true) (hifs : nd.ifaces = [ifc]) (hpl : f.pl = .appReq svc true)
    (hport : nd.ports.contains svc = true) (hserve : nd.serves.contains svc = true) :
    hostRecv (fuel + 1) X b 0 f =
      (sendIcmp fuel ((((X.modNode b (fun nd => nd.addArp f.srcIp f.srcMac 0)).emit (.sw b f.id f.dstIp (f.dstMac == bcastMac))).modNode b
        (fun nd => { nd with acks := svc :: nd.acks }))) b f.srcIp (.appRep svc), f) := by
  have hi := iface0_of X b nd ifc hn hifs
  simp only [hostRecv, portClosed, hn, hi, hon, if_true, hpl, hport, hserve, Bool.not_true, Bool.false_eq_true, if_false]

theorem host_app_rep (fuel : Nat) (X : St) (a : Nat) (nd : Node) (ifc : Iface) (f : Frame) (svc : Nat)
    (hn : X.node? a = some nd) (hon : nd.on = true) (hifs : nd.ifaces = [ifc]) (hpl : f.pl = .appRep svc)
    (hport : nd.ports.contains svc = true) :
    hostRecv (fuel + 1) X a 0 f =
      (((X.modNode a (fun nd => nd.addArp f.srcIp f.srcMac 0)).emit (.sw a f.id f.dstIp (f.dstMac == bcastMac))).modNode a
        (fun nd => { nd with got := svc :: nd.got }), f) := by
  have hi := iface0_of X a nd ifc hn hifs
  simp only [hostRecv, portClosed, hn, hi, hon, if_true, hpl, hport, Bool.not_true, Bool.false_eq_true, if_false]

end Primaite.Forward
