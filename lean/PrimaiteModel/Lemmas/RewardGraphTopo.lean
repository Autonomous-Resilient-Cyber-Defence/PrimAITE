/-
Proof development for `topological_sort` (Model/RewardGraph.lean): paths, acyclicity, the fuel measure, dependencies-first
lists, and absence of duplicates in the post-order stack (any graph, any fuel). The association-list and left-fold lemmas
the whole reward development uses are in Lemmas/ListFacts.lean; of them only `mem_of_lookup`, at the type of graphs, is here.
-/
import PrimaiteModel.Model.RewardGraph
import PrimaiteModel.Lemmas.ListFacts
namespace Primaite.RewardGraph

variable {α : Type} [DecidableEq α]

inductive Path (g : Graph α) : α → α → Prop
  | single {u v} : v ∈ nbrs g u → Path g u v
  | cons {u v w} : v ∈ nbrs g u → Path g v w → Path g u w

theorem Path.snoc {g : Graph α} {u v w : α} (h : Path g u v) (hw : w ∈ nbrs g v) : Path g u w := by
  induction h with
  | single h1 => exact .cons h1 (.single hw)
  | cons h1 _ ih => exact .cons h1 (ih hw)

theorem Path.to_nbr {g : Graph α} {n m : α} {A : List α} (hA : ∀ a ∈ A, Path g a n) (hm : m ∈ nbrs g n) :
    ∀ a ∈ n :: A, Path g a m := by
  intro a ha
  rcases List.mem_cons.mp ha with rfl | ha
  · exact .single hm
  · exact (hA a ha).snoc hm

def Acyclic (g : Graph α) : Prop := ∀ u, ¬ Path g u u

theorem not_acyclic_iff (g : Graph α) : ¬ Acyclic g ↔ ∃ u, Path g u u := Classical.not_forall_not

theorem Path_mono {g g' : Graph α} (h : ∀ u v, v ∈ nbrs g u → v ∈ nbrs g' u) {u w : α} (p : Path g u w) :
    Path g' u w := by
  induction p with
  | single h1 => exact .single (h _ _ h1)
  | cons h1 _ ih => exact .cons (h _ _ h1) ih

theorem Acyclic_congr {g g' : Graph α} (h : ∀ u v, v ∈ nbrs g u ↔ v ∈ nbrs g' u) : Acyclic g ↔ Acyclic g' :=
  ⟨fun ha u p => ha u (Path_mono (fun u v hv => (h u v).mpr hv) p),
   fun ha u p => ha u (Path_mono (fun u v hv => (h u v).mp hv) p)⟩

theorem mem_of_lookup {g : Graph α} {n : α} {l : List α} (hl : g.lookup n = some l) : (n, l) ∈ g :=
  mem_of_lookup_eq_some hl

theorem exists_of_mem_nbrs {g : Graph α} {n m : α} (h : m ∈ nbrs g n) : ∃ l, (n, l) ∈ g ∧ m ∈ l := by
  unfold nbrs at h
  cases hl : g.lookup n with
  | none => rw [hl] at h; exact absurd h List.not_mem_nil
  | some l => rw [hl] at h; exact ⟨l, mem_of_lookup hl, h⟩

theorem nbrs_sub_univ (g : Graph α) (n m : α) (h : m ∈ nbrs g n) : m ∈ univ g := by
  obtain ⟨l, hl, hm⟩ := exists_of_mem_nbrs h
  exact List.mem_append_right _ (List.mem_flatMap.mpr ⟨(n, l), hl, hm⟩)

def unvis (u vis : List α) : Nat := (u.filter (fun x => !decide (x ∈ vis))).length

theorem filter_unvis (u : List α) {vis vis' : List α} (h : ∀ x ∈ vis, x ∈ vis') :
    u.filter (fun x => !decide (x ∈ vis')) =
      (u.filter (fun x => !decide (x ∈ vis))).filter (fun x => !decide (x ∈ vis')) := by
  rw [List.filter_filter]
  apply List.filter_congr
  intro x _
  by_cases hx : x ∈ vis'
  · simp [hx]
  · have hx' : x ∉ vis := fun hv => hx (h x hv)
    simp [hx, hx']

theorem unvis_anti (u vis vis' : List α) (h : ∀ x ∈ vis, x ∈ vis') : unvis u vis' ≤ unvis u vis := by
  unfold unvis
  rw [filter_unvis u h]
  exact List.length_filter_le _ _

theorem unvis_lt (u vis : List α) (n : α) (hn : n ∈ u) (hv : n ∉ vis) :
    unvis u (n :: vis) < unvis u vis := by
  unfold unvis
  rw [filter_unvis u (fun x hx => List.mem_cons_of_mem n hx)]
  exact List.length_filter_lt_length_iff_exists.mpr ⟨n, List.mem_filter.mpr ⟨hn, by simpa using hv⟩, by simp⟩

def mu (g : Graph α) (vis : List α) : Nat := unvis (univ g) vis

theorem mu_anti (g : Graph α) (vis vis' : List α) (h : ∀ x ∈ vis, x ∈ vis') : mu g vis' ≤ mu g vis :=
  unvis_anti _ _ _ h

theorem mu_lt (g : Graph α) (vis : List α) (n : α) (hn : n ∈ univ g) (hv : n ∉ vis) :
    mu g (n :: vis) < mu g vis := unvis_lt _ _ _ hn hv

/-- every node's dependencies occur strictly earlier in the list -/
def DepsFirst (g : Graph α) (l : List α) : Prop :=
  ∀ l₁ u l₂, l = l₁ ++ u :: l₂ → ∀ v ∈ nbrs g u, v ∈ l₁

theorem DepsFirst.snoc {g : Graph α} {l : List α} {n : α} (h : DepsFirst g l)
    (hn : ∀ v ∈ nbrs g n, v ∈ l) : DepsFirst g (l ++ [n]) := by
  intro l₁ u l₂ heq v hv
  rcases List.eq_nil_or_concat l₂ with rfl | ⟨l₂', x, rfl⟩
  · -- l ++ [n] = l₁ ++ [u]
    have := List.append_inj' heq (by simp)
    obtain ⟨h1, h2⟩ := this
    simp at h2; subst h2; subst h1
    exact hn v hv
  · -- l ++ [n] = l₁ ++ u :: (l₂' ++ [x])
    have heq' : l ++ [n] = (l₁ ++ u :: l₂') ++ [x] := by simp [heq]
    have := List.append_inj' heq' (by simp)
    exact h l₁ u l₂' this.1 v hv

theorem DepsFirst.nbr_mem {g : Graph α} {l : List α} (h : DepsFirst g l) {u v : α}
    (hu : u ∈ l) (hv : v ∈ nbrs g u) : v ∈ l := by
  obtain ⟨a, b, hab⟩ := List.append_of_mem hu
  rw [hab]; exact List.mem_append_left _ (h a u b hab v hv)

theorem DepsFirst_of_nbrs_sub {g g' : Graph α} {l : List α}
    (h : ∀ u v, v ∈ nbrs g' u → v ∈ nbrs g u) (hd : DepsFirst g l) : DepsFirst g' l := by
  intro l₁ u l₂ heq v hv
  exact hd l₁ u l₂ heq v (h u v hv)

theorem idxOf_lt_of_split {l pre suf : List α} {m n : α} (hl : l = pre ++ m :: suf) (hm : m ∉ pre)
    (hn : n ∈ pre) : l.idxOf n < l.idxOf m := by
  have h1 : l.idxOf n < pre.length := by
    rw [hl, List.idxOf_append, if_pos hn]; exact List.idxOf_lt_length_of_mem hn
  have h2 : l.idxOf m = pre.length := by
    rw [hl, List.idxOf_append, if_neg hm]; simp
  omega

theorem DepsFirst.idx_lt {g : Graph α} {l : List α} (h : DepsFirst g l) {u v : α}
    (hu : u ∈ l) (hv : v ∈ nbrs g u) : l.idxOf v < l.idxOf u := by
  obtain ⟨a, b, hab, hna⟩ := List.eq_append_cons_of_mem hu
  exact idxOf_lt_of_split hab hna (h a u b hab v hv)

theorem DepsFirst.path_idx_lt {g : Graph α} {l : List α} (h : DepsFirst g l) {u w : α} (p : Path g u w) (hu : u ∈ l) :
    w ∈ l ∧ l.idxOf w < l.idxOf u := by
  induction p with
  | single e => exact ⟨h.nbr_mem hu e, h.idx_lt hu e⟩
  | cons e _ ih =>
    obtain ⟨h1, h2⟩ := ih (h.nbr_mem hu e)
    exact ⟨h1, Nat.lt_trans h2 (h.idx_lt hu e)⟩

structure ND (g : Graph α) (vis stk : List α) (r : List α × List α) : Prop where
  nodup : r.2.Nodup
  sub : ∀ x ∈ r.2, x ∈ r.1
  visMono : ∀ x ∈ vis, x ∈ r.1
  fresh : ∀ x ∈ r.2, x ∈ stk ∨ x ∉ vis
  inUniv : ∀ x ∈ r.2, x ∈ stk ∨ x ∈ univ g

theorem ND.refl {β : Type} {g : Graph β} {vis stk : List β} (hs : ∀ x ∈ stk, x ∈ vis) (hn : stk.Nodup) : ND g vis stk (vis, stk) :=
  ⟨hn, hs, fun _ hx => hx, fun _ hx => Or.inl hx, fun _ hx => Or.inl hx⟩

theorem ND.trans {β : Type} {g : Graph β} {vis stk : List β} {r₁ r₂ : List β × List β} (h₁ : ND g vis stk r₁)
    (h₂ : ND g r₁.1 r₁.2 r₂) : ND g vis stk r₂ :=
  ⟨h₂.nodup, h₂.sub, fun x hx => h₂.visMono x (h₁.visMono x hx),
   fun x hx => (h₂.fresh x hx).elim (h₁.fresh x) (fun h => Or.inr (fun hxv => h (h₁.visMono x hxv))),
   fun x hx => (h₂.inUniv x hx).elim (h₁.inUniv x) Or.inr⟩

theorem tdfs_nd (g : Graph α) :
    ∀ (fuel : Nat) (vis stk : List α) (n : α), n ∈ univ g →
      (∀ x ∈ stk, x ∈ vis) → stk.Nodup → ND g vis stk (tdfs g fuel (vis, stk) n) := by
  intro fuel
  induction fuel with
  | zero =>
    intro vis stk n _ hsub hnd
    exact ND.refl hsub hnd
  | succ fuel ih =>
    intro vis stk n hn hsub hnd
    unfold tdfs
    by_cases hv : n ∈ vis
    · simp only [hv, if_true]
      exact ND.refl hsub hnd
    · simp only [hv, if_false]
      -- the loop over the neighbours, related to its start `(n :: vis, stk)`
      have p := foldl_invariant (fun st m => tdfs g fuel st m) (· ∈ univ g) (fun _ st => ND g (n :: vis) stk st)
        (fun _ m st hm h => h.trans (ih st.1 st.2 m hm h.sub h.nodup))
        (nbrs g n) [] (n :: vis, stk) (nbrs_sub_univ g n) (ND.refl (fun x hx => List.mem_cons_of_mem _ (hsub x hx)) hnd)
      have hnstk : n ∉ ((nbrs g n).foldl (fun st m => tdfs g fuel st m) (n :: vis, stk)).2 := by
        intro h
        rcases p.fresh n h with h' | h'
        · exact hv (hsub n h')
        · exact h' (by simp)
      refine ⟨?_, ?_, ?_, ?_, ?_⟩
      · exact nodup_snoc _ n p.nodup hnstk
      · intro x hx
        rcases List.mem_append.mp hx with hx | hx
        · exact p.sub x hx
        · simp at hx; subst hx; exact p.visMono _ (by simp)
      · intro x hx; exact p.visMono x (List.mem_cons_of_mem _ hx)
      · intro x hx
        rcases List.mem_append.mp hx with hx | hx
        · rcases p.fresh x hx with h | h
          · exact Or.inl h
          · exact Or.inr (fun hxv => h (List.mem_cons_of_mem _ hxv))
        · simp at hx; subst hx; exact Or.inr hv
      · intro x hx
        rcases List.mem_append.mp hx with hx | hx
        · exact p.inUniv x hx
        · simp at hx; subst hx; exact Or.inr hn

end Primaite.RewardGraph
