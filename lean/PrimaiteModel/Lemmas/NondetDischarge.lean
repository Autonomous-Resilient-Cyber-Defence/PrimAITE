/-
C03 — the COMMITTED discharge table of the nondeterminism inventory.

`Gen/Nondet.lean` is regenerated from the source tree on every run (harness/extract/nondet.py): the list of SITES and, per
site, a FACT the extractor established mechanically (generator family and evaluation time of a draw, constant argument of
`secrets.token_urlsafe`, the sinks a clock reading flows to, the keyword a set display is passed as, the module being
outside the import closure of the runtime, the iteration sites of a declared set name, int-valued elements, `hash()`
being the body of `__hash__`).  This file is written by hand: it names, for every site, WHY the site cannot make two runs
differ.  Three bases (`Discharge.basis`):

  * `lemma`       the reason is a statement about the model, proved below (`Discharge.Justified`);
  * `mechanical`  the reason has a premise ABOUT THE CODE that is a Gen fact (`Discharge.supportedBy`, checked by
                  `C03_facts_support_discharges` in Props/C03.lean) plus a lemma for the KIND of discharge;
  * `trusted`     as `mechanical`, but the conclusion additionally rests on a runtime fact outside this development (CPython
                  hashes an int to itself; pydantic only tests membership in `exclude=`; Python calls `__hash__` only to place
                  a key); those are exercised by the probe / cross-process rigs.

`Props/C03.lean` proves `Gen.Nondet.sites = table.map (·.1)`, so a site that is new, moved, renamed or gone is an undischarged
obligation until this table is edited — deliberately, after looking at the new site
(python -m harness.extract.nondet --skeleton prints the current sites).
-/
import PrimaiteModel.Gen.Nondet
import PrimaiteModel.Lemmas.Noninterf
import PrimaiteModel.Lemmas.NoninterfSites
import PrimaiteModel.Lemmas.NoninterfTopo
import PrimaiteModel.Lemmas.NoninterfOwnState
import PrimaiteModel.Props.C10

namespace Primaite.Noninterf
open Primaite.Gen.Nondet

inductive Discharge
  /-- uuid4 string / generated MAC address: an opaque token, used as dictionary key and compared for equality, printed
  with a fixed width. Lemma: the interpreter answers `idEq` identically under every injective naming, and the canonical
  trajectory is invariant under injective renaming. (That no identifier is ORDERED or SLICED is the absence of `idOrder` /
  unexplained `idText` sites in the inventory.) -/
  | idToken
  /-- `secrets.token_urlsafe(n)` with a CONSTANT n (Gen fact): the text has the fixed width ⌈4n/3⌉, so it cannot make two
  frames differ in size; it is carried as an opaque ICMP payload. -/
  | fixedLenSecret
  /-- an unseeded reading whose TEXT reaches `Frame.size` (clock stamps of a frame, the time inside an NTP reply, the generated ICMP
  identifier). Finding F-9, REPAIRED: the text has a constant width (Gen facts: the reading is stored in a datetime field whose
  model serialises it with `isoformat(timespec='microseconds')`; the identifier is drawn from 10000..65535 = five digits), so
  `StampLenAgree` holds for every pair of environments. -/
  | fixedWidthReading
  /-- a clock reading whose value flows only into a directory name, a `show()` table or a log call (Gen fact: the sinks of
  a forward data-flow); it never reaches a frame size. -/
  | clockNotRead
  /-- a draw, made when a function is CALLED (not at import), from a generator family that `set_random_seed` seeds, or from
  a Generator derived from such a draw (Gen facts): the stream is a function of the seed, it is not part of `ρ`. -/
  | seededRng
  /-- the seeding call itself, with the argument `seed` (Gen fact) -/
  | seeding
  /-- `getstate` / `setstate` of a process-wide generator inside the decorator `own_generator_state` (Gen fact `stateAccess … inWrapper`;
  the decorator's shape - restore both generators before the wrapped operation, save both afterwards under the same key, applied to
  `__init__` / `reset` / `step` - is the Gen obligation `C03_gen_own_generator_state`): not a draw. The state read is the one the
  environment's own operation just left, the state written is the one its own last operation left: INSTANCE-LOCAL by construction.
  Lemma (`runOwned_eq_runOps`): with these accesses around every operation, whatever else uses the process-wide generators in between
  cannot move a draw - the run IS the run of the environment's operations alone. -/
  | ownGeneratorState
  /-- a draw from an unseeded generator inside `if generate_seed_value:` (Gen fact): executed only when the configuration
  asks for a generated seed — outside the property's hypothesis "same configured seed"; with `generate_seed_value = False`
  `set_random_seed` never seeds from entropy (lemma over the regenerated shape). -/
  | unseededByConfig
  /-- `hash(self.uuid)` is the body of a `__hash__` method (Gen fact): Python uses it to place the object in a dict / set;
  dict iteration is insertion-ordered, and every iteration of a set is an inventory site of its own. -/
  | hashNotIterated
  /-- `hash(x)` as an expression statement inside `try … except TypeError` (Gen fact `valueDiscarded`): the value is thrown away; only
  whether the call raises — hashability, a property of the argument's TYPE, not of PYTHONHASHSEED — reaches the program -/
  | hashValueDiscarded
  /-- a module outside the import closure of session/environment.py, session/ray_envs.py and game/game.py (Gen fact) -/
  | offline
  /-- `sorted(s)` (Gen fact `sortedConsumer`: the set is the argument of the built-in sort): the result is a function of the
  ELEMENTS, not of the iteration order (lemma `sortedIter_invariant`) -/
  | setSorted
  /-- set → loop → list → `set(...)` (the loop is TRANSLATED from the source: Gen/NondetLoops.lean, `C03_gen_loops_order_free`) -/
  | setToSet
  /-- the loop body has no effect -/
  | setNoEffect
  /-- only `len()` of the result is used -/
  | setLengthOnly
  /-- a dict is built from the set and only read by key -/
  | setDictByKey
  /-- the literal `set()` handed to a call (Gen fact `emptySetLiteral`), or: the set is never written (Gen fact `neverWritten`: no assignment, mutator call or constructor keyword of that
  attribute name in the tree): always empty -/
  | setEmpty
  /-- a set display with one constant element (Gen fact `singletonDisplay`) -/
  | setSingleton
  /-- the set display is the `exclude=` keyword of pydantic's `model_dump` (Gen fact): membership tests only -/
  | setMembershipOnly
  /-- a set whose element annotation resolves to `int` (`Port`; Gen fact): CPython hashes an int to itself, so the
  iteration order is a function of the inserted values and their order, not of PYTHONHASHSEED (TRUSTED CPython fact; checked
  by the probe rig in three interpreters) -/
  | setIntHash
  /-- neighbour order of the reward-sharing graph in `topological_sort`: every dependencies-first order computes the same
  rewards (lemma below); the result IS dependencies-first for every neighbour order (C10_graph_order_irrelevant). The order is
  consumed ONLY by the reward loop (Gen obligation `C03_gen_order_consumers` over the regenerated `orderUses`). -/
  | setTopo
  /-- neighbour order in `graph_has_cycle`: two graphs with the same arcs are both cyclic or both acyclic
  (C10_graph_order_irrelevant) -/
  | setCycleCheck
  /-- declaration of a set-valued name; the Gen fact lists every iteration / escape of the name, and each of them is a site
  with a discharge of its own (`C03_decl_uses_discharged`) -/
  | setDeclCovered
  /-- the lower-cased text of a MAC address is only compared for equality with another address (Gen fact `cmpEqOnly`) -/
  | idTextEqOnly
  deriving DecidableEq, Repr

inductive Basis | lemma | mechanical | trusted | openFinding
  deriving DecidableEq, Repr

def Discharge.basis : Discharge → Basis
  | .fixedWidthReading | .fixedLenSecret | .clockNotRead | .seededRng | .seeding | .unseededByConfig | .offline | .setDeclCovered | .setEmpty
  | .setSingleton | .hashValueDiscarded | .setSorted
  -- the premise "the code's loop IS this consumer" is a Gen fact too: the loop is translated from the source and checked
  -- well-formed with the matching use (`C03_gen_loops_order_free`, Props/C03Loops.lean); a set DECLARATION with `setLengthOnly` must
  -- have no iteration / escape site at all (`declUses []`)
  | .setToSet | .setNoEffect | .setLengthOnly | .setDictByKey | .ownGeneratorState => .mechanical
  | .hashNotIterated | .setMembershipOnly | .setIntHash | .idTextEqOnly => .trusted
  | _ => .lemma

/-- reasons that rest on anything but a lemma or a mechanical fact -/
def Discharge.byReading (d : Discharge) : Bool := d.basis == .trusted

/-- the datetime fields that are part of a Frame's JSON (the frame's own stamps, and the time inside an NTP reply it carries) -/
def frameDatetimeFields : List String := ["sent_timestamp", "received_timestamp", "ntp_datetime"]

/-- does every model field of that name have the fixed-width serialiser (regenerated table `datetimeFields`)? -/
def serialisedFixedWidth (field : String) : Bool :=
  (datetimeFields.any fun d => d.2.2.1 == field) && (datetimeFields.all fun d => d.2.2.1 != field || d.2.2.2)

/-- The premise about the CODE that a reason needs, as a test on the regenerated fact of its site. -/
def Discharge.supportedBy : Discharge → Fact → Bool
  | .fixedWidthReading, .storedIn fs =>
    -- the reading is stored in (at least) one datetime field of a frame, and every such field it may be stored in is serialised with
    -- a constant width
    (fs.any fun f => frameDatetimeFields.contains f) && (fs.all fun f => !frameDatetimeFields.contains f || serialisedFixedWidth f)
  | .fixedWidthReading, .boundedSecret lo hi => lo == 10000 && hi == 65535
  | .fixedWidthReading, _ => false
  | .fixedLenSecret, .constSecret n => tokenUrlsafeLen n == 32      -- the ICMP payload: 24 bytes, 32 characters
  | .fixedLenSecret, _ => false
  | .clockNotRead, .sinks l => l.all fun s => s == "path" || s == "show" || s == "log"
  | .clockNotRead, _ => false
  | .seededRng, .draw fam atCall guarded => atCall && !guarded && (fam == .py || fam == .np || fam == .derivedNp || fam == .torch)
  | .seededRng, _ => false
  | .seeding, .seedCall _ arg atCall => arg == "seed" && atCall
  | .seeding, _ => false
  | .ownGeneratorState, .stateAccess fam _ atCall inWrapper => atCall && inWrapper && (fam == .py || fam == .np)
  | .ownGeneratorState, _ => false
  | .unseededByConfig, .draw fam _ guarded => fam == .entropy && guarded
  | .unseededByConfig, _ => false
  | .hashNotIterated, .hashDunder _ => true
  | .hashNotIterated, _ => false
  | .hashValueDiscarded, .valueDiscarded => true
  | .hashValueDiscarded, _ => false
  | .offline, .offlineModule => true
  | .offline, _ => false
  | .setMembershipOnly, .kwarg callee kw => callee == "model_dump" && kw == "exclude"
  | .setMembershipOnly, _ => false
  | .setIntHash, .intSet _ => true
  | .setIntHash, _ => false
  | .setDeclCovered, .declUses _ => true
  | .setDeclCovered, _ => false
  | .idTextEqOnly, .cmpEqOnly => true
  | .idTextEqOnly, _ => false
  | .setSingleton, .singletonDisplay => true
  | .setSingleton, _ => false
  | .setSorted, .sortedConsumer => true
  | .setSorted, _ => false
  | .setEmpty, .neverWritten => true
  | .setEmpty, .emptySetLiteral => true
  | .setEmpty, .declUses _ => true      -- the declaration; its iteration carries `neverWritten`
  | .setEmpty, _ => false
  | .setLengthOnly, .declUses idx => idx.isEmpty   -- a declared set that is only ever `len()`-ed: no iteration / escape site names it
  | _, _ => true

/-- The statement behind each reason. -/
def Discharge.Justified : Discharge → Prop
  | .idToken =>
    (∀ (ι ι' : Type) [DecidableEq ι] [DecidableEq ι'] (g : Fixed) (ρ : Rho ι) (ρ' : Rho ι'), ρ.Valid → ρ'.Valid →
      ∀ (a b : Nat) (k : Bool → Prog Nat) (w : World), (∀ r, (k r).Safe g.seeds (StampLenAgree g ρ ρ')) →
        interp g ρ (.idEq a b k) w = interp g ρ' (.idEq a b k) w) ∧
    (∀ (f : Nat → Nat), (∀ a b, f a = f b → a = b) → ∀ ls : List (List (Tok Nat)),
      canonRun [] (ls.map fun l => l.map (Tok.map f)) = canonRun [] ls)
  | .fixedWidthReading =>
    -- a fixed-width text makes the side condition true of ALL environments, and a frame sized from readings independent of them;
    -- five-digit identifiers have a text of width 5
    (∀ (g : Fixed), g.FixedWidth → ∀ (ι ι' : Type) (ρ : Rho ι) (ρ' : Rho ι'), StampLenAgree g ρ ρ') ∧
    (∀ (ι ι' : Type) [DecidableEq ι] [DecidableEq ι'] (g : Fixed) (ρ : Rho ι) (ρ' : Rho ι'), ρ.Valid → ρ'.Valid → g.FixedWidth →
      ∀ (base : Nat) (hs : List Nat) (k : Nat → Prog Nat) (w : World), (∀ n, (k n).Safe g.seeds True) →
        interp g ρ (.frameSize base hs k) w = interp g ρ' (.frameSize base hs k) w) ∧
    (∀ n : Nat, 10000 ≤ n → n ≤ 65535 → decimalLen n = 5)
  | .fixedLenSecret =>
    -- readings whose text has a fixed width satisfy the side condition whatever the environments
    ∀ (g : Fixed) (width : Nat), (∀ t, g.textLen t = width) →
      ∀ (ι ι' : Type) (ρ : Rho ι) (ρ' : Rho ι'), StampLenAgree g ρ ρ'
  | .clockNotRead =>
    -- a program that never sizes a frame from a reading does not depend on the clock at all
    ∀ (ι ι' : Type) [DecidableEq ι] [DecidableEq ι'] (g : Fixed) (ρ : Rho ι) (ρ' : Rho ι'), ρ.Valid → ρ'.Valid →
      ∀ (p : Prog Nat) (w : World), p.Safe g.seeds False → interp g ρ p w = interp g ρ' p w
  | .seededRng =>
    ∀ (ι ι' : Type) [DecidableEq ι] [DecidableEq ι'] (g : Fixed) (ρ : Rho ι) (ρ' : Rho ι'), ρ.Valid → ρ'.Valid →
      ∀ (f : Fam) (n : Nat) (k : Nat → Prog Nat) (w : World), g.seeds f = true → (∀ r, (k r).Safe g.seeds (StampLenAgree g ρ ρ')) →
        interp g ρ (.rand f n k) w = interp g ρ' (.rand f n k) w
  | .seeding =>
    -- after `set_random_seed(s)` the generators do not depend on where they were
    ∀ (g : Fixed) (s : Nat) (w w' : World), resetRng g (some s) w = resetRng g (some s) w'
  | .ownGeneratorState =>
    -- operations wrapped in restore-own / save-own: foreign draws (any family, any number, anywhere) are dead, and so is the
    -- process-wide state the environment finds
    (∀ (ι Cfg σ Act : Type) [DecidableEq ι] (g : Fixed) (ρ : Rho ι) (sim : Sim Cfg σ Act) (sched : Nat → Cfg) (ops : List (Op Act))
        (q : OProc σ), runOwned g ρ sim sched q ops = runOps g ρ sim sched q.install (dropForeign ops)) ∧
    (∀ (ι Cfg σ Act : Type) [DecidableEq ι] (g : Fixed) (ρ : Rho ι) (sim : Sim Cfg σ Act) (sched : Nat → Cfg) (q : OProc σ)
        (r : Fam → Nat) (ops : List (Op Act)),
        runOwned g ρ sim sched { q with p := { q.p with w := { q.p.w with rng := r } } } ops = runOwned g ρ sim sched q ops)
  | .unseededByConfig =>
    -- without `generate_seed_value`, neither `set_random_seed` nor `reset` ever seeds from entropy
    ∀ x : Option Int, codeShape.setRandomSeed x false ≠ .fromEntropy ∧ codeShape.resetAct x false ≠ .fromEntropy
  | .setSorted => Invariant sortedIter
  | .setToSet => ∀ lookup, Invariant (listenPorts lookup)
  | .setNoEffect => Invariant noEffect
  | .setLengthOnly => Invariant lengthOnly
  | .setDictByKey => ∀ f keys, Invariant (dictByKey f keys)
  | .setEmpty => ∀ (ι : Type) (ρ : Rho ι), ρ.Valid → ∀ (c : List Nat → List Nat) (k : Nat), c (ρ.perm k []) = c []
  | .setSingleton => ∀ (ι : Type) (ρ : Rho ι), ρ.Valid → ∀ (c : List Nat → List Nat) (k a : Nat), c (ρ.perm k [a]) = c [a]
  | .setTopo =>
    (∀ (g : Graph) (own cur : Nat → Int) (l₁ l₂ : List Nat), l₁.Nodup → l₂.Nodup → l₁.Perm l₂ →
      DepsFirstFrom g [] l₁ → DepsFirstFrom g [] l₂ → evalRewards g own l₁ cur = evalRewards g own l₂ cur) ∧
    (∀ (g g' : RewardGraph.Graph Name), (∀ u v, v ∈ RewardGraph.nbrs g u ↔ v ∈ RewardGraph.nbrs g' u) →
      RewardGraph.hasCycle g = false → RewardGraph.DepsFirst g' (RewardGraph.topoSort g))
  | .setCycleCheck =>
    ∀ (g g' : RewardGraph.Graph Name), (∀ u v, v ∈ RewardGraph.nbrs g u ↔ v ∈ RewardGraph.nbrs g' u) →
      RewardGraph.hasCycle g = RewardGraph.hasCycle g'
  | _ => True

/-- `set_random_seed(n, gen)` for an integer `n`, as the `if` cascade of the source. -/
theorem codeShape_setRandomSeed_some (n : Int) (gen : Bool) :
    codeShape.setRandomSeed (some n) gen =
      if n = -1 then (if gen then .fromEntropy else .keep)
      else if n < -1 then .raise
      else if n.toNat < 4294967296 then .seedWith n.toNat else .raiseHalfSeeded := by
  simp only [codeShape, SeedShape.setRandomSeed, List.any_cons, List.any_nil, SeedTest.eval, Option.isNone_some, Bool.false_or,
    Bool.or_false, beq_iff_eq, decide_eq_true_eq, Bool.and_true]

theorem codeShape_resetAct_some (n : Int) (gen : Bool) :
    codeShape.resetAct (some n) gen = codeShape.setRandomSeed (some n) gen := rfl

theorem setRandomSeed_no_entropy (x : Option Int) :
    codeShape.setRandomSeed x false ≠ .fromEntropy ∧ codeShape.resetAct x false ≠ .fromEntropy := by
  cases x with
  | none => decide
  | some n =>
    rw [codeShape_resetAct_some, and_self, codeShape_setRandomSeed_some, if_neg Bool.false_ne_true]
    repeat' split
    all_goals nofun

theorem decimalLen_five_digits (n : Nat) (h1 : 10000 ≤ n) (h2 : n < 100000) : decimalLen n = 5 := by
  unfold decimalLen
  rw [if_neg (by omega), if_neg (by omega), if_neg (by omega), if_neg (by omega), if_pos h2]

theorem Discharge.justified : ∀ d : Discharge, d.Justified
  | .idToken =>
    ⟨fun _ _ _ _ g _ _ hv hv' _ _ _ w hk => interp_indep g hv hv' _ w hk, fun f hf ls => canonRun_map_inj f hf ls []⟩
  | .fixedWidthReading =>
    ⟨fun _ hw _ _ _ _ _ _ => hw _ _,
     fun _ _ _ _ g _ _ hv hv' hw _ _ _ w hk =>
      interp_indep g hv hv' _ w ⟨.inr fun _ _ => hw _ _, fun n => (hk n).mono fun _ _ _ => hw _ _⟩,
     fun n h1 h2 => decimalLen_five_digits n h1 (by omega)⟩
  | .fixedLenSecret => fun g width hw _ _ _ _ _ _ => (hw _).trans (hw _).symm
  | .clockNotRead => fun _ _ _ _ g _ _ hv hv' p w hp => interp_indep g hv hv' p w (hp.mono False.elim)
  | .seededRng => fun _ _ _ _ g _ _ hv hv' _ _ _ w hf hk => interp_indep g hv hv' _ w ⟨hf, hk⟩
  | .seeding => fun _ _ _ _ => rfl
  | .ownGeneratorState =>
    ⟨fun _ _ _ _ _ => runOwned_eq_runOps, fun _ _ _ _ _ => runOwned_process_state_irrelevant⟩
  | .unseededByConfig => setRandomSeed_no_entropy
  | .setSorted => sortedIter_invariant
  | .setToSet => listenPorts_invariant
  | .setNoEffect => noEffect_invariant
  | .setLengthOnly => lengthOnly_invariant
  | .setDictByKey => dictByKey_invariant
  | .setEmpty => fun _ _ => empty_set_any_consumer
  | .setSingleton => fun _ _ => singleton_set_any_consumer
  | .setTopo => ⟨evalRewards_order_indep, fun g g' h => (Reward.C10_graph_order_irrelevant g g' h).2⟩
  | .setCycleCheck => fun g g' h => (Reward.C10_graph_order_irrelevant g g' h).1
  | .hashNotIterated | .hashValueDiscarded | .offline | .setMembershipOnly | .setIntHash | .setDeclCovered | .idTextEqOnly => trivial

/-- site ↦ reason, in the order of the regenerated inventory -/
def table : List (Site × Discharge) := [
  (⟨"__init__.py", "_PrimaitePaths.generate_episode_log_file_path", .clock, "datetime.datetime.now()", 0⟩, .clockNotRead),
  (⟨"game/agent/scripted_agents/TAP001.py", "TAP001._select_target_ip", .pyRandom, "random.choice(self.config.agent_settings.target_ips)", 0⟩, .seededRng),
  (⟨"game/agent/scripted_agents/TAP001.py", "TAP001._update_next_scan_target", .pyRandom, "random.randint(0, len(self.config.agent_settings.kill_chain.PROPAGATE.network_addresses...", 0⟩, .seededRng),
  (⟨"game/agent/scripted_agents/TAP003.py", "TAP003.AgentSettingsSchema.check_network_knowledge_covers_targets", .setEscape, "call get <- set()", 0⟩, .setEmpty),
  (⟨"game/agent/scripted_agents/TAP003.py", "TAP003.AgentSettingsSchema.check_network_knowledge_covers_targets", .setEscape, "call get <- set()", 1⟩, .setEmpty),
  (⟨"game/agent/scripted_agents/TAP003.py", "TAP003.AgentSettingsSchema.check_network_knowledge_covers_targets", .setIter, "sorted <- keys - set(credentials.get(host, {}))", 0⟩, .setSorted),
  (⟨"game/agent/scripted_agents/TAP003.py", "TAP003.AgentSettingsSchema.check_network_knowledge_covers_targets", .setIter, "sorted <- start_nodes", 0⟩, .setSorted),
  (⟨"game/agent/scripted_agents/abstract_tap.py", "AbstractTAP._select_start_node", .pyRandom, "random.choice(self.config.agent_settings.starting_nodes)", 0⟩, .seededRng),
  (⟨"game/agent/scripted_agents/abstract_tap.py", "AbstractTAP._set_next_execution_timestep", .pyRandom, "random.randint(-self.config.agent_settings.variance, self.config.agent_settings.variance)", 0⟩, .seededRng),
  (⟨"game/agent/scripted_agents/probabilistic_agent.py", "ProbabilisticAgent", .npRandom, "np.random.default_rng(np.random.randint(0, 65535))", 0⟩, .seededRng),
  (⟨"game/agent/scripted_agents/probabilistic_agent.py", "ProbabilisticAgent", .npRandom, "np.random.randint(0, 65535)", 0⟩, .seededRng),
  (⟨"game/agent/scripted_agents/probabilistic_agent.py", "ProbabilisticAgent.get_action", .rngMethod, "self.rng.choice(len(self.action_manager.action_map), p=self.probabilities)", 0⟩, .seededRng),
  (⟨"game/agent/scripted_agents/random_agent.py", "PeriodicAgent._set_next_execution_timestep", .pyRandom, "random.randint(-variance, variance)", 0⟩, .seededRng),
  (⟨"game/agent/scripted_agents/random_agent.py", "PeriodicAgent.start_node", .pyRandom, "random.choice(self.config.agent_settings.possible_start_nodes)", 0⟩, .seededRng),
  (⟨"game/agent/scripted_agents/random_agent.py", "RandomAgent", .npRandom, "np.random.default_rng(np.random.randint(0, 65535))", 0⟩, .seededRng),
  (⟨"game/agent/scripted_agents/random_agent.py", "RandomAgent", .npRandom, "np.random.randint(0, 65535)", 0⟩, .seededRng),
  (⟨"game/agent/scripted_agents/random_agent.py", "RandomAgent.get_action", .rngMethod, "self.rng.integers(0, 65535)", 0⟩, .seededRng),
  (⟨"game/agent/scripted_agents/random_agent.py", "RandomAgent.get_action", .spaceSample, "space.sample()", 0⟩, .seededRng),
  (⟨"game/game.py", "PrimaiteGame.from_config._set_software_listen_on_ports", .setDecl, "software.listen_on_ports : set(listen_on_ports)", 0⟩, .setDeclCovered),
  (⟨"game/game.py", "PrimaiteGame.from_config._set_software_listen_on_ports", .setIter, "for <- set(software_cfg.get('options', {}).get('listen_on_ports', []))", 0⟩, .setToSet),
  (⟨"game/science.py", "graph_has_cycle", .setDecl, "parameter graph receives a container of sets", 0⟩, .setDeclCovered),
  (⟨"game/science.py", "graph_has_cycle.depth_first_search", .setIter, "for <- graph.get(node, [])", 0⟩, .setCycleCheck),
  (⟨"game/science.py", "simulate_trial", .pyRandom, "random()", 0⟩, .seededRng),
  (⟨"game/science.py", "topological_sort", .setDecl, "parameter graph receives a container of sets", 0⟩, .setDeclCovered),
  (⟨"game/science.py", "topological_sort.dfs", .setIter, "for <- graph.get(node, [])", 0⟩, .setTopo),
  (⟨"session/environment.py", "own_generator_state.wrapper", .npRandom, "np.random.get_state()", 0⟩, .ownGeneratorState),
  (⟨"session/environment.py", "own_generator_state.wrapper", .npRandom, "np.random.set_state(own[1])", 0⟩, .ownGeneratorState),
  (⟨"session/environment.py", "own_generator_state.wrapper", .pyRandom, "random.getstate()", 0⟩, .ownGeneratorState),
  (⟨"session/environment.py", "own_generator_state.wrapper", .pyRandom, "random.setstate(own[0])", 0⟩, .ownGeneratorState),
  (⟨"session/environment.py", "set_random_seed", .npRandom, "np.random.default_rng()", 0⟩, .unseededByConfig),
  (⟨"session/environment.py", "set_random_seed", .npRandom, "np.random.seed(seed)", 0⟩, .seeding),
  (⟨"session/environment.py", "set_random_seed", .pyRandom, "random.seed(seed)", 0⟩, .seeding),
  (⟨"session/environment.py", "set_random_seed", .rngMethod, "rng.integers(low=0, high=2 ** 32 - 1)", 0⟩, .unseededByConfig),
  (⟨"session/environment.py", "set_random_seed", .torchRandom, "th.manual_seed(seed)", 0⟩, .seeding),
  (⟨"session/episode_schedule.py", "build_scheduler", .setIter, "dictcomp <- files_to_load", 0⟩, .setDictByKey),
  (⟨"session/ray_envs.py", "PrimaiteRayMARLEnv.__init__", .setDecl, "self.terminateds : set()", 0⟩, .setLengthOnly),
  (⟨"session/ray_envs.py", "PrimaiteRayMARLEnv.__init__", .setDecl, "self.truncateds : set()", 0⟩, .setLengthOnly),
  (⟨"setup/reset_demo_notebooks.py", "run", .fsOrder, "primaite_root.glob('**/*.ipynb')", 0⟩, .offline),
  (⟨"setup/reset_example_configs.py", "run", .fsOrder, "os.walk(configs_package_data_root)", 0⟩, .offline),
  (⟨"simulator/__init__.py", "_SimOutput.__init__", .clock, "datetime.now()", 0⟩, .clockNotRead),
  (⟨"simulator/__init__.py", "_SimOutput.__init__", .clock, "datetime.now()", 1⟩, .clockNotRead),
  (⟨"simulator/core.py", "SimComponent", .uuid, "uuid4()", 0⟩, .idToken),
  (⟨"simulator/core.py", "_is_hashable", .hashBuiltin, "hash(request_key)", 0⟩, .hashValueDiscarded),
  (⟨"simulator/file_system/file_system.py", "FileSystem.copy_file", .setEscape, "call model_dump <- {'uuid', 'folder_id', 'folder_name', 'sim_path'}", 0⟩, .setMembershipOnly),
  (⟨"simulator/file_system/file_type.py", "FileType.random", .pyRandom, "choice(list(FileType))", 0⟩, .seededRng),
  (⟨"simulator/network/hardware/base.py", "NetworkInterface.__hash__", .hashBuiltin, "hash(self.uuid)", 0⟩, .hashNotIterated),
  (⟨"simulator/network/hardware/base.py", "generate_mac_address", .secrets, "secrets.randbits(8)", 0⟩, .idToken),
  (⟨"simulator/network/hardware/nodes/network/router.py", "ACLRule.__str__", .setEscape, "call model_dump <- {'uuid', 'request_manager'}", 0⟩, .setMembershipOnly),
  (⟨"simulator/network/hardware/nodes/network/router.py", "RouteTable.add_route", .setIter, "for <- {address, subnet_mask, next_hop_ip_address}", 0⟩, .setNoEffect),
  (⟨"simulator/network/hardware/nodes/network/router.py", "RouterICMP._process_icmp_echo_request", .secrets, "secrets.token_urlsafe(int(32 / 1.3))", 0⟩, .fixedLenSecret),
  (⟨"simulator/network/hardware/nodes/network/switch.py", "Switch.receive_frame", .idText, "dst_mac.lower()", 0⟩, .idTextEqOnly),
  (⟨"simulator/network/protocols/icmp.py", "ICMPPacket.__init__", .secrets, "secrets.randbelow(55536)", 0⟩, .fixedWidthReading),
  (⟨"simulator/network/transmission/data_link_layer.py", "Frame.is_broadcast", .idText, "self.ethernet.dst_mac_addr.lower()", 0⟩, .idTextEqOnly),
  (⟨"simulator/network/transmission/data_link_layer.py", "Frame.set_received_timestamp", .clock, "datetime.now()", 0⟩, .fixedWidthReading),
  (⟨"simulator/network/transmission/data_link_layer.py", "Frame.set_sent_timestamp", .clock, "datetime.now()", 0⟩, .fixedWidthReading),
  (⟨"simulator/system/applications/application.py", "Application", .setDecl, "groups : Set[str]", 0⟩, .setEmpty),
  (⟨"simulator/system/applications/application.py", "Application.describe_state", .setIter, "list <- self.groups", 0⟩, .setEmpty),
  (⟨"simulator/system/applications/database_client.py", "DatabaseClient._query", .uuid, "uuid4()", 0⟩, .idToken),
  (⟨"simulator/system/applications/database_client.py", "DatabaseClient.get_new_connection", .uuid, "uuid4()", 0⟩, .idToken),
  (⟨"simulator/system/applications/database_client.py", "DatabaseClient.query", .uuid, "uuid4()", 0⟩, .idToken),
  (⟨"simulator/system/applications/nmap.py", "NMAP.ping_scan", .setIter, "sorted <- ip_addresses", 0⟩, .setSorted),
  (⟨"simulator/system/applications/nmap.py", "NMAP.port_scan", .setIter, "for <- set(target_port)", 0⟩, .setIntHash),
  (⟨"simulator/system/applications/nmap.py", "NMAP.port_scan", .setIter, "list <- ip_addresses", 0⟩, .setLengthOnly),
  (⟨"simulator/system/applications/nmap.py", "NMAP.port_scan", .setIter, "sorted <- ip_addresses", 0⟩, .setSorted),
  (⟨"simulator/system/applications/red_applications/c2/abstract_c2.py", "AbstractC2.ConfigSchema", .setDecl, "listen_on_ports : Set[Port]", 0⟩, .setDeclCovered),
  (⟨"simulator/system/applications/red_applications/c2/c2_beacon.py", "C2Beacon._init_request_manager._configure", .setEscape, "call RequestResponse <- {'No C2 Server IP given to C2 beacon. Unable to configure C2 Beacon'}", 0⟩, .setSingleton),
  (⟨"simulator/system/core/software_manager.py", "SoftwareManager.get_open_ports", .setIter, "list <- software.listen_on_ports", 0⟩, .setIntHash),
  (⟨"simulator/system/services/database/database_service.py", "DatabaseService._generate_connection_id", .uuid, "uuid4()", 0⟩, .idToken),
  (⟨"simulator/system/services/icmp/icmp.py", "ICMP._process_icmp_echo_request", .secrets, "secrets.token_urlsafe(int(32 / 1.3))", 0⟩, .fixedLenSecret),
  (⟨"simulator/system/services/icmp/icmp.py", "ICMP._send_icmp_echo_request", .secrets, "secrets.token_urlsafe(int(32 / 1.3))", 0⟩, .fixedLenSecret),
  (⟨"simulator/system/services/ntp/ntp_server.py", "NTPServer.receive", .clock, "datetime.now()", 0⟩, .fixedWidthReading),
  (⟨"simulator/system/services/terminal/terminal.py", "Terminal._create_local_connection", .clock, "datetime.now()", 0⟩, .clockNotRead),
  (⟨"simulator/system/services/terminal/terminal.py", "Terminal._create_remote_connection", .clock, "datetime.now()", 0⟩, .clockNotRead),
  (⟨"simulator/system/services/terminal/terminal.py", "Terminal._send_remote_login", .uuid, "uuid4()", 0⟩, .idToken),
  (⟨"simulator/system/software.py", "IOSoftware", .setDecl, "listen_on_ports : Set[Port]", 0⟩, .setDeclCovered),
  (⟨"simulator/system/software.py", "IOSoftware.ConfigSchema", .setDecl, "listen_on_ports : Set[Port]", 0⟩, .setDeclCovered),
  (⟨"simulator/system/software.py", "IOSoftware.__init__", .setDecl, "self.listen_on_ports : self.config.listen_on_ports", 0⟩, .setDeclCovered),
  (⟨"simulator/system/software.py", "IOSoftware.add_connection", .clock, "datetime.now()", 0⟩, .clockNotRead)
]

end Primaite.Noninterf
