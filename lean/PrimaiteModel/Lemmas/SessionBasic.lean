/-
Helper lemmas for C16.
* `updAt` / `Net.upd` / `Net.bump` plumbing.
* The "only shrinks" relation (`Node.Shr`, `Net.Shr`) satisfied by everything that tears sessions and connections down (`_disconnect`,
  the disconnect message, logout, time-out), with the induction over the disconnect chain (`chain_induction`).
* `Net.Rel R`: a node-wise relation `R` lifted to networks, and what it needs to survive node edits (`Pre`: reflexive, transitive).
* `Node.data`: the fields the power / service machinery never touches.
-/
import PrimaiteModel.Model.Session
namespace Primaite.Session

/-! ### `updAt` / `Net.upd` / `Net.bump` -/

theorem updAt_length (l : List Node) (i : Nat) (f : Node → Node) : (updAt l i f).length = l.length := by
  induction l generalizing i with
  | nil => simp [updAt]
  | cons a t ih => cases i <;> simp [updAt, ih]

theorem updAt_get (l : List Node) (i j : Nat) (f : Node → Node) :
    (updAt l i f)[j]? = if i = j then l[j]?.map f else l[j]? := by
  induction l generalizing i j with
  | nil => simp [updAt]
  | cons a t ih =>
    cases i with
    | zero => cases j <;> simp [updAt]
    | succ i =>
      cases j with
      | zero => simp [updAt]
      | succ j => simp [updAt, ih]

@[simp] theorem node_upd (n : Net) (i j : Nat) (f : Node → Node) :
    (n.upd i f).node j = if i = j then (n.node j).map f else n.node j := by
  simp [Net.upd, Net.node, updAt_get]

theorem node_upd_some {n : Net} {j : Nat} {b : Node} (hb : n.node j = some b) (i : Nat) (f : Node → Node) :
    (n.upd i f).node j = some (if i = j then f b else b) := by
  rw [node_upd, hb]; split <;> rfl

theorem node_upd_same (n : Net) (i : Nat) (f : Node → Node) : (n.upd i f).node i = (n.node i).map f := by simp

theorem node_upd_ne (n : Net) {i j : Nat} (f : Node → Node) (h : i ≠ j) : (n.upd i f).node j = n.node j := by simp [h]

@[simp] theorem upd_time (n : Net) (i : Nat) (f : Node → Node) : (n.upd i f).time = n.time := rfl
@[simp] theorem upd_nextId (n : Net) (i : Nat) (f : Node → Node) : (n.upd i f).nextId = n.nextId := rfl
@[simp] theorem upd_blocked (n : Net) (i : Nat) (f : Node → Node) : (n.upd i f).blocked = n.blocked := rfl
@[simp] theorem upd_hairpin (n : Net) (i : Nat) (f : Node → Node) : (n.upd i f).hairpin = n.hairpin := rfl
@[simp] theorem upd_open (n : Net) (i : Nat) (f : Node → Node) (x y : Nat) : (n.upd i f).open x y = n.open x y := rfl
@[simp] theorem upd_length (n : Net) (i : Nat) (f : Node → Node) : (n.upd i f).nodes.length = n.nodes.length := by
  simp [Net.upd, updAt_length]

@[simp] theorem node_bump (n : Net) (k j : Nat) : (n.bump k).node j = n.node j := rfl
@[simp] theorem bump_time (n : Net) (k : Nat) : (n.bump k).time = n.time := rfl
@[simp] theorem bump_nextId (n : Net) (k : Nat) : (n.bump k).nextId = k := rfl
@[simp] theorem bump_blocked (n : Net) (k : Nat) : (n.bump k).blocked = n.blocked := rfl
@[simp] theorem bump_hairpin (n : Net) (k : Nat) : (n.bump k).hairpin = n.hairpin := rfl

theorem node_some_lt {n : Net} {j : Nat} {a : Node} (h : n.node j = some a) : j < n.nodes.length := by
  unfold Net.node at h
  exact (List.getElem?_eq_some_iff.mp h).1

/-- turns a fact about every node of a concrete network into a sweep over `n.nodes` that `decide` can evaluate -/
theorem of_forall_nodes {n : Net} {P : Node → Prop} (h : ∀ a ∈ n.nodes, P a) {j : Nat} {a : Node} (ha : n.node j = some a) : P a :=
  h a (List.mem_of_getElem? ha)

/-! ### the part of a node that tearing down sessions never touches -/

/-- everything except local session, remote sessions and terminal connections -/
def Node.core (nd : Node) : Node := { nd with loc := none, rem := [], conns := [] }

/-- `b` is `a` with some sessions / connections removed and possibly the local session ended -/
structure Node.Shr (a b : Node) : Prop where
  core : b.core = a.core
  rem : b.rem.Sublist a.rem
  conns : b.conns.Sublist a.conns
  loc : b.loc = a.loc ∨ b.loc = none

theorem Node.Shr.refl (a : Node) : a.Shr a := ⟨rfl, List.Sublist.refl _, List.Sublist.refl _, Or.inl rfl⟩

/-- "as before, or ended" composes (a local session across two changes) -/
theorem same_or_none_trans {α : Type} {x y z : Option α} (h1 : y = x ∨ y = none) (h2 : z = y ∨ z = none) : z = x ∨ z = none := by
  rcases h2 with h | h
  · rcases h1 with g | g
    · exact Or.inl (h.trans g)
    · exact Or.inr (h.trans g)
  · exact Or.inr h

theorem Node.Shr.trans {a b c : Node} (h1 : a.Shr b) (h2 : b.Shr c) : a.Shr c :=
  ⟨h2.core.trans h1.core, h2.rem.trans h1.rem, h2.conns.trans h1.conns, same_or_none_trans h1.loc h2.loc⟩

theorem Node.Shr.files {a b : Node} (h : a.Shr b) : b.files = a.files := by have := congrArg Node.files h.core; exact this
theorem Node.Shr.users {a b : Node} (h : a.Shr b) : b.users = a.users := by have := congrArg Node.users h.core; exact this
theorem Node.Shr.power {a b : Node} (h : a.Shr b) : b.power = a.power := by have := congrArg Node.power h.core; exact this
theorem Node.Shr.nic {a b : Node} (h : a.Shr b) : b.nic = a.nic := by have := congrArg Node.nic h.core; exact this
theorem Node.Shr.term {a b : Node} (h : a.Shr b) : b.term = a.term := by have := congrArg Node.term h.core; exact this
theorem Node.Shr.um {a b : Node} (h : a.Shr b) : b.um = a.um := by have := congrArg Node.um h.core; exact this
theorem Node.Shr.usm {a b : Node} (h : a.Shr b) : b.usm = a.usm := by have := congrArg Node.usm h.core; exact this
theorem Node.Shr.maxRemote {a b : Node} (h : a.Shr b) : b.maxRemote = a.maxRemote := by have := congrArg Node.maxRemote h.core; exact this
theorem Node.Shr.remoteTimeout {a b : Node} (h : a.Shr b) : b.remoteTimeout = a.remoteTimeout := by have := congrArg Node.remoteTimeout h.core; exact this
theorem Node.Shr.localTimeout {a b : Node} (h : a.Shr b) : b.localTimeout = a.localTimeout := by have := congrArg Node.localTimeout h.core; exact this

theorem Node.Shr.isOn {a b : Node} (h : a.Shr b) : b.isOn = a.isOn := by simp [Node.isOn, h.power]
theorem Node.Shr.canUsm {a b : Node} (h : a.Shr b) : b.canUsm = a.canUsm := by simp [Node.canUsm, h.isOn, h.usm]
theorem Node.Shr.canUm {a b : Node} (h : a.Shr b) : b.canUm = a.canUm := by simp [Node.canUm, h.isOn, h.um]

theorem shr_dropConn (cid : Nat) (a : Node) : a.Shr (a.dropConn cid) :=
  ⟨rfl, List.Sublist.refl _, List.filter_sublist, Or.inl rfl⟩

theorem shr_dropSession (cid : Nat) (a : Node) : a.Shr (a.dropSession cid) :=
  ⟨rfl, List.filter_sublist, List.Sublist.refl _, Or.inl rfl⟩

theorem shr_localLogout (a : Node) : a.Shr a.localLogout := by
  unfold Node.localLogout
  split
  · exact ⟨rfl, List.Sublist.refl _, List.Sublist.refl _, Or.inr rfl⟩
  · exact Node.Shr.refl a

theorem shr_clearLoc (a : Node) : a.Shr a.clearLoc :=
  ⟨rfl, List.Sublist.refl _, List.Sublist.refl _, Or.inr rfl⟩

theorem shr_endLocalOf (u : String) (a : Node) : a.Shr (a.endLocalOf u) := by
  unfold Node.endLocalOf
  split
  · split
    · exact shr_clearLoc a
    · exact Node.Shr.refl a
  · exact Node.Shr.refl a

theorem hasSession_iff (b : Node) (cid : Nat) : b.hasSession cid = true ↔ cid ∈ b.rem.map (·.id) := by
  unfold Node.hasSession
  simp only [List.any_eq_true, beq_iff_eq, List.mem_map]

theorem any_false_of_sublist {α : Type} {p : α → Bool} {l' l : List α} (h : l'.Sublist l) (hl : l.any p = false) : l'.any p = false :=
  List.any_eq_false.mpr (fun x hx => List.any_eq_false.mp hl x (h.subset hx))

theorem noSession_of_shr {a1 a : Node} (h : a1.Shr a) (cid : Nat) (h1 : a1.hasSession cid = false) : a.hasSession cid = false :=
  any_false_of_sublist h.rem h1

theorem dropSession_noSession (a : Node) (cid : Nat) : (a.dropSession cid).hasSession cid = false := by
  simp [Node.dropSession, Node.hasSession, List.any_filter]

theorem noConn_of_shr {a1 a : Node} (h : a1.Shr a) (cid : Nat) (h1 : a1.hasConn cid = false) : a.hasConn cid = false :=
  any_false_of_sublist h.conns h1

theorem dropConn_noConn (a : Node) (cid : Nat) : (a.dropConn cid).hasConn cid = false := by
  simp [Node.dropConn, Node.hasConn, List.any_filter]

/-! ### `Node.touch`: the ids stay, a record is an old one or carries the new clock
(which record is which: `touch_exactly`, Props/C16Timeout.lean) -/

theorem touch_ids (b : Node) (cid t : Nat) : (b.touch cid t).rem.map (·.id) = b.rem.map (·.id) := by
  unfold Node.touch
  simp only [List.map_map]
  apply List.map_congr_left
  intro s _
  simp only [Function.comp]
  split <;> rfl

theorem touch_mem {b : Node} {cid t : Nat} {s' : RSession} (h : s' ∈ (b.touch cid t).rem) : s' ∈ b.rem ∨ s'.last = t := by
  unfold Node.touch at h
  obtain ⟨s, hs, heq⟩ := List.mem_map.mp h
  split at heq
  · exact Or.inr (by rw [← heq])
  · exact Or.inl (heq ▸ hs)

/-! ### node-wise relations between two networks: the generic `Net.Rel R`, and `Net.Shr`; the network path under them -/

/-- every node of `n` is still there in `m` and related by `R` (indexed by the node's position) -/
structure Net.Rel (R : Nat → Node → Node → Prop) (n m : Net) : Prop where
  len : m.nodes.length = n.nodes.length
  node : ∀ j a, n.node j = some a → ∃ b, m.node j = some b ∧ R j a b

theorem Net.Rel.refl {R : Nat → Node → Node → Prop} (hR : ∀ j a, R j a a) (n : Net) : Net.Rel R n n :=
  ⟨rfl, fun j a h => ⟨a, h, hR j a⟩⟩

theorem Net.Rel.trans {R S T : Nat → Node → Node → Prop} (hT : ∀ j a b c, R j a b → S j b c → T j a c) {n m k : Net}
    (h1 : Net.Rel R n m) (h2 : Net.Rel S m k) : Net.Rel T n k :=
  ⟨h2.len.trans h1.len, fun j a h => by
    obtain ⟨b, hb, hab⟩ := h1.node j a h
    obtain ⟨c, hc, hbc⟩ := h2.node j b hb
    exact ⟨c, hc, hT j a b c hab hbc⟩⟩

theorem Net.Rel.mono {R S : Nat → Node → Node → Prop} (h : ∀ j a b, R j a b → S j a b) {n m : Net} (h1 : Net.Rel R n m) :
    Net.Rel S n m := ⟨h1.len, fun j a ha => by obtain ⟨b, hb, hab⟩ := h1.node j a ha; exact ⟨b, hb, h j a b hab⟩⟩

theorem Net.Rel.none {R : Nat → Node → Node → Prop} {n m : Net} (h : Net.Rel R n m) {j : Nat} (hj : n.node j = none) : m.node j = none := by
  unfold Net.node at *
  rw [List.getElem?_eq_none_iff] at *
  have := h.len
  omega

theorem Net.Rel.back {R : Nat → Node → Node → Prop} {n m : Net} (h : Net.Rel R n m) {j : Nat} {b : Node} (hb : m.node j = some b) :
    ∃ a, n.node j = some a ∧ R j a b := by
  cases ha : n.node j with
  | none => rw [h.none ha] at hb; cases hb
  | some a =>
    obtain ⟨b', hb', hab⟩ := h.node j a ha
    rw [hb] at hb'; cases hb'
    exact ⟨a, rfl, hab⟩

theorem Net.Rel.of_nodes {R : Nat → Node → Node → Prop} {n m : Net} (h : Net.Rel R n m) {j : Nat} {a b : Node}
    (ha : n.node j = some a) (hb : m.node j = some b) : R j a b := by
  obtain ⟨b', hb', hab⟩ := h.node j a ha
  rw [hb] at hb'; cases hb'; exact hab

structure Net.Shr (n m : Net) : Prop where
  time : m.time = n.time
  nextId : m.nextId = n.nextId
  len : m.nodes.length = n.nodes.length
  blocked : m.blocked = n.blocked
  hairpin : m.hairpin = n.hairpin
  node : ∀ j a, n.node j = some a → ∃ b, m.node j = some b ∧ a.Shr b

theorem Net.Shr.refl (n : Net) : n.Shr n := ⟨rfl, rfl, rfl, rfl, rfl, fun _ a h => ⟨a, h, Node.Shr.refl a⟩⟩

theorem Net.Shr.trans {n m k : Net} (h1 : n.Shr m) (h2 : m.Shr k) : n.Shr k :=
  ⟨h2.time.trans h1.time, h2.nextId.trans h1.nextId, h2.len.trans h1.len, h2.blocked.trans h1.blocked, h2.hairpin.trans h1.hairpin, fun j a h => by
    obtain ⟨b, hb, hab⟩ := h1.node j a h
    obtain ⟨c, hc, hbc⟩ := h2.node j b hb
    exact ⟨c, hc, hab.trans hbc⟩⟩

theorem Net.Shr.rel {n m : Net} (h : n.Shr m) : Net.Rel (fun _ a b => a.Shr b) n m := ⟨h.len, h.node⟩

theorem Net.Shr.back {n m : Net} (h : n.Shr m) {j : Nat} {b : Node} (hb : m.node j = some b) :
    ∃ a, n.node j = some a ∧ a.Shr b := h.rel.back hb

theorem shr_upd (n : Net) (i : Nat) (f : Node → Node) (hf : ∀ a : Node, a.Shr (f a)) : n.Shr (n.upd i f) :=
  ⟨rfl, rfl, by simp, rfl, rfl, fun j a h => by
    by_cases hij : i = j
    · subst hij; exact ⟨f a, by simp [h], hf a⟩
    · exact ⟨a, by simp [hij, h], Node.Shr.refl a⟩⟩

theorem shr_stuck (n : Net) : n.Shr { n with stuck := true } :=
  ⟨rfl, rfl, rfl, rfl, rfl, fun _ a h => ⟨a, h, Node.Shr.refl a⟩⟩

/-- NIC and terminal untouched: the network path is the same -/
def KeepPath : Nat → Node → Node → Prop := fun _ a b => b.nic = a.nic ∧ b.term = a.term

theorem canDeliver_of_keepPath {n m : Net} (h : Net.Rel KeepPath n m) (hbl : m.blocked = n.blocked) (hhp : m.hairpin = n.hairpin)
    (x y : Nat) :
    canDeliver m x y = canDeliver n x y := by
  unfold canDeliver
  cases hx : n.node x with
  | none => simp [h.none hx]
  | some a =>
    obtain ⟨a', ha', haa⟩ := h.node x a hx
    cases hy : n.node y with
    | none => simp [h.none hy, ha']
    | some b =>
      obtain ⟨b', hb', hbb⟩ := h.node y b hy
      simp [ha', hb', haa.1, hbb.1, hbb.2, Net.open, hbl, hhp]

theorem canDeliver_shr {n m : Net} (h : n.Shr m) (x y : Nat) : canDeliver m x y = canDeliver n x y :=
  canDeliver_of_keepPath (h.rel.mono (fun _ _ _ h => ⟨h.nic, h.term⟩)) h.blocked h.hairpin x y

/-! ### the disconnect chain only shrinks -/

/-- A reflexive, transitive relation between networks that holds across the edits of the disconnect chain — a connection dropped, a
local logout, a session removed by a session manager that can act, the `stuck` flag — holds across the whole chain. -/
theorem chain_induction (P : Net → Net → Prop) (refl : ∀ n, P n n) (trans : ∀ {a b c}, P a b → P b c → P a c)
    (hStuck : ∀ n : Net, P n { n with stuck := true })
    (hConn : ∀ n i cid, P n (n.upd i (Node.dropConn cid)))
    (hLogout : ∀ n i, P n (n.upd i Node.localLogout))
    (hSess : ∀ n m j cid nd, n.node j = some nd → nd.canUsm = true → P n m → P n (m.upd j (Node.dropSession cid)))
    (f : Nat) : ∀ (h : Hop) (n : Net) (i cid : Nat), P n (chain f h n i cid) := by
  induction f with
  | zero => intro h n i cid; unfold chain; exact hStuck n
  | succ f ih =>
    intro h n i cid
    cases h with
    | disconnect =>
      unfold chain
      split
      · exact refl n
      · split
        · exact refl n
        · split
          · exact trans (hConn n i cid) (hLogout _ i)
          · split
            · exact trans (hConn n i cid) (ih _ _ _ _)
            · exact hConn n i cid
    | onDisconnect =>
      unfold chain
      split
      · exact refl n
      · split
        · split
          · exact trans (ih .disconnect n i cid) (ih _ _ _ _)
          · exact refl n
        · exact ih .disconnect n i cid
    | remoteLogout =>
      unfold chain
      split
      · exact refl n
      · rename_i nd hnd
        split
        · rename_i hcu; exact hSess n _ i cid nd hnd hcu (ih .disconnect n i cid)
        · exact refl n

theorem shr_chain (f : Nat) : ∀ (h : Hop) (n : Net) (i cid : Nat), n.Shr (chain f h n i cid) :=
  chain_induction Net.Shr Net.Shr.refl Net.Shr.trans shr_stuck (fun n i cid => shr_upd n i _ (shr_dropConn cid))
    (fun n i => shr_upd n i _ shr_localLogout) (fun _ _ j cid _ _ _ h => h.trans (shr_upd _ j _ (shr_dropSession cid))) f

theorem shr_disconnect (f : Nat) (n : Net) (i cid : Nat) : n.Shr (disconnect f n i cid) := shr_chain f .disconnect n i cid

theorem shr_forceLogout (n : Net) (j cid : Nat) : n.Shr (forceLogout n j cid) :=
  (shr_disconnect _ n j cid).trans (shr_upd _ j _ (shr_dropSession cid))

theorem shr_foldl {α : Type} (g : Net → α → Net) (hg : ∀ (m : Net) (a : α), m.Shr (g m a)) (l : List α) (n : Net) : n.Shr (l.foldl g n) := by
  induction l generalizing n with
  | nil => exact Net.Shr.refl n
  | cons a t ih => exact (hg n a).trans (ih _)

theorem shr_logoutUser (n : Net) (j : Nat) (u : String) : n.Shr (logoutUser n j u) := by
  unfold logoutUser
  split
  · exact Net.Shr.refl n
  · exact (shr_foldl _ (fun m cid => shr_forceLogout m j cid) _ n).trans (shr_upd _ j _ (shr_endLocalOf u))

theorem shr_timeoutRemote (n : Net) (y : Nat) (s : RSession) : n.Shr (timeoutRemote n y s) := by
  unfold timeoutRemote
  have h1 : n.Shr (n.upd y (fun nd => (nd.dropSession s.id).dropConn s.id)) :=
    shr_upd n y _ (fun a => (shr_dropSession s.id a).trans (shr_dropConn s.id _))
  simp only []
  split
  · exact h1.trans (shr_upd _ _ _ (shr_dropConn s.id))
  · exact h1

theorem shr_preTimestepNode (n : Net) (y : Nat) : n.Shr (preTimestepNode n y) := by
  unfold preTimestepNode
  split
  · exact Net.Shr.refl n
  · simp only []
    refine Net.Shr.trans ?_ (shr_foldl _ (fun m s => shr_timeoutRemote m y s) _ _)
    split
    · exact shr_upd n y _ shr_clearLoc
    · exact Net.Shr.refl n

/-! ### `Net.Rel` across the edits of a network -/

theorem rel_upd {R : Nat → Node → Node → Prop} (n : Net) (i : Nat) (f : Node → Node) (hR : ∀ j a, R j a a)
    (hf : ∀ a, n.node i = some a → R i a (f a)) : Net.Rel R n (n.upd i f) :=
  ⟨by simp, fun j a h => by
    by_cases hij : i = j
    · subst hij; exact ⟨f a, by simp [h], hf a h⟩
    · exact ⟨a, by simp [hij, h], hR j a⟩⟩

theorem rel_map {R : Nat → Node → Node → Prop} (n : Net) (g : Node → Node) (t : Nat) (hg : ∀ j a, R j a (g a)) :
    Net.Rel R n { n with time := t, nodes := n.nodes.map g } :=
  ⟨by simp, fun j a h => ⟨g a, by simp [Net.node] at h ⊢; simp [h], hg j a⟩⟩

theorem rel_bump {R : Nat → Node → Node → Prop} {n m : Net} (h : Net.Rel R n m) (k : Nat) :
    Net.Rel R n (m.bump k) := ⟨h.len, h.node⟩

/-- a reflexive, transitive node relation -/
structure Pre (R : Nat → Node → Node → Prop) : Prop where
  refl : ∀ j a, R j a a
  trans : ∀ j a b c, R j a b → R j b c → R j a c

theorem Pre.rel_refl {R : Nat → Node → Node → Prop} (hR : Pre R) (n : Net) : Net.Rel R n n := Net.Rel.refl hR.refl n

theorem Pre.rel_trans {R : Nat → Node → Node → Prop} (hR : Pre R) {n m k : Net} (h1 : Net.Rel R n m) (h2 : Net.Rel R m k) :
    Net.Rel R n k := Net.Rel.trans hR.trans h1 h2

theorem Pre.rel_upd {R : Nat → Node → Node → Prop} (hR : Pre R) {n m : Net} (h : Net.Rel R n m) (i : Nat) (f : Node → Node)
    (hf : ∀ a, R i a (f a)) : Net.Rel R n (m.upd i f) :=
  hR.rel_trans h (_root_.Primaite.Session.rel_upd m i f hR.refl (fun a _ => hf a))

theorem Pre.rel_shr {R : Nat → Node → Node → Prop} (hR : Pre R) (hS : ∀ j a b, Node.Shr a b → R j a b) {n m k : Net}
    (h : Net.Rel R n m) (h2 : m.Shr k) : Net.Rel R n k := hR.rel_trans h (h2.rel.mono hS)

/-! ### what the power / service machinery never touches -/

def Node.data (nd : Node) : List User × Option LSession × List RSession × List Conn × List Nat × Nat × Nat × Nat :=
  (nd.users, nd.loc, nd.rem, nd.conns, nd.files, nd.maxRemote, nd.localTimeout, nd.remoteTimeout)

theorem startUpActions_data (a : Node) : a.startUpActions.data = a.data := rfl
theorem shutDownActions_data (a : Node) : a.shutDownActions.data = a.data := rfl

theorem powerOn_data (a : Node) : a.powerOn.1.data = a.data := by
  unfold Node.powerOn; split
  · rfl
  · split <;> rfl

theorem powerOff_data (a : Node) : a.powerOff.1.data = a.data := by
  unfold Node.powerOff; split
  · dsimp only
    split
    · exact powerOn_data _
    · rfl
  · split <;> rfl

theorem bootPhase_data (a : Node) : a.bootPhase.data = a.data := by
  unfold Node.bootPhase; split
  · rfl
  · split <;> rfl

theorem shutPhase_data (a : Node) : a.shutPhase.data = a.data := by
  unfold Node.shutPhase; split
  · rfl
  · split
    · dsimp only
      split
      · exact powerOn_data _
      · rfl
    · rfl

theorem svcPhase_data (a : Node) : a.svcPhase.data = a.data := by
  unfold Node.svcPhase; split <;> rfl

theorem applyTimestep_data (a : Node) : a.applyTimestep.data = a.data := by
  unfold Node.applyTimestep
  rw [svcPhase_data, shutPhase_data, bootPhase_data]

theorem setSvc_data (a : Node) (w : SvcName) (s : Service) : (a.setSvc w s).data = a.data := by
  cases w <;> rfl

theorem data_files {a b : Node} (h : b.data = a.data) : b.files = a.files :=
  congrArg (fun d => d.2.2.2.2.1) h
theorem data_users {a b : Node} (h : b.data = a.data) : b.users = a.users :=
  congrArg (fun d => d.1) h
theorem data_loc {a b : Node} (h : b.data = a.data) : b.loc = a.loc :=
  congrArg (fun d => d.2.1) h
theorem data_rem {a b : Node} (h : b.data = a.data) : b.rem = a.rem :=
  congrArg (fun d => d.2.2.1) h
theorem data_conns {a b : Node} (h : b.data = a.data) : b.conns = a.conns :=
  congrArg (fun d => d.2.2.2.1) h
theorem data_maxRemote {a b : Node} (h : b.data = a.data) : b.maxRemote = a.maxRemote :=
  congrArg (fun d => d.2.2.2.2.2.1) h
theorem data_localTimeout {a b : Node} (h : b.data = a.data) : b.localTimeout = a.localTimeout :=
  congrArg (fun d => d.2.2.2.2.2.2.1) h
theorem data_remoteTimeout {a b : Node} (h : b.data = a.data) : b.remoteTimeout = a.remoteTimeout :=
  congrArg (fun d => d.2.2.2.2.2.2.2) h

theorem Node.Shr.data_of_eq {a b : Node} (h : a.Shr b) :
    b.files = a.files ∧ b.users = a.users ∧ b.maxRemote = a.maxRemote ∧ b.localTimeout = a.localTimeout ∧
    b.remoteTimeout = a.remoteTimeout := ⟨h.files, h.users, h.maxRemote, h.localTimeout, h.remoteTimeout⟩

end Primaite.Session
