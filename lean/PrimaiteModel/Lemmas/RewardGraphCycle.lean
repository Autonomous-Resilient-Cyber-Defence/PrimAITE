/-
Proof development for `graph_has_cycle` and the top level of `topological_sort` (Model/RewardGraph.lean). The two searches
are followed side by side: as long as the cycle search has not answered `True` it has visited exactly the nodes the post-order
search has, and the nodes it has finished are the post-order stack, dependencies first. Both top-level theorems, with explicit
fuel, are read off that one induction.
-/
import PrimaiteModel.Lemmas.RewardGraphTopo
namespace Primaite.RewardGraph

variable {α : Type} [DecidableEq α]

/-- What a `False` answer of the cycle search guarantees, against the post-order search `t` run from the same visited set with the
finished nodes as its stack: the two have visited the same nodes, `currently_visiting` is as it was, and the stack holds exactly
the finished nodes, dependencies first. -/
structure Ran (g : Graph α) (vis cur : List α) (r : Bool × CSt α) (t : List α × List α) : Prop where
  cst : r.2 = (t.1, cur)
  visMono : ∀ x ∈ vis, x ∈ t.1
  fin : ∀ x, x ∈ t.2 ↔ (x ∈ t.1 ∧ x ∉ cur)
  deps : DepsFirst g t.2

def CSpec (g : Graph α) (fuel : Nat) : Prop :=
  ∀ (vis cur stk : List α) (n : α),
    mu g vis < fuel → n ∈ univ g → (∀ a ∈ cur, Path g a n) →
    (∀ x, x ∈ stk ↔ (x ∈ vis ∧ x ∉ cur)) → DepsFirst g stk →
    ((cdfs g fuel (vis, cur) n).1 = true → ¬ Acyclic g) ∧
    ((cdfs g fuel (vis, cur) n).1 = false →
      Ran g vis cur (cdfs g fuel (vis, cur) n) (tdfs g fuel (vis, stk) n) ∧ n ∈ (tdfs g fuel (vis, stk) n).2)

theorem loop_spec (g : Graph α) (fuel : Nat) (ih : CSpec g fuel) :
    ∀ (ms : List α) (vis cur stk : List α),
      mu g vis < fuel → (∀ m ∈ ms, m ∈ univ g ∧ ∀ a ∈ cur, Path g a m) →
      (∀ x, x ∈ stk ↔ (x ∈ vis ∧ x ∉ cur)) → DepsFirst g stk →
      ((loopE (cdfs g fuel) (vis, cur) ms).1 = true → ¬ Acyclic g) ∧
      ((loopE (cdfs g fuel) (vis, cur) ms).1 = false →
          Ran g vis cur (loopE (cdfs g fuel) (vis, cur) ms) (ms.foldl (fun st m => tdfs g fuel st m) (vis, stk)) ∧
          ∀ m ∈ ms, m ∈ (ms.foldl (fun st m => tdfs g fuel st m) (vis, stk)).2) := by
  intro ms
  induction ms with
  | nil =>
    intro vis cur stk _ _ hfin hd
    exact ⟨by simp [loopE], fun _ => ⟨⟨rfl, fun _ hx => hx, hfin, hd⟩, fun _ hm => absurd hm List.not_mem_nil⟩⟩
  | cons m ms ihms =>
    intro vis cur stk hmu hms hfin hd
    obtain ⟨hm1, hm2⟩ := hms m (List.mem_cons_self ..)
    obtain ⟨ht, hf⟩ := ih vis cur stk m hmu hm1 hm2 hfin hd
    simp only [loopE, List.foldl_cons]
    cases hb : (cdfs g fuel (vis, cur) m).1 with
    | true => exact ⟨fun _ => ht hb, fun h => by simp at h⟩
    | false =>
      obtain ⟨p, hm⟩ := hf hb
      -- the search goes on from the state the post-order search is in
      obtain ⟨ht2, hf2⟩ := ihms (tdfs g fuel (vis, stk) m).1 cur (tdfs g fuel (vis, stk) m).2
        (Nat.lt_of_le_of_lt (mu_anti g vis _ p.visMono) hmu) (fun x hx => hms x (List.mem_cons_of_mem _ hx)) p.fin p.deps
      simp only [Bool.false_eq_true, if_false, p.cst]
      refine ⟨ht2, fun h => ?_⟩
      obtain ⟨q, hall⟩ := hf2 h
      refine ⟨⟨q.cst, fun x hx => q.visMono x (p.visMono x hx), q.fin, q.deps⟩, ?_⟩
      intro x hx
      rcases List.mem_cons.mp hx with rfl | hx
      · exact (q.fin x).mpr ⟨q.visMono x ((p.fin x).mp hm).1, ((p.fin x).mp hm).2⟩
      · exact hall x hx

theorem cdfs_spec (g : Graph α) : ∀ fuel, CSpec g fuel := by
  intro fuel
  induction fuel with
  | zero => intro vis cur stk n h; omega
  | succ fuel ih =>
    intro vis cur stk n hmu hn hA hfin hd
    unfold cdfs tdfs
    by_cases hc : n ∈ cur
    · simp only [hc, if_true]
      exact ⟨fun _ hac => hac n (hA n hc), fun h => by simp at h⟩
    · simp only [hc, if_false]
      by_cases hv : n ∈ vis
      · simp only [hv, if_true]
        exact ⟨fun h => by simp at h, fun _ => ⟨⟨rfl, fun _ hx => hx, hfin, hd⟩, (hfin n).mpr ⟨hv, hc⟩⟩⟩
      · simp only [hv, if_false]
        have hmu0 : mu g (n :: vis) < fuel := by
          have := mu_lt g vis n hn hv; omega
        have hfin0 : ∀ x, x ∈ stk ↔ (x ∈ n :: vis ∧ x ∉ n :: cur) := by
          intro x
          rw [hfin x, List.mem_cons, List.mem_cons, not_or]
          constructor
          · intro ⟨h1, h2⟩; exact ⟨Or.inr h1, fun h => hv (h ▸ h1), h2⟩
          · intro ⟨h1, hne, h2⟩; exact ⟨h1.resolve_left hne, h2⟩
        obtain ⟨ht, hf⟩ := loop_spec g fuel ih (nbrs g n) (n :: vis) (n :: cur) stk hmu0
          (fun m hm => ⟨nbrs_sub_univ g n m hm, Path.to_nbr hA hm⟩) hfin0 hd
        cases hb : (loopE (cdfs g fuel) (n :: vis, n :: cur) (nbrs g n)).1 with
        | true => exact ⟨fun _ => ht hb, fun h => by simp at h⟩
        | false =>
          simp only [Bool.false_eq_true, if_false]
          refine ⟨fun h => by simp at h, fun _ => ?_⟩
          obtain ⟨q, hall⟩ := hf hb
          -- `n` is finished: it goes on the stack behind its neighbours and leaves `currently_visiting`
          refine ⟨⟨by rw [q.cst]; simp, fun x hx => q.visMono x (List.mem_cons_of_mem _ hx), ?_, q.deps.snoc hall⟩, by simp⟩
          intro x
          rw [List.mem_append, List.mem_singleton, q.fin x, List.mem_cons, not_or]
          constructor
          · rintro (⟨h1, _, h2⟩ | rfl)
            · exact ⟨h1, h2⟩
            · exact ⟨q.visMono _ (List.mem_cons_self ..), hc⟩
          · intro ⟨h1, h2⟩
            by_cases hxn : x = n
            · exact Or.inr hxn
            · exact Or.inl ⟨h1, hxn, h2⟩

theorem key_of_nbr {g : Graph α} {u v : α} (h : v ∈ nbrs g u) : u ∈ keys g := by
  obtain ⟨l, hl, _⟩ := exists_of_mem_nbrs h
  exact List.mem_map.mpr ⟨(u, l), hl, rfl⟩

theorem path_head_key {g : Graph α} {u w : α} (h : Path g u w) : u ∈ keys g := by
  cases h with
  | single h => exact key_of_nbr h
  | cons h _ => exact key_of_nbr h

omit [DecidableEq α] in
theorem keys_sub_univ (g : Graph α) : ∀ m ∈ keys g, m ∈ univ g := by
  intro m hm; unfold univ; unfold keys at hm; exact List.mem_append_left _ hm

theorem top_spec (g : Graph α) (fuel : Nat) (hfuel : mu g [] < fuel) :
    (hasCycleF g fuel = true → ¬ Acyclic g) ∧
    (hasCycleF g fuel = false → DepsFirst g (topoSortF g fuel) ∧ ∀ k ∈ keys g, k ∈ topoSortF g fuel) := by
  obtain ⟨ht, hf⟩ := loop_spec g fuel (cdfs_spec g fuel) (keys g) [] [] [] hfuel
    (fun m hm => ⟨keys_sub_univ g m hm, by simp⟩) (by simp) (by intro l₁ u l₂ h; simp at h)
  exact ⟨ht, fun h => ⟨(hf h).1.deps, (hf h).2⟩⟩

/-- `graph_has_cycle` rejects exactly the cyclic graphs (any fuel above the length of `univ g`, repeats counted, suffices). -/
theorem hasCycle_iff (g : Graph α) (fuel : Nat) (hfuel : mu g [] < fuel) :
    hasCycleF g fuel = true ↔ ¬ Acyclic g := by
  obtain ⟨ht, hf⟩ := top_spec g fuel hfuel
  refine ⟨ht, fun hna => ?_⟩
  cases hb : hasCycleF g fuel with
  | true => rfl
  | false =>
    -- a cycle would have to descend for ever in a dependencies-first list of all keys
    obtain ⟨hd, hk⟩ := hf hb
    exact absurd (fun u hp => Nat.lt_irrefl _ (hd.path_idx_lt hp (hk u (path_head_key hp))).2) hna

theorem topoSort_depsFirst (g : Graph α) (hac : Acyclic g) (fuel : Nat) (hfuel : mu g [] < fuel) :
    DepsFirst g (topoSortF g fuel) ∧ ∀ k ∈ keys g, k ∈ topoSortF g fuel := by
  obtain ⟨ht, hf⟩ := top_spec g fuel hfuel
  cases hb : hasCycleF g fuel with
  | true => exact absurd hac (ht hb)
  | false => exact hf hb

end Primaite.RewardGraph
