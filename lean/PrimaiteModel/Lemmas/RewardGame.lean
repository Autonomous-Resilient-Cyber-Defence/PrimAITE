/-
Proof development for the reward layer of the game (Model/Reward.lean): the weighted sum, the agent dictionary,
`update_agents` over a dependencies-first duplicate-free order (same-step values, fixed-point characterisation),
uniqueness of that fixed point (order irrelevance), one whole step (`gameStep_spec`).
-/
import PrimaiteModel.Model.Reward
import PrimaiteModel.Lemmas.RewardGraphTop
namespace Primaite.Reward
open Primaite.RewardGraph

/-- `RewardFunction.update`'s loop over an arbitrary carrier `V` and an arbitrary way `ev` of evaluating a component -/
def updateCompsG {V C : Type} (add mul : V → V → V) (ev : C → V × C) : V → List (C × V) → V × List (C × V)
  | acc, [] => (acc, [])
  | acc, (c, w) :: rest =>
    let r := ev c
    let t := updateCompsG add mul ev (add acc (mul w r.1)) rest
    (t.1, (r.2, w) :: t.2)

theorem updateComps_eq_generic (s : SimState) (it : Item) (cur : Name → Val) (comps : List (Comp × Val)) (acc : Val) :
    updateComps s it cur acc comps = updateCompsG (· + ·) (· * ·) (calcComp s it cur) acc comps := by
  induction comps generalizing acc with
  | nil => rfl
  | cons cw rest ih => obtain ⟨c, w⟩ := cw; simp only [updateComps, updateCompsG, ih]

/-- `total = 0.0; for (w, c): total += w * c` over an arbitrary carrier with arbitrary `add` / `mul` -/
def weightedFold {V : Type} (add mul : V → V → V) (zero : V) (wcs : List (V × V)) : V :=
  wcs.foldl (fun acc wc => add acc (mul wc.1 wc.2)) zero

theorem updateCompsG_eq {V C : Type} (add mul : V → V → V) (ev : C → V × C) (comps : List (C × V)) : ∀ acc : V,
    updateCompsG add mul ev acc comps =
      (weightedFold add mul acc (comps.map (fun cw => (cw.2, (ev cw.1).1))), comps.map (fun cw => ((ev cw.1).2, cw.2))) := by
  induction comps with
  | nil => intro acc; rfl
  | cons cw rest ih => obtain ⟨c, w⟩ := cw; intro acc; simp only [updateCompsG, ih]; rfl

theorem updateComps_snd (s : SimState) (it : Item) (cur : Name → Val) (comps : List (Comp × Val)) (acc : Val) :
    (updateComps s it cur acc comps).2 = comps.map (fun cw => ((calcComp s it cur cw.1).2, cw.2)) := by
  rw [updateComps_eq_generic, updateCompsG_eq]

theorem calcComp_congr (s : SimState) (it : Item) (cur cur' : Name → Val) (c : Comp)
    (h : ∀ a, c = .shared a → cur a = cur' a) : calcComp s it cur c = calcComp s it cur' c := by
  cases c <;> simp [calcComp]
  exact h _ rfl

theorem mem_sharedNames_iff {comps : List (Comp × Val)} {v : Name} :
    v ∈ sharedNames comps ↔ ∃ w, (Comp.shared v, w) ∈ comps := by
  induction comps with
  | nil => simp [sharedNames]
  | cons cw rest ih =>
    obtain ⟨c, w'⟩ := cw
    cases c <;> simp [sharedNames, ih, exists_or]

theorem mem_sharedNames_of_mem {comps : List (Comp × Val)} {cw : Comp × Val} (hcw : cw ∈ comps) {a : Name}
    (ha : cw.1 = .shared a) : a ∈ sharedNames comps := by
  obtain ⟨c, w⟩ := cw
  subst ha
  exact mem_sharedNames_iff.mpr ⟨w, hcw⟩

theorem updateComps_ext {s s' : SimState} {it it' : Item} {cur cur' : Name → Val} (comps : List (Comp × Val))
    (h : ∀ cw ∈ comps, calcComp s it cur cw.1 = calcComp s' it' cur' cw.1) :
    ∀ acc, updateComps s it cur acc comps = updateComps s' it' cur' acc comps := by
  induction comps with
  | nil => intro acc; rfl
  | cons cw rest ih =>
    obtain ⟨c, w⟩ := cw
    intro acc
    simp only [updateComps, h (c, w) (List.mem_cons_self ..), ih (fun cw hcw => h cw (List.mem_cons_of_mem _ hcw))]

theorem updateComps_congr (s : SimState) (it : Item) (cur cur' : Name → Val) (comps : List (Comp × Val)) (acc : Val)
    (h : ∀ v ∈ sharedNames comps, cur v = cur' v) :
    updateComps s it cur acc comps = updateComps s it cur' acc comps :=
  updateComps_ext comps
    (fun cw hcw => calcComp_congr s it cur cur' cw.1 (fun a ha => h a (mem_sharedNames_of_mem hcw ha))) acc

theorem sharedNames_calc (s : SimState) (it : Item) (cur : Name → Val) (comps : List (Comp × Val)) :
    sharedNames (comps.map (fun cw => ((calcComp s it cur cw.1).2, cw.2))) = sharedNames comps := by
  induction comps with
  | nil => rfl
  | cons cw rest ih =>
    obtain ⟨c, w⟩ := cw
    rw [List.map_cons]
    generalize List.map _ rest = l at ih ⊢
    cases c <;> simp [calcComp, sharedNames, ih]

theorem setAgent_eq_map (n : Name) (a : Agent) (as : List (Name × Agent)) :
    setAgent n a as = as.map (fun p => (p.1, if p.1 = n then a else p.2)) := by
  unfold setAgent
  apply List.map_congr_left
  intro p _
  split <;> rfl

theorem agentKeys_setAgent (n : Name) (a : Agent) (as : List (Name × Agent)) :
    agentKeys (setAgent n a as) = agentKeys as := by
  rw [setAgent_eq_map, agentKeys, List.map_map]
  rfl

theorem lookup_setAgent (n : Name) (a : Agent) (as : List (Name × Agent)) (m : Name) :
    (setAgent n a as).lookup m = if m = n then (as.lookup n).map (fun _ => a) else as.lookup m := by
  rw [setAgent_eq_map, lookup_map_val (fun k v => if k = n then a else v)]
  by_cases h : m = n
  · subst h; simp only [if_true]
  · simp only [h, if_false, Option.map_id']

theorem lookup_none_iff (as : List (Name × Agent)) (n : Name) : as.lookup n = none ↔ n ∉ agentKeys as := by
  rw [List.lookup_eq_none_iff, agentKeys, List.mem_map]
  constructor
  · rintro h ⟨p, hp, rfl⟩; simpa using h p hp
  · intro h p hp; simpa using fun e => h ⟨p, hp, e.symm⟩

theorem lookup_some_mem_keys {as : List (Name × Agent)} {n : Name} {a : Agent} (h : as.lookup n = some a) :
    n ∈ agentKeys as := by
  apply Classical.byContradiction
  intro hn
  rw [(lookup_none_iff as n).mpr hn] at h
  cases h

theorem mem_keys_lookup {as : List (Name × Agent)} {n : Name} (h : n ∈ agentKeys as) : ∃ a, as.lookup n = some a := by
  cases hl : as.lookup n with
  | none => exact absurd h ((lookup_none_iff as n).mp hl)
  | some a => exact ⟨a, rfl⟩

theorem curOf_setAgent_ne (n : Name) (a : Agent) (as : List (Name × Agent)) (m : Name) (h : m ≠ n) :
    curOf (setAgent n a as) m = curOf as m := by
  unfold curOf
  rw [lookup_setAgent]; simp [h]

/-- the graph of "shares from" in component order (`sharingGraph` with the identity as set order) -/
def depGraph (as : List (Name × Agent)) : Graph Name := as.map (fun p => (p.1, sharedNames p.2.comps))

theorem nbrs_sharingGraph (σ : List Name → List Name) (as : List (Name × Agent)) (n : Name) :
    nbrs (sharingGraph σ as) n = match as.lookup n with
      | some a => σ (sharedNames a.comps)
      | none => [] := by
  unfold nbrs sharingGraph
  rw [lookup_map_val (fun (_ : Name) (a : Agent) => σ (sharedNames a.comps))]
  cases as.lookup n <;> rfl

theorem depGraph_eq (as : List (Name × Agent)) : depGraph as = sharingGraph id as := rfl

theorem nbrs_depGraph (as : List (Name × Agent)) (n : Name) :
    nbrs (depGraph as) n = match as.lookup n with
      | some a => sharedNames a.comps
      | none => [] := nbrs_sharingGraph id as n

theorem keys_sharingGraph (σ : List Name → List Name) (as : List (Name × Agent)) :
    keys (sharingGraph σ as) = agentKeys as := by
  unfold keys sharingGraph agentKeys
  rw [List.map_map]; rfl

/-- what `update_agents` does to one agent when `step_counter > 0`: `update_reward`, `save_reward_to_history`,
`total_reward += current_reward`, with `cur` answering the shared-reward callbacks -/
def updAgent (s : SimState) (cur : Name → Val) (a : Agent) : Agent :=
  match a.hist with
  | [] => a
  | (it, _) :: older =>
    let r := updateComps s it cur 0 a.comps
    { comps := r.2, current := r.1, total := a.total + r.1, hist := (it, some r.1) :: older }

theorem updAgent_congr (s : SimState) (cur cur' : Name → Val) (a : Agent)
    (h : ∀ v ∈ sharedNames a.comps, cur v = cur' v) : updAgent s cur a = updAgent s cur' a := by
  unfold updAgent
  cases hh : a.hist with
  | nil => rfl
  | cons e older =>
    obtain ⟨it, r⟩ := e
    simp only [updateComps_congr s it cur cur' a.comps 0 h]

theorem sharedNames_updAgent (s : SimState) (cur : Name → Val) (a : Agent) :
    sharedNames (updAgent s cur a).comps = sharedNames a.comps := by
  unfold updAgent
  cases hh : a.hist with
  | nil => simp
  | cons e older =>
    obtain ⟨it, r⟩ := e
    simp only [updateComps_snd]
    exact sharedNames_calc s it cur a.comps

theorem updOne_ok (s : SimState) (g : Game) (name : Name) (a : Agent)
    (hl : g.agents.lookup name = some a) (hpos : 0 < g.stepCounter) (hh : a.hist ≠ [])
    (hs : ∀ v ∈ sharedNames a.comps, v ∈ agentKeys g.agents) :
    updOne s g name = .ok { g with agents := setAgent name (updAgent s (curOf g.agents) a) g.agents } := by
  unfold updOne
  simp only [hl, hpos, if_true]
  cases hhist : a.hist with
  | nil => exact absurd hhist hh
  | cons e older =>
    obtain ⟨it, r⟩ := e
    have hall : (sharedNames a.comps).all (fun v => decide (v ∈ agentKeys g.agents)) = true := by
      simp only [List.all_eq_true, decide_eq_true_eq]; exact hs
    simp only [hall, if_true, updAgent, hhist]

theorem updOne_inv {s : SimState} {g g' : Game} {n : Name} (h : updOne s g n = .ok g') :
    ∃ a, g.agents.lookup n = some a ∧
      g' = { g with agents := setAgent n (if g.stepCounter > 0 then updAgent s (curOf g.agents) a
                                           else { a with total := a.total + a.current }) g.agents } := by
  unfold updOne at h
  cases hl : g.agents.lookup n with
  | none => rw [hl] at h; cases h
  | some a =>
    rw [hl] at h
    refine ⟨a, rfl, ?_⟩
    simp only at h
    split at h
    · rename_i hpos
      rw [if_pos hpos]
      unfold updAgent
      cases hh : a.hist with
      | nil => rw [hh] at h; cases h
      | cons e older =>
        obtain ⟨it, o⟩ := e
        rw [hh] at h
        simp only at h
        split at h
        · cases h; rfl
        · cases h
    · rename_i hpos
      rw [if_neg hpos]
      cases h; rfl

/-- what `setup_reward_sharing` establishes and every step preserves -/
structure WF (g : Game) : Prop where
  keysNodup : (agentKeys g.agents).Nodup
  orderNodup : g.order.Nodup
  orderMem : ∀ n, n ∈ g.order ↔ n ∈ agentKeys g.agents
  deps : DepsFirst (depGraph g.agents) g.order

theorem shared_mem_order {g : Game} (wf : WF g) {n : Name} {a : Agent} (hl : g.agents.lookup n = some a)
    {v : Name} (hv : v ∈ sharedNames a.comps) : v ∈ g.order ∧ g.order.idxOf v < g.order.idxOf n := by
  have hn : n ∈ g.order := (wf.orderMem n).mpr (lookup_some_mem_keys hl)
  have hv' : v ∈ nbrs (depGraph g.agents) n := by rw [nbrs_depGraph, hl]; exact hv
  exact ⟨wf.deps.nbr_mem hn hv', wf.deps.idx_lt hn hv'⟩

theorem WF.induction {g : Game} (wf : WF g) {P : Name → Prop}
    (step : ∀ n a, g.agents.lookup n = some a → (∀ v ∈ sharedNames a.comps, P v) → P n) :
    ∀ n ∈ agentKeys g.agents, P n := by
  have key : ∀ (k : Nat) (n : Name), n ∈ g.order → g.order.idxOf n < k → P n := by
    intro k
    induction k with
    | zero => intro n _ h; omega
    | succ k ih =>
      intro n hn hk
      obtain ⟨a, ha⟩ := mem_keys_lookup ((wf.orderMem n).mp hn)
      refine step n a ha (fun v hv => ?_)
      obtain ⟨hvo, hlt⟩ := shared_mem_order wf ha hv
      exact ih v hvo (by omega)
  intro n hn
  exact key (g.order.idxOf n + 1) n ((wf.orderMem n).mpr hn) (by omega)

structure Inv (s : SimState) (g0 : Game) (pre : List Name) (h : Game) : Prop where
  order : h.order = g0.order
  step : h.stepCounter = g0.stepCounter
  keys : agentKeys h.agents = agentKeys g0.agents
  untouched : ∀ n, n ∉ pre → h.agents.lookup n = g0.agents.lookup n
  done : ∀ n ∈ pre, ∀ a, g0.agents.lookup n = some a → h.agents.lookup n = some (updAgent s (curOf h.agents) a)

theorem updateAgents_fold (s : SimState) (g0 : Game) (wf : WF g0) (hpos : 0 < g0.stepCounter)
    (hhist : ∀ n a, g0.agents.lookup n = some a → a.hist ≠ []) :
    ∀ (suf pre : List Name) (h : Game), g0.order = pre ++ suf → Inv s g0 pre h →
      ∃ h', foldE (updOne s) h suf = .ok h' ∧ Inv s g0 g0.order h' := by
  intro suf
  induction suf with
  | nil =>
    intro pre h hsplit inv
    simp at hsplit
    exact ⟨h, rfl, by rw [hsplit]; exact inv⟩
  | cons m suf ih =>
    intro pre h hsplit inv
    have hnd := wf.orderNodup
    rw [hsplit] at hnd
    have hmpre : m ∉ pre := by
      intro hm
      have := (List.nodup_append.mp hnd).2.2 m hm m (by simp)
      exact this rfl
    have hmord : m ∈ g0.order := by rw [hsplit]; simp
    obtain ⟨a, ha⟩ := mem_keys_lookup ((wf.orderMem m).mp hmord)
    have hla : h.agents.lookup m = some a := by rw [inv.untouched m hmpre]; exact ha
    have hstep : 0 < h.stepCounter := by rw [inv.step]; exact hpos
    have hsk : ∀ v ∈ sharedNames a.comps, v ∈ agentKeys h.agents := by
      intro v hv
      rw [inv.keys]
      exact (wf.orderMem v).mp (shared_mem_order wf ha hv).1
    have hone := updOne_ok s h m a hla hstep (hhist m a ha) hsk
    simp only [foldE, hone]
    apply ih (pre ++ [m]) _ (by rw [hsplit]; simp)
    have hne_of_shared : ∀ (n : Name) (b : Agent), g0.agents.lookup n = some b → (n = m ∨ n ∈ pre) →
        ∀ v ∈ sharedNames b.comps, v ≠ m := by
      intro n b hb hn v hv hvm
      subst hvm
      have hlt := (shared_mem_order wf hb hv).2
      rcases hn with rfl | hn
      · omega
      · have := idxOf_lt_of_split hsplit hmpre hn
        omega
    refine ⟨inv.order, inv.step, by simp only [agentKeys_setAgent]; exact inv.keys, ?_, ?_⟩
    · intro n hn
      have hnm : n ≠ m := by intro h'; subst h'; exact hn (by simp)
      have hnp : n ∉ pre := fun h' => hn (List.mem_append_left _ h')
      simp only [lookup_setAgent, hnm, if_false]
      exact inv.untouched n hnp
    · intro n hn b hb
      have hn' : n = m ∨ n ∈ pre := by
        rcases List.mem_append.mp hn with h' | h'
        · exact Or.inr h'
        · exact Or.inl (List.mem_singleton.mp h')
      have hcur : ∀ v ∈ sharedNames b.comps,
          curOf h.agents v = curOf (setAgent m (updAgent s (curOf h.agents) a) h.agents) v :=
        fun v hv => (curOf_setAgent_ne m _ h.agents v (hne_of_shared n b hb hn' v hv)).symm
      rw [lookup_setAgent]
      rcases hn' with rfl | hnp
      · obtain rfl : a = b := Option.some.inj (ha.symm.trans hb)
        rw [if_pos rfl, hla]
        exact congrArg some (updAgent_congr s _ _ a hcur)
      · rw [if_neg (fun e : n = m => hmpre (e ▸ hnp)), inv.done n hnp b hb]
        exact congrArg some (updAgent_congr s _ _ b hcur)

/-- **Same-step values, as a fixed point.** On a well-formed game, `update_agents` succeeds and every agent ends up
updated with the shared-reward callbacks answering from the *resulting* game, i.e. with this step's rewards. -/
theorem updateAgents_spec (s : SimState) (g : Game) (wf : WF g) (hpos : 0 < g.stepCounter)
    (hhist : ∀ n a, g.agents.lookup n = some a → a.hist ≠ []) :
    ∃ g', updateAgents s g = .ok g' ∧ g'.order = g.order ∧ g'.stepCounter = g.stepCounter ∧
      agentKeys g'.agents = agentKeys g.agents ∧
      ∀ n a, g.agents.lookup n = some a → g'.agents.lookup n = some (updAgent s (curOf g'.agents) a) := by
  obtain ⟨h', hf, inv⟩ := updateAgents_fold s g wf hpos hhist g.order [] g (by simp)
    ⟨rfl, rfl, rfl, fun _ _ => rfl, by simp⟩
  refine ⟨h', hf, inv.order, inv.step, inv.keys, ?_⟩
  intro n a ha
  exact inv.done n ((wf.orderMem n).mpr (lookup_some_mem_keys ha)) a ha

def SameAgents (g1 g2 : Game) : Prop := ∀ n, g1.agents.lookup n = g2.agents.lookup n

theorem SameAgents.mem_keys {g1 g2 : Game} (same : SameAgents g1 g2) (n : Name) :
    n ∈ agentKeys g1.agents ↔ n ∈ agentKeys g2.agents := by
  rw [← Decidable.not_iff_not, ← lookup_none_iff, ← lookup_none_iff, same n]

theorem fixpoint_unique (s : SimState) (g : Game) (wf : WF g) (A B : List (Name × Agent))
    (hA : ∀ n a, g.agents.lookup n = some a → A.lookup n = some (updAgent s (curOf A) a))
    (hB : ∀ n a, g.agents.lookup n = some a → B.lookup n = some (updAgent s (curOf B) a))
    (hkA : ∀ n, n ∈ agentKeys A ↔ n ∈ agentKeys g.agents) (hkB : ∀ n, n ∈ agentKeys B ↔ n ∈ agentKeys g.agents) :
    ∀ n, A.lookup n = B.lookup n := by
  intro n
  by_cases hn : n ∈ agentKeys g.agents
  · -- along the evaluation order: equal rewards of the agents shared from give equal updates
    refine wf.induction (P := fun n => A.lookup n = B.lookup n) (fun n a ha ih => ?_) n hn
    rw [hA n a ha, hB n a ha]
    exact congrArg some (updAgent_congr s _ _ a (fun v hv => by unfold curOf; rw [ih v hv]))
  · rw [(lookup_none_iff A n).mpr (fun h => hn ((hkA n).mp h)), (lookup_none_iff B n).mpr (fun h => hn ((hkB n).mp h))]

theorem WF_of_same_shape {g g' : Game} (wf : WF g) (ho : g'.order = g.order)
    (hk : agentKeys g'.agents = agentKeys g.agents)
    (hl : ∀ n a, g.agents.lookup n = some a → ∃ a', g'.agents.lookup n = some a' ∧ sharedNames a'.comps = sharedNames a.comps) :
    WF g' := by
  refine ⟨by rw [hk]; exact wf.keysNodup, by rw [ho]; exact wf.orderNodup, by rw [ho, hk]; exact wf.orderMem, ?_⟩
  rw [ho]
  apply DepsFirst_of_nbrs_sub _ wf.deps
  intro u v hv
  rw [nbrs_depGraph] at hv ⊢
  cases hu : g.agents.lookup u with
  | none =>
    have : g'.agents.lookup u = none := by
      rw [lookup_none_iff, hk, ← lookup_none_iff]; exact hu
    rw [this] at hv; simp at hv
  | some a =>
    obtain ⟨a', ha', hs⟩ := hl u a hu
    rw [ha'] at hv
    simp only at hv ⊢
    rw [← hs]; exact hv

/-- the agent after `process_action_response` appended this step's item -/
def pushItem (it : Item) (a : Agent) : Agent := { a with hist := (it, none) :: a.hist }

theorem lookup_act (items : Name → Item) (g : Game) (n : Name) :
    (act items g).agents.lookup n = (g.agents.lookup n).map (pushItem (items n)) :=
  lookup_map_val (fun k a => pushItem (items k) a) g.agents n

theorem agentKeys_act (items : Name → Item) (g : Game) : agentKeys (act items g).agents = agentKeys g.agents := by
  unfold act agentKeys
  simp only [List.map_map]
  rfl

theorem agentKeys_advance_act (items : Name → Item) (g : Game) :
    agentKeys (advance (act items g)).agents = agentKeys g.agents := agentKeys_act items g

theorem lookup_advance_act {items : Name → Item} {g : Game} {n : Name} {a : Agent}
    (h : (advance (act items g)).agents.lookup n = some a) :
    ∃ a0, g.agents.lookup n = some a0 ∧ a = pushItem (items n) a0 := by
  have h' : (act items g).agents.lookup n = some a := h
  rw [lookup_act] at h'
  cases h0 : g.agents.lookup n with
  | none => rw [h0] at h'; cases h'
  | some a0 => rw [h0] at h'; exact ⟨a0, rfl, (Option.some.inj h').symm⟩

theorem lookup_advance_act_of {items : Name → Item} {g : Game} {n : Name} {a : Agent} (h : g.agents.lookup n = some a) :
    (advance (act items g)).agents.lookup n = some (pushItem (items n) a) := by
  show (act items g).agents.lookup n = _
  rw [lookup_act, h]; rfl

theorem WF_advance_act (items : Name → Item) (g : Game) (wf : WF g) : WF (advance (act items g)) :=
  WF_of_same_shape (g' := advance (act items g)) wf rfl (agentKeys_advance_act items g)
    (fun n a ha => ⟨pushItem (items n) a, lookup_advance_act_of ha, rfl⟩)

/-- **One step.** On a well-formed game the step succeeds, stays well-formed, and every agent is updated from its own
new item and the post-step state, with shared components reading the rewards of the resulting game. -/
theorem gameStep_spec (g : Game) (wf : WF g) (items : Name → Item) (s : SimState) :
    ∃ g', gameStep g items s = .ok g' ∧ WF g' ∧ g'.order = g.order ∧ g'.stepCounter = g.stepCounter + 1 ∧
      agentKeys g'.agents = agentKeys g.agents ∧
      ∀ n a, g.agents.lookup n = some a →
        g'.agents.lookup n = some (updAgent s (curOf g'.agents) (pushItem (items n) a)) := by
  have wf1 := WF_advance_act items g wf
  obtain ⟨g', hok, ho, hs, hk, hf⟩ := updateAgents_spec s (advance (act items g)) wf1
    (Nat.succ_pos _) (by
      intro n a h
      obtain ⟨a0, _, rfl⟩ := lookup_advance_act h
      exact List.cons_ne_nil _ _)
  have wf' : WF g' := WF_of_same_shape wf1 ho hk (fun n a h => ⟨_, hf n a h, sharedNames_updAgent s _ a⟩)
  exact ⟨g', hok, wf', ho, by rw [hs]; rfl, by rw [hk]; exact agentKeys_act items g,
    fun n a ha => hf _ _ (lookup_advance_act_of ha)⟩

end Primaite.Reward
