/-
What the operations of `Model/FileSystem.lean` answer, and when they leave the state untouched.
-/
import PrimaiteModel.Lemmas.FileSystemOps
namespace Primaite.FileSystem

theorem ofBool_ne_raised (b : Bool) : ofBool b ≠ .raised := by cases b <;> simp [ofBool]

/-- The answer of a request on the `folder` route: refused by the guard, or whatever the continuation says about the
live folder of that name (`unreachable` for an unknown request name). Never `raised`. -/
theorem viaFolder_out {s : State} (h : Inv s) (F : Name) (k : Folder → Option (Folder × Out)) :
    ((∀ a ∈ s.folders, a.name ≠ F) ∧ viaFolder s F k = (s, .failure)) ∨
    ∃ g, g ∈ s.folders ∧ g.name = F ∧
      ((k g = none ∧ viaFolder s F k = (s, .unreachable)) ∨
       ∃ g' o, k g = some (g', o) ∧ viaFolder s F k = (updFolder s g.id (fun _ => g'), o)) := by
  unfold viaFolder
  by_cases hguard : folderGuard s F = true
  · obtain ⟨g, hgm, hgn, _, hroute, hfind⟩ := folderGuard_spec h hguard
    refine Or.inr ⟨g, hgm, hgn, ?_⟩
    simp only [hguard, Bool.not_true, Bool.false_eq_true, if_false, hroute, hfind]
    cases hk : k g with
    | none => exact Or.inl ⟨rfl, rfl⟩
    | some p => obtain ⟨g', o⟩ := p; exact Or.inr ⟨g', o, rfl, rfl⟩
  · have hg' : folderGuard s F = false := by simpa using hguard
    -- the guard fails: either no live folder, or (impossible under Inv) a live folder flagged deleted
    cases hg : getFolder s F with
    | none =>
      exact Or.inl ⟨getFolder_none hg, by simp [hg']⟩
    | some g =>
      obtain ⟨hgm, hgn⟩ := getFolder_live hg
      rw [← hgn, folderGuard_of_live h hgm] at hg'
      cases hg'

theorem fileRequest_out_ne_raised {g : Folder} (h : FolderInv g) (x : Name) (v : Verb) :
    (g.fileRequest x v).2 ≠ .raised := by
  rw [fileRequest_eq h]
  cases g.getFile x with
  | none => simp
  | some f =>
    simp only
    cases f.verb v with
    | none => simp
    | some p =>
      obtain ⟨f', b⟩ := p
      cases b <;> simp

end Primaite.FileSystem
