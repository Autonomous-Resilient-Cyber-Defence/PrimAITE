/-
The few facts about lists that several properties' developments share: a key that is duplicate-free over a list identifies
its members and finds each by its key (software registries, health, file system, sessions, configuration); a fresh element
keeps a list duplicate-free (software registries); a map that fixes every member fixes the list (file system, software
registries); a property of all members survives `List.set` (power, links); association lists read by `List.lookup` (the
agent dictionary, graphs, Python dictionaries), among them that the value under a key does not depend on the order of the
entries when keys are distinct (the agent dictionary, configuration mappings), and an invariant of a left fold (rewards).
-/
namespace Primaite

theorem eq_of_nodup_map {α β : Type _} (f : α → β) {l : List α} (h : (l.map f).Nodup) {a b : α} (ha : a ∈ l) (hb : b ∈ l)
    (hk : f a = f b) : a = b :=
  have p := List.pairwise_map.mp h
  List.Pairwise.forall_of_forall_of_flip (R := fun x y => f x = f y → x = y) (fun _ _ _ => rfl)
    (p.imp fun hne hk => absurd hk hne) (p.imp fun hne hk => absurd hk.symm hne) ha hb hk

theorem find?_key_of_nodup {α κ : Type _} [DecidableEq κ] (key : α → κ) (l : List α) (hn : (l.map key).Nodup) (x : α) (hx : x ∈ l) :
    l.find? (fun y => decide (key y = key x)) = some x := by
  cases hy : l.find? (fun y => decide (key y = key x)) with
  | none => simpa using List.find?_eq_none.mp hy x hx
  | some y => rw [eq_of_nodup_map key hn (List.mem_of_find?_eq_some hy) hx (by simpa using List.find?_some hy)]

theorem nodup_snoc {α : Type _} (l : List α) (x : α) (h : l.Nodup) (hx : x ∉ l) : (l ++ [x]).Nodup := by
  rw [List.nodup_append]
  refine ⟨h, by simp, ?_⟩
  intro a ha b hb
  rw [List.mem_singleton.mp hb]
  exact fun hab => hx (hab ▸ ha)

theorem map_eq_self {α : Type _} {f : α → α} {l : List α} (h : ∀ a ∈ l, f a = a) : l.map f = l :=
  (List.map_congr_left (g := id) h).trans (List.map_id l)

theorem forall_mem_set {α : Type _} {P : α → Prop} {l : List α} {i : Nat} {a : α} (h : ∀ x ∈ l, P x) (ha : P a) :
    ∀ x ∈ l.set i a, P x :=
  fun x hx => (List.mem_or_eq_of_mem_set hx).elim (h x) (fun e => e ▸ ha)

theorem mem_of_lookup_eq_some {κ β : Type} [BEq κ] [LawfulBEq κ] {l : List (κ × β)} {k : κ} {v : β}
    (h : l.lookup k = some v) : (k, v) ∈ l := by
  obtain ⟨l₁, l₂, rfl, _⟩ := List.lookup_eq_some_iff.mp h
  exact List.mem_append_right _ (List.mem_cons_self ..)

theorem lookup_of_mem_nodup {κ β : Type} [DecidableEq κ] {l : List (κ × β)} (hk : (l.map (·.1)).Nodup) {k : κ} {v : β}
    (h : (k, v) ∈ l) : l.lookup k = some v := by
  induction l with
  | nil => cases h
  | cons a t ih =>
    obtain ⟨k', v'⟩ := a
    rw [List.map_cons, List.nodup_cons] at hk
    rcases List.mem_cons.mp h with h' | h'
    · cases h'; exact List.lookup_cons_self
    · have hne : (k == k') = false := by
        rw [beq_eq_false_iff_ne]
        rintro rfl
        exact hk.1 (List.mem_map.mpr ⟨(k, v), h', rfl⟩)
      rw [List.lookup_cons, hne]
      exact ih hk.2 h'

theorem lookup_perm {κ β : Type} [DecidableEq κ] {l l' : List (κ × β)} (hp : l.Perm l') (hk : (l.map (·.1)).Nodup) (k : κ) :
    l.lookup k = l'.lookup k :=
  have hk' : (l'.map (·.1)).Nodup := (hp.map _).nodup_iff.mp hk
  Option.ext fun _ =>
    ⟨fun h => lookup_of_mem_nodup hk' (hp.mem_iff.mp (mem_of_lookup_eq_some h)),
     fun h => lookup_of_mem_nodup hk (hp.mem_iff.mpr (mem_of_lookup_eq_some h))⟩

theorem lookup_map_val {κ β γ : Type} [BEq κ] [LawfulBEq κ] (f : κ → β → γ) (l : List (κ × β)) (k : κ) :
    (l.map (fun p => (p.1, f p.1 p.2))).lookup k = (l.lookup k).map (f k) := by
  induction l with
  | nil => rfl
  | cons p t ih =>
    obtain ⟨a, b⟩ := p
    simp only [List.map_cons, List.lookup_cons]
    cases h : k == a with
    | false => exact ih
    | true => rw [eq_of_beq h]; rfl

theorem foldl_invariant {σ β : Type} (f : σ → β → σ) (P : β → Prop) (I : List β → σ → Prop)
    (step : ∀ pre b st, P b → I pre st → I (pre ++ [b]) (f st b)) :
    ∀ (l pre : List β) (st : σ), (∀ b ∈ l, P b) → I pre st → I (pre ++ l) (l.foldl f st) := by
  intro l
  induction l with
  | nil => intro pre st _ h; rw [List.append_nil]; exact h
  | cons b l ih =>
    intro pre st hP h
    have := ih (pre ++ [b]) (f st b) (fun x hx => hP x (List.mem_cons_of_mem _ hx))
      (step pre b st (hP b (List.mem_cons_self ..)) h)
    rwa [List.append_assoc] at this

end Primaite
