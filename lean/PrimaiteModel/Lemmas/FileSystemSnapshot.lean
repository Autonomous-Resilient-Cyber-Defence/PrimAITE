/-
Snapshot of the source text the model `Model/FileSystem.lean` was written against: the two request trees, exactly as the
extractor `harness/extract/filesystem.py` prints them.  `Props/C15.lean` proves `Gen.FileSystem.* = Snapshot.*`, so any
change to a registration breaks a proof obligation and forces the model to be re-read against the new text.  The handler
functions, the validators and the methods are tied by their translations (`Gen/FileSystemMethods.lean`), not by their
text: those three lists are empty here and in `Gen/FileSystem.lean`.
Hand-maintained: refresh it (from Gen/FileSystem.lean) only together with the model.
-/
namespace Primaite.FileSystem.Snapshot

def fsTree : List (String × String × String × String) := [
  ("self._delete_manager", "file", "lambda request, context: RequestResponse.from_bool(self.delete_file(folder_name=request[0], file_name=request[1]))", "self._file_exists"),
  ("self._delete_manager", "folder", "lambda request, context: RequestResponse.from_bool(self.delete_folder(folder_name=request[0]))", "self._folder_exists"),
  ("rm", "delete", "self._delete_manager", ""),
  ("self._create_manager", "file", "_create_file_action", ""),
  ("self._create_manager", "folder", "_create_folder_action", ""),
  ("rm", "create", "self._create_manager", ""),
  ("rm", "access", "_access_file_action", ""),
  ("self._restore_manager", "file", "lambda request, context: RequestResponse.from_bool(self.restore_file(folder_name=request[0], file_name=request[1]))", ""),
  ("self._restore_manager", "folder", "lambda request, context: RequestResponse.from_bool(self.restore_folder(folder_name=request[0]))", ""),
  ("rm", "restore", "self._restore_manager", ""),
  ("rm", "folder", "self._folder_request_manager", "self._folder_exists + self._folder_not_deleted"),
  ("rm", "file", "_file_action", "self._file_exists")
]

def folderTree : List (String × String × String × String) := [
  ("rm", "delete", "lambda request, context: RequestResponse.from_bool(self.remove_file_by_name(file_name=request[0]))", ""),
  ("rm", "file", "self._file_request_manager", "self._file_exists + self._file_not_deleted")
]

-- `_file_action` is tied by translation, not by its text (lookup: Gen hFileActionTarget; dispatch read structurally)
def fsHandlers : List (String × String) := [
]

-- each validator first answers False when the request carries fewer options than it reads; the model's operations always
-- carry them
def validators : List (String × String) := [
]

-- no method is tied by its text (the ties are the translations in Gen/FileSystemMethods.lean)
def methods : List (String × String) := [
]

end Primaite.FileSystem.Snapshot
