/-
Per-site lemmas of C03: each modelled consumer of a hash-ordered set is permutation-invariant (or, for the raw
iteration that nmap used before the F-8 repair, is not).
-/
import PrimaiteModel.Model.Noninterf

namespace Primaite.Noninterf

theorem insertSorted_perm (a : Nat) : ∀ l : List Nat, (insertSorted a l).Perm (a :: l)
  | [] => .refl _
  | b :: t => by
    unfold insertSorted
    split
    · exact .refl _
    · exact ((insertSorted_perm a t).cons b).trans (.swap a b t)

theorem insertSorted_sorted (a : Nat) (l : List Nat) (h : l.Pairwise (· ≤ ·)) : (insertSorted a l).Pairwise (· ≤ ·) := by
  induction l with
  | nil => exact List.pairwise_singleton _ _
  | cons b t ih =>
    rw [List.pairwise_cons] at h
    unfold insertSorted
    split
    · next hab =>
      exact .cons (fun x hx => (List.mem_cons.mp hx).elim (· ▸ hab) fun hx => Nat.le_trans hab (h.1 x hx)) (.cons h.1 h.2)
    · refine .cons (fun x hx => ?_) (ih h.2)
      rcases List.mem_cons.mp ((insertSorted_perm a t).mem_iff.mp hx) with rfl | hx
      · omega
      · exact h.1 x hx

theorem sortedIter_perm : ∀ l : List Nat, (sortedIter l).Perm l
  | [] => List.Perm.refl _
  | a :: t => (insertSorted_perm a (sortedIter t)).trans ((sortedIter_perm t).cons a)

theorem sortedIter_sorted : ∀ l : List Nat, (sortedIter l).Pairwise (· ≤ ·)
  | [] => List.Pairwise.nil
  | a :: t => insertSorted_sorted a (sortedIter t) (sortedIter_sorted t)

theorem sortedIter_invariant : Invariant sortedIter := fun l l' h =>
  List.Perm.eq_of_pairwise (fun _ _ _ _ => Nat.le_antisymm) (sortedIter_sorted l) (sortedIter_sorted l')
    ((sortedIter_perm l).trans (h.trans (sortedIter_perm l').symm))

theorem canonSet_invariant : Invariant canonSet :=
  fun l l' h => congrArg dedupSorted (sortedIter_invariant l l' h)

theorem listenPorts_invariant (lookup : Nat → Option Nat) : Invariant (listenPorts lookup) :=
  fun _ _ h => canonSet_invariant _ _ (h.filterMap lookup)

theorem noEffect_invariant : Invariant noEffect := fun _ _ _ => rfl

theorem lengthOnly_invariant : Invariant lengthOnly :=
  fun _ _ h => congrArg (fun n => [n]) h.length_eq

theorem lookup_graph (f : Nat → Nat) (k : Nat) (l : List Nat) :
    (l.map fun x => (x, f x)).lookup k = if k ∈ l then some (f k) else none := by
  induction l with
  | nil => rfl
  | cons a t ih =>
    rw [List.map_cons, List.lookup_cons, ih]
    by_cases h : k = a
    · rw [h, beq_self_eq_true, if_pos (List.mem_cons_self ..)]
    · rw [beq_false_of_ne h]
      simp only [List.mem_cons, h, false_or]

theorem dictByKey_invariant (f : Nat → Nat) (keys : List Nat) : Invariant (dictByKey f keys) := by
  intro l l' h
  simp only [dictByKey, lookup_graph, h.mem_iff]

/-- A set that is always empty (`Application.groups`) gives every consumer the same input. -/
theorem empty_set_any_consumer {ι : Type} {ρ : Rho ι} (hv : ρ.Valid) (c : List Nat → List Nat) (k : Nat) :
    c (ρ.perm k []) = c [] := by
  rw [(hv.isPerm k []).eq_nil]

/-- A one-element set (`{'message'}`) likewise. -/
theorem singleton_set_any_consumer {ι : Type} {ρ : Rho ι} (hv : ρ.Valid) (c : List Nat → List Nat) (k a : Nat) :
    c (ρ.perm k [a]) = c [a] := by
  rw [List.perm_singleton.mp (hv.isPerm k [a])]

theorem not_invariant_of_swap {c : List Nat → List Nat} (a b : Nat) (h : c [a, b] ≠ c [b, a]) : ¬ Invariant c :=
  fun hi => h (hi _ _ (List.Perm.swap b a []))

theorem rawIter_not_invariant : ¬ Invariant rawIter := not_invariant_of_swap 1 2 (by decide)

end Primaite.Noninterf
