/-
C18 — what a tree of events does to loads and capacities, with the decision chain of `runEv` resolved.

Everything C18 states about `Model/Link.lean` is about two observations of a state, the load and the capacity of a wired link or
a wireless channel (`loadAt`, `capAt`), and about the records.  `Trace n n' rs` says how `runEv` / `runEvs` get from `n` to `n'`
leaving the records `rs`, in five rules that mention nothing else; `runEv_trace` is the one induction over the event tree, and
every property of the tree is an induction over `Trace`.
-/
import PrimaiteModel.Model.Link
import PrimaiteModel.Lemmas.ListFacts

namespace Primaite.Link

def loadAt (n : Net) : Bool → Nat → Nat
  | false, k => loadOf n k
  | true, c => cloadOf n c

def capAt (n : Net) : Bool → Nat → Nat
  | false, k => bwOf n k
  | true, c => capOf n c

theorem loadOf_eq (n : Net) (k : Nat) (l : Link) (hk : n.links[k]? = some l) : loadOf n k = l.load := by
  simp only [loadOf, hk]

theorem bwOf_eq (n : Net) (k : Nat) (l : Link) (hk : n.links[k]? = some l) : bwOf n k = l.bw := by
  simp only [bwOf, hk]

theorem cloadOf_eq (n : Net) (c : Nat) (ch : Chan) (hc : n.chans[c]? = some ch) : cloadOf n c = ch.load := by
  simp only [cloadOf, hc]

theorem capOf_eq (n : Net) (c : Nat) (ch : Chan) (hc : n.chans[c]? = some ch) : capOf n c = ch.cap := by
  simp only [capOf, hc]

theorem getElem?_set_of_some {α} (xs : List α) (k k' : Nat) (x y : α) (hk : xs[k]? = some x) :
    (xs.set k y)[k']? = if k' = k then some y else xs[k']? := by
  by_cases h : k' = k
  · subst h
    simp only [if_true, List.getElem?_set_self (List.getElem?_eq_some_iff.mp hk).1]
  · simp only [h, if_false, List.getElem?_set_ne (fun e => h e.symm)]

theorem loadOf_set (n : Net) (k k' : Nat) (l l' : Link) (hk : n.links[k]? = some l) :
    loadOf { n with links := n.links.set k l' } k' = if k' = k then l'.load else loadOf n k' := by
  simp only [loadOf, getElem?_set_of_some _ k k' l l' hk]
  by_cases h : k' = k <;> simp only [h, if_true, if_false]

theorem bwOf_set (n : Net) (k k' : Nat) (l l' : Link) (hk : n.links[k]? = some l) (hbw : l'.bw = l.bw) :
    bwOf { n with links := n.links.set k l' } k' = bwOf n k' := by
  simp only [bwOf, getElem?_set_of_some _ k k' l l' hk]
  by_cases h : k' = k
  · simp only [h, if_true, hk, hbw]
  · simp only [h, if_false]

theorem cloadOf_set (n : Net) (c c' : Nat) (ch ch' : Chan) (hc : n.chans[c]? = some ch) :
    cloadOf { n with chans := n.chans.set c ch' } c' = if c' = c then ch'.load else cloadOf n c' := by
  simp only [cloadOf, getElem?_set_of_some _ c c' ch ch' hc]
  by_cases h : c' = c <;> simp only [h, if_true, if_false]

theorem capOf_set (n : Net) (c c' : Nat) (ch ch' : Chan) (hc : n.chans[c]? = some ch) (hcap : ch'.cap = ch.cap) :
    capOf { n with chans := n.chans.set c ch' } c' = capOf n c' := by
  simp only [capOf, getElem?_set_of_some _ c c' ch ch' hc]
  by_cases h : c' = c
  · simp only [h, if_true, hc, hcap]
  · simp only [h, if_false]

theorem le_foldr_max (l : List Nat) (i x : Nat) (h : l[i]? = some x) : x ≤ l.foldr max 0 := by
  induction l generalizing i with
  | nil => cases h
  | cons a as ih =>
    cases i with
    | zero => cases h; exact Nat.le_max_left _ _
    | succ j => exact Nat.le_trans (ih j h) (Nat.le_max_right _ _)

theorem foldr_max_le (xs : List Nat) (C : Nat) (h : ∀ x ∈ xs, x ≤ C) : xs.foldr max 0 ≤ C := by
  induction xs with
  | nil => exact Nat.zero_le _
  | cons x xs ih => exact Nat.max_le.mpr ⟨h x (List.mem_cons_self ..), ih fun y hy => h y (List.mem_cons_of_mem _ hy)⟩

theorem caps_le_cap (ch : Chan) (i x : Nat) (h : ch.caps[i]? = some x) : x ≤ ch.cap := le_foldr_max ch.caps i x h

@[simp] theorem hearVerdict_crossed (b : Bool) : (hearVerdict b).crossed = false := by cases b <;> rfl

theorem hearVerdict_eq_heard (b : Bool) : hearVerdict b = .heard ↔ b = true := by cases b <;> decide

theorem Link.enR_of_isUp (l : Link) (fromA : Bool) (h : l.isUp = true) : (if fromA then l.enB else l.enA) = true := by
  have := Bool.and_eq_true_iff.mp h
  cases fromA
  · exact this.1
  · exact this.2

theorem Link.enS_of_isUp (l : Link) (fromA : Bool) (h : l.isUp = true) : (if fromA then l.enA else l.enB) = true := by
  have := Bool.and_eq_true_iff.mp h
  cases fromA
  · exact this.2
  · exact this.1

structure Reserves (n n' : Net) (w : Bool) (k s : Nat) : Prop where
  load : ∀ w' k', loadAt n' w' k' = loadAt n w' k' + if w = w' ∧ k = k' then s else 0
  cap : ∀ w' k', capAt n' w' k' = capAt n w' k'

structure Same (n n' : Net) : Prop where
  load : ∀ w k, loadAt n' w k = loadAt n w k
  cap : ∀ w k, capAt n' w k = capAt n w k

theorem Same.rfl {n : Net} : Same n n := ⟨fun _ _ => Eq.refl _, fun _ _ => Eq.refl _⟩

theorem Reserves.same {n n' : Net} {w : Bool} {k : Nat} (h : Reserves n n' w k 0) : Same n n' :=
  ⟨fun w' k' => by rw [h.load w' k', ite_self, Nat.add_zero], h.cap⟩

theorem reserves_set_link (n : Net) (k s : Nat) (l l' : Link) (hk : n.links[k]? = some l) (hbw : l'.bw = l.bw)
    (hload : l'.load = l.load + s) : Reserves n { n with links := n.links.set k l' } false k s := by
  refine ⟨fun w' k' => ?_, fun w' k' => ?_⟩
  · cases w' with
    | true => exact (Nat.add_zero _).symm
    | false =>
      show loadOf _ k' = loadOf n k' + _
      rw [loadOf_set n k k' l l' hk]
      by_cases h : k = k'
      · subst h; simp only [if_true, and_self, hload, loadOf_eq n k l hk]
      · rw [if_neg fun e => h e.symm, if_neg fun e => h e.2]; rfl
  · cases w' with
    | true => rfl
    | false => exact bwOf_set n k k' l l' hk hbw

theorem reserves_set_chan (n : Net) (c s : Nat) (ch ch' : Chan) (hc : n.chans[c]? = some ch) (hcap : ch'.cap = ch.cap)
    (hload : ch'.load = ch.load + s) : Reserves n { n with chans := n.chans.set c ch' } true c s := by
  refine ⟨fun w' c' => ?_, fun w' c' => ?_⟩
  · cases w' with
    | false => exact (Nat.add_zero _).symm
    | true =>
      show cloadOf _ c' = cloadOf n c' + _
      rw [cloadOf_set n c c' ch ch' hc]
      by_cases h : c = c'
      · subst h; simp only [if_true, and_self, hload, cloadOf_eq n c ch hc]
      · rw [if_neg fun e => h e.symm, if_neg fun e => h e.2]; rfl
  · cases w' with
    | false => rfl
    | true => exact capOf_set n c c' ch ch' hc hcap

structure Rec.Shows (r : Rec) (n : Net) : Prop where
  load : r.load = loadAt n r.wireless r.k
  bw : r.bw = capAt n r.wireless r.k

/-- What held in state `n`, when the frame of record `r` was handed to a receiving interface: both ends enabled, and the frame
fitted on top of the load of that moment under the capacity the admission test used (wireless: the capacity of the sender's
frequency name, at most that of the channel). -/
structure Rec.HandedOver (r : Rec) (n : Net) : Prop where
  crossed : r.verdict.crossed = true
  enS : r.enS = true
  enR : r.enR = true
  before : r.loadBefore = loadAt n r.wireless r.k
  fits : r.loadBefore + r.size ≤ r.capS
  capS : r.capS ≤ capAt n r.wireless r.k

/-- From `n`, events led to `n'` and left the records `rs`. -/
inductive Trace : Net → Net → List Rec → Prop
  /-- nothing was sent: an interface toggled, joined or left the airspace; the empty list of events -/
  | silent {n n' : Net} : Same n n' → Trace n n' []
  /-- something that did not cross: refused at the sender, no such link, one turn of the loop of `AirSpace.transmit` -/
  | quiet {n : Net} {r : Rec} : r.verdict.crossed = false → (r.verdict = .heard → r.enR = true) → r.Shows n → Trace n n [r]
  /-- handed over, refused by the far interface, reservation released -/
  | rejected {n n' : Net} {r : Rec} : r.HandedOver n → r.verdict.loaded = false → Same n n' → r.Shows n' → Trace n n' [r]
  /-- reserved, handed over, `rs` happened during the delivery; the size stays on the load -/
  | delivered {n n₁ n₂ : Net} {rs : List Rec} {r : Rec} : r.HandedOver n → r.verdict.loaded = true →
      Reserves n n₁ r.wireless r.k r.size → Trace n₁ n₂ rs → r.Shows n₂ → Trace n n₂ (rs ++ [r])
  | append {n n₁ n₂ : Net} {rs₁ rs₂ : List Rec} : Trace n n₁ rs₁ → Trace n₁ n₂ rs₂ → Trace n n₂ (rs₁ ++ rs₂)

theorem Trace.cap {n n' : Net} {rs : List Rec} (t : Trace n n' rs) (w : Bool) (k : Nat) : capAt n' w k = capAt n w k := by
  induction t with
  | silent hs => exact hs.cap w k
  | quiet => rfl
  | rejected _ _ hs => exact hs.cap w k
  | delivered _ _ hres _ _ ih => rw [ih, hres.cap]
  | append _ _ ih1 ih2 => rw [ih2, ih1]

/-- One test of the decision chain of a `send_frame` (`if not …: refuse`). -/
theorem Trace.ifNot {n : Net} {b : Bool} {x y : Net × List Rec} (hx : Trace n x.1 x.2) (hy : b = true → Trace n y.1 y.2) :
    Trace n (if (!b) = true then x else y).1 (if (!b) = true then x else y).2 := by
  cases b
  · exact hx
  · exact hy rfl

mutual
theorem runEv_trace (n : Net) (e : Ev) : Trace n (runEv n e).1 (runEv n e).2 := by
  cases e with
  | send k fromA s acc nested =>
    unfold runEv
    cases hk : n.links[k]? with
    | none => exact .quiet rfl nofun ⟨by simp only [loadAt, loadOf, hk], by simp only [capAt, bwOf, hk]⟩
    | some l =>
      have hl := (loadOf_eq n k l hk).symm
      have hb := (bwOf_eq n k l hk).symm
      simp only []
      refine .ifNot (.quiet rfl nofun ⟨hl, hb⟩) fun h1 => .ifNot (.quiet rfl nofun ⟨hl, hb⟩) fun h2 =>
        .ifNot (.quiet rfl nofun ⟨hl, hb⟩) fun h3 => ?_
      have ho : ∀ v lo b, v.crossed = true → Rec.HandedOver
          { wireless := false, k, verdict := v, enS := if fromA then l.enA else l.enB, enR := if fromA then l.enB else l.enA,
            rcv := [], size := s, loadBefore := l.load, load := lo, bw := b, capS := l.bw } n :=
        fun v lo b hv => ⟨hv, h1, l.enR_of_isUp fromA h2, hl, of_decide_eq_true h3, Nat.le_of_eq hb⟩
      cases acc with
      | true =>
        simp only [if_true]
        exact .delivered (ho _ _ _ rfl) rfl (reserves_set_link n k s l { l with load := l.load + s } hk rfl rfl)
          (runEvs_trace _ nested) ⟨rfl, rfl⟩
      | false =>
        simp only [Bool.false_eq_true, if_false]
        exact .rejected (ho _ _ _ rfl) rfl
          (reserves_set_link n k 0 l { l with load := l.load + s - s } hk rfl (Nat.add_sub_cancel ..)).same ⟨rfl, rfl⟩
  | lost k fromA s nested =>
    unfold runEv
    cases hk : n.links[k]? with
    | none => exact .quiet rfl nofun ⟨by simp only [loadAt, loadOf, hk], by simp only [capAt, bwOf, hk]⟩
    | some l =>
      have hl := (loadOf_eq n k l hk).symm
      have hb := (bwOf_eq n k l hk).symm
      simp only []
      exact .ifNot (.quiet rfl nofun ⟨hl, hb⟩) fun h1 => .ifNot (.quiet rfl nofun ⟨hl, hb⟩) fun h2 =>
        .ifNot (.quiet rfl nofun ⟨hl, hb⟩) fun h3 =>
        .delivered ⟨rfl, h1, l.enR_of_isUp fromA h2, hl, of_decide_eq_true h3, Nat.le_of_eq hb⟩ rfl
          (reserves_set_link n k s l { l with load := l.load + s } hk rfl rfl) (runEvs_trace _ nested) ⟨rfl, rfl⟩
  | wsend c i s nested | wlost c i s nested =>
    unfold runEv
    cases hc : n.chans[c]? with
    | none => exact .quiet rfl nofun ⟨by simp only [loadAt, cloadOf, hc], by simp only [capAt, capOf, hc]⟩
    | some ch =>
      have hl := (cloadOf_eq n c ch hc).symm
      have hb := (capOf_eq n c ch hc).symm
      simp only []
      cases hi : ch.en[i]? with
      | none => exact .quiet rfl nofun ⟨hl, hb⟩
      | some enS =>
        cases hcI : ch.caps[i]? with
        | none => exact .quiet rfl nofun ⟨hl, hb⟩
        | some capI =>
          simp only []
          exact .ifNot (.quiet rfl nofun ⟨hl, hb⟩) fun h1 => .ifNot (.quiet rfl nofun ⟨hl, hb⟩) fun h3 =>
            .delivered ⟨rfl, h1, rfl, hl, of_decide_eq_true h3, Nat.le_trans (caps_le_cap ch i capI hcI) (Nat.le_of_eq hb)⟩ rfl
              (reserves_set_chan n c s ch { ch with load := ch.load + s } hc rfl rfl) (runEvs_trace _ nested) ⟨rfl, rfl⟩
  | wrecv c i j =>
    unfold runEv
    cases hc : n.chans[c]? with
    | none => exact .quiet rfl nofun ⟨by simp only [loadAt, cloadOf, hc], by simp only [capAt, capOf, hc]⟩
    | some ch => exact .quiet (hearVerdict_crossed _) (hearVerdict_eq_heard _).mp ⟨(cloadOf_eq n c ch hc).symm, (capOf_eq n c ch hc).symm⟩
  | setEn k endA v =>
    unfold runEv
    cases hk : n.links[k]? with
    | none => exact .silent .rfl
    | some l =>
      simp only []
      by_cases hcur : ((if endA then l.enA else l.enB) == v) = true
      · simp only [hcur, if_true]
        exact .silent .rfl
      · simp only [hcur, Bool.false_eq_true, if_false]
        refine .silent (reserves_set_link n k 0 l _ hk ?_ ?_).same <;> cases endA <;> rfl
  | wsetEn c i _ | wjoin c i | wleave c i =>
    unfold runEv
    cases hc : n.chans[c]? with
    | none => exact .silent .rfl
    | some ch =>
      refine .silent (Reserves.same (reserves_set_chan n c 0 ch _ hc ?_ ?_))
      · rfl
      · rfl

theorem runEvs_trace (n : Net) (es : List Ev) : Trace n (runEvs n es).1 (runEvs n es).2 := by
  cases es with
  | nil => exact .silent .rfl
  | cons e es =>
    unfold runEvs
    exact .append (runEv_trace n e) (runEvs_trace _ es)
end

end Primaite.Link
