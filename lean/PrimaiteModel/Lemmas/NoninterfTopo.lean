/-
C03, reward-sharing graph site: the dependency sets of the reward-sharing graph are Python `set`s of agent names, so the
order in which `topological_sort` visits an agent's neighbours — and with it the evaluation order of the rewards — may
differ between processes.  Lemma: EVERY duplicate-free dependencies-first order over the same agents computes the same
reward table.  (That `topological_sort` returns such an order for every neighbour order is C10's theorem.)
-/
import PrimaiteModel.Model.Noninterf

namespace Primaite.Noninterf

def DepsFirstFrom (g : Graph) (done l : List Nat) : Prop :=
  ∀ l₁ u l₂, l = l₁ ++ u :: l₂ → ∀ v ∈ nbrs g u, v ∈ done ∨ v ∈ l₁

theorem DepsFirstFrom.head {g : Graph} {done t : List Nat} {a : Nat} (h : DepsFirstFrom g done (a :: t)) :
    ∀ v ∈ nbrs g a, v ∈ done := by
  intro v hv
  rcases h [] a t rfl v hv with h | h
  · exact h
  · simp at h

theorem DepsFirstFrom.tail {g : Graph} {done t : List Nat} {a : Nat} (h : DepsFirstFrom g done (a :: t)) :
    DepsFirstFrom g (a :: done) t := by
  intro l₁ u l₂ e v hv
  rcases h (a :: l₁) u l₂ (by simp [e]) v hv with h | h
  · exact .inl (List.mem_cons_of_mem _ h)
  · rcases List.mem_cons.mp h with rfl | h
    · exact .inl (by simp)
    · exact .inr h

theorem evalRewards_cons (g : Graph) (own : Nat → Int) (a : Nat) (t : List Nat) (cur : Nat → Int) :
    evalRewards g own (a :: t) cur =
      evalRewards g own t fun x => if x = a then own a + ((nbrs g a).map cur).sum else cur x := rfl

theorem evalRewards_spec (g : Graph) (own : Nat → Int) :
    ∀ (l done : List Nat) (cur : Nat → Int), (∀ a ∈ l, a ∉ done) → l.Nodup → DepsFirstFrom g done l →
      (∀ x, x ∉ l → evalRewards g own l cur x = cur x) ∧
      (∀ a ∈ l, evalRewards g own l cur a = own a + ((nbrs g a).map (evalRewards g own l cur)).sum) := by
  intro l done cur hd hn hdf
  induction l generalizing done cur with
  | nil => exact ⟨fun _ _ => rfl, nofun⟩
  | cons a t ih =>
    rw [List.nodup_cons] at hn
    obtain ⟨ih1, ih2⟩ := ih (a :: done) (fun x => if x = a then own a + ((nbrs g a).map cur).sum else cur x)
      (fun b hb hmem => (List.mem_cons.mp hmem).elim (fun e => hn.1 (e ▸ hb)) (hd b (List.mem_cons_of_mem _ hb)))
      hn.2 hdf.tail
    rw [evalRewards_cons]
    have h1 : ∀ x, x ∉ a :: t → evalRewards g own t (fun x => if x = a then own a + ((nbrs g a).map cur).sum else cur x) x = cur x :=
      fun x hx => (ih1 x fun h => hx (.tail _ h)).trans (if_neg fun e : x = a => hx (e ▸ .head _))
    refine ⟨h1, fun b hb => ?_⟩
    rcases List.mem_cons.mp hb with rfl | hb
    -- the dependencies of the head are in `done`, hence outside the order: they keep the values the head was computed from
    · rw [ih1 b hn.1, if_pos rfl]
      exact congrArg (own b + ·) (congrArg List.sum
        (List.map_congr_left fun d hdm => (h1 d fun h => hd d h (hdf.head d hdm)).symm))
    · exact ih2 b hb

theorem equations_unique (g : Graph) (own : Nat → Int) (T₁ T₂ : Nat → Int) :
    ∀ (l done : List Nat), DepsFirstFrom g done l → (∀ x ∈ done, T₁ x = T₂ x) →
      (∀ a ∈ l, T₁ a = own a + ((nbrs g a).map T₁).sum) → (∀ a ∈ l, T₂ a = own a + ((nbrs g a).map T₂).sum) →
      ∀ a ∈ l, T₁ a = T₂ a := by
  intro l done hdf hdone h1 h2
  induction l generalizing done with
  | nil => nofun
  | cons b t ih =>
    have hb : T₁ b = T₂ b := by
      rw [h1 b (List.mem_cons_self ..), h2 b (List.mem_cons_self ..)]
      exact congrArg (own b + ·) (congrArg List.sum (List.map_congr_left fun d hd => hdone d (hdf.head d hd)))
    have ih' := ih (b :: done) hdf.tail (fun x hx => (List.mem_cons.mp hx).elim (· ▸ hb) (hdone x))
      (fun a ha => h1 a (List.mem_cons_of_mem _ ha)) (fun a ha => h2 a (List.mem_cons_of_mem _ ha))
    exact fun a ha => (List.mem_cons.mp ha).elim (· ▸ hb) (ih' a)

theorem evalRewards_order_indep (g : Graph) (own cur : Nat → Int) (l₁ l₂ : List Nat)
    (hn₁ : l₁.Nodup) (hn₂ : l₂.Nodup) (hp : l₁.Perm l₂)
    (hd₁ : DepsFirstFrom g [] l₁) (hd₂ : DepsFirstFrom g [] l₂) :
    evalRewards g own l₁ cur = evalRewards g own l₂ cur := by
  obtain ⟨a1, a2⟩ := evalRewards_spec g own l₁ [] cur (by simp) hn₁ hd₁
  obtain ⟨b1, b2⟩ := evalRewards_spec g own l₂ [] cur (by simp) hn₂ hd₂
  funext x
  by_cases hx : x ∈ l₁
  · exact equations_unique g own _ _ l₁ [] hd₁ (by simp) a2 (fun a ha => b2 a ((hp.mem_iff).mp ha)) x hx
  · rw [a1 x hx, b1 x (fun h => hx ((hp.mem_iff).mpr h))]

end Primaite.Noninterf
