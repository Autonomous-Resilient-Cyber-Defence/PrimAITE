/-
What an operation of the file system can do to the two folder dictionaries, as a relation: `Change`, over `Folder.Change`
(`FileSystemFolder.lean`) for what a folder's own methods do to it.  Every request, tick and API call other than `move_file` is a
chain of these few effects (`change_step`, `change_stepApi`; the loader: `change_loadConfig` in `Props/C15Loader.lean`); `Inv` and
`Keeps` are preserved by every effect (`Change.inv`, `Change.keeps`), and so is `XDisj` (`Change.xdisj` in `FileSystemDisjoint.lean`).
`move_file` takes a file uuid out of a folder and is no such chain: its cases (`apiMoveFile_cases`) and `Inv` after it (`inv_apiMoveFile`).
-/
import PrimaiteModel.Lemmas.FileSystemAnswers
import PrimaiteModel.Lemmas.FileSystemApi
namespace Primaite.FileSystem

/-- What an operation does to the file system: its live folders change in place (`live`); a file with the next fresh uuid enters
a live folder `g`, after a change `g → g1` of that folder (a forced `add_file` moves a live namesake to `deleted_files` first) that
leaves no live file of its name (`newFile`); a folder with the next fresh uuid and no files is registered under a name no live folder
has (`newFolder`); a live folder other than root is emptied into its `deleted_files` and moved to `deleted_folders` (`folderOut`); the
folder `get_folder(name, include_deleted=True)` finds is made live (`folderIn`). Counters and default durations are free. -/
inductive Change : State → State → Prop
  | live {s s' : State} (t : Folder → Folder) (hf : s'.folders = s.folders.map t) (hd : s'.deletedFolders = s.deletedFolders)
      (hr : s'.folderRoutes = s.folderRoutes) (hn : s.next ≤ s'.next) (ht : ∀ g ∈ s.folders, Folder.Change g (t g)) : Change s s'
  | newFile {s s' : State} {g g1 : Folder} (hg : g ∈ s.folders) (hc : Folder.Change g g1) (f : File) (hid : f.id = s.next)
      (hname : ∀ a ∈ g1.files, a.name ≠ f.name) (hdel : f.deleted = false) (t : Folder → Folder) (ht : t g = g1.addFile f)
      (hf : s'.folders = (updFolder s g.id t).folders) (hd : s'.deletedFolders = (updFolder s g.id t).deletedFolders)
      (hr : s'.folderRoutes = s.folderRoutes) (hn : s'.next = s.next + 1) : Change s s'
  | newFolder {s s' : State} (g : Folder) (hid : g.id = s.next) (hname : ∀ a ∈ s.folders, a.name ≠ g.name)
      (hdel : g.deleted = false) (hfiles : g.files = []) (hdfiles : g.deletedFiles = [])
      (hf : s'.folders = dictSet Folder.id s.folders g) (hd : s'.deletedFolders = s.deletedFolders)
      (hr : s'.folderRoutes = (g.name, g.id) :: s.folderRoutes) (hn : s'.next = s.next + 1) : Change s s'
  | folderOut {s s' : State} {g : Folder} (hg : g ∈ s.folders) (hroot : g.name ≠ "root")
      (hf : s'.folders = dictPop Folder.id s.folders g.id)
      (hd : s'.deletedFolders = dictSet Folder.id s.deletedFolders { g with deleted := true }.removeAllFiles)
      (hr : s'.folderRoutes = s.folderRoutes) (hn : s'.next = s.next) : Change s s'
  | folderIn {s s' : State} {g : Folder} (hg : g ∈ s.folders ∨ (g ∈ s.deletedFolders ∧ ∀ a ∈ s.folders, a.name ≠ g.name))
      (hf : s'.folders = dictSet Folder.id s.folders g.restore) (hd : s'.deletedFolders = dictPop Folder.id s.deletedFolders g.id)
      (hr : s'.folderRoutes = (g.name, g.id) :: s.folderRoutes) (hn : s'.next = s.next) : Change s s'
  | trans {a b c : State} : Change a b → Change b c → Change a c

theorem Change.same {s s' : State} (hf : s'.folders = s.folders) (hd : s'.deletedFolders = s.deletedFolders)
    (hr : s'.folderRoutes = s.folderRoutes) (hn : s.next ≤ s'.next) : Change s s' :=
  .live id (by simp [hf]) hd hr hn (fun g _ => .refl g)

theorem Change.refl (s : State) : Change s s := .same rfl rfl rfl (Nat.le_refl _)

theorem Change.upd {s s' : State} (h : Inv s) {g : Folder} (hg : g ∈ s.folders) (t : Folder → Folder)
    (ht : Folder.Change g (t g)) (hf : s'.folders = (updFolder s g.id t).folders)
    (hd : s'.deletedFolders = (updFolder s g.id t).deletedFolders) (hr : s'.folderRoutes = s.folderRoutes)
    (hn : s.next ≤ s'.next) : Change s s' := by
  refine .live (fun y => if y.id == g.id then t y else y) hf (hd.trans ?_) hr hn ?_
  · exact map_eq_self (fun y hy => by simp [show y.id ≠ g.id from fun e => h.disjoint g hg y hy e.symm])
  · intro y hy
    by_cases hk : y.id = g.id
    · rw [eq_of_nodup_map Folder.id h.liveIds hy hg hk]; simpa using ht
    · simpa [hk] using Folder.Change.refl y

theorem Change.inv {s s' : State} (c : Change s s') : Inv s → Inv s' := by
  induction c with
  | trans _ _ ih1 ih2 => exact ih2 ∘ ih1
  | live t hf hd hr hn ht =>
    intro h
    refine inv_of_maps h t id hf (by simp [hd]) hr hn (fun g hg => ?_) (fun g hg => ?_)
    · have gi := h.folder g (Or.inl hg)
      have c := ht g hg
      exact ⟨c.id, c.name, c.flag (h.liveFlag g hg), c.inv gi.1, c.sub.below (gi.2.1.mono hn)⟩
    · have gi := h.folder g (Or.inr hg)
      exact ⟨rfl, h.delFlag g hg, gi.1, gi.2.1.mono hn⟩
  | @newFile s s' g g1 hg hc f hid hname hdel t ht hf hd hr hn =>
    intro h
    have gi := h.folder g (Or.inl hg)
    have hb := hc.sub.below gi.2.1
    refine inv_updLive h hg t hf hd hr (by omega)
      (ht ▸ ⟨hc.id, hc.name, (hc.flag (h.liveFlag g hg)).trans (h.liveFlag g hg).symm, ?_, ?_⟩)
    · exact folderInv_addFile_new (hc.inv gi.1) (fun a ha => hid ▸ Nat.ne_of_lt (hb a ha)) hname hdel
    · exact folderBelow_addFile (hb.mono (by omega)) (by omega)
  | @newFolder s s' g hid hname hdel hfiles hdfiles hf hd hr hn =>
    intro h
    have hfresh : ∀ a, a ∈ s.folders ∨ a ∈ s.deletedFolders → a.id ≠ g.id :=
      fun a ha => hid ▸ Nat.ne_of_lt (h.folder a ha).2.2
    refine inv_setLive h hdel ⟨by constructor <;> simp [hfiles, hdfiles], fun b hb => ?_, by omega⟩ (fun a ha _ => hname a ha)
      (fun a ha e => absurd e (hfresh a (Or.inl ha))) hf (fun b hb => ?_) (hd ▸ h.delIds) hr (by omega)
    · rw [hfiles, hdfiles] at hb; simp at hb
    · rw [hd] at hb; exact ⟨hb, hfresh b (Or.inr hb)⟩
  | @folderOut s s' g hg hroot hf hd hr hn =>
    intro h
    have gi := h.folder g (Or.inl hg)
    obtain ⟨_, hdicts, r, hr', hrn⟩ := (inv_iff s).mp h
    have d : DictsInv Folder.id Folder.name Folder.deleted s'.folders s'.deletedFolders s'.folderRoutes := by
      rw [hf, hd, hr]; exact hdicts.toDeleted (x := { g with deleted := true }.removeAllFiles) rfl
    refine (inv_iff _).mpr ⟨fun a ha => ?_, d, r, hf ▸ (mem_dictPop Folder.id).mpr ⟨hr', fun e => ?_⟩, hrn⟩
    · rw [hf, hd] at ha; rw [hn]
      rcases ha with ha | ha
      · exact h.folder a (Or.inl ((mem_dictPop Folder.id).mp ha).1)
      · rcases (mem_dictSet Folder.id).mp ha with rfl | ⟨ha, _⟩
        · exact ⟨(removeAllFiles_flagged g).1 gi.1, (removeAllFiles_flagged g).2.1.below gi.2.1, gi.2.2⟩
        · exact h.folder a (Or.inr ha)
    · exact hroot ((eq_of_nodup_map Folder.id h.liveIds hr' hg e) ▸ hrn)
  | @folderIn s s' g hg hf hd hr hn =>
    intro h
    have gi := h.folder g (hg.imp id (fun x => x.1))
    refine inv_setLive h (x := g.restore) rfl (hn ▸ ⟨gi.1.congr rfl rfl rfl, gi.2.1.congr rfl rfl, gi.2.2⟩)
      (fun a ha hne hn' => ?_) (fun a ha e => ?_) hf (fun b hb => (mem_dictPop Folder.id).mp (hd ▸ hb))
      (hd ▸ nodup_dictPop _ h.delIds) hr (Nat.le_of_eq hn.symm)
    · rcases hg with hl | ⟨_, hno⟩
      · exact hne (h.uniqueNames a ha g hl hn')
      · exact hno a ha hn'
    · rcases hg with hl | ⟨hd', _⟩
      · rw [eq_of_nodup_map Folder.id h.liveIds ha hl e]; rfl
      · exact absurd e (h.disjoint a ha g hd')

theorem Change.keeps {s s' : State} (c : Change s s') : Inv s → Keeps s s' := by
  induction c with
  | trans c1 _ ih1 ih2 => exact fun h => (ih1 h).trans (ih2 (c1.inv h))
  | live t hf hd _ _ ht =>
    intro _ g hg
    rcases hg with hl | hdel
    · exact ⟨t g, Or.inl (hf ▸ List.mem_map.mpr ⟨g, hl, rfl⟩), (ht g hl).id, (ht g hl).keeps⟩
    · exact ⟨g, Or.inr (hd ▸ hdel), rfl, .refl g⟩
  | @newFile s s' g g1 hg hc f _ _ _ t ht hf hd _ _ =>
    refine fun h => keeps_updFolder g.id t hf hd (fun g0 hg0 hid0 => ?_)
    rw [folder_eq_of_id h hg hg0 hid0, ht]
    exact ⟨hc.id, hc.keeps.trans (folderKeeps_addFile g1 f)⟩
  | @newFolder s s' g hid _ _ _ _ hf hd _ _ =>
    intro h a ha
    rcases ha with hl | hdel
    · exact ⟨a, Or.inl (hf ▸ (mem_dictSet Folder.id).mpr (Or.inr ⟨hl, hid ▸ Nat.ne_of_lt (h.folder a (Or.inl hl)).2.2⟩)),
        rfl, .refl a⟩
    · exact ⟨a, Or.inr (hd ▸ hdel), rfl, .refl a⟩
  | @folderOut s s' g hg _ hf hd _ _ =>
    intro h a ha
    rcases ha with hl | hdel
    · by_cases hk : a.id = g.id
      · cases eq_of_nodup_map Folder.id h.liveIds hl hg hk
        exact ⟨{ g with deleted := true }.removeAllFiles, Or.inr (hd ▸ (mem_dictSet Folder.id).mpr (Or.inl rfl)), rfl,
          (removeAllFiles_flagged g).2.2⟩
      · exact ⟨a, Or.inl (hf ▸ (mem_dictPop Folder.id).mpr ⟨hl, hk⟩), rfl, .refl a⟩
    · exact ⟨a, Or.inr (hd ▸ (mem_dictSet Folder.id).mpr (Or.inr ⟨hdel, fun e => h.disjoint g hg a hdel e.symm⟩)), rfl, .refl a⟩
  | @folderIn s s' g hg hf hd _ _ =>
    intro h a ha
    by_cases hk : a.id = g.id
    · have : a = g := by
        rcases hg with hl | ⟨hdel, _⟩
        · exact folder_eq_of_id h hl ha hk
        · rcases ha with ha | ha
          · exact absurd hk (h.disjoint a ha g hdel)
          · exact eq_of_nodup_map Folder.id h.delIds ha hdel hk
      cases this
      exact ⟨g.restore, Or.inl (hf ▸ (mem_dictSet Folder.id).mpr (Or.inl rfl)), rfl, .of_eq rfl rfl⟩
    · rcases ha with hl | hdel
      · exact ⟨a, Or.inl (hf ▸ (mem_dictSet Folder.id).mpr (Or.inr ⟨hl, hk⟩)), rfl, .refl a⟩
      · exact ⟨a, Or.inr (hd ▸ (mem_dictPop Folder.id).mpr ⟨hdel, hk⟩), rfl, .refl a⟩

theorem change_createFolder {s : State} (h : Inv s) (n : Name) : Change s (createFolder s n).1 := by
  rw [createFolder_eq]
  cases hg : getFolder s n with
  | some g =>
    obtain ⟨hgm, _⟩ := getFolder_live hg
    obtain ⟨f1, f2, f3, f4, f5, f6, _⟩ := setDur_fields s g
    refine .upd h hgm (fun _ => setDur s g) (.attrs f1 f2 f3.trans f4 f5 f6) ?_ ?_ rfl (Nat.le_refl _)
    · show dictSet Folder.id s.folders (setDur s g) = _
      unfold dictSet updFolder
      rw [if_pos (List.any_eq_true.mpr ⟨g, hgm, by rw [f1]; exact beq_self_eq_true g.id⟩), f1]
    · exact (map_replace_absent Folder.id (fun y hy e => h.disjoint g hgm y hy e.symm)).symm
  | none =>
    obtain ⟨f1, f2, f3, f4, f5, _⟩ := setDur_fields s { id := s.next, name := n }
    exact .newFolder (setDur s { id := s.next, name := n }) f1 (fun a ha e => getFolder_none hg a ha (e.trans f2)) f3 f4 f5
      rfl rfl (by rw [f1, f2]) rfl

theorem change_createFileTarget {s : State} (h : Inv s) (F : Name) : Change s (createFileTarget s F).1 := by
  unfold createFileTarget
  split
  · cases getFolder s F with
    | some g => exact .refl s
    | none => exact change_createFolder h F
  · exact .refl s

theorem change_createFileIn {s1 : State} (h : Inv s1) {g : Folder} (hg : g ∈ s1.folders) (x : Name) :
    Change s1 (createFileIn s1 g x).1 := by
  unfold createFileIn
  cases hf : g.getFile x with
  | some f => exact .upd h hg (fun g => g.addFile f) (.readd g (getFile_live hf).1) rfl rfl rfl (Nat.le_refl _)
  | none => exact .newFile hg (.refl g) { id := s1.next, name := x } rfl (getFile_none hf) rfl _ rfl rfl rfl rfl rfl

/-- The two stages of `create_file`, whoever refuses in between (the request, the direct call, the loader). -/
theorem change_createFileStages {s : State} (h : Inv s) (F x : Name) :
    Change s (createFileTarget s F).1 ∧
    ∀ g, (createFileTarget s F).2 = some g → Change s (createFileIn (createFileTarget s F).1 g x).1 :=
  have ct := change_createFileTarget h F
  ⟨ct, fun g hg => ct.trans (change_createFileIn (ct.inv h) (createFileTarget_mem s F g hg) x)⟩

theorem change_createFile {s : State} (h : Inv s) (F x : Name) (force : Bool) : Change s (createFile s F x force).1 := by
  unfold createFile
  by_cases hc : (!force && (getFile s (if F = "" then "root" else F) x).isSome) = true
  · rw [if_pos hc]; exact .refl s
  · rw [if_neg hc]
    have cs := change_createFileStages h F x
    rcases hT : createFileTarget s F with ⟨s1, _ | g⟩ <;> rw [hT] at cs
    · exact cs.1
    · exact cs.2 g rfl

theorem change_deleteFile {s : State} (h : Inv s) (F x : Name) : Change s (deleteFile s F x).1 := by
  unfold deleteFile
  split
  · exact .refl s
  · cases hg : getFolder s F with
    | none => exact .refl s
    | some g =>
      simp only
      cases g.getFile x with
      | none => exact .refl s
      | some f => exact .upd h (getFolder_live hg).1 (fun g => g.removeFile f) (.removeFile g f) rfl rfl rfl (Nat.le_refl _)

theorem change_deleteFolder (s : State) (F : Name) : Change s (deleteFolder s F).1 := by
  unfold deleteFolder
  cases hg : getFolder s F with
  | none => exact .refl s
  | some g =>
    simp only
    split
    · exact .refl s
    · rename_i hroot
      obtain ⟨hgm, hgn⟩ := getFolder_live hg
      exact .folderOut hgm (hgn ▸ hroot) rfl rfl rfl rfl

theorem change_restoreFolder (s : State) (F : Name) : Change s (restoreFolder s F).1 := by
  unfold restoreFolder
  cases hg : getFolder s F true with
  | none => exact .refl s
  | some g =>
    simp only
    obtain ⟨hgn, hcase⟩ := getFolder_incl hg
    exact .folderIn (hcase.imp id (fun hd => ⟨hd.1, hgn ▸ hd.2⟩)) rfl rfl rfl rfl

theorem change_restoreFile {s : State} (h : Inv s) (F x : Name) : Change s (restoreFile s F x).1 := by
  unfold restoreFile
  cases hg : getFolder s F with
  | none => exact .refl s
  | some g =>
    simp only
    cases g.getFile x true with
    | none => exact .refl s
    | some _ =>
      exact .upd h (getFolder_live hg).1 (fun g => (g.restoreFile x).1) (.restoreFile g x) rfl rfl rfl (Nat.le_refl _)

theorem change_viaFolder {s : State} (h : Inv s) (F : Name) (k : Folder → Option (Folder × Out))
    (hk : ∀ g g' o, g ∈ s.folders → k g = some (g', o) → Folder.Change g g') : Change s (viaFolder s F k).1 := by
  rcases viaFolder_out h F k with ⟨_, e⟩ | ⟨g, hgm, _, ⟨_, e⟩ | ⟨g', o, hkg, e⟩⟩ <;> rw [e]
  · exact .refl s
  · exact .refl s
  · exact .upd h hgm (fun _ => g') (hk g g' o hgm hkg) rfl rfl rfl (Nat.le_refl _)

theorem change_step {s : State} (h : Inv s) (op : Op) : Change s (step s op).1 := by
  cases op with
  | createFile F x force => exact change_createFile h F x force
  | createFolder F => exact change_createFolder h F
  | deleteFile F x => exact change_deleteFile h F x
  | deleteFolder F => exact change_deleteFolder s F
  | restoreFile F x => exact change_restoreFile h F x
  | restoreFolder F => exact change_restoreFolder s F
  | access F x => exact .refl s
  | folderVerb F v =>
    refine change_viaFolder h F _ (fun g g' o _ hk => ?_)
    rcases folderVerb_cont hk with rfl | rfl
    · exact .refl _
    · exact .attrs rfl rfl (fun _ => rfl) rfl rfl rfl
  | folderDelete F x =>
    refine change_viaFolder h F _ (fun g g' o _ hk => ?_)
    rcases removeFileByName_spec (g := g) (n := x) with ⟨f, _, _, he⟩ | ⟨_, he⟩
    · rw [he] at hk; cases hk; exact .removeFile g f
    · rw [he] at hk; cases hk; exact .refl g
  | fileVerb F x v =>
    refine change_viaFolder h F _ (fun g g' o hgm hk => ?_)
    have e := fileRequest_state (h.folder g (Or.inl hgm)).1 x v
    rw [Option.some.inj hk] at e
    obtain rfl : g' = g := e
    exact .refl g'
  | fsFileVerb F x v => simp only [step]; rw [fsFileVerb_state h]; exact .refl s
  | preTick => exact .same rfl rfl rfl (Nat.le_refl _)
  | tick => exact .live Folder.restoringTimestep rfl rfl rfl (Nat.le_refl _) (fun g _ => .restoringTimestep g)

/-- A forced `add_file` of a file with the next fresh uuid: a live namesake goes to `deleted_files` first. -/
theorem change_addFileForced {s s' : State} (h : Inv s) {g : Folder} (hg : g ∈ s.folders) (f : File) (hid : f.id = s.next)
    (hdel : f.deleted = false) (hf : s'.folders = (updFolder s g.id (fun g => g.addFileForced f)).folders)
    (hd : s'.deletedFolders = (updFolder s g.id (fun g => g.addFileForced f)).deletedFolders)
    (hr : s'.folderRoutes = s.folderRoutes) (hn : s'.next = s.next + 1) : Change s s' := by
  have gi := h.folder g (Or.inl hg)
  cases hgf : g.getFile f.name with
  | none => exact .newFile hg (.refl g) f hid (getFile_none hgf) hdel _ (addFileForced_new hgf) hf hd hr hn
  | some e =>
    obtain ⟨hem, hen⟩ := getFile_live hgf
    refine .newFile hg (.removeFile g e) f hid (fun a ha hn' => ?_) hdel _ ?_ hf hd hr hn
    · unfold Folder.removeFile at ha
      rw [if_pos (List.any_eq_true.mpr ⟨e, hem, beq_self_eq_true e.id⟩)] at ha
      obtain ⟨ha, hane⟩ := (mem_dictPop File.id).mp ha
      exact hane (gi.1.uniqueNames a ha e hem (hn'.trans hen.symm))
    · unfold Folder.addFileForced
      simp only [hgf]
      rw [if_pos (bne_iff_ne.mpr (hid ▸ Nat.ne_of_lt (gi.2.1 e (Or.inl hem))))]

theorem change_getOrCreateFolder {s : State} (h : Inv s) (G : Name) : Change s (getOrCreateFolder s G).1 := by
  unfold getOrCreateFolder
  split
  · exact .refl s
  · exact change_createFolder h G

theorem getOrCreateFolder_spec {s : State} (h : Inv s) (G : Name) :
    Inv (getOrCreateFolder s G).1 ∧ (getOrCreateFolder s G).2 ∈ (getOrCreateFolder s G).1.folders ∧
    (getOrCreateFolder s G).2.name = G ∧ s.next ≤ (getOrCreateFolder s G).1.next := by
  refine ⟨(change_getOrCreateFolder h G).inv h, ?_⟩
  unfold getOrCreateFolder
  cases hg : getFolder s G with
  | some g => exact ⟨(getFolder_live hg).1, (getFolder_live hg).2, Nat.le_refl _⟩
  | none => exact createFolder_mem s G

/-- Every API call except `move_file` (which takes a file uuid out of a folder). -/
theorem change_stepApi {s : State} (h : Inv s) (op : ApiOp) (hm : ∀ F x G, op ≠ .moveFile F x G) :
    Change s (stepApi s op).1 := by
  cases op with
  | moveFile F x G => exact absurd rfl (hm F x G)
  | createFile F x force =>
    simp only [stepApi, apiCreateFile]
    have cs := change_createFileStages h F x
    rcases hT : createFileTarget s F with ⟨s1, _ | g⟩ <;> rw [hT] at cs
    · exact cs.1
    · simp only
      split
      · exact cs.1
      · exact cs.2 g rfl
  | copyFile F x G =>
    simp only [stepApi, apiCopyFile]
    cases hf : getFile s F x with
    | none => exact .refl s
    | some f =>
      have hfl : f.deleted = false := by
        unfold getFile at hf
        cases hg : getFolder s F with
        | none => rw [hg] at hf; simp at hf
        | some g0 =>
          rw [hg] at hf
          exact (h.folder g0 (Or.inl (getFolder_live hg).1)).1.liveFlag f (getFile_live hf).1
      have c1 := change_getOrCreateFolder h G
      exact c1.trans (change_addFileForced (c1.inv h) (getOrCreateFolder_spec h G).2.1 { f with id := _ } rfl hfl rfl rfl rfl rfl)
  | addFile F x force =>
    simp only [stepApi, apiAddFile]
    cases hg : getFolder s F with
    | none => exact .refl s
    | some g =>
      simp only
      split
      · exact .refl s
      · exact change_addFileForced h (getFolder_live hg).1 { id := s.next, name := x } rfl rfl rfl rfl rfl rfl
  | deleteFileById i j =>
    simp only [stepApi, apiDeleteFileById]
    split
    · exact .refl s
    · split
      · exact .refl s
      · exact change_deleteFile h _ _
  | deleteFolderById i =>
    simp only [stepApi, apiDeleteFolderById]
    split
    · exact .refl s
    · exact change_deleteFolder s _
  | removeFileById i j =>
    simp only [stepApi, apiRemoveFileById]
    split
    · exact .refl s
    · rename_i g hg
      split
      · exact .refl s
      · rename_i f _
        exact .upd h (List.mem_of_find?_eq_some hg) (fun g => g.removeFile f) (.removeFile g f) rfl rfl rfl (Nat.le_refl _)

/-- `move_file` case by case: no live source file, and nothing happens; or the live file `f` of the live folder `src`, with the
destination `dst` found or made — both folders live in the state `s1` after that — and then nothing more when `dst` has a live
file of that name, else `f` leaves `src` (another folder: `src` has a live file of that name) and is added to `dst`. -/
theorem apiMoveFile_cases {s : State} (h : Inv s) (F x G : Name) {P : State → Prop} (hnone : getFile s F x = none → P s)
    (hsome : ∀ src f s1 dst, getFolder s F = some src → src.getFile x = some f → getOrCreateFolder s G = (s1, dst) → Inv s1 →
      src ∈ s1.folders → dst ∈ s1.folders → f ∈ src.files → (dst.getFile f.name = none → dst.id ≠ src.id) →
      P (if (dst.getFile f.name).isSome then s1 else
        { updFolder (updFolder s1 src.id (fun g => { g with files := dictPop File.id g.files f.id })) dst.id (fun g => g.addFile f) with
          numDeletions := s1.numDeletions + 1, numCreations := s1.numCreations + 1 })) :
    P (apiMoveFile s F x G).1 := by
  unfold apiMoveFile
  unfold getFile at hnone
  cases hsrc : getFolder s F with
  | none => exact hnone (by rw [hsrc])
  | some src =>
    simp only
    cases hf : src.getFile x with
    | none => exact hnone (by rw [hsrc]; exact hf)
    | some f =>
      obtain ⟨hsm, _⟩ := getFolder_live hsrc
      obtain ⟨hfm, _⟩ := getFile_live hf
      obtain ⟨h1, hm, _, _⟩ := getOrCreateFolder_spec h G
      have hsm1 := mem_getOrCreateFolder_of_live h hsm G
      generalize hr : getOrCreateFolder s G = r at h1 hm hsm1 ⊢
      obtain ⟨s1, dst⟩ := r
      have := hsome src f s1 dst hsrc hf hr h1 hsm1 hm hfm (id_ne_of_getFile_none h1 hsm1 hm hfm)
      simp only
      by_cases hc : (dst.getFile f.name).isSome = true
      · rw [if_pos hc] at this ⊢; exact this
      · rw [if_neg hc] at this ⊢; exact this

theorem inv_apiMoveFile {s : State} (h : Inv s) (F x G : Name) (hfresh : MoveFresh s F x G) :
    Inv (apiMoveFile s F x G).1 := by
  refine apiMoveFile_cases h F x G (fun _ => h) (fun src f s1 dst hsrc hf hr h1 hs hd hfm hne => ?_)
  split
  · exact h1
  · rename_i hc
    have hnone : dst.getFile f.name = none := Option.not_isSome_iff_eq_none.mp hc
    have hfr := hfresh f (by unfold getFile; rw [hsrc]; exact hf)
    rw [hr] at hfr
    have si := h1.folder src (Or.inl hs)
    have di := h1.folder dst (Or.inl hd)
    have h2 : Inv (updFolder s1 src.id (fun g => { g with files := dictPop File.id g.files f.id })) :=
      inv_updLive h1 hs _ rfl rfl rfl (Nat.le_refl _)
        ⟨rfl, rfl, rfl, folderInv_popLive si.1 f.id, folderBelow_popLive si.2.1 f.id⟩
    have hd2 : dst ∈ (updFolder s1 src.id (fun g => { g with files := dictPop File.id g.files f.id })).folders :=
      List.mem_map.mpr ⟨dst, hd, by simp [hne hnone]⟩
    exact inv_updLive h2 hd2 (fun g => g.addFile f) rfl rfl rfl (Nat.le_refl _)
      ⟨rfl, rfl, rfl, folderInv_addFile_new di.1 (hfr hnone) (getFile_none hnone) (si.1.liveFlag f hfm),
        folderBelow_addFile di.2.1 (si.2.1 f (Or.inl hfm))⟩

end Primaite.FileSystem
