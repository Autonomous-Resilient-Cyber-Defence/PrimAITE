/-
C14 helper lemmas: every operation of `Model.Health` acts item-wise —
`(n.apply op).sws = n.sws.map (swEff n op)`, `(n.apply op).folders = n.folders.map (folderEff n op)`,
`(folderEff n op G).files = G.files.map (fileEff n op G)` — and field-preservation facts of the primitive item functions.
The property files reason about one item through what an operation leaves alone (`Sw.Same`, `Sw.PowerRel`, `Folder.Quiet`), the
normal forms of a timestep (`tickEff_on_off`, `folderTickEff_eq`, `fileEff_tick`) and the case analyses `Sw.handle_cases`,
`swEff_cases`, `folderEff_quiet`.
-/
import PrimaiteModel.Model.Health
namespace Primaite.Health

section sw
variable (x : Sw)

@[simp] theorem Sw.setHealth_visible (h) : (x.setHealth h).visible = x.visible := rfl
@[simp] theorem Sw.setHealth_name (h) : (x.setHealth h).name = x.name := rfl
@[simp] theorem Sw.setHealth_isApp (h) : (x.setHealth h).isApp = x.isApp := rfl
@[simp] theorem Sw.setHealth_actual (h) : (x.setHealth h).actual = h := rfl
@[simp] theorem Sw.setHealth_op (h) : (x.setHealth h).op = x.op := rfl
@[simp] theorem Sw.setHealth_fixCd (h) : (x.setHealth h).fixCd = x.fixCd := rfl
@[simp] theorem Sw.setHealth_fixDur (h) : (x.setHealth h).fixDur = x.fixDur := rfl
@[simp] theorem Sw.setHealth_auxCd (h) : (x.setHealth h).auxCd = x.auxCd := rfl

@[simp] theorem Sw.scan_visible : x.scan.visible = x.actual := rfl
@[simp] theorem Sw.scan_actual : x.scan.actual = x.actual := rfl
@[simp] theorem Sw.scan_name : x.scan.name = x.name := rfl
@[simp] theorem Sw.scan_isApp : x.scan.isApp = x.isApp := rfl
@[simp] theorem Sw.scan_op : x.scan.op = x.op := rfl
@[simp] theorem Sw.scan_fixCd : x.scan.fixCd = x.fixCd := rfl
@[simp] theorem Sw.scan_fixDur : x.scan.fixDur = x.fixDur := rfl
@[simp] theorem Sw.scan_auxCd : x.scan.auxCd = x.auxCd := rfl

/-- the fields no operation other than `scan` touches, and the identity fields nothing touches -/
structure Sw.Same (y x : Sw) : Prop where
  name : y.name = x.name
  isApp : y.isApp = x.isApp
  visible : y.visible = x.visible
  fixDur : y.fixDur = x.fixDur

theorem Sw.Same.refl : Sw.Same x x := ⟨rfl, rfl, rfl, rfl⟩
theorem Sw.Same.trans {a b c : Sw} (h1 : Sw.Same a b) (h2 : Sw.Same b c) : Sw.Same a c :=
  ⟨h1.name.trans h2.name, h1.isApp.trans h2.isApp, h1.visible.trans h2.visible, h1.fixDur.trans h2.fixDur⟩

theorem Sw.fix_same : Sw.Same x.fix x := by
  unfold Sw.fix; split <;> exact ⟨rfl, rfl, rfl, rfl⟩
theorem Sw.updateFix_same : Sw.Same x.updateFix x := by
  unfold Sw.updateFix; split
  · split <;> exact ⟨rfl, rfl, rfl, rfl⟩
  · exact ⟨rfl, rfl, rfl, rfl⟩
theorem Sw.fixTick_same : Sw.Same x.fixTick x := by
  unfold Sw.fixTick; split
  · exact x.updateFix_same
  · exact .refl x
theorem Sw.auxTick_cases {motive : Sw → Prop} (same : motive x)
    (installed : ∀ c, x.isApp = true → x.op = .installing → x.auxCd = some c → c ≤ 1 →
      motive { x with op := .running, actual := .good, auxCd := none })
    (installing : ∀ c, x.isApp = true → x.op = .installing → x.auxCd = some c → 1 < c → motive { x with auxCd := some (c - 1) })
    (restarting : ∀ c, x.op = .restarting → motive { x with op := (if c ≤ 0 then .running else x.op), auxCd := some (c - 1) }) :
    motive x.auxTick := by
  unfold Sw.auxTick
  split
  · rename_i ha
    split
    · rename_i ho
      split
      · rename_i c hc
        split
        · exact installed c ha ho hc (by omega)
        · exact installing c ha ho hc (by omega)
      · exact same
    · exact same
  · split
    · rename_i ho
      split
      · exact restarting _ ho
      · exact same
    · exact same

theorem Sw.auxTick_same : Sw.Same x.auxTick x :=
  x.auxTick_cases (motive := fun y => Sw.Same y x) (.refl x) (fun _ _ _ _ _ => ⟨rfl, rfl, rfl, rfl⟩)
    (fun _ _ _ _ _ => ⟨rfl, rfl, rfl, rfl⟩) (fun _ _ => ⟨rfl, rfl, rfl, rfl⟩)
theorem Sw.tick_same : Sw.Same x.tick x := (x.fixTick.auxTick_same).trans x.fixTick_same
theorem Sw.wake_same : Sw.Same x.wake x := by
  unfold Sw.wake; split <;> exact ⟨rfl, rfl, rfl, rfl⟩
theorem Sw.shutDown_same : Sw.Same x.shutDown x := by
  unfold Sw.shutDown
  repeat' split
  all_goals exact ⟨rfl, rfl, rfl, rfl⟩
theorem Sw.install_same : Sw.Same x.install x := by
  unfold Sw.install; split <;> exact ⟨rfl, rfl, rfl, rfl⟩
end sw

/-- What a request handler does to the item, as a case analysis: nothing; `scan`; `fix`; the compromise; a move of the operating state
(never into INSTALLING) — with the first-start `wake` for `start` / `execute`, with the countdown loaded for `restart`. -/
theorem Sw.handle_cases {motive : Sw → Prop} (x : Sw) (r : SwReq) (same : motive x)
    (scan : r = .scan → motive x.scan) (fix : r = .fix → motive x.fix)
    (compromise : r = .compromise → motive (x.setHealth .compromised))
    (move : ∀ o : OpSt, o ≠ .installing → motive { x with op := o })
    (wake : (r = .start ∨ r = .execute) → motive { x.wake with op := .running })
    (restart : motive { x with op := .restarting, auxCd := some x.auxDur }) :
    motive (x.handle r).1 := by
  cases r <;> simp only [Sw.handle]
  case scan => exact scan rfl
  case fix => exact fix rfl
  case compromise => exact compromise rfl
  case restart => split <;> first | exact restart | exact same
  case start => split <;> first | exact wake (Or.inl rfl) | exact same
  case execute => split <;> first | exact wake (Or.inr rfl) | exact same
  all_goals first | exact move _ (by decide) | (split <;> first | exact same | exact move _ (by decide))

theorem Sw.handle_same (x : Sw) (r : SwReq) (hr : r ≠ .scan) : Sw.Same (x.handle r).1 x :=
  x.handle_cases (motive := fun y => Sw.Same y x) r (.refl x) (fun e => absurd e hr) (fun _ => x.fix_same)
    (fun _ => ⟨rfl, rfl, rfl, rfl⟩) (fun _ _ => ⟨rfl, rfl, rfl, rfl⟩)
    (fun _ => ⟨x.wake_same.name, x.wake_same.isApp, x.wake_same.visible, x.wake_same.fixDur⟩) ⟨rfl, rfl, rfl, rfl⟩

theorem ite_changed {α : Type} {c : Prop} [Decidable c] {a' v a : α} (e : a' = if c then v else a) (hne : a' ≠ a) : c ∧ a' = v := by
  split at e
  · exact ⟨‹c›, e⟩
  · exact absurd e hne

theorem find?_map_pres {α : Type} (l : List α) (g : α → α) (p : α → Bool) (h : ∀ a, p (g a) = p a) :
    (l.map g).find? p = (l.find? p).map g := by
  rw [List.find?_map]
  have : (p ∘ g) = p := funext h
  rw [this]

/-- effect of the boot half of the power phase on one item -/
def bootEff (n : Node) (x : Sw) : Sw :=
  if n.startCd > 0 then x else if n.power = .booting then x.startUp else x

/-- effect of `power_on` on one item -/
def powerOnEff (n : Node) (x : Sw) : Sw := if n.startDur ≤ 0 then x.startUp else x

/-- effect of `Node.offNow` (shut-down actions; immediate `power_on` when resetting) on one item -/
def offNowEff (n : Node) (x : Sw) : Sw := if n.resetting then powerOnEff n x.shutDown else x.shutDown

/-- effect of the shut-down half (on a node whose boot half is done) -/
def shutEff (n : Node) (x : Sw) : Sw :=
  if n.shutCd > 0 then x
  else if n.power = .shuttingDown then offNowEff n x else x

/-- effect of the whole power phase of a tick on one item -/
def powerEff (n : Node) (x : Sw) : Sw := shutEff n.bootPhase (bootEff n x)

@[simp] theorem mapSws_sws (n : Node) (g) : (n.mapSws g).sws = n.sws.map g := rfl
@[simp] theorem mapSws_folders (n : Node) (g) : (n.mapSws g).folders = n.folders := rfl
@[simp] theorem mapSws_power (n : Node) (g) : (n.mapSws g).power = n.power := rfl
@[simp] theorem mapSws_scanCd (n : Node) (g) : (n.mapSws g).scanCd = n.scanCd := rfl
@[simp] theorem mapSws_resetting (n : Node) (g) : (n.mapSws g).resetting = n.resetting := rfl
@[simp] theorem mapSws_startDur (n : Node) (g) : (n.mapSws g).startDur = n.startDur := rfl
@[simp] theorem mapSws_startCd (n : Node) (g) : (n.mapSws g).startCd = n.startCd := rfl
@[simp] theorem mapSws_shutDur (n : Node) (g) : (n.mapSws g).shutDur = n.shutDur := rfl
@[simp] theorem mapSws_shutCd (n : Node) (g) : (n.mapSws g).shutCd = n.shutCd := rfl
@[simp] theorem mapSws_scanDur (n : Node) (g) : (n.mapSws g).scanDur = n.scanDur := rfl
@[simp] theorem mapFolders_sws (n : Node) (g) : (n.mapFolders g).sws = n.sws := rfl
@[simp] theorem mapFolders_folders (n : Node) (g) : (n.mapFolders g).folders = n.folders.map g := rfl
@[simp] theorem mapFolders_power (n : Node) (g) : (n.mapFolders g).power = n.power := rfl
@[simp] theorem mapFolders_scanCd (n : Node) (g) : (n.mapFolders g).scanCd = n.scanCd := rfl

/-- what a power function does to a node: the software list is mapped item-wise by `g`; folders and node-scan countdown stay -/
structure Node.SwStep (g : Sw → Sw) (n m : Node) : Prop where
  sws : m.sws = n.sws.map g
  folders : m.folders = n.folders
  scanCd : m.scanCd = n.scanCd

theorem powerOn_swStep (n : Node) : Node.SwStep (powerOnEff n) n n.powerOn := by
  unfold Node.powerOn powerOnEff
  split
  · exact ⟨by simp, rfl, rfl⟩
  · split <;> exact ⟨by simp, rfl, rfl⟩

theorem bootPhase_swStep (n : Node) : Node.SwStep (bootEff n) n n.bootPhase := by
  unfold Node.bootPhase bootEff
  split
  · exact ⟨by simp, rfl, rfl⟩
  · split <;> exact ⟨by simp, rfl, rfl⟩

theorem offNow_swStep (n : Node) : Node.SwStep (offNowEff n) n n.offNow := by
  unfold Node.offNow offNowEff
  by_cases h : n.resetting = true
  · have hp := powerOn_swStep { { n.mapSws Sw.shutDown with power := .off } with resetting := false }
    simp only [mapSws_resetting, h, if_true]
    exact ⟨hp.sws.trans (by simp [powerOnEff, List.map_map, Function.comp_def]), hp.folders, hp.scanCd⟩
  · simp only [mapSws_resetting, h]
    exact ⟨by simp, rfl, rfl⟩

theorem shutPhase_swStep (n : Node) : Node.SwStep (shutEff n) n n.shutPhase := by
  unfold Node.shutPhase shutEff
  split
  · exact ⟨by simp, rfl, rfl⟩
  · split
    · exact offNow_swStep n
    · exact ⟨by simp, rfl, rfl⟩

theorem powerPhase_swStep (n : Node) : Node.SwStep (powerEff n) n n.powerPhase := by
  have hb := bootPhase_swStep n
  have hs := shutPhase_swStep n.bootPhase
  exact ⟨by rw [Node.powerPhase, hs.sws, hb.sws, List.map_map]; rfl, hs.folders.trans hb.folders, hs.scanCd.trans hb.scanCd⟩

theorem powerOff_swStep (n : Node) : Node.SwStep (fun x => if n.shutDur ≤ 0 then offNowEff n x else x) n n.powerOff := by
  unfold Node.powerOff
  split
  · exact offNow_swStep n
  · split <;> exact ⟨by simp, rfl, rfl⟩

/-- the node-scan block: the whole-node scan fans out when the countdown stands at 1 -/
theorem Node.scanPhase_eq (m : Node) :
    m.scanPhase =
      if m.scanCd = 1 then ({ m with scanCd := m.scanCd - 1 }.mapSws Sw.scan).mapFolders Folder.instantScan
      else if m.scanCd > 0 then { m with scanCd := m.scanCd - 1 } else m := by
  unfold Node.scanPhase
  by_cases h1 : m.scanCd = 1
  · simp only []
    rw [if_pos (by omega), if_pos (by omega), if_pos h1]
  · simp only []
    rw [if_neg h1]
    split
    · rw [if_neg (by omega)]
    · rfl

theorem scanPhase_sws (m : Node) : m.scanPhase.sws = m.sws.map (fun x => if m.scanCd = 1 then x.scan else x) := by
  rw [Node.scanPhase_eq]
  split
  · rfl
  · split <;> exact (List.map_id' _).symm
theorem scanPhase_folders (m : Node) :
    m.scanPhase.folders = m.folders.map (fun G => if m.scanCd = 1 then G.instantScan else G) := by
  rw [Node.scanPhase_eq]
  split
  · rfl
  · split <;> exact (List.map_id' _).symm

@[simp] theorem redPhase_sws (m : Node) : m.redPhase.sws = m.sws := by unfold Node.redPhase; split <;> rfl
@[simp] theorem redPhase_folders (m : Node) : m.redPhase.folders = m.folders := by unfold Node.redPhase; split <;> rfl
@[simp] theorem redPhase_scanCd (m : Node) : m.redPhase.scanCd = m.scanCd := by unfold Node.redPhase; split <;> rfl
@[simp] theorem redPhase_power (m : Node) : m.redPhase.power = m.power := by unfold Node.redPhase; split <;> rfl

/-- effect of a tick on one software item -/
def tickEff (n : Node) (x : Sw) : Sw :=
  if n.powerPhase.power = .on then (if n.powerPhase.scanCd = 1 then (powerEff n x).scan else powerEff n x).tick
  else powerEff n x

theorem tick_sws (n : Node) : n.tick.sws = n.sws.map (tickEff n) := by
  unfold Node.tick tickEff
  simp only []
  split
  · simp only [Node.itemPhase, mapFolders_sws, mapSws_sws, redPhase_sws, scanPhase_sws, (powerPhase_swStep n).sws, List.map_map]
    apply List.map_congr_left
    intro x _
    simp only [Function.comp_def]
  · exact (powerPhase_swStep n).sws

/-- effect of a tick on one folder -/
def folderTickEff (n : Node) (G : Folder) : Folder :=
  if n.powerPhase.power = .on then
    (fun G1 : Folder => if G1.deleted then G1 else G1.tick) (if n.powerPhase.scanCd = 1 then G.instantScan else G)
  else G

theorem tick_folders (n : Node) : n.tick.folders = n.folders.map (folderTickEff n) := by
  unfold Node.tick folderTickEff
  simp only []
  split
  · simp only [Node.itemPhase, mapFolders_folders, mapSws_folders, redPhase_folders, scanPhase_folders, (powerPhase_swStep n).folders, List.map_map]
    apply List.map_congr_left
    intro x _
    simp only [Function.comp_def]
  · rw [(powerPhase_swStep n).folders]; simp

/-- effect of any operation on one software item -/
def swEff (n : Node) : Op → Sw → Sw
  | .tick => tickEff n
  | .shutdown => fun x => if n.power = .on then (if n.shutDur ≤ 0 then offNowEff n x else x) else x
  | .reset => fun x => if n.power = .on then (if n.shutDur ≤ 0 then powerOnEff n x.shutDown else x) else x
  | .startup => fun x => if n.power = .off then powerOnEff n x else x
  | .sw isApp name r => fun x => if n.power = .on then x.request isApp name r else x
  | .swSet name h => fun x => if x.name = name then x.setHealth h.toSwH else x
  | .appInstall name => fun x => if x.name = name then x.install else x
  | .appRun name => fun x => if n.power = .on then (if x.name = name ∧ x.isApp = true then x.startUp else x) else x
  | _ => fun x => x

/- An operation is carried out (`m`) or refused (`n` stays): a list field `π` that `m` maps item-wise is then mapped conditionally
(`ite_map`), and one that `m` leaves alone is left alone (`ite_same`, as a map by the identity). -/
theorem ite_map {α : Type} (π : Node → List α) {n m : Node} (c : Prop) [Decidable c] {g : α → α} (h : π m = (π n).map g) :
    π (if c then m else n) = (π n).map (fun a => if c then g a else a) := by
  split
  · exact h
  · exact (List.map_id' _).symm
theorem ite_same {α : Type} (π : Node → List α) {n m : Node} (c : Prop) [Decidable c] (h : π m = π n) :
    π (if c then m else n) = (π n).map (fun a => a) := by
  rw [List.map_id']
  split
  · exact h
  · rfl

theorem apply_sws (n : Node) (op : Op) : (n.apply op).sws = n.sws.map (swEff n op) := by
  cases op
  case tick => exact tick_sws n
  case shutdown => exact ite_map Node.sws _ (powerOff_swStep n).sws
  case startup => exact ite_map Node.sws _ (powerOn_swStep n).sws
  case reset => exact ite_map Node.sws _ (powerOff_swStep _).sws
  case sw => exact ite_map Node.sws _ rfl
  case swSet => rfl
  case appInstall => rfl
  case appRun => exact ite_map Node.sws _ rfl
  case fileSet => exact (List.map_id' _).symm
  all_goals exact ite_same Node.sws _ rfl

theorem apply_sws_getElem {n : Node} {i : Nat} {x : Sw} (op : Op) (h : n.sws[i]? = some x) :
    (n.apply op).sws[i]? = some (swEff n op x) := by
  rw [apply_sws, List.getElem?_map, h]; rfl

/-- effect of any operation on one folder -/
def folderEff (n : Node) : Op → Folder → Folder
  | .tick => folderTickEff n
  | .folder F r => fun G => if n.power = .on then (if G.name = F ∧ G.deleted = false then (G.handle r).1 else G) else G
  | .folderDelete F f | .fsDeleteFile F f =>
    fun G => if n.power = .on then (if G.name = F ∧ G.deleted = false then G.delLive f else G) else G
  | .file F f r =>
    fun G => if n.power = .on then
      (if G.name = F ∧ G.deleted = false then G.mapLiveFile f (fun x => (x.handle r).1) else G) else G
  | .fsDeleteFolder F =>
    fun G => if n.power = .on ∧ F ≠ "root" then (if G.name = F ∧ G.deleted = false then G.deleteAt (n.fdelCtr + 1) else G) else G
  | .fsRestoreFile F f =>
    fun G => if n.power = .on then (if G.name = F ∧ G.deleted = false then G.mapFile f (File.restoreIn G.files) else G) else G
  | .fsRestoreFolder F => fun G => if n.power = .on then (if G.name = F then Folder.restoreIn n.folders G else G) else G
  | .fileSet F f h => fun G => if G.name = F then G.mapFile f (fun x => { x with actual := h }) else G
  | _ => fun G => G

theorem apply_folders (n : Node) (op : Op) : (n.apply op).folders = n.folders.map (folderEff n op) := by
  cases op
  case tick => exact tick_folders n
  case shutdown => exact ite_same Node.folders _ (powerOff_swStep n).folders
  case startup => exact ite_same Node.folders _ (powerOn_swStep n).folders
  case reset => exact ite_same Node.folders _ (powerOff_swStep _).folders
  case swSet => exact (List.map_id' _).symm
  case appInstall => exact (List.map_id' _).symm
  case fileSet => rfl
  all_goals first | exact ite_same Node.folders _ rfl | exact ite_map Node.folders _ rfl

theorem apply_folders_getElem {n : Node} {j : Nat} {G : Folder} (op : Op) (h : n.folders[j]? = some G) :
    (n.apply op).folders[j]? = some (folderEff n op G) := by
  rw [apply_folders, List.getElem?_map, h]; rfl

section file
variable (f : File)
@[simp] theorem File.scan_name : f.scan.name = f.name := by unfold File.scan; split <;> rfl
@[simp] theorem File.scan_actual : f.scan.actual = f.actual := by unfold File.scan; split <;> rfl
@[simp] theorem File.scan_deleted : f.scan.deleted = f.deleted := by unfold File.scan; split <;> rfl
theorem File.scan_visible : f.scan.visible = if f.deleted then f.visible else f.actual := by
  unfold File.scan; split <;> rfl
@[simp] theorem File.repair_name : f.repair.name = f.name := by unfold File.repair; (repeat' split) <;> rfl
@[simp] theorem File.repair_visible : f.repair.visible = f.visible := by unfold File.repair; (repeat' split) <;> rfl
@[simp] theorem File.repair_deleted : f.repair.deleted = f.deleted := by unfold File.repair; (repeat' split) <;> rfl
@[simp] theorem File.corrupt_name : f.corrupt.name = f.name := by unfold File.corrupt; (repeat' split) <;> rfl
@[simp] theorem File.corrupt_visible : f.corrupt.visible = f.visible := by unfold File.corrupt; (repeat' split) <;> rfl
@[simp] theorem File.corrupt_deleted : f.corrupt.deleted = f.deleted := by unfold File.corrupt; (repeat' split) <;> rfl
@[simp] theorem File.restore_name : f.restore.name = f.name := by unfold File.restore; (repeat' split) <;> rfl
@[simp] theorem File.restore_visible : f.restore.visible = f.visible := by unfold File.restore; (repeat' split) <;> rfl
@[simp] theorem File.restore_deleted : f.restore.deleted = false := by
  unfold File.restore
  split
  · rfl
  · rename_i h; split <;> simpa using h
@[simp] theorem File.deleteAt_name (s : Nat) : (f.deleteAt s).name = f.name := by unfold File.deleteAt; split <;> rfl
@[simp] theorem File.deleteAt_visible (s : Nat) : (f.deleteAt s).visible = f.visible := by unfold File.deleteAt; split <;> rfl
@[simp] theorem File.deleteAt_actual (s : Nat) : (f.deleteAt s).actual = f.actual := by unfold File.deleteAt; split <;> rfl
@[simp] theorem File.deleteAt_deleted (s : Nat) : (f.deleteAt s).deleted = true := by
  unfold File.deleteAt; split
  · assumption
  · rfl
@[simp] theorem File.scan_delSeq : f.scan.delSeq = f.delSeq := by unfold File.scan; split <;> rfl
theorem File.handle_name (r) : (f.handle r).1.name = f.name := by cases r <;> simp [File.handle]
theorem File.handle_visible (r) (hr : r ≠ .scan) : (f.handle r).1.visible = f.visible := by
  cases r <;> first | exact absurd rfl hr | simp [File.handle]
end file

section folder
variable (G : Folder)

theorem Folder.instantScan_files : G.instantScan.files = if G.deleted then G.files else G.files.map File.scan := by
  unfold Folder.instantScan; split <;> rfl
@[simp] theorem Folder.instantScan_deleted : G.instantScan.deleted = G.deleted := by
  unfold Folder.instantScan; split <;> rfl
@[simp] theorem Folder.instantScan_name : G.instantScan.name = G.name := by
  unfold Folder.instantScan; split <;> rfl
@[simp] theorem Folder.instantScan_scanCd : G.instantScan.scanCd = G.scanCd := by
  unfold Folder.instantScan; split <;> rfl
@[simp] theorem Folder.instantScan_restoreCd : G.instantScan.restoreCd = G.restoreCd := by
  unfold Folder.instantScan; split <;> rfl
@[simp] theorem Folder.instantScan_actual : G.instantScan.actual = G.actual := by
  unfold Folder.instantScan; split <;> rfl
@[simp] theorem Folder.instantScan_durs :
    G.instantScan.scanDur = G.scanDur ∧ G.instantScan.restoreDur = G.restoreDur := by
  unfold Folder.instantScan; split <;> exact ⟨rfl, rfl⟩
theorem Folder.instantScan_visible :
    G.instantScan.visible = if G.deleted = false ∧ anyLiveCorrupt G.files = true then .corrupt else G.visible := by
  unfold Folder.instantScan
  cases hd : G.deleted <;> simp

/-- `_scan_timestep`: the scan completes when the countdown stands at 1; an idle folder (`-1`) is left alone -/
theorem Folder.scanTick_eq :
    G.scanTick =
      if G.scanCd = 1 then
        { G with scanCd := 0, files := G.files.map File.scan, actual := worstLive G.files, visible := worstLive G.files,
                 scanned := true }
      else if G.scanCd ≥ 0 then { G with scanCd := G.scanCd - 1 } else G := by
  unfold Folder.scanTick
  by_cases h1 : G.scanCd = 1
  · rw [if_pos (by omega), if_pos (by omega), if_pos h1]
  · rw [if_neg h1]
    split
    · rw [if_neg (by omega)]
    · rfl

theorem Folder.scanTick_files : G.scanTick.files = if G.scanCd = 1 then G.files.map File.scan else G.files := by
  rw [Folder.scanTick_eq]; (repeat' split) <;> rfl
theorem Folder.scanTick_scanCd : G.scanTick.scanCd = if G.scanCd ≥ 0 then G.scanCd - 1 else G.scanCd := by
  rw [Folder.scanTick_eq]
  split
  · rename_i h1; rw [if_pos (by omega), h1]; rfl
  · split <;> rfl
theorem Folder.scanTick_visible : G.scanTick.visible = if G.scanCd = 1 then worstLive G.files else G.visible := by
  rw [Folder.scanTick_eq]; (repeat' split) <;> rfl
theorem Folder.scanTick_actual : G.scanTick.actual = if G.scanCd = 1 then worstLive G.files else G.actual := by
  rw [Folder.scanTick_eq]; (repeat' split) <;> rfl
theorem Folder.scanTick_rest :
    G.scanTick.name = G.name ∧ G.scanTick.deleted = G.deleted ∧ G.scanTick.restoreCd = G.restoreCd ∧
    G.scanTick.scanDur = G.scanDur ∧ G.scanTick.restoreDur = G.restoreDur := by
  rw [Folder.scanTick_eq]; (repeat' split) <;> exact ⟨rfl, rfl, rfl, rfl, rfl⟩

theorem Folder.restoreFinish_rest :
    G.restoreFinish.name = G.name ∧ G.restoreFinish.visible = G.visible ∧ G.restoreFinish.scanCd = G.scanCd ∧
    G.restoreFinish.scanDur = G.scanDur ∧ G.restoreFinish.restoreDur = G.restoreDur ∧
    G.restoreFinish.restoreCd = G.restoreCd ∧ G.restoreFinish.files = G.files := by
  unfold Folder.restoreFinish; (repeat' split) <;> exact ⟨rfl, rfl, rfl, rfl, rfl, rfl, rfl⟩
theorem Folder.restoreFinish_deleted : G.restoreFinish.deleted = false := by
  unfold Folder.restoreFinish
  split
  · rfl
  · rename_i h; split <;> simpa using h
theorem Folder.restoreFinish_actual :
    G.restoreFinish.actual =
      if G.deleted = false ∧ (G.actual = .corrupt ∨ G.actual = .restoring) then .good else G.actual := by
  unfold Folder.restoreFinish
  cases hd : G.deleted
  · simp only [Bool.false_eq_true, if_false, true_and]
    split <;> rfl
  · simp

/-- `_restoring_timestep`: the restore completes when the countdown stands at 1 -/
theorem Folder.restoreTick_eq :
    G.restoreTick =
      if G.restoreCd = 1 then { G with restoreCd := 0, files := G.files.map (File.restoreAll G.files) }.restoreFinish
      else if G.restoreCd ≥ 0 then { G with restoreCd := G.restoreCd - 1 } else G := by
  unfold Folder.restoreTick
  by_cases h1 : G.restoreCd = 1
  · rw [if_pos (by omega), if_pos (by omega), if_pos h1]
  · rw [if_neg h1]
    split
    · rw [if_neg (by omega)]
    · rfl

theorem Folder.restoreTick_files :
    G.restoreTick.files = if G.restoreCd = 1 then G.files.map (File.restoreAll G.files) else G.files := by
  rw [Folder.restoreTick_eq]
  split
  · exact (Folder.restoreFinish_rest _).2.2.2.2.2.2
  · split <;> rfl
theorem Folder.restoreTick_restoreCd :
    G.restoreTick.restoreCd = if G.restoreCd ≥ 0 then G.restoreCd - 1 else G.restoreCd := by
  rw [Folder.restoreTick_eq]
  split
  · rename_i h1; rw [(Folder.restoreFinish_rest _).2.2.2.2.2.1, if_pos (by omega), h1]; rfl
  · split <;> rfl
theorem Folder.restoreTick_rest :
    G.restoreTick.name = G.name ∧ G.restoreTick.visible = G.visible ∧ G.restoreTick.scanCd = G.scanCd ∧
    G.restoreTick.scanDur = G.scanDur ∧ G.restoreTick.restoreDur = G.restoreDur := by
  rw [Folder.restoreTick_eq]
  split
  · have h := Folder.restoreFinish_rest { G with restoreCd := 0, files := G.files.map (File.restoreAll G.files) }
    exact ⟨h.1, h.2.1, h.2.2.1, h.2.2.2.1, h.2.2.2.2.1⟩
  · split <;> exact ⟨rfl, rfl, rfl, rfl, rfl⟩
theorem Folder.restoreTick_deleted (h : G.deleted = false) : G.restoreTick.deleted = false := by
  rw [Folder.restoreTick_eq]
  split
  · exact Folder.restoreFinish_deleted _
  · split <;> exact h
theorem Folder.restoreTick_actual :
    G.restoreTick.actual =
      if G.restoreCd = 1 ∧ G.deleted = false ∧ (G.actual = .corrupt ∨ G.actual = .restoring) then .good else G.actual := by
  rw [Folder.restoreTick_eq]
  by_cases h1 : G.restoreCd = 1
  · rw [if_pos h1, Folder.restoreFinish_actual]
    simp only [h1, true_and]
  · have hn : ¬ (G.restoreCd = 1 ∧ G.deleted = false ∧ (G.actual = .corrupt ∨ G.actual = .restoring)) := fun h => h1 h.1
    rw [if_neg h1, if_neg hn]
    split <;> rfl

theorem Folder.instantScan_of_deleted (h : G.deleted = true) : G.instantScan = G := by
  unfold Folder.instantScan; rw [if_pos h]

theorem Folder.tick_name : G.tick.name = G.name :=
  (Folder.restoreTick_rest _).1.trans (Folder.scanTick_rest _).1
theorem Folder.tick_visible : G.tick.visible = if G.scanCd = 1 then worstLive G.files else G.visible :=
  (Folder.restoreTick_rest _).2.1.trans G.scanTick_visible
theorem Folder.tick_scanCd (h : 1 ≤ G.scanCd) : G.tick.scanCd = G.scanCd - 1 := by
  unfold Folder.tick
  rw [(Folder.restoreTick_rest _).2.2.1, Folder.scanTick_scanCd, if_pos (by omega)]
theorem Folder.tick_restoreCd (h : 1 ≤ G.restoreCd) : G.tick.restoreCd = G.restoreCd - 1 := by
  unfold Folder.tick
  rw [Folder.restoreTick_restoreCd, (Folder.scanTick_rest _).2.2.1, if_pos (by omega)]

theorem Folder.tick_actual :
    G.tick.actual =
      (let a1 := if G.scanCd = 1 then worstLive G.files else G.actual
       if G.restoreCd = 1 ∧ G.deleted = false ∧ (a1 = .corrupt ∨ a1 = .restoring) then .good else a1) := by
  unfold Folder.tick
  rw [Folder.restoreTick_actual, (Folder.scanTick_rest G).2.1, (Folder.scanTick_rest G).2.2.1, Folder.scanTick_actual]

theorem Folder.instantScan_scanned : G.instantScan.scanned = (G.scanned || !G.deleted) := by
  unfold Folder.instantScan; cases hd : G.deleted <;> simp

theorem Folder.scanTick_scanned : G.scanTick.scanned = (G.scanned || decide (G.scanCd = 1)) := by
  rw [Folder.scanTick_eq]
  split
  · rename_i h; rw [decide_eq_true h, Bool.or_true]
  · rename_i h; rw [decide_eq_false h, Bool.or_false]; split <;> rfl

theorem Folder.restoreFinish_scanned : G.restoreFinish.scanned = G.scanned := by
  unfold Folder.restoreFinish; (repeat' split) <;> rfl

theorem Folder.restoreTick_scanned : G.restoreTick.scanned = G.scanned := by
  rw [Folder.restoreTick_eq]
  split
  · exact Folder.restoreFinish_scanned _
  · split <;> rfl

theorem Folder.tick_scanned : G.tick.scanned = (G.scanned || decide (G.scanCd = 1)) :=
  (Folder.restoreTick_scanned _).trans G.scanTick_scanned

theorem worstLive_map_scan (fs : List File) : worstLive (fs.map File.scan) = worstLive fs := by
  induction fs with
  | nil => rfl
  | cons f fs ih => simp [worstLive, ih]

theorem anyLiveCorrupt_map_scan (fs : List File) : anyLiveCorrupt (fs.map File.scan) = anyLiveCorrupt fs := by
  simp [anyLiveCorrupt, List.any_map, Function.comp_def]

end folder

theorem Folder.restoreIn_cases (fo : List Folder) (G : Folder) :
    Folder.restoreIn fo G = G ∨ Folder.restoreIn fo G = G.restore := by
  unfold Folder.restoreIn; (repeat' split) <;> first | exact Or.inl rfl | exact Or.inr rfl

/-- a timestep reaches a folder iff the node is ON after its power phase and the folder is live; the whole-node scan, if it fans out
in this timestep, comes first -/
theorem folderTickEff_eq (n : Node) (G : Folder) :
    folderTickEff n G =
      if n.powerPhase.power = .on ∧ G.deleted = false then (if n.powerPhase.scanCd = 1 then G.instantScan.tick else G.tick)
      else G := by
  unfold folderTickEff
  by_cases hon : n.powerPhase.power = .on
  · cases hd : G.deleted
    · simp only [hon, true_and, if_true]
      split <;> simp only [Folder.instantScan_deleted, hd, Bool.false_eq_true, if_false]
    · simp only [hon, true_and, if_true, Bool.true_eq_false, if_false, G.instantScan_of_deleted hd, ite_self, hd]
  · simp only [hon, false_and, if_false]

/-- a timestep writes a folder's actual health in the folder's own tick only: the whole-node scan before it changes neither the
actual health nor the worst health among the live files -/
theorem folderTickEff_actual (n : Node) (G : Folder) :
    (folderTickEff n G).actual = if n.powerPhase.power = .on ∧ G.deleted = false then G.tick.actual else G.actual := by
  rw [folderTickEff_eq]
  split
  · rename_i hl
    split
    · rw [Folder.tick_actual, Folder.tick_actual, Folder.instantScan_scanCd, Folder.instantScan_restoreCd,
        Folder.instantScan_deleted, Folder.instantScan_actual, Folder.instantScan_files, hl.2, if_neg Bool.false_ne_true,
        worstLive_map_scan]
    · rfl
  · rfl

/-- what every operation other than a timestep leaves alone in a folder: its name, what it shows, the refresh flag, and a
countdown that is running (a request to start a scan or restore is ignored while one runs; deleting the folder only pauses it) -/
structure Folder.Quiet (G' G : Folder) : Prop where
  name : G'.name = G.name
  visible : G'.visible = G.visible
  scanned : G'.scanned = G.scanned
  scanCd : 1 ≤ G.scanCd → G'.scanCd = G.scanCd
  restoreCd : 1 ≤ G.restoreCd → G'.restoreCd = G.restoreCd

theorem Folder.Quiet.refl (G : Folder) : Folder.Quiet G G := ⟨rfl, rfl, rfl, fun _ => rfl, fun _ => rfl⟩

theorem Folder.restore_quiet (G : Folder) : Folder.Quiet G.restore G := by
  unfold Folder.restore
  split
  · exact ⟨rfl, rfl, rfl, fun _ => rfl, fun h => by omega⟩
  · exact ⟨rfl, rfl, rfl, fun _ => rfl, fun _ => rfl⟩

theorem Folder.scan_quiet (G : Folder) : Folder.Quiet G.scan G := by
  unfold Folder.scan
  split
  · exact .refl G
  · split
    · exact ⟨rfl, rfl, rfl, fun h => by omega, fun _ => rfl⟩
    · exact .refl G

theorem Folder.handle_quiet (G : Folder) (r : ItemReq) : Folder.Quiet (G.handle r).1 G := by
  cases r
  case scan => exact G.scan_quiet
  case checkhash => exact .refl G
  case repair =>
    show Folder.Quiet G.repair G
    unfold Folder.repair; split <;> exact ⟨rfl, rfl, rfl, fun _ => rfl, fun _ => rfl⟩
  case restore => exact G.restore_quiet
  case corrupt =>
    show Folder.Quiet G.corrupt G
    unfold Folder.corrupt; split <;> exact ⟨rfl, rfl, rfl, fun _ => rfl, fun _ => rfl⟩

theorem Folder.restoreIn_quiet (fo : List Folder) (G : Folder) : Folder.Quiet (Folder.restoreIn fo G) G := by
  rcases Folder.restoreIn_cases fo G with e | e <;> rw [e]
  · exact .refl G
  · exact G.restore_quiet

theorem folderEff_quiet (n : Node) (op : Op) (G : Folder) (hop : op ≠ .tick) : Folder.Quiet (folderEff n op G) G := by
  cases op <;> simp only [folderEff]
  case tick => exact absurd rfl hop
  case folder F r => (repeat' split) <;> first | exact .refl G | exact G.handle_quiet r
  case fsRestoreFolder F => (repeat' split) <;> first | exact .refl G | exact Folder.restoreIn_quiet _ G
  all_goals (repeat' split) <;> exact ⟨rfl, rfl, rfl, fun _ => rfl, fun _ => rfl⟩

/-- effect of any operation on one file `f` of folder `G` -/
def fileEff (n : Node) (op : Op) (G : Folder) : File → File :=
  match op with
  | .tick => fun f =>
    if n.powerPhase.power = .on ∧ G.deleted = false then
      (fun f2 : File => if G.restoreCd = 1 then File.restoreAll G.files f2 else f2)
        ((fun f1 : File => if G.scanCd = 1 then f1.scan else f1) (if n.powerPhase.scanCd = 1 then f.scan else f))
    else f
  | .folder F r => fun f =>
    if n.power = .on ∧ G.name = F ∧ G.deleted = false then
      (match r with
       | .repair => f.repair
       | .corrupt => f.corrupt
       | _ => f)
    else f
  | .folderDelete F nm | .fsDeleteFile F nm => fun f =>
    if n.power = .on ∧ G.name = F ∧ G.deleted = false ∧ f.name = nm ∧ f.deleted = false then f.deleteAt (G.delCtr + 1) else f
  | .file F nm r => fun f =>
    if n.power = .on ∧ G.name = F ∧ G.deleted = false ∧ f.name = nm ∧ f.deleted = false then (f.handle r).1 else f
  | .fsDeleteFolder F => fun f => if n.power = .on ∧ F ≠ "root" ∧ G.name = F ∧ G.deleted = false then f.deleteAt (G.delCtr + 1) else f
  | .fsRestoreFile F nm => fun f =>
    if n.power = .on ∧ G.name = F ∧ G.deleted = false ∧ f.name = nm then File.restoreIn G.files f else f
  | .fileSet F nm h => fun f => if G.name = F ∧ f.name = nm then { f with actual := h } else f
  | _ => fun f => f

theorem hasLive_map (name : String) (fs : List File) (g : File → File)
    (hg : ∀ x, (g x).name = x.name ∧ (g x).deleted = x.deleted) : hasLive name (fs.map g) = hasLive name fs := by
  unfold hasLive
  rw [List.any_map]
  congr 1
  funext x
  simp only [Function.comp, (hg x).1, (hg x).2]

theorem firstDeleted_map (fs : List File) (g : File → File) (x : File)
    (hg : ∀ y, (g y).name = y.name ∧ (g y).deleted = y.deleted ∧ (g y).delSeq = y.delSeq) :
    firstDeleted (fs.map g) x = firstDeleted fs x := by
  unfold firstDeleted
  rw [List.all_map]
  congr 1
  funext y
  simp only [Function.comp, (hg y).1, (hg y).2.1, (hg y).2.2]

theorem deadTwin_map (fs : List File) (g : File → File) (x : File)
    (hg : ∀ y, (g y).name = y.name ∧ (g y).deleted = y.deleted) : deadTwin (fs.map g) x = deadTwin fs x := by
  unfold deadTwin
  rw [List.filter_map, List.length_map]
  have : ((fun y : File => decide (y.name = x.name) && y.deleted) ∘ g) = (fun y : File => decide (y.name = x.name) && y.deleted) := by
    funext y
    simp only [Function.comp, (hg y).1, (hg y).2]
  rw [this]

@[simp] theorem File.restoreIn_name (fs : List File) (x : File) : (File.restoreIn fs x).name = x.name := by
  unfold File.restoreIn; (repeat' split) <;> simp only [File.restore_name]
@[simp] theorem File.restoreIn_visible (fs : List File) (x : File) : (File.restoreIn fs x).visible = x.visible := by
  unfold File.restoreIn; (repeat' split) <;> simp only [File.restore_visible]
@[simp] theorem File.restoreAll_name (fs : List File) (x : File) : (File.restoreAll fs x).name = x.name := by
  unfold File.restoreAll; (repeat' split) <;> simp only [File.restore_name]
@[simp] theorem File.restoreAll_visible (fs : List File) (x : File) : (File.restoreAll fs x).visible = x.visible := by
  unfold File.restoreAll; (repeat' split) <;> simp only [File.restore_visible]
theorem File.restoreIn_live (fs : List File) (x : File) (h : x.deleted = false) : File.restoreIn fs x = x.restore := by
  unfold File.restoreIn; simp [h]
theorem File.restoreAll_live (fs : List File) (x : File) (h : x.deleted = false) : File.restoreAll fs x = x.restore := by
  unfold File.restoreAll; simp [h]
/-- scanning the files (the node scan / the folder's own scan earlier in the same timestep) does not change which file a restore by
name reaches -/
theorem File.restoreAll_scan (fs : List File) (x : File) : File.restoreAll (fs.map File.scan) x = File.restoreAll fs x := by
  unfold File.restoreAll
  rw [hasLive_map x.name fs File.scan (fun y => ⟨y.scan_name, y.scan_deleted⟩),
    firstDeleted_map fs File.scan x (fun y => ⟨y.scan_name, y.scan_deleted, y.scan_delSeq⟩),
    deadTwin_map fs File.scan x (fun y => ⟨y.scan_name, y.scan_deleted⟩)]

theorem File.scan_scan (f : File) : f.scan.scan = f.scan := by
  unfold File.scan; split <;> simp only [*]

theorem firstDeleted_scan (fs : List File) (f : File) : firstDeleted fs f.scan = firstDeleted fs f := by
  unfold firstDeleted; rw [File.scan_name, File.scan_delSeq]

theorem deadTwin_scan (fs : List File) (f : File) : deadTwin fs f.scan = deadTwin fs f := by
  unfold deadTwin; rw [File.scan_name]

/-- in a timestep that reaches its folder a file is scanned if the whole-node scan fans out or the folder's timed scan completes
(scanning twice is scanning once), and then restored if the folder's restore completes -/
theorem fileEff_tick (n : Node) (G : Folder) (f : File) :
    fileEff n .tick G f =
      if n.powerPhase.power = .on ∧ G.deleted = false then
        (if G.restoreCd = 1 then File.restoreAll G.files (if n.powerPhase.scanCd = 1 ∨ G.scanCd = 1 then f.scan else f)
         else if n.powerPhase.scanCd = 1 ∨ G.scanCd = 1 then f.scan else f)
      else f := by
  have hs : (fun f1 : File => if G.scanCd = 1 then f1.scan else f1) (if n.powerPhase.scanCd = 1 then f.scan else f) =
      if n.powerPhase.scanCd = 1 ∨ G.scanCd = 1 then f.scan else f := by
    by_cases h1 : n.powerPhase.scanCd = 1 <;> by_cases h2 : G.scanCd = 1 <;>
      simp only [h1, h2, if_true, if_false, or_self, or_true, true_or, File.scan_scan]
  simp only [fileEff, hs]

theorem Folder.tick_files (G : Folder) :
    G.tick.files = G.files.map (fun f => (fun f2 : File => if G.restoreCd = 1 then File.restoreAll G.files f2 else f2)
      (if G.scanCd = 1 then f.scan else f)) := by
  unfold Folder.tick
  rw [Folder.restoreTick_files, (Folder.scanTick_rest G).2.2.1, Folder.scanTick_files]
  by_cases h1 : G.restoreCd = 1 <;> by_cases h2 : G.scanCd = 1 <;> simp only [h1, h2, if_true, if_false, List.map_map]
  · apply List.map_congr_left
    intro f _
    exact File.restoreAll_scan _ _
  · simp

theorem folderEff_files (n : Node) (op : Op) (G : Folder) :
    (folderEff n op G).files = G.files.map (fileEff n op G) := by
  cases op <;> simp only [folderEff, fileEff]
  case tick =>
    rw [folderTickEff_eq]
    by_cases hl : n.powerPhase.power = .on ∧ G.deleted = false
    · simp only [hl, and_self, if_true]
      split
      · -- the whole-node scan first: the folder's own tick then works on the scanned files
        rw [Folder.tick_files, Folder.instantScan_files, Folder.instantScan_restoreCd, Folder.instantScan_scanCd, hl.2]
        simp only [Bool.false_eq_true, if_false, List.map_map]
        apply List.map_congr_left
        intro f _
        simp only [Function.comp_def, File.restoreAll_scan]
      · rw [Folder.tick_files]
    · simp only [hl, if_false, List.map_id']
  case folder F r =>
    by_cases h : n.power = .on
    · by_cases h2 : G.name = F ∧ G.deleted = false
      · simp only [h, h2, and_self, if_true]
        cases r <;> simp [Folder.handle, Folder.scan, Folder.repair, Folder.restore, Folder.corrupt, h2.2]
        · split <;> rfl
        · split <;> rfl
      · simp [h, h2]
    · simp [h]
  case folderDelete F nm =>
    by_cases h : n.power = .on <;> by_cases hn : G.name = F <;> by_cases hd : G.deleted = false <;>
      simp [h, hn, hd, Folder.mapLiveFile, Folder.delLive]
  case fsDeleteFile F nm =>
    by_cases h : n.power = .on <;> by_cases hn : G.name = F <;> by_cases hd : G.deleted = false <;>
      simp [h, hn, hd, Folder.mapLiveFile, Folder.delLive]
  case file F nm r =>
    by_cases h : n.power = .on <;> by_cases hn : G.name = F <;> by_cases hd : G.deleted = false <;>
      simp [h, hn, hd, Folder.mapLiveFile]
  case fsDeleteFolder F =>
    by_cases h : n.power = .on <;> by_cases hn : G.name = F <;> by_cases hd : G.deleted = false <;>
      by_cases hr : F = "root" <;> simp [h, hn, hd, hr, Folder.delete, Folder.deleteAt]
  case fsRestoreFile F nm =>
    by_cases h : n.power = .on <;> by_cases hn : G.name = F <;> by_cases hd : G.deleted = false <;>
      simp [h, hn, hd, Folder.mapFile, mapNamed]
  case fsRestoreFolder F =>
    by_cases h : n.power = .on <;> by_cases hn : G.name = F <;> simp [h, hn]
    rcases Folder.restoreIn_cases n.folders G with e | e <;> rw [e]
    unfold Folder.restore; split <;> rfl
  case fileSet F nm hh =>
    by_cases hn : G.name = F <;> simp [hn, Folder.mapFile, mapNamed]
  all_goals simp

theorem folderEff_files_getElem {n : Node} {G : Folder} {k : Nat} {f : File} (op : Op) (h : G.files[k]? = some f) :
    (folderEff n op G).files[k]? = some (fileEff n op G f) := by
  rw [folderEff_files, List.getElem?_map, h]; rfl

/-- what the start-up / shut-down actions of a node (`Service.start` / `stop`, `Application.run` / `close`) can do to an item: move
its operating state, never into or out of INSTALLING, and turn UNUSED into GOOD; countdowns and durations stay. -/
structure Sw.PowerRel (y x : Sw) : Prop where
  same : Sw.Same y x
  fixCd : y.fixCd = x.fixCd
  auxCd : y.auxCd = x.auxCd
  auxDur : y.auxDur = x.auxDur
  installing : y.op = .installing ↔ x.op = .installing
  actual : y.actual = x.actual ∨ (x.actual = .unused ∧ y.actual = .good)

theorem Sw.PowerRel.refl (x : Sw) : Sw.PowerRel x x := ⟨.refl x, rfl, rfl, rfl, Iff.rfl, Or.inl rfl⟩
theorem Sw.PowerRel.trans {a b c : Sw} (h1 : Sw.PowerRel a b) (h2 : Sw.PowerRel b c) : Sw.PowerRel a c := by
  refine ⟨h1.same.trans h2.same, h1.fixCd.trans h2.fixCd, h1.auxCd.trans h2.auxCd, h1.auxDur.trans h2.auxDur,
    h1.installing.trans h2.installing, ?_⟩
  rcases h2.actual with e2 | ⟨u2, g2⟩
  · rcases h1.actual with e1 | ⟨u1, g1⟩
    · exact Or.inl (e1.trans e2)
    · exact Or.inr ⟨e2 ▸ u1, g1⟩
  · rcases h1.actual with e1 | ⟨u1, _⟩
    · exact Or.inr ⟨u2, e1.trans g2⟩
    · rw [g2] at u1; cases u1

theorem Sw.wake_rel (x : Sw) : Sw.PowerRel x.wake x := by
  unfold Sw.wake
  split
  · rename_i h; exact ⟨⟨rfl, rfl, rfl, rfl⟩, rfl, rfl, rfl, Iff.rfl, Or.inr ⟨h, rfl⟩⟩
  · exact .refl x

theorem Sw.PowerRel.setOp {y x : Sw} (h : Sw.PowerRel y x) (o : OpSt) (ho : o ≠ .installing) (hx : x.op ≠ .installing) :
    Sw.PowerRel { y with op := o } x :=
  ⟨⟨h.same.name, h.same.isApp, h.same.visible, h.same.fixDur⟩, h.fixCd, h.auxCd, h.auxDur,
    ⟨fun e => absurd e ho, fun e => absurd e hx⟩, h.actual⟩

theorem Sw.startUp_rel (x : Sw) : Sw.PowerRel x.startUp x := by
  unfold Sw.startUp
  split
  · split
    · rename_i h
      exact x.wake_rel.setOp .running (by decide) (by simp [h])
    · exact .refl x
  · split
    · rename_i h
      exact x.wake_rel.setOp .running (by decide) (by simp [h])
    · exact .refl x

theorem Sw.shutDown_rel (x : Sw) : Sw.PowerRel x.shutDown x := by
  unfold Sw.shutDown
  split
  · split
    · rename_i h
      exact (Sw.PowerRel.refl x).setOp .closed (by decide) (by simp [h])
    · exact .refl x
  · split
    · rename_i h
      exact (Sw.PowerRel.refl x).setOp .stopped (by decide) (by rcases h with h | h <;> simp [h])
    · exact .refl x

theorem powerOnEff_rel (n : Node) (x : Sw) : Sw.PowerRel (powerOnEff n x) x := by
  unfold powerOnEff; split
  · exact x.startUp_rel
  · exact .refl x

/-- what `reset` with `shut_down_duration <= 0` does to an item: stopped / closed, then started again if the node boots at once -/
theorem resetNowEff_rel (n : Node) (x : Sw) : Sw.PowerRel (powerOnEff n x.shutDown) x :=
  (powerOnEff_rel n x.shutDown).trans x.shutDown_rel

theorem offNowEff_rel (n : Node) (x : Sw) : Sw.PowerRel (offNowEff n x) x := by
  unfold offNowEff; split
  · exact resetNowEff_rel n x
  · exact x.shutDown_rel

theorem powerEff_rel (n : Node) (x : Sw) : Sw.PowerRel (powerEff n x) x := by
  have hb : Sw.PowerRel (bootEff n x) x := by
    unfold bootEff
    split
    · exact .refl x
    · split
      · exact x.startUp_rel
      · exact .refl x
  have hs : ∀ (m : Node) (y : Sw), Sw.PowerRel (shutEff m y) y := by
    intro m y
    unfold shutEff
    split
    · exact .refl y
    · split
      · exact offNowEff_rel m y
      · exact .refl y
  exact (hs _ _).trans hb

/-- A timestep on one software item, for a property `P` that start-up / shut-down actions and a scan keep: on a node that is ON
after its power phase the item's own tick runs on an item with `P`; otherwise the item still has `P`. -/
theorem tickEff_on_off {P T : Sw → Prop} (n : Node) (x : Sw) (hrel : ∀ y, Sw.PowerRel y x → P y) (hscan : ∀ y, P y → P y.scan)
    (htick : ∀ y, P y → T y.tick) :
    (n.powerPhase.power = .on → T (tickEff n x)) ∧ (n.powerPhase.power ≠ .on → P (tickEff n x)) := by
  have hp := hrel _ (powerEff_rel n x)
  unfold tickEff
  constructor
  · intro hon
    rw [if_pos hon]
    split
    · exact htick _ (hscan _ hp)
    · exact htick _ hp
  · intro hoff
    rw [if_neg hoff]
    exact hp

theorem tickEff_keeps {P : Sw → Prop} (n : Node) (x : Sw) (hrel : ∀ y, Sw.PowerRel y x → P y) (hscan : ∀ y, P y → P y.scan)
    (htick : ∀ y, P y → P y.tick) : P (tickEff n x) :=
  (Decidable.em (n.powerPhase.power = .on)).elim (tickEff_on_off n x hrel hscan htick).1 (tickEff_on_off n x hrel hscan htick).2

/-- What an operation other than a timestep does to one software item, as a case analysis: it leaves the item alone (not addressed,
refused, node not ON, a file-system operation); or it runs start-up / shut-down actions on it (`PowerRel`: `startup`, a `shutdown` /
`reset` that takes effect at once, `Application.run()`); or the item accepts a request; or it is the target of an external
`set_health_state` or of `install()`. -/
theorem swEff_cases {motive : Sw → Prop} (n : Node) (op : Op) (x : Sw) (hop : op ≠ .tick)
    (same : (∀ k nm r, op = .sw k nm r → ¬ (n.power = .on ∧ x.accepts k nm r = true)) → motive x)
    (power : (op = .startup ∨ ((op = .shutdown ∨ op = .reset) ∧ n.power = .on ∧ n.shutDur ≤ 0) ∨
        (op = .appRun x.name ∧ n.power = .on)) → ∀ y, Sw.PowerRel y x → motive y)
    (request : ∀ k nm r, op = .sw k nm r → n.power = .on → x.accepts k nm r = true → motive (x.handle r).1)
    (set : ∀ h, op = .swSet x.name h → motive (x.setHealth h.toSwH))
    (install : op = .appInstall x.name → motive x.install) :
    motive (swEff n op x) := by
  cases op <;> simp only [swEff]
  case tick => exact absurd rfl hop
  case shutdown =>
    (repeat' split) <;> first | exact same (fun _ _ _ e => Op.noConfusion e) |
      exact power (Or.inr (Or.inl ⟨Or.inl rfl, ‹_›, ‹_›⟩)) _ (offNowEff_rel n x)
  case reset =>
    (repeat' split) <;> first | exact same (fun _ _ _ e => Op.noConfusion e) |
      exact power (Or.inr (Or.inl ⟨Or.inr rfl, ‹_›, ‹_›⟩)) _ (resetNowEff_rel n x)
  case startup => split <;> first | exact same (fun _ _ _ e => Op.noConfusion e) | exact power (Or.inl rfl) _ (powerOnEff_rel n x)
  case appRun nm =>
    (repeat' split) <;> first | exact same (fun _ _ _ e => Op.noConfusion e) |
      exact power (Or.inr (Or.inr ⟨by rw [(‹x.name = nm ∧ x.isApp = true›).1], ‹_›⟩)) _ x.startUp_rel
  case sw k nm r =>
    unfold Sw.request
    by_cases h : n.power = .on ∧ x.accepts k nm r = true
    · rw [if_pos h.1, if_pos h.2]; exact request k nm r rfl h.1 h.2
    · have : (if n.power = .on then (if x.accepts k nm r = true then (x.handle r).1 else x) else x) = x := by
        (repeat' split) <;> first | rfl | exact absurd ⟨‹_›, ‹_›⟩ h
      rw [this]
      exact same (fun k' nm' r' e => by cases e; exact h)
  case swSet nm h =>
    split
    · rename_i e; subst e; exact set h rfl
    · exact same (fun _ _ _ e => Op.noConfusion e)
  case appInstall nm =>
    split
    · rename_i e; subst e; exact install rfl
    · exact same (fun _ _ _ e => Op.noConfusion e)
  all_goals exact same (fun _ _ _ e => Op.noConfusion e)

end Primaite.Health
