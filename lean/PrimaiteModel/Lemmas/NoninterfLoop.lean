/-
C03 — the loop language: a well-formed loop is a permutation-invariant consumer, for every interpretation of the pure functions.
-/
import PrimaiteModel.Model.NoninterfLoop
import PrimaiteModel.Lemmas.NoninterfSites

namespace Primaite.Noninterf.LoopIR

def Agree (A : List String) (s s' : Store) : Prop := ∀ v, v ∈ A → s.get v = s'.get v

theorem Expr.eval_agree {P : Prims} {x : Nat} {A : List String} {s s' : Store} (h : Agree A s s') :
    ∀ e : Expr, e.readsOk A = true → e.eval P x s = e.eval P x s'
  | .const _, _ => rfl
  | .elem, _ => rfl
  | .var v, hr => h v (List.contains_iff_mem.mp hr)
  | .app1 f a, hr => congrArg (P.f1 f) (Expr.eval_agree h a hr)
  | .app2 f a b, hr => by
    rw [Expr.readsOk, Bool.and_eq_true] at hr
    simp only [Expr.eval, Expr.eval_agree h a hr.1, Expr.eval_agree h b hr.2]

theorem Store.get_cons (s : Store) (v w : String) (n : Nat) :
    Store.get ((v, n) :: s) w = if w = v then n else s.get w := by
  unfold Store.get
  rw [List.lookup_cons]
  by_cases h : w = v
  · simp [h]
  · rw [beq_false_of_ne h, if_neg h]

theorem Agree.cons {A : List String} {s s' : Store} (h : Agree A s s') (v : String) (n : Nat) :
    Agree (v :: A) ((v, n) :: s) ((v, n) :: s') := by
  intro w hw
  rw [Store.get_cons, Store.get_cons]
  split
  · rfl
  · exact h w ((List.mem_cons.mp hw).resolve_left ‹_›)

theorem Stmt.exec_agree (P : Prims) (x : Nat) :
    ∀ (b : Stmt) (A : List String) (s s' : Store), Agree A s s' → b.readsOk A = true →
      (b.exec P x s).2 = (b.exec P x s').2 ∧ Agree (b.defs A) (b.exec P x s).1 (b.exec P x s').1 := by
  intro b A s s' h hr
  induction b generalizing A s s' with
  | skip => exact ⟨rfl, h⟩
  | assign v e =>
    simp only [Stmt.exec, Expr.eval_agree h e hr]
    exact ⟨trivial, h.cons v _⟩
  | seq a b iha ihb =>
    rw [Stmt.readsOk, Bool.and_eq_true] at hr
    have ha := iha A s s' h hr.1
    have hb := ihb (a.defs A) _ _ ha.2 hr.2
    exact ⟨by simp only [Stmt.exec, ha.1, hb.1], hb.2⟩
  | ite c t e iht ihe =>
    simp only [Stmt.readsOk, Bool.and_eq_true] at hr
    have ht := iht A s s' h hr.1.2
    have he := ihe A s s' h hr.2
    simp only [Stmt.exec, Expr.eval_agree h c hr.1.1]
    split
    · exact ⟨ht.1, fun w hw => ht.2 w (List.mem_filter.mp hw).1⟩
    · exact ⟨he.1, fun w hw => he.2 w (List.contains_iff_mem.mp (List.mem_filter.mp hw).2)⟩
  | emit acc k v =>
    rw [Stmt.readsOk, Bool.and_eq_true] at hr
    simp only [Stmt.exec, Expr.eval_agree h k hr.1, Expr.eval_agree h v hr.2]
    exact ⟨trivial, h⟩

def iterEmits (P : Prims) (body : Stmt) (x : Nat) : List Emit := (body.exec P x []).2

theorem runLoop_eq_flatMap (P : Prims) (body : Stmt) (h : body.readsOk [] = true) :
    ∀ (l : List Nat) (s : Store), runLoop P body l s = l.flatMap (iterEmits P body)
  | [], _ => rfl
  | x :: t, s => by
    have h1 := (Stmt.exec_agree P x body [] s [] (fun _ => nofun) h).1
    simp only [runLoop, List.flatMap_cons, iterEmits, h1, runLoop_eq_flatMap P body h t]

theorem accOf_append (acc : String) (a b : List Emit) : accOf acc (a ++ b) = accOf acc a ++ accOf acc b := by
  simp only [accOf, List.filter_append, List.map_append]

theorem accOf_flatMap (acc : String) (F : Nat → List Emit) (l : List Nat) :
    accOf acc (l.flatMap F) = l.flatMap fun x => accOf acc (F x) := by
  simp only [accOf, List.filter_flatMap, List.map_flatMap]

theorem keyedByElem_exec (P : Prims) (x : Nat) (acc : String) :
    ∀ (b : Stmt) (s : Store), b.keyedByElem acc = true → ∀ e ∈ accOf acc (b.exec P x s).2, e.1 = x := by
  intro b s h e he
  induction b generalizing s with
  | skip | assign => nomatch he
  | seq a b iha ihb =>
    rw [Stmt.keyedByElem, Bool.and_eq_true] at h
    rw [Stmt.exec, accOf_append, List.mem_append] at he
    exact he.elim (iha s h.1) (ihb _ h.2)
  | ite c t f iht ihf =>
    rw [Stmt.keyedByElem, Bool.and_eq_true] at h
    rw [Stmt.exec] at he
    split at he
    · exact iht s h.1 he
    · exact ihf s h.2 he
  | emit a k v =>
    simp only [Stmt.keyedByElem, Bool.or_eq_true, bne_iff_ne, ne_eq, beq_iff_eq] at h
    simp only [Stmt.exec, accOf, List.filter_cons, List.filter_nil] at he
    split at he
    · rcases h with h | rfl
      · exact absurd (beq_iff_eq.mp ‹_›) h
      · rw [List.mem_singleton.mp he]; rfl
    · nomatch he

theorem flatMap_only_at (G : Nat → List (Nat × Nat)) (k : Nat) (hG : ∀ x, x ≠ k → G x = []) :
    ∀ l : List Nat, l.flatMap G = (List.replicate (l.count k) (G k)).flatten
  | [] => rfl
  | a :: t => by
    by_cases h : a = k
    · subst h
      simp [List.flatMap_cons, flatMap_only_at G a hG t, List.replicate_succ]
    · simp [List.flatMap_cons, hG a h, flatMap_only_at G k hG t, List.count_cons_of_ne h]

theorem observe_invariant (keys : List Nat) (u : Use) (G : Nat → List (Nat × Nat)) (hu : u ≠ .ordered)
    (hk : u = .byKey → ∀ x, ∀ e ∈ G x, e.1 = x) (l l' : List Nat) (h : l.Perm l') :
    observe keys u (l.flatMap G) = observe keys u (l'.flatMap G) := by
  have hp : (l.flatMap G).Perm (l'.flatMap G) := h.flatMap_right G
  cases u with
  | asSet => exact canonSet_invariant _ _ (hp.map _)
  | asSorted => exact sortedIter_invariant _ _ (hp.map _)
  | lenOnly => simp only [observe, hp.length_eq]
  | dropped => rfl
  | ordered => exact absurd rfl hu
  | byKey =>
    simp only [observe]
    apply List.map_congr_left
    intro k _
    -- only the occurrences of `k` in the set contribute to the entries under the key `k`
    have hG : ∀ x, x ≠ k → (G x).filter (fun e => e.1 == k) = [] := fun x hx =>
      List.filter_eq_nil_iff.mpr fun e he => by rwa [beq_iff_eq, hk rfl x e he]
    rw [List.filter_flatMap, List.filter_flatMap, flatMap_only_at _ k hG l, flatMap_only_at _ k hG l', h.count_eq]

theorem wellFormed_invariant (P : Prims) (keys : List Nat) (p : Loop) (hw : p.wellFormed = true) :
    Invariant (p.consumer P keys) := by
  intro l l' h
  simp only [Loop.wellFormed, Bool.and_eq_true, List.all_eq_true] at hw
  obtain ⟨⟨hr, _⟩, hu⟩ := hw
  unfold Loop.consumer
  rw [List.flatMap_def, List.flatMap_def]
  refine congrArg List.flatten (List.map_congr_left fun u hmem => ?_)
  have hu' := hu u hmem
  simp only [bne_iff_ne, ne_eq, Bool.or_eq_true] at hu'
  rw [runLoop_eq_flatMap P p.body hr, runLoop_eq_flatMap P p.body hr, accOf_flatMap, accOf_flatMap]
  exact observe_invariant keys u.2 _ hu'.1
    (fun hb x => keyedByElem_exec P x u.1 p.body [] (hu'.2.resolve_left fun hn => hn hb)) l l' h

theorem consumer_asSet_eq_listenPorts (P : Prims) (keys : List Nat) {body : Stmt} {acc : String} {lookup : Nat → Option Nat}
    (hr : body.readsOk [] = true) (hit : ∀ x, (accOf acc (iterEmits P body x)).map (·.2) = (lookup x).toList) (l : List Nat) :
    (Loop.mk body [(acc, .asSet)]).consumer P keys l = listenPorts lookup l := by
  have h : (l.flatMap fun x => accOf acc (iterEmits P body x)).map (·.2) = l.filterMap lookup := by
    induction l with
    | nil => rfl
    | cons a t ih =>
      rw [List.flatMap_cons, List.map_append, ih, hit, List.filterMap_cons]
      cases lookup a <;> rfl
  simp only [Loop.consumer, List.flatMap_cons, List.flatMap_nil, List.append_nil, observe, listenPorts]
  rw [runLoop_eq_flatMap P body hr, accOf_flatMap, h]

end Primaite.Noninterf.LoopIR
