/-
C16 helper: the fuel `Net.fuel` given to the disconnect recursion `chain` always suffices (in every state, reachable or not):
every `_disconnect` that goes on first removes a connection, so the number of connections in the network bounds the depth.
With it: the clock, the `stuck` flag and the id counter across a tick (`tick_not_stuck`, `tick_time`, `tick_nextId`) and across every
other operation (`Net.Keeps`, `exec_keeps`, `step_keeps`).
-/
import PrimaiteModel.Lemmas.SessionCases
namespace Primaite.Session

/-- number of terminal connections in a list of nodes -/
def tc (l : List Node) : Nat := (l.map (fun nd => nd.conns.length)).sum

theorem totalConns_eq (n : Net) : n.totalConns = tc n.nodes := rfl

theorem tc_updAt_le (l : List Node) (i : Nat) (f : Node → Node) (hf : ∀ a, (f a).conns.length ≤ a.conns.length) :
    tc (updAt l i f) ≤ tc l := by
  induction l generalizing i with
  | nil => simp [updAt, tc]
  | cons a t ih =>
    cases i with
    | zero => have := hf a; simp only [updAt, tc, List.map_cons, List.sum_cons]; omega
    | succ i => have := ih i; simp only [updAt, tc, List.map_cons, List.sum_cons] at this ⊢; omega

theorem tc_updAt_lt (l : List Node) (i : Nat) (f : Node → Node) (a : Node) (hl : l[i]? = some a)
    (hlt : (f a).conns.length < a.conns.length) : tc (updAt l i f) < tc l := by
  induction l generalizing i with
  | nil => simp at hl
  | cons b t ih =>
    cases i with
    | zero =>
      simp only [List.getElem?_cons_zero, Option.some.injEq] at hl; subst hl
      simp only [updAt, tc, List.map_cons, List.sum_cons]; omega
    | succ i =>
      simp only [List.getElem?_cons_succ] at hl
      have := ih i hl
      simp only [updAt, tc, List.map_cons, List.sum_cons] at this ⊢; omega

theorem dropConn_len_le (cid : Nat) (a : Node) : (a.dropConn cid).conns.length ≤ a.conns.length := List.length_filter_le _ _

theorem dropConn_len_lt (cid : Nat) (a : Node) (c : Conn) (h : a.conns.find? (fun c => c.id == cid) = some c) :
    (a.dropConn cid).conns.length < a.conns.length := by
  unfold Node.dropConn
  apply List.length_filter_lt_length_iff_exists.mpr
  refine ⟨c, List.mem_of_find?_eq_some h, ?_⟩
  have := List.find?_some h
  simp only [beq_iff_eq] at this
  simp [this]

theorem localLogout_len_le (a : Node) : a.localLogout.conns.length ≤ a.conns.length :=
  (shr_localLogout a).conns.length_le

@[simp] theorem upd_stuck (n : Net) (i : Nat) (f : Node → Node) : (n.upd i f).stuck = n.stuck := rfl
@[simp] theorem bump_stuck (n : Net) (k : Nat) : (n.bump k).stuck = n.stuck := rfl

/-- fuel needed by each of the three procedures when `T` connections exist -/
def need : Hop → Nat → Nat
  | .disconnect, T => 3 * T + 1
  | .remoteLogout, T => 3 * T + 2
  | .onDisconnect, T => 3 * T + 3

theorem chain_ok (f : Nat) : ∀ (h : Hop) (n : Net) (i cid : Nat), need h n.totalConns ≤ f →
    (chain f h n i cid).stuck = n.stuck ∧ (chain f h n i cid).totalConns ≤ n.totalConns := by
  induction f with
  | zero => intro h n i cid hf; cases h <;> simp [need] at hf
  | succ f ih =>
    intro h n i cid hf
    cases h with
    | disconnect =>
      simp only [need] at hf
      unfold chain
      split
      · exact ⟨rfl, Nat.le_refl _⟩
      · rename_i nd hnd
        split
        · exact ⟨rfl, Nat.le_refl _⟩
        · rename_i c hc
          have hle1 : (n.upd i (Node.dropConn cid)).totalConns < n.totalConns :=
            tc_updAt_lt n.nodes i _ nd hnd (dropConn_len_lt cid nd c hc)
          split
          · refine ⟨rfl, ?_⟩
            exact Nat.le_trans (tc_updAt_le _ i _ localLogout_len_le) (Nat.le_of_lt hle1)
          · rename_i p _
            split
            · have := ih .onDisconnect (n.upd i (Node.dropConn cid)) p cid (by simp only [need]; omega)
              exact ⟨this.1, Nat.le_trans this.2 (Nat.le_of_lt hle1)⟩
            · exact ⟨rfl, Nat.le_of_lt hle1⟩
    | onDisconnect =>
      simp only [need] at hf
      unfold chain
      split
      · exact ⟨rfl, Nat.le_refl _⟩
      · split
        · split
          · have h1 := ih .disconnect n i cid (by simp only [need]; omega)
            have h2 := ih .remoteLogout (chain f .disconnect n i cid) i cid (by simp only [need]; omega)
            exact ⟨h2.1.trans h1.1, Nat.le_trans h2.2 h1.2⟩
          · exact ⟨rfl, Nat.le_refl _⟩
        · exact ih .disconnect n i cid (by simp only [need]; omega)
    | remoteLogout =>
      simp only [need] at hf
      unfold chain
      split
      · exact ⟨rfl, Nat.le_refl _⟩
      · split
        · have h1 := ih .disconnect n i cid (by simp only [need]; omega)
          exact ⟨h1.1, Nat.le_trans (tc_updAt_le _ i _ (fun a => Nat.le_refl _)) h1.2⟩
        · exact ⟨rfl, Nat.le_refl _⟩

theorem disconnect_fuel (n : Net) (i cid : Nat) :
    (disconnect n.fuel n i cid).stuck = n.stuck ∧ (disconnect n.fuel n i cid).totalConns ≤ n.totalConns :=
  chain_ok n.fuel .disconnect n i cid (by simp only [need, Net.fuel]; omega)

theorem forceLogout_not_stuck (n : Net) (j cid : Nat) : (forceLogout n j cid).stuck = n.stuck := by
  unfold forceLogout; simp [(disconnect_fuel _ _ _).1]

theorem foldl_not_stuck {α : Type} (g : Net → α → Net) (hg : ∀ m a, (g m a).stuck = m.stuck) (l : List α) (n : Net) :
    (l.foldl g n).stuck = n.stuck := by
  induction l generalizing n with
  | nil => rfl
  | cons a t ih => simp only [List.foldl_cons]; rw [ih, hg]

theorem logoutUser_not_stuck (n : Net) (j : Nat) (u : String) : (logoutUser n j u).stuck = n.stuck := by
  unfold logoutUser
  split
  · rfl
  · simp only [upd_stuck]
    exact foldl_not_stuck _ (fun m cid => forceLogout_not_stuck m j cid) _ _

theorem timeoutRemote_not_stuck (n : Net) (y : Nat) (s : RSession) : (timeoutRemote n y s).stuck = n.stuck := by
  unfold timeoutRemote; dsimp only; split <;> rfl

theorem preTimestepNode_not_stuck (n : Net) (y : Nat) : (preTimestepNode n y).stuck = n.stuck := by
  unfold preTimestepNode
  split
  · rfl
  · dsimp only
    rw [foldl_not_stuck _ (fun m s => timeoutRemote_not_stuck m y s)]
    split <;> rfl

theorem tick_not_stuck (n : Net) : (tick n).stuck = n.stuck := by
  unfold tick
  dsimp only
  rw [foldl_not_stuck _ preTimestepNode_not_stuck]

theorem tick_time (n : Net) : (tick n).time = n.time + 1 := by
  unfold tick
  exact (shr_foldl preTimestepNode shr_preTimestepNode _ _).time

theorem tick_nextId (n : Net) : (tick n).nextId = n.nextId := by
  unfold tick
  exact (shr_foldl preTimestepNode shr_preTimestepNode _ _).nextId

/-! ### what every operation but `tick` leaves alone -/

structure Net.Keeps (n m : Net) : Prop where
  time : m.time = n.time
  stuck : m.stuck = n.stuck
  nextId : n.nextId ≤ m.nextId

theorem Net.Keeps.refl (n : Net) : n.Keeps n := ⟨rfl, rfl, Nat.le_refl _⟩

theorem Net.Keeps.trans {n m k : Net} (h1 : n.Keeps m) (h2 : m.Keeps k) : n.Keeps k :=
  ⟨h2.time.trans h1.time, h2.stuck.trans h1.stuck, Nat.le_trans h1.nextId h2.nextId⟩

theorem keeps_upd (n : Net) (i : Nat) (f : Node → Node) : n.Keeps (n.upd i f) := ⟨rfl, rfl, Nat.le_refl _⟩

theorem Net.Shr.keeps {n m : Net} (h : n.Shr m) (hs : m.stuck = n.stuck) : n.Keeps m :=
  ⟨h.time, hs, Nat.le_of_eq h.nextId.symm⟩

theorem keeps_disconnect (n : Net) (i cid : Nat) : n.Keeps (disconnect n.fuel n i cid) :=
  (shr_disconnect _ n i cid).keeps (disconnect_fuel n i cid).1

theorem keeps_localLogin (n : Net) (y : Nat) (u p : String) : n.Keeps (localLogin n y u p).1 := by
  rcases localLogin_cases n y u p with h | ⟨_, _, _, h⟩ <;> rw [h]
  · exact .refl n
  · exact ⟨rfl, rfl, by simp only [bump_nextId]; split <;> omega⟩

theorem keeps_afterLogin (n : Net) (x y : Nat) (u : String) : n.Keeps (afterLogin n x y u) := ⟨rfl, rfl, Nat.le_succ _⟩

theorem exec_keeps (c : Cmd) (n : Net) (y : Nat) : n.Keeps (execCmd c n y).1 := by
  refine exec_induction'' Net.Keeps .refl (fun _ _ _ h1 h2 => h1.trans h2) ?_ keeps_disconnect (fun n y _ _ => keeps_upd n y _)
    keeps_localLogin (fun n y u p _ _ => (keeps_localLogin n y u p).trans (keeps_upd ..)) c n y
  intro c hc n y
  cases c with
  | localCmd u p c => cases hc
  | remoteCmd z c => cases hc
  | file k =>
    rcases opFile_cases n y k with h | ⟨_, _, _, h⟩ <;> rw [execCmd, h]
    · exact .refl n
    · exact keeps_upd ..
  | addUser u p adm =>
    rcases opAddUser_cases n y u p adm with h | ⟨_, _, _, _, _, h⟩ <;> rw [execCmd, h]
    · exact .refl n
    · exact keeps_upd ..
  | disableUser u =>
    rcases opDisableUser_cases n y u with ⟨h, _⟩ | ⟨_, _, _, _, _, _, _, _, h, _⟩ <;> rw [execCmd, h]
    · exact .refl n
    · exact keeps_upd ..
  | changePassword u o nw =>
    rcases opChangePassword_cases n y u o nw with ⟨h, _⟩ | ⟨_, _, _, _, _, _, _, h, _⟩ <;> rw [execCmd, h]
    · exact .refl n
    · exact (keeps_upd ..).trans ((shr_logoutUser ..).keeps (logoutUser_not_stuck ..))
  | remoteLogin z u p =>
    rcases opRemoteLogin_cases n y z u p with ⟨h, _⟩ | ⟨_, _, _, _, _, _, _, _, ⟨h, _⟩ | ⟨h, _⟩⟩ <;> rw [execCmd, h]
    · exact .refl n
    · exact keeps_afterLogin ..
    · exact (keeps_afterLogin ..).trans (keeps_upd ..)
  | remoteLogoff z =>
    rcases opRemoteLogoff_cases n y z with h | ⟨_, _, _, _, _, h, _⟩ <;> rw [execCmd, h]
    · exact .refl n
    · exact keeps_disconnect ..
  | usmLogin u p peer =>
    rcases opUsmLogin_cases n y u p peer with ⟨h, _⟩ | ⟨_, _, _, _, _, h, _⟩ <;> rw [execCmd, h]
    · exact .refl n
    · exact ⟨rfl, rfl, Nat.le_succ _⟩
  | usmLogout i =>
    rcases opUsmLogout_cases n y i with ⟨h, _⟩ | ⟨_, _, _, _, _, h⟩ <;> rw [execCmd, h]
    · exact .refl n
    · exact (keeps_disconnect ..).trans (keeps_upd ..)
  | svc w v => exact ofData_elim (opSvc_cases n y w v) (.refl n) (fun f _ => keeps_upd n y f)
  | shutdown => exact ofData_elim (opShutdown_cases n y) (.refl n) (fun f _ => keeps_upd n y f)
  | startup => exact ofData_elim (opStartup_cases n y) (.refl n) (fun f _ => keeps_upd n y f)
  | reset => exact ofData_elim (opReset_cases n y) (.refl n) (fun f _ => keeps_upd n y f)

theorem step_keeps (n : Net) (op : Op) (hop : op ≠ .tick) : n.Keeps (step n op).1 := by
  cases op with
  | req y c => exact exec_keeps c n y
  | enableUser y u =>
    rcases opEnableUser_cases n y u with h | h <;> rw [step, h]
    · exact .refl n
    · exact keeps_upd ..
  | addUserBypass y u p adm =>
    rcases opAddUserBypass_cases n y u p adm with h | ⟨_, _, _, h⟩ <;> rw [step, h]
    · exact .refl n
    · exact keeps_upd ..
  | localLogin y u p => rw [step, opLocalLogin_fst]; exact keeps_localLogin n y u p
  | localLogout y =>
    rcases opLocalLogout_cases n y with h | h <;> rw [step, h]
    · exact .refl n
    · exact keeps_upd ..
  | tick => exact (hop rfl).elim
  | setBlock x y on => exact ⟨rfl, rfl, Nat.le_refl _⟩

end Primaite.Session
