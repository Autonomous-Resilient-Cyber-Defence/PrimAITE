/-
What the element model of Model/Filter.lean and Model/FilterClass.lean does, case by case, in the form the closure proofs of
Props/C06*.lean use: the interface gate in front of `nodeLayer`, the host layer, the router layer, the two stages of the firewall layer, and the
router's ARP service (one reply or nothing).

The layer lemmas are stated for any property `Q` of scripts that holds of a finished script in a `P`-state (`hdone`) and, for the
firewall, is closed under sequencing (`hbind`).  `Pres P` is such a property; so is "safe behind the interface-send layer",
`SafeG sys side K I portEnabled n` (Lemmas/C06Cut.lean) with `P = I n`.
-/
import PrimaiteModel.Model.FilterClass
import PrimaiteModel.Lemmas.C06Cut
namespace Primaite.Filter
open Primaite Primaite.Acl Primaite.Cut

variable {W : Type}

theorem portEnabled_some {s : Node W} {q : Nat} (h : portEnabled s q = true) : ∃ i, s.ifaces[q]? = some i ∧ i.enabled = true := by
  unfold portEnabled at h
  cases hi : s.ifaces[q]? with
  | none => simp [hi] at h
  | some i => exact ⟨i, rfl, by simpa [hi] using h⟩

theorem portEnabled_of_allDown (s : Node W) (h : ∀ i ∈ s.ifaces, i.enabled = false) (q : Nat) : portEnabled s q = false := by
  unfold portEnabled
  cases hi : s.ifaces[q]? with
  | none => rfl
  | some i => exact h i (List.mem_of_getElem? hi)

theorem ifaceRx_eq_up_iff (k : Kind) (ifs : List Iface) (i : Iface) (f f' : Frame) :
    ifaceRx k ifs i f = .up f' ↔
      i.enabled = true ∧ ¬ f.ttl - 1 < 1 ∧ { f with ttl := f.ttl - 1 } = f' ∧
      match k with
      | .switch => True
      | .router | .firewall => f.dstMac = i.mac ∨ f.dstMac = bcastMac
      | .host =>
        if f.dstMac = bcastMac then f.pkt.dstIp = i.ip ∨ f.pkt.dstIp = i.bcastAddr
        else f.dstMac = i.mac ∧ ∃ j ∈ ifs, j.ip = f.pkt.dstIp := by
  unfold ifaceRx
  cases i.enabled
  · simp
  · by_cases ht : f.ttl - 1 < 1
    · simp [ht]
    · cases k <;> simp [ht] <;> (repeat' split) <;> simp [*]

theorem ifaceRx_up (k : Kind) (ifs : List Iface) (i : Iface) (f f' : Frame) (h : ifaceRx k ifs i f = .up f') :
    f' = { f with ttl := f.ttl - 1 } ∧ i.enabled = true :=
  let ⟨he, _, hf, _⟩ := (ifaceRx_eq_up_iff k ifs i f f').mp h
  ⟨hf.symm, he⟩

theorem ifaceRx_router_mac (ifs : List Iface) (i : Iface) (f f' : Frame) (h : ifaceRx .router ifs i f = .up f') :
    f.dstMac = i.mac ∨ f.dstMac = bcastMac :=
  ((ifaceRx_eq_up_iff .router ifs i f f').mp h).2.2.2

theorem nodeRx_closed (Q : Script W → Prop) (soft : Soft W) (s : Node W) (p : Nat) (f : Frame) (hdone : Q (.done s))
    (hup : ∀ i, s.ifaces[p]? = some i → ifaceRx s.kind s.ifaces i f = .up { f with ttl := f.ttl - 1 } →
      Q (guardSends portEnabled (nodeLayer soft s p { f with ttl := f.ttl - 1 }))) :
    Q (nodeRx soft s p f) := by
  unfold nodeRx
  split
  · exact hdone
  · rename_i i hi
    split
    · rename_i hg
      obtain ⟨rfl, _⟩ := ifaceRx_up _ _ _ _ _ hg
      exact hup i hi hg
    · exact hdone

theorem portEntry_cases (p : Nat) (e : FwEntry) (h : portEntry p = some e) :
    (e = .extIn ∧ p = extPort) ∨ (e = .intOut ∧ p = intPort) ∨ (e = .dmzOut ∧ p = dmzPort) := by
  unfold portEntry at h
  split at h
  · rename_i hp; injection h with h; exact Or.inl ⟨h.symm, hp⟩
  · split at h
    · rename_i hp; injection h with h; exact Or.inr (Or.inl ⟨h.symm, hp⟩)
    · split at h
      · rename_i hp; injection h with h; exact Or.inr (Or.inr ⟨h.symm, hp⟩)
      · cases h

theorem nodeLayer_host (soft : Soft W) {s : Node W} (hk : s.kind = .host) (p : Nat) (f : Frame) :
    nodeLayer soft s p f = hostRx soft s p f := by simp only [nodeLayer, hk]

theorem nodeLayer_switch (soft : Soft W) {s : Node W} (hk : s.kind = .switch) (p : Nat) (f : Frame) :
    nodeLayer soft s p f = soft.switchFwd s p f := by simp only [nodeLayer, hk, switchRx]

theorem nodeLayer_router (soft : Soft W) {s : Node W} (hk : s.kind = .router) (p : Nat) (f : Frame) :
    nodeLayer soft s p f = routerRxWith subjectToAcl soft s p f := by simp only [nodeLayer, hk, routerRx]

theorem nodeLayer_firewall (soft : Soft W) {s : Node W} (hk : s.kind = .firewall) (p : Nat) (f : Frame) :
    nodeLayer soft s p f = fwRx soft s p f := by simp only [nodeLayer, hk]

section layers
variable (Q : Script W → Prop) (P : Node W → Prop) (hdone : ∀ s, P s → Q (.done s))
  (hsw : ∀ s x, P s → P { s with sw := x })

include hsw in
theorem permitted_closed (soft : Soft W) (s : Node W) (p : Nat) (f : Frame) (hs : P s)
    (hsess : ∀ s1, P s1 → Q (soft.session s1 p f)) (hproc : ∀ s1, P s1 → Q (soft.process s1 p f)) :
    Q (permitted soft s p f) := by
  simp only [permitted]
  split
  · exact hsess _ (hsw _ _ hs)
  · exact hproc _ (hsw _ _ hs)

include hdone hsw in
theorem hostLayer_closed (soft : Soft W) (s : Node W) (p : Nat) (f : Frame) (hk : s.kind = .host) (hs : P s)
    (hsess : ∀ s1, P s1 → Q (soft.session s1 p f)) : Q (nodeLayer soft s p f) := by
  rw [nodeLayer_host soft hk]
  simp only [hostRx]
  have h0 : P { s with sw := soft.capture s p f } := hsw _ _ hs
  split
  · split
    · exact hsess _ (hsw _ _ hs)
    · exact hdone _ (hsw _ _ hs)
  · split
    · exact hsess _ h0
    · exact hdone _ h0

include hdone in
theorem routerLayer_closed (soft : Soft W) (s : Node W) (p : Nat) (f : Frame) (hk : s.kind = .router) (hs : P s)
    (hex : subjectToAcl f = some false → Q (permitted soft s p f))
    (hdeny : subjectToAcl f = some true → (isPermitted (s.acls .router) f.pkt).1 = false →
      P (s.setAcl .router (isPermitted (s.acls .router) f.pkt).2.2))
    (hperm : subjectToAcl f = some true → (isPermitted (s.acls .router) f.pkt).1 = true →
      Q (permitted soft (s.setAcl .router (isPermitted (s.acls .router) f.pkt).2.2) p f)) :
    Q (nodeLayer soft s p f) := by
  rw [nodeLayer_router soft hk]
  simp only [routerRxWith]
  split
  · exact hdone s hs
  · split
    · exact hdone s hs
    · rename_i hsub; exact hex hsub
    · rename_i hsub
      cases hv : (isPermitted (s.acls .router) f.pkt).1
      · simp only [Bool.not_false, if_true]; exact hdone _ (hdeny hsub hv)
      · simp only [Bool.not_true, Bool.false_eq_true, if_false]; exact hperm hsub hv

include hdone in
theorem fwFinal_closed (soft : Soft W) (e : FwEntry) (s : Node W) (p : Nat) (f : Frame)
    (hbump : P (s.setAcl (entryAcl e) (isPermitted (s.acls (entryAcl e)) f.pkt).2.2))
    (hproc : (isPermitted (s.acls (entryAcl e)) f.pkt).1 = true →
      Q (soft.process (s.setAcl (entryAcl e) (isPermitted (s.acls (entryAcl e)) f.pkt).2.2) p f)) :
    Q (fwFinal soft e s p f) := by
  simp only [fwFinal]
  cases hv : (isPermitted (s.acls (entryAcl e)) f.pkt).1
  · simp only [Bool.not_false, if_true]; exact hdone _ hbump
  · simp only [Bool.not_true, Bool.false_eq_true, if_false]; exact hproc hv

theorem fwNext_second (soft : Soft W) (e : FwEntry) (p : Nat) (f : Frame) (s2 : Node W) :
    fwNext soft e p f s2 =
      (match e with
        | .dmzOut => if f.dstMac == bcastMac then .done s2 else soft.dmzLookup s2 p f
        | _ => .done s2 : Script W).bind fun s3 =>
      match secondEntry soft e s3 f with
      | some e2 => fwFinal soft e2 s3 p f
      | none => .done s3 := by
  cases e with
  | extIn => cases h : inDmzNet s2 f <;> simp [fwNext, Act.bind, secondEntry, h]
  | intOut => cases h : inDmzNet s2 f <;> simp [fwNext, Act.bind, secondEntry, h]
  | dmzOut =>
    simp only [fwNext, secondEntry]
    by_cases hb : (f.dstMac == bcastMac) = true
    · simp [hb, Act.bind]
    simp only [hb, Bool.false_eq_true, if_false]
    congr 1
    funext s3
    cases soft.dmzOutNic s3 f with
    | none => rfl
    | some q =>
      by_cases h1 : q = extPort
      · simp [h1]
      · by_cases h2 : q = intPort
        · simp [h2, extPort, intPort]
        · simp [h1, h2]
  | _ => rfl

include hdone hsw in
theorem fwLayer_closed (hbind : ∀ a k, Q a → (∀ s, P s → Q (k s)) → Q (a.bind k))
    (soft : Soft W) (s : Node W) (p : Nat) (f : Frame) (hk : s.kind = .firewall) (hs : P s)
    (hbump : ∀ e, portEntry p = some e → P (s.setAcl (entryAcl e) (isPermitted (s.acls (entryAcl e)) f.pkt).2.2))
    (hperm : ∀ e, portEntry p = some e → (isPermitted (s.acls (entryAcl e)) f.pkt).1 = true →
      (∀ s2, P s2 → Q (soft.session s2 p f)) ∧ (e = .dmzOut → ∀ s2, P s2 → Q (soft.dmzLookup s2 p f)) ∧
      ∀ s3 e2, P s3 → secondEntry soft e s3 f = some e2 → Q (fwFinal soft e2 s3 p f)) :
    Q (nodeLayer soft s p f) := by
  rw [nodeLayer_firewall soft hk]
  simp only [fwRx]
  cases hpe : portEntry p with
  | none => exact hdone s hs
  | some e =>
    have h1 := hbump e hpe
    simp only [fwFirst]
    cases hv : (isPermitted (s.acls (entryAcl e)) f.pkt).1
    · simp only [Bool.not_false, if_true]; exact hdone _ h1
    · simp only [Bool.not_true, Bool.false_eq_true, if_false]
      obtain ⟨hsess, hlook, hfin⟩ := hperm e hpe hv
      have h2 := hsw _ (soft.learn (s.setAcl (entryAcl e) (isPermitted (s.acls (entryAcl e)) f.pkt).2.2) p f) h1
      split
      · exact hsess _ h2
      · rw [fwNext_second]
        refine hbind _ _ ?_ ?_
        · cases e with
          | dmzOut =>
            simp only
            split
            · exact hdone _ h2
            · exact hlook rfl _ h2
          | _ => exact hdone _ h2
        · intro s3 hs3
          cases hse : secondEntry soft e s3 f with
          | none => exact hdone _ hs3
          | some e2 => exact hfin s3 e2 hs3 hse

end layers

theorem arpSession_cases (r : RouterArp W) (s : Node W) (p : Nat) (f : Frame) :
    arpSession r s p f = .done { s with sw := r.sessRx s p f } ∨
    ∃ i q o, f.arpReq = true ∧ s.ifaces[p]? = some i ∧ i.enabled = true ∧
      routerResolveOut r { s with sw := r.sessRx s p f } f.arpSnd = some q ∧ s.ifaces[q]? = some o ∧
      arpSession r s p f =
        .send { s with sw := r.sent { s with sw := r.sessRx s p f } q } q (arpReplyFrame o i f) (fun s' => .done s') := by
  generalize ha : arpSession r s p f = a
  simp only [arpSession] at ha
  split at ha
  · exact Or.inl ha.symm
  · split at ha
    · exact Or.inl ha.symm
    · rename_i hreq
      split at ha
      · exact Or.inl ha.symm
      · rename_i i hi
        split at ha
        · exact Or.inl ha.symm
        · rename_i hen
          split at ha
          · exact Or.inl ha.symm
          · rename_i q hres
            split at ha
            · exact Or.inl ha.symm
            · rename_i o ho
              simp only [Bool.not_eq_true, Bool.not_eq_false', Bool.and_eq_true] at hreq hen
              exact Or.inr ⟨i, q, o, hreq, hi, hen.1, hres, ho, ha.symm⟩

/-- the look-up every topology's `wire` performs returns an entry of the table -/
theorem wires_find_mem (wires : List ((Nat × Nat) × (Nat × Nat))) (n q m r : Nat)
    (h : (wires.find? (fun w => w.1.1 == n && w.1.2 == q)).map (·.2) = some (m, r)) : ((n, q), (m, r)) ∈ wires := by
  cases hf : wires.find? (fun w => w.1.1 == n && w.1.2 == q) with
  | none => simp [hf] at h
  | some w =>
    have hp := List.find?_some hf
    simp only [Bool.and_eq_true, beq_iff_eq] at hp
    simp only [hf, Option.map_some, Option.some.injEq] at h
    obtain ⟨⟨a, b⟩, c⟩ := w
    obtain ⟨rfl, rfl⟩ := hp
    subst h
    exact List.mem_of_find?_eq_some hf

end Primaite.Filter
