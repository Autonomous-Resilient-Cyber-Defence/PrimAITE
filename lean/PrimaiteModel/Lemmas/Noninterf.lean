/-
Lemmas for C03: the interpreter cannot observe the opaque environment (`interp_indep`); the canonical numbering is invariant under
an injective renaming of the identifiers (`canonRun_map_inj`); hence two agreeing processes in two environments produce raw
trajectories that are images of ONE symbolic trajectory under their own namings (`opStep_rel`, `runOps_rel`), and the same
canonical trajectory (`canon_runOps_eq`).
-/
import PrimaiteModel.Model.Noninterf

namespace Primaite.Noninterf

theorem Rho.Valid.shift {ι : Type} {ρ : Rho ι} (h : ρ.Valid) (a b c d : Nat) : (ρ.shift a b c d).Valid where
  inj := by
    intro i j hij
    have := h.inj _ _ hij
    omega
  isPerm := fun k l => h.isPerm (c + k) l

theorem Rho.Valid.inj_add {ι : Type} {ρ : Rho ι} (h : ρ.Valid) (b : Nat) :
    ∀ i j, ρ.uuid (b + i) = ρ.uuid (b + j) → i = j :=
  fun _ _ e => Nat.add_left_cancel (h.inj _ _ e)

theorem Rho.Valid.uuid_eq_iff {ι : Type} {ρ : Rho ι} (h : ρ.Valid) (a b : Nat) : ρ.uuid a = ρ.uuid b ↔ a = b :=
  ⟨h.inj a b, congrArg ρ.uuid⟩

theorem StampLenAgree.shift {ι ι' : Type} {g : Fixed} {ρ : Rho ι} {ρ' : Rho ι'} (h : StampLenAgree g ρ ρ')
    (a b c d a' b' c' d' : Nat) : StampLenAgree g (ρ.shift a b c d) (ρ'.shift a' b' c' d') :=
  fun k k' => h (b + k) (b' + k')

theorem Prog.Safe.mono {α : Type} {S : Fam → Bool} {P Q : Prop} (hPQ : P → Q) : ∀ {p : Prog α}, p.Safe S P → p.Safe S Q := by
  intro p h
  induction p with
  | ret => trivial
  | fresh k ih | idEq a b k ih | now k ih => exact fun x => ih x (h x)
  | frameSize b hs k ih => exact ⟨h.1.imp id hPQ, fun x => ih x (h.2 x)⟩
  | iterSet c l k ih | rand f n k ih => exact ⟨h.1, fun x => ih x (h.2 x)⟩

theorem interp_indep {ι ι' : Type} [DecidableEq ι] [DecidableEq ι'] (g : Fixed) {ρ : Rho ι} {ρ' : Rho ι'}
    (hv : ρ.Valid) (hv' : ρ'.Valid) {α : Type} :
    ∀ (p : Prog α) (w : World), p.Safe g.seeds (StampLenAgree g ρ ρ') → interp g ρ p w = interp g ρ' p w := by
  intro p w h
  induction p generalizing w with
  | ret => rfl
  | fresh k ih | now k ih => exact ih _ _ (h _)
  | idEq a b k ih =>
    simp only [interp, hv.uuid_eq_iff, hv'.uuid_eq_iff]
    exact ih _ w (h _)
  | frameSize base hs k ih =>
    have e : (hs.map fun x => g.textLen (ρ.stamp x)) = (hs.map fun x => g.textLen (ρ'.stamp x)) := by
      rcases h.1 with rfl | hP
      · rfl
      · exact List.map_congr_left fun x _ => hP x x
    simp only [interp, e]
    exact ih _ w (h.2 _)
  | iterSet c l k ih =>
    simp only [interp, h.1 _ _ ((hv.isPerm w.nperm l).trans (hv'.isPerm w.nperm l).symm)]
    exact ih _ _ (h.2 _)
  | rand f n k ih =>
    simp only [interp, h.1, if_true]
    exact ih _ _ (h.2 _)

theorem Tok.map_map {ι κ μ : Type} (f : ι → κ) (h : κ → μ) (t : Tok ι) : (t.map f).map h = t.map (h ∘ f) := by
  cases t <;> rfl

theorem idxOf_map_inj {ι κ : Type} [DecidableEq ι] [DecidableEq κ] (f : ι → κ) (hf : ∀ a b, f a = f b → a = b)
    (i : ι) (l : List ι) : (l.map f).idxOf (f i) = l.idxOf i := by
  induction l with
  | nil => rfl
  | cons a t ih =>
    have e : (f a == f i) = (a == i) := by
      rw [Bool.eq_iff_iff, beq_iff_eq, beq_iff_eq]
      exact ⟨hf a i, congrArg f⟩
    rw [List.map_cons, List.idxOf_cons, List.idxOf_cons, ih, e]

theorem mem_map_inj {ι κ : Type} (f : ι → κ) (hf : ∀ a b, f a = f b → a = b) (i : ι) (l : List ι) :
    f i ∈ l.map f ↔ i ∈ l :=
  ⟨fun h => let ⟨_, ha, e⟩ := List.mem_map.mp h; hf _ _ e ▸ ha, List.mem_map_of_mem⟩

theorem canonToks_map_inj {ι κ : Type} [DecidableEq ι] [DecidableEq κ] (f : ι → κ) (hf : ∀ a b, f a = f b → a = b) :
    ∀ (l : List (Tok ι)) (seen : List ι),
      canonToks (seen.map f) (l.map (Tok.map f)) = (((canonToks seen l).1).map f, (canonToks seen l).2) := by
  intro l seen
  induction l generalizing seen with
  | nil => rfl
  | cons t l ih =>
    cases t with
    | val n => simp only [List.map_cons, Tok.map, canonToks, ih seen]
    | ident i =>
      simp only [List.map_cons, Tok.map, canonToks, mem_map_inj f hf]
      by_cases h : i ∈ seen
      · simp only [h, if_true, ih seen, idxOf_map_inj f hf]
      · have e : seen.map f ++ [f i] = (seen ++ [i]).map f := by simp
        simp only [h, if_false, e, ih (seen ++ [i]), List.length_map]

theorem canonRun_map_inj {ι κ : Type} [DecidableEq ι] [DecidableEq κ] (f : ι → κ) (hf : ∀ a b, f a = f b → a = b) :
    ∀ (ls : List (List (Tok ι))) (seen : List ι),
      canonRun (seen.map f) (ls.map (fun l => l.map (Tok.map f))) = canonRun seen ls
  | [], _ => rfl
  | l :: ls, seen => by
    simp only [List.map_cons, canonRun, canonToks_map_inj f hf l seen, canonRun_map_inj f hf ls]

theorem canonRun_images_eq {ι ι' : Type} [DecidableEq ι] [DecidableEq ι'] {f : Nat → ι} {f' : Nat → ι'}
    (hf : ∀ a b, f a = f b → a = b) (hf' : ∀ a b, f' a = f' b → a = b) (syms : List (List (Tok Nat))) :
    canonRun [] (syms.map fun l => l.map (Tok.map f)) = canonRun [] (syms.map fun l => l.map (Tok.map f')) :=
  (canonRun_map_inj f hf syms []).trans (canonRun_map_inj f' hf' syms []).symm

structure Sim.Safe {Cfg σ Act : Type} (sim : Sim Cfg σ Act) (S : Fam → Bool) (P : Prop) : Prop where
  construct : ∀ c, (sim.construct c).Safe S P
  rebuild : ∀ c, (sim.rebuild c).Safe S P
  step : ∀ s a, (sim.step s a).Safe S P

theorem Sim.Safe.mono {Cfg σ Act : Type} {sim : Sim Cfg σ Act} {S : Fam → Bool} {P Q : Prop} (hPQ : P → Q)
    (h : sim.Safe S P) : sim.Safe S Q :=
  ⟨fun c => (h.construct c).mono hPQ, fun c => (h.rebuild c).mono hPQ, fun s a => (h.step s a).mono hPQ⟩

/-- Visible state of a process: everything except which part of `ρ` it is looking at. -/
def Proc.Agree {σ : Type} (p p' : Proc σ) : Prop := p.episode = p'.episode ∧ p.st = p'.st ∧ p.w = p'.w

/-- `interp_indep` for what two processes see of their environments (each its own window, from where earlier games stopped consuming). -/
theorem interp_indep_rho {ι ι' σ α : Type} [DecidableEq ι] [DecidableEq ι'] (g : Fixed) {ρ : Rho ι} {ρ' : Rho ι'}
    (hv : ρ.Valid) (hv' : ρ'.Valid) {prog : Prog α} (h : prog.Safe g.seeds (StampLenAgree g ρ ρ')) (w : World) (p p' : Proc σ) :
    interp g (p.rho ρ) prog w = interp g (p'.rho ρ') prog w :=
  interp_indep g (hv.shift ..) (hv'.shift ..) prog w (h.mono fun hl => hl.shift _ _ _ _ _ _ _ _)

/-- Naming from the base `b + d` is shifting the handles by `d` and then naming from the base `b`. -/
theorem tokmap_shift {ι : Type} (u : Nat → ι) (b d : Nat) (l : List (Tok Nat)) :
    l.map (Tok.map fun n => u (b + d + n)) = (l.map (Tok.map fun n => d + n)).map (Tok.map fun n => u (b + n)) := by
  simp only [List.map_map, Function.comp_def, Tok.map_map, Nat.add_assoc]

/-- `reset` from two process states with the same episode index that start the new game on the same generator states - because they
agree, or because the reset re-seeds: the two new games agree, and the first outputs are the images of ONE symbolic output under each
process's new naming `n ↦ ρ.uuid (new baseId + n)`. -/
theorem doReset_rel {ι ι' Cfg σ Act : Type} [DecidableEq ι] [DecidableEq ι'] (g : Fixed) {ρ : Rho ι} {ρ' : Rho ι'}
    (hv : ρ.Valid) (hv' : ρ'.Valid) (sim : Sim Cfg σ Act) (sched : Nat → Cfg)
    (hs : sim.Safe g.seeds (StampLenAgree g ρ ρ')) (p p' : Proc σ) (he : p.episode = p'.episode) (seed : Option Nat)
    (hr : resetRng g seed p.w = resetRng g seed p'.w) :
    let r := doReset g ρ sim sched p seed
    let r' := doReset g ρ' sim sched p' seed
    r.1.Agree r'.1 ∧ ∃ sym : List (Tok Nat),
      r.2 = sym.map (Tok.map fun n => ρ.uuid (r.1.baseId + n)) ∧ r'.2 = sym.map (Tok.map fun n => ρ'.uuid (r'.1.baseId + n)) := by
  simp only [doReset, ← he, ← hr]
  rw [interp_indep_rho g hv hv' (hs.rebuild _) _ p.rebase p'.rebase]
  exact ⟨⟨rfl, rfl, rfl⟩, _, rfl, rfl⟩

/-- `reset(seed = s)` from ANY two process states with the same episode index (whatever happened before, whatever the
generator state, wherever in whatever environment): the two new games agree, and the first outputs are images of one
symbolic output under the new namings. -/
theorem doReset_seed_rel {ι ι' Cfg σ Act : Type} [DecidableEq ι] [DecidableEq ι'] (g : Fixed) {ρ : Rho ι} {ρ' : Rho ι'}
    (hv : ρ.Valid) (hv' : ρ'.Valid) (sim : Sim Cfg σ Act) (sched : Nat → Cfg)
    (hs : sim.Safe g.seeds (StampLenAgree g ρ ρ')) (p p' : Proc σ) (he : p.episode = p'.episode) (s : Nat) :
    (doReset g ρ sim sched p (some s)).1.Agree (doReset g ρ' sim sched p' (some s)).1 ∧
    ∃ sym : List (Tok Nat),
      (doReset g ρ sim sched p (some s)).2 =
        sym.map (Tok.map fun n => ρ.uuid ((doReset g ρ sim sched p (some s)).1.baseId + n)) ∧
      (doReset g ρ' sim sched p' (some s)).2 =
        sym.map (Tok.map fun n => ρ'.uuid ((doReset g ρ' sim sched p' (some s)).1.baseId + n)) :=
  doReset_rel g hv hv' sim sched hs p p' he (some s) rfl

/-- One operation, two processes that agree on their visible state (whatever environments they run in, wherever in
them): they agree afterwards, both moved their identifier base by the same `d`, and their raw outputs are the images of
ONE symbolic output under each process's own naming `n ↦ ρ.uuid (baseId + n)`. -/
theorem opStep_rel {ι ι' Cfg σ Act : Type} [DecidableEq ι] [DecidableEq ι'] (g : Fixed) {ρ : Rho ι} {ρ' : Rho ι'}
    (hv : ρ.Valid) (hv' : ρ'.Valid) (sim : Sim Cfg σ Act) (sched : Nat → Cfg)
    (hs : sim.Safe g.seeds (StampLenAgree g ρ ρ')) (o : Op Act) (p p' : Proc σ) (ha : p.Agree p') :
    (opStep g ρ sim sched p o).1.Agree (opStep g ρ' sim sched p' o).1 ∧
    ∃ (d : Nat) (sym : List (Tok Nat)),
      (opStep g ρ sim sched p o).1.baseId = p.baseId + d ∧ (opStep g ρ' sim sched p' o).1.baseId = p'.baseId + d ∧
      (opStep g ρ sim sched p o).2 = sym.map (Tok.map fun n => ρ.uuid (p.baseId + n)) ∧
      (opStep g ρ' sim sched p' o).2 = sym.map (Tok.map fun n => ρ'.uuid (p'.baseId + n)) := by
  obtain ⟨he, hst, hw⟩ := ha
  cases o with
  | step a =>
    simp only [opStep, doStep, ← hst, ← hw]
    rw [interp_indep_rho g hv hv' (hs.step _ _) _ p p']
    exact ⟨⟨he, rfl, rfl⟩, 0, _, rfl, rfl, rfl, rfl⟩
  | foreign f =>
    simp only [opStep, doForeign, ← hw]
    exact ⟨⟨he, hst, rfl⟩, 0, [], rfl, rfl, rfl, rfl⟩
  | reset seed =>
    -- the new game is numbered from the new base `baseId + nid`; seen from the old base that is the shift `d = nid`
    obtain ⟨ha', sym, h1, h2⟩ := doReset_rel g hv hv' sim sched hs p p' he seed (by rw [hw])
    have hn : p'.baseId + p.w.nid = p'.baseId + p'.w.nid := by rw [hw]
    refine ⟨ha', p.w.nid, sym.map (Tok.map fun n => p.w.nid + n), rfl, hn.symm, ?_, ?_⟩
    · exact h1.trans (tokmap_shift ρ.uuid p.baseId p.w.nid sym)
    · rw [← tokmap_shift, hn]
      exact h2

theorem runOps_rel {ι ι' Cfg σ Act : Type} [DecidableEq ι] [DecidableEq ι'] (g : Fixed) {ρ : Rho ι} {ρ' : Rho ι'}
    (hv : ρ.Valid) (hv' : ρ'.Valid) (sim : Sim Cfg σ Act) (sched : Nat → Cfg)
    (hs : sim.Safe g.seeds (StampLenAgree g ρ ρ')) :
    ∀ (ops : List (Op Act)) (p p' : Proc σ), p.Agree p' →
      ∃ syms : List (List (Tok Nat)),
        runOps g ρ sim sched p ops = syms.map (fun l => l.map (Tok.map fun n => ρ.uuid (p.baseId + n))) ∧
        runOps g ρ' sim sched p' ops = syms.map (fun l => l.map (Tok.map fun n => ρ'.uuid (p'.baseId + n))) := by
  intro ops p p' ha
  induction ops generalizing p p' with
  | nil => exact ⟨[], rfl, rfl⟩
  | cons o ops ih =>
    obtain ⟨ha', d, sym, hb, hb', ho, ho'⟩ := opStep_rel g hv hv' sim sched hs o p p' ha
    obtain ⟨syms, h1, h2⟩ := ih _ _ ha'
    refine ⟨sym :: syms.map (fun l => l.map (Tok.map fun n => d + n)), ?_, ?_⟩
    · simp only [runOps, List.map_cons, ho, h1, hb, tokmap_shift, List.map_map, Function.comp_def]
    · simp only [runOps, List.map_cons, ho', h2, hb', tokmap_shift, List.map_map, Function.comp_def]

theorem canon_runOps_eq {ι ι' Cfg σ Act : Type} [DecidableEq ι] [DecidableEq ι'] (g : Fixed) {ρ : Rho ι} {ρ' : Rho ι'}
    (hv : ρ.Valid) (hv' : ρ'.Valid) (sim : Sim Cfg σ Act) (sched : Nat → Cfg)
    (hs : sim.Safe g.seeds (StampLenAgree g ρ ρ')) (ops : List (Op Act)) (p p' : Proc σ) (ha : p.Agree p') :
    canonRun [] (runOps g ρ sim sched p ops) = canonRun [] (runOps g ρ' sim sched p' ops) := by
  obtain ⟨syms, h1, h2⟩ := runOps_rel g hv hv' sim sched hs ops p p' ha
  rw [h1, h2]
  exact canonRun_images_eq (hv.inj_add _) (hv'.inj_add _) syms

end Primaite.Noninterf
