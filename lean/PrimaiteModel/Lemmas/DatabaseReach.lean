/-
Refinement lemma for C17: every operation of the composed model (`Database.step`) changes the *server* only through a
finite sequence of server-level events (`SrvEv`) of the kinds that operation permits (`OpAllows`): `step_reach`, `run_reach`.
Sequence-level theorems in `Props/C17.lean` are then proved once, over all event sequences, and lifted to all operation sequences.
-/
import PrimaiteModel.Model.Database
namespace Primaite.Database

/-- Everything that can happen to the database server. -/
inductive SrvEv
  | recv (src : Nat) (p : Payload)
  | req (r : SvcReq)
  | setPw (pw : Option Nat)
  | backup (b : Backup) (pq big : Bool)
  | restore (b : Backup) (pq pr sendOk : Bool)
  | fileDelete | fileCorrupt | fileRepair | folderDelete
  | admin (a : Admin)
  | dl (a : DlOp)
  | fsr (db : Bool) (a : FsAct)
  | reinstall (cfg : Option InstCfg)
  | powerOn | powerOff
  | tick (b : Backup) (t : Nat) (pq pr big sendOk : Bool)

def SrvEv.apply (s : Server) : SrvEv → Server
  | .recv src p => (s.receive src p).1
  | .req r => (s.request r).1
  | .setPw pw => { s with password := pw }
  | .backup b pq big => (backupDatabase s b pq big).1
  | .restore b pq pr k => (restoreBackup s b pq pr k).1
  | .folderDelete => s.folderDelete.1
  | .admin a => (s.admin a).1
  | .dl a => (s.dl a).1
  | .fsr db a => (s.fsr db a).1
  | .reinstall cfg => (s.reinstall cfg).1
  | .fileDelete => s.fileDelete.1
  | .fileCorrupt => s.fileCorrupt.1
  | .fileRepair => s.fileRepair.1
  | .powerOn => s.powerOn
  | .powerOff => s.powerOff
  | .tick b t pq pr big k => (serverTick s b t pq pr big k).1

inductive Reach (A : SrvEv → Prop) : Server → Server → Prop
  | refl (s : Server) : Reach A s s
  | head {s s' : Server} (e : SrvEv) (h : A e) (r : Reach A (e.apply s) s') : Reach A s s'

theorem Reach.trans {A} {a b c : Server} (h1 : Reach A a b) (h2 : Reach A b c) : Reach A a c := by
  induction h1 with
  | refl => exact h2
  | head e h _ ih => exact .head e h (ih h2)

theorem Reach.mono {A B : SrvEv → Prop} (hAB : ∀ e, A e → B e) {a b : Server} (h : Reach A a b) : Reach B a b := by
  induction h with
  | refl => exact .refl _
  | head e h _ ih => exact .head e (hAB e h) ih

theorem Reach.single {A} (s : Server) (e : SrvEv) (h : A e) : Reach A s (e.apply s) := .head e h (.refl _)

theorem Reach.invariant {A} {I : Server → Prop} (hstep : ∀ s e, A e → I s → I (e.apply s))
    {a b : Server} (h : Reach A a b) (ha : I a) : I b := by
  induction h with
  | refl => exact ha
  | head e he _ ih => exact ih (hstep _ e he ha)

def IsConnect (e : SrvEv) : Prop := ∃ j pw, e = .recv j (.connect pw)
def IsSql (q : Sql) (e : SrvEv) : Prop := ∃ j cid, e = .recv j (.sql cid q)
def IsDisc (e : SrvEv) : Prop := ∃ j cid, e = .recv j (.disconnect cid)
def IsJunk (e : SrvEv) : Prop := ∃ j k, e = .recv j (.junk k)

def OpAllows : Op → SrvEv → Prop
  | .connect _, e => IsConnect e
  | .nConnect _, e => IsConnect e
  | .rawQuery _ _ q, e => IsSql q e
  | .hQuery _ q, e => IsSql q e
  | .nQuery _ q, e => IsSql q e
  | .rawDisconnect _ _, e => IsDisc e
  | .rawJunk _ _, e => IsJunk e
  | .hDisconnect _, e => IsDisc e
  | .nDisconnect _, e => IsDisc e
  | .uninstall _, e => IsDisc e
  | .execute _, e => IsConnect e ∨ IsSql .pgstat e
  | .ransom _ q, e => IsConnect e ∨ IsSql q e
  | .svc r, e => e = .req r
  | .setPw pw, e => e = .setPw pw
  | .backup _, e => ∃ b pq big, e = .backup b pq big
  | .restore _ _, e => ∃ b pq pr k, e = .restore b pq pr k
  | .folderDelete, e => e = .folderDelete
  | .admin a, e => e = .admin a
  | .dl a, e => e = .dl a
  | .fsr db a, e => e = .fsr db a
  | .svcInstall cfg, e => e = .reinstall cfg
  | .co _, _ => False
  | .bkDelete, _ => False
  | .dm _ q _ _ _, e => IsConnect e ∨ IsSql q e
  | .ransomReq _ q, e => IsConnect e ∨ IsSql q e
  | .fileDelete, e => e = .fileDelete
  | .fileCorrupt, e => e = .fileCorrupt
  | .fileRepair, e => e = .fileRepair
  | .power who on, e => who = 0 ∧ e = (if on then SrvEv.powerOn else SrvEv.powerOff)
  | .tick _ _ _, e => ∃ b t pq pr big k, e = .tick b t pq pr big k
  | .install _, _ => False
  | .appRun _, _ => False
  | .appClose _, _ => False
  | .clientPw _ _, _ => False
  | .ftps _, _ => False
  | .block _ _, _ => False

/-! ### what an operation does to the state

An operation is made of: server events; changes that leave the server, the handles and the backup host's copy alone; appending
the handle of a connect that was answered 200; mapping the handle list without touching ids and hosts; and - four operations
only (`Op.writesStored`) - writing the backup host.  A property that survives the first four (`Keeps`) survives every client-side
call (`*_keeps`), and it survives `step` when it also survives the fifth or the operation is not one of the four (`step_keeps`).
"The server moved by permitted events only" is such a property (`reach_keeps`, giving `step_reach`); the others are in
`Props/C17Run.lean` (the backup host's copy) and `Props/C17Client.lean` (`HandlesOwn`). -/

@[simp] theorem setClient_srv (st : State) (i : Nat) (c : Client) : (st.setClient i c).srv = st.srv := rfl

@[simp] theorem updClient_srv (st : State) (i : Nat) (f : Client → Client) : (st.updClient i f).srv = st.srv := by
  unfold State.updClient; split <;> rfl

structure Keeps (A : SrvEv → Prop) (P : State → Prop) : Prop where
  srv : ∀ st e, A e → P st → P { st with srv := e.apply st.srv }
  frame : ∀ st st' : State, P st → st'.srv = st.srv → st'.handles = st.handles → st'.bk.stored = st.bk.stored → P st'
  newHandle : ∀ st i pw id, P st → P (st.send i (.connect pw)).1 → (st.send i (.connect pw)).2.2 = some (200, some id) →
    P { (st.send i (.connect pw)).1 with handles := (st.send i (.connect pw)).1.handles ++ [({ id := id, host := i } : Handle)] }
  mapHandles : ∀ st (f : Handle → Handle), (∀ x, (f x).id = x.id ∧ (f x).host = x.host) → P st →
    P { st with handles := st.handles.map f }

theorem Keeps.ofSrv {A : SrvEv → Prop} {I : Server → Prop} (hI : ∀ s e, A e → I s → I (e.apply s)) :
    Keeps A (fun st => I st.srv) where
  srv st e he h := hI st.srv e he h
  frame _ _ h hs _ _ := hs ▸ h
  newHandle _ _ _ _ _ h _ := h
  mapHandles _ _ _ h := h

theorem reach_keeps (A : SrvEv → Prop) (st0 : State) : Keeps A (fun st => Reach A st0.srv st.srv) :=
  .ofSrv fun s e he h => h.trans (.single s e he)

def Op.writesStored : Op → Bool
  | .backup _ | .tick _ _ _ | .bkDelete | .svcInstall _ => true
  | _ => false

section
variable {A : SrvEv → Prop} {P : State → Prop} (k : Keeps A P)
include k

theorem Keeps.send (st : State) (i : Nat) (p : Payload) (hA : A (.recv i p)) (h : P st) : P (st.send i p).1 := by
  unfold State.send
  split
  · exact h
  · dsimp only
    have := k.srv st (.recv i p) hA h
    split <;> exact this

theorem Keeps.setClient (st : State) (i : Nat) (c : Client) (h : P st) : P (st.setClient i c) := k.frame st _ h rfl rfl rfl

theorem Keeps.updClient (st : State) (i : Nat) (f : Client → Client) (h : P st) : P (st.updClient i f) := by
  unfold State.updClient; split
  · exact k.setClient _ _ _ h
  · exact h

theorem getNewConnection_keeps (hK : ∀ e, IsConnect e → A e) (st : State) (i : Nat) (h : P st) :
    P (st.getNewConnection i).1 := by
  unfold State.getNewConnection
  split
  · exact h
  · rename_i c _
    split
    · exact h
    · dsimp only
      have hs := k.send st i (.connect c.serverPw) (hK _ ⟨i, _, rfl⟩) h
      split
      · rename_i id heq
        exact k.updClient _ _ _ (k.newHandle st i c.serverPw id h hs heq)
      · exact hs

theorem handleQuery_keeps (q : Sql) (hK : ∀ e, IsSql q e → A e) (st : State) (hd : Nat) (h : P st) :
    P (st.handleQuery hd q).1 := by
  unfold State.handleQuery
  split
  · exact h
  · split
    · exact k.send _ _ _ (hK _ ⟨_, _, rfl⟩) h
    · exact h

theorem clientDisconnect_keeps (hK : ∀ e, IsDisc e → A e) (st : State) (i id : Nat) (h : P st) :
    P (st.clientDisconnect i id).1 := by
  unfold State.clientDisconnect
  split
  · exact h
  · split
    · exact h
    · split
      · exact h
      · dsimp only
        apply k.mapHandles
        · intro x; split <;> exact ⟨rfl, rfl⟩
        · exact k.updClient _ _ _ (k.send _ _ _ (hK _ ⟨_, _, rfl⟩) h)

theorem handleDisconnect_keeps (hK : ∀ e, IsDisc e → A e) (st : State) (hd : Nat) (h : P st) :
    P (st.handleDisconnect hd).1 := by
  unfold State.handleDisconnect
  split
  · exact h
  · split
    · exact clientDisconnect_keeps k hK _ _ _ h
    · exact h

theorem nativeConnect_keeps (hK : ∀ e, IsConnect e → A e) (st : State) (i : Nat) (h : P st) : P (st.nativeConnect i).1 := by
  unfold State.nativeConnect
  split
  · exact h
  · split
    · exact h
    · dsimp only
      split
      · exact k.updClient _ _ _ (getNewConnection_keeps k hK _ _ h)
      · exact getNewConnection_keeps k hK _ _ h

theorem nativeQuery_keeps (q : Sql) (hK : ∀ e, IsSql q e → A e) (st : State) (i : Nat) (h : P st) :
    P (st.nativeQuery i q).1 := by
  unfold State.nativeQuery
  split
  · exact h
  · split
    · exact h
    · split
      · exact h
      · exact handleQuery_keeps k q hK _ _ h

theorem nativeDisconnect_keeps (hK : ∀ e, IsDisc e → A e) (st : State) (i : Nat) (h : P st) :
    P (st.nativeDisconnect i).1 := by
  unfold State.nativeDisconnect
  split
  · exact h
  · split
    · exact h
    · dsimp only
      apply k.updClient
      split
      · exact clientDisconnect_keeps k hK _ _ _ h
      · exact h

theorem execute_keeps (hK : ∀ e, IsConnect e → A e) (hK' : ∀ e, IsSql .pgstat e → A e) (st : State) (i : Nat)
    (h : P st) : P (st.execute i).1 := by
  unfold State.execute
  split
  · exact h
  · rename_i c _
    split
    · exact h
    · dsimp only
      have h1 : P (st.ensureNative i c).1 := by
        unfold State.ensureNative
        split
        · exact h
        · exact nativeConnect_keeps k hK st i h
      split
      · exact h1
      · split
        · exact h1
        · exact k.send _ _ _ (hK' _ ⟨_, _, rfl⟩) h1

theorem uninstall_keeps (hK : ∀ e, IsDisc e → A e) (st : State) (i : Nat) (h : P st) : P (st.uninstall i).1 := by
  have hfold : ∀ (ids : List Nat) (acc : State × List (Option Nat)), P acc.1 → P (ids.foldl (uninstallStep i) acc).1 := by
    intro ids
    induction ids with
    | nil => exact fun _ h => h
    | cons id rest ih => exact fun acc h => ih _ (clientDisconnect_keeps k hK acc.1 i id h)
  unfold State.uninstall
  split
  · exact h
  · split
    · exact h
    · exact k.updClient _ _ _ (hfold _ (st, []) h)

theorem ransom_keeps (q : Sql) (hK : ∀ e, IsConnect e → A e) (hK' : ∀ e, IsSql q e → A e) (st : State) (i : Nat)
    (h : P st) : P (st.ransom i q).1 := by
  have hconn : ∀ st c, P st → P (st.ransomConnect i c).1 := by
    intro st c h
    unfold State.ransomConnect
    split
    · exact h
    · exact k.updClient _ _ _ (getNewConnection_keeps k hK _ _ h)
  unfold State.ransom
  split
  · exact h
  · split
    · exact h
    · dsimp only
      split
      · exact k.setClient _ _ _ h
      · split
        · exact k.setClient _ _ _ h
        · split
          · exact hconn _ _ (k.setClient _ _ _ (k.setClient _ _ _ h))
          · exact handleQuery_keeps k q hK' _ _ (hconn _ _ (k.setClient _ _ _ (k.setClient _ _ _ h)))

/-- the bot talks to the server only in stage PORT_SCAN with a successful trial: outside that nothing need be permitted -/
theorem dmAttack_keeps (q : Sql) (st : State) (i : Nat) (scan atk : Bool)
    (hK : ∀ c, st.client? i = some c → dmAdvance c.dmStage scan = 2 ∧ atk = true → ∀ e, IsConnect e ∨ IsSql q e → A e)
    (h : P st) : P (st.dmAttack i q scan atk).1 := by
  unfold State.dmAttack
  split
  · exact h
  · rename_i c hc
    split
    · exact h
    · dsimp only
      split
      · exact k.setClient _ _ _ h
      · split
        · exact k.setClient _ _ _ (k.setClient _ _ _ h)
        · split
          · exact k.updClient _ _ _ (k.setClient _ _ _ (k.setClient _ _ _ h))
          · rename_i hg
            have hA := hK c hc (by simpa using hg)
            have hconn : ∀ st c, P st → P (st.dmConnect i c).1 := by
              intro st c h
              unfold State.dmConnect
              split
              · exact h
              · exact k.updClient _ _ _ (getNewConnection_keeps k (fun e he => hA e (Or.inl he)) _ _ h)
            split
            · exact k.updClient _ _ _ (hconn _ _ (k.setClient _ _ _ (k.setClient _ _ _ h)))
            · exact k.updClient _ _ _ (handleQuery_keeps k q (fun e he => hA e (Or.inr he)) _ _
                (hconn _ _ (k.setClient _ _ _ (k.setClient _ _ _ h))))

end

theorem dmAttack_reach (st : State) (i : Nat) (q : Sql) (scan atk : Bool) :
    Reach (fun e => IsConnect e ∨ IsSql q e) st.srv (st.dmAttack i q scan atk).1.srv :=
  dmAttack_keeps (reach_keeps _ st) q st i scan atk (fun _ _ _ _ h => h) (.refl _)

/-- Every operation keeps what survives the events it permits; a property that reads the backup host's copy only has to survive
the operations that do not write it. -/
theorem step_keeps {op : Op} {P : State → Prop} (k : Keeps (OpAllows op) P)
    (hbk : op.writesStored = true → ∀ st st' : State, P st → st'.srv = st.srv → st'.handles = st.handles → P st')
    (st : State) (h : P st) : P (step st op).1 := by
  cases op with
  | connect i => exact getNewConnection_keeps k (fun _ h => h) st i h
  | rawQuery i _ _ | rawDisconnect i _ | rawJunk i _ =>
    simp only [step]; split
    · exact k.send st i _ ⟨i, _, rfl⟩ h
    · exact h
  | hQuery hd q =>
    simp only [step]; split
    · exact h
    · exact handleQuery_keeps k q (fun _ h => h) st hd h
  | hDisconnect hd =>
    simp only [step]; split
    · exact h
    · exact handleDisconnect_keeps k (fun _ h => h) st hd h
  | nConnect i =>
    simp only [step]; split
    · exact nativeConnect_keeps k (fun _ h => h) st i h
    · exact h
  | nQuery i q =>
    simp only [step]; split
    · exact nativeQuery_keeps k q (fun _ h => h) st i h
    · exact h
  | nDisconnect i =>
    simp only [step]; split
    · exact nativeDisconnect_keeps k (fun _ h => h) st i h
    · exact h
  | execute i =>
    simp only [step]; split
    · exact h
    · split
      · exact h
      · exact execute_keeps k (fun _ => Or.inl) (fun _ => Or.inr) st i h
  | uninstall i => exact uninstall_keeps k (fun _ h => h) st i h
  | install i =>
    show P (st.install i)
    unfold State.install; split
    · exact h
    · split
      · exact h
      · exact k.setClient _ _ _ h
  | appRun i | appClose i | clientPw i _ =>
    simp only [step]; split
    · split
      · exact k.setClient _ _ _ h
      · exact h
    · exact h
  | ransom i q => exact ransom_keeps k q (fun _ => Or.inl) (fun _ => Or.inr) st i h
  | backup big =>
    simp only [step]; split
    · exact h
    · exact hbk rfl _ _ (k.srv st (.backup st.bk st.ftpReq big) ⟨_, _, _, rfl⟩ h) rfl rfl
  | restore d ok =>
    simp only [step]; split
    · exact h
    · exact k.srv st (.restore st.bk st.ftpReq (st.ftpResp && d) ok) ⟨_, _, _, _, rfl⟩ h
  | svcInstall cfg =>
    simp only [step]; split
    · exact hbk rfl _ _ (k.srv st (.reinstall cfg) rfl h) rfl rfl
    · exact h
    · exact h
  | co c => simp only [step]; (repeat' split) <;> exact h
  | bkDelete =>
    simp only [step]; split
    · exact hbk rfl _ _ h rfl rfl
    · exact h
  | dm i q scan atk via =>
    simp only [step]; split
    · exact h
    · split
      · exact h
      · split
        · exact h
        · exact dmAttack_keeps k q st i scan atk (fun _ _ _ _ h => h) h
  | ransomReq i q =>
    simp only [step]; split
    · exact h
    · split
      · exact h
      · exact ransom_keeps k q (fun _ => Or.inl) (fun _ => Or.inr) st i h
  | svc _ | setPw _ | folderDelete | admin _ | dl _ | fsr _ _ | fileDelete | fileCorrupt | fileRepair =>
    exact k.srv st _ rfl h
  | power who on =>
    simp only [step]; split
    · rename_i h0
      split
      · rename_i hon
        exact k.srv st .powerOn ⟨h0, (if_pos hon).symm⟩ h
      · rename_i hon
        exact k.srv st .powerOff ⟨h0, (if_neg hon).symm⟩ h
    · split
      · split
        · exact k.frame st _ h rfl rfl (by dsimp only; split <;> rfl)
        · exact k.frame st _ h rfl rfl (by dsimp only; split <;> rfl)
      · split
        · exact h
        · split <;> exact k.setClient _ _ _ h
  | ftps b =>
    simp only [step]; split
    · exact h
    · split
      · split
        · exact k.frame st _ h rfl rfl rfl
        · exact h
      · split
        · exact k.frame st _ h rfl rfl rfl
        · exact h
  | block w on =>
    simp only [step]; split
    · exact k.frame st _ h rfl rfl rfl
    · split
      · exact k.frame st _ h rfl rfl rfl
      · split <;> exact k.frame st _ h rfl rfl rfl
  | tick big d ok =>
    exact hbk rfl _ _ (k.srv st (.tick st.bk (st.t + 1) _ _ big ok) ⟨_, _, _, _, _, _, rfl⟩ h) rfl rfl

theorem step_reach (st : State) (op : Op) : Reach (OpAllows op) st.srv (step st op).1.srv :=
  step_keeps (reach_keeps _ st) (fun _ _ _ h hs _ => hs ▸ h) st (.refl _)

theorem run_reach (st : State) (ops : List Op) :
    Reach (fun e => ∃ op ∈ ops, OpAllows op e) st.srv (run st ops).srv := by
  induction ops generalizing st with
  | nil => exact .refl _
  | cons o os ih =>
    unfold run
    exact ((step_reach st o).mono (fun e he => ⟨o, List.mem_cons_self, he⟩)).trans
      ((ih _).mono (fun e ⟨op, hm, ha⟩ => ⟨op, List.mem_cons_of_mem _ hm, ha⟩))

theorem run_invariant {I : State → Prop} {C : Op → Prop} (hstep : ∀ st op, C op → I st → I (step st op).1)
    (st : State) (ops : List Op) (hops : ∀ op ∈ ops, C op) (h : I st) : I (run st ops) := by
  induction ops generalizing st with
  | nil => exact h
  | cons o os ih =>
    unfold run
    exact ih _ (fun op hm => hops op (List.mem_cons_of_mem _ hm)) (hstep st o (hops o List.mem_cons_self) h)

end Primaite.Database
