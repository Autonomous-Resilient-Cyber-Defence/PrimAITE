/-
What one operation of `Model/Registries.lean` can do to a node.

`Node.step` has 17 operations with nested guards, but only six kinds of effect (`StepKind`): nothing but the power fields change;
the events of the operation are delivered to the heap; an `uninstall`; an install of a service; an install of an application; an
install request (install, then `install()` on the new object).  `step_kind` is the one place where `step` is taken apart; every
invariant of the node (`Rep`, `RegWF`, `WellTimed`, `HeapNodup`, …) is proved by going through the six kinds, and holds along
every run by `run_invariant`.
-/
import PrimaiteModel.Model.Registries
namespace Primaite.C13
open Primaite.Lifecycle Primaite.Registries

theorem uninstall_some (n n' : Node) (name : String) (h : n.uninstall name = some n') :
    n' = n ∨ ∃ sv ap sr ar, n' = { n with
      software := ddel name n.software, services := sv, applications := ap, svcRoutes := sr, appRoutes := ar,
      portMap := delFirst (fun e => n.nameOf e.2 == some name) n.portMap,
      classMap := delFirst (fun e => e.2 == name) n.classMap } := by
  unfold Node.uninstall at h
  split at h
  · cases h; exact Or.inl rfl
  · split at h
    · split at h
      · cases h; exact Or.inr ⟨_, _, _, _, rfl⟩
      · cases h
    · split at h
      · split at h
        · cases h; exact Or.inr ⟨_, _, _, _, rfl⟩
        · cases h
      · cases h; exact Or.inr ⟨_, _, _, _, rfl⟩

theorem evict_some (n n1 : Node) (name : String) (h : n.evict name = some n1) : n1 = n ∨ n.uninstall name = some n1 := by
  unfold Node.evict at h
  split at h
  · exact Or.inr h
  · cases h; exact Or.inl rfl

theorem installSvc_some (n n' : Node) (c : Cls) (cfg : Bool) (l : List Nat) (hl : Health) (f : Int)
    (h : n.installSvc c cfg l hl f = some n') : n' = n ∨ ∃ n1, n.evict c.name = some n1 ∧ n' = n1.registerSvc c l hl f := by
  unfold Node.installSvc at h
  split at h
  · cases h; exact Or.inl rfl
  · cases he : n.evict c.name with
    | none => rw [he] at h; cases h
    | some n1 => rw [he] at h; cases h; exact Or.inr ⟨n1, rfl, rfl⟩

theorem installApp_some (n n' : Node) (c : Cls) (cfg : Bool) (l : List Nat) (hl : Health) (f : Int)
    (h : n.installApp c cfg l hl f = some n') : n' = n ∨ ∃ n1, n.evict c.name = some n1 ∧ n' = n1.registerApp c l hl f := by
  unfold Node.installApp at h
  split at h
  · cases h; exact Or.inl rfl
  · cases he : n.evict c.name with
    | none => rw [he] at h; cases h
    | some n1 => rw [he] at h; cases h; exact Or.inr ⟨n1, rfl, rfl⟩

def Quiet (n : Node) (op : Op) : Prop := (∀ i, n.svcEvs op i = []) ∧ (∀ i, n.appEvs op i = [])

def Unaddressed (n : Node) (op : Op) : Prop :=
  (∀ u i, n.findSvc u = some i → n.svcEvs op i = []) ∧ (∀ u i, n.findApp u = some i → n.appEvs op i = [])

theorem svcEvs_nil_of_fan_none (n : Node) (op : Op) (i : SvcInst)
    (h1 : ∀ name r, op ≠ .svcReq name r) (h2 : ∀ u e, op ≠ .svcApi u e)
    (hf : n.fan op = .none) (ht : n.ticks op = false) : n.svcEvs op i = [] := by
  rw [Node.svcEvs.eq_4 n op i h1 h2]
  simp only [Node.fanSvc, hf, ht, Bool.false_eq_true, if_false, List.append_nil, ite_self]

theorem appEvs_nil_of_fan_none (n : Node) (op : Op) (i : AppInst)
    (h1 : ∀ name r, op ≠ .appReq name r) (h2 : ∀ u e, op ≠ .appApi u e)
    (hf : n.fan op = .none) (ht : n.ticks op = false) : n.appEvs op i = [] := by
  rw [Node.appEvs.eq_4 n op i h1 h2]
  simp only [Node.fanApp, hf, ht, Bool.false_eq_true, if_false, List.append_nil, ite_self]

theorem quiet_of_fan_none (n : Node) (op : Op)
    (h1 : ∀ name r, op ≠ .svcReq name r) (h2 : ∀ u e, op ≠ .svcApi u e)
    (h3 : ∀ name r, op ≠ .appReq name r) (h4 : ∀ u e, op ≠ .appApi u e)
    (hf : n.fan op = .none) (ht : n.ticks op = false) : Quiet n op :=
  ⟨fun i => svcEvs_nil_of_fan_none n op i h1 h2 hf ht, fun i => appEvs_nil_of_fan_none n op i h3 h4 hf ht⟩

theorem findSvc_uid {n : Node} {u : Nat} {i : SvcInst} (h : n.findSvc u = some i) : i.m.uid = u := by
  have := List.find?_some h
  simpa using this

theorem findApp_uid {n : Node} {u : Nat} {i : AppInst} (h : n.findApp u = some i) : i.m.uid = u := by
  have := List.find?_some h
  simpa using this

theorem svcEvs_req (n : Node) (name : String) (r : SvcReq) (i : SvcInst) :
    n.svcEvs (.svcReq name r) i =
      if n.isOn = true ∧ dget name n.svcRoutes = some i.m.uid ∧ i.m.cls.baseRoutes = true ∧ r.passes i.s.st = true
      then [r.ev] else [] := by
  simp only [Node.svcEvs]
  cases n.isOn
  · simp
  · cases dget name n.svcRoutes with
    | none => simp
    | some u => by_cases hu : u = i.m.uid <;> simp [hu]

theorem appEvs_req (n : Node) (name : String) (r : AppReq) (i : AppInst) :
    n.appEvs (.appReq name r) i =
      if n.isOn = true ∧ dget name n.appRoutes = some i.m.uid ∧ i.m.cls.baseRoutes = true ∧
          (r = .execute → i.m.cls.genericExecute = true) ∧ r.passes i.a.st = true
      then [r.ev] else [] := by
  simp only [Node.appEvs]
  cases n.isOn
  · simp
  · cases dget name n.appRoutes with
    | none => simp
    | some u => by_cases hu : u = i.m.uid <;> simp [hu]

theorem svcReq_raised_unaddressed (n : Node) (name : String) (r : SvcReq) (h : n.svcReqOut name r = .raised) :
    Unaddressed n (.svcReq name r) := by
  refine ⟨fun u i hi => ?_, fun u i _ => ?_⟩
  · rw [svcEvs_req]
    refine if_neg (fun hc => ?_)
    -- the route names `i`, which exists: the request did not raise
    have hfv : n.findSvc i.m.uid = some i := by rw [findSvc_uid hi]; exact hi
    simp only [Node.svcReqOut, hc.1, Bool.not_true, Bool.false_eq_true, if_false, hc.2.1, hfv] at h
    split at h <;> cases h
  · exact appEvs_nil_of_fan_none n _ i nofun nofun rfl rfl

theorem appReq_raised_unaddressed (n : Node) (name : String) (r : AppReq) (h : n.appReqOut name r = .raised) :
    Unaddressed n (.appReq name r) := by
  refine ⟨fun u i _ => svcEvs_nil_of_fan_none n _ i nofun nofun rfl rfl, fun u i hi => ?_⟩
  rw [appEvs_req]
  refine if_neg (fun hc => ?_)
  have hfv : n.findApp i.m.uid = some i := by rw [findApp_uid hi]; exact hi
  simp only [Node.appReqOut, hc.1, Bool.not_true, Bool.false_eq_true, if_false, hc.2.1, hfv] at h
  split at h
  · cases h
  · split at h <;> cases h

/-- What `op` does in node state `n`, as a relation between `(n, op)` and the result of `step`:
* `idle`: only the power state and its countdowns may change; the operation raised, or it delivers nothing;
* `deliver`: the events of `op` are delivered to every object (and the power fields may change); if the answer is `raised`
  (a request routed to no object) nothing was addressed;
* `uninstall`, `installSvc`, `installApp`: the result of the method of that name (these deliver nothing);
* `reqInstall`: the install request: `installApp`, then `install()` on the object just created. -/
inductive StepKind (n : Node) (op : Op) : Node × Out → Prop
  | idle (p : Power) (up down : Int) (out : Out) (h : out = .raised ∨ Quiet n op) :
      StepKind n op ({ n with power := p, upCd := up, downCd := down }, out)
  | deliver (p : Power) (up down : Int) (out : Out) (h : out = .raised → Unaddressed n op) :
      StepKind n op ({ n.deliverEvs op with power := p, upCd := up, downCd := down }, out)
  | uninstall (name : String) (n' : Node) (out : Out) (hu : n.uninstall name = some n') (q : Quiet n op) :
      StepKind n op (n', out)
  | installSvc (c : Cls) (cfg : Bool) (l : List Nat) (hl : Health) (f : Int) (n' : Node)
      (hop : op = .installSvc c cfg l hl f) (hi : n.installSvc c cfg l hl f = some n') (q : Quiet n op) :
      StepKind n op (n', .done)
  | installApp (c : Cls) (cfg : Bool) (l : List Nat) (hl : Health) (f : Int) (n' : Node) (out : Out)
      (hop : op = .installApp c cfg l hl f ∨ ∃ name, op = .reqInstall name (some (c, l)))
      (hi : n.installApp c cfg l hl f = some n') (q : Quiet n op) :
      StepKind n op (n', out)
  | reqInstall (name : String) (c : Cls) (l : List Nat) (n1 : Node) (out : Out) (hop : op = .reqInstall name (some (c, l)))
      (hi : n.installApp c false l .good 2 = some n1) (q : Quiet n op) (hout : out ≠ .raised) :
      StepKind n op ({ n1 with apps := n1.apps.map (fun i => { i with a := if i.m.uid = n.next then i.a.install else i.a }) }, out)

theorem StepKind.same {n : Node} {op : Op} {out : Out} (h : out = .raised ∨ Quiet n op) : StepKind n op (n, out) :=
  .idle n.power n.upCd n.downCd out h

theorem step_kind (n : Node) (op : Op) : StepKind n op (n.step op) := by
  cases op with
  | installSvc c cfg l hl f =>
    have q : Quiet n (.installSvc c cfg l hl f) := quiet_of_fan_none n _ nofun nofun nofun nofun rfl rfl
    rw [Node.step.eq_1]
    cases hi : n.installSvc c cfg l hl f with
    | none => exact .same (Or.inl rfl)
    | some n' => exact .installSvc c cfg l hl f n' rfl hi q
  | installApp c cfg l hl f =>
    have q : Quiet n (.installApp c cfg l hl f) := quiet_of_fan_none n _ nofun nofun nofun nofun rfl rfl
    rw [Node.step.eq_2]
    cases hi : n.installApp c cfg l hl f with
    | none => exact .same (Or.inl rfl)
    | some n' => exact .installApp c cfg l hl f n' _ (Or.inl rfl) hi q
  | uninstall name =>
    have q : Quiet n (.uninstall name) := quiet_of_fan_none n _ nofun nofun nofun nofun rfl rfl
    rw [Node.step.eq_3]
    cases hu : n.uninstall name with
    | none => exact .same (Or.inl rfl)
    | some n' => exact .uninstall name n' _ hu q
  | reqInstall name c =>
    have q : Quiet n (.reqInstall name c) := quiet_of_fan_none n _ nofun nofun nofun nofun rfl rfl
    simp only [Node.step]
    split
    · exact .same (Or.inr q)
    · split
      · exact .same (Or.inr q)
      · cases c with
        | none => exact .same (Or.inr q)
        | some cl =>
          obtain ⟨c, l⟩ := cl
          cases hi : n.installApp c false l .good 2 with
          | none => simp only [hi]; exact .same (Or.inl rfl)
          | some n1 =>
            simp only [hi]
            split
            · exact .reqInstall name c l n1 _ rfl hi q nofun
            · exact .installApp c false l .good 2 n1 _ (Or.inr ⟨name, rfl⟩) hi q
  | reqUninstall name =>
    have q : Quiet n (.reqUninstall name) := quiet_of_fan_none n _ nofun nofun nofun nofun rfl rfl
    simp only [Node.step]
    split
    · exact .same (Or.inr q)
    · split
      · exact .same (Or.inr q)
      · cases hu : n.uninstall name with
        | none => exact .same (Or.inl rfl)
        | some n' => exact .uninstall name n' _ hu q
  | svcReq name r => exact .deliver n.power n.upCd n.downCd _ (svcReq_raised_unaddressed n name r)
  | appReq name r => exact .deliver n.power n.upCd n.downCd _ (appReq_raised_unaddressed n name r)
  | svcApi v e | appApi v e =>
    simp only [Node.step]
    split
    · split
      · exact .same (Or.inl rfl)
      · exact .deliver n.power n.upCd n.downCd _ nofun
    · exact .same (Or.inl rfl)
  | tick =>
    simp only [Node.step]
    split
    · exact .same (Or.inl rfl)
    · exact .deliver _ _ _ _ nofun
  | powerOn | powerOff =>
    simp only [Node.step]
    split
    · exact .deliver _ n.upCd n.downCd _ nofun
    · rename_i h0
      split
      · exact .idle _ _ _ _ (Or.inr (quiet_of_fan_none n _ nofun nofun nofun nofun (if_neg h0) rfl))
      · exact .same (Or.inr (quiet_of_fan_none n _ nofun nofun nofun nofun (if_neg h0) rfl))
  | reqStartup | reqShutdown =>
    simp only [Node.step]
    split
    · rename_i hp
      exact .same (Or.inr (quiet_of_fan_none n _ nofun nofun nofun nofun (if_neg (fun h => hp h.1)) rfl))
    · split
      · exact .deliver _ n.upCd n.downCd _ nofun
      · rename_i h0
        exact .idle _ _ _ _ (Or.inr (quiet_of_fan_none n _ nofun nofun nofun nofun (if_neg (fun h => h0 h.2)) rfl))
  | deliver p pr sc => exact .same (Or.inr (quiet_of_fan_none n _ nofun nofun nofun nofun rfl rfl))
  | frame hd sc | send v =>
    simp only [Node.step]
    split <;> exact .same (Or.inr (quiet_of_fan_none n _ nofun nofun nofun nofun rfl rfl))

theorem run_invariant (P : Node → Prop) (hstep : ∀ n op, P n → P (n.step op).1) (ops : List Op) (n : Node) (h : P n) :
    P (n.run ops) := by
  induction ops generalizing n with
  | nil => exact h
  | cons op ops ih => exact ih _ (hstep n op h)

end Primaite.C13
