/-
The registries of a node agree: the representation invariant `Rep`, dictionary lemmas, and its preservation by every
operation.  The property theorems that use it are in `Props/C13.lean`, `Props/C13Recv.lean` and `Props/C01Regs.lean`.
-/
import PrimaiteModel.Lemmas.RegistriesStep
import PrimaiteModel.Lemmas.ListFacts
namespace Primaite.C13
open Primaite.Lifecycle Primaite.Registries

/-- one installed software: its name, the uid of its object, service or application -/
structure Entry where
  name : String
  uid : Nat
  isApp : Bool
deriving DecidableEq, Repr

def Entry.kv (e : Entry) : String × Nat := (e.name, e.uid)

/-- **Agreement of the registries**: there is one list of installed software `es` (distinct names, distinct objects)
of which `software`, `node.services`, `node.applications`, the service routes and the application routes are
the order-preserving projections; every port-map entry belongs to an installed object; every object named
exists in the heap with that name and the right kind. -/
structure Rep (n : Node) (es : List Entry) : Prop where
  software : n.software = es.map Entry.kv
  services : n.services = (es.filter (fun e => !e.isApp)).map (·.uid)
  applications : n.applications = (es.filter (·.isApp)).map (·.uid)
  svcRoutes : n.svcRoutes = (es.filter (fun e => !e.isApp)).map Entry.kv
  appRoutes : n.appRoutes = (es.filter (·.isApp)).map Entry.kv
  namesNodup : (es.map (·.name)).Nodup
  uidsNodup : (es.map (·.uid)).Nodup
  uidsLt : ∀ e ∈ es, e.uid < n.next
  heapSvcLt : ∀ i ∈ n.svcs, i.m.uid < n.next
  heapAppLt : ∀ i ∈ n.apps, i.m.uid < n.next
  svcEntry : ∀ e ∈ es, e.isApp = false → ∃ i, n.findSvc e.uid = some i ∧ i.m.cls.name = e.name
  appEntry : ∀ e ∈ es, e.isApp = true → n.findSvc e.uid = none ∧ ∃ i, n.findApp e.uid = some i ∧ i.m.cls.name = e.name
  portOwners : ∀ x ∈ n.portMap, ∃ e ∈ es, e.uid = x.2
  portUidsNodup : (n.portMap.map (·.2)).Nodup

theorem rep_nameOf (n : Node) (es : List Entry) (h : Rep n es) (e : Entry) (he : e ∈ es) : n.nameOf e.uid = some e.name := by
  unfold Node.nameOf Node.metaOf
  cases hk : e.isApp
  · obtain ⟨i, hi, hn⟩ := h.svcEntry e he hk
    simp [hi, hn]
  · obtain ⟨hnone, i, hi, hn⟩ := h.appEntry e he hk
    simp [hnone, hi, hn]

/-- what agreement means for an observer: the same names everywhere, and `describe_state` lists exactly those -/
theorem C13_rep_names (n : Node) (es : List Entry) (h : Rep n es) :
    n.software.map (·.1) = es.map (·.name) ∧
    n.svcRoutes.map (·.1) ++ n.appRoutes.map (·.1) =
      (n.services ++ n.applications).filterMap n.nameOf ∧
    (∀ name, name ∈ n.software.map (·.1) ↔ name ∈ (n.services ++ n.applications).filterMap n.nameOf) ∧
    (∀ x ∈ n.portMap, ∃ name, n.nameOf x.2 = some name ∧ (name, x.2) ∈ n.software) := by
  have hname := rep_nameOf n es h
  have hfm : ∀ (l : List Entry), (∀ e ∈ l, e ∈ es) → (l.map (·.uid)).filterMap n.nameOf = l.map (·.name) := by
    intro l hl
    induction l with
    | nil => rfl
    | cons a t ih =>
      simp only [List.map_cons, List.filterMap_cons, hname a (hl a (by simp))]
      rw [ih (fun e he => hl e (by simp [he]))]
  have hsub1 : ∀ e ∈ es.filter (fun e => !e.isApp), e ∈ es := fun e he => (List.mem_filter.mp he).1
  have hsub2 : ∀ e ∈ es.filter (·.isApp), e ∈ es := fun e he => (List.mem_filter.mp he).1
  have hroutes : n.svcRoutes.map (·.1) ++ n.appRoutes.map (·.1) = (n.services ++ n.applications).filterMap n.nameOf := by
    rw [h.svcRoutes, h.appRoutes, h.services, h.applications, List.filterMap_append, hfm _ hsub1, hfm _ hsub2]
    simp [Entry.kv, List.map_map, Function.comp_def]
  refine ⟨by rw [h.software]; simp [Entry.kv, List.map_map, Function.comp_def], hroutes, ?_, ?_⟩
  · intro name
    rw [← hroutes, h.software, h.svcRoutes, h.appRoutes]
    simp only [Entry.kv, List.map_map, Function.comp_def, List.mem_map, List.mem_append, List.mem_filter]
    constructor
    · rintro ⟨e, he, rfl⟩
      cases hk : e.isApp
      · exact Or.inl ⟨e, ⟨he, by simp [hk]⟩, rfl⟩
      · exact Or.inr ⟨e, ⟨he, hk⟩, rfl⟩
    · rintro (⟨e, ⟨he, _⟩, rfl⟩ | ⟨e, ⟨he, _⟩, rfl⟩) <;> exact ⟨e, he, rfl⟩
  · intro x hx
    obtain ⟨e, he, hu⟩ := h.portOwners x hx
    refine ⟨e.name, hu ▸ hname e he, ?_⟩
    rw [h.software, ← hu]
    exact List.mem_map.mpr ⟨e, he, rfl⟩

theorem C13_rep_init (p : Power) (up down : Int) : Rep { power := p, upDur := up, downDur := down } [] := by
  constructor <;> simp [Node.findSvc, Node.findApp]

theorem dget_kv_none (l : List Entry) (name : String) (h : name ∉ l.map (·.name)) : dget name (l.map Entry.kv) = none := by
  induction l with
  | nil => rfl
  | cons a t ih =>
    simp only [List.map_cons, List.mem_cons, not_or] at h
    simp only [List.map_cons, Entry.kv, dget]
    rw [if_neg (fun hh => h.1 hh.symm)]
    exact ih h.2

theorem dget_mem {κ ν} [DecidableEq κ] (l : List (κ × ν)) (k : κ) (v : ν) (h : dget k l = some v) : (k, v) ∈ l := by
  induction l with
  | nil => simp [dget] at h
  | cons a t ih =>
    obtain ⟨k', v'⟩ := a
    simp only [dget] at h
    by_cases hk : k' = k
    · simp only [hk, if_true, Option.some.injEq] at h
      subst h; subst hk; simp
    · simp only [hk, if_false] at h
      exact List.mem_cons_of_mem _ (ih h)

theorem dget_kv_some (l : List Entry) (name : String) (u : Nat) (h : dget name (l.map Entry.kv) = some u) :
    ∃ e ∈ l, e.name = name ∧ e.uid = u := by
  obtain ⟨e, he, hkv⟩ := List.mem_map.mp (dget_mem _ _ _ h)
  exact ⟨e, he, (Prod.mk.inj hkv).1, (Prod.mk.inj hkv).2⟩

theorem dget_kv_mem (l : List Entry) (e : Entry) (he : e ∈ l) (hn : (l.map (·.name)).Nodup) :
    dget e.name (l.map Entry.kv) = some e.uid := by
  induction l with
  | nil => simp at he
  | cons a t ih =>
    simp only [List.map_cons, List.nodup_cons] at hn
    simp only [List.map_cons, Entry.kv, dget]
    rcases List.mem_cons.mp he with rfl | het
    · simp
    · have : a.name ≠ e.name := fun hh => hn.1 (hh ▸ List.mem_map.mpr ⟨e, het, rfl⟩)
      rw [if_neg this]
      exact ih het hn.2

theorem dget_dset {κ ν} [DecidableEq κ] (l : List (κ × ν)) (k k' : κ) (v : ν) :
    dget k' (dset k v l) = if k = k' then some v else dget k' l := by
  induction l with
  | nil => simp [dset, dget]
  | cons a t ih =>
    obtain ⟨ka, va⟩ := a
    by_cases h1 : ka = k
    · subst h1
      by_cases h2 : ka = k' <;> simp [dset, dget, h2]
    · by_cases h2 : ka = k'
      · subst h2
        have : ¬ k = ka := fun h => h1 h.symm
        simp [dset, dget, h1, this]
      · simp [dset, dget, h1, h2, ih]

theorem mem_ddel {κ ν} [DecidableEq κ] (l : List (κ × ν)) (k : κ) (x : κ × ν) (h : x ∈ ddel k l) : x ∈ l := by
  induction l with
  | nil => simp [ddel] at h
  | cons a t ih =>
    obtain ⟨ka, va⟩ := a
    simp only [ddel] at h
    by_cases hk : ka = k
    · simp only [hk, if_true] at h; exact List.mem_cons_of_mem _ h
    · simp only [hk, if_false, List.mem_cons] at h
      rcases h with h | h
      · simp [h]
      · exact List.mem_cons_of_mem _ (ih h)

theorem dset_fresh {κ ν} [DecidableEq κ] (l : List (κ × ν)) (k : κ) (v : ν) (h : dget k l = none) : dset k v l = l ++ [(k, v)] := by
  induction l with
  | nil => rfl
  | cons a t ih =>
    rcases a with ⟨k', v'⟩
    simp only [dget] at h
    by_cases hk : k' = k
    · rw [if_pos hk] at h; cases h
    · rw [if_neg hk] at h
      simp only [dset, if_neg hk, List.cons_append, ih h]

theorem mem_dset {κ ν} [DecidableEq κ] (l : List (κ × ν)) (k : κ) (v : ν) (x : κ × ν) (h : x ∈ dset k v l) : x ∈ l ∨ x = (k, v) := by
  induction l with
  | nil => simp [dset] at h; exact Or.inr h
  | cons a t ih =>
    rcases a with ⟨k', v'⟩
    simp only [dset] at h
    by_cases hk : k' = k
    · rw [if_pos hk] at h
      rcases List.mem_cons.mp h with rfl | h
      · exact Or.inr rfl
      · exact Or.inl (by simp [h])
    · rw [if_neg hk] at h
      rcases List.mem_cons.mp h with rfl | h
      · exact Or.inl (by simp)
      · rcases ih h with h | h
        · exact Or.inl (by simp [h])
        · exact Or.inr h

theorem dset_snd_nodup {κ} [DecidableEq κ] (l : List (κ × Nat)) (k : κ) (v : Nat) (hn : (l.map (·.2)).Nodup)
    (hv : v ∉ l.map (·.2)) : ((dset k v l).map (·.2)).Nodup := by
  induction l with
  | nil => simp [dset]
  | cons a t ih =>
    rcases a with ⟨k', v'⟩
    simp only [List.map_cons, List.nodup_cons, List.mem_cons, not_or] at hn hv
    simp only [dset]
    by_cases hk : k' = k
    · rw [if_pos hk]
      simp only [List.map_cons, List.nodup_cons]
      exact ⟨hv.2, hn.2⟩
    · rw [if_neg hk]
      simp only [List.map_cons, List.nodup_cons]
      refine ⟨?_, ih hn.2 hv.2⟩
      intro hm
      obtain ⟨x, hx, hx2⟩ := List.mem_map.mp hm
      rcases mem_dset t k v x hx with h | h
      · exact hn.1 (hx2 ▸ List.mem_map.mpr ⟨x, h, rfl⟩)
      · subst h; exact hv.1 hx2

theorem filter_noop (l : List Entry) (name : String) (h : ∀ x ∈ l, x.name ≠ name) :
    l.filter (fun e => e.name != name) = l := by
  apply List.filter_eq_self.mpr
  intro x hx; simpa using h x hx

theorem ddel_kv (l : List Entry) (name : String) (hn : (l.map (·.name)).Nodup) :
    ddel name (l.map Entry.kv) = (l.filter (fun e => e.name != name)).map Entry.kv := by
  induction l with
  | nil => rfl
  | cons a t ih =>
    simp only [List.map_cons, List.nodup_cons] at hn
    simp only [List.map_cons, Entry.kv, ddel]
    by_cases ha : a.name = name
    · rw [if_pos ha]
      have hall := filter_noop t name fun e he hh => hn.1 (ha ▸ hh ▸ List.mem_map.mpr ⟨e, he, rfl⟩)
      rw [List.filter_cons]
      simp only [ha, bne_self_eq_false, Bool.false_eq_true, if_false, hall]
    · rw [if_neg ha]
      have := ih hn.2
      have hne : (a.name != name) = true := by simpa using ha
      rw [List.filter_cons, if_pos hne, List.map_cons, ← this]
      rfl

theorem mem_delFirst {α} (p : α → Bool) (l : List α) (x : α) (h : x ∈ delFirst p l) : x ∈ l := by
  induction l with
  | nil => simp [delFirst] at h
  | cons a t ih =>
    simp only [delFirst] at h
    by_cases hp : p a = true
    · rw [if_pos hp] at h; simp [h]
    · rw [if_neg hp] at h
      rcases List.mem_cons.mp h with rfl | h
      · simp
      · simp [ih h]

theorem dget_delFirst_keep {κ ν} [DecidableEq κ] (p : κ × ν → Bool) (k : κ) (v : ν) (l : List (κ × ν))
    (h : dget k l = some v) (hp : p (k, v) = false) : dget k (delFirst p l) = some v := by
  induction l with
  | nil => simp [dget] at h
  | cons e t ih =>
    obtain ⟨k', v'⟩ := e
    by_cases hk : k' = k
    · subst hk
      simp only [dget, if_true, Option.some.injEq] at h
      subst h
      simp [delFirst, hp, dget]
    · simp only [dget, hk, if_false] at h
      by_cases hpe : p (k', v') = true
      · simp [delFirst, hpe, h]
      · simp [delFirst, hpe, dget, hk, ih h]

theorem delFirst_removes (p : (Nat × Nat) × Nat → Bool) (l : List ((Nat × Nat) × Nat)) (u : Nat)
    (hp : ∀ x ∈ l, p x = true ↔ x.2 = u) (hn : (l.map (·.2)).Nodup) :
    (∀ x ∈ delFirst p l, x.2 ≠ u) ∧ ((delFirst p l).map (·.2)).Nodup := by
  induction l with
  | nil => simp [delFirst]
  | cons a t ih =>
    simp only [List.map_cons, List.nodup_cons] at hn
    simp only [delFirst]
    by_cases hpa : p a = true
    · rw [if_pos hpa]
      have hau : a.2 = u := (hp a (by simp)).mp hpa
      refine ⟨?_, hn.2⟩
      intro x hx hxu
      exact hn.1 (hau ▸ hxu ▸ List.mem_map.mpr ⟨x, hx, rfl⟩)
    · rw [if_neg hpa]
      obtain ⟨h1, h2⟩ := ih (fun x hx => hp x (by simp [hx])) hn.2
      constructor
      · intro x hx
        rcases List.mem_cons.mp hx with rfl | hx
        · exact fun hh => hpa ((hp x (by simp)).mpr hh)
        · exact h1 x hx
      · simp only [List.map_cons, List.nodup_cons]
        refine ⟨?_, h2⟩
        intro hm
        obtain ⟨x, hx, hx2⟩ := List.mem_map.mp hm
        exact hn.1 (hx2 ▸ List.mem_map.mpr ⟨x, mem_delFirst p t x hx, rfl⟩)

theorem find_append_found {α} (l : List α) (x : α) (p : α → Bool) (i : α) (h : l.find? p = some i) :
    (l ++ [x]).find? p = some i := by
  rw [List.find?_append, h]; rfl

theorem find_none_of_lt {α} (key : α → Nat) (l : List α) (k : Nat) (h : ∀ i ∈ l, key i < k) :
    l.find? (fun i => key i == k) = none := by
  rw [List.find?_eq_none]
  intro i hi
  have := h i hi
  simp; omega

theorem name_fresh (n : Node) (es : List Entry) (h : Rep n es) (name : String) (hf : dhas name n.software = false) :
    name ∉ es.map (·.name) := by
  intro hm
  obtain ⟨e, he, rfl⟩ := List.mem_map.mp hm
  have := dget_kv_mem es e he h.namesNodup
  rw [← h.software] at this
  simp [dhas, this] at hf

theorem name_fresh_filter (es : List Entry) (p : Entry → Bool) (name : String) (h : name ∉ es.map (·.name)) :
    name ∉ (es.filter p).map (·.name) :=
  fun hm => h ((List.filter_sublist.map _).subset hm)

theorem port_uid_fresh (n : Node) (es : List Entry) (h : Rep n es) : n.next ∉ n.portMap.map (·.2) := by
  intro hm
  obtain ⟨x, hx, hx2⟩ := List.mem_map.mp hm
  obtain ⟨e, he, hu⟩ := h.portOwners x hx
  have := h.uidsLt e he
  omega

theorem rep_registerSvc (n : Node) (es : List Entry) (h : Rep n es) (c : Cls) (l : List Nat) (hl : Health) (f : Int)
    (hf : dhas c.name n.software = false) :
    Rep (n.registerSvc c l hl f) (es ++ [⟨c.name, n.next, false⟩]) := by
  have hfresh := name_fresh n es h c.name hf
  have hu : n.next ∉ es.map (·.uid) := by
    intro hm
    obtain ⟨e, he, hx⟩ := List.mem_map.mp hm
    have := h.uidsLt e he; omega
  constructor
  · show dset c.name n.next n.software = _
    rw [h.software, dset_fresh _ _ _ (dget_kv_none es c.name hfresh)]
    simp [Entry.kv]
  · show n.services ++ [n.next] = _
    rw [h.services]; simp [List.filter_append]
  · show n.applications = _
    rw [h.applications]; simp [List.filter_append]
  · show dset c.name n.next n.svcRoutes = _
    rw [h.svcRoutes, dset_fresh _ _ _ (dget_kv_none _ c.name (name_fresh_filter es _ c.name hfresh))]
    simp [List.filter_append, Entry.kv]
  · show n.appRoutes = _
    rw [h.appRoutes]; simp [List.filter_append]
  · rw [List.map_append]; exact nodup_snoc _ _ h.namesNodup hfresh
  · rw [List.map_append]; exact nodup_snoc _ _ h.uidsNodup hu
  · exact List.forall_mem_append.mpr ⟨fun e he => Nat.lt_succ_of_lt (h.uidsLt e he),
      List.forall_mem_singleton.mpr (Nat.lt_succ_self _)⟩
  · exact List.forall_mem_append.mpr ⟨fun i hi => Nat.lt_succ_of_lt (h.heapSvcLt i hi),
      List.forall_mem_singleton.mpr (Nat.lt_succ_self _)⟩
  · exact fun i hi => Nat.lt_succ_of_lt (h.heapAppLt i hi)
  · intro e he hk
    show ∃ i, (n.svcs ++ _).find? _ = some i ∧ _
    rcases List.mem_append.mp he with he | he
    · obtain ⟨i, hi, hn⟩ := h.svcEntry e he hk
      exact ⟨i, find_append_found _ _ _ _ hi, hn⟩
    · simp only [List.mem_singleton] at he; subst he
      rw [List.find?_append, find_none_of_lt (fun i : SvcInst => i.m.uid) n.svcs n.next h.heapSvcLt]
      simp
  · intro e he hk
    rcases List.mem_append.mp he with he | he
    · obtain ⟨hnone, i, hi, hn⟩ := h.appEntry e he hk
      refine ⟨?_, i, hi, hn⟩
      show (n.svcs ++ _).find? _ = none
      rw [List.find?_append]
      have : n.svcs.find? (fun i => i.m.uid == e.uid) = none := hnone
      rw [this]
      have := h.uidsLt e he
      simp; omega
    · simp only [List.mem_singleton] at he; subst he; cases hk
  · intro x hx
    rcases mem_dset _ _ _ x hx with hx | rfl
    · obtain ⟨e, he, hu⟩ := h.portOwners x hx
      exact ⟨e, by simp [he], hu⟩
    · exact ⟨⟨c.name, n.next, false⟩, by simp, rfl⟩
  · exact dset_snd_nodup _ _ _ h.portUidsNodup (port_uid_fresh n es h)

theorem rep_registerApp (n : Node) (es : List Entry) (h : Rep n es) (c : Cls) (l : List Nat) (hl : Health) (f : Int)
    (hf : dhas c.name n.software = false) :
    Rep (n.registerApp c l hl f) (es ++ [⟨c.name, n.next, true⟩]) := by
  have hfresh := name_fresh n es h c.name hf
  have hu : n.next ∉ es.map (·.uid) := by
    intro hm
    obtain ⟨e, he, hx⟩ := List.mem_map.mp hm
    have := h.uidsLt e he; omega
  constructor
  · show dset c.name n.next n.software = _
    rw [h.software, dset_fresh _ _ _ (dget_kv_none es c.name hfresh)]
    simp [Entry.kv]
  · show n.services = _
    rw [h.services]; simp [List.filter_append]
  · show n.applications ++ [n.next] = _
    rw [h.applications]; simp [List.filter_append]
  · show n.svcRoutes = _
    rw [h.svcRoutes]; simp [List.filter_append]
  · show dset c.name n.next n.appRoutes = _
    rw [h.appRoutes, dset_fresh _ _ _ (dget_kv_none _ c.name (name_fresh_filter es _ c.name hfresh))]
    simp [List.filter_append, Entry.kv]
  · rw [List.map_append]; exact nodup_snoc _ _ h.namesNodup hfresh
  · rw [List.map_append]; exact nodup_snoc _ _ h.uidsNodup hu
  · exact List.forall_mem_append.mpr ⟨fun e he => Nat.lt_succ_of_lt (h.uidsLt e he),
      List.forall_mem_singleton.mpr (Nat.lt_succ_self _)⟩
  · exact fun i hi => Nat.lt_succ_of_lt (h.heapSvcLt i hi)
  · exact List.forall_mem_append.mpr ⟨fun i hi => Nat.lt_succ_of_lt (h.heapAppLt i hi),
      List.forall_mem_singleton.mpr (Nat.lt_succ_self _)⟩
  · intro e he hk
    rcases List.mem_append.mp he with he | he
    · exact h.svcEntry e he hk
    · simp only [List.mem_singleton] at he; subst he; cases hk
  · intro e he hk
    rcases List.mem_append.mp he with he | he
    · obtain ⟨hnone, i, hi, hn⟩ := h.appEntry e he hk
      exact ⟨hnone, i, find_append_found _ _ _ _ hi, hn⟩
    · simp only [List.mem_singleton] at he; subst he
      refine ⟨find_none_of_lt (fun i : SvcInst => i.m.uid) n.svcs n.next h.heapSvcLt, ?_⟩
      show ∃ i, (n.apps ++ _).find? _ = some i ∧ _
      rw [List.find?_append, find_none_of_lt (fun i : AppInst => i.m.uid) n.apps n.next h.heapAppLt]
      simp
  · intro x hx
    rcases mem_dset _ _ _ x hx with hx | rfl
    · obtain ⟨e, he, hu⟩ := h.portOwners x hx
      exact ⟨e, by simp [he], hu⟩
    · exact ⟨⟨c.name, n.next, true⟩, by simp, rfl⟩
  · exact dset_snd_nodup _ _ _ h.portUidsNodup (port_uid_fresh n es h)

theorem find_map_meta_svc (l : List SvcInst) (g : SvcInst → Svc) (u : Nat) :
    (l.map (fun i => { i with s := g i })).find? (fun i => i.m.uid == u) =
      (l.find? (fun i => i.m.uid == u)).map (fun i => { i with s := g i }) := by
  rw [List.find?_map]; rfl

theorem find_map_meta_app (l : List AppInst) (g : AppInst → App) (u : Nat) :
    (l.map (fun i => { i with a := g i })).find? (fun i => i.m.uid == u) =
      (l.find? (fun i => i.m.uid == u)).map (fun i => { i with a := g i }) := by
  rw [List.find?_map]; rfl

/-- agreement only looks at the registries and at the objects' identity (`m`): rewriting lifecycle states keeps it -/
theorem rep_of_heap_map (n n' : Node) (es : List Entry) (h : Rep n es) (gs : SvcInst → Svc) (ga : AppInst → App)
    (h1 : n'.svcs = n.svcs.map (fun i => { i with s := gs i })) (h2 : n'.apps = n.apps.map (fun i => { i with a := ga i }))
    (h3 : n'.services = n.services) (h4 : n'.applications = n.applications) (h5 : n'.software = n.software)
    (h6 : n'.portMap = n.portMap) (h7 : n'.svcRoutes = n.svcRoutes) (h8 : n'.appRoutes = n.appRoutes)
    (h9 : n'.next = n.next) : Rep n' es := by
  have fs : ∀ u, n'.findSvc u = (n.findSvc u).map (fun i => { i with s := gs i }) := by
    intro u; show n'.svcs.find? _ = _; rw [h1]; exact find_map_meta_svc _ _ _
  have fa : ∀ u, n'.findApp u = (n.findApp u).map (fun i => { i with a := ga i }) := by
    intro u; show n'.apps.find? _ = _; rw [h2]; exact find_map_meta_app _ _ _
  constructor
  · rw [h5]; exact h.software
  · rw [h3]; exact h.services
  · rw [h4]; exact h.applications
  · rw [h7]; exact h.svcRoutes
  · rw [h8]; exact h.appRoutes
  · exact h.namesNodup
  · exact h.uidsNodup
  · rw [h9]; exact h.uidsLt
  · rw [h9, h1]; intro i hi
    obtain ⟨j, hj, rfl⟩ := List.mem_map.mp hi
    exact h.heapSvcLt j hj
  · rw [h9, h2]; intro i hi
    obtain ⟨j, hj, rfl⟩ := List.mem_map.mp hi
    exact h.heapAppLt j hj
  · intro e he hk
    obtain ⟨i, hi, hn⟩ := h.svcEntry e he hk
    exact ⟨{ i with s := gs i }, by rw [fs, hi]; rfl, hn⟩
  · intro e he hk
    obtain ⟨hnone, i, hi, hn⟩ := h.appEntry e he hk
    exact ⟨by rw [fs, hnone]; rfl, { i with a := ga i }, by rw [fa, hi]; rfl, hn⟩
  · rw [h6]; exact h.portOwners
  · rw [h6]; exact h.portUidsNodup

theorem filter_uid_eq_filter_name (l : List Entry) (u : Nat) (name : String)
    (h : ∀ x ∈ l, x.uid = u ↔ x.name = name) :
    (l.map (·.uid)).filter (· != u) = (l.filter (fun e => e.name != name)).map (·.uid) := by
  induction l with
  | nil => rfl
  | cons a t ih =>
    have hh := h a (by simp)
    have iht := ih (fun x hx => h x (by simp [hx]))
    by_cases ha : a.name = name
    · have hau : a.uid = u := hh.mpr ha
      simp [ha, hau, iht]
    · have hau : ¬ a.uid = u := fun hx => ha (hh.mp hx)
      simp [ha, hau, iht]

theorem filter_swap (es : List Entry) (p q : Entry → Bool) : (es.filter p).filter q = (es.filter q).filter p := by
  simp only [List.filter_filter]
  congr 1; funext x; exact Bool.and_comm _ _

theorem nodup_filter_map {β} (es : List Entry) (p : Entry → Bool) (f : Entry → β) (h : (es.map f).Nodup) :
    ((es.filter p).map f).Nodup :=
  List.Nodup.sublist ((List.filter_sublist).map f) h

/-- An installed entry inside the registries of its kind (`p` selects applications or services): its uid is listed there, once,
and its name is a registered route. -/
theorem rep_of_kind {n : Node} {es : List Entry} (h : Rep n es) (p : Entry → Bool) {e : Entry} (he : e ∈ es) (hp : p e = true) :
    e.uid ∈ (es.filter p).map (·.uid) ∧ ((es.filter p).map (·.uid)).Nodup ∧
      (dget e.name ((es.filter p).map Entry.kv)).isSome = true := by
  have hf : e ∈ es.filter p := List.mem_filter.mpr ⟨he, hp⟩
  refine ⟨List.mem_map_of_mem hf, nodup_filter_map es _ _ h.uidsNodup, ?_⟩
  rw [dget_kv_mem _ e hf (nodup_filter_map es _ _ h.namesNodup)]
  rfl

/-- Under agreement, `uninstall` never raises and removes exactly the named software from every registry. -/
theorem rep_uninstall (n : Node) (es : List Entry) (h : Rep n es) (name : String) :
    ∃ n', n.uninstall name = some n' ∧ Rep n' (es.filter (fun e => e.name != name)) := by
  cases hd : dget name n.software with
  | none =>
    refine ⟨n, by simp [Node.uninstall, hd], ?_⟩
    have : ∀ x ∈ es, x.name ≠ name := by
      intro x hx hxn
      have := dget_kv_mem es x hx h.namesNodup
      rw [← h.software, hxn, hd] at this; cases this
    rw [filter_noop es name this]; exact h
  | some u =>
    rw [h.software] at hd
    obtain ⟨e, he, hen, heu⟩ := dget_kv_some es name u hd
    rw [← h.software] at hd
    have key : ∀ x ∈ es, x.uid = u ↔ x.name = name := by
      intro x hx
      constructor
      · intro hxu; rw [eq_of_nodup_map (·.uid) h.uidsNodup hx he (hxu.trans heu.symm)]; exact hen
      · intro hxn; rw [eq_of_nodup_map (·.name) h.namesNodup hx he (hxn.trans hen.symm)]; exact heu
    have hpm : ∀ x ∈ n.portMap, ((n.nameOf x.2 == some name) = true ↔ x.2 = u) := by
      intro x hx
      obtain ⟨e', he', hu'⟩ := h.portOwners x hx
      rw [← hu', rep_nameOf n es h e' he']
      simp only [beq_iff_eq, Option.some.injEq]
      exact (key e' he').symm
    obtain ⟨pm1, pm2⟩ := delFirst_removes (fun e => n.nameOf e.2 == some name) n.portMap u hpm h.portUidsNodup
    have hmemf : ∀ x, x ∈ es.filter (fun e => e.name != name) → x ∈ es := fun x hx => (List.mem_filter.mp hx).1
    have hport : ∀ x ∈ delFirst (fun e => n.nameOf e.2 == some name) n.portMap,
        ∃ e' ∈ es.filter (fun e => e.name != name), e'.uid = x.2 := by
      intro x hx
      obtain ⟨e', he', hu'⟩ := h.portOwners x (mem_delFirst _ _ _ hx)
      refine ⟨e', List.mem_filter.mpr ⟨he', ?_⟩, hu'⟩
      have : ¬ e'.name = name := fun hh => pm1 x hx (hu' ▸ (key e' he').mpr hh)
      simpa using this
    -- the registries of the other kind hold no entry of that name
    have hother : ∀ q : Entry → Bool, q e = false → ∀ x ∈ es.filter q, x.name ≠ name := by
      intro q hq x hx hxn
      have hxe := eq_of_nodup_map (·.name) h.namesNodup (List.mem_filter.mp hx).1 he (hxn.trans hen.symm)
      have := (List.mem_filter.mp hx).2
      rw [hxe, hq] at this; cases this
    -- whatever the kind-specific registries become, provided they are the projections of the filtered list
    have build : ∀ sv ap sr ar,
        sv = ((es.filter (fun e => e.name != name)).filter (fun e => !e.isApp)).map (·.uid) →
        ap = ((es.filter (fun e => e.name != name)).filter (·.isApp)).map (·.uid) →
        sr = ((es.filter (fun e => e.name != name)).filter (fun e => !e.isApp)).map Entry.kv →
        ar = ((es.filter (fun e => e.name != name)).filter (·.isApp)).map Entry.kv →
        Rep { n with software := ddel name n.software, services := sv, applications := ap, svcRoutes := sr, appRoutes := ar,
                     portMap := delFirst (fun e => n.nameOf e.2 == some name) n.portMap,
                     classMap := delFirst (fun e => e.2 == name) n.classMap } (es.filter (fun e => e.name != name)) := by
      intro sv ap sr ar h1 h2 h3 h4
      exact {
        software := by show ddel name n.software = _; rw [h.software]; exact ddel_kv es name h.namesNodup
        services := h1, applications := h2, svcRoutes := h3, appRoutes := h4
        namesNodup := nodup_filter_map es _ _ h.namesNodup
        uidsNodup := nodup_filter_map es _ _ h.uidsNodup
        uidsLt := fun x hx => h.uidsLt x (hmemf x hx)
        heapSvcLt := h.heapSvcLt, heapAppLt := h.heapAppLt
        svcEntry := fun x hx hxk => h.svcEntry x (hmemf x hx) hxk
        appEntry := fun x hx hxk => h.appEntry x (hmemf x hx) hxk
        portOwners := hport, portUidsNodup := pm2 }
    have removed : ∀ q : Entry → Bool, ((es.filter q).map (·.uid)).filter (· != u) =
        ((es.filter (fun e => e.name != name)).filter q).map (·.uid) := fun q => by
      rw [filter_uid_eq_filter_name _ u name (fun x hx => key x (List.mem_filter.mp hx).1), filter_swap]
    have popped : ∀ q : Entry → Bool, ddel name ((es.filter q).map Entry.kv) =
        ((es.filter (fun e => e.name != name)).filter q).map Entry.kv := fun q => by
      rw [ddel_kv _ name (nodup_filter_map es _ _ h.namesNodup), filter_swap]
    have kept : ∀ q : Entry → Bool, q e = false →
        es.filter q = (es.filter (fun e => e.name != name)).filter q := fun q hq => by
      rw [filter_swap, filter_noop _ name (hother q hq)]
    cases hk : e.isApp
    · obtain ⟨i, hi, _⟩ := h.svcEntry e he hk
      have hroute : dhas name n.svcRoutes = true := by
        rw [h.svcRoutes, ← hen]; exact (rep_of_kind h _ he (by simp [hk])).2.2
      have hiu : n.findSvc u = some i := heu ▸ hi
      refine ⟨_, ?_, build (n.services.filter (· != u)) n.applications (ddel name n.svcRoutes) n.appRoutes ?_ ?_ ?_ ?_⟩
      · simp [Node.uninstall, hd, hiu, hroute]
      · rw [h.services]; exact removed _
      · rw [h.applications, ← kept _ hk]
      · rw [h.svcRoutes]; exact popped _
      · rw [h.appRoutes, ← kept _ hk]
    · obtain ⟨hnone, i, hi, _⟩ := h.appEntry e he hk
      have hroute : dhas name n.appRoutes = true := by
        rw [h.appRoutes, ← hen]; exact (rep_of_kind h _ he hk).2.2
      have hiu : n.findApp u = some i := heu ▸ hi
      have hnu : n.findSvc u = none := heu ▸ hnone
      have hk' : (fun e : Entry => !e.isApp) e = false := by simp [hk]
      refine ⟨_, ?_, build n.services (n.applications.filter (· != u)) n.svcRoutes (ddel name n.appRoutes) ?_ ?_ ?_ ?_⟩
      · simp [Node.uninstall, hd, hiu, hnu, hroute]
      · rw [h.services, ← kept _ hk']
      · rw [h.applications]; exact removed _
      · rw [h.svcRoutes, ← kept _ hk']
      · rw [h.appRoutes]; exact popped _

theorem rep_uninstall_free (n : Node) (es : List Entry) (h : Rep n es) (name : String) :
    ∃ n', n.uninstall name = some n' ∧ Rep n' (es.filter (fun e => e.name != name)) ∧ dhas name n'.software = false ∧
      n'.next = n.next := by
  obtain ⟨n', hu, hr⟩ := rep_uninstall n es h name
  refine ⟨n', hu, hr, ?_, ?_⟩
  · have hnot : name ∉ (es.filter (fun e => e.name != name)).map (·.name) := by
      intro hm
      obtain ⟨e, he, hen⟩ := List.mem_map.mp hm
      have := (List.mem_filter.mp he).2
      simp [hen] at this
    have := dget_kv_none _ name hnot
    rw [← hr.software] at this
    simp [dhas, this]
  · rcases uninstall_some n n' name hu with rfl | ⟨_, _, _, _, rfl⟩ <;> rfl

/-- Under agreement the eviction inside `install` never raises, keeps agreement and leaves the name free. -/
theorem rep_evict (n : Node) (es : List Entry) (h : Rep n es) (name : String) :
    ∃ n1 es1, n.evict name = some n1 ∧ Rep n1 es1 ∧ dhas name n1.software = false ∧ n1.next = n.next := by
  unfold Node.evict
  cases hd : dhas name n.software
  · exact ⟨n, es, by simp, h, hd, rfl⟩
  · obtain ⟨n', hu, hr, hfree, hnext⟩ := rep_uninstall_free n es h name
    exact ⟨n', _, by simpa using hu, hr, hfree, hnext⟩

/-- **`SoftwareManager.install` of a service keeps the registries in agreement, whatever is installed already**
(refused, or the installed instance of that name is evicted first), and never raises. -/
theorem rep_installSvc (n : Node) (es : List Entry) (h : Rep n es) (c : Cls) (cfg : Bool) (l : List Nat) (hl : Health) (f : Int) :
    ∃ n' es', n.installSvc c cfg l hl f = some n' ∧ Rep n' es' := by
  unfold Node.installSvc
  cases hg : n.installRefused c cfg
  · obtain ⟨n1, es1, he, hr, hfree, _⟩ := rep_evict n es h c.name
    exact ⟨_, _, by simp [he], rep_registerSvc n1 es1 hr c l hl f hfree⟩
  · exact ⟨n, es, by simp, h⟩

theorem rep_installApp (n : Node) (es : List Entry) (h : Rep n es) (c : Cls) (cfg : Bool) (l : List Nat) (hl : Health) (f : Int) :
    ∃ n' es', n.installApp c cfg l hl f = some n' ∧ Rep n' es' := by
  unfold Node.installApp
  cases hg : n.installRefused c cfg
  · obtain ⟨n1, es1, he, hr, hfree, _⟩ := rep_evict n es h c.name
    exact ⟨_, _, by simp [he], rep_registerApp n1 es1 hr c l hl f hfree⟩
  · exact ⟨n, es, by simp, h⟩

/-- **Every operation keeps the registries in agreement** — no hypothesis on the operation: an install of an installed name
evicts the old instance first (finding F-22). -/
theorem rep_step (n : Node) (es : List Entry) (h : Rep n es) (op : Op) :
    ∃ es', Rep (n.step op).1 es' := by
  have k := step_kind n op
  generalize n.step op = r at k ⊢
  cases k with
  | idle p up down out _ =>
    exact ⟨es, rep_of_heap_map n _ es h (fun i => i.s) (fun i => i.a) (List.map_id' _).symm (List.map_id' _).symm
      rfl rfl rfl rfl rfl rfl rfl⟩
  | deliver p up down out _ =>
    exact ⟨es, rep_of_heap_map n _ es h (fun i => i.s.applyAll (n.svcEvs op i)) (fun i => i.a.applyAll (n.appEvs op i))
      rfl rfl rfl rfl rfl rfl rfl rfl rfl⟩
  | uninstall name n' out hu _ =>
    obtain ⟨n'', hu', hr⟩ := rep_uninstall n es h name
    rw [hu] at hu'; cases hu'
    exact ⟨_, hr⟩
  | installSvc c cfg l hl f n' _ hi _ =>
    obtain ⟨n'', es', hi', hr⟩ := rep_installSvc n es h c cfg l hl f
    rw [hi] at hi'; cases hi'
    exact ⟨es', hr⟩
  | installApp c cfg l hl f n' out _ hi _ =>
    obtain ⟨n'', es', hi', hr⟩ := rep_installApp n es h c cfg l hl f
    rw [hi] at hi'; cases hi'
    exact ⟨es', hr⟩
  | reqInstall name c l n1 out _ hi _ _ =>
    obtain ⟨n'', es1, hi', h1⟩ := rep_installApp n es h c false l .good 2
    rw [hi] at hi'; cases hi'
    exact ⟨es1, rep_of_heap_map _ _ _ h1 (fun i => i.s) (fun i => if i.m.uid = n.next then i.a.install else i.a)
      (List.map_id' _).symm rfl rfl rfl rfl rfl rfl rfl rfl⟩

theorem rep_run (ops : List Op) (n : Node) (es : List Entry) (h : Rep n es) :
    ∃ es', Rep (n.run ops) es' :=
  run_invariant (fun n => ∃ es, Rep n es) (fun n op ⟨es, h⟩ => rep_step n es h op) ops n ⟨es, h⟩

end Primaite.C13
