/-
One folder of `Model/FileSystem.lean`: the invariant `FolderInv`, the bound `FolderBelow` on its file uuids, where the file
uuids of a later version come from (`FolderSub`, `FolderFrom`) and that none is lost (`FolderKeeps`).  What a method does to all of
them is one statement per method: `Folder.Change`, except for `add_file` of a new file, whose uuid enters.  Under the invariant
a look-up by name finds the live file of that name (`getFile_of_live`) and a file request changes nothing (`fileRequest_eq`).
-/
import PrimaiteModel.Lemmas.FileSystemBasics
namespace Primaite.FileSystem

/-- The structural invariant of one folder (live or deleted). -/
structure FolderInv (g : Folder) : Prop where
  /-- distinct uuids among the live files, among the deleted files … -/
  liveIds : (g.files.map File.id).Nodup
  delIds : (g.deletedFiles.map File.id).Nodup
  /-- … and no file in both dictionaries -/
  disjoint : ∀ a ∈ g.files, ∀ b ∈ g.deletedFiles, a.id ≠ b.id
  /-- the `deleted` flag says which dictionary a file is in -/
  liveFlag : ∀ a ∈ g.files, a.deleted = false
  delFlag : ∀ b ∈ g.deletedFiles, b.deleted = true
  /-- live file names are unique -/
  uniqueNames : ∀ a ∈ g.files, ∀ b ∈ g.files, a.name = b.name → a.id = b.id
  /-- the request route of a live file's name leads to that file -/
  routes : ∀ a ∈ g.files, lookupRoute g.fileRoutes a.name = some a.id

/-- every file uuid of the folder is below the allocation counter -/
def FolderBelow (n : Nat) (g : Folder) : Prop := ∀ a, a ∈ g.files ∨ a ∈ g.deletedFiles → a.id < n

theorem FolderBelow.mono {n m : Nat} {g : Folder} (h : FolderBelow n g) (hnm : n ≤ m) : FolderBelow m g :=
  fun a ha => Nat.lt_of_lt_of_le (h a ha) hnm

theorem folderInv_iff (g : Folder) :
    FolderInv g ↔ DictsInv File.id File.name File.deleted g.files g.deletedFiles g.fileRoutes :=
  ⟨fun h => ⟨h.1, h.2, h.3, h.4, h.5, h.6, h.7⟩, fun h => ⟨h.1, h.2, h.3, h.4, h.5, h.6, h.7⟩⟩

theorem FolderInv.congr {g g' : Folder} (h : FolderInv g) (h1 : g'.files = g.files)
    (h2 : g'.deletedFiles = g.deletedFiles) (h3 : g'.fileRoutes = g.fileRoutes) : FolderInv g' := by
  rw [folderInv_iff, h1, h2, h3]
  exact (folderInv_iff g).mp h

theorem FolderBelow.congr {n : Nat} {g g' : Folder} (h : FolderBelow n g) (h1 : g'.files = g.files)
    (h2 : g'.deletedFiles = g.deletedFiles) : FolderBelow n g' := by
  unfold FolderBelow; rw [h1, h2]; exact h

/-- every file uuid of `g'` is a file uuid of `g` -/
def FolderSub (g g' : Folder) : Prop :=
  ∀ f', f' ∈ g'.files ∨ f' ∈ g'.deletedFiles → ∃ f, (f ∈ g.files ∨ f ∈ g.deletedFiles) ∧ f.id = f'.id

/-- every file uuid of `g'` is a file uuid of `g`, or is `n` -/
def FolderFrom (n : Nat) (g g' : Folder) : Prop :=
  ∀ f', f' ∈ g'.files ∨ f' ∈ g'.deletedFiles → (∃ f, (f ∈ g.files ∨ f ∈ g.deletedFiles) ∧ f.id = f'.id) ∨ f'.id = n

theorem FolderSub.refl (g : Folder) : FolderSub g g := fun f hf => ⟨f, hf, rfl⟩

theorem FolderSub.trans {a b c : Folder} (h1 : FolderSub a b) (h2 : FolderSub b c) : FolderSub a c := by
  intro f hf
  obtain ⟨f1, hf1, e1⟩ := h2 f hf
  obtain ⟨f0, hf0, e0⟩ := h1 f1 hf1
  exact ⟨f0, hf0, e0.trans e1⟩

theorem FolderSub.of_eq {g g' : Folder} (h1 : g'.files = g.files) (h2 : g'.deletedFiles = g.deletedFiles) : FolderSub g g' := by
  intro f hf; exact ⟨f, by rw [← h1, ← h2]; exact hf, rfl⟩

theorem FolderSub.from (n : Nat) {g g' : Folder} (h : FolderSub g g') : FolderFrom n g g' := fun f hf => Or.inl (h f hf)

theorem FolderFrom.after_sub {n : Nat} {a b c : Folder} (h1 : FolderSub a b) (h2 : FolderFrom n b c) : FolderFrom n a c := by
  intro f hf
  rcases h2 f hf with ⟨f1, hf1, e1⟩ | e
  · obtain ⟨f0, hf0, e0⟩ := h1 f1 hf1
    exact Or.inl ⟨f0, hf0, e0.trans e1⟩
  · exact Or.inr e

theorem FolderSub.below {k : Nat} {g g' : Folder} (h : FolderSub g g') (hb : FolderBelow k g) : FolderBelow k g' := by
  intro a ha
  obtain ⟨f, hf, e⟩ := h a ha
  exact e ▸ hb f hf

theorem FolderFrom.below {n k : Nat} {g g' : Folder} (h : FolderFrom n g g') (hb : FolderBelow k g) (hn : n < k) :
    FolderBelow k g' := by
  intro a ha
  rcases h a ha with ⟨f, hf, e⟩ | e
  · exact e ▸ hb f hf
  · exact e ▸ hn

/-- every file uuid of `g` is still a file uuid of `g'` -/
def FolderKeeps (g g' : Folder) : Prop :=
  ∀ f, f ∈ g.files ∨ f ∈ g.deletedFiles → ∃ f', (f' ∈ g'.files ∨ f' ∈ g'.deletedFiles) ∧ f'.id = f.id

/-! `FolderKeeps g g'` unfolds to `FolderSub g' g`: the same relation read forwards. -/

theorem FolderKeeps.refl (g : Folder) : FolderKeeps g g := FolderSub.refl g

theorem FolderKeeps.trans {a b c : Folder} (h1 : FolderKeeps a b) (h2 : FolderKeeps b c) : FolderKeeps a c :=
  FolderSub.trans h2 h1

theorem FolderKeeps.of_eq {g g' : Folder} (h1 : g'.files = g.files) (h2 : g'.deletedFiles = g.deletedFiles) :
    FolderKeeps g g' :=
  FolderSub.of_eq h1.symm h2.symm

theorem folderInv_empty (i : Nat) (n : Name) (d : Int) :
    FolderInv { id := i, name := n, restoreDuration := d } := by
  constructor <;> simp

theorem getFile_live {g : Folder} {n : Name} {f : File} (h : g.getFile n = some f) : f ∈ g.files ∧ f.name = n := by
  unfold Folder.getFile at h
  split at h
  · rename_i f' hf
    simp only [Option.some.injEq] at h; subst h
    exact ⟨List.mem_of_find?_eq_some hf, by simpa using List.find?_some hf⟩
  · simp at h

theorem getFile_none {g : Folder} {n : Name} (h : g.getFile n = none) : ∀ a ∈ g.files, a.name ≠ n := by
  unfold Folder.getFile at h
  split at h
  · simp at h
  · rename_i hf
    intro a ha
    have := List.find?_eq_none.mp hf a ha
    simpa using this

theorem getFile_none_of {g : Folder} {x : Name} (h : ∀ a ∈ g.files, a.name ≠ x) : g.getFile x = none := by
  unfold Folder.getFile
  have : g.files.find? (fun f => f.name == x) = none := by
    apply List.find?_eq_none.mpr
    intro a ha; simpa using h a ha
  simp [this]

/-- `get_file(name, include_deleted=True)`: a live file of that name, or — when there is no live one — a deleted one. -/
theorem getFile_incl {g : Folder} {n : Name} {f : File} (h : g.getFile n true = some f) :
    f.name = n ∧ (f ∈ g.files ∨ (f ∈ g.deletedFiles ∧ ∀ a ∈ g.files, a.name ≠ n)) := by
  unfold Folder.getFile at h
  split at h
  · rename_i f' hf
    simp only [Option.some.injEq] at h; subst h
    exact ⟨by simpa using List.find?_some hf, Or.inl (List.mem_of_find?_eq_some hf)⟩
  · rename_i hf
    simp only [if_true] at h
    refine ⟨by simpa using List.find?_some h, Or.inr ⟨List.mem_of_find?_eq_some h, ?_⟩⟩
    intro a ha
    simpa using List.find?_eq_none.mp hf a ha

theorem getFile_of_live {g : Folder} (h : FolderInv g) {f : File} (hf : f ∈ g.files) : g.getFile f.name = some f := by
  cases hg : g.getFile f.name with
  | none => exact absurd rfl (getFile_none hg f hf)
  | some f0 =>
    obtain ⟨h0, hn⟩ := getFile_live hg
    rw [eq_of_nodup_map File.id h.liveIds h0 hf (h.uniqueNames f0 h0 f hf hn)]

/-- A change of a folder in which no file uuid enters or leaves: uuid and name stay, a live folder stays live, the invariant is
kept, and the file uuids afterwards are those before.  Every method of a folder is one (below) except `add_file` of a new file. -/
structure Folder.Change (g g' : Folder) : Prop where
  id : g'.id = g.id
  name : g'.name = g.name
  flag : g.deleted = false → g'.deleted = false
  inv : FolderInv g → FolderInv g'
  sub : FolderSub g g'
  keeps : FolderKeeps g g'

/-- only attributes change: countdown, duration, the flag of a live folder cleared again -/
theorem Folder.Change.attrs {g g' : Folder} (hi : g'.id = g.id) (hn : g'.name = g.name) (hd : g.deleted = false → g'.deleted = false)
    (hf : g'.files = g.files) (hdf : g'.deletedFiles = g.deletedFiles) (hr : g'.fileRoutes = g.fileRoutes) : Folder.Change g g' :=
  ⟨hi, hn, hd, fun h => h.congr hf hdf hr, .of_eq hf hdf, .of_eq hf hdf⟩

theorem Folder.Change.refl (g : Folder) : Folder.Change g g := .attrs rfl rfl (fun h => h) rfl rfl rfl

theorem Folder.Change.trans {a b c : Folder} (h1 : Folder.Change a b) (h2 : Folder.Change b c) : Folder.Change a c :=
  ⟨h2.id.trans h1.id, h2.name.trans h1.name, h2.flag ∘ h1.flag, h2.inv ∘ h1.inv, h1.sub.trans h2.sub, h1.keeps.trans h2.keeps⟩

theorem folderInv_addFile_new {g : Folder} (h : FolderInv g) {f : File}
    (hid : ∀ a, a ∈ g.files ∨ a ∈ g.deletedFiles → a.id ≠ f.id) (hname : ∀ a ∈ g.files, a.name ≠ f.name)
    (hdel : f.deleted = false) : FolderInv (g.addFile f) :=
  (folderInv_iff _).mpr (((folderInv_iff g).mp h).setLive hdel (fun a ha _ => hname a ha)
    (fun b hb => ⟨hb, hid b (Or.inr hb)⟩) h.delIds)

theorem addFile_existing_files {g : Folder} (h : FolderInv g) {f : File} (hf : f ∈ g.files) :
    (g.addFile f).files = g.files ∧ (g.addFile f).deletedFiles = g.deletedFiles := by
  unfold Folder.addFile
  simp [dictSet_self File.id h.liveIds hf]

theorem folderFrom_addFile (g : Folder) (f : File) : FolderFrom f.id g (g.addFile f) := by
  intro y hy
  unfold Folder.addFile at hy
  rcases hy with hy | hy
  · rcases (mem_dictSet File.id).mp hy with rfl | ⟨hy, _⟩
    · exact Or.inr rfl
    · exact Or.inl ⟨y, Or.inl hy, rfl⟩
  · exact Or.inl ⟨y, Or.inr hy, rfl⟩

theorem folderBelow_addFile {n : Nat} {g : Folder} (h : FolderBelow n g) {f : File} (hf : f.id < n) :
    FolderBelow n (g.addFile f) :=
  (folderFrom_addFile g f).below h hf

theorem folderKeeps_addFile (g : Folder) (f : File) : FolderKeeps g (g.addFile f) := by
  intro y hy
  unfold Folder.addFile
  rcases hy with hy | hy
  · obtain ⟨y', hy', e⟩ := dictSet_keeps File.id f hy
    exact ⟨y', Or.inl hy', e⟩
  · exact ⟨y, Or.inr hy, rfl⟩

theorem addFile_meta (g : Folder) (f : File) :
    (g.addFile f).id = g.id ∧ (g.addFile f).name = g.name ∧ (g.addFile f).deleted = g.deleted := by
  simp [Folder.addFile]

/-- `add_file(force=True)` of the file that is already live under that name: only the route is re-registered. -/
theorem Folder.Change.readd (g : Folder) {f : File} (hf : f ∈ g.files) : Folder.Change g (g.addFile f) := by
  refine ⟨rfl, rfl, fun h => h, fun h => ?_, fun y hy => ?_, folderKeeps_addFile g f⟩
  · exact (folderInv_iff _).mpr (((folderInv_iff g).mp h).setLive (h.liveFlag f hf)
      (fun a ha hne hn => hne (h.uniqueNames a ha f hf hn)) (fun b hb => ⟨hb, fun e => h.disjoint f hf b hb e.symm⟩) h.delIds)
  · exact (folderFrom_addFile g f y hy).elim (fun h => h) (fun h => ⟨f, Or.inl hf, h.symm⟩)

theorem removeFile_meta (g : Folder) (f : File) :
    (g.removeFile f).id = g.id ∧ (g.removeFile f).name = g.name ∧ (g.removeFile f).deleted = g.deleted := by
  unfold Folder.removeFile; split <;> simp

theorem Folder.Change.removeFile (g : Folder) (f : File) : Folder.Change g (g.removeFile f) := by
  unfold Folder.removeFile
  split
  · rename_i hany
    refine ⟨rfl, rfl, fun h => h, fun h => (folderInv_iff _).mpr (((folderInv_iff g).mp h).toDeleted (x := f.delete) rfl),
      fun y hy => ?_, fun y hy => ?_⟩
    · rcases hy with hy | hy
      · exact ⟨y, Or.inl ((mem_dictPop File.id).mp hy).1, rfl⟩
      · rcases (mem_dictSet File.id).mp hy with rfl | ⟨hy, _⟩
        · simp only [List.any_eq_true, beq_iff_eq] at hany
          obtain ⟨z, hz, hzid⟩ := hany
          exact ⟨z, Or.inl hz, hzid⟩
        · exact ⟨y, Or.inr hy, rfl⟩
    · rcases hy with hy | hy
      · by_cases hk : y.id = f.id
        · exact ⟨f.delete, Or.inr ((mem_dictSet File.id).mpr (Or.inl rfl)), hk.symm⟩
        · exact ⟨y, Or.inl ((mem_dictPop File.id).mpr ⟨hy, hk⟩), rfl⟩
      · obtain ⟨y', hy', e⟩ := dictSet_keeps File.id f.delete hy
        exact ⟨y', Or.inr hy', e⟩
  · exact .refl g

theorem removeFileByName_spec {g : Folder} {n : Name} :
    (∃ f ∈ g.files, f.name = n ∧ g.removeFileByName n = (g.removeFile f, true)) ∨
    ((∀ a ∈ g.files, a.name ≠ n) ∧ g.removeFileByName n = (g, false)) := by
  unfold Folder.removeFileByName
  split
  · rename_i f hf
    exact Or.inl ⟨f, List.mem_of_find?_eq_some hf, by simpa using List.find?_some hf, rfl⟩
  · rename_i hf
    refine Or.inr ⟨?_, rfl⟩
    intro a ha
    simpa using List.find?_eq_none.mp hf a ha

/-- The accumulated `deleted_files` of `remove_all_files`: a member was in `d` or is a file of `fs`, flagged, and no uuid of
either is lost. -/
theorem foldl_delete_spec (fs d : List File) :
    (∀ y ∈ fs.foldl (fun d f => dictSet File.id d f.delete) d, y ∈ d ∨ ∃ f ∈ fs, y = f.delete) ∧
    ∀ i, (∃ y ∈ d, y.id = i) ∨ (∃ y ∈ fs, y.id = i) → ∃ y ∈ fs.foldl (fun d f => dictSet File.id d f.delete) d, y.id = i := by
  induction fs generalizing d with
  | nil => exact ⟨fun y h => Or.inl h, fun i hi => hi.resolve_right (by simp)⟩
  | cons c t ih =>
    simp only [List.foldl_cons]
    refine ⟨fun y h => ?_, fun i hi => (ih _).2 i ?_⟩
    · rcases (ih _).1 y h with h' | ⟨f, hf, rfl⟩
      · rcases (mem_dictSet File.id).mp h' with rfl | ⟨h', _⟩
        · exact Or.inr ⟨c, List.mem_cons_self .., rfl⟩
        · exact Or.inl h'
      · exact Or.inr ⟨f, List.mem_cons_of_mem _ hf, rfl⟩
    · rcases hi with ⟨y, hy, hyi⟩ | ⟨y, hy, hyi⟩
      · obtain ⟨y', hy', e⟩ := dictSet_keeps File.id c.delete hy
        exact Or.inl ⟨y', hy', e.trans hyi⟩
      · rcases List.mem_cons.mp hy with rfl | hy
        · exact Or.inl ⟨y.delete, (mem_dictSet File.id).mpr (Or.inl rfl), hyi⟩
        · exact Or.inr ⟨y, hy, hyi⟩

theorem nodup_foldl_delete {fs d : List File} (h : (d.map File.id).Nodup) :
    ((fs.foldl (fun d f => dictSet File.id d f.delete) d).map File.id).Nodup := by
  induction fs generalizing d with
  | nil => exact h
  | cons c t ih => exact ih (nodup_dictSet _ h)

theorem Folder.Change.removeAllFiles (g : Folder) : Folder.Change g g.removeAllFiles := by
  unfold Folder.removeAllFiles
  refine ⟨rfl, rfl, fun h => h, fun h => ?_, fun y hy => ?_, fun y hy => ?_⟩
  · constructor
    · simp
    · exact nodup_foldl_delete h.delIds
    · simp
    · simp
    · intro b hb
      rcases (foldl_delete_spec _ _).1 b hb with hb | ⟨f, _, rfl⟩
      · exact h.delFlag b hb
      · rfl
    · simp
    · simp
  · rcases hy with hy | hy
    · cases hy
    · rcases (foldl_delete_spec _ _).1 y hy with hy | ⟨f, hf, rfl⟩
      · exact ⟨y, Or.inr hy, rfl⟩
      · exact ⟨f, Or.inl hf, rfl⟩
  · obtain ⟨y', hy', e⟩ := (foldl_delete_spec g.files g.deletedFiles).2 y.id
      (hy.symm.imp (fun h => ⟨y, h, rfl⟩) (fun h => ⟨y, h, rfl⟩))
    exact ⟨y', Or.inr hy', e⟩

/-- The folder `delete_folder` puts into `deleted_folders`: flagged, then emptied. -/
theorem removeAllFiles_flagged (g : Folder) :
    (FolderInv g → FolderInv { g with deleted := true }.removeAllFiles) ∧
    FolderSub g { g with deleted := true }.removeAllFiles ∧ FolderKeeps g { g with deleted := true }.removeAllFiles :=
  have c := Folder.Change.removeAllFiles { g with deleted := true }
  -- `FolderSub` and `FolderKeeps` read the two dictionaries only: for them `{ g with deleted := true }` is `g`
  ⟨fun h => c.inv (h.congr rfl rfl rfl), c.sub, c.keeps⟩

theorem restoreFile_meta (g : Folder) (n : Name) :
    (g.restoreFile n).1.id = g.id ∧ (g.restoreFile n).1.name = g.name ∧ (g.restoreFile n).1.deleted = g.deleted ∧
    (g.restoreFile n).1.restoreCountdown = g.restoreCountdown ∧ (g.restoreFile n).1.restoreDuration = g.restoreDuration := by
  unfold Folder.restoreFile
  split <;> simp

theorem Folder.Change.restoreFile (g : Folder) (x : Name) : Folder.Change g (g.restoreFile x).1 := by
  unfold Folder.restoreFile
  split
  · exact .refl g
  · rename_i f hf
    obtain ⟨hfn, hcase⟩ := getFile_incl hf
    refine ⟨rfl, rfl, fun h => h, fun h => ?_, fun y hy => ?_, fun y hy => ?_⟩
    · have hother : ∀ a ∈ g.files, a.id ≠ f.id → a.name ≠ f.name := by
        intro a ha hne hn
        rcases hcase with hl | ⟨_, hno⟩
        · exact hne (h.uniqueNames a ha f hl hn)
        · exact hno a ha (hn.trans hfn)
      exact (folderInv_iff _).mpr (((folderInv_iff g).mp h).setLive (x := f.restore) rfl hother
        (fun b hb => (mem_dictPop File.id).mp hb) (nodup_dictPop _ h.delIds))
    · rcases hy with hy | hy
      · rcases (mem_dictSet File.id).mp hy with rfl | ⟨hy, _⟩
        · exact ⟨f, hcase.imp (fun h => h) (fun h => h.1), rfl⟩
        · exact ⟨y, Or.inl hy, rfl⟩
      · exact ⟨y, Or.inr ((mem_dictPop File.id).mp hy).1, rfl⟩
    · rcases hy with hy | hy
      · obtain ⟨y', hy', e⟩ := dictSet_keeps File.id f.restore hy
        exact ⟨y', Or.inl hy', e⟩
      · by_cases hk : y.id = f.id
        · exact ⟨f.restore, Or.inl ((mem_dictSet File.id).mpr (Or.inl rfl)), hk.symm⟩
        · exact ⟨y, Or.inr ((mem_dictPop File.id).mpr ⟨hy, hk⟩), rfl⟩

/-- `_restoring_timestep` is a chain: the countdown moves, `restore_file` runs once per name in the two loops, the flag is
cleared. -/
theorem Folder.Change.restoringTimestep (g : Folder) : Folder.Change g g.restoringTimestep := by
  have hcount : ∀ (g : Folder) (c : Int), Folder.Change g { g with restoreCountdown := c } :=
    fun _ _ => .attrs rfl rfl (fun h => h) rfl rfl rfl
  have hfold : ∀ (fs : List File) (g : Folder),
      Folder.Change g (fs.foldl (fun (a : Folder) (f : File) => (a.restoreFile f.name).1) g) := by
    intro fs
    induction fs with
    | nil => exact .refl
    | cons c t ih => exact fun g => (Folder.Change.restoreFile g c.name).trans (ih _)
  unfold Folder.restoringTimestep
  split
  · simp only
    split
    · exact (((hcount g _).trans (hfold _ _)).trans (hfold _ _)).trans (.attrs rfl rfl (fun _ => rfl) rfl rfl rfl)
    · exact hcount g _
  · exact .refl g

theorem File.restore_of_live {f : File} (h : f.deleted = false) : f.restore = f := by
  cases f; simp_all [File.restore]

theorem File.verb_of_live {f f' : File} {v : Verb} {b : Bool} (hl : f.deleted = false) (hv : f.verb v = some (f', b)) :
    f' = f := by
  cases v <;> simp [File.verb] at hv <;> try exact hv.1.symm
  · rw [File.restore_of_live hl] at hv; exact hv.1.symm

theorem file_eq_of_id {g : Folder} (h : FolderInv g) {f f0 : File} (hf : f ∈ g.files)
    (h0 : f0 ∈ g.files ++ g.deletedFiles) (hid : f0.id = f.id) : f0 = f := by
  rcases List.mem_append.mp h0 with h0 | h0
  · exact eq_of_nodup_map File.id h.liveIds h0 hf hid
  · exact absurd hid.symm (h.disjoint f hf f0 h0)

/-- Under the invariant a file request is answered by the live file of that name and changes nothing: the guards find
that file, the route leads to it, and none of the five verbs changes a live file's structure. -/
theorem fileRequest_eq {g : Folder} (h : FolderInv g) (x : Name) (v : Verb) :
    g.fileRequest x v =
      match g.getFile x with
      | none => (g, .failure)
      | some f =>
        match f.verb v with
        | none => (g, .unreachable)
        | some (_, b) => (g, if b then .success else .failure) := by
  unfold Folder.fileRequest Folder.fileGuard
  cases hf : g.getFile x with
  | none => rfl
  | some f =>
    obtain ⟨hfm, hfn⟩ := getFile_live hf
    have hfl := h.liveFlag f hfm
    have hr : lookupRoute g.fileRoutes x = some f.id := hfn ▸ h.routes f hfm
    have hfind : (g.files ++ g.deletedFiles).find? (fun y => y.id == f.id) = some f :=
      find?_key_eq_some File.id (List.mem_append.mpr (Or.inl hfm)) (fun a ha e => file_eq_of_id h hfm ha e)
    simp only [hfl, Bool.not_false, Bool.not_true, Bool.false_eq_true, if_false, hr, hfind]
    cases hv : f.verb v with
    | none => rfl
    | some p =>
      obtain ⟨f', b⟩ := p
      have hf' := File.verb_of_live hfl hv
      subst hf'
      simp only
      rw [map_replace_self File.id h.liveIds hfm,
        map_replace_absent File.id (fun y hy hyi => h.disjoint f' hfm y hy hyi.symm)]

theorem fileRequest_state {g : Folder} (h : FolderInv g) (x : Name) (v : Verb) : (g.fileRequest x v).1 = g := by
  rw [fileRequest_eq h]
  cases g.getFile x with
  | none => rfl
  | some f =>
    simp only
    cases f.verb v with
    | none => rfl
    | some p => rfl

theorem fileRequest_refused {g : Folder} {x : Name} (v : Verb) (h : ∀ a ∈ g.files, a.name ≠ x) :
    (g.fileRequest x v).2 = .failure := by
  unfold Folder.fileRequest Folder.fileGuard
  simp [getFile_none_of h]

end Primaite.FileSystem
