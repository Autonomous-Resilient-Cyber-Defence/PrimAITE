/-
The pieces of the Python-API operations of `Model/FileSystemApi.lean`: `add_file` (forced, and with its two refusals),
`get_folder(G) or create_folder(G)`, the file leaving its folder in `move_file`, and the side condition `MoveFresh` of a move.
-/
import PrimaiteModel.Model.FileSystemApi
import PrimaiteModel.Lemmas.FileSystemState
namespace Primaite.FileSystem

theorem addFileForced_existing {g : Folder} {x : Name} {f : File} (hf : g.getFile x = some f) :
    g.addFileForced f = g.addFile f := by
  obtain ⟨_, hn⟩ := getFile_live hf
  unfold Folder.addFileForced
  rw [hn, hf]
  simp

theorem addFileForced_new {g : Folder} {f : File} (hf : g.getFile f.name = none) :
    g.addFileForced f = g.addFile f := by
  unfold Folder.addFileForced
  rw [hf]

theorem addFileApi_existing {g : Folder} {x : Name} {f : File} (hf : g.getFile x = some f) (force : Bool) :
    g.addFileApi f force = if force then some (g.addFile f) else none := by
  have hx := (getFile_live hf).2
  subst hx
  cases force <;> simp [Folder.addFileApi, hf, addFileForced_existing hf]

theorem addFileApi_new {g : Folder} {f : File} (hn : g.getFile f.name = none) (hid : ∀ y ∈ g.files, y.id ≠ f.id) (force : Bool) :
    g.addFileApi f force = some (g.addFile f) := by
  have hany : g.files.any (fun y => y.id == f.id) = false := by
    simp only [List.any_eq_false, beq_iff_eq]; exact hid
  simp [Folder.addFileApi, hn, hany, addFileForced_new hn]

theorem addFileForced_meta (g : Folder) (f : File) :
    (g.addFileForced f).id = g.id ∧ (g.addFileForced f).name = g.name ∧ (g.addFileForced f).deleted = g.deleted := by
  unfold Folder.addFileForced
  split
  · split
    · obtain ⟨a, b, c⟩ := addFile_meta (g.removeFile ‹File›) f
      obtain ⟨a', b', c'⟩ := removeFile_meta g ‹File›
      exact ⟨a.trans a', b.trans b', c.trans c'⟩
    · exact addFile_meta g f
  · exact addFile_meta g f

theorem folderFrom_addFileForced (g : Folder) (f : File) : FolderFrom f.id g (g.addFileForced f) := by
  unfold Folder.addFileForced
  split
  · split
    · exact FolderFrom.after_sub (Folder.Change.removeFile g _).sub (folderFrom_addFile _ f)
    · exact folderFrom_addFile g f
  · exact folderFrom_addFile g f

theorem mem_getOrCreateFolder_of_live {s : State} (h : Inv s) {g : Folder} (hg : g ∈ s.folders) (G : Name) :
    g ∈ (getOrCreateFolder s G).1.folders := by
  unfold getOrCreateFolder
  cases hG : getFolder s G with
  | some _ => exact hg
  | none =>
    rw [createFolder_eq, hG]
    refine (mem_dictSet Folder.id).mpr (Or.inr ⟨hg, ?_⟩)
    rw [(setDur_fields s { id := s.next, name := G }).1]
    exact Nat.ne_of_lt (h.folder g (Or.inl hg)).2.2

theorem folderInv_popLive {g : Folder} (h : FolderInv g) (k : Nat) :
    FolderInv { g with files := dictPop File.id g.files k } :=
  (folderInv_iff _).mpr (((folderInv_iff g).mp h).popLive k)

theorem folderSub_popLive (g : Folder) (k : Nat) : FolderSub g { g with files := dictPop File.id g.files k } := by
  intro y hy
  rcases hy with hy | hy
  · exact ⟨y, Or.inl ((mem_dictPop File.id).mp hy).1, rfl⟩
  · exact ⟨y, Or.inr hy, rfl⟩

theorem folderBelow_popLive {n : Nat} {g : Folder} (h : FolderBelow n g) (k : Nat) :
    FolderBelow n { g with files := dictPop File.id g.files k } :=
  (folderSub_popLive g k).below h

/-- The one thing `Inv` does not record: file uuids of different folders are distinct. `MoveFresh s F x G` says that
the file `move_file(F, x, G)` is going to move — when it does move, i.e. when the destination has no live file of that name —
is not already (live or deleted) in the destination. A move within one folder or onto a live namesake is a no-op and needs
nothing. In the implementation a `File` object sits in one folder only; the rig checks this clause on the real objects after
every operation. -/
def MoveFresh (s : State) (F x G : Name) : Prop :=
  ∀ f, getFile s F x = some f → (getOrCreateFolder s G).2.getFile f.name = none →
    ∀ a, a ∈ (getOrCreateFolder s G).2.files ∨ a ∈ (getOrCreateFolder s G).2.deletedFiles → a.id ≠ f.id

end Primaite.FileSystem
