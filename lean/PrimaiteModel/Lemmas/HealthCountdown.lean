/-
C14: a countdown along a trace. The timing theorems of Props/C14*.lean (fix, installation, folder scan, folder restore, node scan; over
`Op` traces and over `DOp` traces) and the restart / installation timing of Props/C13.lean all say: a process that stands at `c` and is
moved only by the EFFECTIVE steps of a trace — the timesteps that reach it — stands at `c - k` after a trace with `k` effective steps,
as long as `k < max 1 c`. The induction over the trace is done here, for any step function.
-/
namespace Primaite.Health

/-- `run` executes `step` along a list; `cnt` counts the steps that are effective (`eff`) in the state they start from -/
structure Counted {σ ω : Type} (step : σ → ω → σ) (eff : σ → ω → Bool) (run : σ → List ω → σ) (cnt : σ → List ω → Nat) :
    Prop where
  run_nil : ∀ s, run s [] = s
  run_cons : ∀ s o os, run s (o :: os) = run (step s o) os
  cnt_nil : ∀ s, cnt s [] = 0
  cnt_cons : ∀ s o os, cnt s (o :: os) = (if eff s o then 1 else 0) + cnt (step s o) os

/-- `P s c`: "in state `s` the process stands at `c`". If every admissible (`ok`) step keeps `P s c` when it is not effective, and
takes it to `c - 1` when it is effective and `1 < c`, then after an admissible trace with fewer than `max 1 c` effective steps the
process stands at `c` minus their number. -/
theorem Counted.not_early {σ ω : Type} {step : σ → ω → σ} {eff : σ → ω → Bool} {run : σ → List ω → σ} {cnt : σ → List ω → Nat}
    (C : Counted step eff run cnt) (P : σ → Int → Prop) (ok : ω → Prop)
    (hstep : ∀ s o c, P s c → ok o →
      (eff s o = true → 1 < c → P (step s o) (c - 1)) ∧ (eff s o = false → P (step s o) c)) :
    ∀ (os : List ω) (s : σ) (c : Int), P s c → (∀ o ∈ os, ok o) → (cnt s os : Int) < max 1 c →
      P (run s os) (c - cnt s os) := by
  intro os
  induction os with
  | nil => intro s c h _ _; rw [C.run_nil, C.cnt_nil]; simpa using h
  | cons o os ih =>
    intro s c h hok hk
    have hs := hstep s o c h (hok o List.mem_cons_self)
    have hok' : ∀ o' ∈ os, ok o' := fun o' ho' => hok o' (List.mem_cons_of_mem _ ho')
    rw [C.run_cons, C.cnt_cons] at *
    cases he : eff s o
    · simp only [he, Bool.false_eq_true, if_false, Nat.zero_add] at hk ⊢
      exact ih _ c (hs.2 he) hok' hk
    · simp only [he, if_true] at hk ⊢
      have := ih _ (c - 1) (hs.1 he (by omega)) hok' (by omega)
      have e : c - 1 - (cnt (step s o) os : Int) = c - ((1 + cnt (step s o) os : Nat) : Int) := by omega
      rw [← e]; exact this

end Primaite.Health
