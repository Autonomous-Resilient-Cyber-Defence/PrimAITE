/-
Fuel-free top-level facts about `hasCycle` / `topoSort` (Model/RewardGraph.lean), derived from the fuel-indexed
developments in RewardGraphTopo / RewardGraphCycle.
-/
import PrimaiteModel.Lemmas.RewardGraphCycle
namespace Primaite.RewardGraph

variable {α : Type} [DecidableEq α]

theorem unvis_nil (u : List α) : unvis u [] = u.length := by
  unfold unvis
  induction u with
  | nil => rfl
  | cons a t ih => simp at ih ⊢

theorem mu_lt_fuelFor (g : Graph α) : mu g [] < fuelFor g := by
  unfold mu fuelFor
  rw [unvis_nil]; omega

theorem hasCycle_iff_not_acyclic (g : Graph α) : hasCycle g = true ↔ ¬ Acyclic g :=
  hasCycle_iff g _ (mu_lt_fuelFor g)

theorem hasCycle_false_iff (g : Graph α) : hasCycle g = false ↔ Acyclic g := by
  rw [← Bool.not_eq_true, hasCycle_iff_not_acyclic, Classical.not_not]

theorem hasCycle_congr {g g' : Graph α} (h : ∀ u v, v ∈ nbrs g u ↔ v ∈ nbrs g' u) : hasCycle g = hasCycle g' :=
  Bool.eq_iff_iff.mpr
    ((hasCycle_iff_not_acyclic g).trans ((not_congr (Acyclic_congr h)).trans (hasCycle_iff_not_acyclic g').symm))

theorem topoSort_depsFirst' (g : Graph α) (hac : Acyclic g) :
    DepsFirst g (topoSort g) ∧ ∀ k ∈ keys g, k ∈ topoSort g :=
  topoSort_depsFirst g hac _ (mu_lt_fuelFor g)

theorem topoSort_nodup (g : Graph α) : (topoSort g).Nodup ∧ ∀ x ∈ topoSort g, x ∈ univ g := by
  have h := foldl_invariant (fun st n => tdfs g (fuelFor g) st n) (· ∈ univ g)
    (fun _ st => (∀ x ∈ st.2, x ∈ st.1) ∧ st.2.Nodup ∧ ∀ x ∈ st.2, x ∈ univ g)
    (fun _ m st hm ⟨hs, hn, hu⟩ =>
      have p := tdfs_nd g (fuelFor g) st.1 st.2 m hm hs hn
      ⟨p.sub, p.nodup, fun x hx => (p.inUniv x hx).elim (hu x) id⟩)
    (keys g) [] ([], []) (keys_sub_univ g) ⟨by simp, by simp, by simp⟩
  exact h.2

/-- With unique keys (a Python dict), the sorted list mentions exactly the nodes of the graph. -/
theorem topoSort_mem_iff (g : Graph α) (hac : Acyclic g) (hk : (keys g).Nodup) (x : α) :
    x ∈ topoSort g ↔ x ∈ univ g := by
  constructor
  · exact (topoSort_nodup g).2 x
  · intro hx
    obtain ⟨hd, hkeys⟩ := topoSort_depsFirst' g hac
    unfold univ at hx
    rcases List.mem_append.mp hx with hx | hx
    · exact hkeys x hx
    · simp only [List.mem_flatMap] at hx
      obtain ⟨⟨k, l⟩, hmem, hxl⟩ := hx
      have hlk := lookup_of_mem_nodup hk hmem
      have hkin : k ∈ topoSort g := hkeys k (List.mem_map.mpr ⟨(k, l), hmem, rfl⟩)
      exact hd.nbr_mem hkin (by unfold nbrs; simp [hlk]; exact hxl)

end Primaite.RewardGraph
