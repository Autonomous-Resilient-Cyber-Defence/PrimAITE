/-
The pipeline with component exceptions (`calcCompE`, `updateCompsE`, `updOneE`, `gameStepE`: what the driver runs and the
implementation is compared with) against the total pipeline the algebraic development is about:

* soundness: whenever the `E` version succeeds, the total version succeeds with the same result;
* progress: a component raises only on a leaf of the wrong shape — `compOK s it c` (decidable, independent of the
  component's memory, sticky flag and of the other agents' rewards); when every configured component is `compOK` on the
  post-step state and its agent's new item, `gameStepE` IS `gameStep`.
-/
import PrimaiteModel.Lemmas.RewardConfig
namespace Primaite.Reward

theorem calcComp_eq (s : SimState) (it : Item) (cur : Name → Val) (c : Comp) :
    calcComp s it cur c = match calcCompE s it cur c with
      | .ok r => r
      | .error _ => (match c with | .webpage _ _ m => m | _ => 0, c) := by
  cases c with
  | fileIntegrity n fo fi => simp only [calcCompE, calcComp, calcFile]; cases calcFileE s n fo fi <;> rfl
  | web404 n sv st m => simp only [calcCompE, calcComp, calcWeb404]; cases calcWeb404E s n sv st m <;> rfl
  | webpage n st m => simp only [calcCompE, calcComp, calcWebpage]; cases calcWebpageE s it n st m <;> rfl
  | _ => rfl

/-- `calculate` of this component does not raise on state `s` and item `it` (the memory, the sticky flag and the other agents'
rewards play no role in that) -/
def compOK (s : SimState) (it : Item) : Comp → Bool
  | .fileIntegrity n fo fi => (calcFileE s n fo fi).isOk
  | .web404 n sv _ _ => (calcWeb404E s n sv true 0).isOk
  | .webpage n _ _ => (calcWebpageE s it n true 0).isOk
  | _ => true

theorem calcWeb404E_isOk (s : SimState) (n sv : Name) (st st' : Bool) (m m' : Val) :
    (calcWeb404E s n sv st m).isOk = (calcWeb404E s n sv st' m').isOk := by
  unfold calcWeb404E
  cases PyVal.access s (web404Loc n sv) with
  | error e => rfl
  | ok leaf =>
    simp only
    by_cases hnp : leaf.isNotPresent = true
    · simp [hnp, Except.isOk, Except.toBool]
    · simp only [hnp, Bool.false_eq_true, if_false]
      cases leaf.get "response_codes_this_timestep" with
      | error e => rfl
      | ok codes =>
        simp only
        by_cases ht : codes.truthy = true
        · simp only [ht, if_true]
        · simp only [ht, Bool.false_eq_true, if_false]
          cases st <;> cases st' <;> simp [Except.isOk, Except.toBool]

theorem calcWebpageE_isOk (s : SimState) (it : Item) (n : Name) (st st' : Bool) (m m' : Val) :
    (calcWebpageE s it n st m).isOk = (calcWebpageE s it n st' m').isOk := by
  unfold calcWebpageE
  cases PyVal.access s (webpageLoc n) with
  | error e => rfl
  | ok leaf =>
    simp only
    by_cases hr : it.requestIs (browserRequest n) = true
    · simp only [hr, Bool.not_true, Bool.false_eq_true, if_false]
    · simp [hr, Except.isOk, Except.toBool]

theorem isOk_map {ε α β} (f : α → β) (x : Except ε α) : (x.map f).isOk = x.isOk := by cases x <;> rfl

theorem isOk_eq_true {ε α} {x : Except ε α} : x.isOk = true ↔ ∃ v, x = .ok v := by
  cases x with
  | error e => exact ⟨fun h => (by cases h), fun ⟨v, h⟩ => (by cases h)⟩
  | ok v => exact ⟨fun _ => ⟨v, rfl⟩, fun _ => rfl⟩

theorem calcCompE_isOk (s : SimState) (it : Item) (cur : Name → Val) (c : Comp) :
    (calcCompE s it cur c).isOk = compOK s it c := by
  cases c with
  | fileIntegrity n fo fi => exact isOk_map _ _
  | web404 n sv st m => exact (isOk_map _ _).trans (calcWeb404E_isOk s n sv st true m 0)
  | webpage n st m => exact (isOk_map _ _).trans (calcWebpageE_isOk s it n st true m 0)
  | _ => rfl

theorem compOK_calc (s : SimState) (it it' : Item) (cur : Name → Val) (c : Comp) :
    compOK s it (calcComp s it' cur c).2 = compOK s it c := by
  cases c <;> simp [calcComp, compOK]

/-! Each level of the pipeline with exceptions either agrees with the total one or raises, and it raises only where some
component is not `compOK`. -/

theorem calcCompE_cases (s : SimState) (it : Item) (cur : Name → Val) (c : Comp) :
    calcCompE s it cur c = .ok (calcComp s it cur c) ∨ (∃ e, calcCompE s it cur c = .error e) ∧ compOK s it c = false := by
  rw [← calcCompE_isOk s it cur c, calcComp_eq]
  cases calcCompE s it cur c with
  | error e => exact Or.inr ⟨⟨e, rfl⟩, rfl⟩
  | ok r => exact Or.inl rfl

theorem updateCompsE_cases (s : SimState) (it : Item) (cur : Name → Val) (comps : List (Comp × Val)) :
    ∀ acc, updateCompsE s it cur acc comps = .ok (updateComps s it cur acc comps) ∨
      (∃ e, updateCompsE s it cur acc comps = .error e) ∧ ∃ cw ∈ comps, compOK s it cw.1 = false := by
  induction comps with
  | nil => intro acc; exact Or.inl rfl
  | cons cw rest ih =>
    obtain ⟨c, w⟩ := cw
    intro acc
    simp only [updateCompsE, updateComps]
    rcases calcCompE_cases s it cur c with h | ⟨⟨e, h⟩, hbad⟩
    · simp only [h]
      rcases ih (acc + w * (calcComp s it cur c).1) with h2 | ⟨⟨e, h2⟩, cw, hcw, hbad⟩
      · exact Or.inl (by simp only [h2])
      · exact Or.inr ⟨⟨e, by simp only [h2]⟩, cw, List.mem_cons_of_mem _ hcw, hbad⟩
    · exact Or.inr ⟨⟨e, by simp only [h]⟩, _, List.mem_cons_self .., hbad⟩

def AgentOK (s : SimState) (a : Agent) : Prop :=
  match a.hist with
  | [] => True
  | (it, _) :: _ => ∀ cw ∈ a.comps, compOK s it cw.1 = true

def AllOK (s : SimState) (g : Game) : Prop := ∀ n a, g.agents.lookup n = some a → AgentOK s a

theorem updOneE_cases (s : SimState) (g : Game) (n : Name) :
    updOneE s g n = updOne s g n ∨ (∃ e, updOneE s g n = .error e) ∧ ¬ AllOK s g := by
  unfold updOneE updOne
  cases hl : g.agents.lookup n with
  | none => exact Or.inl rfl
  | some a =>
    simp only
    split
    · cases hh : a.hist with
      | nil => exact Or.inl rfl
      | cons e older =>
        obtain ⟨it, o⟩ := e
        simp only
        split
        · rcases updateCompsE_cases s it (curOf g.agents) a.comps 0 with h | ⟨⟨e, h⟩, cw, hcw, hbad⟩
          · exact Or.inl (by simp only [h])
          · refine Or.inr ⟨⟨e, by simp only [h]⟩, fun hok => ?_⟩
            have ha := hok n a hl
            unfold AgentOK at ha
            rw [hh] at ha
            rw [ha cw hcw] at hbad
            cases hbad
        · exact Or.inl rfl
    · exact Or.inl rfl

theorem AgentOK_updAgent {s : SimState} (cur : Name → Val) {a : Agent} (h : AgentOK s a) :
    AgentOK s (updAgent s cur a) := by
  unfold AgentOK updAgent at *
  cases hh : a.hist with
  | nil => simp only [hh]
  | cons e older =>
    obtain ⟨it, o⟩ := e
    rw [hh] at h
    simp only [updateComps_snd]
    intro cw hcw
    obtain ⟨cw0, hcw0, rfl⟩ := List.mem_map.mp hcw
    rw [compOK_calc]
    exact h cw0 hcw0

theorem AllOK_updOne {s : SimState} {g g' : Game} {n : Name} (hok : AllOK s g) (h : updOne s g n = .ok g') :
    AllOK s g' := by
  obtain ⟨a, hl, rfl⟩ := updOne_inv h
  intro m b hb
  simp only [lookup_setAgent] at hb
  by_cases hmn : m = n
  · subst hmn
    rw [if_pos rfl, hl] at hb
    cases hb
    split
    · exact AgentOK_updAgent _ (hok m a hl)
    · exact hok m a hl
  · rw [if_neg hmn] at hb
    exact hok m b hb

theorem foldE_updOneE_cases (s : SimState) (l : List Name) :
    ∀ g, foldE (updOneE s) g l = foldE (updOne s) g l ∨ (∃ e, foldE (updOneE s) g l = .error e) ∧ ¬ AllOK s g := by
  induction l with
  | nil => intro g; exact Or.inl rfl
  | cons n l ih =>
    intro g
    simp only [foldE]
    rcases updOneE_cases s g n with h | ⟨⟨e, h⟩, hbad⟩
    · rw [h]
      cases h1 : updOne s g n with
      | error e => exact Or.inl rfl
      | ok g1 => exact (ih g1).imp_right fun ⟨he, hbad⟩ => ⟨he, fun hok => hbad (AllOK_updOne hok h1)⟩
    · exact Or.inr ⟨⟨e, by rw [h]⟩, hbad⟩

theorem gameStepE_sound {g g' : Game} {items : Name → Item} {s : SimState} (h : gameStepE g items s = .ok g') :
    gameStep g items s = .ok g' := by
  rcases foldE_updOneE_cases s (advance (act items g)).order (advance (act items g)) with h' | ⟨⟨e, h'⟩, _⟩
  · exact h'.symm.trans h
  · cases h'.symm.trans h

theorem gameStepE_eq (g : Game) (items : Name → Item) (s : SimState)
    (hok : ∀ n a, g.agents.lookup n = some a → ∀ cw ∈ a.comps, compOK s (items n) cw.1 = true) :
    gameStepE g items s = gameStep g items s := by
  refine (foldE_updOneE_cases s _ (advance (act items g))).resolve_right fun h => h.2 fun n a ha => ?_
  obtain ⟨a0, hg, rfl⟩ := lookup_advance_act ha
  exact hok n a0 hg

/-- a run of steps with exceptions (what the driver executes between two `load` / `envreset` commands) -/
def runE : Game → List ((Name → Item) × SimState) → Except Err Game
  | g, [] => .ok g
  | g, (items, s) :: rest =>
    match gameStepE g items s with
    | .ok g' => runE g' rest
    | .error e => .error e

end Primaite.Reward
