/-
Generic facts about `contains` on dictionaries built in parallel (same keys, same order), about the keys of the dictionary
builders of `Model/Obs.lean`, about the association-list lookups `lookupS` / `lookupN`, and about `padTo` — used by C02 and C09.
-/
import PrimaiteModel.Model.Obs
namespace Primaite.Obs

/-- space entries and value entries with the same keys in the same order, each value contained in its space -/
inductive Par : List (Key × Space) → List (Key × Val) → Prop
  | nil : Par [] []
  | cons {k s v ss vs} : contains s v = true → Par ss vs → Par ((k, s) :: ss) ((k, v) :: vs)

theorem contains_int {n i : Nat} (h : i < n) : contains (.discrete n) (.int i) = true := by
  rw [contains]; exact decide_eq_true h

theorem keysOf_cons {α} (p : Key × α) (l : List (Key × α)) : keysOf (p :: l) = p.1 :: keysOf l := rfl
theorem keysOf_nil {α} : keysOf ([] : List (Key × α)) = [] := rfl
theorem keysOf_append {α} (a b : List (Key × α)) : keysOf (a ++ b) = keysOf a ++ keysOf b := by
  simp [keysOf]
theorem keysOf_optEntry {α} (c : Bool) (k : Key) (v : α) : keysOf (optEntry c k v) = if c then [k] else [] := by
  cases c <;> rfl

/-- so a dictionary `k₀ :: optEntry … ++ optEntry … ++ …` has distinct keys as soon as the list of all its possible keys has -/
theorem keysOf_optEntry_sublist {α} (c : Bool) (k : Key) (v : α) : (keysOf (optEntry c k v)).Sublist [k] := by
  cases c
  · exact List.nil_sublist _
  · exact List.Sublist.refl _

theorem nodup_keys_cons_opt {α} {k0 k1 : Key} (h : [k0, k1].Nodup) (b : Bool) (u v : α) :
    (keysOf ((k0, u) :: optEntry b k1 v)).Nodup :=
  List.Nodup.sublist (.cons_cons k0 (keysOf_optEntry_sublist ..)) h

theorem nodup_keys_cons_opt2 {α} {k0 k1 k2 : Key} (h : [k0, k1, k2].Nodup) (b c : Bool) (u v w : α) :
    (keysOf ((k0, u) :: (optEntry b k1 v ++ optEntry c k2 w))).Nodup := by
  rw [keysOf_cons, keysOf_append]
  exact List.Nodup.sublist (.cons_cons k0 ((keysOf_optEntry_sublist ..).append (keysOf_optEntry_sublist ..))) h

theorem Par.keys {ss vs} (h : Par ss vs) : keysOf ss = keysOf vs := by
  induction h with
  | nil => rfl
  | cons _ _ ih => simp [keysOf_cons, ih]

theorem Par.append {a b c d} (h1 : Par a b) (h2 : Par c d) : Par (a ++ c) (b ++ d) := by
  induction h1 with
  | nil => simpa using h2
  | cons hc _ ih => exact Par.cons hc ih

theorem Par.single {k s v} (h : contains s v = true) : Par [(k, s)] [(k, v)] := Par.cons h Par.nil

theorem Par.opt (c : Bool) (k : Key) {s v} (h : c = true → contains s v = true) : Par (optEntry c k s) (optEntry c k v) := by
  cases c
  · exact Par.nil
  · exact Par.single (h rfl)

theorem Par.enumFrom {α} (f : α → Space) (g : α → Val) : ∀ (xs : List α) (k : Nat),
    (∀ x ∈ xs, contains (f x) (g x) = true) → Par (enumFrom k (xs.map f)) (enumFrom k (xs.map g))
  | [], _, _ => Par.nil
  | _ :: xs, k, h => Par.cons (List.forall_mem_cons.mp h).1 (Par.enumFrom f g xs (k + 1) (List.forall_mem_cons.mp h).2)

theorem Par.enumTag {α} (p : String) (f : α → Space) (g : α → Val) : ∀ (xs : List α) (k : Nat),
    (∀ x ∈ xs, contains (f x) (g x) = true) → Par (enumTag p k (xs.map f)) (enumTag p k (xs.map g))
  | [], _, _ => Par.nil
  | _ :: xs, k, h => Par.cons (List.forall_mem_cons.mp h).1 (Par.enumTag p f g xs (k + 1) (List.forall_mem_cons.mp h).2)

theorem Par.map {α} (key : α → Key) (f : α → Space) (g : α → Val) : ∀ xs : List α,
    (∀ x ∈ xs, contains (f x) (g x) = true) → Par (xs.map (fun x => (key x, f x))) (xs.map (fun x => (key x, g x)))
  | [], _ => Par.nil
  | _ :: xs, h => Par.cons (List.forall_mem_cons.mp h).1 (Par.map key f g xs (List.forall_mem_cons.mp h).2)

theorem containsAll_cons_of_not_mem {k : Key} {v : Val} (vs : List (Key × Val)) :
    ∀ {ss : List (Key × Space)}, k ∉ keysOf ss → containsAll ss ((k, v) :: vs) = containsAll ss vs
  | [], _ => rfl
  | (k', s) :: ss, h => by
    rw [containsAll, containsAll, lookupK, if_neg (List.ne_of_not_mem_cons h).symm,
      containsAll_cons_of_not_mem vs (List.not_mem_of_not_mem_cons h)]

theorem containsAll_of_par {ss vs} (h : Par ss vs) (hnd : (keysOf ss).Nodup) : containsAll ss vs = true := by
  induction h with
  | nil => rfl
  | @cons k s v ss vs hc _ ih =>
    have ⟨hk, hnd'⟩ := List.nodup_cons.mp hnd
    rw [containsAll, lookupK, if_pos rfl, containsAll_cons_of_not_mem vs hk, ih hnd']
    exact Bool.and_eq_true_iff.mpr ⟨hc, rfl⟩

/-- The structural composition rule of C02: a dictionary is contained as soon as it is built in parallel with the space
from contained children under distinct keys. -/
theorem contains_dict_of_par {ss vs} (h : Par ss vs) (hnd : (keysOf ss).Nodup) :
    contains (.dict ss) (.dict vs) = true := by
  simp only [contains, containsAll_of_par h hnd, Bool.and_true, List.all_eq_true, List.contains_iff_mem, ← h.keys]
  intro k hk
  exact hk

theorem nodup_map_of_inj {α β} {f : α → β} (hf : ∀ a b, f a = f b → a = b) {l : List α} (h : l.Nodup) : (l.map f).Nodup :=
  List.Pairwise.map _ (fun _ _ hne he => hne (hf _ _ he)) h

theorem keysOf_enumFrom {α} (k : Nat) (xs : List α) : keysOf (enumFrom k xs) = (List.range' k xs.length).map Key.n := by
  induction xs generalizing k with
  | nil => rfl
  | cons x xs ih => simp [Obs.enumFrom, keysOf_cons, ih, List.range'_succ]

theorem nodup_keys_enumFrom {α} (k : Nat) (xs : List α) : (keysOf (enumFrom k xs)).Nodup := by
  rw [keysOf_enumFrom]
  exact nodup_map_of_inj (fun _ _ => Key.n.inj) List.nodup_range'

theorem keysOf_enumTag {α} (p : String) (k : Nat) (xs : List α) :
    keysOf (enumTag p k xs) = (List.range' k xs.length).map (Key.si p) := by
  induction xs generalizing k with
  | nil => rfl
  | cons x xs ih => simp [Obs.enumTag, keysOf_cons, ih, List.range'_succ]

theorem nodup_keys_enumTag {α} (p : String) (k : Nat) (xs : List α) : (keysOf (enumTag p k xs)).Nodup := by
  rw [keysOf_enumTag]
  exact nodup_map_of_inj (fun _ _ he => (Key.si.inj he).2) List.nodup_range'

theorem enum_in_space {α} (f : α → Space) (g : α → Val) (xs : List α) (h : ∀ x ∈ xs, contains (f x) (g x) = true) :
    contains (.dict (enumFrom 1 (xs.map f))) (.dict (enumFrom 1 (xs.map g))) = true :=
  contains_dict_of_par (Par.enumFrom f g xs 1 h) (nodup_keys_enumFrom _ _)

theorem keysOf_map {α β} (key : α → Key) (f : α → β) (l : List α) : keysOf (l.map (fun x => (key x, f x))) = l.map key := by
  simp [keysOf]

theorem map_in_space {α} (key : α → Key) (f : α → Space) (g : α → Val) (xs : List α) (hn : (xs.map key).Nodup)
    (h : ∀ x ∈ xs, contains (f x) (g x) = true) :
    contains (.dict (xs.map (fun x => (key x, f x)))) (.dict (xs.map (fun x => (key x, g x)))) = true :=
  contains_dict_of_par (Par.map key f g xs h) (by rw [keysOf_map]; exact hn)

theorem lookupS_mem {α} {k : String} {v : α} : ∀ {l : List (String × α)}, lookupS k l = some v → (k, v) ∈ l
  | [], h => nomatch h
  | (k', v') :: l, h => by
    unfold lookupS at h
    split at h
    · next hk =>
      cases h
      exact hk ▸ List.mem_cons_self
    · exact List.mem_cons_of_mem _ (lookupS_mem h)

theorem lookupN_mem {α} {k : Nat} {v : α} : ∀ {l : List (Nat × α)}, lookupN k l = some v → (k, v) ∈ l
  | [], h => nomatch h
  | (k', v') :: l, h => by
    unfold lookupN at h
    split at h
    · next hk =>
      cases h
      exact hk ▸ List.mem_cons_self
    · exact List.mem_cons_of_mem _ (lookupN_mem h)

theorem lookupS_map {α β} (name : α → String) (f : α → β) (k : String) : ∀ l : List α,
    lookupS k (l.map (fun x => (name x, f x))) = (l.find? (fun x => name x = k)).map f
  | [] => rfl
  | y :: ys => by
    rw [List.map_cons, lookupS, List.find?_cons, lookupS_map name f k ys]
    by_cases h : k = name y
    · simp [h]
    · simp [h, Ne.symm h]

theorem lookupN_map {α β} (num : α → Nat) (f : α → β) (k : Nat) : ∀ l : List α,
    lookupN k (l.map (fun x => (num x, f x))) = (l.find? (fun x => num x = k)).map f
  | [] => rfl
  | y :: ys => by
    rw [List.map_cons, lookupN, List.find?_cons, lookupN_map num f k ys]
    by_cases h : k = num y
    · simp [h]
    · simp [h, Ne.symm h]

theorem mem_padTo {α} {n : Nat} {d x : α} {xs : List α} (h : x ∈ padTo n d xs) : x = d ∨ x ∈ xs := by
  unfold padTo at h
  rcases List.mem_append.mp (List.mem_of_mem_take h) with h | h
  · exact Or.inr h
  · exact Or.inl (List.eq_of_mem_replicate h)

theorem forall_mem_padTo {α} {P : α → Prop} {n : Nat} {d : α} {xs : List α} (hd : P d) (hxs : ∀ x ∈ xs, P x) :
    ∀ x ∈ padTo n d xs, P x :=
  fun x hx => (mem_padTo hx).elim (· ▸ hd) (hxs x)

theorem padTo_len {α} (n : Nat) (d : α) (xs : List α) : (padTo n d xs).length = n := by
  rw [padTo, List.length_take, List.length_append, List.length_replicate]
  omega

end Primaite.Obs
