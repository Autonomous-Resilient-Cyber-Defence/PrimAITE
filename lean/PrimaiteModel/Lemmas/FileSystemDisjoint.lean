/-
Cross-folder disjointness of file uuids (`XDisj`): no file uuid sits — live or deleted — in two different folders.
`Inv` does not record it; it is preserved by every effect of `Change` (`Change.xdisj`), hence by every request, tick and API
operation (given `Inv`; `move_file` by itself, `xdisj_apiMoveFile`), and it is what
`move_file` needs (`MoveFresh`).  The proof goes through a backward provenance relation `From n k s s'`: every folder of
`s'` comes from a folder of `s` with the same uuid, and each of its file uuids was already in that folder — except for
the one uuid `n`, which may have been added to the folder with uuid `k` only.  Its folder-level counterparts `FolderSub` and
`FolderFrom` stand with the folder operations in `FileSystemFolder.lean`.
-/
import PrimaiteModel.Lemmas.FileSystemChange
namespace Primaite.FileSystem

/-- Every folder of `s'` comes from the folder of `s` with the same uuid and holds no file uuid that folder did not hold,
except that the folder with uuid `k` may hold `n`; a folder without origin (just created) holds nothing but, possibly, `n`
(and then it is folder `k`). -/
def From (n k : Nat) (s s' : State) : Prop :=
  ∀ g', g' ∈ s'.folders ∨ g' ∈ s'.deletedFolders →
    (∀ f', f' ∈ g'.files ∨ f' ∈ g'.deletedFiles → f'.id = n ∧ g'.id = k) ∨
    ∃ g, (g ∈ s.folders ∨ g ∈ s.deletedFolders) ∧ g.id = g'.id ∧
      ∀ f', f' ∈ g'.files ∨ f' ∈ g'.deletedFiles →
        (∃ f, (f ∈ g.files ∨ f ∈ g.deletedFiles) ∧ f.id = f'.id) ∨ (f'.id = n ∧ g'.id = k)

theorem From.refl (n k : Nat) (s : State) : From n k s s :=
  fun g hg => Or.inr ⟨g, hg, rfl, fun f hf => Or.inl ⟨f, hf, rfl⟩⟩

theorem From.trans {n k : Nat} {a b c : State} (h1 : From n k a b) (h2 : From n k b c) : From n k a c := by
  intro g2 hg2
  rcases h2 g2 hg2 with hnew | ⟨g1, hg1, e1, hf1⟩
  · exact Or.inl hnew
  · rcases h1 g1 hg1 with hnew | ⟨g0, hg0, e0, hf0⟩
    · left
      intro f hf
      rcases hf1 f hf with ⟨f1, hf1m, ef1⟩ | e
      · have := hnew f1 hf1m
        exact ⟨ef1.symm.trans this.1, e1.symm.trans this.2⟩
      · exact e
    · right
      refine ⟨g0, hg0, e0.trans e1, ?_⟩
      intro f hf
      rcases hf1 f hf with ⟨f1, hf1m, ef1⟩ | e
      · rcases hf0 f1 hf1m with ⟨f0, hf0m, ef0⟩ | e
        · exact Or.inl ⟨f0, hf0m, ef0.trans ef1⟩
        · exact Or.inr ⟨ef1.symm.trans e.1, e1.symm.trans e.2⟩
      · exact Or.inr e

/-- No file uuid sits in two different folders. -/
def XDisj (s : State) : Prop :=
  ∀ g1 g2, (g1 ∈ s.folders ∨ g1 ∈ s.deletedFolders) → (g2 ∈ s.folders ∨ g2 ∈ s.deletedFolders) → g1.id ≠ g2.id →
    ∀ f1 f2, (f1 ∈ g1.files ∨ f1 ∈ g1.deletedFiles) → (f2 ∈ g2.files ∨ f2 ∈ g2.deletedFiles) → f1.id ≠ f2.id

theorem From.owner {n k : Nat} {s s' : State} (h : From n k s s') {g' : Folder} {f' : File}
    (hg' : g' ∈ s'.folders ∨ g' ∈ s'.deletedFolders) (hf' : f' ∈ g'.files ∨ f' ∈ g'.deletedFiles) :
    (f'.id = n ∧ g'.id = k) ∨
    ∃ g, (g ∈ s.folders ∨ g ∈ s.deletedFolders) ∧ g.id = g'.id ∧ ∃ f, (f ∈ g.files ∨ f ∈ g.deletedFiles) ∧ f.id = f'.id := by
  rcases h g' hg' with hnew | ⟨g, hg, e, hfr⟩
  · exact Or.inl (hnew f' hf')
  · rcases hfr f' hf' with ⟨f, hf, ef⟩ | e'
    · exact Or.inr ⟨g, hg, e, f, hf, ef⟩
    · exact Or.inl e'

theorem xdisj_of_from {s s' : State} {n k : Nat} (h : XDisj s)
    (hn : ∀ g, g ∈ s.folders ∨ g ∈ s.deletedFolders → ∀ f, f ∈ g.files ∨ f ∈ g.deletedFiles → f.id ≠ n)
    (hfrom : From n k s s') : XDisj s' := by
  intro g1 g2 hg1 hg2 hne f1 f2 hf1 hf2 he
  rcases hfrom.owner hg1 hf1 with ⟨a1, b1⟩ | ⟨o1, ho1, e1, z1, hz1, ez1⟩ <;>
    rcases hfrom.owner hg2 hf2 with ⟨a2, b2⟩ | ⟨o2, ho2, e2, z2, hz2, ez2⟩
  · exact hne (b1.trans b2.symm)
  · exact hn o2 ho2 z2 hz2 (ez2.trans (he.symm.trans a1))
  · exact hn o1 ho1 z1 hz1 (ez1.trans (he.trans a2))
  · exact h o1 o2 ho1 ho2 (by rw [e1, e2]; exact hne) z1 z2 hz1 hz2 (ez1.trans (he.trans ez2.symm))

theorem fresh_nowhere {s : State} (h : Inv s) {n : Nat} (hn : s.next ≤ n) :
    ∀ g, g ∈ s.folders ∨ g ∈ s.deletedFolders → ∀ f, f ∈ g.files ∨ f ∈ g.deletedFiles → f.id ≠ n :=
  fun g hg f hf => Nat.ne_of_lt (Nat.lt_of_lt_of_le ((h.folder g hg).2.1 f hf) hn)

theorem from_updFolder {s s' : State} (n k i : Nat) (t : Folder → Folder)
    (hf : s'.folders = (updFolder s i t).folders) (hd : s'.deletedFolders = (updFolder s i t).deletedFolders)
    (ht : ∀ g, g ∈ s.folders ∨ g ∈ s.deletedFolders → g.id = i →
      (t g).id = g.id ∧ (FolderSub g (t g) ∨ (i = k ∧ FolderFrom n g (t g)))) :
    From n k s s' := by
  intro g' hg'
  obtain ⟨g, hg, rfl⟩ := mem_updFolder hf hd hg'
  by_cases hi : g.id = i
  · obtain ⟨hid, hfrom⟩ := ht g hg hi
    simp only [hi, beq_self_eq_true, if_true]
    refine Or.inr ⟨g, hg, hid.symm, ?_⟩
    intro f' hf'
    rcases hfrom with hsub | ⟨hik, hfrom⟩
    · exact Or.inl (hsub f' hf')
    · exact (hfrom f' hf').imp id (fun e => ⟨e, hid.trans (hi.trans hik)⟩)
  · have hb : (g.id == i) = false := by simpa using hi
    simp only [hb]
    exact From.refl n k s g hg

theorem from_maps {s s' : State} (n k : Nat) (t1 t2 : Folder → Folder)
    (hf : s'.folders = s.folders.map t1) (hd : s'.deletedFolders = s.deletedFolders.map t2)
    (h1 : ∀ g ∈ s.folders, (t1 g).id = g.id ∧ FolderSub g (t1 g))
    (h2 : ∀ g ∈ s.deletedFolders, (t2 g).id = g.id ∧ FolderSub g (t2 g)) : From n k s s' := by
  intro g' hg'
  right
  rcases hg' with hg' | hg'
  · rw [hf] at hg'
    obtain ⟨g, hg, rfl⟩ := List.mem_map.mp hg'
    exact ⟨g, Or.inl hg, (h1 g hg).1.symm, fun f hf => Or.inl ((h1 g hg).2 f hf)⟩
  · rw [hd] at hg'
    obtain ⟨g, hg, rfl⟩ := List.mem_map.mp hg'
    exact ⟨g, Or.inr hg, (h2 g hg).1.symm, fun f hf => Or.inl ((h2 g hg).2 f hf)⟩

/-- An operation that adds no file uuid keeps disjointness: its `From` is taken at the uuid `s.next`, which is nowhere
(the folder `0` is arbitrary). -/
theorem xdisj_of_from_same {s s' : State} (h : Inv s) (hx : XDisj s) (hfrom : From s.next 0 s s') : XDisj s' :=
  xdisj_of_from hx (fresh_nowhere h (Nat.le_refl _)) hfrom

/-- Every effect keeps disjointness: only `newFile` adds a file uuid, and that one is fresh. -/
theorem Change.xdisj {s s' : State} (c : Change s s') : Inv s → XDisj s → XDisj s' := by
  induction c with
  | trans c1 _ ih1 ih2 => exact fun h hx => ih2 (c1.inv h) (ih1 h hx)
  | live t hf hd _ _ ht =>
    refine fun h hx => xdisj_of_from_same h hx (from_maps _ _ t id hf (by simp [hd]) (fun g hg => ?_) (fun g _ => ⟨rfl, .refl g⟩))
    exact ⟨(ht g hg).id, (ht g hg).sub⟩
  | @newFile s s' g g1 hg hc f hid _ _ t ht hf hd _ _ =>
    refine fun h hx => xdisj_of_from hx (fresh_nowhere h (Nat.le_refl _)) (k := g.id)
      (from_updFolder _ _ g.id t hf hd (fun g0 hg0 hid0 => ?_))
    rw [folder_eq_of_id h hg hg0 hid0, ht]
    exact ⟨hc.id, Or.inr ⟨rfl, .after_sub hc.sub (hid ▸ folderFrom_addFile g1 f)⟩⟩
  | @newFolder s s' g _ _ _ hfiles hdfiles hf hd _ _ =>
    refine fun h hx => xdisj_of_from_same h hx (fun g' hg' => ?_)
    rw [hf, hd] at hg'
    rcases hg' with hl | hdel
    · rcases (mem_dictSet Folder.id).mp hl with rfl | ⟨hl, _⟩
      · exact Or.inl (fun f hf' => by rw [hfiles, hdfiles] at hf'; simp at hf')
      · exact From.refl _ _ s g' (Or.inl hl)
    · exact From.refl _ _ s g' (Or.inr hdel)
  | @folderOut s s' g hg _ hf hd _ _ =>
    refine fun h hx => xdisj_of_from_same h hx (fun g' hg' => ?_)
    rw [hf, hd] at hg'
    rcases hg' with hl | hdel
    · exact From.refl _ _ s g' (Or.inl ((mem_dictPop Folder.id).mp hl).1)
    · rcases (mem_dictSet Folder.id).mp hdel with rfl | ⟨hdel, _⟩
      · exact Or.inr ⟨g, Or.inl hg, rfl, fun f hf' => Or.inl ((removeAllFiles_flagged g).2.1 f hf')⟩
      · exact From.refl _ _ s g' (Or.inr hdel)
  | @folderIn s s' g hg hf hd _ _ =>
    refine fun h hx => xdisj_of_from_same h hx (fun g' hg' => ?_)
    rw [hf, hd] at hg'
    rcases hg' with hl | hdel
    · rcases (mem_dictSet Folder.id).mp hl with rfl | ⟨hl, _⟩
      · exact Or.inr ⟨g, hg.imp id (fun x => x.1), rfl, fun f hf' => Or.inl ⟨f, hf', rfl⟩⟩
      · exact From.refl _ _ s g' (Or.inl hl)
    · exact From.refl _ _ s g' (Or.inr ((mem_dictPop Folder.id).mp hdel).1)

theorem xdisj_step {s : State} (h : Inv s) (hx : XDisj s) (op : Op) : XDisj (step s op).1 :=
  (change_step h op).xdisj h hx

/-- With disjointness, the side condition of `move_file` holds by itself: the file that moves is not in the destination. -/
theorem moveFresh_of_xdisj {s : State} (h : Inv s) (hx : XDisj s) (F x G : Name) : MoveFresh s F x G := by
  -- by the cases of the move, for what it finds: source and destination are two live folders of the state with the destination
  refine apiMoveFile_cases h F x G (P := fun _ => MoveFresh s F x G) (fun hn f hf => by rw [hn] at hf; cases hf)
    (fun src f s1 dst hsrc hf hr h1 hs hd hfm hne f' hf' hnone a ha => ?_)
  have hx1 := (change_getOrCreateFolder h G).xdisj h hx
  rw [hr] at hx1 hnone ha
  obtain rfl : f = f' := by unfold getFile at hf'; rw [hsrc] at hf'; exact Option.some.inj (hf.symm.trans hf')
  exact hx1 dst src (Or.inl hd) (Or.inl hs) (hne hnone) a f ha (Or.inl hfm)

theorem xdisj_apiMoveFile {s : State} (h : Inv s) (hx : XDisj s) (F x G : Name) : XDisj (apiMoveFile s F x G).1 := by
  refine apiMoveFile_cases h F x G (fun _ => hx) (fun src f s1 dst hsrc hf hr h1 hs hd hfm hne => ?_)
  have hx1 : XDisj s1 := by have := (change_getOrCreateFolder h G).xdisj h hx; rwa [hr] at this
  split
  · exact hx1
  · have si := h1.folder src (Or.inl hs)
    -- step 1: the file leaves the source (no uuid added anywhere)
    have hfrom1 : From s1.next 0 s1 (updFolder s1 src.id (fun g => { g with files := dictPop File.id g.files f.id })) :=
      from_updFolder _ _ src.id _ rfl rfl (fun g0 _ _ => ⟨rfl, Or.inl (folderSub_popLive g0 f.id)⟩)
    have hx2 := xdisj_of_from_same h1 hx1 hfrom1
    -- after step 1 the uuid is nowhere
    have hnowhere : ∀ g, g ∈ (updFolder s1 src.id (fun g => { g with files := dictPop File.id g.files f.id })).folders ∨
        g ∈ (updFolder s1 src.id (fun g => { g with files := dictPop File.id g.files f.id })).deletedFolders →
        ∀ y, y ∈ g.files ∨ y ∈ g.deletedFiles → y.id ≠ f.id := by
      intro g hg y hy
      obtain ⟨g0, hg0, rfl⟩ := mem_updFolder (s := s1) rfl rfl hg
      by_cases hi : g0.id = src.id
      · have := folder_eq_of_id h1 hs hg0 hi
        subst this
        simp only [beq_self_eq_true, if_true] at hy
        rcases hy with hy | hy
        · exact ((mem_dictPop File.id).mp hy).2
        · exact fun e => si.1.disjoint f hfm y hy e.symm
      · have hb : (g0.id == src.id) = false := by simpa using hi
        simp only [hb] at hy
        exact hx1 g0 src hg0 (Or.inl hs) hi y f hy (Or.inl hfm)
    -- step 2: it arrives in the destination
    have hfrom2 := from_updFolder (s := updFolder s1 src.id (fun g => { g with files := dictPop File.id g.files f.id }))
      (s' := updFolder (updFolder s1 src.id (fun g => { g with files := dictPop File.id g.files f.id })) dst.id (fun g => g.addFile f))
      f.id dst.id dst.id (fun g => g.addFile f) rfl rfl (fun g0 _ _ => ⟨rfl, Or.inr ⟨rfl, folderFrom_addFile g0 f⟩⟩)
    exact xdisj_of_from hx2 hnowhere hfrom2

/-- Every API operation keeps disjointness — `move_file` included, with no side condition. -/
theorem xdisj_stepApi {s : State} (h : Inv s) (hx : XDisj s) (op : ApiOp) : XDisj (stepApi s op).1 := by
  by_cases hm : ∃ F x G, op = .moveFile F x G
  · obtain ⟨F, x, G, rfl⟩ := hm
    exact xdisj_apiMoveFile h hx F x G
  · exact (change_stepApi h op (fun F x G e => hm ⟨F, x, G, e⟩)).xdisj h hx

theorem xdisj_init (d : Option Int) : XDisj (init d) := by
  intro g1 g2 hg1 hg2 hne
  simp only [init, List.mem_singleton, List.not_mem_nil, or_false] at hg1 hg2
  subst hg1; subst hg2
  exact absurd rfl hne

end Primaite.FileSystem
