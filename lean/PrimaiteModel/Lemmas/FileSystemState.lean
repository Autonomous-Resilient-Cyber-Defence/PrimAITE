/-
State-level invariant `Inv` of `Model/FileSystem.lean`, what `get_folder` finds, what `updFolder` leaves in the two dictionaries,
the preservation of `Inv` by any in-place mutation of folder objects (`inv_of_maps`, `inv_updFolder`) and by setting one folder live
(`inv_setLive`), and the shape of `create_folder`.  Also `Keeps`, no item lost: every folder uuid and every file uuid present before
is present afterwards, in one of the two dictionaries of the same owner (over `FolderKeeps` of `FileSystemFolder.lean`), and that an
in-place update keeps it; that every operation other than `move_file`, which takes a file to another owner, keeps it is
`Change.keeps` (`FileSystemChange.lean`); across owners: `GKeeps` in `Props/C15Keeps.lean`.
-/
import PrimaiteModel.Lemmas.FileSystemFolder
namespace Primaite.FileSystem

/-- The structural invariant of the file system (DESIGN §5/C15). -/
structure Inv (s : State) : Prop where
  /-- every folder, live or deleted, satisfies the folder invariant; all uuids are below the allocation counter -/
  folder : ∀ g, g ∈ s.folders ∨ g ∈ s.deletedFolders → FolderInv g ∧ FolderBelow s.next g ∧ g.id < s.next
  /-- distinct uuids among the live folders, among the deleted folders, and no folder in both dictionaries -/
  liveIds : (s.folders.map Folder.id).Nodup
  delIds : (s.deletedFolders.map Folder.id).Nodup
  disjoint : ∀ a ∈ s.folders, ∀ b ∈ s.deletedFolders, a.id ≠ b.id
  /-- the `deleted` flag says which dictionary a folder is in -/
  liveFlag : ∀ a ∈ s.folders, a.deleted = false
  delFlag : ∀ b ∈ s.deletedFolders, b.deleted = true
  /-- live folder names are unique -/
  uniqueNames : ∀ a ∈ s.folders, ∀ b ∈ s.folders, a.name = b.name → a.id = b.id
  /-- the request route of a live folder's name leads to that folder -/
  routes : ∀ a ∈ s.folders, lookupRoute s.folderRoutes a.name = some a.id
  /-- the root folder is live (it cannot be deleted) -/
  root : ∃ g ∈ s.folders, g.name = "root"

theorem inv_iff (s : State) :
    Inv s ↔ (∀ g, g ∈ s.folders ∨ g ∈ s.deletedFolders → FolderInv g ∧ FolderBelow s.next g ∧ g.id < s.next) ∧
      DictsInv Folder.id Folder.name Folder.deleted s.folders s.deletedFolders s.folderRoutes ∧
      ∃ g ∈ s.folders, g.name = "root" :=
  ⟨fun h => ⟨h.1, ⟨h.2, h.3, h.4, h.5, h.6, h.7, h.8⟩, h.9⟩,
   fun h => ⟨h.1, h.2.1.1, h.2.1.2, h.2.1.3, h.2.1.4, h.2.1.5, h.2.1.6, h.2.1.7, h.2.2⟩⟩

theorem getFolder_live {s : State} {n : Name} {g : Folder} (h : getFolder s n = some g) :
    g ∈ s.folders ∧ g.name = n := by
  unfold getFolder at h
  split at h
  · rename_i g' hg
    simp only [Option.some.injEq] at h; subst h
    exact ⟨List.mem_of_find?_eq_some hg, by simpa using List.find?_some hg⟩
  · simp at h

theorem getFolder_none {s : State} {n : Name} (h : getFolder s n = none) : ∀ a ∈ s.folders, a.name ≠ n := by
  unfold getFolder at h
  split at h
  · simp at h
  · rename_i hg
    intro a ha
    simpa using List.find?_eq_none.mp hg a ha

theorem getFolder_incl {s : State} {n : Name} {g : Folder} (h : getFolder s n true = some g) :
    g.name = n ∧ (g ∈ s.folders ∨ (g ∈ s.deletedFolders ∧ ∀ a ∈ s.folders, a.name ≠ n)) := by
  unfold getFolder at h
  split at h
  · rename_i g' hg
    simp only [Option.some.injEq] at h; subst h
    exact ⟨by simpa using List.find?_some hg, Or.inl (List.mem_of_find?_eq_some hg)⟩
  · rename_i hg
    have h' : s.deletedFolders.find? (fun g => g.name == n) = some g := by simpa using h
    refine ⟨by simpa using List.find?_some h', Or.inr ⟨List.mem_of_find?_eq_some h', ?_⟩⟩
    intro a ha
    simpa using List.find?_eq_none.mp hg a ha

theorem getFolder_incl_of_live {s : State} {n : Name} {g : Folder} (h : getFolder s n = some g) :
    getFolder s n true = some g := by
  unfold getFolder at h ⊢
  cases hf : s.folders.find? (fun g => g.name == n) with
  | some g' => rw [hf] at h; exact h
  | none => rw [hf] at h; simp at h

theorem getFolder_of_live {s : State} (h : Inv s) {g : Folder} (hg : g ∈ s.folders) : getFolder s g.name = some g := by
  cases hf : getFolder s g.name with
  | none => exact absurd rfl (getFolder_none hf g hg)
  | some g0 =>
    obtain ⟨h0, hn⟩ := getFolder_live hf
    rw [eq_of_nodup_map Folder.id h.liveIds h0 hg (h.uniqueNames g0 h0 g hg hn)]

theorem getFolder_none_of {s : State} {n : Name} (h : ∀ a ∈ s.folders, a.name ≠ n) : getFolder s n = none := by
  unfold getFolder
  have : s.folders.find? (fun g => g.name == n) = none := by
    apply List.find?_eq_none.mpr
    intro a ha; simpa using h a ha
  simp [this]

theorem folder_eq_of_id {s : State} (h : Inv s) {g g0 : Folder} (hg : g ∈ s.folders)
    (h0 : g0 ∈ s.folders ∨ g0 ∈ s.deletedFolders) (hid : g0.id = g.id) : g0 = g := by
  rcases h0 with h0 | h0
  · exact eq_of_nodup_map Folder.id h.liveIds h0 hg hid
  · exact absurd hid.symm (h.disjoint g hg g0 h0)

theorem mem_updFolder {s s' : State} {i : Nat} {t : Folder → Folder}
    (hf : s'.folders = (updFolder s i t).folders) (hd : s'.deletedFolders = (updFolder s i t).deletedFolders)
    {g' : Folder} (hg' : g' ∈ s'.folders ∨ g' ∈ s'.deletedFolders) :
    ∃ g, (g ∈ s.folders ∨ g ∈ s.deletedFolders) ∧ g' = (if g.id == i then t g else g) := by
  rcases hg' with hg' | hg'
  · rw [hf] at hg'
    obtain ⟨g, hg, e⟩ := List.mem_map.mp hg'
    exact ⟨g, Or.inl hg, e.symm⟩
  · rw [hd] at hg'
    obtain ⟨g, hg, e⟩ := List.mem_map.mp hg'
    exact ⟨g, Or.inr hg, e.symm⟩

theorem mem_updFolder_image {s : State} {i : Nat} {t : Folder → Folder} {g : Folder}
    (hg : g ∈ s.folders ∨ g ∈ s.deletedFolders) :
    (if g.id == i then t g else g) ∈ (updFolder s i t).folders ∨ (if g.id == i then t g else g) ∈ (updFolder s i t).deletedFolders := by
  rcases hg with hg | hg
  · exact Or.inl (List.mem_map.mpr ⟨g, hg, rfl⟩)
  · exact Or.inr (List.mem_map.mpr ⟨g, hg, rfl⟩)

theorem updFolder_live {s : State} (h : Inv s) {g : Folder} (hg : g ∈ s.folders) (t : Folder → Folder) :
    (updFolder s g.id t).deletedFolders = s.deletedFolders ∧ t g ∈ (updFolder s g.id t).folders ∧
    ∀ a ∈ s.folders, a.id ≠ g.id → a ∈ (updFolder s g.id t).folders := by
  refine ⟨?_, List.mem_map.mpr ⟨g, hg, by simp⟩, fun a ha hne => List.mem_map.mpr ⟨a, ha, by simp [hne]⟩⟩
  exact (List.map_congr_left fun a ha => by
    simp [show a.id ≠ g.id from fun e => h.disjoint g hg a ha e.symm]).trans (List.map_id _)

theorem updFolder_eq_self {s : State} (h : Inv s) {g : Folder} (hg : g ∈ s.folders) {t : Folder → Folder} (ht : t g = g) :
    updFolder s g.id t = s := by
  have e : ∀ l : List Folder, (∀ a ∈ l, a ∈ s.folders ∨ a ∈ s.deletedFolders) →
      l.map (fun y => if y.id == g.id then t y else y) = l := by
    intro l hl
    apply map_eq_self
    intro a ha
    by_cases hk : a.id = g.id
    · rw [folder_eq_of_id h hg (hl a ha) hk]; simp [ht]
    · simp [hk]
  unfold updFolder
  rw [e s.folders (fun a ha => Or.inl ha), e s.deletedFolders (fun a ha => Or.inr ha)]

theorem id_ne_of_getFile_none {s : State} (h : Inv s) {src dst : Folder} {f : File} (hs : src ∈ s.folders) (hd : dst ∈ s.folders)
    (hf : f ∈ src.files) (hnone : dst.getFile f.name = none) : dst.id ≠ src.id := by
  intro e
  rw [folder_eq_of_id h hs (Or.inl hd) e] at hnone
  exact getFile_none hnone f hf rfl

theorem inv_of_maps {s s' : State} (h : Inv s) (t1 t2 : Folder → Folder)
    (hf : s'.folders = s.folders.map t1) (hd : s'.deletedFolders = s.deletedFolders.map t2)
    (hr : s'.folderRoutes = s.folderRoutes) (hn : s.next ≤ s'.next)
    (h1 : ∀ g ∈ s.folders, (t1 g).id = g.id ∧ (t1 g).name = g.name ∧ (t1 g).deleted = false ∧
      FolderInv (t1 g) ∧ FolderBelow s'.next (t1 g))
    (h2 : ∀ g ∈ s.deletedFolders, (t2 g).id = g.id ∧ (t2 g).deleted = true ∧
      FolderInv (t2 g) ∧ FolderBelow s'.next (t2 g)) : Inv s' := by
  have m1 : ∀ a ∈ s'.folders, ∃ a0 ∈ s.folders, t1 a0 = a := by rw [hf]; exact fun a => List.mem_map.mp
  have m2 : ∀ b ∈ s'.deletedFolders, ∃ b0 ∈ s.deletedFolders, t2 b0 = b := by rw [hd]; exact fun b => List.mem_map.mp
  have ids1 : s'.folders.map Folder.id = s.folders.map Folder.id := by
    rw [hf, List.map_map]; exact List.map_congr_left (fun a ha => (h1 a ha).1)
  have ids2 : s'.deletedFolders.map Folder.id = s.deletedFolders.map Folder.id := by
    rw [hd, List.map_map]; exact List.map_congr_left (fun a ha => (h2 a ha).1)
  constructor
  · intro g hg
    rcases hg with hg | hg
    · obtain ⟨g0, hg0, rfl⟩ := m1 g hg
      have := h1 g0 hg0
      exact ⟨this.2.2.2.1, this.2.2.2.2, by rw [this.1]; exact Nat.lt_of_lt_of_le (h.folder g0 (Or.inl hg0)).2.2 hn⟩
    · obtain ⟨g0, hg0, rfl⟩ := m2 g hg
      have := h2 g0 hg0
      exact ⟨this.2.2.1, this.2.2.2, by rw [this.1]; exact Nat.lt_of_lt_of_le (h.folder g0 (Or.inr hg0)).2.2 hn⟩
  · rw [ids1]; exact h.liveIds
  · rw [ids2]; exact h.delIds
  · intro a ha b hb
    obtain ⟨a0, ha0, rfl⟩ := m1 a ha
    obtain ⟨b0, hb0, rfl⟩ := m2 b hb
    rw [(h1 a0 ha0).1, (h2 b0 hb0).1]
    exact h.disjoint a0 ha0 b0 hb0
  · intro a ha
    obtain ⟨a0, ha0, rfl⟩ := m1 a ha
    exact (h1 a0 ha0).2.2.1
  · intro b hb
    obtain ⟨b0, hb0, rfl⟩ := m2 b hb
    exact (h2 b0 hb0).2.1
  · intro a ha b hb hn'
    obtain ⟨a0, ha0, rfl⟩ := m1 a ha
    obtain ⟨b0, hb0, rfl⟩ := m1 b hb
    rw [(h1 a0 ha0).1, (h1 b0 hb0).1]
    rw [(h1 a0 ha0).2.1, (h1 b0 hb0).2.1] at hn'
    exact h.uniqueNames a0 ha0 b0 hb0 hn'
  · intro a ha
    obtain ⟨a0, ha0, rfl⟩ := m1 a ha
    rw [hr, (h1 a0 ha0).1, (h1 a0 ha0).2.1]
    exact h.routes a0 ha0
  · obtain ⟨g, hg, hgn⟩ := h.root
    exact ⟨t1 g, by rw [hf]; exact List.mem_map.mpr ⟨g, hg, rfl⟩, by rw [(h1 g hg).2.1]; exact hgn⟩

theorem inv_updFolder {s s' : State} (h : Inv s) (i : Nat) (t : Folder → Folder)
    (hf : s'.folders = (updFolder s i t).folders) (hd : s'.deletedFolders = (updFolder s i t).deletedFolders)
    (hr : s'.folderRoutes = s.folderRoutes) (hn : s.next ≤ s'.next)
    (ht : ∀ g, g ∈ s.folders ∨ g ∈ s.deletedFolders → g.id = i →
      (t g).id = g.id ∧ (t g).name = g.name ∧ (t g).deleted = g.deleted ∧ FolderInv (t g) ∧ FolderBelow s'.next (t g)) :
    Inv s' := by
  -- what `updFolder` makes of a folder, live or deleted: `t g` for the one with uuid `i`, itself otherwise
  have key : ∀ g, g ∈ s.folders ∨ g ∈ s.deletedFolders → ∀ g', g' = (if g.id == i then t g else g) →
      g'.id = g.id ∧ g'.name = g.name ∧ g'.deleted = g.deleted ∧ FolderInv g' ∧ FolderBelow s'.next g' := by
    intro g hg g' e
    by_cases hi : g.id = i
    · rw [if_pos (beq_iff_eq.mpr hi)] at e
      rw [e]; exact ht g hg hi
    · rw [if_neg (fun c => hi (beq_iff_eq.mp c))] at e
      rw [e]; exact ⟨rfl, rfl, rfl, (h.folder g hg).1, (h.folder g hg).2.1.mono hn⟩
  apply inv_of_maps h (fun g => if g.id == i then t g else g) (fun g => if g.id == i then t g else g) hf hd hr hn
  · intro g hg
    obtain ⟨a, b, c, d, e⟩ := key g (Or.inl hg) _ rfl
    exact ⟨a, b, c.trans (h.liveFlag g hg), d, e⟩
  · intro g hg
    obtain ⟨a, _, c, d, e⟩ := key g (Or.inr hg) _ rfl
    exact ⟨a, c.trans (h.delFlag g hg), d, e⟩

theorem inv_updLive {s s' : State} (h : Inv s) {g : Folder} (hg : g ∈ s.folders) (t : Folder → Folder)
    (hf : s'.folders = (updFolder s g.id t).folders) (hd : s'.deletedFolders = (updFolder s g.id t).deletedFolders)
    (hr : s'.folderRoutes = s.folderRoutes) (hn : s.next ≤ s'.next)
    (ht : (t g).id = g.id ∧ (t g).name = g.name ∧ (t g).deleted = g.deleted ∧ FolderInv (t g) ∧ FolderBelow s'.next (t g)) :
    Inv s' :=
  inv_updFolder h g.id t hf hd hr hn (fun g0 hg0 hid => by rw [folder_eq_of_id h hg hg0 hid]; exact ht)

/-- `folders[x.id] = x` with the route of `x` registered and `x.id` gone from `deleted_folders` — a new folder or a restored one:
no other live folder has its name, and a live folder it replaces had its name. -/
theorem inv_setLive {s s' : State} (h : Inv s) {x : Folder} (hx : x.deleted = false)
    (hxi : FolderInv x ∧ FolderBelow s'.next x ∧ x.id < s'.next)
    (hname : ∀ a ∈ s.folders, a.id ≠ x.id → a.name ≠ x.name) (hsame : ∀ a ∈ s.folders, a.id = x.id → a.name = x.name)
    (hf : s'.folders = dictSet Folder.id s.folders x)
    (hd : ∀ b ∈ s'.deletedFolders, b ∈ s.deletedFolders ∧ b.id ≠ x.id) (hnd : (s'.deletedFolders.map Folder.id).Nodup)
    (hr : s'.folderRoutes = (x.name, x.id) :: s.folderRoutes) (hn : s.next ≤ s'.next) : Inv s' := by
  obtain ⟨_, hdicts, r, hr', hrn⟩ := (inv_iff s).mp h
  have d := hdicts.setLive hx hname hd hnd
  rw [← hf, ← hr] at d
  have old : ∀ a, a ∈ s.folders ∨ a ∈ s.deletedFolders → FolderInv a ∧ FolderBelow s'.next a ∧ a.id < s'.next :=
    fun a ha => ⟨(h.folder a ha).1, (h.folder a ha).2.1.mono hn, Nat.lt_of_lt_of_le (h.folder a ha).2.2 hn⟩
  refine (inv_iff _).mpr ⟨fun a ha => ?_, d, ?_⟩
  · rcases ha with ha | ha
    · rcases (mem_dictSet Folder.id).mp (hf ▸ ha) with rfl | ⟨ha, _⟩
      · exact hxi
      · exact old a (Or.inl ha)
    · exact old a (Or.inr (hd a ha).1)
  · rw [hf]
    by_cases e : r.id = x.id
    · exact ⟨x, (mem_dictSet Folder.id).mpr (Or.inl rfl), (hsame r hr' e).symm.trans hrn⟩
    · exact ⟨r, (mem_dictSet Folder.id).mpr (Or.inr ⟨hr', e⟩), hrn⟩

/-- every folder uuid of `s` is still a folder uuid of `s'`, and that folder keeps its file uuids -/
def Keeps (s s' : State) : Prop :=
  ∀ g, g ∈ s.folders ∨ g ∈ s.deletedFolders →
    ∃ g', (g' ∈ s'.folders ∨ g' ∈ s'.deletedFolders) ∧ g'.id = g.id ∧ FolderKeeps g g'

theorem Keeps.refl (s : State) : Keeps s s := fun g hg => ⟨g, hg, rfl, FolderKeeps.refl g⟩

theorem Keeps.trans {a b c : State} (h1 : Keeps a b) (h2 : Keeps b c) : Keeps a c := by
  intro g hg
  obtain ⟨g', hg', e', k'⟩ := h1 g hg
  obtain ⟨g'', hg'', e'', k''⟩ := h2 g' hg'
  exact ⟨g'', hg'', e''.trans e', k'.trans k''⟩

theorem keeps_updFolder {s s' : State} (i : Nat) (t : Folder → Folder)
    (hf : s'.folders = (updFolder s i t).folders) (hd : s'.deletedFolders = (updFolder s i t).deletedFolders)
    (ht : ∀ g, g ∈ s.folders ∨ g ∈ s.deletedFolders → g.id = i → (t g).id = g.id ∧ FolderKeeps g (t g)) :
    Keeps s s' := by
  intro g hg
  have m := mem_updFolder_image (i := i) (t := t) hg
  rw [← hf, ← hd] at m
  by_cases hi : g.id = i
  · rw [if_pos (beq_iff_eq.mpr hi)] at m
    exact ⟨t g, m, ht g hg hi⟩
  · rw [if_neg (mt beq_iff_eq.mp hi)] at m
    exact ⟨g, m, rfl, FolderKeeps.refl g⟩

/-- `setDur` of `create_folder` as a function. -/
def setDur (s : State) (g : Folder) : Folder :=
  match s.defaultRestore with
  | some d => { g with restoreDuration := d }
  | none => g

theorem setDur_fields (s : State) (g : Folder) :
    (setDur s g).id = g.id ∧ (setDur s g).name = g.name ∧ (setDur s g).deleted = g.deleted ∧
    (setDur s g).files = g.files ∧ (setDur s g).deletedFiles = g.deletedFiles ∧ (setDur s g).fileRoutes = g.fileRoutes ∧
    (setDur s g).restoreCountdown = g.restoreCountdown := by
  unfold setDur; split <;> simp

theorem createFolder_eq (s : State) (n : Name) :
    createFolder s n =
      match getFolder s n with
      | some g => ({ s with folders := dictSet Folder.id s.folders (setDur s g) }, setDur s g)
      | none =>
        ({ s with folders := dictSet Folder.id s.folders (setDur s { id := s.next, name := n }),
                  folderRoutes := (n, s.next) :: s.folderRoutes, next := s.next + 1 },
         setDur s { id := s.next, name := n }) := by
  unfold createFolder setDur
  cases hg : getFolder s n <;> cases hd : s.defaultRestore <;> simp

theorem createFolder_mem (s : State) (n : Name) :
    (createFolder s n).2 ∈ (createFolder s n).1.folders ∧ (createFolder s n).2.name = n ∧ s.next ≤ (createFolder s n).1.next := by
  rw [createFolder_eq]
  cases hg : getFolder s n with
  | some g =>
    exact ⟨(mem_dictSet Folder.id).mpr (Or.inl rfl), (setDur_fields s g).2.1.trans (getFolder_live hg).2, Nat.le_refl _⟩
  | none => exact ⟨(mem_dictSet Folder.id).mpr (Or.inl rfl), (setDur_fields s _).2.1, Nat.le_succ _⟩

end Primaite.FileSystem
