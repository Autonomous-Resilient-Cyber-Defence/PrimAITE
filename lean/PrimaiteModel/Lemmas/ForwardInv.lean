/-
Invariant machinery for C08's run-level theorems: the static part of a state (`cfgOf`) with the facts about `modNode` / `emit`
that the C08 files share; the invariant `G` (configuration unchanged, every ARP cache entry sound, unicast frames handed to software
only on a node that owns the destination address) and sound frames (`FrameOk`), carried through all fifteen functions of the
interpreter (`gAt`) for any soundness predicate that meets `Spec`.  What an ARP look-up that misses asks for next (`arpNext_go`,
over `OwnHop`) is shared with the walk of `Props/C08Termination.lean`.
-/
import PrimaiteModel.Lemmas.ForwardNode
import PrimaiteModel.Props.C08
import PrimaiteModel.Props.C08FuelMono
import PrimaiteModel.Props.C08Forward
namespace Primaite.Forward
open Primaite.Route (findBestRoute Table)

/-- what the interpreter never changes. -/
structure NodeCfg where
  kind : Kind
  ifaces : List Iface
  gateway : Option Ip
  routes : Table

def Node.cfg (nd : Node) : NodeCfg := ⟨nd.kind, nd.ifaces, nd.gateway, nd.routes⟩
def cfgOf (st : St) : List NodeCfg := st.nodes.map Node.cfg

/-- `mac` is the MAC of an interface that carries `ip`, or of some router interface. -/
def SoundPair (c : List NodeCfg) (ip : Ip) (mac : Mac) : Prop :=
  ∃ (m j : Nat) (b : Iface) (nc : NodeCfg), c[m]? = some nc ∧ nc.ifaces[j]? = some b ∧ b.mac = mac ∧
    (b.ip = ip ∨ nc.kind = .router)

/-- node `m` has an interface with address `ip`. -/
def Owns (c : List NodeCfg) (m : Nat) (ip : Ip) : Prop :=
  ∃ (nc : NodeCfg) (b : Iface), c[m]? = some nc ∧ b ∈ nc.ifaces ∧ b.ip = ip

def IsRouter (c : List NodeCfg) (n : Nat) : Prop := ∃ nc, c[n]? = some nc ∧ nc.kind = .router

/-- `t` is a next hop that node configuration `nc` may hand a frame to. -/
def IsNextHop (nc : NodeCfg) (t : Ip) : Prop :=
  nc.gateway = some t ∨ nc.routes.default = some t ∨ ∃ r ∈ nc.routes.routes, r.nextHop = t

/-- `t` is a next hop the node itself asks ARP for: a host's gateway, a router's route / default-route next hop or gateway. -/
def OwnHop (nc : NodeCfg) (t : Ip) : Prop :=
  (nc.kind = .host ∧ nc.gateway = some t) ∨ (nc.kind = .router ∧ IsNextHop nc t)

theorem OwnHop.isNextHop {nc : NodeCfg} {t : Ip} (h : OwnHop nc t) : IsNextHop nc t :=
  h.elim (fun h => Or.inl h.2) (·.2)

structure GoodCfg (c : List NodeCfg) : Prop where
  uniqueMacs : ∀ (n m i j : Nat) (nc mc : NodeCfg) (a b : Iface), c[n]? = some nc → nc.ifaces[i]? = some a →
    c[m]? = some mc → mc.ifaces[j]? = some b → a.mac = b.mac → n = m ∧ i = j
  realMacs : ∀ (n i : Nat) (nc : NodeCfg) (a : Iface), c[n]? = some nc → nc.ifaces[i]? = some a → a.mac ≠ noMac
  hopsAreRouters : ∀ (n : Nat) (nc : NodeCfg) (t : Ip), c[n]? = some nc → IsNextHop nc t →
    ∀ (m j : Nat) (mc : NodeCfg) (b : Iface), c[m]? = some mc → mc.ifaces[j]? = some b → b.ip = t → mc.kind = .router

theorem node?_cfg {st : St} {c : List NodeCfg} (hc : cfgOf st = c) {n : Nat} {nd : Node} (h : st.node? n = some nd) :
    c[n]? = some nd.cfg := by
  subst hc
  simp only [cfgOf, List.getElem?_map]
  unfold St.node? at h
  rw [h]; rfl

theorem iface?_eq_cfg (st : St) (n i : Nat) : st.iface? n i = ((cfgOf st)[n]?).bind (fun nc => nc.ifaces[i]?) := by
  unfold St.iface? cfgOf
  simp only [List.getElem?_map]
  cases st.nodes[n]? <;> rfl

theorem iface?_cfg {st : St} {c : List NodeCfg} (hc : cfgOf st = c) {n i : Nat} {ifc : Iface}
    (h : st.iface? n i = some ifc) : ∃ nc, c[n]? = some nc ∧ nc.ifaces[i]? = some ifc :=
  Option.bind_eq_some_iff.1 (hc ▸ iface?_eq_cfg st n i ▸ h)

theorem cfgOf_modNode (st : St) (n : Nat) (f : Node → Node) (hf : ∀ nd, (f nd).cfg = nd.cfg) :
    cfgOf (st.modNode n f) = cfgOf st := by
  unfold cfgOf St.modNode
  apply List.ext_getElem?
  intro k
  simp only [List.getElem?_map, List.getElem?_modify]
  split
  · cases st.nodes[k]? with
    | none => rfl
    | some nd => simp [hf]
  · simp

@[simp] theorem cfgOf_emit (st : St) (e : Ev) : cfgOf (st.emit e) = cfgOf st := rfl
@[simp] theorem cfgOf_out (st : St) : cfgOf st.out = cfgOf st := rfl
theorem cfgOf_nextId (st : St) (k : Nat) : cfgOf ({ st with nextId := k } : St) = cfgOf st := rfl

theorem iface?_of_cfgOf {X st : St} (h : cfgOf X = cfgOf st) (n i : Nat) : X.iface? n i = st.iface? n i := by
  rw [iface?_eq_cfg, iface?_eq_cfg, h]

theorem node?_of_cfgOf {X : St} {c : List NodeCfg} (h : cfgOf X = c) {m : Nat} {nc : NodeCfg} (hm : c[m]? = some nc) :
    ∃ nd, X.node? m = some nd ∧ nd.cfg = nc := by
  subst h
  unfold cfgOf at hm
  simp only [List.getElem?_map] at hm
  unfold St.node?
  cases hx : X.nodes[m]? with
  | none => rw [hx] at hm; cases hm
  | some nd => rw [hx] at hm; exact ⟨nd, rfl, by simpa using hm⟩

structure G (c : List NodeCfg) (S : Ip → Mac → Prop) (st : St) : Prop where
  cfg : cfgOf st = c
  arp : ∀ (k : Nat) (nd : Node) (e : ArpEntry), st.node? k = some nd → e ∈ nd.arp → S e.ip e.mac
  log : ∀ (m fid : Nat) (ip : Ip), Ev.sw m fid ip false ∈ st.log → Owns c m ip

theorem G.out {c : List NodeCfg} {S : Ip → Mac → Prop} {st : St} (h : G c S st) : G c S st.out := ⟨h.cfg, h.arp, h.log⟩

theorem G.nextId {c : List NodeCfg} {S : Ip → Mac → Prop} {st : St} (h : G c S st) (k : Nat) : G c S { st with nextId := k } :=
  ⟨h.cfg, h.arp, h.log⟩

theorem G.emit_other {c : List NodeCfg} {S : Ip → Mac → Prop} {st : St} (h : G c S st) (e : Ev)
    (he : ∀ m fid ip, e ≠ .sw m fid ip false) : G c S (st.emit e) :=
  ⟨h.cfg, h.arp, fun m fid ip hm => (List.mem_cons.1 hm).elim (fun h' => absurd h'.symm (he m fid ip)) (h.log m fid ip)⟩

theorem G.emit_sw {c : List NodeCfg} {S : Ip → Mac → Prop} {st : St} (h : G c S st) (n fid : Nat) (ip : Ip) (bc : Bool)
    (ho : bc = false → Owns c n ip) : G c S (st.emit (.sw n fid ip bc)) := by
  refine ⟨h.cfg, h.arp, ?_⟩
  intro m fid' ip' hm
  simp only [St.emit, List.mem_cons] at hm
  rcases hm with hm | hm
  · simp only [Ev.sw.injEq] at hm
    obtain ⟨rfl, rfl, rfl, hb⟩ := hm
    exact ho hb.symm
  · exact h.log m fid' ip' hm

theorem addArp_cfg (nd : Node) (ip : Ip) (mac : Mac) (i : Nat) : (nd.addArp ip mac i).cfg = nd.cfg := by
  unfold Node.addArp; split
  · rfl
  · split <;> rfl

theorem G.mod {c : List NodeCfg} {S : Ip → Mac → Prop} {st : St} (h : G c S st) (n : Nat) (f : Node → Node)
    (hc : ∀ nd, (f nd).cfg = nd.cfg) (ha : ∀ nd e, st.node? n = some nd → e ∈ (f nd).arp → S e.ip e.mac) :
    G c S (st.modNode n f) := by
  refine ⟨?_, ?_, h.log⟩
  · rw [cfgOf_modNode st n f hc]; exact h.cfg
  · intro k nd e hk he
    rw [node?_modNode] at hk
    split at hk
    · subst k
      cases hn : st.node? n with
      | none => simp [hn] at hk
      | some nd0 =>
        simp only [hn, Option.map_some, Option.some.injEq] at hk
        subst hk
        exact ha nd0 e hn he
    · exact h.arp k nd e hk he

theorem G.addArp {c : List NodeCfg} {S : Ip → Mac → Prop} {st : St} (h : G c S st) (n i : Nat) (ip : Ip) (mac : Mac) (hs : S ip mac) :
    G c S (st.modNode n (fun nd => nd.addArp ip mac i)) := by
  refine h.mod n _ (fun nd => addArp_cfg nd ip mac i) fun nd e hn he => ?_
  rcases mem_addArp nd ip mac i e he with h1 | ⟨h1, h2⟩
  · exact h.arp n nd e hn h1
  · rw [h1, h2]; exact hs

theorem G.modOther {c : List NodeCfg} {S : Ip → Mac → Prop} {st : St} (h : G c S st) (n : Nat) (f : Node → Node)
    (hc : ∀ nd, (f nd).cfg = nd.cfg) (ha : ∀ nd, (f nd).arp = nd.arp) : G c S (st.modNode n f) :=
  h.mod n f hc fun nd e hn he => h.arp n nd e hn (ha nd ▸ he)

theorem learnMac_cfg (nd : Node) (m : Mac) (p : Nat) : (nd.learnMac m p).cfg = nd.cfg ∧ (nd.learnMac m p).arp = nd.arp := by
  unfold Node.learnMac
  split
  · exact ⟨rfl, rfl⟩
  · split <;> exact ⟨rfl, rfl⟩

theorem cfgOf_learnMac (st : St) (n p : Nat) (m : Mac) :
    cfgOf (st.modNode n (fun nd => nd.learnMac m p)) = cfgOf st := cfgOf_modNode st n _ (fun nd => (learnMac_cfg nd m p).1)

theorem G.learnMac {c : List NodeCfg} {S : Ip → Mac → Prop} {st : St} (h : G c S st) (n p : Nat) (m : Mac) :
    G c S (st.modNode n (fun nd => nd.learnMac m p)) :=
  h.modOther n _ (fun nd => (learnMac_cfg nd m p).1) (fun nd => (learnMac_cfg nd m p).2)

theorem Eff.cfg {st X : St} (h : Eff st X) : cfgOf X = cfgOf st := by
  induction h with
  | refl => rfl
  | addArp n ip mac i _ ih => exact (cfgOf_modNode _ _ _ fun nd => addArp_cfg nd ip mac i).trans ih
  | learnMac n mac i _ ih => exact (cfgOf_modNode _ _ _ fun nd => (learnMac_cfg nd mac i).1).trans ih
  | bump _ _ _ ih | served _ _ ih | ack _ _ _ ih | got _ _ _ ih => exact (cfgOf_modNode _ _ _ (by exact fun _ => rfl)).trans ih
  | emit _ _ ih | nextId _ _ ih | out _ ih => exact ih

theorem G.bump {c : List NodeCfg} {S : Ip → Mac → Prop} {st : St} (h : G c S st) (n ident : Nat) :
    G c S (st.modNode n (fun nd => { nd with replies := bumpReply nd.replies ident })) :=
  h.modOther n _ (fun _ => rfl) (fun _ => rfl)

def PlOk (S : Ip → Mac → Prop) : Pl → Prop
  | .arpReq sIp sMac _ => S sIp sMac
  | .arpRep sIp sMac tIp tMac => S sIp sMac ∧ S tIp tMac
  | _ => True

structure FrameOk (S : Ip → Mac → Prop) (f : Frame) : Prop where
  src : S f.srcIp f.srcMac
  dst : f.dstMac = bcastMac ∨ f.dstMac = noMac ∨ S f.dstIp f.dstMac
  pl : PlOk S f.pl

theorem FrameOk.dec {S : Ip → Mac → Prop} {f : Frame} (h : FrameOk S f) : FrameOk S f.dec := ⟨h.src, h.dst, h.pl⟩

/-- what the induction needs from the soundness predicate. -/
structure Spec (c : List NodeCfg) (S : Ip → Mac → Prop) : Prop where
  own : ∀ {st : St} {n i : Nat} {ifc : Iface}, cfgOf st = c → st.iface? n i = some ifc → S ifc.ip ifc.mac
  router : ∀ {st : St} {n i : Nat} {ifc : Iface}, cfgOf st = c → st.iface? n i = some ifc → IsRouter c n → ∀ ip, S ip ifc.mac
  via_hop : ∀ {n : Nat} {nc : NodeCfg}, c[n]? = some nc → ∀ {t : Ip}, IsNextHop nc t → ∀ {mac : Mac}, S t mac → ∀ ip, S ip mac

/-- the stamped frame of `process_frame` / `route_frame`. -/
theorem FrameOk.stamp {c : List NodeCfg} {S : Ip → Mac → Prop} (hs : Spec c S) {st : St} {f : Frame} (h : FrameOk S f)
    (hc : cfgOf st = c) {n o : Nat} {oif : Iface}
    (ho : st.iface? n o = some oif) (hr : IsRouter c n) (tm : Mac) (ht : tm = noMac ∨ S f.dstIp tm) :
    FrameOk S (f.dec.stamp oif.mac tm) :=
  ⟨hs.router hc ho hr _, Or.inr ht, h.pl⟩

theorem own_of_ifaceWithIp {c : List NodeCfg} {st : St} (hc : cfgOf st = c) {n : Nat} {nd : Node}
    (hn : st.node? n = some nd) {ip : Ip} {own : Iface} (h : ifaceWithIp nd.ifaces ip = some own) : Owns c n ip := by
  unfold ifaceWithIp at h
  have h1 := List.find?_some h
  have h2 := List.mem_of_find?_eq_some h
  exact ⟨nd.cfg, own, node?_cfg hc hn, h2, by simpa using h1⟩

/-- a host NIC (repaired code) accepts a unicast frame only if the node owns the destination address. -/
theorem accept_owner {c : List NodeCfg} {st : St} (hc : cfgOf st = c) {n : Nat} {nd : Node} {ifc : Iface}
    (hn : st.node? n = some nd) {f : Frame} (hacc : hostAccepts nd ifc f = true) :
    f.dstMac = bcastMac ∨ Owns c n f.dstIp := by
  rcases C08_host_accepts_only_own_address nd ifc f hacc with ⟨hb, _⟩ | ⟨_, _, own, hmem, hip⟩
  · exact Or.inl hb
  · exact Or.inr ⟨nd.cfg, own, node?_cfg hc hn, hmem, hip⟩

theorem hostArpNext_target (nd : Node) (ip t : Ip) (re gw re' gw' : Bool)
    (h : hostArpNext nd ip re gw = .go t re' gw') : t = ip ∨ nd.gateway = some t := by
  unfold hostArpNext at h
  simp only at h
  split at h
  · simp only [ArpNext.go.injEq] at h; exact Or.inl h.1.symm
  · split at h
    · rename_i g hg
      split at h
      · simp only [ArpNext.go.injEq] at h
        right; rw [← h.1]; exact hg
      · cases h
    · cases h

theorem nextHop_isNextHop (nd : Node) (dst nh : Ip) (h : (findBestRoute nd.routes dst).nextHop? = some nh) :
    IsNextHop nd.cfg nh := by
  cases hres : findBestRoute nd.routes dst with
  | route i r =>
    rw [hres] at h
    exact Or.inr (Or.inr ⟨r, List.mem_of_getElem? (Route.C08_best_matches nd.routes dst i r hres).1, Option.some.inj h⟩)
  | default d =>
    rw [hres] at h
    exact Or.inr (Or.inl (Option.some.inj h ▸ ((Route.C08_default_iff nd.routes dst d).1 hres).2.2))
  | raised => rw [hres] at h; cases h
  | noRoute => rw [hres] at h; cases h

theorem routerArpNext_target (nd : Node) (ip t : Ip) (re gw b re' gw' : Bool)
    (h : routerArpNext nd ip re gw b = .go t re' gw') : t = ip ∨ IsNextHop nd.cfg t := by
  unfold routerArpNext at h
  split at h
  · split at h
    · simp only [ArpNext.go.injEq] at h; exact Or.inl h.1.symm
    · split at h
      · rename_i hr
        simp only [ArpNext.go.injEq] at h
        exact Or.inr (h.1 ▸ nextHop_isNextHop nd ip _ (by rw [hr]; rfl))
      · rename_i hr
        simp only [ArpNext.go.injEq] at h
        exact Or.inr (h.1 ▸ nextHop_isNextHop nd ip _ (by rw [hr]; rfl))
      · cases h
      · cases h
  · split at h
    · rename_i nh hd
      split at h
      · simp only [ArpNext.go.injEq] at h
        right; right; left; rw [← h.1]; exact hd
      · cases h
    · cases h

/-- all that `gAt_succ` and `tAt_succ` (`C08Termination.lean`) use of a self-call of `arpMac` / `arpIfc`, i.e. of a cache miss that goes on. -/
theorem arpNext_go {nd : Node} {ip t : Ip} {re gw b re' gw' : Bool} (h : arpNext nd ip re gw b = .go t re' gw') :
    flagRank re' gw' < flagRank re gw ∧ (t = ip ∨ OwnHop nd.cfg t) := by
  unfold arpNext at h
  split at h
  · rename_i hk
    exact ⟨C08_arp_host_rank nd ip t re gw re' gw' h,
      (hostArpNext_target nd ip t re gw re' gw' h).imp_right fun hg => Or.inl ⟨hk, hg⟩⟩
  · rename_i hk
    exact ⟨C08_arp_router_rank nd ip t re gw re' gw' b h,
      (routerArpNext_target nd ip t re gw b re' gw' h).imp_right fun ht => Or.inr ⟨hk, ht⟩⟩
  · cases h

def DstOk (S : Ip → Mac → Prop) (pl : Pl) (dstIp : Ip) : Prop := plDstMac pl = bcastMac ∨ S dstIp (plDstMac pl)

structure GAt (c : List NodeCfg) (S : Ip → Mac → Prop) (fuel : Nat) : Prop where
  send : ∀ st n i f, G c S st → FrameOk S f → G c S (sendFrame fuel st n i f).1 ∧ FrameOk S (sendFrame fuel st n i f).2
  recv : ∀ st n i f, G c S st → FrameOk S f → G c S (ifaceRecv fuel st n i f).1 ∧ FrameOk S (ifaceRecv fuel st n i f).2
  sw : ∀ st n i f, G c S st → FrameOk S f → G c S (switchRecv fuel st n i f).1 ∧ FrameOk S (switchRecv fuel st n i f).2
  flood : ∀ st n i f ports, G c S st → FrameOk S f →
    G c S (floodPorts fuel st n i f ports).1 ∧ FrameOk S (floodPorts fuel st n i f ports).2
  host : ∀ st n i f, G c S st → FrameOk S f → (f.dstMac = bcastMac ∨ Owns c n f.dstIp) →
    G c S (hostRecv fuel st n i f).1 ∧ FrameOk S (hostRecv fuel st n i f).2
  router : ∀ st n i f, G c S st → FrameOk S f → IsRouter c n →
    G c S (routerRecv fuel st n i f).1 ∧ FrameOk S (routerRecv fuel st n i f).2
  process : ∀ st n i f, G c S st → FrameOk S f → IsRouter c n →
    G c S (routerProcess fuel st n i f).1 ∧ FrameOk S (routerProcess fuel st n i f).2
  arpReply : ∀ st n pl, G c S st → PlOk S pl → (∀ t, targetOf pl = some t → DstOk S pl t) → G c S (sendArpReply fuel st n pl)
  arpPkt : ∀ st n pl dstIp, G c S st → PlOk S pl → DstOk S pl dstIp → G c S (sendArpPkt fuel st n pl dstIp)
  icmp : ∀ st n dst pl, G c S st → PlOk S pl → G c S (sendIcmp fuel st n dst pl)
  details : ∀ st n dst, G c S st →
    G c S (resolveDetails fuel st n dst).1 ∧ ∀ m, (resolveDetails fuel st n dst).2.1 = some m → S dst m
  out : ∀ st n dst, G c S st → G c S (resolveOut fuel st n dst).1
  mac : ∀ st n ip re gw, G c S st → G c S (arpMac fuel st n ip re gw).1 ∧ ∀ m, (arpMac fuel st n ip re gw).2 = some m → S ip m
  ifc : ∀ st n ip re gw, G c S st → G c S (arpIfc fuel st n ip re gw).1
  req : ∀ st n t, G c S st → G c S (sendArpReq fuel st n t)

theorem gAt_zero (c : List NodeCfg) (S : Ip → Mac → Prop) : GAt c S 0 := by
  constructor
  all_goals intros
  all_goals simp only [sendFrame, ifaceRecv, switchRecv, floodPorts, hostRecv, routerRecv, routerProcess, sendArpReply,
    sendArpPkt, sendIcmp, resolveDetails, resolveOut, arpMac, arpIfc, sendArpReq]
  all_goals first
    | exact ⟨G.out ‹_›, ‹_›⟩
    | exact G.out ‹_›
    | exact ⟨G.out ‹_›, by intro m hm; cases hm⟩

section succ
variable {c : List NodeCfg} {S : Ip → Mac → Prop} (hs : Spec c S) {fuel : Nat} (ih : GAt c S fuel)
include ih hs

theorem s_host (st : St) (n i : Nat) (f : Frame) (hG : G c S st) (hF : FrameOk S f)
    (hAcc : f.dstMac = bcastMac ∨ Owns c n f.dstIp) :
    G c S (hostRecv (fuel + 1) st n i f).1 ∧ FrameOk S (hostRecv (fuel + 1) st n i f).2 := by
  -- the state after the source pair was learned (or not: the host is off), and after the hand-over was logged
  have hG1 : ∀ b : Bool, G c S (if b = true then st.modNode n (fun nd => nd.addArp f.srcIp f.srcMac i) else st) := by
    intro b; split
    · exact hG.addArp n i f.srcIp f.srcMac hF.src
    · exact hG
  have hG2 := fun b => (hG1 b).emit_sw n f.id f.dstIp (f.dstMac == bcastMac) (fun hb => hAcc.resolve_left (by simpa using hb))
  generalize hk : fuel + 1 = k
  fun_cases hostRecv k st n i f <;> cases hk
  case case5 =>
    have hi : st.iface? n i = some _ := ‹_›
    rename_i sIp sMac tIp hpl _ hne
    have hp := hF.pl
    rw [hpl] at hp
    have hip := Decidable.of_not_not (mt bne_iff_ne.2 hne)
    refine ⟨ih.arpReply _ _ _ (hG2 _) ⟨hip ▸ hs.own hG.cfg hi, hp⟩ ?_, hF⟩
    intro t ht
    simp only [targetOf, Option.some.injEq] at ht
    subst ht
    exact Or.inr hp
  case case7 =>
    rename_i hpl _
    have hp := hF.pl
    rw [hpl] at hp
    exact ⟨(hG2 _).addArp n i _ _ hp.1, hF⟩
  case case9 => exact ⟨ih.out _ _ _ (hG2 _), hF⟩
  case case10 => exact ⟨ih.icmp _ _ _ _ (ih.out _ _ _ (hG2 _)) trivial, hF⟩
  case case11 => exact ⟨(hG2 _).bump n _, hF⟩
  case case12 => exact ⟨ih.icmp _ _ _ _ (hG2 _) trivial, hF⟩
  case case16 => exact ⟨ih.icmp _ _ _ _ ((hG2 _).modOther n _ (fun _ => rfl) (fun _ => rfl)) trivial, hF⟩
  all_goals first
    | exact ⟨hG, hF⟩
    | exact ⟨hG1 _, hF⟩
    | exact ⟨hG2 _, hF⟩
    | exact ⟨(hG2 _).emit_other (.raised _) nofun, hF⟩
    | exact ⟨(hG2 _).modOther n _ (fun _ => rfl) (fun _ => rfl), hF⟩

theorem s_router (st : St) (n i : Nat) (f : Frame) (hG : G c S st) (hF : FrameOk S f) (hR : IsRouter c n) :
    G c S (routerRecv (fuel + 1) st n i f).1 ∧ FrameOk S (routerRecv (fuel + 1) st n i f).2 := by
  have hG1 := hG.addArp n i f.srcIp f.srcMac hF.src
  -- the hand-over to software is logged only for an own address
  have hG2 : ∀ (nd : Node) (own : Iface), st.node? n = some nd → ifaceWithIp nd.ifaces f.dstIp = some own →
      G c S ((st.modNode n (fun nd => nd.addArp f.srcIp f.srcMac i)).emit (.sw n f.id f.dstIp (f.dstMac == bcastMac))) :=
    fun nd own hn hown => hG1.emit_sw n f.id f.dstIp _ (fun _ => own_of_ifaceWithIp hG.cfg hn hown)
  -- the DMZ port's outbound look-up, whichever way it goes
  have h1 := ih.ifc _ n f.dstIp false false hG1
  generalize hk : fuel + 1 = k
  fun_cases routerRecv k st n i f <;> cases hk
  case case5 =>
    rename_i hi _ _ _ _ _ _ _ _ _ _ _ hpl hc
    have hp := hF.pl
    rw [hpl] at hp
    simp only [Bool.and_eq_true, beq_iff_eq] at hc
    refine ⟨ih.arpReply _ _ _ (hG2 _ _ ‹_› ‹_›) ⟨by rw [← hc.2]; exact hs.own hG.cfg hi, hp⟩ ?_, hF⟩
    intro t ht
    simp only [targetOf, Option.some.injEq] at ht
    subst ht
    exact Or.inr hp
  case case7 =>
    rename_i hpl _
    have hp := hF.pl
    rw [hpl] at hp
    exact ⟨(hG2 _ _ ‹_› ‹_›).addArp n i _ _ hp.1, hF⟩
  case case10 => exact ⟨ih.out _ _ _ (hG2 _ _ ‹_› ‹_›), hF⟩
  case case11 => exact ⟨ih.icmp _ _ _ _ (ih.out _ _ _ (hG2 _ _ ‹_› ‹_›)) trivial, hF⟩
  case case13 => exact ⟨(hG2 _ _ ‹_› ‹_›).bump n _, hF⟩
  all_goals try exact ⟨hG, hF⟩
  all_goals try exact ⟨hG1, hF⟩
  all_goals try exact ih.process _ _ _ _ hG1 hF hR
  all_goals try exact ⟨hG2 _ _ ‹_› ‹_›, hF⟩
  -- arrival on the DMZ port: the state after the outbound look-ups, whichever way they went
  all_goals
    rename_i r1 r2 _
    have hr2 : G c S r2.1 := by
      dsimp only [r2]
      split
      · exact h1
      · split
        · exact h1.emit_other (.raised _) nofun
        · split
          · exact ih.ifc _ _ _ _ _ h1
          · exact h1
    first | exact ih.process _ _ _ _ hr2 hF hR | exact ⟨hr2, hF⟩

end succ

theorem gAt_succ {c : List NodeCfg} {S : Ip → Mac → Prop} (hs : Spec c S) (fuel : Nat) (ih : GAt c S fuel) :
    GAt c S (fuel + 1) where
  send := by
    intro st n i f hG hF
    simp only [sendFrame]
    repeat' split
    all_goals first | exact ⟨hG, hF⟩ | exact ih.recv _ _ _ _ hG hF
  recv := by
    intro st n i f hG hF
    have hG' := hG.emit_other (.rx n i f.id f.ttl) nofun
    generalize hk : fuel + 1 = k
    fun_cases ifaceRecv k st n i f <;> cases hk
    case case3 nd _ _ hn _ _ _ _ hacc =>
      exact ih.host _ _ _ _ hG' hF.dec (accept_owner (st := st.emit (.rx n i f.id f.ttl)) hG'.cfg hn hacc)
    case case5 nd _ _ hn _ _ _ hk _ => exact ih.router _ _ _ _ hG' hF.dec ⟨nd.cfg, node?_cfg hG.cfg hn, hk⟩
    case case7 => exact ih.sw _ _ _ _ hG' hF.dec
    case case8 => exact ⟨hG, hF⟩
    all_goals exact ⟨hG', hF.dec⟩
  sw := by
    intro st n i f hG hF
    simp only [switchRecv]
    have hG' := hG.learnMac n i f.srcMac
    repeat' split
    all_goals first
      | exact ⟨hG', hF⟩
      | exact ih.send _ _ _ _ hG' hF
      | exact ih.flood _ _ _ _ _ hG' hF
  flood := by
    intro st n i f ports hG hF
    rw [floodPorts_succ]
    refine List.foldlRecOn (motive := fun acc : St × Frame => G c S acc.1 ∧ FrameOk S acc.2) ports _ ⟨hG, hF⟩ ?_
    intro acc h p _
    unfold floodPort
    split
    · split
      · exact ih.send _ _ _ _ h.1 h.2
      · exact h
    · exact h
  host := s_host hs ih
  router := s_router hs ih
  process := by
    intro st n i f hG hF hR
    -- the two look-ups for the destination, and the two for a next hop `t` after them
    have h2 := ih.mac _ n f.dstIp false false (ih.ifc st n f.dstIp false false hG)
    have h4 := fun t => ih.mac _ n t false false (ih.ifc _ n t false false h2.1)
    generalize hk : fuel + 1 = k
    fun_cases routerProcess k st n i f <;> cases hk
    case case2 => exact ⟨hG, hF⟩
    case case5 => exact ⟨h2.1.emit_other (.hop _ _ _) nofun, hF.dec⟩
    case case6 =>
      rename_i htm hoif
      exact ih.send _ _ _ _ (h2.1.emit_other (.hop _ _ _) nofun) (hF.stamp hs h2.1.cfg hoif hR _ (Or.inr (h2.2 _ htm)))
    case case8 => exact ⟨h2.1.emit_other (.raised _) nofun, hF⟩
    case case13 => exact ⟨(h4 _).1.emit_other (.hop _ _ _) nofun, hF.dec⟩
    case case14 =>
      rename_i hnh _ _ _ _ _ hnd _ _ _ hoif
      refine ih.send _ _ _ _ ((h4 _).1.emit_other (.hop _ _ _) nofun) (hF.stamp hs (h4 _).1.cfg hoif hR _ ?_)
      split
      · rename_i m hm
        exact Or.inr (hs.via_hop (node?_cfg h2.1.cfg hnd) (nextHop_isNextHop _ f.dstIp _ hnh) ((h4 _).2 m hm) f.dstIp)
      · exact Or.inl rfl
    all_goals first | exact ⟨h2.1, hF⟩ | exact ⟨(h4 _).1, hF⟩
  arpReply := by
    intro st n pl hG hP hD
    simp only [sendArpReply]
    split
    · exact hG
    · rename_i t ht
      split
      · exact ih.out _ _ _ hG
      · exact ih.arpPkt _ _ _ _ (ih.out _ _ _ hG) hP (hD t ht)
  arpPkt := by
    intro st n pl dstIp hG hP hD
    generalize hk : fuel + 1 = k
    fun_cases sendArpPkt k st n pl dstIp <;> cases hk
    case case5 t _ o oif _ _ ho =>
      have hG1 := ih.out st n t hG
      exact (ih.send _ _ _ _ (hG1.nextId _) ⟨hs.own hG1.cfg ho, hD.elim Or.inl fun h => Or.inr (Or.inr h), hP⟩).1
    all_goals first | exact hG | exact ih.out st n _ hG
  icmp := by
    intro st n dst pl hG hP
    have hd := ih.details st n dst hG
    generalize hk : fuel + 1 = k
    fun_cases sendIcmp k st n dst pl <;> cases hk
    case case3 o m oif _ hm _ hi =>
      exact (ih.send _ _ _ _ (hd.1.nextId _) ⟨hs.own hd.1.cfg hi, Or.inr (Or.inr (hd.2 m hm)), hP⟩).1
    all_goals exact hd.1
  details := by
    intro st n dst hG
    -- the on-link look-up, made or not
    have hr1 : ∀ o : Option Nat,
        G c S (match o with | some _ => arpMac fuel st n dst false false | none => (st, none)).1 ∧
        ∀ m, (match o with | some _ => arpMac fuel st n dst false false | none => (st, none)).2 = some m → S dst m := by
      intro o
      split
      · exact ih.mac st n dst false false hG
      · exact ⟨hG, nofun⟩
    -- a MAC address found for a next hop serves for the destination
    have hvia : ∀ (nd : Node) (X : St) (t : Ip), st.node? n = some nd → G c S X → IsNextHop nd.cfg t →
        G c S (arpMac fuel X n t false false).1 ∧ ∀ m, (arpMac fuel X n t false false).2 = some m → S dst m :=
      fun nd X t hn hX ht => ⟨(ih.mac X n t false false hX).1, fun m h =>
        hs.via_hop (node?_cfg hG.cfg hn) ht ((ih.mac X n t false false hX).2 m h) dst⟩
    generalize hk : fuel + 1 = k
    fun_cases resolveDetails k st n dst <;> cases hk
    case case2 => exact ⟨hG, nofun⟩
    case case3 => exact ⟨ih.ifc _ _ _ _ _ (hr1 _).1, fun m h => Option.some.inj h ▸ (hr1 _).2 _ ‹_›⟩
    case case4 => exact ⟨(hr1 _).1, nofun⟩
    case case5 => exact hvia _ _ _ ‹_› (hr1 _).1 (Or.inl ‹_›)
    case case6 => exact (hvia _ _ _ ‹_› (hr1 _).1 (Or.inl ‹_›)).imp (ih.ifc _ n _ false false) id
    case case7 => exact hvia _ _ _ ‹_› (hr1 _).1 (Or.inl ‹_›)
    case case8 => exact ⟨(hr1 _).1.emit_other (.raised _) nofun, nofun⟩
    case case9 => exact (hvia _ _ _ ‹_› (hr1 _).1 (nextHop_isNextHop _ dst _ ‹_›)).imp (ih.ifc _ n _ false false) id
    case case10 => exact ⟨(hr1 _).1, nofun⟩
  out := by
    intro st n dst hG
    simp only [resolveOut]
    repeat' split
    all_goals first | exact hG | exact ih.ifc _ _ _ _ _ hG
  mac := by
    intro st n ip re gw hG
    generalize hk : fuel + 1 = k
    fun_cases arpMac k st n ip re gw <;> cases hk
    case case3 nd hn e he =>
      refine ⟨hG, fun m hm => Option.some.inj hm ▸ ?_⟩
      unfold Node.arpGet at he
      have h4 : e.ip = ip := by simpa using List.find?_some he
      exact h4 ▸ hG.arp n nd e hn (List.mem_of_find?_eq_some he)
    case case6 nd hn _ t re' gw' hnext =>
      have hr := ih.mac (sendArpReq fuel st n t) n t re' gw' (ih.req _ _ _ hG)
      refine ⟨hr.1, fun m hm => ?_⟩
      rcases (arpNext_go hnext).2 with h | h
      · exact h ▸ hr.2 m hm
      · exact hs.via_hop (node?_cfg hG.cfg hn) h.isNextHop (hr.2 m hm) ip
    all_goals first | exact ⟨hG, nofun⟩ | exact ⟨hG.emit_other (.raised _) nofun, nofun⟩
  ifc := by
    intro st n ip re gw hG
    simp only [arpIfc]
    repeat' split
    all_goals first | exact hG | exact hG.emit_other (.raised _) nofun | exact ih.ifc _ _ _ _ _ (ih.req _ _ _ hG)
  req := by
    intro st n target hG
    generalize hk : fuel + 1 = k
    fun_cases sendArpReq k st n target <;> cases hk
    case case8 _ _ _ _ t _ o oif _ _ _ ho =>
      have hG1 := ih.out st n t hG
      exact ih.arpPkt _ _ _ _ hG1 (hs.own hG1.cfg ho) (Or.inl rfl)
    all_goals first | exact hG | exact ih.out st n _ hG

theorem gAt {c : List NodeCfg} {S : Ip → Mac → Prop} (hs : Spec c S) (fuel : Nat) : GAt c S fuel :=
  Nat.rec (gAt_zero c S) (gAt_succ hs) fuel

theorem G_ping {c : List NodeCfg} {S : Ip → Mac → Prop} (hs : Spec c S) (fuel : Nat) (st : St) (n : Nat) (target : Ip) (pings : Nat)
    (hG : G c S st) : G c S (ping fuel st n target pings).1 :=
  ping_inv (G c S) fuel n target (fun _ k h => h.nextId k) (fun _ h => (gAt hs fuel).out _ _ _ h)
    (fun _ _ h => (gAt hs fuel).icmp _ _ _ _ h trivial) st pings hG

theorem spec_sound {c : List NodeCfg} (hg : GoodCfg c) : Spec c (SoundPair c) where
  own {_ n i ifc} hc h := by
    obtain ⟨nc, h1, h2⟩ := iface?_cfg hc h
    exact ⟨n, i, ifc, nc, h1, h2, rfl, Or.inl rfl⟩
  router {_ n i ifc} hc h hr ip := by
    obtain ⟨nc, h1, h2⟩ := iface?_cfg hc h
    obtain ⟨nc', h1', hk⟩ := hr
    rw [h1] at h1'
    cases h1'
    exact ⟨n, i, ifc, nc, h1, h2, rfl, Or.inr hk⟩
  -- a pair sound for a next hop is sound for every destination: the next hop is a router
  via_hop {n nc} hn {t} ht {_} hs ip := by
    obtain ⟨m, j, b, mc, h1, h2, h3, h4⟩ := hs
    refine ⟨m, j, b, mc, h1, h2, h3, Or.inr ?_⟩
    rcases h4 with h4 | h4
    · exact hg.hopsAreRouters n nc t hn ht m j mc b h1 h2 h4
    · exact h4

/-- the trivial predicate: nothing is assumed about caches or frames. -/
theorem spec_true (c : List NodeCfg) : Spec c (fun _ _ => True) :=
  ⟨fun _ _ => trivial, fun _ _ _ _ => trivial, fun _ _ _ _ _ _ => trivial⟩

end Primaite.Forward
