/-
C03 — the environment's OWN state of the process-wide generators (repair of F-11, decorator `own_generator_state` of
session/environment.py).

Without the decorator the environment's operations draw from the process-wide generators wherever ANY user of the process left
them: `Op.foreign` (another environment instance, the training loop) between two calls moves the episode
(`C03_foreign_draw_counterexample`).  With it every operation of the environment first puts back the state ITS OWN last operation
left and records the state afterwards.  This file models exactly that (`OProc`, `ownedOpStep`) on top of the process model and
proves that foreign activity is dead: an owned run with ANY foreign activity interleaved is the plain run without it.
-/
import PrimaiteModel.Model.Noninterf

namespace Primaite.Noninterf

/-- the process (`p.w.rng` = the PROCESS-WIDE generators) and the environment's saved state (`self._generator_state`) -/
structure OProc (σ : Type) where
  p : Proc σ
  own : Fam → Nat

/-- the wrapper's prologue: `random.setstate(own[0]); np.random.set_state(own[1])` -/
def OProc.install {σ : Type} (q : OProc σ) : Proc σ := { q.p with w := { q.p.w with rng := q.own } }

def Op.isForeign {Act : Type} : Op Act → Bool
  | .foreign _ => true
  | _ => false

/-- one event of the process: a foreign draw moves the process-wide generators only; an operation of the environment runs on the
installed own state and records the state afterwards (`finally`) -/
def ownedOpStep {ι Cfg σ Act : Type} [DecidableEq ι] (g : Fixed) (ρ : Rho ι) (sim : Sim Cfg σ Act) (sched : Nat → Cfg)
    (q : OProc σ) : Op Act → OProc σ × Option (List (Tok ι))
  | .foreign f => ({ q with p := doForeign g q.p f }, none)
  | o =>
    let r := opStep g ρ sim sched q.install o
    ({ p := r.1, own := r.1.w.rng }, some r.2)

/-- what the environment's caller sees: one record per operation of the environment (foreign activity returns nothing to it) -/
def runOwned {ι Cfg σ Act : Type} [DecidableEq ι] (g : Fixed) (ρ : Rho ι) (sim : Sim Cfg σ Act) (sched : Nat → Cfg)
    : OProc σ → List (Op Act) → List (List (Tok ι))
  | _, [] => []
  | q, o :: os =>
    let r := ownedOpStep g ρ sim sched q o
    match r.2 with
    | some out => out :: runOwned g ρ sim sched r.1 os
    | none => runOwned g ρ sim sched r.1 os

def dropForeign {Act : Type} (ops : List (Op Act)) : List (Op Act) := ops.filter fun o => !o.isForeign

theorem dropForeign_reset_cons {Act : Type} (s : Option Nat) (ops : List (Op Act)) :
    dropForeign (.reset s :: ops) = .reset s :: dropForeign ops := rfl

theorem install_foreign {σ : Type} (g : Fixed) (q : OProc σ) (f : Fam) :
    ({ q with p := doForeign g q.p f } : OProc σ).install = q.install := by
  simp [OProc.install, doForeign, World.draw]

theorem install_after {σ : Type} (p : Proc σ) : ({ p := p, own := p.w.rng } : OProc σ).install = p := by
  cases p with
  | mk episode st w baseId baseSt basePerm baseEnt =>
    cases w
    rfl

/-- **Foreign use of the process-wide generators cannot move a draw.** -/
theorem runOwned_eq_runOps {ι Cfg σ Act : Type} [DecidableEq ι] (g : Fixed) (ρ : Rho ι) (sim : Sim Cfg σ Act) (sched : Nat → Cfg) :
    ∀ (ops : List (Op Act)) (q : OProc σ),
      runOwned g ρ sim sched q ops = runOps g ρ sim sched q.install (dropForeign ops) := by
  intro ops q
  induction ops generalizing q with
  | nil => rfl
  | cons o os ih =>
    cases o with
    -- a foreign draw returns nothing and leaves the state that the next operation installs as it was
    | foreign f => exact (ih _).trans (congrArg (runOps g ρ sim sched · (dropForeign os)) (install_foreign g q f))
    -- an operation runs on the installed state; what it leaves is recorded, hence installed again by the next one
    | step a | reset s =>
      exact congrArg _ ((ih _).trans (congrArg (runOps g ρ sim sched · (dropForeign os)) (install_after _)))

theorem runOwned_foreign_irrelevant {ι Cfg σ Act : Type} [DecidableEq ι] (g : Fixed) (ρ : Rho ι) (sim : Sim Cfg σ Act)
    (sched : Nat → Cfg) (q : OProc σ) (ops ops' : List (Op Act)) (h : dropForeign ops = dropForeign ops') :
    runOwned g ρ sim sched q ops = runOwned g ρ sim sched q ops' := by
  rw [runOwned_eq_runOps, runOwned_eq_runOps, h]

theorem runOwned_process_state_irrelevant {ι Cfg σ Act : Type} [DecidableEq ι] (g : Fixed) (ρ : Rho ι) (sim : Sim Cfg σ Act)
    (sched : Nat → Cfg) (q : OProc σ) (r : Fam → Nat) (ops : List (Op Act)) :
    runOwned g ρ sim sched { q with p := { q.p with w := { q.p.w with rng := r } } } ops = runOwned g ρ sim sched q ops := by
  rw [runOwned_eq_runOps, runOwned_eq_runOps]
  rfl

/-- `PrimaiteGymEnv(cfg)` with the configured seed, under the decorator: a new object has no saved state, `__init__` seeds, builds,
and records the state -/
def startOwned {ι Cfg σ Act : Type} [DecidableEq ι] (g : Fixed) (ρ : Rho ι) (sim : Sim Cfg σ Act) (sched : Nat → Cfg)
    (seed : Nat) : OProc σ :=
  let p := start g ρ sim sched seed
  { p := p, own := p.w.rng }

def runOwnedFrom {ι Cfg σ Act : Type} [DecidableEq ι] (g : Fixed) (sim : Sim Cfg σ Act) (sched : Nat → Cfg) (seed : Nat)
    (ops : List (Op Act)) (ρ : Rho ι) : List (List (Tok Nat)) :=
  canonRun [] (runOwned g ρ sim sched (startOwned g ρ sim sched seed) ops)

theorem runOwnedFrom_eq_run {ι Cfg σ Act : Type} [DecidableEq ι] (g : Fixed) (sim : Sim Cfg σ Act) (sched : Nat → Cfg) (seed : Nat)
    (ops : List (Op Act)) (ρ : Rho ι) :
    runOwnedFrom g sim sched seed ops ρ = run g sim sched seed (dropForeign ops) ρ := by
  simp only [runOwnedFrom, run, runOwned_eq_runOps, startOwned, install_after]

end Primaite.Noninterf
