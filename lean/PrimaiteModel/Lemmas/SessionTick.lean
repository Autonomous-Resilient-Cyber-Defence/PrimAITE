/-
C16 helper: what one tick does to the sessions of one node, in closed form.

`tick` runs `pre_timestep` on every node in turn, and each `pre_timestep` hands its expired sessions one by one to `_timeout_session`,
which also reaches into the peer's terminal.  Seen from node `y` this is: on `y`'s own turn every remote session whose id is that of an
expired session goes (with the connections of that id), the local session goes iff it expired; on every other node's turn `y` can only
lose terminal connections.  `tick_sessions` says so once; the time-out theorems are read off it.
-/
import PrimaiteModel.Lemmas.SessionFuel
namespace Primaite.Session

/-- `id` is the id of a remote session of `b` that is past its time-out at time `t` -/
def Node.timesOut (b : Node) (t id : Nat) : Bool := (b.expired t).any (fun s => s.id == id)

/-- `a` is `b` after other nodes' time-outs: at most terminal connections are gone -/
structure SameSessions (b a : Node) : Prop where
  shr : b.Shr a
  rem : a.rem = b.rem
  loc : a.loc = b.loc

/-- `a` is `b` after its own `pre_timestep` at time `t` (and other nodes' time-outs before or after) -/
structure TimedOut (t : Nat) (b a : Node) : Prop where
  shr : b.Shr a
  rem : a.rem = b.rem.filter (fun s => !b.timesOut t s.id)
  loc : a.loc = if b.localExpired t then none else b.loc
  conns : ∀ c ∈ a.conns, b.timesOut t c.id = false

theorem timesOut_iff (b : Node) (t id : Nat) :
    b.timesOut t id = true ↔ ∃ s ∈ b.rem, s.last + b.remoteTimeout ≤ t ∧ s.id = id := by
  simp only [Node.timesOut, Node.expired, List.any_eq_true, List.mem_filter, decide_eq_true_eq, beq_iff_eq, and_assoc]

theorem SameSessions.refl (b : Node) : SameSessions b b := ⟨Node.Shr.refl b, rfl, rfl⟩

theorem SameSessions.trans {b a c : Node} (h1 : SameSessions b a) (h2 : SameSessions a c) : SameSessions b c :=
  ⟨h1.shr.trans h2.shr, h2.rem.trans h1.rem, h2.loc.trans h1.loc⟩

theorem SameSessions.timesOut {b a : Node} (h : SameSessions b a) (t : Nat) : a.timesOut t = b.timesOut t := by
  unfold Node.timesOut Node.expired; rw [h.rem, h.shr.remoteTimeout]

theorem SameSessions.localExpired {b a : Node} (h : SameSessions b a) (t : Nat) : a.localExpired t = b.localExpired t := by
  unfold Node.localExpired; rw [h.loc, h.shr.localTimeout]

theorem SameSessions.timedOut {t : Nat} {b a c : Node} (h1 : SameSessions b a) (h2 : TimedOut t a c) : TimedOut t b c :=
  ⟨h1.shr.trans h2.shr, by rw [h2.rem, h1.rem, h1.timesOut], by rw [h2.loc, h1.loc, h1.localExpired],
   fun c hc => by rw [← h1.timesOut]; exact h2.conns c hc⟩

theorem TimedOut.same {t : Nat} {b a c : Node} (h1 : TimedOut t b a) (h2 : SameSessions a c) : TimedOut t b c :=
  ⟨h1.shr.trans h2.shr, h2.rem.trans h1.rem, h2.loc.trans h1.loc, fun d hd => h1.conns d (h2.shr.conns.subset hd)⟩

theorem timeoutRemote_node (m : Net) (j : Nat) (s : RSession) {y : Nat} {b : Node} (hb : m.node y = some b) :
    ∃ a, (timeoutRemote m j s).node y = some a ∧ b.Shr a ∧ a.loc = b.loc ∧
      a.rem = (if j = y then b.rem.filter (fun r => r.id != s.id) else b.rem) ∧ (j = y → ∀ c ∈ a.conns, c.id ≠ s.id) := by
  -- the node after `j` dropped the session and its own connection, and after the peer dropped its connection
  have h1 := node_upd_some hb j (fun nd => (nd.dropSession s.id).dropConn s.id)
  have h2 := node_upd_some h1 s.peer (Node.dropConn s.id)
  have hdrop : ∀ d : Node, ∀ c ∈ (d.dropConn s.id).conns, c.id ≠ s.id := fun d c hc => by
    simpa [Node.dropConn] using (List.mem_filter.mp hc).2
  have p1 : ∀ a, a = (if j = y then (b.dropSession s.id).dropConn s.id else b) →
      b.Shr a ∧ a.loc = b.loc ∧ a.rem = (if j = y then b.rem.filter (fun r => r.id != s.id) else b.rem) ∧
        (j = y → ∀ c ∈ a.conns, c.id ≠ s.id) := by
    intro a ha
    by_cases hj : j = y
    · rw [if_pos hj] at ha ⊢; rw [ha]
      exact ⟨(shr_dropSession _ b).trans (shr_dropConn _ _), rfl, rfl, fun _ => hdrop _⟩
    · rw [if_neg hj] at ha ⊢; rw [ha]
      exact ⟨Node.Shr.refl b, rfl, rfl, fun h => (hj h).elim⟩
  obtain ⟨hs, hl, hr, hc⟩ := p1 _ rfl
  unfold timeoutRemote
  dsimp only
  split
  · refine ⟨_, h2, ?_⟩
    split
    · exact ⟨hs.trans (shr_dropConn _ _), hl, hr, fun _ => hdrop _⟩
    · exact ⟨hs, hl, hr, hc⟩
  · exact ⟨_, h1, hs, hl, hr, hc⟩

theorem foldl_timeout_node (l : List RSession) (j : Nat) {y : Nat} (m : Net) {b : Node} (hb : m.node y = some b) :
    ∃ a, (l.foldl (fun m s => timeoutRemote m j s) m).node y = some a ∧ b.Shr a ∧ a.loc = b.loc ∧
      a.rem = (if j = y then b.rem.filter (fun r => !l.any (fun s => s.id == r.id)) else b.rem) ∧
      (j = y → ∀ c ∈ a.conns, l.any (fun s => s.id == c.id) = false) := by
  induction l generalizing m b with
  | nil =>
    refine ⟨b, hb, Node.Shr.refl b, rfl, ?_, fun _ _ _ => rfl⟩
    split
    · exact (List.filter_eq_self.mpr (fun _ _ => rfl)).symm
    · rfl
  | cons s t ih =>
    obtain ⟨a1, ha1, hs1, hl1, hr1, hc1⟩ := timeoutRemote_node m j s hb
    obtain ⟨a, ha, hs2, hl2, hr2, hc2⟩ := ih (timeoutRemote m j s) ha1
    refine ⟨a, ha, hs1.trans hs2, hl2.trans hl1, ?_, fun hj c hc => ?_⟩
    · rw [hr2, hr1]
      split
      · rw [List.filter_filter]
        congr 1; funext r
        rw [List.any_cons, Bool.not_or, Bool.and_comm, bne, Bool.beq_comm]
      · rfl
    · rw [List.any_cons, hc2 hj c hc, Bool.or_false]
      exact beq_false_of_ne (fun h => hc1 hj c (hs2.conns.subset hc) h.symm)

theorem preTimestepNode_node (m : Net) (j : Nat) {y : Nat} {b : Node} (hb : m.node y = some b) :
    ∃ a, (preTimestepNode m j).node y = some a ∧ (j = y → TimedOut m.time b a) ∧ (j ≠ y → SameSessions b a) := by
  unfold preTimestepNode
  cases hj : m.node j with
  | none => exact ⟨b, hb, fun h => (by rw [h, hb] at hj; cases hj), fun _ => .refl b⟩
  | some nd =>
    dsimp only
    by_cases hjy : j = y
    · subst hjy
      rw [hb] at hj; cases hj
      cases hexp : b.localExpired m.time with
      | true =>
        have hb' : (m.upd j Node.clearLoc).node j = some b.clearLoc := by rw [node_upd_some hb, if_pos rfl]
        obtain ⟨a, ha, hs, hl, hr, hc⟩ := foldl_timeout_node (b.expired m.time) j (m.upd j Node.clearLoc) hb'
        rw [if_pos rfl] at hr
        exact ⟨a, ha, fun _ => ⟨(shr_clearLoc b).trans hs, hr, by rw [hl, hexp]; rfl, hc rfl⟩, fun h => (h rfl).elim⟩
      | false =>
        obtain ⟨a, ha, hs, hl, hr, hc⟩ := foldl_timeout_node (b.expired m.time) j m hb
        rw [if_pos rfl] at hr
        exact ⟨a, ha, fun _ => ⟨hs, hr, by rw [hl, hexp]; rfl, hc rfl⟩, fun h => (h rfl).elim⟩
    · have hb' : (if nd.localExpired m.time = true then m.upd j Node.clearLoc else m).node y = some b := by
        split
        · rw [node_upd_some hb, if_neg hjy]
        · exact hb
      obtain ⟨a, ha, hs, hl, hr, _⟩ := foldl_timeout_node (nd.expired m.time) j _ hb'
      rw [if_neg hjy] at hr
      exact ⟨a, ha, fun h => (hjy h).elim, fun _ => ⟨hs, hr, hl⟩⟩

theorem foldl_pre_node (l : List Nat) (hnd : l.Nodup) (y : Nat) (m : Net) {b : Node} (hb : m.node y = some b) :
    ∃ a, (l.foldl preTimestepNode m).node y = some a ∧ (y ∈ l → TimedOut m.time b a) ∧ (y ∉ l → SameSessions b a) := by
  induction l generalizing m b with
  | nil => exact ⟨b, hb, fun h => (by cases h), fun _ => .refl b⟩
  | cons j t ih =>
    obtain ⟨hjt, hndt⟩ := List.nodup_cons.mp hnd
    obtain ⟨a1, ha1, h1, h1'⟩ := preTimestepNode_node m j hb
    obtain ⟨a, ha, h2, h2'⟩ := ih hndt (preTimestepNode m j) ha1
    rw [(shr_preTimestepNode m j).time] at h2
    refine ⟨a, ha, fun hy => ?_, fun hy => ?_⟩
    · by_cases hjy : j = y
      · exact (h1 hjy).same (h2' (hjy ▸ hjt))
      · exact (h1' hjy).timedOut (h2 ((List.mem_cons.mp hy).resolve_left (fun h => hjy h.symm)))
    · exact (h1' (fun h => hy (h ▸ List.mem_cons_self))).trans (h2' (fun h => hy (List.mem_cons_of_mem _ h)))

/-- **one tick, seen from node `y`**: the time-out parameters stay; exactly the remote sessions carrying the id of a session past
ITS time-out (`remote_session_timeout_steps`) go, with the node's connections of those ids; the local session goes iff it is past
its own (`local_session_timeout_steps`) -/
theorem tick_sessions (n : Net) {y : Nat} {b : Node} (hb : n.node y = some b) :
    ∃ a, (tick n).node y = some a ∧ a.remoteTimeout = b.remoteTimeout ∧ a.localTimeout = b.localTimeout ∧
      a.rem = b.rem.filter (fun s => !b.timesOut (n.time + 1) s.id) ∧
      a.loc = (if b.localExpired (n.time + 1) then none else b.loc) ∧ ∀ c ∈ a.conns, b.timesOut (n.time + 1) c.id = false := by
  have hb1 : ({ n with time := n.time + 1, nodes := n.nodes.map Node.applyTimestep } : Net).node y = some b.applyTimestep := by
    simp only [Net.node, List.getElem?_map] at hb ⊢
    rw [hb]; rfl
  have hd := applyTimestep_data b
  have hto : ∀ id, b.applyTimestep.timesOut (n.time + 1) id = b.timesOut (n.time + 1) id := fun id => by
    unfold Node.timesOut Node.expired; rw [data_rem hd, data_remoteTimeout hd]
  have hle : b.applyTimestep.localExpired (n.time + 1) = b.localExpired (n.time + 1) := by
    unfold Node.localExpired; rw [data_loc hd, data_localTimeout hd]
  obtain ⟨a, ha, h, _⟩ := foldl_pre_node (List.range (n.nodes.map Node.applyTimestep).length) List.nodup_range y _ hb1
  replace h := h (by simp only [List.length_map, List.mem_range]; exact node_some_lt hb)
  refine ⟨a, ha, h.shr.remoteTimeout.trans (data_remoteTimeout hd), h.shr.localTimeout.trans (data_localTimeout hd), ?_, ?_, ?_⟩
  · rw [h.rem, data_rem hd]; simp only [hto]
  · rw [h.loc, hle, data_loc hd]
  · intro c hc; rw [← hto]; exact h.conns c hc

theorem tick_timesOut_gone (n : Net) {y : Nat} {b : Node} (hb : n.node y = some b) {id : Nat}
    (hto : b.timesOut (n.time + 1) id = true) :
    ∃ a, (tick n).node y = some a ∧ a.hasSession id = false ∧ a.hasConn id = false := by
  obtain ⟨a, ha, _, _, hrem, _, hconns⟩ := tick_sessions n hb
  refine ⟨a, ha, List.any_eq_false.mpr (fun r hr h => ?_), List.any_eq_false.mpr (fun c hc h => ?_)⟩
  · rw [hrem] at hr
    have := (List.mem_filter.mp hr).2
    rw [beq_iff_eq.mp h, hto] at this; cases this
  · have := hconns c hc
    rw [beq_iff_eq.mp h, hto] at this; cases this

end Primaite.Session
