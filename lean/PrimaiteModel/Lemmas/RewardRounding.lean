/-
What floating-point arithmetic keeps of the two sums of C10 (step reward = Σ wᵢ·cᵢ, episode total = Σ rₖ).

The code accumulates left to right in IEEE doubles: `total += weight * value` is `acc ← fl (acc + fl (w · c))`, and
`total_reward += current_reward` is `acc ← fl (acc + r)`.  Here `fl` is an ABSTRACT rounding function on an arbitrary
linearly ordered field, of which only the standard model is assumed: `|fl x − x| ≤ u · |x|` (for IEEE doubles without
overflow / underflow: `u = 2⁻⁵³`).  Proved, for every list and every such `fl`:

    |flSum fl 0 ts − Σ ts|                 ≤ ((1+u)ⁿ − 1) · Σ |tᵢ|          (n = length)
    |flWeightedFold fl wcs − Σ wᵢ·cᵢ|      ≤ ((1+u)ⁿ⁺¹ − 1) · Σ |wᵢ·cᵢ|

This is the factor `gamma` of harness/rigs/reward.py; that the Python floats of CPython are such an `fl` with `u = 2⁻⁵³`
is the IEEE-754 standard, not proved here.  (Mathlib: ordered fields, `abs`, `linarith` / `ring`.)
-/
import Mathlib.Algebra.Order.Field.Basic
import Mathlib.Algebra.Order.Ring.Abs
import Mathlib.Tactic.Linarith
import Mathlib.Tactic.Ring

namespace Primaite.Reward.Rounding

variable {K : Type} [Field K] [LinearOrder K] [IsStrictOrderedRing K]

def sum : List K → K
  | [] => 0
  | t :: ts => t + sum ts

def sumAbs : List K → K
  | [] => 0
  | t :: ts => |t| + sumAbs ts

/-- the accumulation loop `acc ← fl (acc + t)` -/
def flSum (fl : K → K) : K → List K → K
  | acc, [] => acc
  | acc, t :: ts => flSum fl (fl (acc + t)) ts

/-- `RewardFunction.update` in rounded arithmetic: `acc ← fl (acc + fl (w * c))` -/
def flWeightedFold (fl : K → K) : K → List (K × K) → K
  | acc, [] => acc
  | acc, wc :: rest => flWeightedFold fl (fl (acc + fl (wc.1 * wc.2))) rest

theorem sumAbs_nonneg (ts : List K) : 0 ≤ sumAbs ts := by
  induction ts with
  | nil => exact le_refl _
  | cons t ts ih => exact add_nonneg (abs_nonneg t) ih

theorem abs_fl_le (fl : K → K) (u : K) (hfl : ∀ x, |fl x - x| ≤ u * |x|) (x : K) : |fl x| ≤ (1 + u) * |x| := by
  calc |fl x| = |fl x - x + x| := by rw [sub_add_cancel]
    _ ≤ |fl x - x| + |x| := abs_add_le _ _
    _ ≤ u * |x| + |x| := add_le_add (hfl x) (le_refl _)
    _ = (1 + u) * |x| := by rw [add_mul, one_mul, add_comm]

theorem flSum_error_acc (fl : K → K) (u : K) (hu : 0 ≤ u) (hfl : ∀ x, |fl x - x| ≤ u * |x|) (ts : List K) :
    ∀ A : K, |flSum fl A ts - (A + sum ts)| ≤ ((1 + u) ^ ts.length - 1) * (|A| + sumAbs ts) := by
  induction ts with
  | nil => intro A; simp [flSum, sum, sumAbs]
  | cons t rest ih =>
    intro A
    have hu1 : 1 ≤ 1 + u := le_add_of_nonneg_right hu
    have hP : (1 : K) ≤ (1 + u) ^ rest.length := one_le_pow₀ hu1
    have hS := sumAbs_nonneg rest
    simp only [flSum, sum, sumAbs, List.length_cons, pow_succ, ← add_assoc]
    generalize (1 + u) ^ rest.length = P at ih hP ⊢
    generalize sumAbs rest = S at ih hS ⊢
    have hP0 : 0 ≤ P := le_trans zero_le_one hP
    have hQ : 0 ≤ P * (1 + u) - 1 := sub_nonneg.mpr (one_le_mul_of_one_le_of_one_le hP hu1)
    -- the tail runs from `fl (A + t)`: within `u·|A + t|` of `A + t`, and of size at most `(1+u)·|A + t|`
    calc |flSum fl (fl (A + t)) rest - (A + t + sum rest)|
        ≤ |flSum fl (fl (A + t)) rest - (fl (A + t) + sum rest)| + |fl (A + t) + sum rest - (A + t + sum rest)| :=
          abs_sub_le _ _ _
      _ = |flSum fl (fl (A + t)) rest - (fl (A + t) + sum rest)| + |fl (A + t) - (A + t)| := by
          rw [add_sub_add_right_eq_sub]
      _ ≤ (P - 1) * (|fl (A + t)| + S) + u * |A + t| := add_le_add (ih _) (hfl _)
      _ ≤ (P - 1) * ((1 + u) * |A + t| + S) + u * |A + t| := by
          have := mul_le_mul_of_nonneg_left (abs_fl_le fl u hfl (A + t)) (sub_nonneg.mpr hP)
          linarith
      _ = (P * (1 + u) - 1) * |A + t| + (P - 1) * S := by ring
      _ ≤ (P * (1 + u) - 1) * (|A| + |t| + S) := by
          have h1 := mul_le_mul_of_nonneg_left (abs_add_le A t) hQ
          have h2 : (P - 1) * S ≤ (P * (1 + u) - 1) * S :=
            mul_le_mul_of_nonneg_right (sub_le_sub_right (le_mul_of_one_le_right hP0 hu1) 1) hS
          linarith

/-- **Rounded summation.** `acc ← fl (acc + t)` from 0 stays within `((1+u)ⁿ − 1) · Σ|tᵢ|` of the exact sum. -/
theorem flSum_error (fl : K → K) (u : K) (hu : 0 ≤ u) (hfl : ∀ x, |fl x - x| ≤ u * |x|) (ts : List K) :
    |flSum fl 0 ts - sum ts| ≤ ((1 + u) ^ ts.length - 1) * sumAbs ts := by
  simpa using flSum_error_acc fl u hu hfl ts 0

omit [LinearOrder K] [IsStrictOrderedRing K] in
theorem flWeightedFold_eq_flSum (fl : K → K) (wcs : List (K × K)) :
    ∀ acc, flWeightedFold fl acc wcs = flSum fl acc ((wcs.map (fun wc => wc.1 * wc.2)).map fl) := by
  induction wcs with
  | nil => intro acc; rfl
  | cons wc rest ih => intro acc; exact ih _

theorem sum_rounded_terms (fl : K → K) (u : K) (hfl : ∀ x, |fl x - x| ≤ u * |x|) (ts : List K) :
    |sum (ts.map fl) - sum ts| ≤ u * sumAbs ts ∧ sumAbs (ts.map fl) ≤ (1 + u) * sumAbs ts := by
  induction ts with
  | nil => simp [sum, sumAbs]
  | cons t rest ih =>
    simp only [List.map_cons, sum, sumAbs, add_sub_add_comm]
    have := abs_add_le (fl t - t) (sum (rest.map fl) - sum rest)
    constructor <;> linarith [hfl t, abs_fl_le fl u hfl t, ih.1, ih.2]

/-- **Rounded weighted sum.** The loop of `RewardFunction.update` in any arithmetic with relative rounding error `u` stays
within `((1+u)ⁿ⁺¹ − 1) · Σ|wᵢ·cᵢ|` of the exact weighted sum. -/
theorem flWeightedFold_error (fl : K → K) (u : K) (hu : 0 ≤ u) (hfl : ∀ x, |fl x - x| ≤ u * |x|) (wcs : List (K × K)) :
    |flWeightedFold fl 0 wcs - sum (wcs.map (fun wc => wc.1 * wc.2))| ≤
      ((1 + u) ^ (wcs.length + 1) - 1) * sumAbs (wcs.map (fun wc => wc.1 * wc.2)) := by
  rw [flWeightedFold_eq_flSum, ← List.length_map (as := wcs) (fun wc => wc.1 * wc.2), pow_succ]
  generalize wcs.map (fun wc => wc.1 * wc.2) = ts
  -- the rounded products are summed with rounding (`flSum_error`), and differ from the exact products by `sum_rounded_terms`
  have hA := flSum_error fl u hu hfl (ts.map fl)
  obtain ⟨hB, hC⟩ := sum_rounded_terms fl u hfl ts
  rw [List.length_map] at hA
  have hP : (1 : K) ≤ (1 + u) ^ ts.length := one_le_pow₀ (le_add_of_nonneg_right hu)
  generalize (1 + u) ^ ts.length = P at hA hP ⊢
  have h4 := mul_le_mul_of_nonneg_left hC (sub_nonneg.mpr hP)
  calc |flSum fl 0 (ts.map fl) - sum ts|
      ≤ |flSum fl 0 (ts.map fl) - sum (ts.map fl)| + |sum (ts.map fl) - sum ts| := abs_sub_le _ _ _
    _ ≤ (P - 1) * ((1 + u) * sumAbs ts) + u * sumAbs ts := by linarith
    _ = (P * (1 + u) - 1) * sumAbs ts := by ring

end Primaite.Reward.Rounding
