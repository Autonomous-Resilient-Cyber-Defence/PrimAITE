/-
What the forwarding interpreter (`Model/Forward.lean`) can do to the state and to the frame it is handed, as two closure
relations, established by one walk over its fifteen functions.  That the out-of-fuel flag is sticky (`Eff.oof`), that the
configuration is static (`Eff.cfg` in `ForwardInv.lean`) and that a frame's potential never increases (`FEff.thr` in
`Props/C08Forward.lean`) are read off the relations.
-/
import PrimaiteModel.Model.Forward
namespace Primaite.Forward

def floodPort (fuel n i : Nat) (acc : St × Frame) (p : Nat) : St × Frame :=
  match acc.1.iface? n p with
  | some pif => if pif.enabled && p != i then sendFrame fuel acc.1 n p acc.2 else acc
  | none => acc

theorem floodPorts_succ (fuel : Nat) (st : St) (n i : Nat) (f : Frame) (ports : List Nat) :
    floodPorts (fuel + 1) st n i f ports = ports.foldl (floodPort fuel n i) (st, f) := by
  simp only [floodPorts]; rfl

/-- `X` is `st` after some of the interpreter's effects on the state: a log entry, one of six updates of a node's tables, an
identifier drawn, the out-of-fuel flag raised. -/
inductive Eff (st : St) : St → Prop
  | refl : Eff st st
  | emit {X : St} (e : Ev) : Eff st X → Eff st (X.emit e)
  | addArp {X : St} (n : Nat) (ip : Ip) (mac : Mac) (i : Nat) : Eff st X → Eff st (X.modNode n fun nd => nd.addArp ip mac i)
  | learnMac {X : St} (n : Nat) (mac : Mac) (i : Nat) : Eff st X → Eff st (X.modNode n fun nd => nd.learnMac mac i)
  | bump {X : St} (n ident : Nat) :
    Eff st X → Eff st (X.modNode n fun nd => { nd with replies := bumpReply nd.replies ident })
  | served {X : St} (n : Nat) : Eff st X → Eff st (X.modNode n fun nd => { nd with served := true })
  | ack {X : St} (n svc : Nat) : Eff st X → Eff st (X.modNode n fun nd => { nd with acks := svc :: nd.acks })
  | got {X : St} (n svc : Nat) : Eff st X → Eff st (X.modNode n fun nd => { nd with got := svc :: nd.got })
  | nextId {X : St} (k : Nat) : Eff st X → Eff st { X with nextId := k }
  | out {X : St} : Eff st X → Eff st X.out

/-- `g` is `f` after some TTL decrements and router rewrites of the ethernet header. -/
inductive FEff (f : Frame) : Frame → Prop
  | refl : FEff f f
  | dec {g : Frame} : FEff f g → FEff f g.dec
  | stamp {g : Frame} (a b : Mac) : FEff f g → FEff f (g.stamp a b)

theorem Eff.ite {st a b : St} {c : Prop} [Decidable c] (ha : Eff st a) (hb : Eff st b) : Eff st (if c then a else b) := by
  split
  · exact ha
  · exact hb

/-- every function of the interpreter, at one fuel level: the state it returns is the one it was given after some effects,
the frame it hands back is the one it was given after some decrements and rewrites.  Stated relative to an earlier state
`s0` (frame `f0`), `Eff s0 st → Eff s0 (callee … st)`, so that a leaf of a body — effects and calls nested in any order — is
closed by rewriting from the outside in with these rules and the constructors, down to the hypothesis on `st`; the
discharge depth is the nesting depth of the leaf. -/
structure EAt (fuel : Nat) : Prop where
  send : ∀ st n i f, (∀ {s0}, Eff s0 st → Eff s0 (sendFrame fuel st n i f).1) ∧ ∀ {f0}, FEff f0 f → FEff f0 (sendFrame fuel st n i f).2
  recv : ∀ st n i f, (∀ {s0}, Eff s0 st → Eff s0 (ifaceRecv fuel st n i f).1) ∧ ∀ {f0}, FEff f0 f → FEff f0 (ifaceRecv fuel st n i f).2
  sw : ∀ st n i f, (∀ {s0}, Eff s0 st → Eff s0 (switchRecv fuel st n i f).1) ∧ ∀ {f0}, FEff f0 f → FEff f0 (switchRecv fuel st n i f).2
  flood : ∀ st n i f ports, (∀ {s0}, Eff s0 st → Eff s0 (floodPorts fuel st n i f ports).1) ∧
    ∀ {f0}, FEff f0 f → FEff f0 (floodPorts fuel st n i f ports).2
  host : ∀ st n i f, (∀ {s0}, Eff s0 st → Eff s0 (hostRecv fuel st n i f).1) ∧ ∀ {f0}, FEff f0 f → FEff f0 (hostRecv fuel st n i f).2
  router : ∀ st n i f, (∀ {s0}, Eff s0 st → Eff s0 (routerRecv fuel st n i f).1) ∧ ∀ {f0}, FEff f0 f → FEff f0 (routerRecv fuel st n i f).2
  process : ∀ st n i f, (∀ {s0}, Eff s0 st → Eff s0 (routerProcess fuel st n i f).1) ∧
    ∀ {f0}, FEff f0 f → FEff f0 (routerProcess fuel st n i f).2
  arpReply : ∀ {s0} st n pl, Eff s0 st → Eff s0 (sendArpReply fuel st n pl)
  arpPkt : ∀ {s0} st n pl d, Eff s0 st → Eff s0 (sendArpPkt fuel st n pl d)
  icmp : ∀ {s0} st n d pl, Eff s0 st → Eff s0 (sendIcmp fuel st n d pl)
  details : ∀ {s0} st n d, Eff s0 st → Eff s0 (resolveDetails fuel st n d).1
  out : ∀ {s0} st n d, Eff s0 st → Eff s0 (resolveOut fuel st n d).1
  mac : ∀ {s0} st n ip re gw, Eff s0 st → Eff s0 (arpMac fuel st n ip re gw).1
  ifc : ∀ {s0} st n ip re gw, Eff s0 st → Eff s0 (arpIfc fuel st n ip re gw).1
  req : ∀ {s0} st n t, Eff s0 st → Eff s0 (sendArpReq fuel st n t)

theorem eAt_zero : EAt 0 := by
  constructor
  all_goals intros
  all_goals simp only [sendFrame, ifaceRecv, switchRecv, floodPorts, hostRecv, routerRecv, routerProcess, sendArpReply,
    sendArpPkt, sendIcmp, resolveDetails, resolveOut, arpMac, arpIfc, sendArpReq]
  all_goals first | exact ⟨fun h => Eff.out h, fun h => h⟩ | exact Eff.out ‹_›

theorem eAt_succ (fuel : Nat) (ih : EAt fuel) : EAt (fuel + 1) := by
  generalize hk : fuel + 1 = k
  constructor
  · intro st n i f
    fun_cases sendFrame k st n i f <;> cases hk
    all_goals refine ⟨fun {s0} h => ?_, fun {f0} h => ?_⟩
    all_goals simp only [ih.recv, h]
  · intro st n i f
    fun_cases ifaceRecv k st n i f <;> cases hk
    all_goals refine ⟨fun {s0} h => ?_, fun {f0} h => ?_⟩
    all_goals simp +zetaDelta only [ih.host, ih.router, ih.sw, Eff.emit, FEff.dec, h]
  · intro st n i f
    fun_cases switchRecv k st n i f <;> cases hk
    all_goals refine ⟨fun {s0} h => ?_, fun {f0} h => ?_⟩
    all_goals simp +zetaDelta only [ih.send, ih.flood, Eff.learnMac, h]
  · intro st n i f ports
    subst hk
    rw [floodPorts_succ]
    refine ⟨fun {s0} h => List.foldlRecOn (motive := fun acc : St × Frame => Eff s0 acc.1) ports _ h ?_,
      fun {f0} hf => List.foldlRecOn (motive := fun acc : St × Frame => FEff f0 acc.2) ports _ hf ?_⟩
    all_goals
      intro acc ha p _
      unfold floodPort
      split
      · split
        · first | exact (ih.send _ _ _ _).1 ha | exact (ih.send _ _ _ _).2 ha
        · exact ha
      · exact ha
  · intro st n i f
    fun_cases hostRecv k st n i f <;> cases hk
    all_goals refine ⟨fun {s0} h => ?_, fun {f0} h => ?_⟩
    all_goals simp (maxDischargeDepth := 5) +zetaDelta only [ih.arpReply, ih.out, ih.icmp, Eff.emit, Eff.addArp, Eff.bump,
      Eff.served, Eff.ack, Eff.got, Eff.ite, h]
  · intro st n i f
    fun_cases routerRecv k st n i f <;> cases hk
    all_goals refine ⟨fun {s0} h => ?_, fun {f0} h => ?_⟩
    all_goals simp (maxDischargeDepth := 4) +zetaDelta only [ih.arpReply, ih.out, ih.icmp, ih.process, Eff.emit, Eff.addArp,
      Eff.bump, h]
    -- left: the DMZ branch, whose outbound port is a nested look-up bound by a `let`
    all_goals repeat' split
    all_goals simp (maxDischargeDepth := 4) only [ih.ifc, ih.process, Eff.emit, Eff.addArp, h]
  · intro st n i f
    fun_cases routerProcess k st n i f <;> cases hk
    all_goals refine ⟨fun {s0} h => ?_, fun {f0} h => ?_⟩
    all_goals simp (maxDischargeDepth := 6) +zetaDelta only [ih.ifc, ih.mac, ih.send, Eff.emit, FEff.dec, FEff.stamp, h]
  · intro s0 st n pl h
    fun_cases sendArpReply k st n pl <;> cases hk
    all_goals simp +zetaDelta only [ih.out, ih.arpPkt, h]
  · intro s0 st n pl d h
    fun_cases sendArpPkt k st n pl d <;> cases hk
    all_goals simp (maxDischargeDepth := 3) +zetaDelta only [ih.out, ih.send, Eff.nextId, h]
  · intro s0 st n d pl h
    fun_cases sendIcmp k st n d pl <;> cases hk
    all_goals simp (maxDischargeDepth := 3) +zetaDelta only [ih.details, ih.send, Eff.nextId, h]
  · intro s0 st n d h
    fun_cases resolveDetails k st n d <;> cases hk
    all_goals dsimp +zetaDelta only
    -- left: the on-link look-up `r1`, a `match` bound by a `let`
    all_goals try split
    all_goals simp (maxDischargeDepth := 3) only [ih.mac, ih.ifc, Eff.emit, h]
  · intro s0 st n d h
    fun_cases resolveOut k st n d <;> cases hk
    all_goals simp only [ih.ifc, h]
  · intro s0 st n ip re gw h
    fun_cases arpMac k st n ip re gw <;> cases hk
    all_goals simp only [ih.req, ih.mac, Eff.emit, h]
  · intro s0 st n ip re gw h
    fun_cases arpIfc k st n ip re gw <;> cases hk
    all_goals simp only [ih.req, ih.ifc, Eff.emit, h]
  · intro s0 st n t h
    fun_cases sendArpReq k st n t <;> cases hk
    all_goals simp +zetaDelta only [ih.out, ih.arpPkt, h]

theorem eAt (fuel : Nat) : EAt fuel := Nat.rec eAt_zero eAt_succ fuel

theorem Eff.oof {st X : St} (h : Eff st X) (ho : st.oof = true) : X.oof = true := by
  induction h with
  | refl => exact ho
  | out => rfl
  | _ => assumption

end Primaite.Forward
