/-
Generic cut theorem for re-entrant nodes (instantiated in Props/C06*.lean) and the closure lemmas that discharge
`SafeAct` for the script combinators of `Model/Cut.lean`.
-/
import PrimaiteModel.Model.Cut
namespace Primaite.Cut
set_option linter.unusedSectionVars false

variable {N Port F S : Type} [DecidableEq N]
variable (sys : Sys N Port F S) (side : N → Bool) (K : N → Port → F → Prop) (I : N → S → Prop)

theorem good_refl (σ : St N S) (h : ∀ n, side n = true → I n (σ n)) : Good side I σ σ :=
  ⟨h, fun _ _ => rfl⟩

theorem good_trans {σ₀ σ₁ σ₂ : St N S} (h₁ : Good side I σ₀ σ₁) (h₂ : Good side I σ₁ σ₂) : Good side I σ₀ σ₂ :=
  ⟨h₂.1, fun t ht => by rw [h₂.2 t ht, h₁.2 t ht]⟩

theorem good_upd (σ : St N S) (n : N) (s : S) (hn : side n = true) (hi : I n s) (hI : ∀ m, side m = true → I m (σ m)) :
    Good side I σ (upd σ n s) := by
  refine ⟨fun m hm => ?_, fun t ht => ?_⟩
  · by_cases hmn : m = n
    · subst hmn; simpa [upd] using hi
    · simpa [upd, hmn] using hI m hm
  · have : t ≠ n := by intro h; rw [h, hn] at ht; cases ht
    simp [upd, this]

theorem runAct_good (dlv : St N S → N → Port → F → St N S)
    (hdlv : ∀ (σ : St N S) m r g, (∀ n, side n = true → I n (σ n)) → side m = true → K m r g →
      Good side I σ (dlv σ m r g))
    (n : N) (hn : side n = true) :
    ∀ (a : Act S Port F) (σ0 : St N S), SafeAct sys side K I n a →
      (∀ n, side n = true → I n (σ0 n)) → Good side I σ0 (runAct dlv sys.wire n σ0 a) := by
  intro a
  induction a with
  | done s =>
    intro σ0 hs hI0
    cases hs with
    | done hi => exact good_upd side I σ0 n s hn hi hI0
  | send s q g k ihk =>
    intro σ0 hs hI0
    cases hs with
    | send hi hw hk =>
      simp only [runAct]
      -- own write, nested delivery, continuation: three good steps
      have h1 := good_upd side I σ0 n s hn hi hI0
      have h2 : Good side I (upd σ0 n s)
          (match sys.wire n q with
            | none => upd σ0 n s
            | some (m, r) => dlv (upd σ0 n s) m r g) := by
        cases hwq : sys.wire n q with
        | none => exact good_refl side I _ h1.1
        | some mr =>
          obtain ⟨m, r⟩ := mr
          exact hdlv _ m r g h1.1 (hw m r hwq).1 (hw m r hwq).2
      have h12 := good_trans side I h1 h2
      exact good_trans side I h12 (ihk _ _ (hk _ (h12.1 n hn)) h12.1)

/-- **Cut theorem, delivery.** If the system is a cut, delivering an admissible frame to an attacker-side
node — with everything that this triggers, to any nesting depth, re-entrance included — leaves every protected
node's state exactly as it was, and re-establishes the attacker-side invariants. -/
theorem deliver_good (cut : IsCut sys side K I) :
    ∀ (fuel : Nat) (σ : St N S) (n : N) (p : Port) (f : F),
      (∀ n, side n = true → I n (σ n)) → side n = true → K n p f →
      Good side I σ (deliver sys fuel σ n p f) := by
  intro fuel
  induction fuel with
  | zero => intro σ n p f hI _ _; exact good_refl side I σ hI
  | succ fuel ih =>
    intro σ n p f hI hn hK
    simp only [deliver]
    exact runAct_good sys side K I (deliver sys fuel) (fun σ m r g h1 h2 h3 => ih σ m r g h1 h2 h3) n hn _ σ
      (cut.closed n (σ n) p f hn (hI n hn) hK) hI

/-- An operation is admissible when it runs on an attacker-side node and its script is safe from every
state satisfying that node's invariant. -/
def SafeOp (o : Op N Port F S) : Prop :=
  side o.node = true ∧ ∀ s, I o.node s → SafeAct sys side K I o.node (o.script s)

theorem runOp_good (cut : IsCut sys side K I) (fuel : Nat) (σ : St N S) (o : Op N Port F S)
    (ho : SafeOp sys side K I o) (hI : ∀ n, side n = true → I n (σ n)) :
    Good side I σ (runOp sys fuel σ o) := by
  unfold runOp
  exact runAct_good sys side K I (deliver sys fuel)
    (fun σ m r g h1 h2 h3 => deliver_good sys side K I cut fuel σ m r g h1 h2 h3) o.node ho.1 _ σ
    (ho.2 _ (hI _ ho.1)) hI

/-- **Cut theorem, operation sequences.** Any sequence of admissible local operations on attacker-side
nodes leaves every protected node's state unchanged. -/
theorem runOps_good (cut : IsCut sys side K I) :
    ∀ (ops : List (Nat × Op N Port F S)) (σ : St N S),
      (∀ o ∈ ops, SafeOp sys side K I o.2) → (∀ n, side n = true → I n (σ n)) →
      Good side I σ (runOps sys σ ops) := by
  intro ops
  induction ops with
  | nil => intro σ _ hI; exact good_refl side I σ hI
  | cons x rest ih =>
    intro σ hops hI
    obtain ⟨fuel, o⟩ := x
    simp only [runOps]
    have h1 := runOp_good sys side K I cut fuel σ o (hops (fuel, o) (by simp)) hI
    have h2 := ih (runOp sys fuel σ o) (fun o' ho' => hops o' (by simp [ho'])) h1.1
    exact good_trans side I h1 h2

theorem safe_bind (n : N) :
    ∀ (a : Act S Port F) (k : S → Act S Port F), SafeAct sys side K I n a →
      (∀ s, I n s → SafeAct sys side K I n (k s)) → SafeAct sys side K I n (a.bind k) := by
  intro a
  induction a with
  | done s =>
    intro k ha hk
    cases ha with
    | done hi => exact hk s hi
  | send s q g k' ih =>
    intro k ha hk
    cases ha with
    | send hi hw hk' =>
      exact SafeAct.send hi hw (fun s' hs' => ih s' k (hk' s' hs') hk)

theorem safe_of_interior (n : N) (hK : ∀ q m r g, sys.wire n q = some (m, r) → K m r g) (hI : ∀ s, I n s)
    (hw : ∀ q m r, sys.wire n q = some (m, r) → side m = true) :
    ∀ a : Act S Port F, SafeAct sys side K I n a := by
  intro a
  induction a with
  | done s => exact SafeAct.done (hI s)
  | send s q g k ih =>
    exact SafeAct.send (hI s) (fun m r h => ⟨hw q m r h, hK q m r g h⟩) (fun s' _ => ih s')

theorem pres_guard (P : S → Prop) (en : S → Port → Bool) :
    ∀ a : Act S Port F, Pres P a → Pres P (guardSends en a) := by
  intro a
  induction a with
  | done s => intro h; cases h with | done hp => exact Pres.done hp
  | send s q g k ih =>
    intro h
    cases h with
    | send hp hk =>
      simp only [guardSends]
      split
      · exact Pres.send hp (fun s' hs' => ih s' (hk s' hs'))
      · exact ih s (hk s hp)

theorem pres_bind (P : S → Prop) :
    ∀ (a : Act S Port F) (k : S → Act S Port F), Pres P a → (∀ s, P s → Pres P (k s)) → Pres P (a.bind k) := by
  intro a
  induction a with
  | done s => intro k ha hk; cases ha with | done hp => exact hk s hp
  | send s q g k' ih =>
    intro k ha hk
    cases ha with
    | send hp hk' => exact Pres.send hp (fun s' hs' => ih s' k (hk' s' hs') hk)

/-- **Disabled interfaces are inert on the send side.** A node whose scripts go through the interface-send
layer and only write states in which every port that leaves the attacker side is disabled, is safe. -/
theorem safe_of_guard (n : N) (en : S → Port → Bool) (hK : ∀ q m r g, sys.wire n q = some (m, r) → K m r g)
    (hw : ∀ s q m r, I n s → en s q = true → sys.wire n q = some (m, r) → side m = true) :
    ∀ a : Act S Port F, Pres (I n) a → SafeAct sys side K I n (guardSends en a) := by
  intro a
  induction a with
  | done s => intro h; cases h with | done hp => exact SafeAct.done hp
  | send s q g k ih =>
    intro h
    cases h with
    | send hp hk =>
      simp only [guardSends]
      split
      · rename_i hen
        exact SafeAct.send hp (fun m r hwq => ⟨hw s q m r hp hen hwq, hK q m r g hwq⟩) (fun s' hs' => ih s' (hk s' hs'))
      · exact ih s (hk s hp)

theorem guard_bind (en : S → Port → Bool) :
    ∀ (a : Act S Port F) (k : S → Act S Port F),
      guardSends en (a.bind k) = (guardSends en a).bind (fun s => guardSends en (k s)) := by
  intro a
  induction a with
  | done s => intro k; rfl
  | send s q g k' ih =>
    intro k
    cases h : en s q
    · simp only [Act.bind, guardSends, h, Bool.false_eq_true, if_false]; exact ih s k
    · simp only [Act.bind, guardSends, h, if_true]
      congr 1
      funext s'
      exact ih s' k

abbrev SafeG (en : S → Port → Bool) (n : N) (a : Act S Port F) : Prop := SafeAct sys side K I n (guardSends en a)

theorem safe_guard_bind (n : N) (en : S → Port → Bool) (a : Act S Port F) (k : S → Act S Port F)
    (ha : SafeG sys side K I en n a) (hk : ∀ s, I n s → SafeG sys side K I en n (k s)) :
    SafeG sys side K I en n (a.bind k) := by
  rw [SafeG, guard_bind]; exact safe_bind sys side K I n _ _ ha hk

theorem safe_guard_send (n : N) (en : S → Port → Bool) (s : S) (q : Port) (g : F) (hs : I n s)
    (hw : en s q = true → ∀ m r, sys.wire n q = some (m, r) → side m = true ∧ K m r g) :
    SafeG sys side K I en n (.send s q g fun s' => .done s') := by
  simp only [SafeG, guardSends]
  split
  · rename_i hen; exact SafeAct.send hs (hw hen) (fun _ hs' => SafeAct.done hs')
  · exact SafeAct.done hs

theorem safe_done (n : N) (s : S) (h : I n s) : SafeAct sys side K I n (.done s : Act S Port F) := SafeAct.done h

theorem runAct_done (dlv : St N S → N → Port → F → St N S) (wire : N → Port → Option (N × Port)) (n : N)
    (σ : St N S) (s : S) : runAct dlv wire n σ (.done s : Act S Port F) = upd σ n s := rfl

end Primaite.Cut
