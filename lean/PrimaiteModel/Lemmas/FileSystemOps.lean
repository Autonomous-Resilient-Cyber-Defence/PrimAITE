/-
What the lookups, guards and routes of `Model/FileSystem.lean` find in a state satisfying `Inv`: the folder `create_file` settles on,
the `folder` route and its continuations, the `file` route.
-/
import PrimaiteModel.Lemmas.FileSystemState
namespace Primaite.FileSystem

theorem createFileTarget_mem (s : State) (F : Name) :
    ∀ g, (createFileTarget s F).2 = some g → g ∈ (createFileTarget s F).1.folders := by
  unfold createFileTarget
  by_cases hF : F = ""
  · simp only [hF, ne_eq, not_true_eq_false, if_false]
    exact fun g hg => (getFolder_live hg).1
  · simp only [ne_eq, hF, not_false_eq_true, if_true]
    cases hg : getFolder s F with
    | some g => exact fun g' hg' => by cases hg'; exact (getFolder_live hg).1
    | none => exact fun g' hg' => by cases hg'; exact (createFolder_mem s F).1

theorem createFileTarget_of_live {s : State} (h : Inv s) {g : Folder} (hg : g ∈ s.folders) (F : Name)
    (hF : g.name = if F = "" then "root" else F) : createFileTarget s F = (s, some g) := by
  have hgf := getFolder_of_live h hg
  unfold createFileTarget
  by_cases hFe : F = ""
  · rw [if_pos hFe] at hF
    rw [if_neg (fun hn : F ≠ "" => hn hFe), ← hF, hgf]
  · rw [if_neg hFe] at hF
    rw [if_pos hFe, ← hF, hgf]

theorem createFileTarget_unchanged_or_fresh (s : State) (F : Name) :
    (createFileTarget s F).1 = s ∨ (∃ g, (createFileTarget s F).2 = some g ∧ g.files = []) := by
  unfold createFileTarget
  by_cases hF : F = ""
  · left; simp [hF]
  · simp only [ne_eq, hF, not_false_eq_true, if_true]
    cases hg : getFolder s F with
    | some g => left; rfl
    | none =>
      right
      refine ⟨(createFolder s F).2, rfl, ?_⟩
      rw [createFolder_eq, hg]
      obtain ⟨_, _, _, f4, _⟩ := setDur_fields s { id := s.next, name := F }
      exact f4

/-- The folder `create_file` settles on holds a live `x` exactly when the lookup under the folder's name finds one: a folder made on
the way is empty. -/
theorem createFileTarget_getFile {s s1 : State} {F : Name} {g : Folder} (hT : createFileTarget s F = (s1, some g)) (x : Name) :
    g.getFile x = getFile s (if F = "" then "root" else F) x := by
  unfold createFileTarget at hT
  unfold getFile
  by_cases hF : F = ""
  · subst hF
    simp only [ne_eq, not_true_eq_false, if_false, Prod.mk.injEq] at hT
    simp only [if_true, hT.2]
  · simp only [ne_eq, hF, not_false_eq_true, if_true] at hT
    simp only [hF, if_false]
    cases hq : getFolder s F with
    | some g' =>
      rw [hq] at hT
      simp only [Prod.mk.injEq, Option.some.injEq] at hT
      rw [hT.2]
    | none =>
      rw [hq] at hT
      simp only [Prod.mk.injEq, Option.some.injEq] at hT
      rw [← hT.2, createFolder_eq, hq]
      obtain ⟨_, _, _, f4, _⟩ := setDur_fields s { id := s.next, name := F }
      simp [Folder.getFile, f4]

theorem folderGuard_spec {s : State} (h : Inv s) {F : Name} (hguard : folderGuard s F = true) :
    ∃ g, g ∈ s.folders ∧ g.name = F ∧ getFolder s F = some g ∧ lookupRoute s.folderRoutes F = some g.id ∧
      findFolderById s g.id = some g := by
  unfold folderGuard at hguard
  cases hg : getFolder s F with
  | none => simp [hg] at hguard
  | some g =>
    obtain ⟨hgm, hgn⟩ := getFolder_live hg
    refine ⟨g, hgm, hgn, rfl, by rw [← hgn]; exact h.routes g hgm, ?_⟩
    exact find?_key_eq_some Folder.id (List.mem_append.mpr (Or.inl hgm))
      (fun a ha e => folder_eq_of_id h hgm (List.mem_append.mp ha) e)

theorem folderGuard_of_live {s : State} (h : Inv s) {g : Folder} (hg : g ∈ s.folders) : folderGuard s g.name = true := by
  unfold folderGuard
  rw [getFolder_incl_of_live (getFolder_of_live h hg), getFolder_of_live h hg]
  simp [h.liveFlag g hg]

theorem folderGuard_false_of_no_live {s : State} {F : Name} (h : ∀ a ∈ s.folders, a.name ≠ F) :
    folderGuard s F = false := by
  unfold folderGuard
  rw [getFolder_none_of h]; rfl

theorem folderVerb_cont {g g' : Folder} {v : Verb} {o : Out}
    (hk : (g.verb v).map (fun (g', b) => (g', ofBool b)) = some (g', o)) : g' = g ∨ g' = g.restore := by
  cases v <;> simp [Folder.verb] at hk <;> simp [← hk.1]

theorem fsFileVerb_state {s : State} (h : Inv s) (F x : Name) (v : Verb) : (fsFileVerb s F x v).1 = s := by
  unfold fsFileVerb
  cases hg : getFolder s F with
  | none => rfl
  | some g =>
    simp only
    obtain ⟨hgm, _⟩ := getFolder_live hg
    have gi := h.folder g (Or.inl hgm)
    cases hf : g.getFile x with
    | none => rfl
    | some f =>
      simp only
      obtain ⟨hfm, _⟩ := getFile_live hf
      cases hv : f.verb v with
      | none => rfl
      | some p =>
        obtain ⟨f', b⟩ := p
        simp only
        have hf' := File.verb_of_live (gi.1.liveFlag f hfm) hv
        subst hf'
        exact updFolder_eq_self h hgm (by simp only [map_replace_self File.id gi.1.liveIds hfm])

end Primaite.FileSystem
