/-
C16 helper.
* For every operation of Model.Session, the resulting network in a small closed form together with the guards that were passed
  ("cases lemmas"): the proofs start from these instead of unfolding the operation.
* A node relation `R` lifted through each operation (`Pre.…`, `Frame.…`): which node edits `R` has to tolerate (`Edits` and the
  conditional hypotheses of `Frame.execWith`) so that `Net.Rel R` holds across every request, commands nested to any depth, and across
  every operation (`Frame.step`).
* The same induction over nested commands for a relation between whole networks (`exec_induction_now` and its variants), and
  `run_induction`.
-/
import PrimaiteModel.Lemmas.SessionBasic
import PrimaiteModel.Model.SessionHandle
namespace Primaite.Session

theorem opAddUser_cases (n : Net) (y : Nat) (u p : String) (adm : Bool) :
    (opAddUser n y u p adm).1 = n ∨
    ∃ nd, n.node y = some nd ∧ nd.isOn = true ∧ nd.canUm = true ∧ nd.findUser u = none ∧
      (opAddUser n y u p adm).1 = n.upd y (Node.addUser { name := u, password := p, admin := adm }) := by
  unfold opAddUser
  split
  · exact Or.inl rfl
  · rename_i nd hnd
    split
    · exact Or.inl rfl
    · split
      · rename_i h1 h2
        simp only [Bool.and_eq_true, Option.isNone_iff_eq_none] at h2
        exact Or.inr ⟨nd, hnd, by simpa using h1, h2.1, h2.2, rfl⟩
      · exact Or.inl rfl

/-- `_is_last_admin` for user `w` of node `nd` -/
def Node.isLastAdmin (nd : Node) (w : User) : Bool :=
  w.admin && (nd.users.filter (fun v => v.admin && !v.disabled)).length == 1

theorem opDisableUser_cases (n : Net) (y : Nat) (u : String) :
    ((opDisableUser n y u).1 = n ∧ (opDisableUser n y u).2 ≠ .success) ∨
    ∃ nd w, n.node y = some nd ∧ nd.isOn = true ∧ nd.canUm = true ∧ nd.findUser u = some w ∧ w.disabled = false ∧
      nd.isLastAdmin w = false ∧ (opDisableUser n y u).1 = n.upd y (Node.setDisabled u) ∧ (opDisableUser n y u).2 = .success := by
  generalize hr : opDisableUser n y u = r
  unfold opDisableUser at hr
  split at hr
  · subst hr; exact Or.inl ⟨rfl, nofun⟩
  · rename_i nd hnd
    split at hr
    · subst hr; exact Or.inl ⟨rfl, nofun⟩
    · rename_i h1
      split at hr
      · subst hr; exact Or.inl ⟨rfl, nofun⟩
      · rename_i h2
        split at hr
        · subst hr; exact Or.inl ⟨rfl, nofun⟩
        · rename_i w hw
          split at hr
          · subst hr; exact Or.inl ⟨rfl, nofun⟩
          · rename_i h3
            split at hr
            · subst hr; exact Or.inl ⟨rfl, nofun⟩
            · rename_i h4
              subst hr
              exact Or.inr ⟨nd, w, hnd, by simpa using h1, by simpa using h2, hw, by simpa using h3,
                by simpa [Node.isLastAdmin] using h4, rfl, rfl⟩

theorem opChangePassword_cases (n : Net) (y : Nat) (u old new : String) :
    ((opChangePassword n y u old new).1 = n ∧ (opChangePassword n y u old new).2 ≠ .success) ∨
    ∃ nd w, n.node y = some nd ∧ nd.isOn = true ∧ nd.canUm = true ∧ nd.findUser u = some w ∧ w.password = old ∧
      (opChangePassword n y u old new).1 = logoutUser (n.upd y (Node.setPassword u new)) y u ∧
      (opChangePassword n y u old new).2 = .success := by
  generalize hr : opChangePassword n y u old new = r
  unfold opChangePassword at hr
  split at hr
  · subst hr; exact Or.inl ⟨rfl, nofun⟩
  · rename_i nd hnd
    split at hr
    · subst hr; exact Or.inl ⟨rfl, nofun⟩
    · rename_i h1
      split at hr
      · subst hr; exact Or.inl ⟨rfl, nofun⟩
      · rename_i h2
        split at hr
        · subst hr; exact Or.inl ⟨rfl, nofun⟩
        · rename_i w hw
          split at hr
          · rename_i h3
            subst hr
            exact Or.inr ⟨nd, w, hnd, by simpa using h1, by simpa using h2, hw, by simpa using h3, rfl, rfl⟩
          · subst hr; exact Or.inl ⟨rfl, nofun⟩

theorem localLoginCore_cases (nd : Node) (u : String) (t i : Nat) :
    ((nd.localLoginCore u t i).1 = nd ∧ (nd.localLoginCore u t i).2.2 = false ∧
        ∃ l, nd.loc = some l ∧ l.user = u ∧ (nd.localLoginCore u t i).2.1 = l.id) ∨
    ((nd.localLoginCore u t i).1 = nd.setLoc ⟨i, u, t⟩ ∧ (nd.localLoginCore u t i).2.2 = true ∧
        (nd.localLoginCore u t i).2.1 = i ∧ ∀ l, nd.loc = some l → l.user ≠ u) := by
  unfold Node.localLoginCore
  split
  · rename_i l hl
    split
    · rename_i h; exact Or.inl ⟨rfl, rfl, l, hl, by simpa using h, rfl⟩
    · rename_i h
      refine Or.inr ⟨rfl, rfl, rfl, ?_⟩
      intro l' hl'; rw [hl] at hl'; cases hl'; simpa using h
  · rename_i hl
    exact Or.inr ⟨rfl, rfl, rfl, fun l' hl' => by rw [hl] at hl'; cases hl'⟩

theorem localLogin_cases (n : Net) (y : Nat) (u p : String) :
    localLogin n y u p = (n, none) ∨
    ∃ nd, n.node y = some nd ∧ nd.loginOk u p = true ∧
      localLogin n y u p =
        ((n.upd y (fun nd => (nd.localLoginCore u n.time n.nextId).1)).bump
            (if (nd.localLoginCore u n.time n.nextId).2.2 then n.nextId + 1 else n.nextId),
          some (nd.localLoginCore u n.time n.nextId).2.1) := by
  unfold localLogin
  split
  · exact Or.inl rfl
  · rename_i nd hnd
    split
    · rename_i h; exact Or.inr ⟨nd, hnd, h, rfl⟩
    · exact Or.inl rfl

theorem localLogin_node (n : Net) (y : Nat) (u p : String) {j : Nat} {b' : Node} (hb' : (localLogin n y u p).1.node j = some b') :
    ∃ b, n.node j = some b ∧
      (b' = b ∨ (j = y ∧ b.loginOk u p = true ∧ b' = b.setLoc ⟨n.nextId, u, n.time⟩ ∧ n.nextId < (localLogin n y u p).1.nextId)) := by
  rcases localLogin_cases n y u p with h | ⟨nd, hnd, hok, h⟩ <;> rw [h] at hb' ⊢
  · exact ⟨b', hb', Or.inl rfl⟩
  · rw [node_bump, node_upd] at hb'
    by_cases hj : y = j
    · subst hj
      rw [if_pos rfl, hnd] at hb'
      cases hb'
      refine ⟨nd, hnd, ?_⟩
      rcases localLoginCore_cases nd u n.time n.nextId with ⟨h1, _⟩ | ⟨h1, h2, _⟩
      · exact Or.inl h1
      · exact Or.inr ⟨rfl, hok, h1, by rw [bump_nextId, h2]; exact Nat.lt_succ_self _⟩
    · rw [if_neg hj] at hb'
      exact ⟨b', hb', Or.inl rfl⟩

theorem localLogin_some_ok {n : Net} {y : Nat} {u p : String} {id : Nat} {nd : Node} (hnd : n.node y = some nd)
    (hid : (localLogin n y u p).2 = some id) : nd.loginOk u p = true := by
  rcases localLogin_cases n y u p with h1 | ⟨nd', hnd', hok, _⟩
  · rw [h1] at hid; cases hid
  · rw [hnd] at hnd'; cases hnd'; exact hok

theorem localLogin_id {n : Net} {y : Nat} {u p : String} {id : Nat} (hid : (localLogin n y u p).2 = some id) :
    ∃ b l, (localLogin n y u p).1.node y = some b ∧ b.loc = some l ∧ l.id = id := by
  rcases localLogin_cases n y u p with h | ⟨nd, hnd, _, h⟩
  · rw [h] at hid; cases hid
  · rw [h] at hid ⊢
    simp only [Option.some.injEq] at hid
    simp only [node_bump, node_upd, if_true, hnd, Option.map_some]
    rcases localLoginCore_cases nd u n.time n.nextId with ⟨h1, _, l, hl, _, h3⟩ | ⟨h1, _, h3, _⟩
    · exact ⟨_, l, rfl, by rw [h1]; exact hl, by rw [← hid, h3]⟩
    · exact ⟨_, ⟨n.nextId, u, n.time⟩, rfl, by rw [h1]; rfl, by rw [← hid, h3]⟩

theorem opLocalLogin_fst (n : Net) (y : Nat) (u p : String) : (opLocalLogin n y u p).1 = (localLogin n y u p).1 := by
  unfold opLocalLogin
  split
  · rename_i h; simp [localLogin, h]
  · rfl

theorem opLocalLogout_cases (n : Net) (y : Nat) :
    (opLocalLogout n y).1 = n ∨ (opLocalLogout n y).1 = n.upd y Node.localLogout := by
  unfold opLocalLogout
  split
  · exact Or.inl rfl
  · split
    · exact Or.inr rfl
    · exact Or.inl rfl

theorem opLocalCmdK_cases (K : Net → Net × Out) (n : Net) (y : Nat) (u p : String) :
    (opLocalCmdK K n y u p).1 = n ∨
    ∃ nd, n.node y = some nd ∧ nd.isOn = true ∧
      (((localLogin n y u p).2 = none ∧ (opLocalCmdK K n y u p).1 = (localLogin n y u p).1) ∨
       ∃ id, (localLogin n y u p).2 = some id ∧
         ((nd.term.running = false ∧
            (opLocalCmdK K n y u p).1 = (localLogin n y u p).1.upd y (Node.addConn ⟨id, none⟩)) ∨
          (nd.term.running = true ∧
            (opLocalCmdK K n y u p).1 = (K ((localLogin n y u p).1.upd y (Node.addConn ⟨id, none⟩))).1))) := by
  unfold opLocalCmdK
  split
  · exact Or.inl rfl
  · rename_i nd hnd
    split
    · exact Or.inl rfl
    · rename_i h1
      split
      · rename_i id hid
        split
        · rename_i hr
          exact Or.inr ⟨nd, hnd, by simpa using h1, Or.inr ⟨id, hid, Or.inr ⟨hr, rfl⟩⟩⟩
        · rename_i hr
          exact Or.inr ⟨nd, hnd, by simpa using h1, Or.inr ⟨id, hid, Or.inl ⟨by simpa using hr, rfl⟩⟩⟩
      · rename_i hid
        exact Or.inr ⟨nd, hnd, by simpa using h1, Or.inl ⟨hid, rfl⟩⟩

theorem opFile_cases (n : Net) (y k : Nat) :
    (opFile n y k).1 = n ∨ ∃ nd, n.node y = some nd ∧ nd.isOn = true ∧ (opFile n y k).1 = n.upd y (Node.addFile k) := by
  unfold opFile
  split
  · exact Or.inl rfl
  · rename_i nd hnd
    split
    · exact Or.inl rfl
    · rename_i h1; exact Or.inr ⟨nd, hnd, by simpa using h1, rfl⟩

theorem opEnableUser_cases (n : Net) (y : Nat) (u : String) :
    (opEnableUser n y u).1 = n ∨ (opEnableUser n y u).1 = n.upd y (Node.setEnabled u) := by
  unfold opEnableUser
  split
  · exact Or.inl rfl
  · split
    · exact Or.inl rfl
    · split
      · exact Or.inr rfl
      · exact Or.inl rfl

theorem opAddUserBypass_cases (n : Net) (y : Nat) (u p : String) (adm : Bool) :
    (opAddUserBypass n y u p adm).1 = n ∨
    ∃ nd, n.node y = some nd ∧ nd.findUser u = none ∧
      (opAddUserBypass n y u p adm).1 = n.upd y (Node.addUser { name := u, password := p, admin := adm }) := by
  unfold opAddUserBypass
  split
  · exact Or.inl rfl
  · rename_i nd hnd
    split
    · rename_i h; exact Or.inr ⟨nd, hnd, by simpa using h, rfl⟩
    · exact Or.inl rfl

theorem opUsmLogin_cases (n : Net) (y : Nat) (u p : String) (peer : Nat) :
    ((opUsmLogin n y u p peer).1 = n ∧ (opUsmLogin n y u p peer).2 ≠ .success) ∨
    ∃ b, n.node y = some b ∧ b.isOn = true ∧ b.loginOk u p = true ∧ b.rem.length < b.maxRemote ∧
      (opUsmLogin n y u p peer).1 = (n.upd y (Node.addSession ⟨n.nextId, u, n.time, peer⟩)).bump (n.nextId + 1) ∧
      (opUsmLogin n y u p peer).2 = .success := by
  unfold opUsmLogin
  split
  · exact Or.inl ⟨rfl, nofun⟩
  · rename_i b hb
    split
    · exact Or.inl ⟨rfl, nofun⟩
    · rename_i h1
      split
      · rename_i h3
        simp only [Bool.and_eq_true, decide_eq_true_eq] at h3
        exact Or.inr ⟨b, hb, by simpa using h1, h3.1, h3.2, rfl, rfl⟩
      · exact Or.inl ⟨rfl, nofun⟩

theorem opUsmLogout_cases (n : Net) (y i : Nat) :
    ((opUsmLogout n y i).1 = n ∧ (opUsmLogout n y i).2 ≠ .success) ∨
    ∃ nd s, n.node y = some nd ∧ nd.canUsm = true ∧ nd.rem[i]? = some s ∧
      (opUsmLogout n y i).1 = (disconnect n.fuel n y s.id).upd y (Node.dropSession s.id) := by
  unfold opUsmLogout
  split
  · exact Or.inl ⟨rfl, nofun⟩
  · rename_i nd hnd
    split
    · exact Or.inl ⟨rfl, nofun⟩
    · split
      · exact Or.inl ⟨rfl, nofun⟩
      · rename_i h2
        split
        · exact Or.inl ⟨rfl, nofun⟩
        · rename_i s hs
          exact Or.inr ⟨nd, s, hnd, by simpa using h2, hs, rfl⟩

/-- the network right after the target accepted a remote login -/
def afterLogin (n : Net) (x y : Nat) (u : String) : Net :=
  (n.upd y (fun b => (b.addSession ⟨n.nextId, u, n.time, x⟩).addConn ⟨n.nextId, some x⟩)).bump (n.nextId + 1)

theorem opRemoteLogin_cases (n : Net) (x y : Nat) (u p : String) :
    ((opRemoteLogin n x y u p).1 = n ∧ (opRemoteLogin n x y u p).2 ≠ .success) ∨
    ∃ a b, n.node x = some a ∧ a.isOn = true ∧ canDeliver n x y = true ∧ n.node y = some b ∧ b.loginOk u p = true ∧
      b.rem.length < b.maxRemote ∧
      (((opRemoteLogin n x y u p).1 = afterLogin n x y u ∧ canDeliver (afterLogin n x y u) y x = false ∧
          (opRemoteLogin n x y u p).2 = .failure) ∨
       ((opRemoteLogin n x y u p).1 = (afterLogin n x y u).upd x (Node.addConn ⟨n.nextId, some y⟩) ∧
          canDeliver (afterLogin n x y u) y x = true ∧ (opRemoteLogin n x y u p).2 = .success)) := by
  generalize hr : opRemoteLogin n x y u p = r
  unfold opRemoteLogin at hr
  split at hr
  · subst hr; exact Or.inl ⟨rfl, nofun⟩
  · rename_i a ha
    split at hr
    · subst hr; exact Or.inl ⟨rfl, nofun⟩
    · rename_i h1
      split at hr
      · subst hr; exact Or.inl ⟨rfl, nofun⟩
      · rename_i h2
        split at hr
        · subst hr; exact Or.inl ⟨rfl, nofun⟩
        · rename_i b hb
          split at hr
          · rename_i h3
            simp only [Bool.and_eq_true, decide_eq_true_eq] at h3
            refine Or.inr ⟨a, b, ha, by simpa using h1, by simpa using h2, hb, h3.1, h3.2, ?_⟩
            dsimp only at hr
            split at hr
            · rename_i h4; subst hr; exact Or.inr ⟨rfl, h4, rfl⟩
            · rename_i h4; subst hr; exact Or.inl ⟨rfl, by simpa [afterLogin] using h4, rfl⟩
          · subst hr; exact Or.inl ⟨rfl, nofun⟩

theorem opRemoteLogin_accepted {n : Net} {x y : Nat} {u p : String} {a b : Node} (ha : n.node x = some a) (hon : a.isOn = true)
    (hdel : canDeliver n x y = true) (hb : n.node y = some b) (hok : b.loginOk u p = true) (hlt : b.rem.length < b.maxRemote) :
    opRemoteLogin n x y u p =
      if canDeliver (afterLogin n x y u) y x then ((afterLogin n x y u).upd x (Node.addConn ⟨n.nextId, some y⟩), .success)
      else (afterLogin n x y u, .failure) := by
  simp only [opRemoteLogin, ha, hb, hon, hdel, hok, hlt, Bool.not_true, Bool.false_eq_true, if_false, decide_true, Bool.and_self, if_true]
  rfl

/-- the guards under which a remote command from `x` reaches the terminal of `y` carrying connection `c` -/
structure CmdArrives (n : Net) (x y : Nat) (a b : Node) (c : Conn) : Prop where
  src : n.node x = some a
  srcOn : a.isOn = true
  conn : a.conns.find? (fun c => c.peer == some y) = some c
  srcTerm : a.term.running = true
  path : canDeliver n x y = true
  dst : n.node y = some b

/-- `Terminal.receive` on node `y` (whose state is `b`) of a command that `x` sent on the connection with id `cid`: what the request
`send_remote_command` and `execute` on a kept connection object have in common -/
def receiveCmdK (K : Net → Net × Out) (n : Net) (x y cid : Nat) (b : Node) : Net × Out :=
  if b.hasSession cid then
    if b.hasConn cid then
      ((K (n.upd y (Node.touch cid n.time))).1,
       if x == y || canDeliver (K (n.upd y (Node.touch cid n.time))).1 y x then (K (n.upd y (Node.touch cid n.time))).2
       else .failure)
    else (n, .failure)
  else (disconnect n.fuel n y cid, .failure)

theorem receiveCmdK_cases (K : Net → Net × Out) (n : Net) (x y cid : Nat) (b : Node) :
    ((receiveCmdK K n x y cid b).1 = n ∧ (receiveCmdK K n x y cid b).2 ≠ .success) ∨
    (b.hasSession cid = true ∧ b.hasConn cid = true ∧
      (receiveCmdK K n x y cid b).1 = (K (n.upd y (Node.touch cid n.time))).1 ∧
      ((receiveCmdK K n x y cid b).2 = .success → (K (n.upd y (Node.touch cid n.time))).2 = .success)) ∨
    (b.hasSession cid = false ∧ (receiveCmdK K n x y cid b).1 = disconnect n.fuel n y cid ∧
      (receiveCmdK K n x y cid b).2 = .failure) := by
  unfold receiveCmdK
  cases hs : b.hasSession cid with
  | false => exact Or.inr (Or.inr ⟨rfl, rfl, rfl⟩)
  | true =>
    cases hc : b.hasConn cid with
    | false => exact Or.inl ⟨rfl, nofun⟩
    | true =>
      refine Or.inr (Or.inl ⟨rfl, rfl, rfl, ?_⟩)
      simp only [if_true]
      split
      · exact id
      · nofun

theorem unchanged_of_eq {r : Net × Out} {n : Net} {o : Out} (h : r = (n, o)) (ho : o ≠ .success) :
    r.1 = n ∧ r.2 ≠ .success := by
  subst h; exact ⟨rfl, ho⟩

theorem handleExecRemoteK_arrives (K : Net → Net × Out) (n : Net) (x y cid : Nat) :
    ((handleExecRemoteK K n x y cid).1 = n ∧ (handleExecRemoteK K n x y cid).2 ≠ .success) ∨
    ∃ a b, n.node x = some a ∧ n.node y = some b ∧ a.isOn = true ∧ a.term.running = true ∧ a.hasConn cid = true ∧
      canDeliver n x y = true ∧ handleExecRemoteK K n x y cid = receiveCmdK K n x y cid b := by
  -- `cases` on each guard and one `simp only` per leaf: `split` on the whole body normalises it again at every level and is slow to check
  cases ha : n.node x with
  | none => exact Or.inl (unchanged_of_eq (o := .unreachable) (by simp only [handleExecRemoteK, ha]) nofun)
  | some a =>
    cases ht : a.term.running with
    | false =>
      exact Or.inl (unchanged_of_eq (o := .failure) (by simp only [handleExecRemoteK, ha, ht, Bool.not_false, if_true]) nofun)
    | true =>
      cases hc : a.hasConn cid with
      | false =>
        exact Or.inl (unchanged_of_eq (o := .failure)
          (by simp only [handleExecRemoteK, ha, ht, hc, Bool.not_true, Bool.not_false, Bool.false_eq_true, if_false, if_true]) nofun)
      | true =>
        cases hon : a.isOn with
        | false =>
          exact Or.inl (unchanged_of_eq (o := .failure)
            (by simp only [handleExecRemoteK, ha, ht, hc, hon, Bool.not_true, Bool.not_false, Bool.false_eq_true, if_false, if_true]) nofun)
        | true =>
          cases hp : canDeliver n x y with
          | false =>
            exact Or.inl (unchanged_of_eq (o := .failure)
              (by simp only [handleExecRemoteK, ha, ht, hc, hon, hp, Bool.not_true, Bool.not_false, Bool.false_eq_true, if_false, if_true]) nofun)
          | true =>
            cases hb : n.node y with
            | none =>
              exact Or.inl (unchanged_of_eq (o := .failure)
                (by simp only [handleExecRemoteK, ha, ht, hc, hon, hp, hb, Bool.not_true, Bool.false_eq_true, if_false]) nofun)
            | some b =>
              refine Or.inr ⟨a, b, rfl, rfl, hon, ht, hc, rfl, ?_⟩
              simp only [handleExecRemoteK, ha, ht, hc, hon, hp, hb, Bool.not_true, Bool.false_eq_true, if_false]
              rfl

theorem opRemoteCmdK_eq_handle (K : Net → Net × Out) {n : Net} {x y : Nat} {a : Node} {c : Conn} (ha : n.node x = some a)
    (hon : a.isOn = true) (hc : a.conns.find? (fun c => c.peer == some y) = some c) :
    opRemoteCmdK K n x y = handleExecRemoteK K n x y c.id := by
  have hconn : a.hasConn c.id = true := List.any_eq_true.mpr ⟨c, List.mem_of_find?_eq_some hc, beq_self_eq_true _⟩
  unfold opRemoteCmdK handleExecRemoteK
  simp only [ha, hon, hc, hconn, Bool.not_true, Bool.false_eq_true, if_false]
  cases n.node y <;> rfl

theorem opRemoteCmdK_arrives (K : Net → Net × Out) (n : Net) (x y : Nat) :
    ((opRemoteCmdK K n x y).1 = n ∧ (opRemoteCmdK K n x y).2 ≠ .success) ∨
    ∃ a b c, CmdArrives n x y a b c ∧ opRemoteCmdK K n x y = receiveCmdK K n x y c.id b := by
  cases ha : n.node x with
  | none => exact Or.inl (unchanged_of_eq (o := .unreachable) (by simp only [opRemoteCmdK, ha]) nofun)
  | some a =>
    cases hon : a.isOn with
    | false => exact Or.inl (unchanged_of_eq (o := .failure) (by simp only [opRemoteCmdK, ha, hon, Bool.not_false, if_true]) nofun)
    | true =>
      cases hc : a.conns.find? (fun c => c.peer == some y) with
      | none =>
        exact Or.inl (unchanged_of_eq (o := .failure)
          (by simp only [opRemoteCmdK, ha, hon, hc, Bool.not_true, Bool.false_eq_true, if_false]) nofun)
      | some c =>
        rw [opRemoteCmdK_eq_handle K ha hon hc]
        rcases handleExecRemoteK_arrives K n x y c.id with h | ⟨a', b, ha', hb, _, ht, _, hp, h⟩
        · exact Or.inl h
        · rw [ha] at ha'; cases ha'
          exact Or.inr ⟨a, b, c, ⟨ha, hon, hc, ht, hp, hb⟩, h⟩

theorem opRemoteCmdK_cases (K : Net → Net × Out) (n : Net) (x y : Nat) :
    ((opRemoteCmdK K n x y).1 = n ∧ (opRemoteCmdK K n x y).2 ≠ .success) ∨
    ∃ a b c, CmdArrives n x y a b c ∧
      ((b.hasSession c.id = true ∧ b.hasConn c.id = true ∧
          (opRemoteCmdK K n x y).1 = (K (n.upd y (Node.touch c.id n.time))).1 ∧
          ((opRemoteCmdK K n x y).2 = .success → (K (n.upd y (Node.touch c.id n.time))).2 = .success)) ∨
       (b.hasSession c.id = false ∧ (opRemoteCmdK K n x y).1 = disconnect n.fuel n y c.id ∧
          (opRemoteCmdK K n x y).2 = .failure)) := by
  rcases opRemoteCmdK_arrives K n x y with h | ⟨a, b, c, arr, h⟩
  · exact Or.inl h
  · rw [h]
    exact (receiveCmdK_cases K n x y c.id b).imp_right (fun h0 => ⟨a, b, c, arr, h0⟩)

theorem opRemoteLogoff_cases (n : Net) (x y : Nat) :
    (opRemoteLogoff n x y).1 = n ∨
    ∃ a c, n.node x = some a ∧ a.isOn = true ∧ a.conns.find? (fun c => c.peer == some y) = some c ∧
      (opRemoteLogoff n x y).1 = disconnect n.fuel n x c.id ∧ (opRemoteLogoff n x y).2 = .success := by
  unfold opRemoteLogoff
  split
  · exact Or.inl rfl
  · rename_i a ha
    split
    · exact Or.inl rfl
    · rename_i h1
      split
      · exact Or.inl rfl
      · rename_i c hc; exact Or.inr ⟨a, c, ha, by simpa using h1, hc, rfl, rfl⟩

theorem opSvc_cases (n : Net) (y : Nat) (w : SvcName) (v : Verb) :
    (opSvc n y w v).1 = n ∨ ∃ f : Node → Node, (∀ a, (f a).data = a.data) ∧ (opSvc n y w v).1 = n.upd y f := by
  unfold opSvc
  split
  · exact Or.inl rfl
  · split
    · exact Or.inl rfl
    · split
      · exact Or.inr ⟨_, fun a => setSvc_data a _ _, rfl⟩
      · exact Or.inl rfl

theorem opShutdown_cases (n : Net) (y : Nat) :
    (opShutdown n y).1 = n ∨ ∃ f : Node → Node, (∀ a, (f a).data = a.data) ∧ (opShutdown n y).1 = n.upd y f := by
  unfold opShutdown
  split
  · exact Or.inl rfl
  · split
    · exact Or.inl rfl
    · exact Or.inr ⟨_, fun a => powerOff_data a, rfl⟩

theorem opStartup_cases (n : Net) (y : Nat) :
    (opStartup n y).1 = n ∨ ∃ f : Node → Node, (∀ a, (f a).data = a.data) ∧ (opStartup n y).1 = n.upd y f := by
  unfold opStartup
  split
  · exact Or.inl rfl
  · split
    · exact Or.inr ⟨_, fun a => powerOn_data a, rfl⟩
    · exact Or.inl rfl

theorem opReset_cases (n : Net) (y : Nat) :
    (opReset n y).1 = n ∨ ∃ f : Node → Node, (∀ a, (f a).data = a.data) ∧ (opReset n y).1 = n.upd y f := by
  unfold opReset
  split
  · exact Or.inl rfl
  · split
    · exact Or.inl rfl
    · exact Or.inr ⟨Node.resetOff, fun a => powerOff_data _, rfl⟩

theorem ofData_elim {P : Net → Prop} {n m : Net} {y : Nat}
    (h : m = n ∨ ∃ f : Node → Node, (∀ a, (f a).data = a.data) ∧ m = n.upd y f) (h0 : P n)
    (h1 : ∀ f : Node → Node, (∀ a, (f a).data = a.data) → P (n.upd y f)) : P m := by
  rcases h with h | ⟨f, hf, h⟩ <;> rw [h]
  · exact h0
  · exact h1 f hf

/-! ### lifting a node relation through each operation -/

/-- a preorder on nodes that tolerates tearing sessions down and the power / service machinery -/
structure Frame (R : Nat → Node → Node → Prop) : Prop extends Pre R where
  shr : ∀ j a b, Node.Shr a b → R j a b
  data : ∀ j a b, b.data = a.data → R j a b

variable {R : Nat → Node → Node → Prop}

theorem Frame.tick (F : Frame R) (n : Net) : Net.Rel R n (tick n) := by
  unfold Primaite.Session.tick
  exact F.rel_shr F.shr (rel_map n _ (n.time + 1) (fun j a => F.data j a _ (applyTimestep_data a)))
    (shr_foldl _ shr_preTimestepNode _ _)

theorem Pre.addUser (F : Pre R) (n : Net) (y : Nat) (u p : String) (adm : Bool)
    (h : ∀ a w, R y a (a.addUser w)) : Net.Rel R n (opAddUser n y u p adm).1 := by
  rcases opAddUser_cases n y u p adm with h0 | ⟨nd, _, _, _, _, h0⟩ <;> rw [h0]
  · exact F.rel_refl n
  · exact F.rel_upd (F.rel_refl n) y _ (fun a => h a _)

theorem Pre.localLogin (F : Pre R) (n : Net) (y : Nat) (u p : String)
    (h : ∀ a l, R y a (a.setLoc l)) : Net.Rel R n (localLogin n y u p).1 := by
  rcases localLogin_cases n y u p with h0 | ⟨nd, _, _, h0⟩ <;> rw [h0]
  · exact F.rel_refl n
  · refine rel_bump (F.rel_upd (F.rel_refl n) y _ (fun a => ?_)) _
    rcases localLoginCore_cases a u n.time n.nextId with ⟨h1, _⟩ | ⟨h1, _⟩ <;> rw [h1]
    · exact F.refl y a
    · exact h a _

theorem Frame.localLogout (F : Frame R) (n : Net) (y : Nat) : Net.Rel R n (opLocalLogout n y).1 := by
  rcases opLocalLogout_cases n y with h0 | h0 <;> rw [h0]
  · exact F.rel_refl n
  · exact F.rel_upd (F.rel_refl n) y _ (fun a => F.shr y a _ (shr_localLogout a))

/-- a local command, given the relation across its login (which several relations keep only under the login's guards) -/
theorem Pre.localCmdWith (F : Pre R) (K : Net → Net × Out) (n : Net) (y : Nat) (u p : String)
    (hL : Net.Rel R n (Primaite.Session.localLogin n y u p).1) (h2 : ∀ a c, R y a (a.addConn c)) (hK : ∀ m, Net.Rel R m (K m).1) :
    Net.Rel R n (opLocalCmdK K n y u p).1 := by
  rcases opLocalCmdK_cases K n y u p with h0 | ⟨nd, _, _, ⟨_, h0⟩ | ⟨id, _, ⟨_, h0⟩ | ⟨_, h0⟩⟩⟩ <;> rw [h0]
  · exact F.rel_refl n
  · exact hL
  · exact F.rel_upd hL y _ (fun a => h2 a _)
  · exact F.rel_trans (F.rel_upd hL y _ (fun a => h2 a _)) (hK _)

theorem Pre.localCmdK (F : Pre R) (K : Net → Net × Out) (n : Net) (y : Nat) (u p : String)
    (h1 : ∀ a l, R y a (a.setLoc l)) (h2 : ∀ a c, R y a (a.addConn c)) (hK : ∀ m, Net.Rel R m (K m).1) :
    Net.Rel R n (opLocalCmdK K n y u p).1 :=
  F.localCmdWith K n y u p (F.localLogin n y u p h1) h2 hK

theorem Pre.file (F : Pre R) (n : Net) (y k : Nat) (h : ∀ a, R y a (a.addFile k)) : Net.Rel R n (opFile n y k).1 := by
  rcases opFile_cases n y k with h0 | ⟨nd, _, _, h0⟩ <;> rw [h0]
  · exact F.rel_refl n
  · exact F.rel_upd (F.rel_refl n) y _ h

theorem Pre.enableUser (F : Pre R) (n : Net) (y : Nat) (u : String) (h : ∀ a, R y a (a.setEnabled u)) :
    Net.Rel R n (opEnableUser n y u).1 := by
  rcases opEnableUser_cases n y u with h0 | h0 <;> rw [h0]
  · exact F.rel_refl n
  · exact F.rel_upd (F.rel_refl n) y _ h

theorem Pre.addUserBypass (F : Pre R) (n : Net) (y : Nat) (u p : String) (adm : Bool)
    (h : ∀ a w, R y a (a.addUser w)) : Net.Rel R n (opAddUserBypass n y u p adm).1 := by
  rcases opAddUserBypass_cases n y u p adm with h0 | ⟨nd, _, _, h0⟩ <;> rw [h0]
  · exact F.rel_refl n
  · exact F.rel_upd (F.rel_refl n) y _ (fun a => h a _)

theorem Pre.usmLogin (F : Pre R) (n : Net) (y : Nat) (u p : String) (peer : Nat) (h : ∀ a s, R y a (a.addSession s)) :
    Net.Rel R n (opUsmLogin n y u p peer).1 := by
  rcases opUsmLogin_cases n y u p peer with ⟨h0, _⟩ | ⟨b, _, _, _, _, h0, _⟩ <;> rw [h0]
  · exact F.rel_refl n
  · exact rel_bump (F.rel_upd (F.rel_refl n) y _ (fun a => h a _)) _

theorem Pre.afterLogin (F : Pre R) (n : Net) (x y : Nat) (u : String)
    (h1 : ∀ a s, R y a (a.addSession s)) (h2 : ∀ a c, R y a (a.addConn c)) : Net.Rel R n (afterLogin n x y u) :=
  rel_bump (F.rel_upd (F.rel_refl n) y _ (fun a => F.trans y _ _ _ (h1 a _) (h2 _ _))) _

theorem keepPath_pre : Pre KeepPath :=
  { refl := fun _ _ => ⟨rfl, rfl⟩, trans := fun _ _ _ _ h1 h2 => ⟨h2.1.trans h1.1, h2.2.trans h1.2⟩ }

theorem canDeliver_afterLogin (n : Net) (x y : Nat) (u : String) (i j : Nat) :
    canDeliver (afterLogin n x y u) i j = canDeliver n i j :=
  canDeliver_of_keepPath (keepPath_pre.afterLogin n x y u (fun _ _ => ⟨rfl, rfl⟩) (fun _ _ => ⟨rfl, rfl⟩)) rfl rfl i j

theorem Pre.remoteLogin (F : Pre R) (n : Net) (x y : Nat) (u p : String)
    (h1 : ∀ a s, R y a (a.addSession s)) (h2 : ∀ j a c, R j a (a.addConn c)) : Net.Rel R n (opRemoteLogin n x y u p).1 := by
  rcases opRemoteLogin_cases n x y u p with ⟨h0, _⟩ | ⟨a, b, _, _, _, _, _, _, ⟨h0, _⟩ | ⟨h0, _⟩⟩ <;> rw [h0]
  · exact F.rel_refl n
  · exact F.afterLogin n x y u h1 (h2 y)
  · exact F.rel_upd (F.afterLogin n x y u h1 (h2 y)) x _ (fun a => h2 x a _)

theorem Frame.remoteCmdK (F : Frame R) (K : Net → Net × Out) (n : Net) (x y : Nat)
    (h : ∀ a cid t, R y a (a.touch cid t)) (hK : ∀ m, Net.Rel R m (K m).1) : Net.Rel R n (opRemoteCmdK K n x y).1 := by
  rcases opRemoteCmdK_cases K n x y with ⟨h0, _⟩ | ⟨a, b, c, _, ⟨_, _, h0, _⟩ | ⟨_, h0, _⟩⟩ <;> rw [h0]
  · exact F.rel_refl n
  · exact F.rel_trans (F.rel_upd (F.rel_refl n) y _ (fun a => h a _ _)) (hK _)
  · exact F.rel_shr F.shr (F.rel_refl n) (shr_disconnect _ _ _ _)

theorem Frame.usmLogout (F : Frame R) (n : Net) (y i : Nat) : Net.Rel R n (opUsmLogout n y i).1 := by
  rcases opUsmLogout_cases n y i with ⟨h0, _⟩ | ⟨nd, s, _, _, _, h0⟩ <;> rw [h0]
  · exact F.rel_refl n
  · exact F.rel_shr F.shr (F.rel_refl n) ((shr_disconnect _ _ _ _).trans (shr_upd _ _ _ (shr_dropSession s.id)))

theorem Frame.remoteLogoff (F : Frame R) (n : Net) (x y : Nat) : Net.Rel R n (opRemoteLogoff n x y).1 := by
  rcases opRemoteLogoff_cases n x y with h0 | ⟨a, c, _, _, _, h0, _⟩ <;> rw [h0]
  · exact F.rel_refl n
  · exact F.rel_shr F.shr (F.rel_refl n) (shr_disconnect _ _ _ _)

theorem Pre.disableUser (F : Pre R) (n : Net) (y : Nat) (u : String)
    (h : ∀ a, R y a (a.setDisabled u)) : Net.Rel R n (opDisableUser n y u).1 := by
  rcases opDisableUser_cases n y u with ⟨h0, _⟩ | ⟨nd, w, _, _, _, _, _, _, h0, _⟩ <;> rw [h0]
  · exact F.rel_refl n
  · exact F.rel_upd (F.rel_refl n) y _ h

theorem Frame.changePassword (F : Frame R) (n : Net) (y : Nat) (u old new : String)
    (h : ∀ a, R y a (a.setPassword u new)) : Net.Rel R n (opChangePassword n y u old new).1 := by
  rcases opChangePassword_cases n y u old new with ⟨h0, _⟩ | ⟨nd, w, _, _, _, _, _, h0, _⟩ <;> rw [h0]
  · exact F.rel_refl n
  · exact F.rel_shr F.shr (F.rel_upd (F.rel_refl n) y _ h) (shr_logoutUser _ _ _)

/-- a command that is not a terminal command carrying another command -/
def Cmd.atomic : Cmd → Bool
  | .localCmd _ _ _ | .remoteCmd _ _ => false
  | _ => true

/-- no remote login (through the terminal or directly at the session manager) anywhere in the command -/
def Cmd.noLogin : Cmd → Bool
  | .remoteLogin _ _ _ | .usmLogin _ _ _ => false
  | .localCmd _ _ c | .remoteCmd _ c => c.noLogin
  | _ => true

/-- no file command anywhere in the command -/
def Cmd.noFile : Cmd → Bool
  | .file _ => false
  | .localCmd _ _ c | .remoteCmd _ c => c.noFile
  | _ => true

/-- no local terminal command anywhere in the command -/
def Cmd.noLocal : Cmd → Bool
  | .localCmd _ _ _ => false
  | .remoteCmd _ c => c.noLocal
  | _ => true

def Op.noLogin : Op → Bool
  | .req _ c => c.noLogin
  | _ => true

def Op.noFile : Op → Bool
  | .req _ c => c.noFile
  | _ => true

/-- no `change_password` for account `u` anywhere in the command (at any nesting depth, whatever node it would run on) -/
def Cmd.noChpw (u : String) : Cmd → Bool
  | .changePassword v _ _ => v != u
  | .localCmd _ _ c | .remoteCmd _ c => c.noChpw u
  | _ => true

def Op.noChpw (u : String) : Op → Bool
  | .req _ c => c.noChpw u
  | _ => true

/-- the edits a relation has to tolerate so that every request keeps it -/
structure Edits (R : Nat → Node → Node → Prop) : Prop where
  addUser : ∀ j a w, R j a (a.addUser w)
  setPassword : ∀ j a u p, R j a (a.setPassword u p)
  addConn : ∀ j a c, R j a (a.addConn c)
  touch : ∀ j a cid t, R j a (a.touch cid t)

/-- the requests that carry no command (`Node.apply_request` on each): a password written has to be tolerated only for the account the
request is a `change_password` for, a new session and its connections only if it is a login, a new file only if it is a file command;
`disable_user` is given at the level of the operation because several relations hold for it only under the operation's guards -/
theorem Frame.atomicWith (F : Frame R) (hAdd : ∀ j a w, R j a (a.addUser w)) (hD : ∀ n y u, Net.Rel R n (opDisableUser n y u).1)
    (c : Cmd) (hc : c.atomic = true) (hP : ∀ v, c.noChpw v = false → ∀ j a p, R j a (a.setPassword v p))
    (hS : c.noLogin = false → (∀ j a s, R j a (a.addSession s)) ∧ ∀ j a d, R j a (a.addConn d))
    (hF : c.noFile = false → ∀ j a k, R j a (a.addFile k)) (n : Net) (y : Nat) : Net.Rel R n (execCmd c n y).1 := by
  have hd : ∀ f : Node → Node, (∀ a, (f a).data = a.data) → Net.Rel R n (n.upd y f) := fun f hf =>
    F.rel_upd (F.rel_refl n) y f (fun a => F.data y a _ (hf a))
  cases c with
  | localCmd u p c => cases hc
  | remoteCmd z c => cases hc
  | file k => exact F.toPre.file n y k (fun a => hF rfl y a k)
  | addUser u p adm => exact F.toPre.addUser n y u p adm (hAdd y)
  | disableUser u => exact hD n y u
  | changePassword u o nw => exact F.changePassword n y u o nw (fun a => hP u (by simp [Cmd.noChpw]) y a nw)
  | remoteLogin z u p => exact F.toPre.remoteLogin n y z u p ((hS rfl).1 z) (hS rfl).2
  | remoteLogoff z => exact F.remoteLogoff n y z
  | usmLogin u p peer => exact F.toPre.usmLogin n y u p peer ((hS rfl).1 y)
  | usmLogout i => exact F.usmLogout n y i
  | svc w v => exact ofData_elim (opSvc_cases n y w v) (F.rel_refl n) hd
  | shutdown => exact ofData_elim (opShutdown_cases n y) (F.rel_refl n) hd
  | startup => exact ofData_elim (opStartup_cases n y) (F.rel_refl n) hd
  | reset => exact ofData_elim (opReset_cases n y) (F.rel_refl n) hd

/-- every request, commands nested to any depth: besides, the relation has to tolerate the bookkeeping of an accepted terminal command —
the session's clock set, the connection put, and the local login, which like `disable_user` is given at the level of the operation -/
theorem Frame.execWith (F : Frame R) (hAdd : ∀ j a w, R j a (a.addUser w)) (hConn : ∀ j a c, R j a (a.addConn c))
    (hTouch : ∀ j a cid t, R j a (a.touch cid t)) (hD : ∀ n y u, Net.Rel R n (opDisableUser n y u).1) :
    ∀ (c : Cmd), (∀ v, c.noChpw v = false → ∀ j a p, R j a (a.setPassword v p)) →
      (c.noLocal = false → ∀ n y u p, Net.Rel R n (localLogin n y u p).1) → (c.noLogin = false → ∀ j a s, R j a (a.addSession s)) →
      (c.noFile = false → ∀ j a k, R j a (a.addFile k)) → ∀ (n : Net) (y : Nat), Net.Rel R n (execCmd c n y).1 := by
  intro c
  induction c with
  | localCmd u p c ih =>
    intro hP hL hS hF n y
    exact F.toPre.localCmdWith _ n y u p (hL rfl n y u p) (hConn y) (fun m => ih hP (fun _ => hL rfl) hS hF m y)
  | remoteCmd z c ih => intro hP hL hS hF n y; exact F.remoteCmdK _ n y z (hTouch z) (fun m => ih hP hL hS hF m z)
  | _ => intro hP _ hS hF n y; exact F.atomicWith hAdd hD _ rfl hP (fun h => ⟨hS h, hConn⟩) hF n y

theorem Frame.exec (F : Frame R) (E : Edits R)
    (hD : ∀ n y u, Net.Rel R n (opDisableUser n y u).1) :
    ∀ (c : Cmd), (c.noLocal = false → ∀ n y u p, Net.Rel R n (localLogin n y u p).1) → (c.noLogin = false → ∀ j a s, R j a (a.addSession s)) → (c.noFile = false → ∀ j a k, R j a (a.addFile k)) →
      ∀ (n : Net) (y : Nat), Net.Rel R n (execCmd c n y).1 :=
  fun c => F.execWith E.addUser E.addConn E.touch hD c (fun v _ j a p => E.setPassword j a v p)

theorem Frame.atomic (F : Frame R) (hFile : ∀ j a k, R j a (a.addFile k)) (hAdd : ∀ j a w, R j a (a.addUser w))
    (hDis : ∀ j a u, R j a (a.setDisabled u)) (hPw : ∀ j a u p, R j a (a.setPassword u p))
    (c : Cmd) (hc : c.atomic = true) (hl : c.noLogin = true) (n : Net) (y : Nat) : Net.Rel R n (execCmd c n y).1 :=
  F.atomicWith hAdd (fun n y u => F.toPre.disableUser n y u (fun a => hDis y a u)) c hc (fun v _ j a p => hPw j a v p)
    (fun h => by rw [hl] at h; cases h) (fun _ => hFile) n y

theorem rel_setBlock (hR : ∀ j a, R j a a) (n : Net) (x y : Nat) (on : Bool) : Net.Rel R n (opSetBlock n x y on).1 :=
  ⟨rfl, fun j a h => ⟨a, h, hR j a⟩⟩

@[simp] theorem setBlock_node (n : Net) (x y : Nat) (on : Bool) (j : Nat) : (opSetBlock n x y on).1.node j = n.node j := rfl
@[simp] theorem setBlock_nextId (n : Net) (x y : Nat) (on : Bool) : (opSetBlock n x y on).1.nextId = n.nextId := rfl
@[simp] theorem setBlock_time (n : Net) (x y : Nat) (on : Bool) : (opSetBlock n x y on).1.time = n.time := rfl
@[simp] theorem setBlock_stuck (n : Net) (x y : Nat) (on : Bool) : (opSetBlock n x y on).1.stuck = n.stuck := rfl

theorem Frame.plain (F : Frame R) (hAdd : ∀ j a w, R j a (a.addUser w)) (n : Net) (op : Op)
    (hEn : ∀ y u, op = .enableUser y u → ∀ a, R y a (a.setEnabled u))
    (h1 : ∀ y c, op ≠ .req y c) (h2 : ∀ y u p, op ≠ .localLogin y u p) : Net.Rel R n (Primaite.Session.step n op).1 := by
  cases op with
  | req y c => exact (h1 y c rfl).elim
  | localLogin y u p => exact (h2 y u p rfl).elim
  | enableUser y u => exact F.toPre.enableUser n y u (hEn y u rfl)
  | addUserBypass y u p adm => exact F.toPre.addUserBypass n y u p adm (hAdd y)
  | localLogout y => exact F.localLogout n y
  | tick => exact F.tick n
  | setBlock x y on => exact rel_setBlock F.refl n x y on

theorem Frame.step (F : Frame R) (E : Edits R)
    (hD : ∀ n y u, Net.Rel R n (opDisableUser n y u).1) (hL : ∀ n y u p, Net.Rel R n (localLogin n y u p).1)
    (hEn : ∀ j a u, R j a (a.setEnabled u)) (n : Net) (op : Op)
    (hS : op.noLogin = false → ∀ j a s, R j a (a.addSession s)) (hF : op.noFile = false → ∀ j a k, R j a (a.addFile k)) :
    Net.Rel R n (Primaite.Session.step n op).1 := by
  cases op with
  | req y c => exact F.exec E hD c (fun _ => hL) hS hF n y
  | enableUser y u => exact F.toPre.enableUser n y u (fun a => hEn y a u)
  | addUserBypass y u p adm => exact F.toPre.addUserBypass n y u p adm (E.addUser y)
  | localLogin y u p => simp only [Primaite.Session.step]; rw [opLocalLogin_fst]; exact hL n y u p
  | localLogout y => exact F.localLogout n y
  | tick => exact F.tick n
  | setBlock x y on => exact rel_setBlock F.refl n x y on

/-- the common case: the relation tolerates `disabled := true` and a new local session unconditionally -/
theorem Frame.step' (F : Frame R) (E : Edits R) (hD : ∀ j a u, R j a (a.setDisabled u)) (hL : ∀ j a l, R j a (a.setLoc l))
    (hEn : ∀ j a u, R j a (a.setEnabled u)) (n : Net) (op : Op)
    (hS : op.noLogin = false → ∀ j a s, R j a (a.addSession s)) (hF : op.noFile = false → ∀ j a k, R j a (a.addFile k)) :
    Net.Rel R n (Primaite.Session.step n op).1 :=
  F.step E (fun n y u => F.toPre.disableUser n y u (fun a => hD y a u)) (fun n y u p => F.toPre.localLogin n y u p (hL y)) hEn n op
    hS hF

theorem run_induction (P : Net → Prop) (h : ∀ n op, P n → P (Primaite.Session.step n op).1) (ops : List Op) (n : Net) (hn : P n) :
    P (run n ops) := by
  induction ops generalizing n with
  | nil => exact hn
  | cons op ops ih => exact ih _ (h n op hn)

/-! ### induction over nested commands for any transitive relation between networks -/

theorem exec_induction_now (P : Net → Net → Prop) (refl : ∀ n, P n n) (trans : ∀ a b c, P a b → P b c → P a c)
    (hAtomic : ∀ c, c.atomic = true → ∀ n y, P n (execCmd c n y).1)
    (hDisc : ∀ n y cid, P n (disconnect n.fuel n y cid))
    (hTouch : ∀ n y cid, P n (n.upd y (Node.touch cid n.time)))
    (hLogin : ∀ n y u p, P n (localLogin n y u p).1)
    (hLocal : ∀ n y u p id, (localLogin n y u p).2 = some id →
      P n ((localLogin n y u p).1.upd y (Node.addConn ⟨id, none⟩))) :
    ∀ (c : Cmd) (n : Net) (y : Nat), P n (execCmd c n y).1 := by
  intro c
  induction c with
  | localCmd u p c ih =>
    intro n y
    rcases opLocalCmdK_cases (fun m => execCmd c m y) n y u p with h0 | ⟨nd, _, _, ⟨_, h0⟩ | ⟨id, hid, ⟨_, h0⟩ | ⟨_, h0⟩⟩⟩ <;>
      simp only [execCmd] <;> rw [h0]
    · exact refl n
    · exact hLogin n y u p
    · exact hLocal n y u p id hid
    · exact trans _ _ _ (hLocal n y u p id hid) (ih _ _)
  | remoteCmd z c ih =>
    intro n y
    rcases opRemoteCmdK_cases (fun m => execCmd c m z) n y z with ⟨h0, _⟩ | ⟨a, b, cn, _, ⟨_, _, h0, _⟩ | ⟨_, h0, _⟩⟩ <;>
      simp only [execCmd] <;> rw [h0]
    · exact refl n
    · exact trans _ _ _ (hTouch _ _ _) (ih _ _)
    · exact hDisc _ _ _
  | _ => exact hAtomic _ rfl

/-- `exec_induction_now` with the session's clock set to an arbitrary value (for relations that do not look at clocks) -/
theorem exec_induction'' (P : Net → Net → Prop) (refl : ∀ n, P n n) (trans : ∀ a b c, P a b → P b c → P a c)
    (hAtomic : ∀ c, c.atomic = true → ∀ n y, P n (execCmd c n y).1)
    (hDisc : ∀ n y cid, P n (disconnect n.fuel n y cid))
    (hTouch : ∀ n y cid t, P n (n.upd y (Node.touch cid t)))
    (hLogin : ∀ n y u p, P n (localLogin n y u p).1)
    (hLocal : ∀ n y u p id, (localLogin n y u p).2 = some id →
      P n ((localLogin n y u p).1.upd y (Node.addConn ⟨id, none⟩))) :
    ∀ (c : Cmd) (n : Net) (y : Nat), P n (execCmd c n y).1 :=
  exec_induction_now P refl trans hAtomic hDisc (fun n y cid => hTouch n y cid n.time) hLogin hLocal

theorem exec_induction (P : Net → Net → Prop) (refl : ∀ n, P n n) (trans : ∀ a b c, P a b → P b c → P a c)
    (hAtomic : ∀ c, c.atomic = true → ∀ n y, P n (execCmd c n y).1)
    (hShr : ∀ n m, n.Shr m → P n m)
    (hTouch : ∀ n y cid t, P n (n.upd y (Node.touch cid t)))
    (hLogin : ∀ n y u p, P n (localLogin n y u p).1)
    (hConn : ∀ n y c, P n (n.upd y (Node.addConn c))) :
    ∀ (c : Cmd) (n : Net) (y : Nat), P n (execCmd c n y).1 :=
  exec_induction'' P refl trans hAtomic (fun _ _ _ => hShr _ _ (shr_disconnect _ _ _ _)) hTouch hLogin
    (fun n y u p _ _ => trans _ _ _ (hLogin n y u p) (hConn _ _ _))

end Primaite.Session
