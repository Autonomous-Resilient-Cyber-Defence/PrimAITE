/-
Proof development for the loading side (Model/Reward.lean `fromConfig`): the agent dictionary built from the
configuration, acceptance/rejection, well-formedness of the loaded game, runs of steps, totals, and independence from
the declaration order and from the iteration order of the neighbour sets.
-/
import PrimaiteModel.Lemmas.RewardGame
namespace Primaite.Reward
open Primaite.RewardGraph

/-- a set-iteration oracle returns exactly the inserted elements, in some order (duplicates allowed) -/
def SetLike (σ : List Name → List Name) : Prop := ∀ l x, x ∈ σ l ↔ x ∈ l

def Fresh (as : List (Name × Agent)) : Prop := ∀ p ∈ as, p.2.current = 0 ∧ p.2.total = 0 ∧ p.2.hist = []

theorem mem_setAgent {n : Name} {a : Agent} {as : List (Name × Agent)} {p : Name × Agent}
    (h : p ∈ setAgent n a as) : p ∈ as ∨ p.2 = a := by
  unfold setAgent at h
  obtain ⟨q, hq, rfl⟩ := List.mem_map.mp h
  by_cases hqn : q.1 = n
  · simp [hqn]
  · simp [hqn, hq]

theorem insertAgent_keysNodup (as : List (Name × Agent)) (n : Name) (a : Agent) (h : (agentKeys as).Nodup) :
    (agentKeys (insertAgent as n a)).Nodup := by
  unfold insertAgent
  by_cases hn : n ∈ agentKeys as
  · rw [if_pos hn, agentKeys_setAgent]; exact h
  · rw [if_neg hn]
    have : agentKeys (as ++ [(n, a)]) = agentKeys as ++ [n] := by simp [agentKeys]
    rw [this]
    exact nodup_snoc _ n h hn

theorem buildAgents_inv (cfgs : List AgentCfg) :
    (agentKeys (buildAgents cfgs)).Nodup ∧ Fresh (buildAgents cfgs) := by
  refine foldl_invariant (fun acc (c : AgentCfg) => insertAgent acc c.ref { comps := c.comps }) (fun _ => True)
    (fun _ acc => (agentKeys acc).Nodup ∧ Fresh acc) ?_ cfgs [] [] (fun _ _ => trivial)
    ⟨by simp [agentKeys], by intro p hp; simp at hp⟩
  intro _ c acc _ ⟨h1, h2⟩
  refine ⟨insertAgent_keysNodup acc c.ref _ h1, ?_⟩
  intro p hp
  unfold insertAgent at hp
  by_cases hn : c.ref ∈ agentKeys acc
  · rw [if_pos hn] at hp
    rcases mem_setAgent hp with h | h
    · exact h2 p h
    · rw [h]; exact ⟨rfl, rfl, rfl⟩
  · rw [if_neg hn] at hp
    simp only [List.mem_append, List.mem_singleton] at hp
    rcases hp with h | h
    · exact h2 p h
    · rw [h]; exact ⟨rfl, rfl, rfl⟩

theorem setAgent_self {as : List (Name × Agent)} (hk : (agentKeys as).Nodup) {n : Name} {a : Agent}
    (h : as.lookup n = some a) : setAgent n a as = as := by
  unfold setAgent
  conv => rhs; rw [← List.map_id as]
  apply List.map_congr_left
  intro p hp
  by_cases hpn : p.1 = n
  · have : as.lookup n = some p.2 := lookup_of_mem_nodup hk (by rw [← hpn]; exact hp)
    rw [h] at this; cases this
    simp [hpn]; rw [← hpn]
  · simp [hpn]

theorem updOne_step0 (s : SimState) {as : List (Name × Agent)} (order : List Name)
    (hk : (agentKeys as).Nodup) (hf : Fresh as) {n : Name} (hn : n ∈ agentKeys as) :
    updOne s { agents := as, order := order, stepCounter := 0 } n =
      .ok { agents := as, order := order, stepCounter := 0 } := by
  obtain ⟨a, ha⟩ := mem_keys_lookup hn
  obtain ⟨hc, ht, _⟩ := hf (n, a) (mem_of_lookup_eq_some ha)
  have : ({ a with total := a.total + a.current } : Agent) = a := by
    obtain ⟨comps, cur, tot, hist⟩ := a
    simp only at hc ht
    subst hc ht
    show (⟨comps, 0, 0 + 0, hist⟩ : Agent) = ⟨comps, 0, 0, hist⟩
    rw [Rat.add_zero]
  unfold updOne
  simp only [ha, Nat.lt_irrefl, if_false]
  rw [this, setAgent_self hk ha]

theorem foldE_step0 (s : SimState) (as : List (Name × Agent)) (order : List Name)
    (hk : (agentKeys as).Nodup) (hf : Fresh as) (l : List Name) :
    foldE (updOne s) { agents := as, order := order, stepCounter := 0 } l =
      if l.all (fun n => n ∈ agentKeys as) then .ok { agents := as, order := order, stepCounter := 0 } else .error .keyError := by
  induction l with
  | nil => rfl
  | cons n l ih =>
    by_cases hn : n ∈ agentKeys as
    · simp only [foldE, updOne_step0 s order hk hf hn, ih, List.all_cons, hn, decide_true, Bool.true_and]
    · simp only [foldE, updOne, (lookup_none_iff as n).mpr hn, List.all_cons, hn, decide_false, Bool.false_and,
        Bool.false_eq_true, if_false]

/-- every name an agent shares from is an agent (the sharing graph is "over the agents") -/
def Closed (as : List (Name × Agent)) : Prop :=
  ∀ n a, as.lookup n = some a → ∀ v ∈ sharedNames a.comps, v ∈ agentKeys as

theorem univ_sharingGraph_sub (σ : List Name → List Name) (hσ : SetLike σ) (as : List (Name × Agent))
    (hk : (agentKeys as).Nodup) (hc : Closed as) : ∀ x ∈ univ (sharingGraph σ as), x ∈ agentKeys as := by
  intro x hx
  unfold univ at hx
  rcases List.mem_append.mp hx with h | h
  · have := keys_sharingGraph σ as
    unfold keys at this; rw [this] at h; exact h
  · simp only [List.mem_flatMap] at h
    obtain ⟨⟨k, l⟩, hmem, hxl⟩ := h
    unfold sharingGraph at hmem
    obtain ⟨p, hp, hpe⟩ := List.mem_map.mp hmem
    cases hpe
    have hl := lookup_of_mem_nodup hk (show (p.1, p.2) ∈ as from hp)
    exact hc p.1 p.2 hl x ((hσ _ x).mp hxl)

theorem sharingGraph_nbrs_iff (σ : List Name → List Name) (hσ : SetLike σ) (as : List (Name × Agent)) (u v : Name) :
    v ∈ nbrs (sharingGraph σ as) u ↔ v ∈ nbrs (depGraph as) u := by
  rw [nbrs_sharingGraph, nbrs_depGraph]
  cases as.lookup u with
  | none => simp
  | some a => exact hσ _ v

theorem order_sub_keys_iff_closed (σ : List Name → List Name) (hσ : SetLike σ) (as : List (Name × Agent))
    (hk : (agentKeys as).Nodup) (hac : Acyclic (sharingGraph σ as)) :
    (∀ n ∈ topoSort (sharingGraph σ as), n ∈ agentKeys as) ↔ Closed as := by
  have hgk : (keys (sharingGraph σ as)).Nodup := by rw [keys_sharingGraph]; exact hk
  constructor
  · intro h n a ha v hv
    have hvn : v ∈ nbrs (sharingGraph σ as) n := by rw [nbrs_sharingGraph, ha]; exact (hσ _ v).mpr hv
    exact h v ((topoSort_mem_iff _ hac hgk v).mpr (nbrs_sub_univ _ n v hvn))
  · intro hc n hn
    exact univ_sharingGraph_sub σ hσ as hk hc n ((topoSort_nodup _).2 n hn)

/-- **`from_config` in closed form** (any set order): the cycle error, else the game with the sorted order and nothing
accumulated — provided the order names agents only; a name in it that is not an agent is a `KeyError` of the first `update_agents`. -/
theorem fromConfig_eq (σ : List Name → List Name) (cfgs : List AgentCfg) :
    fromConfig σ cfgs =
      if hasCycle (sharingGraph σ (buildAgents cfgs)) then .error .cycle
      else if (topoSort (sharingGraph σ (buildAgents cfgs))).all (fun n => n ∈ agentKeys (buildAgents cfgs)) then
        .ok { agents := buildAgents cfgs, order := topoSort (sharingGraph σ (buildAgents cfgs)), stepCounter := 0 }
      else .error .keyError := by
  obtain ⟨hk, hfresh⟩ := buildAgents_inv cfgs
  simp only [fromConfig, updateAgents, foldE_step0 _ _ _ hk hfresh]

/-- **Loading.** A cyclic sharing graph is rejected; an acyclic one over the agents is accepted, the agents are as
configured, and the loaded game is well-formed (evaluation order: every agent once, dependencies first). -/
theorem fromConfig_spec (σ : List Name → List Name) (hσ : SetLike σ) (cfgs : List AgentCfg) :
    (hasCycle (sharingGraph σ (buildAgents cfgs)) = true → fromConfig σ cfgs = .error .cycle) ∧
    (hasCycle (sharingGraph σ (buildAgents cfgs)) = false → Closed (buildAgents cfgs) →
      let g : Game := { agents := buildAgents cfgs, order := topoSort (sharingGraph σ (buildAgents cfgs)), stepCounter := 0 }
      fromConfig σ cfgs = .ok g ∧ WF g) := by
  have hk := (buildAgents_inv cfgs).1
  rw [fromConfig_eq]
  refine ⟨fun h => by rw [h]; rfl, fun h hc => ?_⟩
  have hac : Acyclic (sharingGraph σ (buildAgents cfgs)) := (hasCycle_false_iff _).mp h
  have hsub := (order_sub_keys_iff_closed σ hσ _ hk hac).mpr hc
  refine ⟨by simp only [h, Bool.false_eq_true, if_false, List.all_eq_true.mpr fun n hn => decide_eq_true (hsub n hn), if_true], ?_⟩
  refine ⟨hk, (topoSort_nodup _).1, fun n => ⟨hsub n, fun hn => ?_⟩, ?_⟩
  · exact ((topoSort_depsFirst' _ hac).2 n (by rw [keys_sharingGraph]; exact hn))
  · exact DepsFirst_of_nbrs_sub (fun u v hv => (sharingGraph_nbrs_iff σ hσ _ u v).mpr hv) (topoSort_depsFirst' _ hac).1

/-- a run: the reward-relevant part of consecutive `step`s, each with the agents' items and the post-step state -/
def run : Game → List ((Name → Item) × SimState) → Except Err Game
  | g, [] => .ok g
  | g, (items, s) :: rest =>
    match gameStep g items s with
    | .ok g' => run g' rest
    | .error e => .error e

/-- the `reward` fields stored in an agent's history, newest first -/
def histRewards (a : Agent) : List Val := a.hist.filterMap (·.2)

/-- the bookkeeping invariant of one agent: every history item carries its step reward, the newest one is
`current_reward`, and `total_reward` is their sum -/
structure Booked (a : Agent) : Prop where
  allSaved : ∀ e ∈ a.hist, e.2 ≠ none
  total : a.total = (histRewards a).sum
  current : a.hist ≠ [] → (histRewards a).head? = some a.current

theorem updAgent_pushItem (s : SimState) (cur : Name → Val) (it : Item) (a : Agent) :
    updAgent s cur (pushItem it a) =
      { comps := (updateComps s it cur 0 a.comps).2, current := (updateComps s it cur 0 a.comps).1,
        total := a.total + (updateComps s it cur 0 a.comps).1,
        hist := (it, some (updateComps s it cur 0 a.comps).1) :: a.hist } := rfl

theorem Booked_step (s : SimState) (cur : Name → Val) (it : Item) (a : Agent) (h : Booked a) :
    Booked (updAgent s cur (pushItem it a)) ∧
    (updAgent s cur (pushItem it a)).hist.length = a.hist.length + 1 := by
  rw [updAgent_pushItem]
  refine ⟨⟨?_, ?_, ?_⟩, by simp⟩
  · intro e he
    simp only [List.mem_cons] at he
    rcases he with rfl | he
    · simp
    · exact h.allSaved e he
  · have := h.total
    simp only [histRewards] at this ⊢
    rw [this, Rat.add_comm]
    simp
  · intro _; simp [histRewards]

theorem run_spec (steps : List ((Name → Item) × SimState)) :
    ∀ (g : Game), WF g → (∀ n a, g.agents.lookup n = some a → Booked a) →
    ∃ g', run g steps = .ok g' ∧ WF g' ∧ g'.stepCounter = g.stepCounter + steps.length ∧ g'.order = g.order ∧
      ∀ n a, g.agents.lookup n = some a →
        ∃ a', g'.agents.lookup n = some a' ∧ Booked a' ∧ a'.hist.length = a.hist.length + steps.length := by
  induction steps with
  | nil => intro g wf hb; exact ⟨g, rfl, wf, rfl, rfl, fun n a h => ⟨a, h, hb n a h, rfl⟩⟩
  | cons st rest ih =>
    intro g wf hb
    obtain ⟨items, s⟩ := st
    obtain ⟨g1, hok, wf1, ho1, hs1, hk1, hf1⟩ := gameStep_spec g wf items s
    have hb1 : ∀ n a, g1.agents.lookup n = some a → Booked a := by
      intro n a ha
      obtain ⟨a0, ha0⟩ := mem_keys_lookup (by rw [← hk1]; exact lookup_some_mem_keys ha)
      have := hf1 n a0 ha0
      rw [ha] at this; cases this
      exact (Booked_step s _ _ a0 (hb n a0 ha0)).1
    obtain ⟨g', hrun, wf', hs', ho', hf'⟩ := ih g1 wf1 hb1
    refine ⟨g', by simp only [run, hok]; exact hrun, wf', by rw [hs', hs1]; simp; omega, by rw [ho', ho1], ?_⟩
    intro n a ha
    obtain ⟨a', ha', hb', hl'⟩ := hf' n _ (hf1 n a ha)
    refine ⟨a', ha', hb', ?_⟩
    rw [hl', (Booked_step s _ _ a (hb n a ha)).2]; simp; omega

theorem run_append (xs ys : List ((Name → Item) × SimState)) :
    ∀ g, run g (xs ++ ys) = match run g xs with
      | .ok g' => run g' ys
      | .error e => .error e := by
  induction xs with
  | nil => intro g; rfl
  | cons st rest ih =>
    obtain ⟨items, s⟩ := st
    intro g
    simp only [List.cons_append, run]
    cases gameStep g items s with
    | error e => rfl
    | ok g1 => exact ih g1

theorem gameStep_same (g1 g2 : Game) (wf1 : WF g1) (wf2 : WF g2) (same : SameAgents g1 g2)
    (items : Name → Item) (s : SimState) :
    ∃ g1' g2', gameStep g1 items s = .ok g1' ∧ gameStep g2 items s = .ok g2' ∧ WF g1' ∧ WF g2' ∧ SameAgents g1' g2' := by
  obtain ⟨g1', h1, w1, _, _, hk1, hf1⟩ := gameStep_spec g1 wf1 items s
  obtain ⟨g2', h2, w2, _, _, hk2, hf2⟩ := gameStep_spec g2 wf2 items s
  -- both results solve the fixed-point equations of the game `advance (act items g1)`
  refine ⟨g1', g2', h1, h2, w1, w2, fixpoint_unique s (advance (act items g1)) (WF_advance_act items g1 wf1) _ _ ?_ ?_ ?_ ?_⟩
  · intro m a h
    obtain ⟨a0, ha0, rfl⟩ := lookup_advance_act h
    exact hf1 m a0 ha0
  · intro m a h
    obtain ⟨a0, ha0, rfl⟩ := lookup_advance_act h
    exact hf2 m a0 (by rw [← same m]; exact ha0)
  · intro n; rw [hk1, agentKeys_advance_act]
  · intro n; rw [hk2, agentKeys_advance_act]; exact (same.mem_keys n).symm

theorem run_same (steps : List ((Name → Item) × SimState)) :
    ∀ (g1 g2 : Game), WF g1 → WF g2 → SameAgents g1 g2 →
      ∃ g1' g2', run g1 steps = .ok g1' ∧ run g2 steps = .ok g2' ∧ SameAgents g1' g2' := by
  induction steps with
  | nil => intro g1 g2 _ _ same; exact ⟨g1, g2, rfl, rfl, same⟩
  | cons st rest ih =>
    intro g1 g2 wf1 wf2 same
    obtain ⟨items, s⟩ := st
    obtain ⟨h1, h2, e1, e2, w1, w2, same'⟩ := gameStep_same g1 g2 wf1 wf2 same items s
    obtain ⟨k1, k2, r1, r2, sm⟩ := ih h1 h2 w1 w2 same'
    exact ⟨k1, k2, by simp only [run, e1]; exact r1, by simp only [run, e2]; exact r2, sm⟩

theorem buildAgents_nodup (cfgs : List AgentCfg) (h : (cfgs.map (·.ref)).Nodup) :
    buildAgents cfgs = cfgs.map (fun c => (c.ref, ({ comps := c.comps } : Agent))) := by
  refine foldl_invariant (fun acc (c : AgentCfg) => insertAgent acc c.ref { comps := c.comps }) (fun _ => True)
    (fun pre acc => (pre.map (·.ref)).Nodup → acc = pre.map (fun c => (c.ref, ({ comps := c.comps } : Agent))))
    ?_ cfgs [] [] (fun _ _ => trivial) (fun _ => rfl) h
  intro pre c acc _ ih hnd
  rw [List.map_append, List.nodup_append] at hnd
  have hacc := ih hnd.1
  have hc : c.ref ∉ agentKeys acc := by
    rw [hacc, agentKeys, List.map_map]
    exact fun hm => hnd.2.2 _ hm _ (List.mem_singleton_self _) rfl
  rw [insertAgent, if_neg hc, hacc, List.map_append]
  rfl

theorem buildAgents_perm {cfgs cfgs' : List AgentCfg} (hp : cfgs.Perm cfgs') (h : (cfgs.map (·.ref)).Nodup) (n : Name) :
    (buildAgents cfgs).lookup n = (buildAgents cfgs').lookup n := by
  have h' : (cfgs'.map (·.ref)).Nodup := (List.Perm.nodup_iff (hp.map _)).mp h
  rw [buildAgents_nodup cfgs h, buildAgents_nodup cfgs' h']
  apply lookup_perm (hp.map _)
  rw [← buildAgents_nodup cfgs h]
  exact (buildAgents_inv cfgs).1

theorem Closed_same {as as' : List (Name × Agent)} (same : ∀ n, as.lookup n = as'.lookup n) (hc : Closed as) :
    Closed as' := by
  intro n a ha v hv
  have := hc n a (by rw [same n]; exact ha) v hv
  obtain ⟨b, hb⟩ := mem_keys_lookup this
  rw [same v] at hb
  exact lookup_some_mem_keys hb

/-- An acyclic configuration in which some agent shares from a name that is not an agent does not load: the evaluation
order contains that name and the first `update_agents` raises `KeyError`. -/
theorem fromConfig_dangling (σ : List Name → List Name) (hσ : SetLike σ) (cfgs : List AgentCfg)
    (hb : hasCycle (sharingGraph σ (buildAgents cfgs)) = false) (hnc : ¬ Closed (buildAgents cfgs)) :
    fromConfig σ cfgs = .error .keyError := by
  have hall : (topoSort (sharingGraph σ (buildAgents cfgs))).all (fun n => n ∈ agentKeys (buildAgents cfgs)) ≠ true :=
    fun h => hnc ((order_sub_keys_iff_closed σ hσ _ (buildAgents_inv cfgs).1 ((hasCycle_false_iff _).mp hb)).mp
      (fun n hn => of_decide_eq_true (List.all_eq_true.mp h n hn)))
  simp only [fromConfig_eq, hb, Bool.false_eq_true, if_false, hall]

theorem fromConfig_ok_inv (σ : List Name → List Name) (hσ : SetLike σ) (cfgs : List AgentCfg) {g : Game}
    (h : fromConfig σ cfgs = .ok g) :
    hasCycle (sharingGraph σ (buildAgents cfgs)) = false ∧ Closed (buildAgents cfgs) ∧
    g = { agents := buildAgents cfgs, order := topoSort (sharingGraph σ (buildAgents cfgs)), stepCounter := 0 } ∧ WF g := by
  cases hb : hasCycle (sharingGraph σ (buildAgents cfgs)) with
  | true => rw [(fromConfig_spec σ hσ cfgs).1 hb] at h; cases h
  | false =>
    have hc : Closed (buildAgents cfgs) := by
      apply Classical.byContradiction
      intro hnc
      rw [fromConfig_dangling σ hσ cfgs hb hnc] at h
      cases h
    obtain ⟨e, wf⟩ := (fromConfig_spec σ hσ cfgs).2 hb hc
    rw [e] at h; cases h
    exact ⟨rfl, hc, rfl, wf⟩

end Primaite.Reward
